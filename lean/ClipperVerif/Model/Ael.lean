/-
Bookkeeping model of the Vatti sweep's active edge list (AEL) of `clipper.engine.cpp`.

What is modelled: for every edge in the AEL its path type, open flag, winding direction (`wind_dx`),
the two stored winding counts (`wind_cnt`, `wind_cnt2`) and whether it is "hot" (owns an output
record), together with the code that reads and writes these fields:
`IsContributingClosed`, `IsContributingOpen`, `SetWindCountForClosedPathEdge`,
`SetWindCountForOpenPathEdge`, the bookkeeping part of `InsertLocalMinimaIntoAEL`, `IntersectEdges`
(open branch and closed branch) + `SwapPositionsInAEL`, and the pair removal of `DoMaxima`.

What is NOT modelled: geometry.  *Where* an edge is inserted, *which* adjacent pair crosses next
and *when* a maximum is reached are inputs of the model (`Op`).  Output rings are not modelled either:
an edge is hot or cold, nothing more.

`hot` is the *logical* hotness `IsHotEdge(e) || IsJoined(e)`: `CheckJoinLeft/Right` move the output record
away from two hot edges and mark them joined, `Split` gives them a fresh record again, and every
reader of `IsHotEdge` in the modelled code runs `Split` first.  A trace hook must therefore report
`hot = (e.outrec != nullptr) || (e.join_with != JoinWith::NoJoin)`.

Core Lean only (the driver executable links this file).
-/
import ClipperVerif.Spec.Basic
import ClipperVerif.Spec.Open
namespace Clipper.Model

/-- `std::abs` on `int` (mathematical) -/
def iabs (x : Int) : Int := if x < 0 then -x else x

/-- the two members of `ClipperBase` the bookkeeping depends on: `cliptype_`, `fillrule_` -/
structure Cfg where
  ct : ClipType
  fr : FillRule
  deriving DecidableEq, Repr, Inhabited

/-- the bookkeeping fields of `struct Active` -/
structure Edge where
  /-- `local_min->polytype` -/
  pt : PathType
  /-- `local_min->is_open` -/
  isOpen : Bool
  /-- `wind_dx` (+1 ascending bound, −1 descending bound) -/
  dx : Int
  /-- `wind_cnt` -/
  wc : Int
  /-- `wind_cnt2` -/
  wc2 : Int
  /-- `outrec != nullptr || join_with != NoJoin` -/
  hot : Bool
  deriving DecidableEq, Repr, Inhabited

/-- the AEL from left (`actives_`) to right (`next_in_ael`) -/
abbrev Ael := List Edge

def other : PathType → PathType
  | .subject => .clip
  | .clip => .subject

/-! ## `IsContributingClosed` / `IsContributingOpen` (hand models; tied to the generated
definitions by the bridge theorems of `Props/C01.lean`, `Props/C05.lean`) -/

/-- first `switch (fillrule_)` of `IsContributingClosed`: does the edge bound its own path type's
filled region? -/
def pre (fr : FillRule) (wc : Int) : Bool :=
  match fr with
  | .evenOdd => true
  | .nonZero => iabs wc == 1
  | .positive => wc == 1
  | .negative => wc == -1

/-- the fill-rule test on a stored count (`wind_cnt2 > 0`, `< 0`, `!= 0`) -/
def otherIn (fr : FillRule) (wc2 : Int) : Bool :=
  match fr with
  | .positive => decide (wc2 > 0)
  | .negative => decide (wc2 < 0)
  | _ => decide (wc2 ≠ 0)

/-- second `switch (cliptype_)` of `IsContributingClosed` as a function of "is the point inside the
other path type's region" -/
def sel (ct : ClipType) (pt : PathType) (k : Bool) : Bool :=
  match ct with
  | .noClip => false
  | .intersection => k
  | .union => !k
  | .difference => if pt = .subject then !k else k
  | .xor => true

def isContributingClosed (ct : ClipType) (fr : FillRule) (pt : PathType) (wc wc2 : Int) : Bool :=
  pre fr wc && sel ct pt (otherIn fr wc2)

def isContributingOpen (ct : ClipType) (fr : FillRule) (wc wc2 : Int) : Bool :=
  let isInClip := otherIn fr wc2
  let isInSubj := otherIn fr wc
  match ct with
  | .intersection => isInClip
  | .union => !isInSubj && !isInClip
  | _ => !isInClip

/-! ## `SetWindCountForClosedPathEdge` -/

/-- `while (e2 && (GetPolyType(*e2) != pt || IsOpen(*e2))) e2 = e2->prev_in_ael;`
The argument is the part of the AEL to the left of the new edge, *nearest edge first*.
Result: the edge `e2` found (if any) and the edges strictly between `e2` and the new edge, left to
right (all edges to the left when there is no `e2`: the C++ restarts from `actives_`). -/
def findPrev (t : PathType) : List Edge → Option Edge × List Edge
  | [] => (none, [])
  | x :: xs =>
    if x.pt = t ∧ x.isOpen = false then (some x, [])
    else ((findPrev t xs).1, (findPrev t xs).2 ++ [x])

/-- the two `while (e2 != &e)` loops that update `wind_cnt2` -/
def wc2Loop (fr : FillRule) (t : PathType) : List Edge → Int → Int
  | [], w => w
  | x :: xs, w =>
    if x.pt ≠ t ∧ x.isOpen = false then
      wc2Loop fr t xs (if fr = .evenOdd then (if w = 0 then 1 else 0) else w + x.dx)
    else wc2Loop fr t xs w

/-- the NonZero/Positive/Negative branch computing `e.wind_cnt` from the nearest same-type edge -/
def wcFrom (eIsOpen : Bool) (e2wc e2dx dx : Int) : Int :=
  if e2wc * e2dx < 0 then
    if iabs e2wc > 1 then
      (if e2dx * dx < 0 then e2wc else e2wc + dx)
    else (if eIsOpen then 1 else dx)
  else
    (if e2dx * dx < 0 then e2wc else e2wc + dx)

/-- `SetWindCountForClosedPathEdge(e)` where `left` is the AEL to the left of `e` (left to right).
`e.wc2` is read in the branch without `e2` exactly as the C++ does (it is 0 for a new `Active`). -/
def setWindClosed (fr : FillRule) (left : List Edge) (e : Edge) : Edge :=
  match findPrev e.pt left.reverse with
  | (none, between) => { e with wc := e.dx, wc2 := wc2Loop fr e.pt between e.wc2 }
  | (some e2, between) =>
    if fr = .evenOdd then
      { e with wc := e.dx, wc2 := wc2Loop fr e.pt between e2.wc2 }
    else
      { e with wc := wcFrom e.isOpen e2.wc e2.dx e.dx, wc2 := wc2Loop fr e.pt between e2.wc2 }

/-! ## `SetWindCountForOpenPathEdge` -/

/-- EvenOdd loop: `(cnt1, cnt2)` -/
def openCounts : List Edge → Nat × Nat → Nat × Nat
  | [], c => c
  | x :: xs, c =>
    if x.pt = .clip then openCounts xs (c.1, c.2 + 1)
    else if x.isOpen = false then openCounts xs (c.1 + 1, c.2)
    else openCounts xs c

/-- other fill rules: `(wind_cnt, wind_cnt2)` -/
def openSums : List Edge → Int × Int → Int × Int
  | [], w => w
  | x :: xs, w =>
    if x.pt = .clip then openSums xs (w.1, w.2 + x.dx)
    else if x.isOpen = false then openSums xs (w.1 + x.dx, w.2)
    else openSums xs w

def setWindOpen (fr : FillRule) (left : List Edge) (e : Edge) : Edge :=
  if fr = .evenOdd then
    let c := openCounts left (0, 0)
    { e with wc := if c.1 % 2 = 1 then 1 else 0, wc2 := if c.2 % 2 = 1 then 1 else 0 }
  else
    let w := openSums left (e.wc, e.wc2)
    { e with wc := w.1, wc2 := w.2 }

/-! ## `IntersectEdges` -/

/-- "UPDATE WINDING COUNTS..." -/
def updateWinds (fr : FillRule) (e1 e2 : Edge) : Edge × Edge :=
  if e1.pt = e2.pt then
    if fr = .evenOdd then ({ e1 with wc := e2.wc }, { e2 with wc := e1.wc })
    else
      ({ e1 with wc := if e1.wc + e2.dx = 0 then -e1.wc else e1.wc + e2.dx },
       { e2 with wc := if e2.wc - e1.dx = 0 then -e2.wc else e2.wc - e1.dx })
  else
    if fr ≠ .evenOdd then ({ e1 with wc2 := e1.wc2 + e2.dx }, { e2 with wc2 := e2.wc2 - e1.dx })
    else ({ e1 with wc2 := if e1.wc2 = 0 then 1 else 0 }, { e2 with wc2 := if e2.wc2 = 0 then 1 else 0 })

/-- `old_e1_windcnt` / `e1Wc2`: `abs` for EvenOdd and NonZero, the count for Positive, its negation
for Negative -/
def oldWc (fr : FillRule) (wc : Int) : Int :=
  match fr with
  | .evenOdd | .nonZero => iabs wc
  | .positive => wc
  | .negative => -wc

def in01 (x : Int) : Bool := x == 0 || x == 1

/-- the `switch (cliptype_)` in the both-cold same-type case (`default:` serves Intersection and NoClip) -/
def goSame (ct : ClipType) (pt : PathType) (w1 w2 : Int) : Bool :=
  match ct with
  | .union => decide (w1 ≤ 0 ∧ w2 ≤ 0)
  | .difference =>
    (pt == .clip && decide (w1 > 0 ∧ w2 > 0)) || (pt == .subject && decide (w1 ≤ 0 ∧ w2 ≤ 0))
  | .xor => true
  | _ => decide (w1 > 0 ∧ w2 > 0)

/-- "NOW PROCESS THE INTERSECTION" as a function of nine Booleans: new hot flags of `(e1, e2)`.
`AddLocalMaxPoly` = both cold, `AddLocalMinPoly` = both hot, `AddOutPt`+`SwapOutrecs` = exchange. -/
def decideHotB (hot1 hot2 i1 i2 q1 q2 diffType notXor go : Bool) : Bool × Bool :=
  if (!hot1 && !i1) || (!hot2 && !i2) then (hot1, hot2)
  else if hot1 && hot2 then
    if !i1 || !i2 || (diffType && notXor) then (false, false) else (true, true)
  else if hot1 then (false, true)
  else if hot2 then (true, false)
  else if diffType then (true, true)
  else if q1 && q2 then (if go then (true, true) else (hot1, hot2))
  else (hot1, hot2)

/-- new hot flags of `(e1, e2)`, read from the edges *after* the count update (as the C++ does) -/
def decideHot (cfg : Cfg) (e1 e2 : Edge) : Bool × Bool :=
  decideHotB e1.hot e2.hot (in01 (oldWc cfg.fr e1.wc)) (in01 (oldWc cfg.fr e2.wc))
    (oldWc cfg.fr e1.wc == 1) (oldWc cfg.fr e2.wc == 1) (e1.pt != e2.pt) (cfg.ct != .xor)
    (goSame cfg.ct e1.pt (oldWc cfg.fr e1.wc2) (oldWc cfg.fr e2.wc2))

/-- closed branch ("MANAGING CLOSED PATHS FROM HERE ON") -/
def intersectClosed (cfg : Cfg) (e1 e2 : Edge) : Edge × Edge :=
  let p := updateWinds cfg.fr e1 e2
  let h := decideHot cfg p.1 p.2
  ({ p.1 with hot := h.1 }, { p.2 with hot := h.2 })

/-- `switch (cliptype_)` of the open branch: `true` = return without toggling -/
def openSkipCt (ct : ClipType) (ecPt : PathType) (ecHot : Bool) : Bool :=
  match ct with
  | .union => !ecHot
  | _ => ecPt == .subject

/-- `switch (fillrule_)` of the open branch: `true` = return without toggling -/
def openSkipFr (fr : FillRule) (ecWc : Int) : Bool :=
  match fr with
  | .positive => ecWc != 1
  | .negative => ecWc != -1
  | _ => iabs ecWc != 1

/-- open branch: new state of the open edge `eo` crossing the closed edge `ec`
(each `return` before "toggle contribution" leaves it alone; all three continuations of the toggle
make a cold edge hot, the first makes a hot edge cold) -/
def intersectOpen (cfg : Cfg) (eo ec : Edge) : Edge :=
  if iabs ec.wc ≠ 1 then eo
  else if openSkipCt cfg.ct ec.pt ec.hot then eo
  else if openSkipFr cfg.fr ec.wc then eo
  else { eo with hot := !eo.hot }

/-- the three `return`s before "toggle contribution" (`abs(edge_c->wind_cnt) != 1`, the clip-type switch, the fill-rule switch) all fail -/
def openToggles (cfg : Cfg) (ec : Edge) : Bool :=
  !(decide (iabs ec.wc ≠ 1) || openSkipCt cfg.ct ec.pt ec.hot || openSkipFr cfg.fr ec.wc)

/-- `IntersectEdges(e1, e2, pt)`: new `(e1, e2)` -/
def intersectPair (cfg : Cfg) (e1 e2 : Edge) : Edge × Edge :=
  if e1.isOpen || e2.isOpen then
    if e1.isOpen && e2.isOpen then (e1, e2)
    else if e1.isOpen then (intersectOpen cfg e1 e2, e2)
    else (e1, intersectOpen cfg e2 e1)
  else intersectClosed cfg e1 e2

/-! ## Operations on the list -/

/-- a new `Active()` -/
def fresh (pt : PathType) (isOpen : Bool) (dx : Int) : Edge :=
  { pt := pt, isOpen := isOpen, dx := dx, wc := 0, wc2 := 0, hot := false }

/-- the left bound after `SetWindCountFor…PathEdge`, and `contributing` -/
def newLeft (cfg : Cfg) (left : List Edge) (pt : PathType) (isOpen : Bool) (dx : Int) : Edge × Bool :=
  if isOpen then
    let lb := setWindOpen cfg.fr left (fresh pt isOpen dx)
    (lb, isContributingOpen cfg.ct cfg.fr lb.wc lb.wc2)
  else
    let lb := setWindClosed cfg.fr left (fresh pt isOpen dx)
    (lb, isContributingClosed cfg.ct cfg.fr lb.pt lb.wc lb.wc2)

/-- `InsertLocalMinimaIntoAEL`, one local minimum with both bounds: the left bound goes to
position `pos`, its counts are computed, the right bound copies them and goes to `pos+1`,
`AddLocalMinPoly` makes both hot iff the left bound is contributing. -/
def insertPair (cfg : Cfg) (pos : Nat) (pt : PathType) (isOpen : Bool) (dxLeft : Int) (l : Ael) : Option Ael :=
  if pos ≤ l.length ∧ (dxLeft = 1 ∨ dxLeft = -1) then
    let r := newLeft cfg (l.take pos) pt isOpen dxLeft
    let lb := r.1
    let rb : Edge := { pt := pt, isOpen := isOpen, dx := -dxLeft, wc := lb.wc, wc2 := lb.wc2, hot := r.2 }
    some (l.take pos ++ { lb with hot := r.2 } :: rb :: l.drop pos)
  else none

/-- `InsertLocalMinimaIntoAEL` for an open path's end vertex (one bound only, `StartOpenPath` if contributing) -/
def insertOne (cfg : Cfg) (pos : Nat) (pt : PathType) (dx : Int) (l : Ael) : Option Ael :=
  if pos ≤ l.length ∧ (dx = 1 ∨ dx = -1) then
    let r := newLeft cfg (l.take pos) pt true dx
    some (l.take pos ++ { r.1 with hot := r.2 } :: l.drop pos)
  else none

/-- `IntersectEdges(e1, e2, pt); SwapPositionsInAEL(e1, e2);` with `e1` at position `i`, `e2` at `i+1` -/
def intersect (cfg : Cfg) (i : Nat) (l : Ael) : Option Ael :=
  match l.drop i with
  | e1 :: e2 :: rest =>
    let p := intersectPair cfg e1 e2
    some (l.take i ++ p.2 :: p.1 :: rest)
  | _ => none

/-- end of `DoMaxima` (and of `DoHorizontal` at a horizontal maximum): the maxima pair, by then adjacent at
positions `i`, `i+1`, leaves the AEL.  The two edges of a maxima pair belong to one path and have
opposite `wind_dx`; an op that does not satisfy this is rejected. -/
def removePair (i : Nat) (l : Ael) : Option Ael :=
  match l.drop i with
  | e1 :: e2 :: rest =>
    if e1.pt = e2.pt ∧ e1.isOpen = e2.isOpen ∧ e1.dx + e2.dx = 0 then some (l.take i ++ rest) else none
  | _ => none

/-- `DoMaxima` / `DoHorizontal` at the end vertex of an open path: one open edge leaves the AEL -/
def removeOne (i : Nat) (l : Ael) : Option Ael :=
  match l.drop i with
  | e :: rest => if e.isOpen then some (l.take i ++ rest) else none
  | _ => none

/-- The events of a sweep that touch the bookkeeping.  Positions count from 0 = `actives_`.

* `insertPair pos pt isOpen dxLeft` — `InsertLocalMinimaIntoAEL`, local minimum with two bounds: emitted after
  `InsertRightEdge` (and the `AddLocalMinPoly` that may follow), *before* the `while` loop that moves the right
  bound.  `pos` = number of edges to the left of `left_bound`, `pt`/`isOpen` from `local_minima`,
  `dxLeft = left_bound->wind_dx` (after `SwapActives`); the right bound has `-dxLeft`.
* `insertOne pos pt dx` — the same function when `right_bound == nullptr` (open path end), after `StartOpenPath`.
* `intersect i` — every `IntersectEdges(a, b, …); SwapPositionsInAEL(a, b);` pair (five call sites: right-bound
  loop of `InsertLocalMinimaIntoAEL`, `ProcessIntersectList`, `DoHorizontal` left-to-right and right-to-left,
  `DoMaxima`), emitted after the swap; `i` = position of `a` *before* the swap (`a` is the left edge at all five sites).
* `removePair i` — `DoMaxima` after its `while` loop, and `DoHorizontal` where it deletes `horz` and its maxima pair:
  `i` = position of the left one of the two (they are adjacent), emitted after both `DeleteFromAEL`.
* `removeOne i` — `DoMaxima` `IsOpenEnd(e)` branch and `DoHorizontal`'s open-end branch, after `DeleteFromAEL`.

`UpdateEdgeIntoAEL`, `Split`, `CheckJoinLeft/Right` do not change the modelled fields (see the note on `hot`). -/
inductive Op
  | insertPair (pos : Nat) (pt : PathType) (isOpen : Bool) (dxLeft : Int)
  | insertOne (pos : Nat) (pt : PathType) (dx : Int)
  | intersect (i : Nat)
  | removePair (i : Nat)
  | removeOne (i : Nat)
  deriving DecidableEq, Repr, Inhabited

/-- one event; `none` = the event does not fit the state (position out of range, `dx ∉ {1,−1}`, not a maxima pair) -/
def step (cfg : Cfg) (l : Ael) : Op → Option Ael
  | .insertPair pos pt isOpen dxLeft => insertPair cfg pos pt isOpen dxLeft l
  | .insertOne pos pt dx => insertOne cfg pos pt dx l
  | .intersect i => intersect cfg i l
  | .removePair i => removePair i l
  | .removeOne i => removeOne i l

/-- replay of an event list -/
def run (cfg : Cfg) : Ael → List Op → Option Ael
  | l, [] => some l
  | l, op :: ops =>
    match step cfg l op with
    | some l' => run cfg l' ops
    | none => none

/-! ## The invariant (specification side) -/

def maxabs (a b : Int) : Int := if iabs b > iabs a then b else a

/-- what a closed edge of type `t` adds to the winding sum of type `t` when crossed left to right -/
def contrib (t : PathType) (x : Edge) : Int := if x.pt = t ∧ x.isOpen = false then x.dx else 0

/-- closed-path winding sum of type `t` over a list of edges -/
def sumT (t : PathType) : List Edge → Int
  | [] => 0
  | x :: xs => contrib t x + sumT t xs

/-- `own t s c`: of the two sums (subject, clip) the one of type `t` -/
def own (t : PathType) (s c : Int) : Int :=
  match t with
  | .subject => s
  | .clip => c

/-- stored counts of a closed edge whose own-type winding sum to its left is `wl` and whose other-type
sum is `w2`: `wc` is the one of `wl`, `wl + dx` with larger absolute value (just ±1 under EvenOdd);
`wc2` is `w2` (its parity under EvenOdd). -/
def WcOK (fr : FillRule) (wc dx wc2 wl w2 : Int) : Prop :=
  match fr with
  | .evenOdd => (wc = 1 ∨ wc = -1) ∧ wc2 = w2 % 2
  | _ => wc = maxabs wl (wl + dx) ∧ wc2 = w2

/-- a correct closed edge: direction ±1, counts encode the sums, hot iff contributing -/
def EdgeOK (cfg : Cfg) (e : Edge) (wl w2 : Int) : Prop :=
  (e.dx = 1 ∨ e.dx = -1) ∧ WcOK cfg.fr e.wc e.dx e.wc2 wl w2 ∧
    e.hot = isContributingClosed cfg.ct cfg.fr e.pt e.wc e.wc2

/-- invariant of a suffix of the AEL, given the subject / clip sums `s`, `c` of everything to its left -/
def InvFrom (cfg : Cfg) : Int → Int → List Edge → Prop
  | _, _, [] => True
  | s, c, e :: rest =>
    (e.isOpen = false → EdgeOK cfg e (own e.pt s c) (own (other e.pt) s c)) ∧
    InvFrom cfg (s + contrib .subject e) (c + contrib .clip e) rest

/-- **the AEL invariant**: every closed edge stores the encodings of the winding sums to its left and is hot
exactly when `IsContributingClosed` holds -/
def Inv (cfg : Cfg) (l : Ael) : Prop := InvFrom cfg 0 0 l

/-- executable `WcOK` -/
def wcOKb (fr : FillRule) (wc dx wc2 wl w2 : Int) : Bool :=
  match fr with
  | .evenOdd => (wc == 1 || wc == -1) && wc2 == w2 % 2
  | _ => wc == maxabs wl (wl + dx) && wc2 == w2

def edgeOKb (cfg : Cfg) (e : Edge) (wl w2 : Int) : Bool :=
  (e.dx == 1 || e.dx == -1) && wcOKb cfg.fr e.wc e.dx e.wc2 wl w2 &&
    (e.hot == isContributingClosed cfg.ct cfg.fr e.pt e.wc e.wc2)

def checkInvFrom (cfg : Cfg) : Int → Int → List Edge → Bool
  | _, _, [] => true
  | s, c, e :: rest =>
    (e.isOpen || edgeOKb cfg e (own e.pt s c) (own (other e.pt) s c)) &&
    checkInvFrom cfg (s + contrib .subject e) (c + contrib .clip e) rest

/-- decides `Inv` (theorem `checkInv_iff` in `Props/C01.lean`) -/
def checkInv (cfg : Cfg) (l : Ael) : Bool := checkInvFrom cfg 0 0 l

/-! ### open edges -/

/-- invariant of open edges: hot exactly when `keep s c` holds for the sums to the left
(`keep` will be `Spec.keepOpen ct fr`) -/
def InvOpenFrom (keep : Int → Int → Bool) : Int → Int → List Edge → Prop
  | _, _, [] => True
  | s, c, e :: rest =>
    (e.isOpen = true → e.hot = keep s c) ∧
    InvOpenFrom keep (s + contrib .subject e) (c + contrib .clip e) rest

def checkInvOpenFrom (keep : Int → Int → Bool) : Int → Int → List Edge → Bool
  | _, _, [] => true
  | s, c, e :: rest =>
    (!e.isOpen || e.hot == keep s c) &&
    checkInvOpenFrom keep (s + contrib .subject e) (c + contrib .clip e) rest

/-- executable combined check (closed edges: `Inv`; open edges: hot iff `Spec.keepOpen` at the current position;
open edges are subject edges).  Decides `Props.C05.OpenInv` (theorem `checkOpenInv_iff`). -/
def checkOpenInv (cfg : Cfg) (l : Ael) : Bool :=
  checkInv cfg l && checkInvOpenFrom (keepOpen cfg.ct cfg.fr) 0 0 l &&
    l.all (fun e => !e.isOpen || e.pt == .subject)

end Clipper.Model

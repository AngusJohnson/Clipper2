/-
Assembly of the OPEN solution paths of the Vatti sweep (property C05), layered on the ring model of `Model/AelRings.lean`.

What is added: for every *open* edge of the AEL its output record (`outrec`, as the record's rank among the open records, and `IsFront(e)`),
for every open output record its list of `OutPt`s, and the code that builds them:

  `StartOpenPath` (in `InsertLocalMinimaIntoAEL` for an end vertex of an open path that is a local minimum, and in `IntersectEdges`),
  the open branch of `AddLocalMinPoly` (`SetSides` by `wind_dx`) for a local minimum inside an open path,
  the `if (has_open_paths_ && (IsOpen(e1) || IsOpen(e2)))` block of `IntersectEdges`, branch by branch:
      both open ⇒ return;  `abs(edge_c->wind_cnt) != 1` ⇒ return;  Union: `!IsHotEdge(*edge_c)` ⇒ return, other clip types: `edge_c` is a subject edge ⇒ return;
      the fill-rule switch ⇒ return;  then "toggle contribution":
        `IsHotEdge(*edge_o)`      ⇒ `AddOutPt(*edge_o, pt)`; `front_edge / back_edge = nullptr`; `edge_o->outrec = nullptr`      (the piece ends: `stopOpen`)
        `pt == edge_o->local_min->vertex->pt && !IsOpenEnd(…)`, `FindEdgeWithMatchingLocMin` finds a hot `e3`
                                  ⇒ `edge_o->outrec = e3->outrec`; `SetSides` by `wind_dx`; return without a point             (`locMinX` event)
        otherwise                 ⇒ `StartOpenPath(*edge_o, pt)`                                                              (a piece starts: `startOpen`)
  `AddOutPt` on open records (same code as for closed ones: `Model.addOutPt`), `UpdateEdgeIntoAEL`'s / `DoHorizontal`'s `AddOutPt(e, e.top)` (`update`),
  `AddLocalMaxPoly` for open edges (`IsFront(e1) == IsFront(e2)` test, `AddOutPt(e1, pt)`, `JoinOutrecPaths(e1, e2)` if `e1.wind_dx < 0` else `(e2, e1)`),
  `JoinOutrecPaths` (pointer surgery as in `Model.joinPaths`; `front_edge` / `back_edge` of the emptied record are inherited, also when they are null),
  `DoMaxima` / `DoHorizontal` at `IsOpenEnd` (`AddOutPt(e, e.top)`; the end is released),
  and `BuildPath64` for open records (`reverse` flag, consecutive duplicates dropped, a single-`OutPt` record gives no path).

Representation.  As in `Model/AelRings.lean` a record is the list of points met from `outrec->pts` following `->prev` (front end first, back end last); the
records live in a second `Model.Out` (`oo`), so `Model.addOutPt`, `newRec`, `joinPaths`, `logSeg`, `handOver` are *the same functions* as for closed records.
An open record is never closed into a cycle: its `stat` is `live` as long as it has points and `gone` once `JoinOutrecPaths` has emptied it; which of its
two ends is still held by an edge (`front_edge != nullptr`, `back_edge != nullptr`) is recorded in `om`: `none` = held, `some mark` = not held, where the
(ghost) mark remembers the point and the kind of event at which the end was fixed.  A record is *finished* when both ends carry a mark.

The AEL of this layer (`ol`) carries its own copy of the bookkeeping fields of `Model/Ael.lean`, updated by the same functions (`newLeft`, `intersectPair`),
the open edge's record in `orec`, and nothing for closed edges (`orec = none`, `join = none`): the closed side lives in the `RState` that goes along
(`OState.r`), and one event is the `Model.stepR` step there paired with `openStep` here.  Forgetting the open layer is therefore the identity on the ring model
(`Props/C05Rings.lean`, `erase_open_rings_step`), and the two copies of the bookkeeping fields agree (`open_layer_in_sync`).

Events: those of `Model.ROp` (now `insertOne` carries `left_bound->bot` and `removeOne` carries `e.top`), plus `locMinX i pt e3` = an `intersect i` at
`pt` for which the C++ condition `pt == edge_o->local_min->vertex->pt && !IsOpenEnd(*edge_o->local_min->vertex)` holds, `e3` = position (before the swap)
of the edge returned by `FindEdgeWithMatchingLocMin(edge_o)`, if any.  [Geometry is an input of the model, as everywhere in the AEL models.]

Rejected (= the event does not fit the state; never seen on a real trace, every real trace is replayed):
  * a local maximum whose two open edges hold the two ends of one record (an open path is not a cycle);
  * `locMinX` whose `e3` is not an open edge with the opposite `wind_dx`, or whose record's other end is still held by an edge (`SetSides` would orphan it).
`bad` is set when the C++ would misbehave: `AddLocalMaxPoly` on open edges with `IsFront(e1) == IsFront(e2)` (⇒ `succeeded_ = false`: the local maximum vertex
is not an open end), or a maxima pair of which exactly one edge is hot (`IsFront` on a null `outrec` / a record left with a dangling edge pointer).
`Props/C05Rings.lean`, `open_max_never_bad`: unreachable.

Not modelled: the `IsOpenEnd(e1)` quirk at the end of `JoinOutrecPaths` (`e2.outrec->pts = e1.outrec->pts; e1.outrec->pts = nullptr`): both arguments of
an open `JoinOutrecPaths` are at a local maximum vertex that is not an end of the path (`DoMaxima` tests `IsOpenEnd(e)` first; in `DoHorizontal` no second edge
ends at an open end vertex); the trace sink `harness/aelopenrings.h` checks `!IsOpenEnd` at every open `removePair`.  Z values.  `PolyTree` output (same `BuildPath64`).

Core Lean only (the driver executable links this file).
-/
import ClipperVerif.Model.AelRings
namespace Clipper.Model

/-- ghost: at which kind of event an end of an open record was fixed -/
inductive MarkKind
  | pathStart   -- `StartOpenPath` in `InsertLocalMinimaIntoAEL`: an end vertex of the input path that is a local minimum (`OpenStart` / `OpenEnd`)
  | cutStart    -- `StartOpenPath` in `IntersectEdges`: the open edge became hot crossing a closed edge
  | pathStop    -- `DoMaxima` / `DoHorizontal` at `IsOpenEnd(e)`: an end vertex of the input path that is a local maximum
  | cutStop     -- `IntersectEdges`: the hot open edge became cold crossing a closed edge
  deriving DecidableEq, Repr, Inhabited

structure Mark where
  pt : Pt
  kind : MarkKind
  deriving DecidableEq, Repr, Inhabited

/-- the two ends of an open record: `none` = `front_edge` (`back_edge`) is set; `some m` = it is null -/
structure EndMarks where
  f : Option Mark
  b : Option Mark
  deriving DecidableEq, Repr, Inhabited

def EndMarks.side (m : EndMarks) (front : Bool) : Option Mark := if front then m.f else m.b
def EndMarks.put (m : EndMarks) (front : Bool) (v : Option Mark) : EndMarks := if front then { m with f := v } else { m with b := v }

/-- the open layer -/
structure OX where
  /-- the AEL: bookkeeping fields of every edge, and the record `(rank among open records, IsFront)` of every hot open edge -/
  ol : List SEdge
  /-- the open output records, by rank -/
  oo : Out
  /-- per record: which ends are free -/
  om : List EndMarks
  /-- the C++ would have misbehaved (see the file header) -/
  bad : Bool
  deriving DecidableEq, Repr, Inhabited

def OX.empty : OX := { ol := [], oo := Out.empty, om := [], bad := false }

/-- `IsFront(e)` for an open edge as `StartOpenPath`, `AddLocalMinPoly` and the `SetSides` of `IntersectEdges` set it: `e.wind_dx > 0` -/
def isFrontDx (dx : Int) : Bool := decide (dx > 0)

def markAt (om : List EndMarks) (id : Nat) (front : Bool) : Option Mark := (om[id]?).bind (·.side front)

def setMark (id : Nat) (front : Bool) (v : Option Mark) (om : List EndMarks) : List EndMarks :=
  match om[id]? with
  | some m => om.set id (m.put front v)
  | none => om

/-- `StartOpenPath(e, pt)`: a new open record with the single point `pt`, held by `e` at its front end when `e.wind_dx > 0`, at its back end otherwise;
the other end is free.  Result: `e.outrec`, the records, the marks. -/
def startOpen (dx : Int) (pt : Pt) (kind : MarkKind) (oo : Out) (om : List EndMarks) : Rec × Out × List EndMarks :=
  (⟨oo.rings.length, isFrontDx dx⟩, newRec pt oo, om ++ [EndMarks.put ⟨none, none⟩ (!isFrontDx dx) (some ⟨pt, kind⟩)])

/-- `AddOutPt(e, pt); if (IsFront(e)) e.outrec->front_edge = nullptr; else e.outrec->back_edge = nullptr; e.outrec = nullptr;` -/
def stopOpen (k : Rec) (pt : Pt) (kind : MarkKind) (oo : Out) (om : List EndMarks) : Out × List EndMarks :=
  (addOutPt k.id k.front pt oo, setMark k.id k.front (some ⟨pt, kind⟩) om)

/-! ## `IntersectEdges`, open branch -/

/-- "toggle contribution" for the open edge `eo` at position `io` (before the swap) crossing the closed edge `ec`; `l` = the AEL.
`lm = some e3` : `pt == edge_o->local_min->vertex->pt && !IsOpenEnd(*edge_o->local_min->vertex)` and `FindEdgeWithMatchingLocMin(edge_o)` returned the edge at
position `e3` (`none`: `nullptr`).  Result: the new `edge_o->outrec`, the records, the marks; `none` = rejected. -/
def openBranch (cfg : Cfg) (l : List SEdge) (io : Nat) (eo ec : SEdge) (pt : Pt) (lm : Option (Option Nat)) (oo : Out) (om : List EndMarks) :
    Option (Option Rec × Out × List EndMarks) :=
  if openToggles cfg ec.e then
    match eo.orec with
    | some k =>
      let r := stopOpen k pt .cutStop oo om
      some (none, r.1, r.2)
    | none =>
      match lm with
      | some (some j) =>
        match l[j]? with
        | some e3 =>
          if e3.e.isOpen = true ∧ j ≠ io ∧ e3.e.dx + eo.e.dx = 0 then
            match e3.orec with
            | some r =>
              -- `edge_o->outrec = e3->outrec; SetSides(...)`: `edge_o` takes the end `wind_dx > 0 ? front : back`, `e3` the other one (which it holds already)
              if r.front = !isFrontDx eo.e.dx ∧ (markAt om r.id (isFrontDx eo.e.dx)).isSome then
                some (some ⟨r.id, isFrontDx eo.e.dx⟩, handOver r.id (isFrontDx eo.e.dx) oo, setMark r.id (isFrontDx eo.e.dx) none om)
              else none
            | none =>
              let s := startOpen eo.e.dx pt .cutStart oo om
              some (some s.1, s.2.1, s.2.2)
          else none
        | none => none
      | _ =>
        let s := startOpen eo.e.dx pt .cutStart oo om
        some (some s.1, s.2.1, s.2.2)
  else some (eo.orec, oo, om)

/-- `IntersectEdges(e1, e2, pt); SwapPositionsInAEL(e1, e2);` with `e1` at position `i`, `e2` at `i+1`: the bookkeeping fields change by `Model.intersectPair`
(as in `Model.intersect`); when exactly one of the two is open, its record changes by `openBranch` -/
def oIntersect (cfg : Cfg) (i : Nat) (pt : Pt) (lm : Option (Option Nat)) (x : OX) : Option OX :=
  match x.ol.drop i with
  | a :: b :: rest =>
    let p := intersectPair cfg a.e b.e
    if a.e.isOpen = b.e.isOpen then
      some { x with ol := x.ol.take i ++ { b with e := p.2 } :: { a with e := p.1 } :: rest }
    else if a.e.isOpen then
      match openBranch cfg x.ol i a b pt lm x.oo x.om with
      | some r => some { x with ol := x.ol.take i ++ { b with e := p.2 } :: { a with e := p.1, orec := r.1 } :: rest, oo := r.2.1, om := r.2.2 }
      | none => none
    else
      match openBranch cfg x.ol (i + 1) b a pt lm x.oo x.om with
      | some r => some { x with ol := x.ol.take i ++ { b with e := p.2, orec := r.1 } :: { a with e := p.1 } :: rest, oo := r.2.1, om := r.2.2 }
      | none => none
  | _ => none

/-! ## the other events -/

/-- `InsertLocalMinimaIntoAEL`, local minimum with both bounds.  Open and contributing: `AddLocalMinPoly(left, right, bot, true)`, open branch:
`if (e1.wind_dx > 0) SetSides(outrec, e1, e2) else SetSides(outrec, e2, e1)`, one record with the single point `bot`, both ends held. -/
def oInsertPair (cfg : Cfg) (pos : Nat) (pt : PathType) (isOpen : Bool) (dxLeft : Int) (bot : Pt) (x : OX) : Option OX :=
  if pos ≤ x.ol.length ∧ (dxLeft = 1 ∨ dxLeft = -1) then
    let r := newLeft cfg (erase (x.ol.take pos)) pt isOpen dxLeft
    let lb : Edge := { r.1 with hot := r.2 }
    let rb : Edge := { pt := pt, isOpen := isOpen, dx := -dxLeft, wc := r.1.wc, wc2 := r.1.wc2, hot := r.2 }
    if r.2 && isOpen then
      some { x with ol := x.ol.take pos ++ ⟨lb, .none, some ⟨x.oo.rings.length, isFrontDx dxLeft⟩⟩ :: ⟨rb, .none, some ⟨x.oo.rings.length, !isFrontDx dxLeft⟩⟩ :: x.ol.drop pos,
                    oo := newRec bot x.oo, om := x.om ++ [⟨none, none⟩] }
    else some { x with ol := x.ol.take pos ++ ⟨lb, .none, none⟩ :: ⟨rb, .none, none⟩ :: x.ol.drop pos }
  else none

/-- `InsertLocalMinimaIntoAEL` for an end vertex of an open path (one bound): `if (contributing) StartOpenPath(*left_bound, left_bound->bot)` -/
def oInsertOne (cfg : Cfg) (pos : Nat) (pt : PathType) (dx : Int) (bot : Pt) (x : OX) : Option OX :=
  if pos ≤ x.ol.length ∧ (dx = 1 ∨ dx = -1) then
    let r := newLeft cfg (erase (x.ol.take pos)) pt true dx
    let lb : Edge := { r.1 with hot := r.2 }
    if r.2 then
      let s := startOpen dx bot .pathStart x.oo x.om
      some { x with ol := x.ol.take pos ++ ⟨lb, .none, some s.1⟩ :: x.ol.drop pos, oo := s.2.1, om := s.2.2 }
    else some { x with ol := x.ol.take pos ++ ⟨lb, .none, none⟩ :: x.ol.drop pos }
  else none

/-- end of `DoMaxima` / `DoHorizontal` at a local maximum with two bounds.  Open edges: `if (IsHotEdge(e)) AddLocalMaxPoly(e, *max_pair, e.top)` with `e1` the
left one of the two: `AddOutPt(e1, pt)`, then `JoinOutrecPaths(e1, e2)` if `e1.wind_dx < 0`, `JoinOutrecPaths(e2, e1)` otherwise — the record of the edge
with `wind_dx < 0` survives, the edge holding the far end of the other record (if any) is handed the surviving record. -/
def oRemovePair (i : Nat) (top : Pt) (x : OX) : Option OX :=
  match x.ol.drop i with
  | a :: b :: rest =>
    if a.e.pt = b.e.pt ∧ a.e.isOpen = b.e.isOpen ∧ a.e.dx + b.e.dx = 0 then
      if a.e.isOpen then
        match a.orec, b.orec with
        | none, none => some { x with ol := x.ol.take i ++ rest }
        | some ra, some rb =>
          if ra.front = rb.front then some { x with ol := x.ol.take i ++ rest, bad := true }
          else if ra.id = rb.id then none
          else
            let o1 := logSeg .meet rb.id rb.front ra.id ra.front (addOutPt ra.id ra.front top x.oo)
            let X := if a.e.dx < 0 then ra else rb
            let Y := if a.e.dx < 0 then rb else ra
            some { x with ol := (x.ol.take i ++ rest).map (relabelFn Y.id X.front X.id), oo := joinPaths X.id Y.id X.front o1,
                          om := setMark X.id X.front (markAt x.om Y.id X.front) x.om }
        | _, _ => some { x with ol := x.ol.take i ++ rest, bad := true }
      else some { x with ol := x.ol.take i ++ rest }
    else none
  | _ => none

/-- `DoMaxima` / `DoHorizontal` at `IsOpenEnd(e)`: `if (IsHotEdge(e)) AddOutPt(e, e.top)`, the end is released, the edge leaves the AEL -/
def oRemoveOne (i : Nat) (top : Pt) (x : OX) : Option OX :=
  match x.ol.drop i with
  | a :: rest =>
    if a.e.isOpen then
      match a.orec with
      | some k =>
        let r := stopOpen k top .pathStop x.oo x.om
        some { x with ol := x.ol.take i ++ rest, oo := r.1, om := r.2 }
      | none => some { x with ol := x.ol.take i ++ rest }
    else none
  | _ => none

/-- `if (IsHotEdge(*e)) AddOutPt(*e, e->top);` before `UpdateEdgeIntoAEL` (`DoTopOfScanbeam`, `DoHorizontal`) for the edge at position `i` -/
def oUpdate (i : Nat) (top : Pt) (x : OX) : Option OX :=
  match x.ol[i]? with
  | some a =>
    if a.e.isOpen then
      match a.orec with
      | some k => some { x with oo := addOutPt k.id k.front top x.oo }
      | none => some x
    else some x
  | none => none

/-! ## events -/

/-- the events of `Model.ROp` — `base (insertOne …) bot` now carries `left_bound->bot`, `base (removeOne i) top` carries `e.top` — plus
`locMinX i pt e3`: an `intersect i` at `pt` with `pt == edge_o->local_min->vertex->pt && !IsOpenEnd(*edge_o->local_min->vertex)`, where `e3` is the position
(before the swap) of `FindEdgeWithMatchingLocMin(edge_o)` -/
inductive OOp
  | ev (op : ROp)
  | locMinX (i : Nat) (pt : Pt) (e3 : Option Nat)
  deriving DecidableEq, Repr, Inhabited

/-- the event of the ring model -/
def OOp.erase : OOp → ROp
  | .ev op => op
  | .locMinX i pt _ => .base (.intersect i) pt

/-- the effect of an event on the open layer; `none` = rejected -/
def openStep (cfg : Cfg) (x : OX) : OOp → Option OX
  | .ev (.base (.insertPair pos pt isOpen dxLeft) bot) => oInsertPair cfg pos pt isOpen dxLeft bot x
  | .ev (.base (.insertOne pos pt dx) bot) => oInsertOne cfg pos pt dx bot x
  | .ev (.base (.intersect i) p) => oIntersect cfg i p none x
  | .locMinX i p e3 => oIntersect cfg i p (some e3) x
  | .ev (.base (.removePair i) top) => oRemovePair i top x
  | .ev (.base (.removeOne i) top) => oRemoveOne i top x
  | .ev (.join _ _) => some x
  | .ev (.split _ _) => some x
  | .ev (.update i top) => oUpdate i top x

structure OState where
  /-- the ring model of closed records (`Model/AelRings.lean`), untouched -/
  r : RState
  /-- the open layer -/
  x : OX
  deriving DecidableEq, Repr, Inhabited

def OState.empty : OState := { r := RState.empty, x := OX.empty }

/-- one event: the ring model's step, paired with the open layer's -/
def stepO (cfg : Cfg) (st : OState) (op : OOp) : Except Err OState :=
  match stepR cfg st.r op.erase with
  | .ok r' =>
    match openStep cfg st.x op with
    | some x' => .ok { r := r', x := x' }
    | none => .error .reject
  | .error e => .error e

def runO (cfg : Cfg) : OState → List OOp → Except Err OState
  | st, [] => .ok st
  | st, op :: ops =>
    match stepO cfg st op with
    | .ok st' => runO cfg st' ops
    | .error e => .error e

/-! ## `BuildPath64(op, reverse, isOpen = true, path)` -/

/-- the `while (op2 != op)` loop: a point equal to the last one emitted is skipped -/
def dedupFrom (last : Pt) : List Pt → List Pt
  | [] => []
  | p :: ps => if p = last then dedupFrom last ps else p :: dedupFrom p ps

def dedup : List Pt → List Pt
  | [] => []
  | p :: ps => p :: dedupFrom p ps

/-- `pts` = the record from `outrec->pts` following `->prev`.  `!op || op->next == op` ⇒ false (no path).  `reverse`: start at `op`, follow `->prev` = the list
as it stands; otherwise start at `op->next` (the back end) and follow `->next` = the list reversed. -/
def buildOpenPath (rev : Bool) (pts : List Pt) : Option (List Pt) :=
  match pts with
  | [] => none
  | [_] => none
  | _ => some (dedup (if rev then pts else pts.reverse))

/-- `BuildPaths64` / `BuildTree64`: the open records in `outrec_list_` order that still have points -/
def openSolution (rev : Bool) (rings : List Ring) : List (List Pt) := rings.filterMap (fun g => buildOpenPath rev g.pts)

/-! ## executable forms of the invariants (the `Prop` forms are in `Lemmas/AelOpenRings.lean`) -/

/-- per edge of the open layer: closed edges carry nothing; an open edge owns a record exactly when it is hot, and then `IsFront(e) = (wind_dx > 0)` -/
def olocalOK (y : SEdge) : Bool :=
  y.join == .none &&
  (if y.e.isOpen then (y.orec.isSome == y.e.hot) && (match y.orec with | some k => k.front == isFrontDx y.e.dx | none => true)
   else y.orec.isNone)

/-- an end is marked free exactly when no edge holds it; a marked end of a record with points is the marked point -/
def marksOK (x : OX) : Bool :=
  x.om.length == x.oo.rings.length &&
  (List.range x.om.length).all (fun k =>
    match x.oo.rings[k]? with
    | some g =>
      g.stat == .gone ||
      [true, false].all (fun f =>
        match markAt x.om k f with
        | none => (recKeys x.ol).contains (k, f)
        | some m => !(recKeys x.ol).contains (k, f) && endPt f g.pts == some m.pt)
    | none => false)

/-- a record is finished when it has points and both ends are free -/
def finished (x : OX) (k : Nat) : Bool :=
  match x.oo.rings[k]?, x.om[k]? with
  | some g, some m => g.stat == .live && m.f.isSome && m.b.isSome
  | _, _ => false

/-- all invariants of the open layer the driver checks after every event -/
def checkOpen (st : OState) : Bool :=
  erase st.x.ol == erase st.r.s.ael && st.x.ol.all olocalOK && checkRecs ⟨st.x.ol, st.x.oo.rings.length⟩ &&
  checkOut ⟨⟨st.x.ol, st.x.oo.rings.length⟩, st.x.oo⟩ && marksOK st.x && !st.x.bad &&
  st.x.oo.segs.all (fun sg => sg.kind == .extend || sg.kind == .meet)

end Clipper.Model

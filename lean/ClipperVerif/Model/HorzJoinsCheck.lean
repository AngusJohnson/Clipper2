/-
Executable judges for the horizontal-join slice (driver command `HORZJOINSHYP`): they *decide the very propositions* the theorems of
`Props/C02Horz.lean` are stated with (`Rings`, `RectEdges`, `JoinFlat`, `JoinsOK`, `OnY`, the `takeWhile` characterisation of
`UpdateHorzSegment`'s walks) — through `Decidable` instances, so there is no checker-soundness gap — on the heaps the real engine
had before and after `ConvertHorzSegsToJoins` / `ProcessHorzJoins` / `UpdateHorzSegment`.
`strict = true` (heaps of real sweeps, and hand-built heaps of the intended shape): a violated premise is a FAIL;
`strict = false` (hand-built heaps that violate a premise on purpose): it is reported as `ok skip …`.
Core Lean only.
-/
import ClipperVerif.Model.HorzJoins
import ClipperVerif.Lemmas.HorzJoinsConvert
import ClipperVerif.Lemmas.HorzJoinsOwner
import ClipperVerif.Lemmas.HorzJoinsProcWF
namespace Clipper.Model.HorzJoins

instance decLinkF (nx pv : PF) (a b : Nat) : Decidable (LinkF nx pv a b) := by unfold LinkF; exact inferInstance

def decChainF (nx pv : PF) : (l : List Nat) → Decidable (ChainF nx pv l)
  | [] => isTrue trivial
  | [_] => isTrue trivial
  | a :: b :: r =>
    match decLinkF nx pv a b, decChainF nx pv (b :: r) with
    | isTrue h1, isTrue h2 => isTrue ⟨h1, h2⟩
    | isFalse h1, _ => isFalse (fun h => h1 h.1)
    | _, isFalse h2 => isFalse (fun h => h2 h.2)

instance (nx pv : PF) (l : List Nat) : Decidable (ChainF nx pv l) := decChainF nx pv l

instance decIsRingF (nx pv : PF) : (c : List Nat) → Decidable (IsRingF nx pv c)
  | [] => isFalse (fun h => h)
  | a :: t => by unfold IsRingF; exact inferInstance

instance (H : Heap) (rs : List (List Nat)) : Decidable (Rings H rs) :=
  decidable_of_iff ((∀ c ∈ rs, IsRingF (nextOf H) (prevOf H) c) ∧ rs.flatten.Perm (List.range H.ops.size))
    ⟨fun h => ⟨h.1, h.2⟩, fun h => ⟨h.ring, h.perm⟩⟩

instance (P : Nat → Option Pt) (a b : Nat) : Decidable (Aligned P a b) :=
  match h1 : P a, h2 : P b with
  | some p, some q =>
    if h : p.x = q.x ∨ p.y = q.y then isTrue ⟨p, q, h1, h2, h⟩
    else isFalse (fun ⟨p', q', e1, e2, e3⟩ => by rw [h1] at e1; rw [h2] at e2; cases e1; cases e2; exact h e3)
  | none, _ => isFalse (fun ⟨_, _, e1, _, _⟩ => by rw [h1] at e1; cases e1)
  | _, none => isFalse (fun ⟨_, _, _, e2, _⟩ => by rw [h2] at e2; cases e2)

/-- `RectEdges` over the valid indices (for an invalid index `nextOf` is `none`) -/
def rectEdgesB (H : Heap) : Bool :=
  (List.range H.ops.size).all (fun a => match nextOf H a with
    | some b => decide (Aligned (ptOf H) a b)
    | none => true)

theorem rectEdgesB_iff (H : Heap) : rectEdgesB H = true ↔ RectEdges H := by
  unfold rectEdgesB RectEdges
  simp only [List.all_eq_true, List.mem_range]
  constructor
  · intro h a b hab
    have ha : a < H.ops.size := by
      obtain ⟨n, hn, _⟩ := nextOf_some.1 hab; exact lt_of_node hn
    have := h a ha
    rw [hab] at this; simpa using this
  · intro h a _
    cases hab : nextOf H a with
    | none => rfl
    | some b => simpa using h a b hab

def onYB (H : Heap) (y0 : Int) (v : Nat) : Bool :=
  match ptOf H v with
  | some p => p.y == y0
  | none => false

theorem onYB_iff (H : Heap) (y0 : Int) (v : Nat) : onYB H y0 v = true ↔ OnY H y0 v := by
  unfold onYB OnY
  cases ptOf H v <;> simp

def joinFlatB (H : Heap) (j : HorzJoin) : Bool :=
  match nextOf H j.op1, prevOf H j.op2, ptOf H j.op1, ptOf H j.op2 with
  | some a, some b, some p1, some p2 =>
    (match ptOf H a, ptOf H b with
     | some pa, some pb => p2.y == p1.y && pa.y == p1.y && pb.y == p1.y
     | _, _ => false)
  | _, _, _, _ => false

theorem joinFlatB_iff (H : Heap) (j : HorzJoin) : joinFlatB H j = true ↔ JoinFlat H j := by
  unfold joinFlatB JoinFlat
  constructor
  · intro h
    split at h
    · rename_i a b p1 p2 h1 h2 h3 h4
      split at h
      · rename_i pa pb h5 h6
        simp only [Bool.and_eq_true, beq_iff_eq] at h
        exact ⟨a, b, p1, p2, pa, pb, h1, h2, h3, h4, h5, h6, h.1.1, h.1.2, h.2⟩
      · cases h
    · cases h
  · rintro ⟨a, b, p1, p2, pa, pb, h1, h2, h3, h4, h5, h6, e1, e2, e3⟩
    simp [h1, h2, h3, h4, h5, h6, e1, e2, e3]

instance (H : Heap) (js : List HorzJoin) : Decidable (JoinsOK H js) := by unfold JoinsOK; exact inferInstance

/-- the rings of the heap, read from the `pts` of the records that have them -/
def ringsOf (H : Heap) : List (List Nat) :=
  H.recs.toList.filterMap (fun r => match r.pts with
    | some p => (match ring H p with | .ok l => some l | .error _ => none)
    | none => none)

def resolvesB (H : Heap) (o r : Nat) : Bool :=
  match realOf H o with
  | .ok (some r') => r' == r
  | _ => false

theorem resolvesB_iff (H : Heap) (o r : Nat) : resolvesB H o r = true ↔ realOf H o = .ok (some r) := by
  unfold resolvesB
  cases h : realOf H o with
  | error e => simp
  | ok v => cases v <;> simp

/-- `RecsOK H rs`, decided: every ring's `OutPt`s resolve to one record whose `pts` is on that ring, and the `pts` of every
record that has them resolves to the record -/
def recsOKB (H : Heap) (rs : List (List Nat)) : Bool :=
  rs.all (fun c => (List.range H.recs.size).any (fun r =>
      (match (H.recs[r]?).bind (·.pts) with
       | some p => c.contains p
       | none => false) &&
      c.all (fun i => match orecOf H i with
        | some o => resolvesB H o r
        | none => true))) &&
  (List.range H.recs.size).all (fun r => match (H.recs[r]?).bind (·.pts) with
    | some p => (match orecOf H p with
      | some o => resolvesB H o r
      | none => false)
    | none => true)

theorem recsOKB_sound {H : Heap} {rs : List (List Nat)} (h : recsOKB H rs = true) : RecsOK H rs := by
  unfold recsOKB at h
  simp only [Bool.and_eq_true, List.all_eq_true, List.any_eq_true, List.mem_range] at h
  obtain ⟨h1, h2⟩ := h
  constructor
  · intro c hc
    obtain ⟨r, _, hp, hall⟩ := h1 c hc
    cases hpp : (H.recs[r]?).bind (·.pts) with
    | none => rw [hpp] at hp; simp at hp
    | some p =>
      rw [hpp] at hp
      refine ⟨r, p, hpp, by simpa using hp, ?_⟩
      intro i hi o hio
      have := hall i hi
      rw [hio] at this
      exact (resolvesB_iff H o r).1 this
  · intro r rc p hrc hp
    have hr : r < H.recs.size := lt_of_rec hrc
    have := h2 r hr
    simp only [hrc, Option.bind_some, hp] at this
    cases ho : orecOf H p with
    | none => rw [ho] at this; simp at this
    | some o => rw [ho] at this; exact ⟨o, rfl, (resolvesB_iff H o r).1 this⟩

namespace Check

def fmtList (l : List Nat) : String := " ".intercalate (l.map toString)

/-- `ConvertHorzSegsToJoins`: premises and conclusions of `Props.C02Horz.convertHorzSegsToJoins_joins_on_scanline_partial` on the
engine's own before/after heaps -/
def judgeConvert (strict : Bool) (H : Heap) (ls : List Nat) (js0 : List HorzJoin) (H1 : Heap) (js1 : List HorzJoin) : String :=
  let rs := ringsOf H
  if !decide (Rings H rs) then "FAIL the heap before ConvertHorzSegsToJoins is not a set of rings each owned by one record"
  else if !recsOKB H rs then "FAIL before ConvertHorzSegsToJoins some OutPt's outrec does not resolve to the record owning its ring"
  else
    match ls with
    | [] => "ok no segments"
    | l0 :: _ =>
      match ptOf H l0 with
      | none => "FAIL a trial OutPt is not in the heap"
      | some p0 =>
        let y0 := p0.y
        if !ls.all (onYB H y0) then
          (if strict then s!"FAIL the trial OutPts are not all on the scanline y={y0}: " ++ fmtList ls
           else "ok skip premise violated on purpose: trial OutPts on several lines")
        else
          -- conclusions, on what the engine produced
          let rs1 := ringsOf H1
          let n0 := H.ops.size
          let m := js1.length - js0.length
          if !decide (Rings H1 rs1) then "FAIL after ConvertHorzSegsToJoins the heap is not a set of rings"
          else if !recsOKB H1 rs1 then "FAIL after ConvertHorzSegsToJoins some OutPt's outrec does not resolve to the record owning its ring"
          else if rs1.length != rs.length then "FAIL the number of rings changed"
          else if H1.recs != H.recs then "FAIL ConvertHorzSegsToJoins changed a record"
          else if H1.ops.size != n0 + 2 * m then "FAIL the number of new OutPts is not twice the number of new joins"
          else if js1 != js0 ++ (List.range m).map (newJoin n0) then "FAIL the new joins are not (n0+2t, n0+2t+1)"
          else if !(List.range n0).all (fun i => ptOf H1 i == ptOf H i && orecOf H1 i == orecOf H i) then "FAIL an old OutPt changed its point or outrec"
          else if !((List.range (2 * m)).all (fun t => onYB H1 y0 (n0 + t) &&
                    (List.range n0).any (fun a => ptOf H1 (n0 + t) == ptOf H a && orecOf H1 (n0 + t) == orecOf H a))) then
            "FAIL a new OutPt is not a duplicate of an old one on the scanline"
          else if rectEdgesB H && !rectEdgesB H1 then "FAIL a diagonal edge appeared"
          else if !((js1.drop js0.length).all (joinFlatB H1)) then
            s!"FAIL a join made by ConvertHorzSegsToJoins is not flat (op1, op2, op1->next, op2->prev on one line)"
          else s!"ok joins={m} rect={rectEdgesB H}"

/-- `ProcessHorzJoins`: premises and conclusions of `processHorzJoins_keeps` -/
def judgeProcess (strict : Bool) (_tree : Bool) (H : Heap) (js : List HorzJoin) (H1 : Heap) : String :=
  let rs := ringsOf H
  if !decide (Rings H rs) then "FAIL the heap before ProcessHorzJoins is not a set of rings each owned by one record"
  else if !recsOKB H rs then "FAIL before ProcessHorzJoins some OutPt's outrec does not resolve to the record owning its ring"
  else if !decide (JoinsOK H js) then
    (if strict then "FAIL the ops of horz_join_list_ are not distinct valid OutPts" else "ok skip premise violated on purpose: join ops not distinct")
  else
    let flat := js.all (joinFlatB H)
    if strict && !flat then "FAIL a join of horz_join_list_ is not flat when ProcessHorzJoins starts"
    else
      let rs1 := ringsOf H1
      -- two records sharing a ring after the pass (`op1->next == op2` for a same-ring join) are reported
      if !decide (Rings H1 rs1) then
        (if strict then "FAIL after ProcessHorzJoins the heap is not a set of rings each owned by one record"
         else "ok skip degenerate join (op1->next == op2): two records share a ring")
      else if !recsOKB H1 rs1 then
        (if strict then "FAIL after ProcessHorzJoins some OutPt's outrec does not resolve to the record owning its ring"
         else "ok skip degenerate join: an outrec does not resolve to the owner of its ring")
      else if H1.ops.size != H.ops.size then "FAIL ProcessHorzJoins changed the number of OutPts"
      else if !(List.range H.ops.size).all (fun i => ptOf H1 i == ptOf H i) then "FAIL ProcessHorzJoins moved a point"
      else if flat && rectEdgesB H && !rectEdgesB H1 then "FAIL flat joins created a diagonal edge"
      else
        let splits := H1.recs.size - H.recs.size
        let merges := js.length - splits
        if rs1.length + merges != rs.length + splits then "FAIL ring count: not one more per split and one less per merge"
        else s!"ok joins={js.length} splits={splits} merges={merges} flat={flat} rect={rectEdgesB H}"

/-- `UpdateHorzSegment`: the run ends the engine found against the `takeWhile` characterisation (`runEnds_none_spec` /
`runEnds_some_spec`), recomputed here from the ring -/
def judgeUpdate (H : Heap) (l : Nat) (res : Bool) (left : Nat) (right : Option Nat) (ltr : Bool) : String :=
  let rs := ringsOf H
  if !decide (Rings H rs) then "FAIL the heap is not a set of rings"
  else
    match ptOf H l, orecOf H l with
    | some p, some o =>
      match realOf H o with
      | .ok (some r) =>
        match H.recs[r]?, ring H l with
        | some rc, .ok c =>
          let y := p.y
          let rest := c.drop 1
          -- the expected run ends
          let ends : Option (Nat × Nat) :=
            if rc.hasEdges then
              match rc.pts with
              | some opA =>
                -- the ring read from opZ = opA->next: X ++ l :: Y
                (match ring H opA with
                 | .ok ca =>
                   let cz := ca.drop 1 ++ ca.take 1
                   let X := cz.takeWhile (· != l)
                   let Y := (cz.dropWhile (· != l)).drop 1
                   some ((X.reverse.takeWhile (onLine H y)).getLastD l, (Y.takeWhile (onLine H y)).getLastD l)
                 | .error _ => none)
              | none => none
            else
              let opP := ((rest.reverse ++ [l]).takeWhile (fun v => v != l && onLine H y v)).getLastD l
              some (opP, ((rest ++ [l]).takeWhile (fun v => v != opP && onLine H y v)).getLastD l)
          match ends with
          | none => "FAIL could not read the ring of the record"
          | some (opP, opN) =>
            match ptOf H opP, ptOf H opN with
            | some pP, some pN =>
              -- SetHorzSegHeadingForward and the horz mark
              let hd := setHeading { leftOp := l } opP opN pP.x pN.x
              let marked := ((H.ops[hd.1.leftOp]?).map (·.horz)).getD false
              let expRes := hd.2 && !marked
              let expRight := if expRes then hd.1.rightOp else none
              if res != expRes then s!"FAIL result {res}, the specification gives {expRes}"
              else if left != hd.1.leftOp then s!"FAIL left_op {left}, the run end is {hd.1.leftOp}"
              else if right != expRight then "FAIL right_op differs from the run end"
              else if ltr != hd.1.ltr then "FAIL left_to_right differs"
              else s!"ok edges={rc.hasEdges} result={res} run={opP}..{opN}"
            | _, _ => "FAIL run end outside the heap"
        | _, _ => "FAIL record or ring unreadable"
      | _ => "FAIL outrec does not resolve"
    | _, _ => "FAIL the OutPt is not in the heap"

end Check
end Clipper.Model.HorzJoins

/-
Geometric sweep model at the level of SCANBEAMS (property C01, capstone of the AEL-order slices).

`ClipperBase::ExecuteInternal` (clipper.engine.cpp):
```
    while (succeeded_) {
      InsertLocalMinimaIntoAEL(y);                    // (1)  y = y₀, bottom of the scanbeam
      while (PopHorz(e)) DoHorizontal(*e);            //      -- horizontal edges: NOT modelled in this version
      ...
      bot_y_ = y;
      if (!PopScanline(y)) break;                     //      y = y₁ < y₀, top of the scanbeam
      DoIntersections(y);                             // (2)  BuildIntersectList(y₁) + ProcessIntersectList
      DoTopOfScanbeam(y);                             // (3)  maxima leave, UpdateEdgeIntoAEL at intermediate vertices
      while (PopHorz(e)) DoHorizontal(*e);
    }
```
The sweep runs towards SMALLER y (`bot.y > top.y` for every edge).  This file models the ORDER of the active edge list only
(no winding counts, no output): an edge is `(id, bot, top)` with integer end points; an AEL is a `List SEdge`, left to right.

* (1) `insertMins`: for every local minimum popped at `y₀` the pair (left bound, right bound) — already put in this order, as
      the C++ does by comparing `dx` — is inserted with `Model.AelOrder.insertLeft` (`InsertLeftEdge`) and
      `Model.AelOrder.insertRight` (`InsertRightEdge` + the settling loop).  The predicate `valid` is a parameter; the sweep
      theorems assume what `Props/C01Sweep.isValidAelOrder_agrees` proves of the regenerated `IsValidAelOrder`.
      No joined edges (`join_with` is `NoJoin` throughout: `joinRight = fun _ => false`).
* (2) `doIntersections`: the stable sort of the AEL by the key `cx e y₁` (`curr_x` as `AdjustCurrXAndCopyToSEL` sets it,
      `TopX(e, y₁)`).  That this is what `BuildIntersectList` + `ProcessIntersectList` do to the AEL is the theorem
      `Props/C01Sweep.doIntersections_is_engine` (composition with `Props/C10Isect`), not an assumption.  (Written as a structural
      insertion sort so that the kernel can evaluate examples; equal to core's `List.mergeSort`: `doIntersections_eq_mergeSort`.)
* (3) `topOfBeam`: an edge whose top is on the scanline is removed (`DoMaxima`: `next e = none`) or replaced IN PLACE by the
      next edge of its bound (`UpdateEdgeIntoAEL`: same position, `bot := old top`).

`cx : SEdge → Int → Int` stands for `TopX`: ANY function within 1/2 of the exact x (`Near`).  (No monotonicity is needed: general
position is stated on the exact x-coordinates.)  `rhe` — exact value rounded half to even — is one such function
(`Lemmas/SweepOrder.rhe_near`) and is what the driver uses to replay real sweeps.

The second half of the file derives the event list (edges, bound continuation, local minima, scanlines) from closed paths
(`build`) and states the hypotheses of the sweep theorems as decidable predicates (`Built.Hyp`).

Horizontal edges are excluded (`SEdge.Up`), and so are open paths.  Core Lean only.
-/
import ClipperVerif.Model.AelOrder
import ClipperVerif.Model.BuildIntersectList
import ClipperVerif.Model.IntersectList
namespace Clipper.Model.SweepOrder
open Clipper Clipper.Model.AelOrder

/-- an edge of the sweep: identity (stands for the input edge), lower end point `bot`, upper end point `top` -/
structure SEdge where
  id : Nat
  bot : Pt
  top : Pt
  deriving DecidableEq, Repr, Inhabited

/-- not horizontal, `bot` below `top` (y grows downwards) -/
def SEdge.Up (e : SEdge) : Prop := e.top.y < e.bot.y
instance (e : SEdge) : Decidable e.Up := by unfold SEdge.Up; infer_instance

/-! ## exact x-coordinate at a scanline: the fraction `exN e y / exD e` -/

/-- denominator of the exact x (positive for an `Up` edge) -/
def exD (e : SEdge) : Int := e.bot.y - e.top.y
/-- numerator of the exact x of the line through `bot` and `top` at the integer height `y`
(`= Model.AelOrder.xNum bot top y 1`, see `Lemmas.SweepOrder.exN_eq_xNum` in Lemmas/SweepGeom.lean) -/
def exN (e : SEdge) (y : Int) : Int := e.bot.x * (e.bot.y - e.top.y) + (e.top.x - e.bot.x) * (e.bot.y - y)
/-- horizontal run of the edge from bottom to top; `run e / exD e` is the change of x per unit of height climbed -/
def run (e : SEdge) : Int := e.top.x - e.bot.x

/-- `a` is strictly left of `b` at height `y` (cross-multiplied) -/
def xlt (y : Int) (a b : SEdge) : Prop := exN a y * exD b < exN b y * exD a
/-- `a` and `b` have the same exact x at height `y` -/
def xeq (y : Int) (a b : SEdge) : Prop := exN a y * exD b = exN b y * exD a
/-- `a` is left of `b` by MORE than one unit at height `y`:  `x_a + 1 < x_b` -/
def xltBy1 (y : Int) (a b : SEdge) : Prop := (exN a y + exD a) * exD b < exN b y * exD a
/-- the exact x of `a` and `b` at height `y` differ by more than 1 -/
def far (y : Int) (a b : SEdge) : Prop := xltBy1 y a b ∨ xltBy1 y b a
/-- going up, `a` turns to the left of `b`: `run a / exD a < run b / exD b` -/
def slt (a b : SEdge) : Prop := run a * exD b < run b * exD a

/-- **the order of the AEL just ABOVE the scanline `y`** (at `y - ε`): by exact x at `y`; edges through one point by their
direction.  This is the order `IsValidAelOrder` decides (`Props/C01Order.isValidAelOrder_spec_gp`). -/
def ltAbove (y : Int) (a b : SEdge) : Prop := xlt y a b ∨ (xeq y a b ∧ slt a b)
/-- the order just BELOW the scanline `y` (at `y + ε`, inside the scanbeam whose top is `y`) -/
def ltBelow (y : Int) (a b : SEdge) : Prop := xlt y a b ∨ (xeq y a b ∧ slt b a)

instance (y : Int) (a b : SEdge) : Decidable (xlt y a b) := by unfold xlt; infer_instance
instance (y : Int) (a b : SEdge) : Decidable (xeq y a b) := by unfold xeq; infer_instance
instance (y : Int) (a b : SEdge) : Decidable (xltBy1 y a b) := by unfold xltBy1; infer_instance
instance (y : Int) (a b : SEdge) : Decidable (far y a b) := by unfold far; infer_instance
instance (a b : SEdge) : Decidable (slt a b) := by unfold slt; infer_instance
instance (y : Int) (a b : SEdge) : Decidable (ltAbove y a b) := by unfold ltAbove; infer_instance
instance (y : Int) (a b : SEdge) : Decidable (ltBelow y a b) := by unfold ltBelow; infer_instance

/-! ## rounding -/

/-- what is assumed of `TopX`: for an edge that reaches the height `y`, the value is within 1/2 of the exact x -/
def Near (cx : SEdge → Int → Int) : Prop :=
  ∀ e y, e.Up → e.top.y ≤ y → y ≤ e.bot.y →
    2 * (cx e y * exD e - exN e y) ≤ exD e ∧ -(exD e) ≤ 2 * (cx e y * exD e - exN e y)

/-- `n/d` rounded to nearest, ties to even (`d > 0`) — `nearbyint` in the default rounding mode on the exact quotient -/
def roundHalfEven (n d : Int) : Int :=
  let q := (2 * n + d) / (2 * d)
  if (2 * n + d) % (2 * d) = 0 ∧ q % 2 = 1 then q - 1 else q

/-- the exact x rounded half to even: one admissible `cx` -/
def rhe (e : SEdge) (y : Int) : Int := roundHalfEven (exN e y) (exD e)
/-- the exact x rounded half up: another one (differs from `rhe` at ties) -/
def rhu (e : SEdge) (y : Int) : Int := (2 * exN e y + exD e) / (2 * exD e)

/-! ## the three steps of a scanbeam -/

/-- one local minimum: `InsertLeftEdge(left bound)`, then `InsertRightEdge(left, right)` + settling loop.
(`insertLeftPos = none` — the `if (!e2) return` path of `InsertLeftEdge` — needs a joined edge: unreachable here.) -/
def insertBound (valid : SEdge → SEdge → Bool) (ael : List SEdge) (p : SEdge × SEdge) : List SEdge :=
  match insertLeftPos valid (fun _ => false) ael p.1 with
  | some i => insertRight valid (insertLeft valid (fun _ => false) ael p.1) i p.2
  | none => insertLeft valid (fun _ => false) ael p.1

/-- step (1): `InsertLocalMinimaIntoAEL(y₀)` for the local minima `ms` in the order they are popped -/
def insertMins (valid : SEdge → SEdge → Bool) (ael : List SEdge) (ms : List (SEdge × SEdge)) : List SEdge :=
  ms.foldl (insertBound valid) ael

/-- the comparison of the stable sort of step (2) -/
def leCx (cx : SEdge → Int → Int) (y1 : Int) (a b : SEdge) : Bool := decide (cx a y1 ≤ cx b y1)

/-- insert `a` in front of the first element that is not smaller -/
def insertBefore {α : Type} (le : α → α → Bool) (a : α) : List α → List α
  | [] => [a]
  | b :: l => if le a b then a :: b :: l else b :: insertBefore le a l

/-- a stable sort by structural recursion (the kernel can evaluate it, unlike core's `List.mergeSort`, which is defined by
well-founded recursion); equal to `List.mergeSort` for every total preorder: `Lemmas/SweepOrder.stableSort_eq_mergeSort` -/
def stableSort {α : Type} (le : α → α → Bool) (l : List α) : List α := l.foldr (insertBefore le) []

/-- step (2): `DoIntersections(y₁)` — the AEL stably sorted by `curr_x = cx · y₁`
(`= ael.mergeSort (leCx cx y₁)`: `Lemmas/SweepOrder.doIntersections_eq_mergeSort`) -/
def doIntersections (cx : SEdge → Int → Int) (y1 : Int) (ael : List SEdge) : List SEdge :=
  stableSort (leCx cx y1) ael

/-- the AEL as `BuildIntersectList` sees it: `(Active*, curr_x)` -/
def keyed (cx : SEdge → Int → Int) (y1 : Int) (ael : List SEdge) : List BuildIntersectList.Edge :=
  ael.map (fun e => (e.id, cx e y1))

/-- the identities, left to right -/
def idsOf (ael : List SEdge) : List Nat := ael.map (·.id)

/-- step (3), one edge: `DoTopOfScanbeam(y₁)` -/
def topStep (next : SEdge → Option SEdge) (y1 : Int) (e : SEdge) : Option SEdge :=
  if e.top.y = y1 then next e else some e

/-- step (3): `DoTopOfScanbeam(y₁)` -/
def topOfBeam (next : SEdge → Option SEdge) (y1 : Int) (ael : List SEdge) : List SEdge :=
  ael.filterMap (topStep next y1)

/-! ## the sweep -/

/-- the AEL at the three stages of one scanbeam -/
structure Snap where
  y0 : Int
  y1 : Int
  /-- after `InsertLocalMinimaIntoAEL(y₀)` -/
  inserted : List SEdge
  /-- after `DoIntersections(y₁)` -/
  afterIsect : List SEdge
  /-- after `DoTopOfScanbeam(y₁)` -/
  afterTop : List SEdge
  deriving Repr, Inhabited

/-- one scanbeam -/
def beamStep (valid : Int → SEdge → SEdge → Bool) (cx : SEdge → Int → Int) (next : SEdge → Option SEdge)
    (mins : Int → List (SEdge × SEdge)) (ael : List SEdge) (y0 y1 : Int) : Snap :=
  let a1 := insertMins (valid y0) ael (mins y0)
  let a2 := doIntersections cx y1 a1
  ⟨y0, y1, a1, a2, topOfBeam next y1 a2⟩

/-- the whole sweep over the scanlines `ys` (descending), starting with the AEL `ael` before the insertions of the first
scanline.  (On the last scanline the C++ loop only calls `InsertLocalMinimaIntoAEL` once more; nothing starts at the topmost
scanline, so no snapshot is recorded for it.) -/
def sweepFrom (valid : Int → SEdge → SEdge → Bool) (cx : SEdge → Int → Int) (next : SEdge → Option SEdge)
    (mins : Int → List (SEdge × SEdge)) : List SEdge → List Int → List Snap
  | ael, y0 :: y1 :: rest =>
    let s := beamStep valid cx next mins ael y0 y1
    s :: sweepFrom valid cx next mins s.afterTop (y1 :: rest)
  | _, _ => []

/-! ## the hypotheses of the sweep theorems, as decidable predicates over the input edges

`edges` = all input edges (each oriented upwards), `next e` = the edge that continues `e`'s bound (`none` at a local maximum),
`mins y` = the local minima on the scanline `y` as (left bound, right bound), in the order they are popped.  The driver
evaluates these predicates on every real input (`SWEEPHYP`), so the evidence counts how often the theorems apply. -/

/-- `e` reaches the scanline `y` from below and continues above it: it is in the AEL while the scanbeam ABOVE `y` is swept -/
def AliveAbove (y : Int) (e : SEdge) : Prop := e.top.y < y ∧ y ≤ e.bot.y
/-- `e` is in the AEL while the scanbeam BELOW `y` (whose top is `y`) is swept -/
def AliveBelow (y : Int) (e : SEdge) : Prop := e.top.y ≤ y ∧ y < e.bot.y
instance (y : Int) (e : SEdge) : Decidable (AliveAbove y e) := by unfold AliveAbove; infer_instance
instance (y : Int) (e : SEdge) : Decidable (AliveBelow y e) := by unfold AliveBelow; infer_instance

/-- the two bounds of one local minimum of `ms` -/
def IsMinPair (ms : List (SEdge × SEdge)) (a b : SEdge) : Prop := (a, b) ∈ ms ∨ (b, a) ∈ ms
instance (ms : List (SEdge × SEdge)) (a b : SEdge) : Decidable (IsMinPair ms a b) := by unfold IsMinPair; infer_instance

/-- the edges of the local minima `ms`, flattened -/
def boundsOf (ms : List (SEdge × SEdge)) : List SEdge := ms.flatMap (fun p => [p.1, p.2])

/-- no horizontal input edge -/
def AllUp (edges : List SEdge) : Prop := ∀ e ∈ edges, e.Up
/-- every vertex height is a scanline: no edge ends strictly inside the scanbeam `[y1, y0]` -/
def NoTopInside (edges : List SEdge) (y0 y1 : Int) : Prop := ∀ e ∈ edges, ¬ (y1 < e.top.y ∧ e.top.y < y0)
/-- the local minima on the scanline `y`: input edges leaving one point on the scanline, left bound turning left of the right
bound (the C++ orders the two by `dx`), no edge in two of them -/
def MinsOK (edges : List SEdge) (ms : List (SEdge × SEdge)) (y : Int) : Prop :=
  (∀ p ∈ ms, p.1 ∈ edges ∧ p.2 ∈ edges ∧ p.1.bot = p.2.bot ∧ p.1.bot.y = y ∧ slt p.1 p.2) ∧ (boundsOf ms).Nodup
/-- `next` continues a bound: the successor is an input edge starting at the old top, and is not the bound of a local minimum -/
def NextOK (edges : List SEdge) (next : SEdge → Option SEdge) (mins : Int → List (SEdge × SEdge)) : Prop :=
  ∀ e ∈ edges, ∀ e', next e = some e' → e' ∈ edges ∧ e'.bot = e.top ∧ e' ∉ boundsOf (mins e'.bot.y)
/-- **general position at a local minimum on the scanline `y`**: every other edge that continues above `y` is more than one
unit away (at `y`) from the two bounds of the local minimum, i.e. from its vertex -/
def GPmin (edges : List SEdge) (ms : List (SEdge × SEdge)) (y : Int) : Prop :=
  ∀ p ∈ ms, ∀ r ∈ edges, AliveAbove y r → r ≠ p.1 → r ≠ p.2 → far y r p.1 ∧ far y r p.2
/-- **general position at the top `y` of a scanbeam**: two different edges of the scanbeam are more than one unit apart at `y`,
unless they end in the same point on `y` and both bounds end there (a local maximum) -/
def GPtop (edges : List SEdge) (next : SEdge → Option SEdge) (y : Int) : Prop :=
  ∀ a ∈ edges, ∀ b ∈ edges, a ≠ b → AliveBelow y a → AliveBelow y b →
    far y a b ∨ (a.top = b.top ∧ a.top.y = y ∧ next a = none ∧ next b = none)
/-- what the sweep theorems assume of the insertion predicate: for a resident and a newcomer more than one unit apart at the
scanline it answers "resident left of newcomer" (proved of the regenerated `IsValidAelOrder`: `Props/C01Sweep.validGen_ok`) -/
def ValidOK (edges : List SEdge) (valid : SEdge → SEdge → Bool) (y : Int) : Prop :=
  ∀ r ∈ edges, ∀ n ∈ edges, AliveAbove y r → AliveAbove y n → n.bot.y = y → far y r n → (valid r n = true ↔ xlt y r n)
/-- different input edges have different identities -/
def IdsInj (edges : List SEdge) : Prop := ∀ a ∈ edges, ∀ b ∈ edges, a.id = b.id → a = b

instance (edges : List SEdge) : Decidable (AllUp edges) := by unfold AllUp; infer_instance
instance (edges : List SEdge) (y0 y1 : Int) : Decidable (NoTopInside edges y0 y1) := by unfold NoTopInside; infer_instance
instance (edges : List SEdge) (ms : List (SEdge × SEdge)) (y : Int) : Decidable (MinsOK edges ms y) := by
  unfold MinsOK; infer_instance
instance (edges : List SEdge) (ms : List (SEdge × SEdge)) (y : Int) : Decidable (GPmin edges ms y) := by
  unfold GPmin; infer_instance
instance (edges : List SEdge) (next : SEdge → Option SEdge) (y : Int) : Decidable (GPtop edges next y) := by
  unfold GPtop; infer_instance
instance (edges : List SEdge) : Decidable (IdsInj edges) := by unfold IdsInj; infer_instance

/-- everything assumed about one scanbeam `[y1, y0]`: the local minima on `y0` and general position there, the insertion
predicate, no vertex strictly inside, general position at the top -/
def BeamOK (edges : List SEdge) (valid : Int → SEdge → SEdge → Bool) (next : SEdge → Option SEdge)
    (mins : Int → List (SEdge × SEdge)) (y0 y1 : Int) : Prop :=
  y1 < y0 ∧ MinsOK edges (mins y0) y0 ∧ GPmin edges (mins y0) y0 ∧ ValidOK edges (valid y0) y0 ∧ NoTopInside edges y0 y1 ∧
    GPtop edges next y1

/-- … about all scanbeams of the scanline list `ys` (descending) -/
def SweepOK (edges : List SEdge) (valid : Int → SEdge → SEdge → Bool) (next : SEdge → Option SEdge)
    (mins : Int → List (SEdge × SEdge)) : List Int → Prop
  | y0 :: y1 :: rest => BeamOK edges valid next mins y0 y1 ∧ SweepOK edges valid next mins (y1 :: rest)
  | _ => True

/-! ## the instance of `valid`: the regenerated `IsValidAelOrder` -/

/-- the fields of an `Active` that `IsValidAelOrder` reads besides `curr_x`, `bot`, `top` (they matter in its collinear
branches only) -/
structure OInfo where
  isLeftBound : Bool
  isMaxima : Bool
  nextVertexPt : Pt
  prevPrevVertexPt : Pt
  localMinY : Int
  deriving Repr, Inhabited

/-- the `Active` of a sweep edge at the scanline `y`: `curr_x = cx e y` -/
def toO (cx : SEdge → Int → Int) (info : SEdge → OInfo) (y : Int) (e : SEdge) : OEdge :=
  { currX := cx e y, bot := e.bot, top := e.top, isLeftBound := (info e).isLeftBound, isMaxima := (info e).isMaxima,
    nextVertexPt := (info e).nextVertexPt, prevPrevVertexPt := (info e).prevPrevVertexPt, localMinY := (info e).localMinY,
    joinRight := false }

/-- C++ `IsValidAelOrder(resident, newcomer)` (the regenerated definition) at the scanline `y` -/
def validGen (cx : SEdge → Int → Int) (info : SEdge → OInfo) (y : Int) (r n : SEdge) : Bool :=
  isValidAelOrder (toO cx info y r) (toO cx info y n)

/-! ## the event list of an input: edges, bound continuation, local minima, scanlines — derived from closed paths alone

What `AddPaths` / `Reset` prepare (vertex rings, the local-minima list, the scanline queue), reduced to what the order of the AEL
depends on.  Closed paths with at least 3 vertices, no horizontal edge (an input with one fails `AllUp` and is out of scope).
Edge `i` of a path runs from vertex `i` to vertex `i+1`; its identity is the global index of vertex `i` (paths concatenated). -/

/-- the undirected edge between consecutive vertices `a`, `b`, oriented upwards -/
def mkEdge (id : Nat) (a b : Pt) : SEdge := if a.y > b.y then ⟨id, a, b⟩ else ⟨id, b, a⟩

/-- the edges of one closed path, identities `off, off+1, …` -/
def pathEdges (off : Nat) (p : Path) : List SEdge :=
  (edgesOf p).zipIdx.map (fun ei => mkEdge (off + ei.2) ei.1.1 ei.1.2)

/-- (edge i, edge i+1, their common vertex i+1), cyclically -/
def corners (off : Nat) (p : Path) : List ((SEdge × SEdge) × Pt) :=
  let es := pathEdges off p
  (es.zip (es.rotateLeft 1)).zip (p.rotateLeft 1)

/-- bound continuation at an intermediate vertex: (edge ending there, edge starting there) -/
def cornerNext (c : (SEdge × SEdge) × Pt) : Option (SEdge × SEdge) :=
  if c.1.1.top = c.2 ∧ c.1.2.bot = c.2 then some (c.1.1, c.1.2)
  else if c.1.1.bot = c.2 ∧ c.1.2.top = c.2 then some (c.1.2, c.1.1)
  else none

/-- a local minimum: both edges start at the vertex; (left bound, right bound) by direction -/
def cornerMin (c : (SEdge × SEdge) × Pt) : Option (SEdge × SEdge) :=
  if c.1.1.bot = c.2 ∧ c.1.2.bot = c.2 then some (if slt c.1.1 c.1.2 then (c.1.1, c.1.2) else (c.1.2, c.1.1))
  else none

/-- the event data of a set of closed paths -/
structure Built where
  edges : List SEdge
  nextTbl : List (SEdge × SEdge)
  allMins : List (SEdge × SEdge)
  /-- the scanlines: all vertex heights, descending, without repetition -/
  ys : List Int
  deriving Repr

def buildFrom : Nat → Paths → Built
  | _, [] => ⟨[], [], [], []⟩
  | off, p :: ps =>
    let r := buildFrom (off + p.length) ps
    if p.length < 3 then r
    else
      let cs := corners off p
      ⟨pathEdges off p ++ r.edges, cs.filterMap cornerNext ++ r.nextTbl, cs.filterMap cornerMin ++ r.allMins, r.ys⟩

def scanlinesOf (ps : Paths) : List Int :=
  (stableSort (fun a b => decide (b ≤ a)) ((ps.filter (fun p => decide (3 ≤ p.length))).flatten.map (·.y))).eraseDups

def build (ps : Paths) : Built := { buildFrom 0 ps with ys := scanlinesOf ps }

def Built.next (b : Built) (e : SEdge) : Option SEdge := (b.nextTbl.find? (fun p => p.1 == e)).map (·.2)
def Built.mins (b : Built) (y : Int) : List (SEdge × SEdge) := b.allMins.filter (fun p => p.1.bot.y == y)

/-- the model sweep of an input, with the regenerated `IsValidAelOrder` as insertion predicate -/
def Built.sweep (b : Built) (cx : SEdge → Int → Int) (info : SEdge → OInfo) : List Snap :=
  sweepFrom (validGen cx info) cx b.next b.mins [] b.ys

instance (edges : List SEdge) (next : SEdge → Option SEdge) (mins : Int → List (SEdge × SEdge)) :
    Decidable (NextOK edges next mins) :=
  decidable_of_iff (∀ e ∈ edges, (next e).all (fun e' => decide (e' ∈ edges ∧ e'.bot = e.top ∧ e' ∉ boundsOf (mins e'.bot.y))) = true) (by
    unfold NextOK
    constructor
    · intro h e he e' hn
      have := h e he
      rw [hn] at this
      simpa using this
    · intro h e he
      cases hn : next e with
      | none => simp
      | some e' => simpa using h e he e' hn)

instance (edges : List SEdge) (valid : SEdge → SEdge → Bool) (y : Int) : Decidable (ValidOK edges valid y) := by
  unfold ValidOK; infer_instance

instance (edges : List SEdge) (valid : Int → SEdge → SEdge → Bool) (next : SEdge → Option SEdge)
    (mins : Int → List (SEdge × SEdge)) (y0 y1 : Int) : Decidable (BeamOK edges valid next mins y0 y1) := by
  unfold BeamOK; infer_instance

instance decSweepOK (edges : List SEdge) (valid : Int → SEdge → SEdge → Bool) (next : SEdge → Option SEdge)
    (mins : Int → List (SEdge × SEdge)) : (ys : List Int) → Decidable (SweepOK edges valid next mins ys)
  | [] => isTrue trivial
  | [_] => isTrue trivial
  | y0 :: y1 :: rest =>
    have : Decidable (SweepOK edges valid next mins (y1 :: rest)) := decSweepOK edges valid next mins (y1 :: rest)
    (inferInstance : Decidable (BeamOK edges valid next mins y0 y1 ∧ SweepOK edges valid next mins (y1 :: rest)))

/-- all hypotheses of `sweep_keeps_sorted` / `intersections_are_exactly_crossings` for a built input (`Near cx` aside) -/
def Built.Hyp (b : Built) (valid : Int → SEdge → SEdge → Bool) : Prop :=
  AllUp b.edges ∧ IdsInj b.edges ∧ NextOK b.edges b.next b.mins ∧ SweepOK b.edges valid b.next b.mins b.ys
instance (b : Built) (valid : Int → SEdge → SEdge → Bool) : Decidable (b.Hyp valid) := by unfold Built.Hyp; infer_instance

end Clipper.Model.SweepOrder

import ClipperVerif.Props.C03Trim
open Clipper.Lemmas.TrimHorz Clipper.Props.C03Trim
#print axioms loop_prefix
#print axioms loop_stops
#print axioms loop_stops_nopc
#print axioms trimHorz_merges_run

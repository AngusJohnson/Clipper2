/-
C06 — polygon offsetting: theorems about the control frame (`ClipperVerif/Model/OffsetFrame.lean`).

What is proved here is the *frame*: which signed delta a polygon group is offset with, which fill rule and
orientation the clean-up union uses, that an insignificant delta passes the input through, and the join
selection of `OffsetPoint` as a function of the sine / cosine it compares.  The headline clause of C06 (the
result is the delta-envelope within tolerance) is decided at spec level by `OFFSETCHECK`
(`ClipperVerif/Spec/Offset.lean`, harness/C06.cpp), not by a theorem.
-/
import ClipperVerif.Model.OffsetFrame
namespace Clipper.Props.C06
open Clipper Clipper.OffsetFrame

/-- A polygon group that has at least one point is offset with `group_delta_ = -delta` when its lowest path is
negatively oriented and with `+delta` otherwise; `delta_` itself is left alone. -/
theorem polygon_delta_sign (arc : Rat) (grp : Group) (st : St)
    (hp : grp.et = .polygon) (hl : grp.lowest.isSome = true) :
    (groupSetup arc grp st).groupDelta = (if grp.isReversed then -st.delta else st.delta)
      ∧ (groupSetup arc grp st).delta = st.delta := by
  simp [groupSetup, hp, hl]

/-- No group ever writes `delta_` (a Polygon group without points uses `|delta_|` locally). -/
theorem groupSetup_keeps_delta (arc : Rat) (grp : Group) (st : St) :
    (groupSetup arc grp st).delta = st.delta := rfl

/-- `is_reversed` is exactly "the lowest path (largest y, then smallest x) has negative area". -/
theorem mkGroup_isReversed_iff (paths : Paths) (jt : JoinType) :
    (mkGroup paths jt .polygon).isReversed = true ↔
      ∃ i, getLowestClosedPathIdx (paths.map (stripDuplicates true)) = some i
        ∧ shoelace2 ((paths.map (stripDuplicates true)).getD i []) < 0 := by
  simp only [mkGroup]
  cases h : getLowestClosedPathIdx (paths.map (stripDuplicates true)) with
  | none => simp [h]
  | some i => simp [h]

/-- non-vacuity: a clockwise square is flagged reversed, its mirror image is not -/
example : (mkGroup [[⟨0, 0⟩, ⟨0, 10⟩, ⟨10, 10⟩, ⟨10, 0⟩]] .miter .polygon).isReversed = true := by decide
example : (mkGroup [[⟨0, 0⟩, ⟨10, 0⟩, ⟨10, 10⟩, ⟨0, 10⟩]] .miter .polygon).isReversed = false := by decide

/-- The clean-up union keeps the orientation convention of the input: when the first polygon group (with at
least one point) is reversed it runs with `FillRule::Negative` and `ReverseSolution(reverse_solution_ != true)`, otherwise with
`Positive` and `ReverseSolution(reverse_solution_)`. -/
theorem polygon_union_orientation (g : Geo N) (prm : Params) (grp : Group) (rest : List Group) (delta : Rat)
    (f : Frame N) (hp : grp.et = .polygon) (hl : grp.lowest.isSome = true)
    (h : executeInternal g prm (grp :: rest) delta = .ok (some f)) :
    f.fill = (if grp.isReversed then FillRule.negative else FillRule.positive)
      ∧ f.reverse = (prm.reverseSolution != grp.isReversed)
      ∧ f.preserveCollinear = prm.preserveCollinear := by
  simp only [executeInternal, List.isEmpty_cons, Bool.false_eq_true, if_false, checkReverseOrientation, hp, hl, and_self, if_true] at h
  split at h
  · split at h
    · cases h
    · injection h with h; injection h with h; subst h; exact ⟨rfl, rfl, rfl⟩
  · split at h
    · cases h
    · split at h
      · injection h with h; injection h with h; subst h; exact ⟨rfl, rfl, rfl⟩
      · injection h with h; cases h

/-- `|delta| < 0.5`: nothing is offset; the union receives the (duplicate-stripped) input paths of the
Polygon groups, and nothing from groups with an open end type. -/
theorem small_delta_identity (g : Geo N) (prm : Params) (groups : List Group) (delta : Rat)
    (hg : groups.isEmpty = false) (hd : rabs delta < 1 / 2) :
    executeInternal g prm groups delta =
      .ok (if ((groups.filter (fun grp => grp.et = .polygon)).flatMap (·.paths)).isEmpty then none else
        some ⟨.copied ((groups.filter (fun grp => grp.et = .polygon)).flatMap (·.paths)),
          if checkReverseOrientation groups then FillRule.negative else FillRule.positive,
          prm.reverseSolution != checkReverseOrientation groups, prm.preserveCollinear, none⟩) := by
  simp [executeInternal, hg, hd]

/-- in particular, when every group is a Polygon group, all stripped input paths pass through unchanged -/
theorem small_delta_identity_polygons (groups : List Group) (h : ∀ grp ∈ groups, grp.et = .polygon) :
    (groups.filter (fun grp => grp.et = .polygon)).flatMap (·.paths) = groups.flatMap (·.paths) := by
  rw [List.filter_eq_self.mpr (by simpa using h)]

example : rabs ((1 : Rat) / 4) < 1 / 2 := by decide +kernel

/-- an insignificant delta copies the vertex -/
theorem branchOf_copy (jt : JoinType) (tl gd s c : Rat) (h : rabs gd ≤ fpTol) :
    branchOf jt tl gd s c false = .copy := by
  simp only [branchOf, Bool.false_eq_true, if_false, h, if_true]

theorem branchOf_concave (jt : JoinType) (tl gd s c : Rat) (h1 : ¬ rabs gd ≤ fpTol)
    (h2 : c > -999 / 1000 ∧ s * gd < 0) : branchOf jt tl gd s c false = .concave := by
  simp only [branchOf, Bool.false_eq_true, if_false, h1, h2, and_self, if_true]

/-- All other joins: the almost-straight shortcut, then the selection by join type. -/
theorem join_branch (jt : JoinType) (tl gd s c : Rat)
    (h1 : ¬ rabs gd ≤ fpTol) (h2 : ¬ (c > -999 / 1000 ∧ s * gd < 0)) :
    branchOf jt tl gd s c false =
      if c > 999 / 1000 ∧ jt ≠ .round then .miter
      else match jt with
        | .miter => if c > tl - 1 then .miter else .square
        | .round => .round
        | .bevel => .bevel
        | .square => .square := by
  unfold branchOf
  simp only [Bool.false_eq_true, if_false, h1, h2]
  cases jt <;> simp

/-- `OffsetPoint` builds the three-point concave join exactly when the vertex is distinct from its
predecessor, delta is significant, `sin_a * group_delta_ < 0` and `cos_a > -0.999`. -/
theorem concave_branch_iff (jt : JoinType) (tl gd s c : Rat) (same : Bool) :
    branchOf jt tl gd s c same = .concave ↔
      (same = false ∧ ¬ rabs gd ≤ fpTol ∧ c > -999 / 1000 ∧ s * gd < 0) := by
  cases same
  · refine ⟨fun h => ?_, fun h => branchOf_concave jt tl gd s c h.2.1 h.2.2⟩
    by_cases h1 : rabs gd ≤ fpTol
    · rw [branchOf_copy jt tl gd s c h1] at h; cases h
    · by_cases h2 : c > -999 / 1000 ∧ s * gd < 0
      · exact ⟨rfl, h1, h2⟩
      · -- none of the remaining joins is the concave one
        rw [join_branch jt tl gd s c h1 h2] at h
        split at h
        · cases h
        · cases jt <;> simp only at h <;> (try split at h) <;> cases h
  · exact ⟨fun h => (nomatch h), fun h => (nomatch h.1)⟩

example : branchOf .miter 1 10 (-1/2) (1/2) false = .concave := by decide +kernel

/-- what the miter branch knows about `cos_a`: the almost-straight shortcut or the miter test -/
theorem branchOf_miter_cond (jt : JoinType) (tl gd s c : Rat) (h : branchOf jt tl gd s c false = .miter) :
    c > 999 / 1000 ∨ c > tl - 1 := by
  by_cases h1 : rabs gd ≤ fpTol
  · rw [branchOf_copy jt tl gd s c h1] at h; cases h
  · by_cases h2 : c > -999 / 1000 ∧ s * gd < 0
    · rw [branchOf_concave jt tl gd s c h1 h2] at h; cases h
    · rw [join_branch jt tl gd s c h1 h2] at h
      split at h
      · rename_i hc; exact Or.inl hc.1
      · cases jt <;> simp only at h
        · cases h
        · cases h
        · cases h
        · split at h
          · rename_i hc; exact Or.inr hc
          · cases h

/-- Pure algebra behind the miter test `cos_a > temp_lim_ - 1` with `temp_lim_ = 2 / ml²`:
for `1 + cos a > 0` it says `2 / (1 + cos a) < ml²`, and `2 / (1 + cos a) = 1 / cos²(a/2)` is the square of
(miter length / delta).  So the miter is used exactly when its length is within the limit. -/
theorem miter_iff_within_limit (c ml : Rat) (hc : 0 < 1 + c) (hm : 0 < ml) :
    c > 2 / (ml * ml) - 1 ↔ 2 / (1 + c) < ml * ml := by
  have hmm : 0 < ml * ml := Rat.mul_pos hm hm
  rw [Rat.div_lt_iff hc]
  constructor
  · intro h
    have h' : 2 / (ml * ml) < 1 + c := by grind
    rw [Rat.div_lt_iff hmm] at h'
    grind
  · intro h
    have h' : 2 / (ml * ml) < 1 + c := by
      rw [Rat.div_lt_iff hmm]; grind
    grind

example : (0 : Rat) < 1 + 1 / 2 ∧ (0 : Rat) < 2 := by decide +kernel

/-- The miter branch of the model in terms of the miter limit (for `miter_limit > 1`, the case in which
`temp_lim_ = 2 / ml²`). -/
theorem miter_branch_iff (prm : Params) (delta gd s c : Rat) (hml : 1 < prm.miterLimit)
    (h1 : ¬ rabs gd ≤ fpTol) (h2 : ¬ (c > -999 / 1000 ∧ s * gd < 0)) (h3 : ¬ c > 999 / 1000) (hc : 0 < 1 + c) :
    branchOf .miter (initSt prm delta).tempLim gd s c false = .miter ↔
      2 / (1 + c) < prm.miterLimit * prm.miterLimit := by
  have hle : ¬ prm.miterLimit ≤ 1 := by grind
  have hm : 0 < prm.miterLimit := by grind
  rw [join_branch _ _ _ _ _ h1 h2]
  simp only [initSt, hle, if_false, ← miter_iff_within_limit c prm.miterLimit hc hm]
  simp [h3]

end Clipper.Props.C06

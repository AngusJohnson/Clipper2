/-
C01 — THE OUTPUT RINGS OF THE EXACT SWEEP SELECT EXACTLY THE REGION  (the crown of C01's model-level story; helpers `Lemmas/C01Crown*.lean`).

It rests on `Props/C01Region` and `Props/C01Output` (all proved, tied to the compiled engine): on every scanline strictly inside a scanbeam the hot
edges delimit `inR ct fr (wind subj p) (wind clip p)` (`scanline_region`); `Spec.wind` around a rational point = Σ `wind_dx` over the input edges
crossing its scanline left of it (`ray_winding`); the decorated events of the exact sweep are accepted by the ring model, every emission lies on
the input edge of its `Active`, the event list is bottom-up, every side of every finished ring lies on ONE input edge.  This file adds (i) the
correspondence between the sides of the FINISHED rings that cross a scanline and the hot edges of that scanline, with directions, and (ii) the
summation of `Spec.crossing` over the ring sides:

 1. `finished_rings_sides_cross_scanline_sum`   the correspondence (i), RAY BY RAY: split the decorated event list at a rational height
        `yn/yd` strictly inside a scanbeam and through no crossing; `ra` = the state of the ring model at that moment.  Its AEL lists exactly the
        input edges crossing the scanline, in left-to-right order ON that scanline (`Lemmas/C01CrownSorted.isect_split_sorted`: the case "between
        two crossings of a scanbeam", which `output_edges_cross_scanline_partial` does not cover); an edge is hot iff it holds a ring end, whose end point
        lies on the edge's input segment BELOW the scanline; the sides alternate front, back, … .  And for EVERY probe `(xn/yd, yn/yd)` on no
        edge: the winding number of the output paths (the rings finished by the END of the sweep, read as `BuildPath64` reads them) around the
        probe equals the signed number of hot edges of `ra` passing RIGHT of the probe, a BACK edge counted `+1` and a FRONT edge `−1`.
        That is the bijection "sides of finished rings crossing the scanline ↔ hot edges of the scanline, a side on a front edge traversed
        upwards, on a back edge downwards (in `BuildPath64` order)" as seen by every horizontal ray; what it does not exclude is a pair of sides at
        the same x traversed in opposite directions (invisible to every winding number);
 2. `output_region`   hence `wind (output paths) p = 1` if `inR ct fr (wind subj p) (wind clip p)` and `= 0` otherwise: the sign convention of the
        engine with `ReverseSolution = false` is `s = +1` in `Spec.wind`'s convention (positive = counter-clockwise with y up = clockwise on
        the screen's y-down axes; outer rings positive, holes negative; a point inside a hole of the region has winding number 0);
 3. `c01_model_level`   the same in the words of C01, with the list of what separates it from the property for the real engine;
 4. `sweep_end_no_ring_open`   a sweep that ends with an empty AEL leaves no ring under construction (counting: twice the live rings = the
        edges owning a ring end), and records emptied by `JoinOutrecPaths` have no points.

HOW (Lemmas/C01Crown*): for an antisymmetric weight `c` of directed segments the ray sum `phi` of all rings (consecutive pairs, plus the closing
pair of a finished ring) changes under `AddOutPt` / ring closing / `JoinOutrecPaths` by the weight of the pair that BECOMES neighbours
(`C01CrownSum`); an event adds exactly the emissions on the edges it touches and leaves every other edge's ring end alone
(`C01CrownStep`); as long as all events lie below the probe's scanline so do all ring points, and nothing counts; above it `phi + pend` is constant, `pend` = what the hot edges whose ring end still
ends below the scanline will contribute when their next point is emitted — a multiple of the crossing number of the INPUT EDGE the `Active`
currently is, because both points lie on it (`C01OutputChain`, `C01CrownGeom`); at the moment of passing, `pend` is the alternating sum over the hot
edges right of the probe (`C01CrownFinal`); at the end the AEL is empty.

HYPOTHESES: `Built.Hyp` / `Built.HypR` (general position at every scanline, no horizontal edge, structural facts; decidable, decided per input by
`SWEEPHYP`), `DenOK` (true for `sweepDen`), `ct ≠ NoClip`, and `rs.s.ael = []` for the final state of the run (decidable by evaluation; it says
that the scanline list ends at the topmost vertex — `HypR.TopStart` is the same statement for the bottom).  `Props/C01Build` derives all but
general position at the scanlines from an input-only precondition.
-/
import ClipperVerif.Lemmas.C01CrownFinal
import ClipperVerif.Props.C01Output
namespace Clipper.Props.C01Crown
open Clipper Clipper.Model Clipper.Model.AelOrder Clipper.Model.SweepOrder Clipper.Model.SweepEvents Clipper.Model.SweepPoints
open Clipper.Lemmas.SweepOrder Clipper.Lemmas.C01Region Clipper.Lemmas.C01Output Clipper.Lemmas.C01Crown
open Clipper.Props.C01Sweep Clipper.Props.C01Region Clipper.Props.C01Output

/-- the winding number of the output paths (coordinates scaled by `D`) around the rational point `(xn/yd, yn/yd)`: `Spec.wind` of the paths scaled
once more by `yd` around the integer point `(D·xn, D·yn)` (`Props/C13Spec.wind_scale`) -/
def windOut (D : Int) (rs : RState) (xn yn yd : Int) : Int :=
  wind ((outputPaths rs).map (fun p => p.map (Pt.scale yd))) ⟨D * xn, D * yn⟩

/-- the signed number of hot edges of the state `ael` (in step with the geometric AEL `es`) that do NOT pass strictly left of the probe: `+1` for an edge
holding a front end, `−1` for a back end (`= Lemmas/C01CrownFinal.rsum`) -/
def hotRight (xn yn yd : Int) (ael : List Model.SEdge) (es : List GEdge) : Int := rsum xn yn yd ael es

/-- **sweep_end_no_ring_open.**  Any event list of `insertPair` (closed), `intersect`, `removePair`, `update` events (`PlainOp`: no join, split or open
path — `sweepEventsP_accepted` proves the derived list is one) accepted from the empty state: in every state reached
`2 · (rings under construction) = (edges owning a ring end)`; so if the AEL is empty at the end, every record is either FINISHED or was emptied
by `JoinOutrecPaths` and has no points: `outputPaths` misses nothing. -/
theorem sweep_end_no_ring_open (cfg : Cfg) (hct : cfg.ct ≠ .noClip) (ops : List ROp) (rs : RState) (hop : ∀ op ∈ ops, PlainOp op)
    (hr : runR cfg RState.empty ops = .ok rs) :
    2 * liveN rs.o = hotN rs.s.ael ∧ (rs.s.ael = [] → ∀ g ∈ rs.o.rings, g.stat = .done ∨ g.pts = []) :=
  ⟨bal_reach cfg hct ops rs hop hr, sweep_end_clean cfg hct ops rs hop hr⟩

/-- The decorated event list of `build (subj ++ clip)` splits at every height `yn/yd` strictly inside a scanbeam, crossing heights
included (`Lemmas/C01CrownFinal.crown_main`; the events of `B` at the height can only be crossings of that scanbeam), and if the sweep ends with an
empty AEL the winding number of the output paths around a probe on no edge is minus the ray sum of all rings
(`Lemmas/C01CrownGeom.wind_output`), which the split evaluates (`ScanSplit.ray`); `Props/C01Region.ray_winding` turns the label sums of
the edges left of the probe into the winding numbers of the input paths. -/
theorem split_built (subj clip : Paths) (cfg : Cfg) (hct : cfg.ct ≠ .noClip) (cx : GEdge → Int → Int)
    (hn : Near cx) (info : GEdge → OInfo) (h : (build (subj ++ clip)).Hyp (validGen cx info))
    (hR : Built.HypR (build (subj ++ clip)) (labOf subj clip)) (D : Int) (hD : DenOK D (builtDens subj clip cx info))
    (pre : List BeamRunP) (r : BeamRunP) (post : List BeamRunP)
    (hruns : beamRunsP D (validGen cx info) cx (build (subj ++ clip)).next (build (subj ++ clip)).mins (labOf subj clip) []
      (build (subj ++ clip)).ys = pre ++ r :: post)
    (yn yd : Int) (hd : 0 < yd) (hlo : r.snap.y1 * yd < yn) (hhi : yn < r.snap.y0 * yd) :
    ∃ (rs ra : RState) (A B : List ROp) (es aelEnd : List GEdge),
      ScanSplit cfg D (build (subj ++ clip)).edges (labOf subj clip) (builtEventsP D subj clip cx info) r.snap.inserted yn yd
        rs ra A B es aelEnd ∧ (∀ op ∈ B, op ∈ r.evIsect ∨ op.pt.y * yd < D * yn) ∧
      (rs.s.ael = [] → ∀ xn : Int, (∀ e ∈ r.snap.inserted, ¬ onEdgeLine e xn yn yd) →
        windOut D rs xn yn yd = -rsum xn yn yd ra.s.ael es ∧
        windOut D rs xn yn yd = if inR cfg.ct cfg.fr (windQ subj xn yn yd) (windQ clip xn yn yd) then 1 else 0) := by
  obtain ⟨rs, ra, A, B, es, aelEnd, S, hB⟩ :=
    crown_main cfg hct D _ (validGen cx info) cx _ _ (labOf subj clip) _ h.1 h.2.2.1 hn h.2.2.2 hR hD pre r post hruns yn yd hd hlo hhi
  refine ⟨rs, ra, A, B, es, aelEnd, S, hB, fun hend xn hoff => ?_⟩
  have hS := sweepP_empty cfg hct D _ (validGen cx info) cx _ _ (labOf subj clip) _ h.1 h.2.2.1 hn h.2.2.2 hR hD
  obtain ⟨_, _, _, _, _, _, _, _, _, _, _, hf, _⟩ := hS.beams pre r post hruns
  obtain ⟨hal, hvt⟩ := beam_alive hf hd hlo hhi
  obtain ⟨e1, e2⟩ := S.ray hct hD.1 hd hR.1 h.1 hal (nodup_of_pairwise_irrefl (ltAbove_irrefl r.snap.y0) hf.sorted) xn hoff
  obtain ⟨wS, wC⟩ := ray_winding subj clip xn yn yd hd hR.1 hvt (fun e he ha => hoff e ((hal e).2 ⟨he, ha⟩))
  have hw : windOut D rs xn yn yd = -phi (crQ D xn yn yd) rs.o :=
    wind_output D xn yn yd rs (sweep_end_clean cfg hct _ rs hS.plainOps S.run hend)
  rw [hend] at e1
  have e1' : phi (crQ D xn yn yd) rs.o = rsum xn yn yd ra.s.ael es := (Int.add_zero _).symm.trans e1
  rw [hw, e1']
  refine ⟨rfl, ?_⟩
  rw [e2, wS, wC, Int.neg_neg]

/-- **finished_rings_sides_cross_scanline_sum.**  `subj`, `clip`: closed paths; hypotheses of `Props/C01Output.output_rings_on_input_edges`
(`Built.Hyp`, `Built.HypR`, `Near cx`, `ct ≠ NoClip`, `DenOK D`).  `r`: a scanbeam of the decorated run, `[y1, y0]` its scanlines; `yn/yd` a rational
height STRICTLY inside it that is the height of NO crossing point of the scanbeam (`hcr`).  Then the decorated event list splits as `A ++ B`, every
event of `A` strictly below the scanline `yn/yd` and every event of `B` strictly above it (heights in coordinates scaled by `D`), and with `ra` the
state of the ring model after `A`, `rs` the state after the whole list, `es` the geometric AEL after `A`:
 (a) `es` is a permutation of the scanbeam's edges — exactly the input edges crossing the scanline (`beam_alive`) — in left-to-right order ON the
     scanline `yn/yd`;
 (b) position by position (`GeoAll`): the geometric edge is an input edge; the `Active` is HOT iff it holds a ring end `(outrec, IsFront)`; the END
     POINT of that ring end lies on the closed input segment of the edge, strictly BELOW the scanline.  So the side of the ring that leaves this end
     point — whichever later event emits its other end, on the same `Active`, hence (`ring_ends_on_edges`) on the same input edge — crosses the
     scanline along that edge; the sides of the hot edges alternate front, back, front, … from the left (`altFrom`);
 (c) THE CORRESPONDENCE, ray by ray: if the AEL is empty at the end of the sweep, then for every `xn` with `(xn/yd, yn/yd)` on no edge of the scanbeam
     the winding number of the OUTPUT PATHS (all rings finished by the end, in `BuildPath64` order) around that point is
         `− hotRight xn yn yd ra.s.ael es`  =  (back edges of `ra` right of the point) − (front edges of `ra` right of the point):
     a ring side on a FRONT edge crosses the scanline UPWARDS (towards smaller y; `Spec.crossing` counts `−1` for it when it is right of the probe),
     one on a BACK edge downwards, and there are no other sides crossing — up to pairs of opposite sides at one x, which no winding number sees. -/
theorem finished_rings_sides_cross_scanline_sum (subj clip : Paths) (cfg : Cfg) (hct : cfg.ct ≠ .noClip) (cx : GEdge → Int → Int)
    (hn : Near cx) (info : GEdge → OInfo) (h : (build (subj ++ clip)).Hyp (validGen cx info))
    (hR : Built.HypR (build (subj ++ clip)) (labOf subj clip)) (D : Int) (hD : DenOK D (builtDens subj clip cx info))
    (pre : List BeamRunP) (r : BeamRunP) (post : List BeamRunP)
    (hruns : beamRunsP D (validGen cx info) cx (build (subj ++ clip)).next (build (subj ++ clip)).mins (labOf subj clip) []
      (build (subj ++ clip)).ys = pre ++ r :: post)
    (yn yd : Int) (hd : 0 < yd) (hlo : r.snap.y1 * yd < yn) (hhi : yn < r.snap.y0 * yd)
    (hcr : ∀ op ∈ r.evIsect, op.pt.y * yd ≠ D * yn) :
    ∃ (rs ra : RState) (A B : List ROp) (es : List GEdge),
      builtEventsP D subj clip cx info = A ++ B ∧
      runR cfg RState.empty A = .ok ra ∧ runR cfg ra B = .ok rs ∧ runR cfg RState.empty (builtEventsP D subj clip cx info) = .ok rs ∧
      (∀ op ∈ A, D * yn < op.pt.y * yd) ∧ (∀ op ∈ B, op.pt.y * yd < D * yn) ∧
      es.Perm r.snap.inserted ∧ es.Pairwise (fun u v => leAt yn yd u v = true) ∧
      GeoAll (fun x e => e ∈ (build (subj ++ clip)).edges ∧ x.e.hot = x.orec.isSome ∧
        ∀ k, x.orec = some k → ∃ p, endOf ra.o k = some p ∧ OnE D e p ∧ D * yn < p.y * yd) ra.s.ael es ∧
      altFrom true ra.s.ael = true ∧
      (rs.s.ael = [] → ∀ xn : Int, (∀ e ∈ r.snap.inserted, ¬ onEdgeLine e xn yn yd) →
        windOut D rs xn yn yd = -hotRight xn yn yd ra.s.ael es) := by
  obtain ⟨rs, ra, A, B, es, aelEnd, S, hB, hw⟩ := split_built subj clip cfg hct cx hn info h hR D hD pre r post hruns yn yd hd hlo hhi
  obtain ⟨hre, hP, hG, _, hbel⟩ := S.state hct hD.1 hd
  obtain ⟨hhot, halt⟩ := plain_hot hct hre hP
  obtain ⟨hO, _, _⟩ := reach_facts hct hre
  refine ⟨rs, ra, A, B, es, S.events, S.runA, S.runB, S.run, S.below,
    fun op hop => (hB op hop).elim (fun hi => Int.lt_iff_le_and_ne.2 ⟨S.above op hop, hcr op hi⟩) id, S.perm, S.sorted, ?_, halt,
    fun hend xn hoff => (hw hend xn hoff).1⟩
  refine geoAll_mono _ _ (fun x hx e hh => ⟨hh.1, (hhot x hx).2, fun k hk => ?_⟩) hG
  obtain ⟨p, hp⟩ := endAt_some_of_live (hO.hot x hx k hk) k.front
  exact ⟨p, hp, hh.2 k p hk hp, (level_iff D yn yd hd _).1 (ptsBelow_endOf hbel hp)⟩

/-- **output_region.**  Same hypotheses.  For every scanbeam `r` of the exact sweep, every rational height `yn/yd` strictly inside it that is the
height of no crossing point of the scanbeam, and every `xn` with `(xn/yd, yn/yd)` on no input edge: if the sweep ends with an empty AEL, the winding
number of the OUTPUT PATHS — the rings of the exact sweep finished by its end, read as `BuildPath64` does for `ReverseSolution = false` — around
the point is

        `1`  if  `inR ct fr (wind subj p) (wind clip p)`,        `0`  otherwise.

In particular it is `0` or `s = +1` (the orientation convention of the engine: in `Spec.wind`'s convention, positive = counter-clockwise with y up,
outer rings wind `+1` and holes `−1`), and it is non-zero exactly on the region the fill rule and the clip type select.
The proof does not use `hcr`: `split_built` holds at crossing heights too. -/
theorem output_region (subj clip : Paths) (cfg : Cfg) (hct : cfg.ct ≠ .noClip) (cx : GEdge → Int → Int)
    (hn : Near cx) (info : GEdge → OInfo) (h : (build (subj ++ clip)).Hyp (validGen cx info))
    (hR : Built.HypR (build (subj ++ clip)) (labOf subj clip)) (D : Int) (hD : DenOK D (builtDens subj clip cx info))
    (pre : List BeamRunP) (r : BeamRunP) (post : List BeamRunP)
    (hruns : beamRunsP D (validGen cx info) cx (build (subj ++ clip)).next (build (subj ++ clip)).mins (labOf subj clip) []
      (build (subj ++ clip)).ys = pre ++ r :: post)
    (yn yd : Int) (hd : 0 < yd) (hlo : r.snap.y1 * yd < yn) (hhi : yn < r.snap.y0 * yd)
    (hcr : ∀ op ∈ r.evIsect, op.pt.y * yd ≠ D * yn) :
    ∃ rs, runR cfg RState.empty (builtEventsP D subj clip cx info) = .ok rs ∧
      (rs.s.ael = [] → ∀ xn : Int, (∀ e ∈ r.snap.inserted, ¬ onEdgeLine e xn yn yd) →
        windOut D rs xn yn yd = if inR cfg.ct cfg.fr (windQ subj xn yn yd) (windQ clip xn yn yd) then 1 else 0) := by
  obtain ⟨rs, ra, A, B, es, aelEnd, S, _, hw⟩ := split_built subj clip cfg hct cx hn info h hR D hD pre r post hruns yn yd hd hlo hhi
  exact ⟨rs, S.run, fun hend xn hoff => (hw hend xn hoff).2⟩

/-- **c01_model_level — C01 for the exact sweep.**  Inputs: closed paths `subj`, `clip` satisfying `Built.Hyp` / `Built.HypR` (no horizontal edge, general
position at every scanline, the structural facts); every clip type but NoClip, every fill rule.  `rs`: the state of the ring model after the whole
decorated event list of the exact sweep (it exists: `sweepEventsP_accepted`), its AEL empty.  Then AT EVERY RATIONAL POINT `p = (xn/yd, yn/yd)` whose
height lies strictly inside a scanbeam (so it is no scanline), is the height of no crossing point of that scanbeam, and which lies on no input edge:

        the output paths wind around `p` exactly `0` or `1` times,   and   `wind (output) p ≠ 0  ⟺  inR ct fr (wind subj p) (wind clip p)`.

The exact output rings select exactly the region C01 defines.

WHAT SEPARATES THIS FROM C01 FOR THE REAL ENGINE (each item tied or judged elsewhere, none proved here):
 * ROUNDING: the engine stores every crossing point rounded to integers; its rings have the same structure as the exact rings and every vertex
   within 1 unit of the exact one (`SWEEPRINGS`, per input) — whence C01's tolerance band of 2 units around the boundary; that the region of the
   rounded rings differs from the region of the exact rings only inside that band is not a theorem;
 * `CleanCollinear` / `FixSelfIntersects` / `BuildPath64` (C03: shape theorems; that they keep the region is judged by `REGIONS`, not proved);
 * HORIZONTAL EDGES (`Props/C01Horz` proves the ORDER of the AEL through `DoHorizontal`; points on scanlines that carry horizontal edges and the
   rings through horizontal runs are outside), JOINS (`join_with`, horizontal joins: do not occur in the derived run), open paths (C05);
 * the HEIGHTS EXCLUDED: scanlines and crossing heights (finitely many; the region of a polygon set is determined by its restriction to the other
   heights up to its boundary; crossing heights are excluded by the statement only, the proof does not use `hcr`), points on input edges;
 * the hypotheses `Built.Hyp` / `Built.HypR` / `rs.s.ael = []` are hypotheses HERE; `Props/C01Build` proves them of `build` from the input-only
   precondition `InputGP` plus `GPAll` (`c01_model_level_reduced`); inputs not in general position
   (coincident vertices, collinear overlapping edges, vertices on edges) are outside;
 * the tie of the decorated event list to the engine is by replay (`SWEEPORDER`, `SWEEPHOT`, `SWEEPRINGS`), |coord| ≤ 2^24. -/
theorem c01_model_level (subj clip : Paths) (cfg : Cfg) (hct : cfg.ct ≠ .noClip) (cx : GEdge → Int → Int)
    (hn : Near cx) (info : GEdge → OInfo) (h : (build (subj ++ clip)).Hyp (validGen cx info))
    (hR : Built.HypR (build (subj ++ clip)) (labOf subj clip)) (D : Int) (hD : DenOK D (builtDens subj clip cx info))
    (rs : RState) (hrs : runR cfg RState.empty (builtEventsP D subj clip cx info) = .ok rs) (hend : rs.s.ael = [])
    (pre : List BeamRunP) (r : BeamRunP) (post : List BeamRunP)
    (hruns : beamRunsP D (validGen cx info) cx (build (subj ++ clip)).next (build (subj ++ clip)).mins (labOf subj clip) []
      (build (subj ++ clip)).ys = pre ++ r :: post)
    (xn yn yd : Int) (hd : 0 < yd) (hlo : r.snap.y1 * yd < yn) (hhi : yn < r.snap.y0 * yd)
    (hcr : ∀ op ∈ r.evIsect, op.pt.y * yd ≠ D * yn) (hoff : ∀ e ∈ r.snap.inserted, ¬ onEdgeLine e xn yn yd) :
    (windOut D rs xn yn yd = 0 ∨ windOut D rs xn yn yd = 1) ∧
    (windOut D rs xn yn yd ≠ 0 ↔ inR cfg.ct cfg.fr (windQ subj xn yn yd) (windQ clip xn yn yd) = true) := by
  obtain ⟨rs', h1, h2⟩ := output_region subj clip cfg hct cx hn info h hR D hD pre r post hruns yn yd hd hlo hhi hcr
  rw [hrs] at h1
  cases h1
  have := h2 hend xn hoff
  rw [this]
  by_cases hin : inR cfg.ct cfg.fr (windQ subj xn yn yd) (windQ clip xn yn yd) = true <;> simp [hin]

/- The test input, the two crossing triangles of `Props/C01Output`, probed on the scanline `y = 59/2`:
`A = (0,40) (30,3) (-30,11)` (subject) and `B = (-10,33) (-31,0) (34,20)` (clip); `D = 36351017860465560`.  The scanline `59/2` lies strictly inside the
second scanbeam `[20, 33]`, between its crossings (heights 32.4, 26.9, 26.1 …): a height `Props/C01Output.output_edges_cross_scanline_partial` does not cover. -/

private def triA : Path := [⟨0, 40⟩, ⟨30, 3⟩, ⟨-30, 11⟩]
private def triB : Path := [⟨-10, 33⟩, ⟨-31, 0⟩, ⟨34, 20⟩]
private def triD : Int := 36351017860465560

private theorem tri_hyp : (build ([triA] ++ [triB])).Hyp (validGen rhe default) := C01Output.triangles_hyp
private theorem tri_hypR : Built.HypR (build ([triA] ++ [triB])) (labOf [triA] [triB]) := C01Output.triangles_hypR
private theorem tri_den : DenOK triD (builtDens [triA] [triB] rhe default) := triangles_den

private def triRuns : List BeamRunP :=
  beamRunsP triD (validGen rhe default) rhe (build ([triA] ++ [triB])).next (build ([triA] ++ [triB])).mins (labOf [triA] [triB]) []
    (build ([triA] ++ [triB])).ys

private theorem tri_split : triRuns = triRuns.take 1 ++ triRuns.getD 1 default :: triRuns.drop 2 :=
  split_at triRuns 1 (by decide +kernel)

/-- the scanline `59/2` is strictly inside the second scanbeam and through none of its crossing points -/
private theorem tri_inside : (triRuns.getD 1 default).snap.y1 * 2 < 59 ∧ 59 < (triRuns.getD 1 default).snap.y0 * 2 ∧
    ∀ op ∈ (triRuns.getD 1 default).evIsect, op.pt.y * 2 ≠ triD * 59 := by decide +kernel

/-- the final AEL is empty (Union, Intersection) -/
private theorem tri_end (cfg : Cfg) (hc : cfg = ⟨.union, .nonZero⟩ ∨ cfg = ⟨.intersection, .nonZero⟩) (rs : RState)
    (h : runR cfg RState.empty (builtEventsP triD [triA] [triB] rhe default) = .ok rs) : rs.s.ael = [] := by
  have key : ∀ c : Cfg, (c = ⟨.union, .nonZero⟩ ∨ c = ⟨.intersection, .nonZero⟩) →
      (match runR c RState.empty (builtEventsP triD [triA] [triB] rhe default) with
       | .ok rs => rs.s.ael.length | .error _ => 1) = 0 := by
    intro c hc'
    rcases hc' with rfl | rfl <;> decide +kernel
  have := key cfg hc
  rw [h] at this
  exact List.length_eq_zero_iff.1 this

/-- **`output_region` applies to the two triangles** (UNION): at EVERY point of the scanline `y = 59/2` that is on no edge, the exact output ring winds
`1` around it if `inR` holds and `0` otherwise — a theorem's instance, where `Props/C01Output` had an evaluation at 40 points -/
example : ∃ rs, runR ⟨.union, .nonZero⟩ RState.empty (builtEventsP triD [triA] [triB] rhe default) = .ok rs ∧
    ∀ xn : Int, (∀ e ∈ (triRuns.getD 1 default).snap.inserted, ¬ onEdgeLine e xn 59 2) →
      windOut triD rs xn 59 2 = if inR .union .nonZero (windQ [triA] xn 59 2) (windQ [triB] xn 59 2) then 1 else 0 := by
  obtain ⟨rs, h1, h2⟩ := output_region [triA] [triB] ⟨.union, .nonZero⟩ (by decide) rhe rhe_near default tri_hyp tri_hypR triD tri_den
    _ _ _ tri_split 59 2 (by decide) tri_inside.1 tri_inside.2.1 tri_inside.2.2
  exact ⟨rs, h1, h2 (tri_end _ (Or.inl rfl) rs h1)⟩

/-- … and INTERSECTION -/
example : ∃ rs, runR ⟨.intersection, .nonZero⟩ RState.empty (builtEventsP triD [triA] [triB] rhe default) = .ok rs ∧
    ∀ xn : Int, (∀ e ∈ (triRuns.getD 1 default).snap.inserted, ¬ onEdgeLine e xn 59 2) →
      windOut triD rs xn 59 2 = if inR .intersection .nonZero (windQ [triA] xn 59 2) (windQ [triB] xn 59 2) then 1 else 0 := by
  obtain ⟨rs, h1, h2⟩ := output_region [triA] [triB] ⟨.intersection, .nonZero⟩ (by decide) rhe rhe_near default tri_hyp tri_hypR triD tri_den
    _ _ _ tri_split 59 2 (by decide) tri_inside.1 tri_inside.2.1 tri_inside.2.2
  exact ⟨rs, h1, h2 (tri_end _ (Or.inr rfl) rs h1)⟩

/-- a concrete point: `(1/2, 59/2)` is on no edge, inside the union and inside the intersection; the theorem gives winding number 1 of the exact
output — compare the evaluation in `Props/C01Output` -/
example : (∀ e ∈ (triRuns.getD 1 default).snap.inserted, ¬ onEdgeLine e 1 59 2) ∧
    inR .union .nonZero (windQ [triA] 1 59 2) (windQ [triB] 1 59 2) = true ∧
    inR .intersection .nonZero (windQ [triA] 1 59 2) (windQ [triB] 1 59 2) = true := by decide +kernel

/-- `finished_rings_sides_cross_scanline_sum` applies (its hypotheses are satisfiable), and `c01_model_level` at the point `(1/2, 59/2)`:
the exact union ring winds once around it -/
example : ∃ rs, runR ⟨.union, .nonZero⟩ RState.empty (builtEventsP triD [triA] [triB] rhe default) = .ok rs ∧ windOut triD rs 1 59 2 = 1 := by
  obtain ⟨⟨rs, hrs⟩, _, _⟩ := sweepEventsP_accepted ⟨.union, .nonZero⟩ (by decide) triD _ (validGen rhe default) rhe _ _ (labOf [triA] [triB]) _
    tri_hyp.1 tri_hyp.2.2.1 rhe_near tri_hyp.2.2.2 tri_hypR tri_den
  have hpt : (∀ e ∈ (triRuns.getD 1 default).snap.inserted, ¬ onEdgeLine e 1 59 2) ∧
      inR .union .nonZero (windQ [triA] 1 59 2) (windQ [triB] 1 59 2) = true := by decide +kernel
  obtain ⟨h01, hiff⟩ := c01_model_level [triA] [triB] ⟨.union, .nonZero⟩ (by decide) rhe rhe_near default tri_hyp tri_hypR triD tri_den rs hrs
    (tri_end _ (Or.inl rfl) rs hrs) _ _ _ tri_split 1 59 2 (by decide) tri_inside.1 tri_inside.2.1 tri_inside.2.2 hpt.1
  refine ⟨rs, hrs, ?_⟩
  rcases h01 with h0 | h1
  · exact absurd h0 (hiff.2 hpt.2)
  · exact h1

end Clipper.Props.C01Crown

/-
C12 — Results depend only on the current inputs, not on an object's history.

Models: `Model/History.lean` (ClipperBase as a state machine, the sweep a parameter), `Model/OffsetState.lean`
(frame of ClipperOffset::ExecuteInternal/DoGroupOffset), `Model/RectClipFrame.lean` (per-path frame of
RectClip64::Execute).  The correspondence harness `harness/C12.cpp` replays every history on the real object and
compares its private members with `History` (`HISTREPLAY`), and the final frame members of a real ClipperOffset with
`OffsetState` (`OFFFRAME`).
`Model/HistoryPaths.lean`: the same histories with add calls that carry *paths* (`POp`); `lower` turns such a history into
a member-level one, the minima of each add call being computed by the model of `AddPaths_` (`Model/AddPathsRings.lean`,
compared bit for bit with the real vertex array by `harness/AddPaths.cpp`), and `pinputsOf` is the summary computed from
the paths alone.  `HISTREPLAY` sends the paths and compares the real `minima_list_` element by element after every op,
so what the harness compares is this composed model.
-/
import ClipperVerif.Generated.Engine
import ClipperVerif.Lemmas.History
import ClipperVerif.Lemmas.HistoryPaths
import ClipperVerif.Model.OffsetState
import ClipperVerif.Model.RectClipFrame
namespace Clipper.Props.C12
open Clipper Clipper.Model.History Clipper.Lemmas.History

/-- `std::stable_sort` of an already sorted prefix followed by new elements is the stable sort of everything:
re-sorting `minima_list_` after further `AddPaths` calls gives what sorting once at the end gives. -/
theorem stableSort_append_sorted (xs ys : List LocalMin) :
    (stableSort xs ++ ys).mergeSort locMinLe = (xs ++ ys).mergeSort locMinLe :=
  stableSort_append xs ys

/-- `LocMinSorter` induces a total preorder (what `std::stable_sort` requires of its comparator). -/
theorem locMinSorter_total_preorder :
    (∀ a b c, locMinLe a b = true → locMinLe b c = true → locMinLe a c = true) ∧ (∀ a b, (locMinLe a b || locMinLe b a) = true) :=
  ⟨locMinLe_trans, locMinLe_total⟩

/-- After every public call of every history — whatever the sweep left in the per-execution members — the containers
`actives_`, `scanline_list_`, `intersect_nodes_`, `outrec_list_`, `horz_seg_list_`, `horz_join_list_` are empty.
(Each of the six is emptied by `CleanUp`; dropping one of the six statements from the model of `CleanUp` makes the
`execute` case of `inv_step` fail, because `run` is arbitrary.) -/
theorem scratch_empty_after {R : Type} (run : Sweep R) (ops : List Op) : (after run ops).s.cleaned :=
  (inv_after run ops).cleaned

/-- `sel_` is not touched by `CleanUp`: it is null after every call because every exit of the sweep loop drains it
(hypothesis `SweepDrainsSel`, a reading of `ExecuteInternal`/`PopHorz`; checked on the real object after every op). -/
theorem sel_empty_after {R : Type} (run : Sweep R) (hsel : SweepDrainsSel run) (ops : List Op) : (after run ops).s.sel = [] :=
  sel_foldl run hsel ops rfl

/-- The remaining per-execution members (`current_locmin_iter_`, `succeeded_`, `actives_`, `sel_`, the scanline queue)
at the moment the sweep starts, for every history: `Reset()` produces exactly the closed-form state `sweepStart`, which
mentions nothing but the minima added since the last `Clear` (stably sorted), the flags they set and the current
options; only `bot_y_` is stale. -/
theorem sweep_start_state {R : Type} (run : Sweep R) (pre : List Op) (ct : ClipType) (fr : FillRule) (tree : Bool) :
    reset { after run pre with cliptype := ct, fillrule := fr, usingPolytree := tree }
      = { sweepStart (inputsOf pre) ct fr tree with
            s := { (sweepStart (inputsOf pre) ct fr tree).s with botY := (after run pre).s.botY } } :=
  reset_eq_sweepStart (inv_after run pre) ct fr tree

/-- what `Execute(ct, fr, tree)` returns on inputs `i`: the sweep's result and `succeeded_` -/
def sweepResult {R : Type} (run : Sweep R) (i : Inputs) (ct : ClipType) (fr : FillRule) (tree : Bool) : R × Bool :=
  ((run (sweepStart i ct fr tree)).result, (run (sweepStart i ct fr tree)).succeeded)

theorem execute_after {R : Type} (run : Sweep R) (hbot : SweepIgnoresBotY run) (pre : List Op)
    (ct : ClipType) (fr : FillRule) (tree : Bool) :
    (execute run (after run pre) ct fr tree).1 = sweepResult run (inputsOf pre) ct fr tree := by
  have h := sweep_start_state run pre ct fr tree
  simp only [execute, sweepResult, cleanUp]
  rw [h]
  have := hbot (sweepStart (inputsOf pre) ct fr tree) (after run pre).s.botY
  exact Prod.ext this.1 this.2

/-- **For every history and every Execute in it**, the value returned is `run` on the stably sorted minima added since
the last `Clear`, with the current options — position `pre.length` of the outputs of `pre ++ Execute :: post`. -/
theorem execute_eq_fresh {R : Type} (run : Sweep R) (hbot : SweepIgnoresBotY run) (pre post : List Op)
    (ct : ClipType) (fr : FillRule) (tree : Bool) :
    (runHist run (pre ++ Op.execute ct fr tree :: post)).2[pre.length]? =
      some (some (sweepResult run (inputsOf pre) ct fr tree)) := by
  unfold runHist
  rw [runFrom_append]
  rw [List.getElem?_append_right (by rw [runFrom_length]; exact Nat.le_refl _)]
  rw [runFrom_length, Nat.sub_self, runFrom_fst]
  have := execute_after run hbot pre ct fr tree
  unfold after at this
  exact congrArg (fun x => some (some x)) this

/-- Two histories with the same inputs (same minima since their last `Clear`, same flags, same options) return the
same value from the same Execute — whatever else happened in them (other executions, earlier clears, option flips). -/
theorem execute_history_independent {R : Type} (run : Sweep R) (hbot : SweepIgnoresBotY run) (h₁ h₂ : List Op)
    (hin : inputsOf h₁ = inputsOf h₂) (ct : ClipType) (fr : FillRule) (tree : Bool) :
    (execute run (after run h₁) ct fr tree).1 = (execute run (after run h₂) ct fr tree).1 := by
  rw [execute_after run hbot, execute_after run hbot, hin]

def Op.isAdd : Op → Bool
  | .addSubject _ | .addOpenSubject _ | .addClip _ | .addReuseable _ => true
  | _ => false

/-- the add calls since the last `Clear` -/
def sinceClear (ops : List Op) : List Op :=
  ops.foldl (fun acc op => match op with | .clear => [] | op => if Op.isAdd op then acc ++ [op] else acc) []

/-- what one does with a new object to reproduce the current inputs: set the two options, repeat the add calls -/
def replayOf (ops : List Op) : List Op :=
  [.setPreserve (inputsOf ops).preserve, .setReverse (inputsOf ops).reverse] ++ sinceClear ops

/-- an add call does not read the options -/
theorem step_add_opts (i : Inputs) (op : Op) (p r : Bool) (h : Op.isAdd op = true) :
    { i.step op with preserve := p, reverse := r } = Inputs.step { i with preserve := p, reverse := r } op := by
  cases op with
  | addSubject _ | addOpenSubject _ | addClip _ | addReuseable _ => rfl
  | _ => exact Bool.noConfusion h

/-- what is neither an add call nor `Clear` changes nothing but the options -/
theorem step_other_opts (i : Inputs) (op : Op) (p r : Bool) (h : Op.isAdd op = false) (hc : op ≠ .clear) :
    { i.step op with preserve := p, reverse := r } = { i with preserve := p, reverse := r } := by
  cases op with
  | clear => exact absurd rfl hc
  | setPreserve _ | setReverse _ | execute _ _ _ => rfl
  | _ => exact Bool.noConfusion h

private theorem sinceStep_ne_clear (acc : List Op) (op : Op) : op ≠ .clear →
    (match op with | .clear => [] | op => if Op.isAdd op then acc ++ [op] else acc) = if Op.isAdd op then acc ++ [op] else acc := by
  cases op with
  | clear => exact fun hc => absurd rfl hc
  | _ => exact fun _ => rfl

/-- options aside, the inputs are those of the add calls since the last `Clear` -/
theorem inputsOf_closed (ops : List Op) (p r : Bool) :
    { inputsOf ops with preserve := p, reverse := r } = (sinceClear ops).foldl Inputs.step { preserve := p, reverse := r } :=
  (sinceClear_fold (step := Inputs.step) (opts := fun (i : Inputs) p r => { i with preserve := p, reverse := r }) (e := {})
    (fun _ _ _ => rfl) step_add_opts step_other_opts (fun _ => rfl) sinceStep_ne_clear ops {} [] (fun _ _ => rfl)) p r

/-- replaying the adds since the last Clear, with the current options, on a new object reproduces the inputs -/
theorem inputsOf_replay (ops : List Op) : inputsOf (replayOf ops) = inputsOf ops :=
  (inputsOf_closed ops _ _).symm

/-- **A used object returns what a freshly constructed one returns** when the fresh one is given the current options
and the paths added since the last `Clear` (in the same order of calls). -/
theorem used_eq_fresh_replay {R : Type} (run : Sweep R) (hbot : SweepIgnoresBotY run) (pre : List Op)
    (ct : ClipType) (fr : FillRule) (tree : Bool) :
    (execute run (after run pre) ct fr tree).1 = (execute run (after run (replayOf pre)) ct fr tree).1 :=
  execute_history_independent run hbot _ _ (inputsOf_replay pre).symm ct fr tree

/-- `AddReuseableData` calls append the containers' minima and accumulate `has_open_paths_`; no vertex array is owned -/
private theorem fold_reuseable (rs : List Container) (i : Inputs) :
    (rs.map Op.addReuseable).foldl Inputs.step i =
      { i with minima := i.minima ++ rs.flatMap (·.minima), hasOpen := i.hasOpen || rs.any (fun r => r.minima.any (·.isOpen)) } := by
  induction rs generalizing i with
  | nil => simp
  | cons r rs ih =>
    rw [List.map_cons, List.foldl_cons, ih]
    simp [Inputs.step, Op.minima, Op.setsOpen, Op.allocs, Bool.or_assoc]

/-- Clippers fed from the same containers (whatever else their histories contain) sort to the same minima — the same
`vid`s, i.e. the very same vertices — own no vertex array on behalf of the containers, and return the same values.
In the model a container is a value no op returns, so no op can write it; on the real code the harness compares the
containers' vertices, flags and minima before and after all histories. -/
theorem reuseable_shared {R : Type} (run : Sweep R) (hbot : SweepIgnoresBotY run) (rs : List Container) (h₁ h₂ : List Op)
    (e₁ : sinceClear h₁ = rs.map Op.addReuseable) (e₂ : sinceClear h₂ = rs.map Op.addReuseable)
    (ho : (inputsOf h₁).preserve = (inputsOf h₂).preserve ∧ (inputsOf h₁).reverse = (inputsOf h₂).reverse)
    (ct : ClipType) (fr : FillRule) (tree : Bool) :
    (sweepStart (inputsOf h₁) ct fr tree).minima = stableSort (rs.flatMap (·.minima)) ∧
    (sweepStart (inputsOf h₁) ct fr tree).vertexLists = 0 ∧
    (execute run (after run h₁) ct fr tree).1 = (execute run (after run h₂) ct fr tree).1 := by
  have key : ∀ h, sinceClear h = rs.map Op.addReuseable → inputsOf h =
      { minima := rs.flatMap (·.minima), hasOpen := rs.any (fun r => r.minima.any (·.isOpen)),
        preserve := (inputsOf h).preserve, reverse := (inputsOf h).reverse } := by
    intro h e
    have := inputsOf_closed h (inputsOf h).preserve (inputsOf h).reverse
    rwa [e, fold_reuseable] at this
  have k1 := key h₁ e₁
  refine ⟨by rw [k1]; rfl, by rw [k1]; rfl, execute_history_independent run hbot _ _ ?_ ct fr tree⟩
  rw [k1, key h₂ e₂, ho.1, ho.2]

section Paths
open Clipper.Model.HistoryPaths Clipper.Lemmas.HistoryPaths
open Clipper.Lemmas.AddPathsRings (MinV minimaV)
open Clipper.Props.C13AddPaths (toHist leV mergeSort_leV_perm)

/-- **For every path-level history and every Execute in it**, the value returned is `run` on the object `sweepStart` of
the inputs computed from the paths added since the last `Clear` (their minima by `AddPaths_`, stably sorted) and the current
options — position `pre.length` of the outputs of `pre ++ Execute :: post`.  (`execute_eq_fresh` is the member-level
statement this is an instance of.) -/
theorem execute_eq_fresh_paths {R : Type} (run : Sweep R) (hbot : SweepIgnoresBotY run) (pre post : List POp)
    (ct : ClipType) (fr : FillRule) (tree : Bool) :
    (runHist run (lower (pre ++ POp.execute ct fr tree :: post))).2[pre.length]? =
      some (some (sweepResult run (pinputsOf pre) ct fr tree)) := by
  unfold lower
  rw [lowerFrom_append]
  simp only [lowerFrom, lowerOp]
  have h := execute_eq_fresh run hbot (lowerFrom 0 pre) (lowerFrom (nextCount (pre.foldl nextCount 0) (POp.execute ct fr tree)) post) ct fr tree
  rw [lowerFrom_length] at h
  rw [h]
  exact congrArg (fun i => some (some (sweepResult run i ct fr tree))) (inputsOf_lower pre)

/-- Two path-level histories with the same inputs return the same value from the same Execute. -/
theorem execute_history_independent_paths {R : Type} (run : Sweep R) (hbot : SweepIgnoresBotY run) (h₁ h₂ : List POp)
    (hin : pinputsOf h₁ = pinputsOf h₂) (ct : ClipType) (fr : FillRule) (tree : Bool) :
    (execute run (after run (lower h₁)) ct fr tree).1 = (execute run (after run (lower h₂)) ct fr tree).1 :=
  execute_history_independent run hbot _ _ (by rw [inputsOf_lower, inputsOf_lower, hin]) ct fr tree

/-- replaying, on a new object, the current options and then the add calls since the last `Clear` *with the same paths*
reproduces the inputs -/
theorem pinputsOf_replay (h : List POp) : pinputsOf (preplayOf h) = pinputsOf h := by
  conv => rhs; rw [pinputsOf_closed h]
  unfold preplayOf
  show List.foldl pstep {} _ = _
  rw [List.foldl_append]
  rfl

/-- **A used object returns what a freshly constructed one returns** when the fresh one is given the current options and
the *paths* added since the last `Clear` (same calls, same order). -/
theorem used_eq_fresh_replay_paths {R : Type} (run : Sweep R) (hbot : SweepIgnoresBotY run) (pre : List POp)
    (ct : ClipType) (fr : FillRule) (tree : Bool) :
    (execute run (after run (lower pre)) ct fr tree).1 = (execute run (after run (lower (preplayOf pre))) ct fr tree).1 :=
  execute_history_independent_paths run hbot _ _ (pinputsOf_replay pre).symm ct fr tree

/-- **Order of the paths within the add calls.**  Let `h'` be `h` with the path list of every add call permuted
(`PermHist`; no `AddReuseableData`), and let the local minima created since the last `Clear` (`minimaVSince h`: each
minimum with its ring, flags and position in the ring, i.e. everything the sweep reaches from the `LocalMinima`) lie at
pairwise distinct points.  Then the objects on which the sweep of an Execute starts after `h` and after `h'` hold the
same sorted list `sorted` of minima-with-rings, each under the name (`vid` = creation number) it has in its own history,
and agree in every other member. -/
theorem execute_path_order_independent (h h' : List POp) (hr : PermHist h h')
    (hnr : ∀ op ∈ h, POp.isReuse op = false)
    (hd : (minimaVSince h).Pairwise (fun a b => a.pt ≠ b.pt))
    (ct : ClipType) (fr : FillRule) (tree : Bool) :
    let s := sweepStart (pinputsOf h) ct fr tree
    let s' := sweepStart (pinputsOf h') ct fr tree
    let sorted := (minimaVSince h).mergeSort leV
    ∃ vid vid' : MinV → Nat,
      (s.minima = sorted.map (toHist vid) ∧ ∀ v ∈ sorted, (minimaVSince h)[vid v]? = some v) ∧
      (s'.minima = sorted.map (toHist vid') ∧ ∀ v ∈ sorted, (minimaVSince h')[vid' v]? = some v) ∧
      { s' with minima := s.minima } = s := by
  intro s s' sorted
  have hnr' := permHist_noReuse hr hnr
  obtain ⟨hperm, hrest⟩ := permHist_inputs hr
  have hd' : (minimaVSince h').Pairwise (fun a b => a.pt ≠ b.pt) := hd.perm hperm (fun hxy e => hxy e.symm)
  have hsort : (minimaVSince h').mergeSort leV = sorted := (mergeSort_leV_perm _ _ hperm hd).symm
  obtain ⟨k1, k2⟩ := sorted_minima_closed h hnr hd
  obtain ⟨k1', k2'⟩ := sorted_minima_closed h' hnr' hd'
  rw [hsort] at k1' k2'
  refine ⟨_, _, ⟨k1, k2⟩, ⟨k1', k2'⟩, ?_⟩
  refine sweepStart_minima hrest ?_ ct fr tree
  rw [k1, k1', List.map_map, List.map_map]
  exact List.map_congr_left (fun v _ => rfl)

/-! non-vacuity of `execute_path_order_independent`: two add calls (subject, clip), each with its two paths in the other
order, an Execute and an option change in between; four minima at distinct points -/
def demoP : List POp :=
  [.addSubject [[⟨0,0⟩, ⟨4,4⟩, ⟨8,0⟩], [⟨20,1⟩, ⟨24,5⟩, ⟨28,1⟩]], .execute .union .nonZero false, .setReverse true,
   .addClip [[⟨2,0⟩, ⟨5,3⟩, ⟨9,0⟩], [⟨30,1⟩, ⟨34,6⟩, ⟨38,1⟩]]]
def demoP' : List POp :=
  [.addSubject [[⟨20,1⟩, ⟨24,5⟩, ⟨28,1⟩], [⟨0,0⟩, ⟨4,4⟩, ⟨8,0⟩]], .execute .union .nonZero false, .setReverse true,
   .addClip [[⟨30,1⟩, ⟨34,6⟩, ⟨38,1⟩], [⟨2,0⟩, ⟨5,3⟩, ⟨9,0⟩]]]
example : PermHist demoP demoP' :=
  .cons (.addSubject (List.Perm.swap _ _ _)) (.cons (.same _) (.cons (.same _) (.cons (.addClip (List.Perm.swap _ _ _)) .nil)))
example : (∀ op ∈ demoP, POp.isReuse op = false) ∧ (minimaVSince demoP).Pairwise (fun a b => a.pt ≠ b.pt) ∧
    (minimaVSince demoP).length = 4 := by decide
/-- the two unsorted minima lists do differ -/
example : (pinputsOf demoP).minima ≠ (pinputsOf demoP').minima := by decide
/-- the minima are computed: an add op carries nothing but paths -/
example : (pinputsOf [.addSubject [[⟨0,0⟩, ⟨4,4⟩, ⟨8,0⟩]], .addClip [[⟨0,5⟩, ⟨3,5⟩, ⟨6,5⟩, ⟨6,0⟩, ⟨0,0⟩]]]).minima
    = [⟨4, 4, .subject, false, 0⟩, ⟨5, 6, .clip, false, 1⟩] := by decide
example : preplayOf demoP = [.setPreserve true, .setReverse true, .addSubject [[⟨0,0⟩, ⟨4,4⟩, ⟨8,0⟩], [⟨20,1⟩, ⟨24,5⟩, ⟨28,1⟩]],
    .addClip [[⟨2,0⟩, ⟨5,3⟩, ⟨9,0⟩], [⟨30,1⟩, ⟨34,6⟩, ⟨38,1⟩]]] := by decide

end Paths

/-! non-vacuity: the hypotheses on the sweep are met by a sweep that does read stale-prone members, and a concrete
history with re-sorting, an intermediate execution and a `Clear` -/

def mA : LocalMin := ⟨100, 0, .subject, false, 0⟩
def mB : LocalMin := ⟨150, 50, .subject, false, 1⟩
def mC : LocalMin := ⟨100, 0, .clip, false, 2⟩     -- same key as mA: stability decides
def demoHistory : List Op :=
  [.addSubject ⟨false, [mB], true⟩, .execute .union .evenOdd true, .clear, .addSubject ⟨false, [mA], true⟩,
   .execute .intersection .nonZero false, .addClip ⟨false, [mB, mC], true⟩, .setReverse true]

/-- a sweep whose result exposes every member it is handed except `bot_y_` -/
def spySweep : Sweep (List LocalMin × List Int × List Nat × Bool × Bool × Bool × Option Nat) := fun c =>
  { result := (c.minima, c.s.scanlines, c.s.actives ++ c.s.sel ++ c.s.outrecs ++ c.s.intersectNodes ++ c.s.horzSegs ++ c.s.horzJoins,
               c.hasOpen, c.preserve, c.reverse, c.locminIter),
    s := { actives := [7], sel := [], scanlines := [5], intersectNodes := [1], outrecs := [2], horzSegs := [3], horzJoins := [4], botY := 99 },
    locminIter := some c.minima.length, succeeded := !c.reverse }

example : SweepIgnoresBotY spySweep := by intro c b; exact ⟨rfl, rfl⟩
example : SweepDrainsSel spySweep := fun _ => rfl
example : inputsOf demoHistory = { minima := [mA, mB, mC], hasOpen := false, allocs := 2, preserve := true, reverse := true } := by decide
example : (sweepStart (inputsOf demoHistory) .union .nonZero false).minima = [mB, mA, mC] := by
  have : inputsOf demoHistory = { minima := [mA, mB, mC], hasOpen := false, allocs := 2, preserve := true, reverse := true } := by decide
  rw [this]
  simp [sweepStart, stableSort, List.mergeSort, List.MergeSort.Internal.splitInTwo, locMinLe, locMinBefore, mA, mB, mC]
example : replayOf demoHistory = [.setPreserve true, .setReverse true, .addSubject ⟨false, [mA], true⟩, .addClip ⟨false, [mB, mC], true⟩] := by decide

/-- hypotheses of `reuseable_shared`: two different histories (one with an earlier Clear, an execution and an option
flipped twice) fed from the same two containers -/
def rA : Container := ⟨[mA, mB]⟩
def rL : Container := ⟨[⟨50, -20, .subject, true, 7⟩]⟩
example : sinceClear [.addSubject ⟨false, [mC], true⟩, .clear, .addReuseable rA, .execute .union .evenOdd false, .addReuseable rL]
    = [rA, rL].map Op.addReuseable := by decide
example : sinceClear [.setReverse true, .addReuseable rA, .addReuseable rL, .setReverse false] = [rA, rL].map Op.addReuseable := by decide

/-- **Tie T for the comparator**: the hand-transcribed `locMinBefore` used by the history model is the definition that
tools/cpp2lean.py regenerates from `LocMinSorter::operator()` on every run.  A change of the comparator in the source
breaks this proof (and, on ties, the `HISTREPLAY` records). -/
theorem lmBefore_is_generated (a b : Clipper.Model.History.LocalMin) :
    Clipper.Model.History.locMinBefore a b = Clipper.Gen.LocMinSorter a.x a.y b.x b.y := by
  unfold Clipper.Model.History.locMinBefore Clipper.Gen.LocMinSorter
  by_cases h : b.y = a.y
  · simp [h]
  · simp [h]

/-- the same for the sort of the intersection list (used by the C10 scan model): descending y, then ascending x -/
theorem intersectListSort_spec (ax ay bx b_y : Int) :
    Clipper.Gen.IntersectListSort ax ay bx b_y = (decide (ay > b_y) || (decide (ay = b_y) && decide (ax < bx))) := by
  unfold Clipper.Gen.IntersectListSort
  by_cases h : ay = b_y
  · simp [h, Int.lt_irrefl]
  · simp [h]

end Clipper.Props.C12

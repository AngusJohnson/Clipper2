/-
C20 — path utilities keep their contracts.  Theorems about the models in `Model/PathUtil.lean`
(tied to the C++ by the bit-exact correspondence of `harness/C20.cpp`).  Helper lemmas live in
`Lemmas/{PathUtil,TrimArea,TrimCorners,Strip,Simplify,SimplifyFix}.lean`.  `isCollinear` inside the models is the
definition generated from the source (`Gen.IsCollinear`), used through `Props.C18.isCollinear_int128_exact`.
The doubles that RDP/SimplifyPath only compare are a parameter (`DistOps`); what the theorems assume about them is
stated as hypotheses (`DistLaws`, ...); `intOps` shows the hypotheses are satisfiable, `ratOps` (exact rational
distances) evaluates the two counterexamples.

One clause of the property is FALSE for the code as it is (proved on the faithful model, witnessed on the real code by
the harness record `kf.simplify-open-huge-eps`):
  * `simplify_keeps_ends_false` — SimplifyPath on an open path when `Sqr(epsilon) >= MAX_DBL`.
(The RamerDouglasPeucker defect for `path.front() == path.back()` was repaired in /repo, commit 890f843; `rdp_eps` and
`rdp_keeps_ends` are now full theorems and the old witness is the regression example `rdpWitness`.)
-/
import ClipperVerif.Lemmas.PathUtil
import ClipperVerif.Lemmas.TrimArea
import ClipperVerif.Lemmas.TrimCorners
import ClipperVerif.Lemmas.Strip
import ClipperVerif.Lemmas.Simplify
import ClipperVerif.Lemmas.SimplifyFix
namespace Clipper.Props.C20
open Clipper Clipper.Model.PathUtil Clipper.Lemmas.PathUtil

variable {D : Type}

/-- an open path keeps its end points -/
def KeepsEnds (inp out : List Pt) : Prop := out.head? = inp.head? ∧ out.getLast? = inp.getLast?

/-- integer instantiation used for the non-vacuity examples: `dist2` is the squared cross product (the squared
distance scaled by the squared length of the line) -/
def intOps : DistOps Int where
  le := fun a b => decide (a ≤ b)
  zero := 0
  maxD := 2 ^ 200
  dist2 := fun p l1 l2 =>
    ((p.x - l1.x) * (l2.y - l1.y) - (l2.x - l1.x) * (p.y - l1.y)) *
    ((p.x - l1.x) * (l2.y - l1.y) - (l2.x - l1.x) * (p.y - l1.y))

theorem intOps_laws : DistLaws intOps where
  total := by intro a b; simp only [intOps, decide_eq_true_eq]; omega
  trans := by intro a b c; simp only [intOps, decide_eq_true_eq]; omega
  ends_zero := by
    intro a b
    simp only [intOps, decide_eq_true_eq]
    constructor
    · simp
    · have : (b.x - a.x) * (b.y - a.y) - (b.x - a.x) * (b.y - a.y) = 0 := by omega
      rw [this]; simp

/-- `TrimCollinear` returns a subsequence of its input (closed and open). -/
theorem trim_subseq (p : List Pt) (isOpen : Bool) : isSubseq (trimCollinear p isOpen) p = true :=
  (isSubseq_iff_sublist _ _).mpr (trimCollinear_sublist p isOpen)

/-- `RamerDouglasPeucker` returns a subsequence of its input, for every distance function and epsilon. -/
theorem rdp_subseq (ops : DistOps D) (p : List Pt) (eps : D) :
    isSubseq (ramerDouglasPeucker ops p eps) p = true := by
  rw [isSubseq_iff_sublist]; unfold ramerDouglasPeucker
  split
  · exact List.Sublist.refl _
  · exact selectFlags_sublist _ _ _

/-- `SimplifyPath` returns a subsequence of its input, for every distance function and epsilon. -/
theorem simplify_subseq (ops : DistOps D) (p : List Pt) (eps : D) (closed : Bool) (r : List Pt)
    (h : simplifyPath ops p eps closed = some r) : isSubseq r p = true := by
  rw [isSubseq_iff_sublist]; unfold simplifyPath at h
  split at h
  · injection h with h; subst h; exact List.Sublist.refl _
  · cases hf : simplifyFlags ops p eps closed with
    | none => rw [hf] at h; simp at h
    | some f => rw [hf] at h; simp at h; subst h; exact selectFlags_sublist _ _ _

/-- `TrimCollinear` keeps both end points of an open path with at least 3 vertices, or with 2 distinct vertices.
(The code returns the empty path for an open path of one vertex or of two equal vertices: that is its explicit
first branch, so those inputs are outside the statement.) -/
theorem trim_keeps_ends (p : List Pt) (h : 3 ≤ p.length ∨ ∃ a b, p = [a, b] ∧ a ≠ b) :
    KeepsEnds p (trimCollinear p true) := by
  cases h with
  | inr h =>
    obtain ⟨a, b, rfl, hne⟩ := h
    simp [trimCollinear, hne, KeepsEnds]
  | inl h =>
    match p, h with
    | a :: c :: rest, h =>
      have hstop := trimLoop_stop a c rest
      unfold trimCollinear
      rw [if_neg (by omega)]
      simp only [if_true]
      refine ⟨rfl, ?_⟩
      rw [List.getLast?_cons_cons, hstop, List.getLast?_concat]

-- non-vacuity: an open path with a collinear run keeps its ends
example : trimCollinear [⟨0, 0⟩, ⟨1, 1⟩, ⟨2, 2⟩, ⟨5, 0⟩] true = [⟨0, 0⟩, ⟨2, 2⟩, ⟨5, 0⟩] := by decide

/-- `TrimCollinear` preserves the signed area of every closed path (twice the shoelace sum, exactly). -/
theorem trim_area (p : List Pt) : shoelace2 (trimCollinear p false) = shoelace2 p :=
  trimCollinear_closed_area p

/-- The hypothesis of the corner clause, "no repeated points or 180-degree reversals": at every vertex `b` with
neighbours `a`, `c` (cyclically for a closed path: the chain `last :: p ++ [first]` shows every cyclic triple),
if `a, b, c` are collinear then `b` lies strictly between `a` and `c` (`(b-a)·(c-b) > 0`); in particular `a ≠ b ≠ c`. -/
def ForwardOnly (closed : Bool) (p : List Pt) : Prop :=
  AllTriples Fwd (if closed then cyclicChain p else p)

/-- no three consecutive (closed: cyclically consecutive) vertices are collinear -/
def NoCollinear (closed : Bool) (p : List Pt) : Prop :=
  AllTriples NotCol (if closed then cyclicChain p else p)

instance (a b c : Pt) : Decidable (Fwd a b c) := by unfold Fwd; infer_instance
instance (a b c : Pt) : Decidable (NotCol a b c) := by unfold NotCol; infer_instance
instance decAllTriples (P : Pt → Pt → Pt → Prop) [∀ a b c, Decidable (P a b c)] (l : List Pt) :
    Decidable (AllTriples P l) :=
  decidable_of_iff _ (allTriples_iff P l).symm
instance (closed : Bool) (p : List Pt) : Decidable (ForwardOnly closed p) := by unfold ForwardOnly; infer_instance
instance (closed : Bool) (p : List Pt) : Decidable (NoCollinear closed p) := by unfold NoCollinear; infer_instance

/- Full statement without the hypothesis is FALSE (and the property does not claim it): a spike defeats it, see
`trim_no_collinear_needs_hypothesis`. -/

/-- For a path without repeated points and without 180-degree reversals `TrimCollinear` leaves no three consecutive
(closed: cyclically consecutive) collinear vertices. -/
theorem trim_no_collinear (closed : Bool) (p : List Pt) (h : ForwardOnly closed p) :
    NoCollinear closed (trimCollinear p (!closed)) := by
  cases closed with
  | true => exact (trim_closed_fwd p h).1
  | false =>
    by_cases h3 : 3 ≤ p.length
    · exact (trim_open_fwd p h3 h).1
    · unfold NoCollinear
      have hs := (trimCollinear_sublist p true).length_le
      simp only [Bool.not_false, Bool.false_eq_true, if_false]
      match hr : trimCollinear p true, hs with
      | [], _ => trivial
      | [_], _ => trivial
      | [_, _], _ => trivial
      | _ :: _ :: _ :: _, hs => simp at hs; omega

/-- A path (at least 3 vertices) that already has no three consecutive collinear vertices is returned unchanged:
the result of `TrimCollinear` is exactly the set of corner vertices, in order. -/
theorem trim_fixed (closed : Bool) (p : List Pt) (h3 : 3 ≤ p.length) (h : NoCollinear closed p) :
    trimCollinear p (!closed) = p := by
  cases closed with
  | true => exact trim_fixed_closed p h3 h
  | false => exact trim_fixed_open p h3 h

/-- `TrimCollinear` is idempotent on paths without repeated points and 180-degree reversals. -/
theorem trim_idempotent (closed : Bool) (p : List Pt) (h : ForwardOnly closed p) :
    trimCollinear (trimCollinear p (!closed)) (!closed) = trimCollinear p (!closed) := by
  cases closed with
  | true =>
    obtain ⟨h1, h2⟩ := trim_closed_fwd p h
    cases h2 with
    | inl h2 => simp only [Bool.not_true] at h2 ⊢; rw [h2]; rfl
    | inr h2 => exact trim_fixed_closed _ h2 h1
  | false =>
    by_cases h3 : 3 ≤ p.length
    · obtain ⟨h1, h2⟩ := trim_open_fwd p h3 h
      cases h2 with
      | inl h2 => exact trim_fixed_open _ h2 h1
      | inr h2 =>
        obtain ⟨a, b, hab, hne⟩ := h2
        simp only [Bool.not_false] at hab ⊢
        rw [hab]; simp [trimCollinear, hne]
    · simp only [Bool.not_false]
      match p, h3 with
      | [], _ => rfl
      | [a], _ => rfl
      | [a, b], _ =>
        by_cases hab : a = b
        · subst hab; simp [trimCollinear]
        · simp [trimCollinear, hab]
      | _ :: _ :: _ :: _, h3 => simp at h3

-- non-vacuity: a square whose sides carry extra vertices, starting in the middle of a side
example : ForwardOnly true [⟨1, 0⟩, ⟨2, 0⟩, ⟨2, 2⟩, ⟨1, 2⟩, ⟨0, 2⟩, ⟨0, 0⟩] ∧
    trimCollinear [⟨1, 0⟩, ⟨2, 0⟩, ⟨2, 2⟩, ⟨1, 2⟩, ⟨0, 2⟩, ⟨0, 0⟩] false = [⟨2, 0⟩, ⟨2, 2⟩, ⟨0, 2⟩, ⟨0, 0⟩] ∧
    NoCollinear true [⟨2, 0⟩, ⟨2, 2⟩, ⟨0, 2⟩, ⟨0, 0⟩] := by decide
example : ForwardOnly false [⟨0, 0⟩, ⟨1, 1⟩, ⟨2, 2⟩, ⟨5, 0⟩] := by decide

/-- Without the hypothesis the clause fails (which is why the property states it): the spike `(10,0)→(10,5)→(10,0)`
makes `TrimCollinear` return three collinear vertices. -/
theorem trim_no_collinear_needs_hypothesis :
    trimCollinear [⟨0, 0⟩, ⟨10, 0⟩, ⟨10, 5⟩, ⟨10, 0⟩, ⟨20, 0⟩] true = [⟨0, 0⟩, ⟨10, 0⟩, ⟨20, 0⟩] ∧
    ¬ NoCollinear false [⟨0, 0⟩, ⟨10, 0⟩, ⟨20, 0⟩] ∧
    ¬ ForwardOnly false [⟨0, 0⟩, ⟨10, 0⟩, ⟨10, 5⟩, ⟨10, 0⟩, ⟨20, 0⟩] := by decide

/-- The epsilon clause of the property, on the flags vector: every vertex that is not kept lies strictly between
two kept vertices `l < i < r` with nothing kept in between, and its distance from the line through
`path[l]`, `path[r]` is at most epsilon (`dist2 ≤ epsSqr`). -/
def RdpEps (ops : DistOps D) (path : List Pt) (eps : D) (flags : List Bool) : Prop :=
  ∀ i, i < path.length → flags[i]? = some false →
    ∃ l r, l < i ∧ i < r ∧ r < path.length ∧ flags[l]? = some true ∧ flags[r]? = some true ∧
      (∀ j, l < j → j < r → flags[j]? = some false) ∧
      ops.le (ops.dist2 (nth path i) (nth path l) (nth path r)) eps = true

/-- **Every vertex removed by `RamerDouglasPeucker` is within epsilon of the line through its two surviving
neighbours**, for every path — `path.front() == path.back()` included (repaired by the `fix:` commit 890f843: the
leading `while` of `RDP` now only moves `end` and `flags[end]` is set; the vertices it skips are copies of the end
point).  Hypotheses on the compared doubles: `DistLaws` (total preorder; distance 0 at the line's own points) and
`0 <= epsSqr`. -/
theorem rdp_eps (ops : DistOps D) (L : DistLaws ops) (path : List Pt) (eps : D)
    (hz : ops.le ops.zero eps = true) :
    RdpEps ops path eps (rdpFlags ops path eps) := by
  intro i hi hd
  obtain ⟨_, h0, hn, hseg⟩ := rdpFlags_spec ops L path eps hz (by omega)
  have hi0 : i ≠ 0 := fun e => absurd ((e ▸ hd).symm.trans h0) nofun
  have hin : i ≠ path.length - 1 := fun e => absurd ((e ▸ hd).symm.trans hn) nofun
  obtain ⟨l, r, _, a2, a3, a4, a5, a6, a7, a8⟩ := hseg i (Nat.pos_of_ne_zero hi0) (by omega) hd
  exact ⟨l, r, a2, a3, by omega, a5, a6, a7, a8⟩

/-- `RamerDouglasPeucker` keeps both end points of every path. -/
theorem rdp_keeps_ends (ops : DistOps D) (L : DistLaws ops) (path : List Pt) (eps : D)
    (hz : ops.le ops.zero eps = true) :
    KeepsEnds path (ramerDouglasPeucker ops path eps) := by
  unfold ramerDouglasPeucker
  split
  · exact ⟨rfl, rfl⟩
  · obtain ⟨hl, h0, hn, _⟩ := rdpFlags_spec ops L path eps hz (by omega)
    exact ⟨selectFlags_head _ _ _ h0, selectFlags_getLast _ _ _ hl hn⟩

/-- exact rational instantiation of the compared doubles: a value is `num/den` (`den > 0`; `1/0` is +infinity) -/
def ratOps : DistOps (Int × Int) where
  le := fun a b => decide (a.1 * b.2 ≤ b.1 * a.2)
  zero := (0, 1)
  maxD := (1, 0)
  dist2 := fun p l1 l2 =>
    let a := p.x - l1.x; let b := p.y - l1.y; let c := l2.x - l1.x; let d := l2.y - l1.y
    if c = 0 ∧ d = 0 then (0, 1) else ((a * d - c * b) * (a * d - c * b), c * c + d * d)

/-- the input of DESIGN.md §9 defect 5 (`front == back`), now a regression example -/
def rdpWitness : List Pt := [⟨0, 0⟩, ⟨10, 0⟩, ⟨20, 0⟩, ⟨20, 1000⟩, ⟨0, 0⟩]

-- before the fix the result was `{(0,0),(20,0)}`; now the far vertex and the end point stay
example : rdpFlags ratOps rdpWitness (1, 1) = [true, false, true, true, true] ∧
    ramerDouglasPeucker ratOps rdpWitness (1, 1) = [⟨0, 0⟩, ⟨20, 0⟩, ⟨20, 1000⟩, ⟨0, 0⟩] := by decide

/-- `SimplifyPath` always returns: `GetNext`/`GetPrior` never run off the flags vector (at least two vertices stay
unflagged) and the `for (;;)` loop ends within `len + 1` iterations (the model's fuel), for every distance function,
every epsilon, closed or open. -/
theorem simplify_total (ops : DistOps D) (path : List Pt) (eps : D) (closed : Bool) :
    (simplifyPath ops path eps closed).isSome = true := by
  unfold simplifyPath
  split
  · rfl
  · obtain ⟨f', hf'⟩ := simplifyLoop_terminates ops path eps closed (path.length + 1)
      (List.replicate path.length false) (simplifyInitDist ops path closed) 0
      (simplifyInit_inv path.length (by omega)) (by simp)
    unfold simplifyFlags
    rw [hf']; rfl

/- Full statement (FALSE for the current code when `Sqr(epsilon) >= MAX_DBL`, see `simplify_keeps_ends_false`):
   theorem simplify_keeps_ends : simplifyPath ops path eps false = some r → KeepsEnds path r -/

/-- `SimplifyPath` keeps both end points of an open path whenever `Sqr(epsilon) < MAX_DBL`
(`epsilon < 1.34e154`).  Missing for the full statement: for larger epsilon the test `distSqr[curr] > epsSqr`
no longer protects the end points (whose `distSqr` is `MAX_DBL`) and the last vertex can be flagged. -/
theorem simplify_keeps_ends_partial (ops : DistOps D) (path : List Pt) (eps : D) (r : List Pt)
    (htot : ∀ a b, ops.le a b = true ∨ ops.le b a = true)
    (htr : ∀ a b c, ops.le a b = true → ops.le b c = true → ops.le a c = true)
    (heps : ops.le ops.maxD eps = false)
    (h : simplifyPath ops path eps false = some r) : KeepsEnds path r := by
  unfold simplifyPath at h
  split at h
  · cases h; exact ⟨rfl, rfl⟩
  · cases hf : simplifyFlags ops path eps false with
    | none => rw [hf] at h; cases h
    | some f =>
      rw [hf] at h
      cases h
      -- the invariant "length, position, end points unflagged with `distSqr = MAX_DBL`" holds of the returned flags
      obtain ⟨d, c, ⟨hinv, hopen⟩, _⟩ := simplifyLoop_exit ops path eps false
        (fun fl dl cl => SInv path.length fl cl ∧ SOpen ops (path.length - 1) fl dl)
        (fun _ _ _ _ _ _ hI hs => ⟨(simplifyStep_sinv hI.1 hs).1,
          simplifyStep_sopen htot htr heps hI.1 hI.2 hs⟩)
        _ _ _ _ f ⟨simplifyInit_inv path.length (by omega), simplifyInit_open ops path (by omega)⟩ hf
      exact ⟨selectFlags_head _ _ _ ((flagAt_false_iff f 0).mp hopen.1),
        selectFlags_getLast _ _ _ hinv.1 ((flagAt_false_iff f _).mp hopen.2.1)⟩

/-- **No removable vertex is left.**  `Nbr high f i j` says that `i` and `j` are remaining (unflagged) vertices and `j` is
the next remaining one after `i` in cyclic order.  When `SimplifyPath` exits, every remaining vertex `i` — every
interior one for an open path — whose remaining neighbours `p`, `n` are different vertices has
`PerpendicDistFromLineSqrd(path[i], path[p], path[n]) > epsSqr`; the other exit leaves two vertices (`p = n`).
Proved through the invariant "`distSqr` is current for every remaining vertex" (`DistCurrent`).
Hypothesis `hsym` (closed paths only): the distance does not depend on the order of the two line points — the C++
initialises `distSqr[high]` with the line points in the opposite order; exact for real arithmetic, in doubles the
two orders may differ in the last bits.  Paths with fewer than 4 vertices are returned unchanged by the code and
are outside the statement. -/
theorem simplify_fixpoint (ops : DistOps D) (path : List Pt) (eps : D) (closed : Bool) (hlen : 4 ≤ path.length)
    (hsym : closed = true → ∀ q a b, ops.dist2 q a b = ops.dist2 q b a)
    (f : List Bool) (h : simplifyFlags ops path eps closed = some f) :
    FixOk ops path eps closed (path.length - 1) f ∧
    simplifyPath ops path eps closed = some (selectFlags false path f) := by
  refine ⟨?_, by unfold simplifyPath; rw [if_neg (by omega), h]; rfl⟩
  -- the invariant "`distSqr` is current" holds of the state the loop left from
  obtain ⟨d, c, ⟨hinv, _, hcur⟩, hexit⟩ := simplifyLoop_exit ops path eps closed
    (fun fl dl cl => SInv path.length fl cl ∧ dl.length = path.length ∧
      DistCurrent ops path closed (path.length - 1) fl dl)
    (fun _ _ _ _ _ _ hI hs => ⟨(simplifyStep_sinv hI.1 hs).1,
      simplifyStep_current hI.1 (by omega) hI.2.1 hI.2.2 hs⟩)
    _ _ _ _ f ⟨simplifyInit_inv path.length (by omega), by simp [simplifyInitDist],
      simplifyInit_current ops path closed (by omega) hsym⟩ h
  exact fixOk_of_exit hinv hcur hexit

/-- the open path of the second finding -/
def simplifyWitness : List Pt := [⟨0, 0⟩, ⟨10, 1⟩, ⟨20, 5⟩, ⟨30, 2⟩, ⟨40, 0⟩]

/-- **`SimplifyPath` drops the end point of an open path when `Sqr(epsilon) >= MAX_DBL`**: on
`{(0,0),(10,1),(20,5),(30,2),(40,0)}` with `epsSqr = +inf` the model (as the real code with epsilon = 1e200)
returns `{(0,0),(20,5)}`.  Evaluated on the faithful model with exact rational distances. -/
theorem simplify_keeps_ends_false :
    simplifyPath ratOps simplifyWitness (1, 0) false = some [⟨0, 0⟩, ⟨20, 5⟩] ∧
    ¬ KeepsEnds simplifyWitness [⟨0, 0⟩, ⟨20, 5⟩] := by
  refine ⟨by decide, ?_⟩
  unfold KeepsEnds simplifyWitness; simp

theorem intOps_symm : ∀ q a b, intOps.dist2 q a b = intOps.dist2 q b a := by
  intro q a b
  -- exchanging the two line points changes the sign of the cross product that is squared
  have e : (q.x - b.x) * (a.y - b.y) - (a.x - b.x) * (q.y - b.y)
      = -((q.x - a.x) * (b.y - a.y) - (b.x - a.x) * (q.y - a.y)) := by grind
  simp only [intOps, e, Int.neg_mul_neg]

-- non-vacuity of `simplify_fixpoint`: closed 6-gon, two vertices go, the remaining ones are all farther than eps
example : simplifyFlags intOps [⟨0, 0⟩, ⟨10, 1⟩, ⟨20, 0⟩, ⟨20, 20⟩, ⟨10, 21⟩, ⟨0, 20⟩] 900 true
    = some [false, true, false, false, true, false] := by decide

-- non-vacuity of `simplify_keeps_ends_partial`: lawful integer distances, finite epsilon, something is removed
example : intOps.le intOps.maxD 10000 = false ∧
    simplifyPath intOps simplifyWitness 10000 false = some [⟨0, 0⟩, ⟨20, 5⟩, ⟨40, 0⟩] := by decide

/-- `StripDuplicates` returns exactly the input with its runs collapsed (`collapseRuns`: the first vertex, then
every vertex that differs from its predecessor; closed: minus trailing copies of the first vertex). -/
theorem stripDuplicates_eq (p : List Pt) (closed : Bool) : stripDuplicates p closed = collapseRuns p closed := by
  cases p with
  | nil => rfl
  | cons a rest =>
    unfold stripDuplicates stripGen collapseRuns
    simp only []
    rw [stripAux_eq_filterMap]
    cases closed with
    | false => rfl
    | true =>
      simp only [if_true]
      rw [popBackRev_eq_dropWhile a _ (by rw [List.getLast?_reverse]; rfl)]
      generalize List.dropWhile _ _ = r
      cases r <;> rfl

/-- `StripNearEqual` / `StripDuplicates` (any `eqv`): the result is a subsequence that starts with the first vertex,
no vertex of it is `eqv` to the one before it, and for a closed path the last one is not `eqv` to the first unless
a single vertex is left. With `eqv := (==)` this says: no two consecutive vertices equal, closed: last ≠ first. -/
theorem stripGen_contract (eqv : Pt → Pt → Bool) (p : List Pt) (closed : Bool) :
    List.Sublist (stripGen eqv p closed) p ∧ (stripGen eqv p closed).head? = p.head? ∧
    NoAdj eqv (stripGen eqv p closed) ∧
    (closed = true → (stripGen eqv p closed).length ≤ 1 ∨
      ∃ z a, (stripGen eqv p closed).getLast? = some z ∧ p.head? = some a ∧ eqv z a = false) := by
  cases p with
  | nil => simp [stripGen, NoAdj]
  | cons a rest =>
    have hopen : stripGen eqv (a :: rest) false = a :: stripAux eqv a rest := by simp [stripGen]
    have hsub : List.Sublist (stripGen eqv (a :: rest) false) (a :: rest) := by
      rw [hopen]; exact List.Sublist.cons_cons _ (stripAux_sublist eqv a rest)
    have hadj : NoAdj eqv (stripGen eqv (a :: rest) false) := by rw [hopen]; exact stripAux_noAdj eqv a rest
    cases closed with
    | false => exact ⟨hsub, by rw [hopen]; rfl, hadj, by simp⟩
    | true =>
      have hpre := stripGen_prefix eqv a rest
      have hlast : (popBackRev eqv a (a :: stripAux eqv a rest).reverse).getLast? = some a := by
        rw [popBackRev_getLast, List.getLast?_reverse]; rfl
      refine ⟨List.Sublist.trans hpre.sublist hsub, ?_, NoAdj_prefix eqv _ _ hpre hadj, fun _ => ?_⟩
      · simp only [stripGen, if_true, List.head?_reverse]; exact hlast
      · simp only [stripGen, if_true, List.length_reverse, List.getLast?_reverse]
        cases popBackRev_head eqv a (a :: stripAux eqv a rest).reverse with
        | inl h => exact Or.inl h
        | inr h => obtain ⟨z, hz, he⟩ := h; exact Or.inr ⟨z, a, hz, rfl, he⟩

/-- `StripDuplicates` instance of the contract, in plain words -/
theorem stripDuplicates_contract (p : List Pt) (closed : Bool) :
    isSubseq (stripDuplicates p closed) p = true ∧
    NoAdj (fun a b => decide (a = b)) (stripDuplicates p closed) ∧
    (closed = true → (stripDuplicates p closed).length ≤ 1 ∨
      (stripDuplicates p closed).getLast? ≠ (stripDuplicates p closed).head?) := by
  obtain ⟨h1, h2, h3, h4⟩ := stripGen_contract (fun a b => decide (a = b)) p closed
  refine ⟨(isSubseq_iff_sublist _ _).mpr h1, h3, fun hc => ?_⟩
  cases h4 hc with
  | inl h => exact Or.inl h
  | inr h =>
    obtain ⟨z, a, hz, ha, he⟩ := h
    refine Or.inr ?_
    unfold stripDuplicates
    rw [hz, h2, ha]
    simpa using he

/-- `TranslatePath`: same length, vertex `i` is moved by `(dx, dy)`. -/
theorem translatePath_spec (p : List Pt) (dx dy : Int) :
    (translatePath p dx dy).length = p.length ∧
    ∀ i : Nat, (translatePath p dx dy)[i]? = (p[i]?).map (fun q => Pt.mk (q.x + dx) (q.y + dy)) := by
  unfold translatePath; exact ⟨List.length_map _, fun i => List.getElem?_map⟩

/-- translating by zero is the identity and translations compose additively -/
theorem translatePath_zero_add (p : List Pt) (dx dy ex ey : Int) :
    translatePath p 0 0 = p ∧
    translatePath (translatePath p dx dy) ex ey = translatePath p (dx + ex) (dy + ey) := by
  unfold translatePath
  refine ⟨?_, ?_⟩
  · induction p with
    | nil => rfl
    | cons a t ih => simp
  · simp [List.map_map, Function.comp_def, Int.add_assoc]

theorem ellipseLoop_length {S : Type} (emit : S → Pt) (next : S → S) (k : Nat) (s : S) :
    (ellipseLoop emit next k s).length = k := by
  induction k generalizing s with
  | zero => rfl
  | succ k ih => simp [ellipseLoop, ih]

/-- `Ellipse` returns exactly `steps` vertices (one vertex when `steps` is 0 or 1), whatever the trigonometry. -/
theorem ellipse_count {S : Type} (first : Pt) (emit : S → Pt) (next : S → S) (s0 : S) (steps : Nat) :
    (ellipseGen first emit next s0 steps).length = max steps 1 := by
  unfold ellipseGen; rw [List.length_cons, ellipseLoop_length]; omega

/-- `GetBounds` of the empty path is `Rect64::InvalidRect()` (max, max, lowest, lowest). -/
theorem getBounds_nil : getBounds [] = ⟨9223372036854775807, 9223372036854775807, -9223372036854775808, -9223372036854775808⟩ := rfl

/-- `GetBounds` of a non-empty path with `int64` coordinates: every vertex is inside the rectangle and each of the
four sides is attained by some vertex (so left/top are the minima and right/bottom the maxima). -/
theorem getBounds_spec (p : List Pt) (hne : p ≠ [])
    (hr : ∀ q ∈ p, int64Lowest ≤ q.x ∧ q.x ≤ int64Max ∧ int64Lowest ≤ q.y ∧ q.y ≤ int64Max) :
    (∀ q ∈ p, (getBounds p).left ≤ q.x ∧ q.x ≤ (getBounds p).right ∧
      (getBounds p).top ≤ q.y ∧ q.y ≤ (getBounds p).bottom) ∧
    (∃ q ∈ p, q.x = (getBounds p).left) ∧ (∃ q ∈ p, q.x = (getBounds p).right) ∧
    (∃ q ∈ p, q.y = (getBounds p).top) ∧ (∃ q ∈ p, q.y = (getBounds p).bottom) := by
  unfold getBounds
  rw [bounds_fold_eq]
  obtain ⟨a, ha⟩ := List.exists_mem_of_ne_nil p hne
  have hra := hr a ha
  obtain ⟨_, l2, l3⟩ := foldMin_spec (·.x) p invalidRect.left
  obtain ⟨_, t2, t3⟩ := foldMin_spec (·.y) p invalidRect.top
  obtain ⟨_, r2, r3⟩ := foldMax_spec (·.x) p invalidRect.right
  obtain ⟨_, b2, b3⟩ := foldMax_spec (·.y) p invalidRect.bottom
  -- a side that still has its start value is attained by every vertex: the start values are the `int64` extremes
  refine ⟨fun q hq => ⟨l2 q hq, r2 q hq, t2 q hq, b2 q hq⟩,
    l3.elim (fun e => ⟨a, ha, ?_⟩) id, r3.elim (fun e => ⟨a, ha, ?_⟩) id,
    t3.elim (fun e => ⟨a, ha, ?_⟩) id, b3.elim (fun e => ⟨a, ha, ?_⟩) id⟩
  · have := l2 a ha; rw [e] at this ⊢; exact Int.le_antisymm hra.2.1 this
  · have := r2 a ha; rw [e] at this ⊢; exact Int.le_antisymm this hra.1
  · have := t2 a ha; rw [e] at this ⊢; exact Int.le_antisymm hra.2.2.2 this
  · have := b2 a ha; rw [e] at this ⊢; exact Int.le_antisymm this hra.2.2.1

-- non-vacuity of `stripDuplicates_contract` and `getBounds_spec`
example : stripDuplicates [⟨1, 1⟩, ⟨1, 1⟩, ⟨2, 0⟩, ⟨2, 0⟩, ⟨1, 1⟩, ⟨1, 1⟩] true = [⟨1, 1⟩, ⟨2, 0⟩] := by decide
example : getBounds [⟨3, -1⟩, ⟨-7, 4⟩, ⟨0, 9⟩] = ⟨-7, -1, 3, 9⟩ := by decide

-- non-vacuity of `rdp_eps` / `rdp_keeps_ends` (lawful `intOps`, `0 ≤ epsSqr`): some vertices go; front ≠ back and front == back
example : intOps.le intOps.zero 10000 = true ∧
    ramerDouglasPeucker intOps [(⟨0, 0⟩ : Pt), ⟨10, 1⟩, ⟨20, 0⟩, ⟨30, 40⟩, ⟨40, 0⟩, ⟨50, 0⟩] 10000
      = [⟨0, 0⟩, ⟨20, 0⟩, ⟨30, 40⟩, ⟨40, 0⟩, ⟨50, 0⟩] ∧
    ramerDouglasPeucker intOps [(⟨0, 0⟩ : Pt), ⟨10, 1⟩, ⟨20, 0⟩, ⟨30, 40⟩, ⟨0, 0⟩, ⟨0, 0⟩] 10000
      = [⟨0, 0⟩, ⟨20, 0⟩, ⟨30, 40⟩, ⟨0, 0⟩] := by decide

end Clipper.Props.C20

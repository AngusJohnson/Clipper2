/-
C03 — `FixSelfIntersects` / `DoSplitOp` (clipper.engine.cpp:1566-1685, Clipper2 1.5.2) create no equal neighbours;
this discharges the hypothesis `FixOk` of `Props.C03.solutionPath_shape_partial`.

Model: `ClipperVerif/Model/SplitOp.lean`.  The theorems hold for **every** intersection-point function `isect`
(so for both variants of `GetSegmentIntersectPt`, and for any `zCallback_` that rewrites `ip`), for every
cross-product sign `cs` that vanishes when its first point equals one of the other two (`CsSound`) and every area
decision that makes a new outrec only from three different points (`AdecSound`).  The exact integer instantiation
`csX`, `adecX` satisfies both (`csSound_csX`, `adecSound_adecX`) and is the one `fixMain` uses.

Vocabulary: `CycNoDup` from `Lemmas/Neighbours.lean`, `FixOk`, `builtPath` from `Lemmas/CleanUp.lean` (index readings in
`Props/C03.lean`);
`view r = some (prev, op2, next, nextNext, nextNextNext)` for the ring `r` seen from `op2`;
`segsInt csX a b c d` = `SegmentsIntersect(a, b, c, d)`; `FsiRes.done main splits dups` = the loop ended with the
outrec's ring `main` (`none` = disposed), the split-off rings `splits` and `dups` executions of the
`DuplicateOp` ("adjacent intersections") branch.
-/
import ClipperVerif.Lemmas.SplitOp
import ClipperVerif.Props.C03
namespace Clipper.Props.C03Split
open Clipper Clipper.Model Clipper.Model.CleanUp Clipper.Model.SplitOp Clipper.Lemmas.CleanUp Clipper.Lemmas.SplitOp

/-- `SegmentsIntersect` with exact cross products is the proper-crossing test of `Model/CleanUp.lean`
(`segsIntersect`, stated with the Spec-level cross product): both end points of each segment lie strictly on
opposite sides of the other segment's line. -/
theorem segsInt_eq_segsIntersect (a b c d : Pt) : segsInt csX a b c d = segsIntersect a b c d := by
  have e : ∀ p q r : Pt, crossProduct p q r = cross p q r := by
    intro p q r; unfold crossProduct cross; grind
  simp [segsInt, segsIntersect, csX, e]

/-- A proper crossing forces the four end points apart: no end point of one segment is an end point of the other. -/
theorem segsInt_endpoints_distinct (cs : Pt → Pt → Pt → Int) (hcs : CsSound cs) (a b c d : Pt)
    (h : segsInt cs a b c d = true) : a ≠ c ∧ a ≠ d ∧ b ≠ c ∧ b ≠ d := segsInt_ne hcs h

/-- the exact instantiation meets the two requirements -/
theorem exact_instance_sound : CsSound csX ∧ AdecSound adecX := ⟨csSound_csX, adecSound_adecX⟩

example : segsInt csX ⟨0,0⟩ ⟨10,10⟩ ⟨10,0⟩ ⟨0,10⟩ = true := by decide
/-- touching is not crossing -/
example : segsInt csX ⟨0,0⟩ ⟨10,10⟩ ⟨5,5⟩ ⟨0,10⟩ = false := by decide

/-- `DoSplitOp` creates no equal neighbours.  Precondition = the situation in which `FixSelfIntersects` calls it:
for the ring `r` seen from `splitOp`, `prevOp → splitOp` properly crosses `splitOp.next → nextNextOp`.
If `r` has no equal cyclic neighbours then neither has the outrec's ring afterwards, and a split-off ring is a
triangle of three pairwise different points.  The proof uses both halves of the guard
`ip == prevOp->pt || ip == nextNextOp->pt` (`cycNoDup_split_insert`) and, when the guard fires, that the crossing
makes `prevOp->pt ≠ nextNextOp->pt` (`cycNoDup_split_link`). -/
theorem doSplitOp_no_equal_neighbours (cs : Pt → Pt → Pt → Int) (hcs : CsSound cs)
    (isect : Pt → Pt → Pt → Pt → Pt) (adec : Ring → Pt → Pt → Pt → AreaDec) (had : AdecSound adec)
    (r m : Ring) (nr : Option Ring)
    (pv o nx nn nnn : Pt) (hv : view r = some (pv, o, nx, nn, nnn)) (hx : segsInt cs pv o nx nn = true)
    (hs : doSplitOp isect adec r = some ⟨some m, nr⟩) (h : CycNoDup r) :
    CycNoDup m ∧ ∀ q, nr = some q → CycNoDup q ∧ q.length = 3 :=
  cycNoDup_doSplitOp hcs had hv hx hs h

/-- the hypotheses are satisfiable: the crossing is at (5,5); the triangle (5,5),(10,10),(10,0) is split off -/
example :
    view [⟨10,10⟩,⟨10,0⟩,⟨0,10⟩,⟨-5,5⟩,⟨0,0⟩] = some (⟨0,0⟩,⟨10,10⟩,⟨10,0⟩,⟨0,10⟩,⟨-5,5⟩) ∧
    segsInt csX ⟨0,0⟩ ⟨10,10⟩ ⟨10,0⟩ ⟨0,10⟩ = true ∧
    doSplitOp (fun _ _ _ _ => ⟨5,5⟩) adecX [⟨10,10⟩,⟨10,0⟩,⟨0,10⟩,⟨-5,5⟩,⟨0,0⟩] =
      some ⟨some [⟨0,0⟩,⟨5,5⟩,⟨0,10⟩,⟨-5,5⟩], some [⟨5,5⟩,⟨10,10⟩,⟨10,0⟩]⟩ ∧
    CycNoDup [⟨10,10⟩,⟨10,0⟩,⟨0,10⟩,⟨-5,5⟩,⟨0,0⟩] := by decide

/-- Both halves of the guard are needed.  If the intersection point comes out as `prevOp->pt` (first witness: the
crossing of (0,0)→(10,1) with (0,-1)→(1,1) is at (10/19, 1/19), which `GetSegmentIntersectPt` truncates to (0,0))
or as `nextNextOp->pt`, inserting it unconditionally would create an equal neighbour; the guarded code does not. -/
theorem guard_both_halves_needed :
    -- ip = prevOp->pt
    (let r : Ring := [⟨10,1⟩,⟨0,-1⟩,⟨1,1⟩,⟨-9,9⟩,⟨0,0⟩]
     let isect : Pt → Pt → Pt → Pt → Pt := fun _ _ _ _ => ⟨0,0⟩
     segsInt csX ⟨0,0⟩ ⟨10,1⟩ ⟨0,-1⟩ ⟨1,1⟩ = true ∧ CycNoDup r ∧
     doSplitOp isect adecX r = some ⟨some [⟨0,0⟩,⟨1,1⟩,⟨-9,9⟩], some [⟨0,0⟩,⟨10,1⟩,⟨0,-1⟩]⟩ ∧
     ¬ CycNoDup [⟨0,0⟩, isect ⟨0,0⟩ ⟨10,1⟩ ⟨0,-1⟩ ⟨1,1⟩, ⟨1,1⟩, ⟨-9,9⟩]) ∧
    -- ip = nextNextOp->pt
    (let r : Ring := [⟨10,1⟩,⟨0,-1⟩,⟨1,1⟩,⟨-9,9⟩,⟨0,0⟩]
     let isect : Pt → Pt → Pt → Pt → Pt := fun _ _ _ _ => ⟨1,1⟩
     doSplitOp isect adecX r = some ⟨some [⟨0,0⟩,⟨1,1⟩,⟨-9,9⟩], some [⟨1,1⟩,⟨10,1⟩,⟨0,-1⟩]⟩ ∧
     ¬ CycNoDup [⟨0,0⟩, isect ⟨0,0⟩ ⟨10,1⟩ ⟨0,-1⟩ ⟨1,1⟩, ⟨1,1⟩, ⟨-9,9⟩]) := by decide

/-- Every `DoSplitOp` that does not dispose the ring shortens it by one node (intersection point inserted) or by
two (guard fired); the ring it is applied to has at least four nodes. -/
theorem doSplitOp_shrinks (isect : Pt → Pt → Pt → Pt → Pt) (adec : Ring → Pt → Pt → Pt → AreaDec)
    (r m : Ring) (nr : Option Ring) (hs : doSplitOp isect adec r = some ⟨some m, nr⟩) :
    r.length ≥ 4 ∧ m.length < r.length ∧ r.length ≤ m.length + 2 :=
  ⟨doSplitOp_some_len hs, (doSplitOp_length hs).1, (doSplitOp_length hs).2⟩

/-- The loop of `FixSelfIntersects` preserves "no equal cyclic neighbours" — through stepping, through the
`DuplicateOp` branch (the inserted node carries `nextNext`'s point, which the crossing separates from both new
neighbours) and through `DoSplitOp`. -/
theorem fsiLoop_no_equal_neighbours (cs : Pt → Pt → Pt → Int) (hcs : CsSound cs)
    (isect : Pt → Pt → Pt → Pt → Pt) (adec : Ring → Pt → Pt → Pt → AreaDec) (had : AdecSound adec)
    (fuel : Nat) (r : Ring) (pts : Nat)
    (acc : List Ring) (k : Nat) (m : Option Ring) (sp : List Ring) (k' : Nat)
    (h : fsiLoop cs isect adec fuel r pts acc k = .done m sp k') (hr : CycNoDup r)
    (hacc : ∀ q, q ∈ acc → CycNoDup q ∧ q.length = 3) :
    (∀ m', m = some m' → CycNoDup m') ∧ ∀ q, q ∈ sp → CycNoDup q ∧ q.length = 3 :=
  fsiLoop_inv CycNoDup (fun q => CycNoDup q ∧ q.length = 3)
    cycNoDup_rot1
    (fun _ _ _ _ _ _ hv h1 _ hI => cycNoDup_dup hcs hv h1 hI)
    (fun _ _ _ _ _ _ _ _ hv h1 hs hI => cycNoDup_doSplitOp hcs had hv h1 hs hI)
    fuel r pts acc k m sp k' h hr hacc

/-- **`FixSelfIntersects` creates no equal neighbours**, for every `isect`: if the ring handed to it has none,
then neither has the ring it leaves to the outrec, and every ring it appends to `outrec_list_` is a triangle of
three pairwise different points. -/
theorem fixSelfIntersects_no_equal_neighbours (cs : Pt → Pt → Pt → Int) (hcs : CsSound cs)
    (isect : Pt → Pt → Pt → Pt → Pt) (adec : Ring → Pt → Pt → Pt → AreaDec) (had : AdecSound adec)
    (fuel : Nat) (ring : Ring) (m : Option Ring) (sp : List Ring) (k : Nat)
    (h : fixSelfIntersects cs isect adec fuel ring = .done m sp k) (hr : CycNoDup ring) :
    (∀ m', m = some m' → CycNoDup m') ∧ ∀ q, q ∈ sp → CycNoDup q ∧ q.length = 3 := by
  rcases fixSelfIntersects_cases cs isect adec fuel ring with ⟨_, e⟩ | e | e <;> rw [e] at h
  · cases h
  · cases h; exact ⟨fun m' e => by cases e; exact hr, nofun⟩
  · exact fsiLoop_no_equal_neighbours cs hcs isect adec had fuel ring 0 [] 0 m sp k h hr nofun

example : fixX (fun _ _ _ _ => ⟨5,5⟩) 100 [⟨0,0⟩,⟨10,10⟩,⟨10,0⟩,⟨0,10⟩,⟨-5,5⟩] =
      .done (some [⟨0,0⟩,⟨5,5⟩,⟨0,10⟩,⟨-5,5⟩]) [[⟨5,5⟩,⟨10,10⟩,⟨10,0⟩]] 0 ∧
    CycNoDup [⟨0,0⟩,⟨10,10⟩,⟨10,0⟩,⟨0,10⟩,⟨-5,5⟩] := by decide

/-- Every point of every ring `FixSelfIntersects` produces is a point of the ring it was given or a value of
`isect` (any cross-product, any area arithmetic). -/
theorem fixSelfIntersects_points (cs : Pt → Pt → Pt → Int) (isect : Pt → Pt → Pt → Pt → Pt)
    (adec : Ring → Pt → Pt → Pt → AreaDec) (fuel : Nat) (ring : Ring)
    (m : Option Ring) (sp : List Ring) (k : Nat)
    (h : fixSelfIntersects cs isect adec fuel ring = .done m sp k) :
    ∀ q, (m = some q ∨ q ∈ sp) → ∀ x, x ∈ q → x ∈ ring ∨ ∃ a b c d, x = isect a b c d := by
  let Q : Pt → Prop := fun x => x ∈ ring ∨ ∃ a b c d, x = isect a b c d
  have key : ∀ fuel r pts acc k m sp k', fsiLoop cs isect adec fuel r pts acc k = .done m sp k' →
      (∀ x, x ∈ r → Q x) → (∀ q, q ∈ acc → ∀ x, x ∈ q → Q x) →
      (∀ m', m = some m' → ∀ x, x ∈ m' → Q x) ∧ ∀ q, q ∈ sp → ∀ x, x ∈ q → Q x := by
    apply fsiLoop_inv (fun r => ∀ x, x ∈ r → Q x) (fun r => ∀ x, x ∈ r → Q x)
    · exact fun r hI x hx => hI x ((mem_rot1 r x).mp hx)
    · intro r pv o nx nn nnn hv h1 _ hI x hx
      rcases List.mem_append.mp hx with hx | hx
      · exact hI x hx
      · rw [List.mem_singleton.mp hx]; exact hI _ (view_nn_mem hv)
    · intro r pv o nx nn nnn m nr _ _ hs hI
      obtain ⟨a, b, c, d, hm, hn⟩ := doSplitOp_mem hs
      have hQ : ∀ x, x = isect a b c d ∨ x ∈ r → Q x := fun x hx => hx.elim (fun e => Or.inr ⟨_, _, _, _, e⟩) (hI x)
      exact ⟨fun x hx => hQ x (hm x hx), fun q hq x hx => hQ x (hn q hq x hx)⟩
  intro q hq x hx
  rcases fixSelfIntersects_cases cs isect adec fuel ring with ⟨_, e⟩ | e | e <;> rw [e] at h
  · cases h
  · cases h
    rcases hq with hq | hq
    · cases hq; exact Or.inl hx
    · cases hq
  · have := key fuel ring 0 [] 0 m sp k h (fun x hx => Or.inl hx) nofun
    exact hq.elim (fun hq => this.1 q hq x hx) (fun hq => this.2 q hq x hx)

/-- The model never faults: it never follows a null pointer and never calls `DoSplitOp` on a ring of fewer than
four nodes (there `prevOp`, `splitOp`, `splitOp->next`, `nextNextOp` would alias). -/
theorem fixSelfIntersects_no_fault (cs : Pt → Pt → Pt → Int) (hcs : CsSound cs) (isect : Pt → Pt → Pt → Pt → Pt)
    (adec : Ring → Pt → Pt → Pt → AreaDec)
    (fuel : Nat) (ring : Ring) (hne : ring ≠ []) : fixSelfIntersects cs isect adec fuel ring ≠ .fault := by
  rcases fixSelfIntersects_cases cs isect adec fuel ring with ⟨e, _⟩ | e | e
  · exact absurd e hne
  · rw [e]; exact nofun
  · rw [e]; exact fsiLoop_no_fault_aux hcs fuel ring 0 [] 0 hne

/-
Full statement asked for: `∃ fuel, ∀ isect ring, fixX isect fuel ring` is not `outOfFuel` with `fuel` a function of
`ring.length`.  In Clipper2 1.5.2 the loop has, besides `DoSplitOp` (ring shrinks by 1 or 2), the "adjacent
intersections" branch that *inserts* a node with `DuplicateOp`, so the ring length is not a measure.  Proved: the
bound below, in which the number `K` of `DuplicateOp` executions is a parameter — the loop cannot run for ever
without executing that branch infinitely often — and that for arbitrary `isect` no bound on `K` exists
(`fixSelfIntersects_diverges_for_some_isect`).  Not proved: a bound on `K` for the compiled `GetSegmentIntersectPt`
(that needs the geometry of the intersection point; 3.6 million random lattice rings of 4–27 nodes gave `K ≤ 12`,
and the real function is run under a 60 s alarm in the harness).
-/
/-- `fsiFuel n K = (n+K)(2(n+K)+3) + n + K + 1` iterations suffice for a ring of `n` nodes unless the
`DuplicateOp` branch is executed more than `K` times: if the model gives up with that fuel, its `DuplicateOp`
counter exceeds `K`.  Measure: `W(2W+3) + (nodes left in the current pass) + K` with `W = n + K`;
every `DoSplitOp` decreases `W`, every `DuplicateOp` decreases `K` at constant `W`, every step decreases the middle
term.  Holds for every cross-product, `isect` and area arithmetic. -/
theorem fixSelfIntersects_fuel_partial (cs : Pt → Pt → Pt → Int) (isect : Pt → Pt → Pt → Pt → Pt)
    (adec : Ring → Pt → Pt → Pt → AreaDec) (ring : Ring) (K k' : Nat)
    (h : fixSelfIntersects cs isect adec (fsiFuel ring.length K) ring = .outOfFuel k') : k' > K := by
  rcases fixSelfIntersects_cases cs isect adec (fsiFuel ring.length K) ring with ⟨_, e⟩ | e | e <;> rw [e] at h
  · cases h
  · cases h
  · have := fsiLoop_fuel_aux (fsiFuel ring.length K) ring 0 [] 0 K k' (by simp [fsiFuel, mu]) h
    omega

/-- the general form, from any loop state -/
theorem fsiLoop_fuel (cs : Pt → Pt → Pt → Int) (isect : Pt → Pt → Pt → Pt → Pt)
    (adec : Ring → Pt → Pt → Pt → AreaDec) (fuel : Nat) (r : Ring) (pts : Nat) (acc : List Ring) (k K k' : Nat)
    (hf : fuel > (r.length + K) * (2 * (r.length + K) + 3) + (if pts = 0 then r.length else pts) + K)
    (h : fsiLoop cs isect adec fuel r pts acc k = .outOfFuel k') : k' > k + K :=
  fsiLoop_fuel_aux fuel r pts acc k K k' hf h

/-- the bound is not vacuous: too little fuel does run out (here before any `DuplicateOp`) -/
example : fixX (fun _ _ _ _ => ⟨5,5⟩) 2 [⟨0,0⟩,⟨10,10⟩,⟨10,0⟩,⟨0,10⟩,⟨-5,5⟩] = .outOfFuel 0 := by decide
/-- a ring on which the `DuplicateOp` branch runs: (6,5)→(0,-5) crosses both (0,0)→(10,0) and (10,0)→(4,5); a node
carrying (10,0) is inserted before the first node, and because `op2 == outrec->pts` there the loop ends at once -/
example : fixX (fun _ _ _ _ => ⟨0,0⟩) (fsiFuel 6 1) [⟨0,-5⟩,⟨0,0⟩,⟨10,0⟩,⟨4,5⟩,⟨5,-1⟩,⟨6,5⟩] =
    .done (some [⟨0,-5⟩,⟨0,0⟩,⟨10,0⟩,⟨4,5⟩,⟨5,-1⟩,⟨6,5⟩,⟨10,0⟩]) [] 1 := by decide

/-- the ring of the divergence witness: nine nodes, no equal neighbours -/
def advRing : Ring := [⟨-3,1⟩,⟨-2,-3⟩,⟨3,3⟩,⟨3,1⟩,⟨-3,-1⟩,⟨2,-1⟩,⟨-3,-3⟩,⟨-2,-3⟩,⟨-2,-1⟩]

/-- **Termination is not a property of the control flow alone.**  For the intersection-point function that always
answers `ln1b` (`= splitOp->pt`, the value `GetSegmentIntersectPt` returns on its `t ≥ 1` branch) the loop never
ends on `advRing`: after 14 iterations (two `DuplicateOp` insertions, two `DoSplitOp` calls that each remove one
node net) it is back in its first state.  So every termination proof must use what `GetSegmentIntersectPt`
computes; `fixSelfIntersects_fuel_partial` is what holds without it. -/
theorem fixSelfIntersects_diverges_for_some_isect :
    CycNoDup advRing ∧ advRing.length = 9 ∧
    ∀ fuel, ∃ k, fixX Lemmas.SplitOpAdv.isectAdv fuel advRing = .outOfFuel k := by
  refine ⟨by decide, rfl, fun fuel => ?_⟩
  exact fsiLoop_recurrent (n := 13) (s := (advRing, 0)) (by decide) fuel [] 0

/-- **`FixOk` for the modelled `FixSelfIntersects`** (every `isect`, every `fuel`). -/
theorem fixOk_fixMain (isect : Pt → Pt → Pt → Pt → Pt) (fuel : Nat) : FixOk (fixMain isect fuel) := by
  intro r r' _ hc h _
  unfold fixMain at h
  split at h
  · rename_i m sp k hd
    exact (fixSelfIntersects_no_equal_neighbours csX csSound_csX isect adecX adecSound_adecX fuel r m sp k hd hc).1 r' h
  · cases h

/-- **Structural part of C03, `FixSelfIntersects` included** (single outrec).  For every `isect`: every closed path
that `CleanCollinear` + `FixSelfIntersects` + `BuildPath64` emit for an outrec has at least three vertices and no
two cyclically consecutive vertices are equal (last/first included); it is `builtPath r' rev` for the ring `r'`
that `FixSelfIntersects` left.  (`fixMain` returns a ring only for runs of the model that finish within `fuel`;
see `fixSelfIntersects_fuel_partial`.) -/
theorem solutionPath_shape (pc rev : Bool) (isect : Pt → Pt → Pt → Pt → Pt) (fuel : Nat) (ring : Ring) (p : Path)
    (h : solutionPath pc rev (fixMain isect fuel) ring = some (some p)) :
    p.length ≥ 3 ∧ CycNoDup p ∧
    ∃ r r', cleanLoop pc (cleanFuel ring.length) [] ring 0 = some (some r) ∧ fixMain isect fuel r = some r' ∧
      p = builtPath r' rev :=
  C03.solutionPath_shape_partial pc rev (fixMain isect fuel) ring p (fixOk_fixMain isect fuel) h

example : solutionPath false false (fixMain (fun _ _ _ _ => ⟨5,5⟩) 100)
      [⟨0,0⟩,⟨5,5⟩,⟨10,10⟩,⟨10,0⟩,⟨0,10⟩,⟨-5,5⟩]
    = some (some [⟨5,5⟩,⟨0,10⟩,⟨-5,5⟩,⟨0,0⟩]) := by decide

/-- `cleanCollinearX` is `cleanCollinear` with `fix := fixMain` whenever it finishes -/
theorem cleanCollinearX_eq (pc : Bool) (isect : Pt → Pt → Pt → Pt → Pt) (fuel : Nat) (ring : Ring)
    (m : Option Ring) (sp : List Ring) (k : Nat) (h : cleanCollinearX pc isect fuel ring = .done m sp k) :
    cleanCollinear pc (fixMain isect fuel) ring = some m := by
  unfold cleanCollinearX cleanCollinearG at h
  unfold cleanCollinear
  split
  · rename_i hv; rw [if_pos hv] at h; cases h; rfl
  · rename_i hv; rw [if_neg hv] at h
    split at h
    · cases h
    · rename_i e; rw [e]; cases h; rfl
    · rename_i r e; rw [e]; simp only [fixMain, h]

/-- **Structural part of C03 for the whole closed branch of `BuildPaths64`**, split-off outrecs included: whatever
rings the sweep leaves in `outrec_list_`, every closed path of the solution — those built from outrecs that
`FixSelfIntersects` appended while the list was being traversed too — has at least three vertices and no two
cyclically consecutive equal vertices.  For every `isect` and all fuels, whenever the model finishes. -/
theorem buildPaths_shape (pc rev : Bool) (isect : Pt → Pt → Pt → Pt → Pt) (fuel : Nat) :
    ∀ (wf : Nat) (work : List Ring) (out : List Path), buildPathsX pc rev isect fuel wf work = some out →
      ∀ p, p ∈ out → p.length ≥ 3 ∧ CycNoDup p := by
  intro wf
  induction wf with
  | zero =>
    intro work out h p hp
    cases work with
    | nil => simp [buildPathsX, buildPathsG] at h; subst h; simp at hp
    | cons a rest => simp [buildPathsX, buildPathsG] at h
  | succ wf ih =>
    intro work out h p hp
    cases work with
    | nil => simp [buildPathsX, buildPathsG] at h; subst h; simp at hp
    | cons ring rest =>
      simp only [buildPathsX, buildPathsG] at h
      split at h
      · exact ih rest out h p hp
      · split at h
        · rename_i m sp k hcc
          split at h
          · cases h
          · rename_i out' hrec
            have hcc' := cleanCollinearX_eq pc isect fuel ring m sp k hcc
            split at h
            · rename_i p' hb
              cases h
              rcases List.mem_cons.mp hp with e | hp'
              · subst e
                have hsp : solutionPath pc rev (fixMain isect fuel) ring = some (some p) := by
                  unfold solutionPath
                  rw [hcc']
                  cases m with
                  | none => simp at hb
                  | some r => simpa using hb
                have := solutionPath_shape pc rev isect fuel ring p hsp
                exact ⟨this.1, this.2.1⟩
              · exact ih _ _ hrec p hp'
            · cases h; exact ih _ _ hrec p hp
        · cases h

example : buildPathsX false false (fun _ _ _ _ => ⟨5,5⟩) 100 10 [[⟨0,0⟩,⟨5,5⟩,⟨10,10⟩,⟨10,0⟩,⟨0,10⟩,⟨-5,5⟩]]
    = some [[⟨5,5⟩,⟨0,10⟩,⟨-5,5⟩,⟨0,0⟩], [⟨10,10⟩,⟨10,0⟩,⟨5,5⟩]] := by decide

end Clipper.Props.C03Split

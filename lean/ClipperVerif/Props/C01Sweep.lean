/-
C01 — THE ACTIVE EDGE LIST STAYS SORTED THROUGH THE WHOLE SWEEP (composition of the AEL-order slices).

It rests on `Props/C01Order` (what `IsValidAelOrder` means; `InsertLeftEdge`/`InsertRightEdge` keep a sorted AEL sorted),
`Props/C10Isect` (within one scanbeam `BuildIntersectList` records exactly the strict `curr_x` inversions and
`ProcessIntersectList` leaves the AEL stably sorted by `curr_x`), `Props/C01` (winding bookkeeping, *given* that list order is
geometric order).  This file composes them over the scanbeam model `Model/SweepOrder.lean`:

 1. `exact_order_between_scanlines`   two straight edges keep their exact order inside a scanbeam, or cross exactly once
                                      strictly inside it, and then their order at the top is the reverse;
 2. `scanbeam_keeps_sorted`           one scanbeam: insertion, `DoIntersections`, `DoTopOfScanbeam` keep the AEL sorted;
 3. `intersections_are_exactly_crossings`  the pairs swapped in a scanbeam are exactly the pairs that cross strictly inside it;
 4. `sweep_keeps_sorted`              induction over all scanbeams; `sweep_ael_left_to_right` (the premise of the winding theorems).
Also: `doIntersections_is_engine` (step (2) of the model IS `BuildIntersectList` + `ProcessIntersectList` of `Props/C10Isect`),
`validGen_ok` / `validGen_shared_point` (the regenerated `IsValidAelOrder` is an admissible insertion predicate),
`sweep_rounding_independent` (every rounding within 1/2 of the exact x gives the same sweep: `TopX` enters only through `Near`).

Orientation: y grows downwards, the sweep climbs from large y to small y; a scanbeam is `[y1, y0]` with `y1 < y0`.
Exact x-coordinates are fractions compared by cross-multiplication (`xlt`, `xeq`, `far`, `ltAbove`, `ltBelow` of the model).
Horizontal edges are excluded (`SEdge.Up`); joins (`join_with`) do not occur in the model.
-/
import ClipperVerif.Lemmas.SweepOrder
import ClipperVerif.Props.C10Isect
import ClipperVerif.Model.Ael
namespace Clipper.Props.C01Sweep
open Clipper Clipper.Model.AelOrder Clipper.Model.SweepOrder Clipper.Lemmas.SweepOrder
open Clipper.Model.BuildIntersectList (buildIntersectList leX)
open Clipper.Model.IntersectList (process)
open Clipper.Lemmas.BuildIntersectList (ids)
open Clipper.Lemmas.Inversions (mem_of_pair_sublist pair_sublist_ne not_both_orders)

/-- **exact_order_between_scanlines.**  Two (non-horizontal) straight edges `a`, `b`, in the order `a` left of `b` just above
the scanline `y0` (`ltAbove y0 a b`: smaller exact x at `y0`, or the same point and `a` turning left of `b`), and a scanline
`y1 < y0` (the lines are compared; for edges alive on `[y1, y0]` these are the edges).

* If they are NOT in the opposite order at `y1` (`¬ xlt y1 b a`) they do not cross inside the beam: `a` is strictly left of `b`
  at EVERY rational height `yn/yd` strictly between the scanlines, and still left of `b` just below `y1` (`ltBelow y1 a b`; they
  may meet in one point ON the scanline `y1`).
* If they are in the opposite order at `y1` (`xlt y1 b a`) they were strictly apart at `y0` and cross exactly once, at the
  rational height `cn/cd` STRICTLY inside the beam: below it (`height > cn/cd`) `a` is strictly left of `b`, above it strictly
  right, at it they coincide.

x-coordinates at rational heights are `Model.AelOrder.xNum/xDen` compared by `xLt` (denominators positive for `Up` edges). -/
theorem exact_order_between_scanlines (a b : SEdge) (y0 y1 : Int) (hy : y1 < y0) (hab : ltAbove y0 a b) :
    (¬ xlt y1 b a →
        ltBelow y1 a b ∧
        ∀ yn yd : Int, 0 < yd → y1 * yd < yn → yn < y0 * yd → xLt a.bot a.top b.bot b.top yn yd) ∧
    (xlt y1 b a →
        xlt y0 a b ∧
        ∃ cn cd : Int, 0 < cd ∧ y1 * cd < cn ∧ cn < y0 * cd ∧
          ∀ yn yd : Int, 0 < yd →
            (xLt a.bot a.top b.bot b.top yn yd ↔ cn * yd < yn * cd) ∧
            (xLt b.bot b.top a.bot a.top yn yd ↔ yn * cd < cn * yd)) := by
  constructor
  · intro h1
    refine ⟨ltBelow_of_not_reversed hy hab h1, ?_⟩
    intro yn yd hyd hlo hhi
    rw [xLt_iff_G y0 a b yn yd hyd]
    refine convex_pos (delta y0 a b) (sigma a b) (y0 - y1) yd (yn - y1 * yd) (y0 * yd - yn) hyd (Int.sub_pos.2 hlo)
      (Int.sub_pos.2 hhi) (by rw [Int.sub_mul]; omega) ((ltAbove_iff y0 a b).1 hab) ?_
    rw [← delta_affine y0 y1 a b]
    exact Int.not_lt.1 (mt (xgt_iff_delta y1 a b).2 h1)
  · intro h1
    obtain ⟨hD0, hs, hD1⟩ := reversed_facts hy hab h1
    -- the crossing height is `y0 - D0 / (-σ)`, where `D0` is the distance at `y0` and `-σ > 0` the rate at which it shrinks
    rw [delta_affine y0 y1 a b, Int.sub_mul] at hD1
    refine ⟨(xlt_iff_delta y0 a b).2 hD0, y0 * (-(sigma a b)) - delta y0 a b, -(sigma a b), Int.neg_pos.2 hs, ?_,
      Int.sub_lt_self _ hD0, ?_⟩
    · rw [Int.mul_neg, Int.mul_neg]; omega
    · intro yn yd hyd
      rw [xLt_iff_G y0 a b yn yd hyd, xGt_iff_G y0 a b yn yd hyd]
      have e : yd * delta y0 a b + (y0 * yd - yn) * sigma a b =
          yn * (-(sigma a b)) - (y0 * (-(sigma a b)) - delta y0 a b) * yd := by
        generalize delta y0 a b = D; generalize sigma a b = s
        grind
      rw [e]
      constructor <;> omega

/-- non-vacuity, first case: `a = (0,10)→(0,0)` and `b = (4,10)→(2,0)` approach but do not cross on `[0,10]` -/
example : let a : SEdge := ⟨0, ⟨0, 10⟩, ⟨0, 0⟩⟩; let b : SEdge := ⟨1, ⟨4, 10⟩, ⟨2, 0⟩⟩
    ltAbove 10 a b ∧ ¬ xlt 0 b a ∧ xLt a.bot a.top b.bot b.top 7 2 := by decide
/-- second case: `a = (0,10)→(6,0)` and `b = (4,10)→(2,0)` cross at height 5 (strictly inside `[0,10]`): reversed at the top -/
example : let a : SEdge := ⟨0, ⟨0, 10⟩, ⟨6, 0⟩⟩; let b : SEdge := ⟨1, ⟨4, 10⟩, ⟨2, 0⟩⟩
    ltAbove 10 a b ∧ xlt 0 b a ∧ xLt a.bot a.top b.bot b.top 6 1 ∧ xLt b.bot b.top a.bot a.top 4 1 ∧
      ¬ xLt a.bot a.top b.bot b.top 5 1 ∧ ¬ xLt b.bot b.top a.bot a.top 5 1 := by decide
/-- third case: the two bounds of a local minimum leave one point: ordered by direction just above it -/
example : let a : SEdge := ⟨0, ⟨3, 10⟩, ⟨0, 0⟩⟩; let b : SEdge := ⟨1, ⟨3, 10⟩, ⟨5, 2⟩⟩
    ltAbove 10 a b ∧ ¬ xlt 10 a b ∧ ¬ xlt 2 b a := by decide

/-- **the AEL at a scanline** `y`, before the local minima of `y` are inserted (i.e. as `DoTopOfScanbeam(y)` leaves it):
strictly sorted by exact x at `y`, any two edges more than one unit apart; every edge an input edge that continues above `y`;
an edge that starts on `y` is not a bound of a local minimum on `y` (it continues a bound). -/
structure AelAt (edges : List SEdge) (mins : Int → List (SEdge × SEdge)) (y : Int) (ael : List SEdge) : Prop where
  sorted : ael.Pairwise (fun a b => xlt y a b ∧ far y a b)
  mem : ∀ e ∈ ael, e ∈ edges ∧ AliveAbove y e ∧ (e.bot.y = y → e ∉ boundsOf (mins y))

/-- the empty AEL before the first scanline -/
theorem aelAt_nil (edges : List SEdge) (mins : Int → List (SEdge × SEdge)) (y : Int) : AelAt edges mins y [] :=
  ⟨List.Pairwise.nil, fun _ h => nomatch h⟩

/-- **scanbeam_keeps_sorted.**  Hypotheses: the AEL entering the scanline `y0` is as `AelAt` says; no input edge is horizontal
(`AllUp`); `next` continues bounds (`NextOK`); `cx` is within 1/2 of the exact x (`Near`); and for the scanbeam `[y1, y0]`
(`BeamOK`): `y1 < y0`; the local minima on `y0` are pairs of input edges leaving one point, left bound first, and every other
edge alive there is more than one unit away from them (`MinsOK`, `GPmin`); the insertion predicate answers by exact x for
edges more than one unit apart (`ValidOK` — `validGen_ok`: the regenerated `IsValidAelOrder` does); no input edge ends
strictly inside the scanbeam (`NoTopInside`: the scanlines are all vertex heights); at `y1` two edges of the scanbeam are
more than one unit apart unless they end in one point where both bounds end (`GPtop`).

Conclusions, for the three stages of `beamStep`:
 (1) after `InsertLocalMinimaIntoAEL(y0)` the AEL is sorted in the exact order just above `y0` (`ltAbove y0`: exact x, the two
     bounds of a local minimum by direction) and consists of the old edges and the bounds of the local minima of `y0`;
 (2) after `DoIntersections(y1)` it is a permutation of that, non-decreasing in `curr_x = cx · y1`, any two edges whose exact
     x at `y1` differ by more than 1 are in exact order, and it is sorted in the exact order just below `y1` (`ltBelow y1`);
 (3) after `DoTopOfScanbeam(y1)` it is again as `AelAt` says, for `y1`.
("More than 1": for exact x-coordinates exactly 1 apart, e.g. 3.5 and 4.5, `nearbyint` gives 4 and 4 and the stable sort keeps
whatever order they had; the statement with `≥ 1` is false of model and code.) -/
theorem scanbeam_keeps_sorted (edges : List SEdge) (valid : Int → SEdge → SEdge → Bool) (cx : SEdge → Int → Int)
    (next : SEdge → Option SEdge) (mins : Int → List (SEdge × SEdge)) (ael : List SEdge) (y0 y1 : Int)
    (hup : AllUp edges) (hnx : NextOK edges next mins) (hn : Near cx)
    (hb : BeamOK edges valid next mins y0 y1) (h0 : AelAt edges mins y0 ael) :
    let s := beamStep valid cx next mins ael y0 y1
    (s.inserted.Pairwise (ltAbove y0) ∧ (∀ e, e ∈ s.inserted ↔ e ∈ ael ∨ e ∈ boundsOf (mins y0))) ∧
    (s.afterIsect.Perm s.inserted ∧
      s.afterIsect.Pairwise (fun a b => cx a y1 ≤ cx b y1 ∧ (far y1 a b → xlt y1 a b)) ∧
      s.afterIsect.Pairwise (ltBelow y1)) ∧
    AelAt edges mins y1 s.afterTop := by
  obtain ⟨hy, hm, hgm, hv, hnt, hgt⟩ := hb
  intro s
  -- (1)
  have hael : ∀ e ∈ ael, e ∈ edges ∧ AliveAbove y0 e := fun e he => ⟨(h0.mem e he).1, (h0.mem e he).2.1⟩
  have hs0 : ael.Pairwise (ltU y0) :=
    h0.sorted.imp_of_mem (fun {a b} ha hb h => ltU_of_xlt (hup a (hael a ha).1) (hup b (hael b hb).1) h.1)
  have hfresh : ∀ e ∈ ael, e ∉ boundsOf (mins y0) := fun e he hin =>
    (h0.mem e he).2.2 (bound_alive hup hm hin).2.2 hin
  obtain ⟨i1, i2⟩ := insertMins_sorted edges (valid y0) y0 hup hv (mins y0) ael hm hgm hs0 hael hfresh
  -- every edge of the scanbeam reaches its top
  have hmem1 := inserted_alive hup hm hy hnt hael i2
  -- (2)
  have hperm : s.afterIsect.Perm s.inserted := doIntersections_perm cx y1 _
  have j1 := doIntersections_exact_of_far hn y1 s.inserted (fun e he =>
    ⟨hup e (hmem1 e he).1, (hmem1 e he).2.2.1, Int.le_of_lt (hmem1 e he).2.2.2⟩)
  have j2 := doIntersections_below edges next y0 y1 s.inserted hy hn hup hgt i1
    (fun e he => ⟨(hmem1 e he).1, (hmem1 e he).2.2⟩)
  have hmem2 : ∀ e ∈ s.afterIsect, e ∈ edges ∧ AliveBelow y1 e ∧ y0 ≤ e.bot.y := fun e he =>
    have h := hmem1 e (hperm.mem_iff.1 he)
    ⟨h.1, h.2.2, h.2.1.2⟩
  -- (3)
  have k1 := topOfBeam_sorted edges next mins y1 s.afterIsect hup hnx hgt j2 (fun e he => ⟨(hmem2 e he).1, (hmem2 e he).2.1⟩)
  have k2 := topOfBeam_mem edges next mins y0 y1 s.afterIsect hy hup hnx hmem2
  exact ⟨⟨i1.imp (fun h => h.2.2), i2⟩, ⟨hperm, j1, j2⟩, ⟨k1, k2⟩⟩

theorem ids_keyed (cx : SEdge → Int → Int) (y1 : Int) (ael : List SEdge) : ids (keyed cx y1 ael) = idsOf ael := by
  simp [ids, keyed, idsOf, List.map_map, Function.comp_def]

/-- **doIntersections_is_engine.**  Run the model of `BuildIntersectList` (`Model/BuildIntersectList.lean`: the merge sort over
the SEL with its `jump` runs, recording `AddNewIntersectNode(*tmp, *right)`) on the AEL keyed by `curr_x = cx · y1`, hand its
node list in ANY order (`std::sort(…, IntersectListSort)` of the real code) to the model of the `ProcessIntersectList` loop
(`Model/IntersectList.process`): the loop never scans past the end of the list, and the swaps leave the AEL in exactly the
order `doIntersections` defines.  Only hypothesis: the edges have distinct identities. -/
theorem doIntersections_is_engine (cx : SEdge → Int → Int) (y1 : Int) (ael : List SEdge) (hnd : (idsOf ael).Nodup)
    (nodes : List (Nat × Nat)) (hperm : nodes.Perm (buildIntersectList (keyed cx y1 ael)).nodes) :
    process nodes.length (idsOf ael) nodes = .ok (idsOf (doIntersections cx y1 ael)) := by
  have h := Clipper.Props.C10Isect.processIntersectList_no_fault_built (keyed cx y1 ael) (by rw [ids_keyed]; exact hnd)
    nodes hperm
  rw [ids_keyed] at h
  rw [h, Clipper.Props.C10Isect.buildIntersectList_sorted]
  have hm : (doIntersections cx y1 ael).map (fun e => (e.id, cx e y1)) = (keyed cx y1 ael).mergeSort leX := by
    rw [doIntersections_eq_mergeSort]
    unfold keyed
    exact List.map_mergeSort (fun a _ b _ => by simp [leCx, leX])
  rw [← hm]
  simp [ids, idsOf, List.map_map, Function.comp_def]

/-- in general position at `y1`, `curr_x` compares strictly exactly as the exact x does -/
theorem cx_lt_iff_xlt {edges : List SEdge} {next : SEdge → Option SEdge} {cx : SEdge → Int → Int} {y1 : Int}
    (hup : AllUp edges) (hn : Near cx) (hgt : GPtop edges next y1) {a b : SEdge} (ha : a ∈ edges) (hb : b ∈ edges)
    (hne : a ≠ b) (la : AliveBelow y1 a) (lb : AliveBelow y1 b) : cx b y1 < cx a y1 ↔ xlt y1 b a := by
  have ua := hup a ha; have ub := hup b hb
  have ra : a.top.y ≤ y1 ∧ y1 ≤ a.bot.y := ⟨la.1, Int.le_of_lt la.2⟩
  have rb : b.top.y ≤ y1 ∧ y1 ≤ b.bot.y := ⟨lb.1, Int.le_of_lt lb.2⟩
  rcases hgt a ha b hb hne la lb with hf | ⟨htop, hty, _, _⟩
  · exact cx_lt_iff_of_far hn ub ua rb ra (far_symm hf)
  · exact ⟨fun h => absurd (cx_eq_of_same_top hn ua ub ra rb htop hty) (Int.ne_of_gt h),
      fun h => absurd (xeq_of_same_top htop hty) (Int.ne_of_gt h)⟩

/-- **intersections_are_exactly_crossings.**  Same hypotheses as `scanbeam_keeps_sorted`, plus distinct identities of the input
edges.  Let `L` be the AEL after the insertions at `y0` and `nodes` the intersect nodes `BuildIntersectList(y1)` records for it
(model of `Props/C10Isect`, keys `cx · y1`).  Then
 * no node is recorded twice, and every node is `(a.id, b.id)` for two edges with `a` left of `b` in `L`;
 * for any two edges `a` left of `b` in `L` (`ltAbove y0 a b`: that is their exact order just above `y0`):
   the node `(a.id, b.id)` is recorded IFF their exact order at `y1` is the opposite (`xlt y1 b a`)
   IFF the two edges meet at a height `cn/cd` STRICTLY inside the scanbeam; the node `(b.id, a.id)` is never recorded.
So the pairs swapped in the scanbeam are exactly the pairs that cross strictly inside it, each once. -/
theorem intersections_are_exactly_crossings (edges : List SEdge) (valid : Int → SEdge → SEdge → Bool)
    (cx : SEdge → Int → Int) (next : SEdge → Option SEdge) (mins : Int → List (SEdge × SEdge)) (ael : List SEdge)
    (y0 y1 : Int) (hup : AllUp edges) (hnx : NextOK edges next mins) (hn : Near cx) (hid : IdsInj edges)
    (hb : BeamOK edges valid next mins y0 y1) (h0 : AelAt edges mins y0 ael) :
    let L := (beamStep valid cx next mins ael y0 y1).inserted
    let nodes := (buildIntersectList (keyed cx y1 L)).nodes
    nodes.Nodup ∧
    (∀ n ∈ nodes, ∃ a b, [a, b].Sublist L ∧ n = (a.id, b.id)) ∧
    (∀ a b, [a, b].Sublist L →
      ltAbove y0 a b ∧
      ((a.id, b.id) ∈ nodes ↔ xlt y1 b a) ∧
      (b.id, a.id) ∉ nodes ∧
      (xlt y1 b a ↔ ∃ cn cd : Int, 0 < cd ∧ y1 * cd < cn ∧ cn < y0 * cd ∧
        xNum a.bot a.top cn cd * xDen b.bot b.top cd = xNum b.bot b.top cn cd * xDen a.bot a.top cd)) := by
  obtain ⟨⟨i1, i2⟩, _, _⟩ := scanbeam_keeps_sorted edges valid cx next mins ael y0 y1 hup hnx hn hb h0
  obtain ⟨hy, hm, _, _, hnt, hgt⟩ := hb
  intro L nodes
  have hmemL : ∀ e ∈ L, e ∈ edges ∧ AliveBelow y1 e := fun e he =>
    have h := inserted_alive hup hm hy hnt (fun e he => ⟨(h0.mem e he).1, (h0.mem e he).2.1⟩) i2 e he
    ⟨h.1, h.2.2⟩
  have hndL : L.Nodup := nodup_of_pairwise_irrefl (ltAbove_irrefl y0) i1
  have hndI : (idsOf L).Nodup :=
    List.pairwise_map.2 ((List.Pairwise.and_mem.1 hndL).imp
      (fun {a b} ⟨ha, hb, hne⟩ h => hne (hid a (hmemL a ha).1 b (hmemL b hb).1 h)))
  -- for two edges in list order, `curr_x` is strictly reversed iff the exact x is
  have hcx : ∀ {a b : SEdge}, [a, b].Sublist L → (cx b y1 < cx a y1 ↔ xlt y1 b a) := fun {a b} hs =>
    have hm := mem_of_pair_sublist hs
    cx_lt_iff_xlt hup hn hgt (hmemL a hm.1).1 (hmemL b hm.2).1 (pair_sublist_ne hndL hs) (hmemL a hm.1).2 (hmemL b hm.2).2
  -- membership in the node list, on sweep edges
  have hnode : ∀ n, n ∈ nodes ↔ ∃ a b, [a, b].Sublist L ∧ n = (a.id, b.id) ∧ xlt y1 b a := by
    intro n
    rw [Clipper.Props.C10Isect.mem_nodes_iff]
    constructor
    · rintro ⟨ka, kb, hs, hlt, rfl⟩
      obtain ⟨l', hl', hmap⟩ := List.sublist_map_iff.1 hs
      obtain ⟨a, t, rfl, rfl, ht⟩ := List.map_eq_cons_iff.1 hmap.symm
      obtain ⟨b, t', rfl, rfl, ht'⟩ := List.map_eq_cons_iff.1 ht
      cases List.map_eq_nil_iff.1 ht'
      exact ⟨a, b, hl', rfl, (hcx hl').1 hlt⟩
    · rintro ⟨a, b, hs, rfl, hx⟩
      exact ⟨(a.id, cx a y1), (b.id, cx b y1), hs.map (fun e : SEdge => (e.id, cx e y1)), (hcx hs).2 hx, rfl⟩
  -- a node names its two edges
  have hname : ∀ {a b a' b' : SEdge}, a ∈ L → b ∈ L → [a', b'].Sublist L → (a'.id, b'.id) = (a.id, b.id) → a' = a ∧ b' = b :=
    fun {a b a' b'} ha hb hs' he =>
      have hm' := mem_of_pair_sublist hs'
      ⟨hid a' (hmemL a' hm'.1).1 a (hmemL a ha).1 (Prod.mk.inj he).1, hid b' (hmemL b' hm'.2).1 b (hmemL b hb).1 (Prod.mk.inj he).2⟩
  refine ⟨Clipper.Props.C10Isect.nodes_nodup _ (by rw [ids_keyed]; exact hndI), ?_, ?_⟩
  · intro n hn'
    obtain ⟨a, b, hs, he, _⟩ := (hnode n).1 hn'
    exact ⟨a, b, hs, he⟩
  · intro a b hs
    have hab : ltAbove y0 a b := List.pairwise_iff_forall_sublist.1 i1 hs
    have hm := mem_of_pair_sublist hs
    refine ⟨hab, ?_, ?_, ?_⟩
    · rw [hnode]
      constructor
      · rintro ⟨a', b', hs', he, hx⟩
        obtain ⟨rfl, rfl⟩ := hname hm.1 hm.2 hs' he.symm
        exact hx
      · intro hx; exact ⟨a, b, hs, rfl, hx⟩
    · rw [hnode]
      rintro ⟨a', b', hs', he, _⟩
      obtain ⟨rfl, rfl⟩ := hname hm.2 hm.1 hs' he.symm
      exact not_both_orders hndL hs hs'
    · obtain ⟨t1, t2⟩ := exact_order_between_scanlines a b y0 y1 hy hab
      constructor
      · intro hx
        obtain ⟨_, cn, cd, c1, c2, c3, c4⟩ := t2 hx
        exact ⟨cn, cd, c1, c2, c3, Int.le_antisymm (Int.not_lt.1 (mt (c4 cn cd c1).2.1 (Int.lt_irrefl _)))
          (Int.not_lt.1 (mt (c4 cn cd c1).1.1 (Int.lt_irrefl _)))⟩
      · rintro ⟨cn, cd, c1, c2, c3, c4⟩
        exact Classical.byContradiction (fun hx => Int.ne_of_lt ((t1 hx).2 cn cd c1 c2 c3) c4)

/-- what is proved of one scanbeam snapshot -/
structure SnapSorted (edges : List SEdge) (mins : Int → List (SEdge × SEdge)) (cx : SEdge → Int → Int) (s : Snap) : Prop where
  /-- after the insertions: exact order just above the bottom scanline -/
  inserted_sorted : s.inserted.Pairwise (ltAbove s.y0)
  /-- `DoIntersections` only permutes -/
  isect_perm : s.afterIsect.Perm s.inserted
  /-- after `DoIntersections`: non-decreasing `curr_x`, exact order for edges more than 1 apart -/
  isect_sorted_cx : s.afterIsect.Pairwise (fun a b => cx a s.y1 ≤ cx b s.y1 ∧ (far s.y1 a b → xlt s.y1 a b))
  /-- after `DoIntersections`: exact order just below the top scanline -/
  isect_sorted : s.afterIsect.Pairwise (ltBelow s.y1)
  /-- after `DoTopOfScanbeam`: strictly sorted by exact x on the top scanline, all more than 1 apart -/
  top_sorted : AelAt edges mins s.y1 s.afterTop

theorem sweepFrom_cons (valid : Int → SEdge → SEdge → Bool) (cx : SEdge → Int → Int) (next : SEdge → Option SEdge)
    (mins : Int → List (SEdge × SEdge)) (ael : List SEdge) (y0 y1 : Int) (rest : List Int) :
    sweepFrom valid cx next mins ael (y0 :: y1 :: rest) =
      beamStep valid cx next mins ael y0 y1 ::
        sweepFrom valid cx next mins (beamStep valid cx next mins ael y0 y1).afterTop (y1 :: rest) := rfl

/-- **sweep_keeps_sorted.**  ASSUMED about the event list (all of it decidable and evaluated by the driver on every replayed
input, `SWEEPHYP`): the input `edges` are non-horizontal with distinct points as stated in `AllUp`/`NextOK`; for every two
consecutive scanlines of `ys` the conditions `BeamOK` (the scanlines descend and contain every vertex height; the local minima
are inserted at their scanline, left bound first; general position at local minima and at the top of every scanbeam; the
insertion predicate answers by exact x for edges more than 1 apart); `cx` within 1/2 of the exact x; the sweep starts from an
AEL as in `AelAt` (the empty one: `sweep_keeps_sorted_from_empty`).
PROVED: at every scanbeam of the model sweep `sweepFrom`, at all three stages, the AEL is sorted as `SnapSorted` says. -/
theorem sweep_keeps_sorted (edges : List SEdge) (valid : Int → SEdge → SEdge → Bool) (cx : SEdge → Int → Int)
    (next : SEdge → Option SEdge) (mins : Int → List (SEdge × SEdge))
    (hup : AllUp edges) (hnx : NextOK edges next mins) (hn : Near cx) :
    ∀ (ys : List Int) (ael : List SEdge), SweepOK edges valid next mins ys →
      (∀ y, ys.head? = some y → AelAt edges mins y ael) →
      ∀ s ∈ sweepFrom valid cx next mins ael ys, SnapSorted edges mins cx s := by
  intro ys
  induction ys with
  | nil => intro ael _ _ s hs; simp [sweepFrom] at hs
  | cons y0 t ih =>
    intro ael hok h0 s hs
    cases t with
    | nil => simp [sweepFrom] at hs
    | cons y1 rest =>
      rw [sweepFrom_cons] at hs
      obtain ⟨hb, hrest⟩ := hok
      obtain ⟨⟨a1, _⟩, ⟨b1, b2, b3⟩, c1⟩ :=
        scanbeam_keeps_sorted edges valid cx next mins ael y0 y1 hup hnx hn hb (h0 y0 rfl)
      rcases List.mem_cons.1 hs with rfl | hs
      · exact ⟨a1, b1, b2, b3, c1⟩
      · exact ih _ hrest (fun y hy => by simp at hy; subst hy; exact c1) s hs

/-- the sweep from the empty AEL -/
theorem sweep_keeps_sorted_from_empty (edges : List SEdge) (valid : Int → SEdge → SEdge → Bool) (cx : SEdge → Int → Int)
    (next : SEdge → Option SEdge) (mins : Int → List (SEdge × SEdge))
    (hup : AllUp edges) (hnx : NextOK edges next mins) (hn : Near cx) (ys : List Int)
    (hok : SweepOK edges valid next mins ys) :
    ∀ s ∈ sweepFrom valid cx next mins [] ys, SnapSorted edges mins cx s :=
  sweep_keeps_sorted edges valid cx next mins hup hnx hn ys [] hok (fun y _ => aelAt_nil edges mins y)

/-- **validGen_ok.**  The hypothesis `ValidOK` of the sweep theorems holds for the C++ `IsValidAelOrder` (the definition
regenerated from the source, applied to the `Active` records `toO` with `curr_x = cx · y`), whatever the fields read only by
its collinear branches (`info`) are: for a resident and a newcomer more than one unit apart at the scanline, the rounded
`curr_x` differ in the order of the exact x, and the predicate compares `curr_x`. -/
theorem validGen_ok (edges : List SEdge) (cx : SEdge → Int → Int) (info : SEdge → OInfo) (y : Int)
    (hup : AllUp edges) (hn : Near cx) : ValidOK edges (validGen cx info y) y := by
  intro r hr n hne hra hna _ hf
  have h := cx_lt_iff_of_far hn (hup r hr) (hup n hne) ⟨Int.le_of_lt hra.1, hra.2⟩ ⟨Int.le_of_lt hna.1, hna.2⟩ hf
  have hne' : cx r y ≠ cx n y := fun e =>
    (xlt_or_of_far (hup r hr) (hup n hne) hf).elim (fun hx => Int.ne_of_lt (h.2 hx) e)
      (fun hx => Int.ne_of_gt ((cx_lt_iff_of_far hn (hup n hne) (hup r hr) ⟨Int.le_of_lt hna.1, hna.2⟩
        ⟨Int.le_of_lt hra.1, hra.2⟩ (far_symm hf)).2 hx) e)
  exact (congrArg (· = true) (Clipper.Props.C01Order.isValidAelOrder_of_currX_ne (toO cx info y r) (toO cx info y n) hne')).to_iff.trans
    (decide_eq_true_iff.trans h)

/-- **validGen_shared_point** (beyond general position: the case `isValidAelOrder_spec_gp` describes).  A resident whose line
passes exactly through the newcomer's bottom point (same exact x on the scanline) and a different direction: both `curr_x` are
that x, the predicate takes the cross-product branch, and answers exactly `ltAbove y` — the exact order just above the scanline. -/
theorem validGen_shared_point (cx : SEdge → Int → Int) (info : SEdge → OInfo) (y : Int) (r n : SEdge) (hn : Near cx)
    (ur : r.Up) (un : n.Up) (hra : AliveAbove y r) (hny : n.bot.y = y) (hx : xeq y r n) (hs : slt r n ∨ slt n r) :
    validGen cx info y r n = true ↔ ltAbove y r n := by
  have pn := exD_pos un
  have en : exN n y = n.bot.x * exD n := hny ▸ exN_at_bot n
  have er : exN r y = n.bot.x * exD r :=
    Int.eq_of_mul_eq_mul_right (Int.ne_of_gt pn) ((show exN r y * exD n = _ from hx).trans (by rw [en, Int.mul_right_comm]))
  have cn : cx n y = n.bot.x := near_exact hn un ⟨hny ▸ Int.le_of_lt un, Int.le_of_eq hny.symm⟩ _ en
  have cr : cx r y = n.bot.x := near_exact hn ur ⟨Int.le_of_lt hra.1, hra.2⟩ _ er
  -- `n.bot` lies on the line of `r`, so the cross product of the C++ test has the sign of the slope difference
  have hon : cross r.bot r.top n.bot = 0 :=
    (Int.mul_eq_zero.1 ((delta_at_bot r n).symm.trans (hny ▸ (xeq_iff_delta y r n).1 hx))).resolve_left (Int.ne_of_gt pn)
  obtain ⟨s1, s2⟩ := sigma_sign_of_through ur (hny ▸ hra.1) hon
  have hc0 : cross r.top n.bot n.top ≠ 0 := by
    rcases hs with h | h
    · exact Int.ne_of_lt (s1.1 ((slt_iff_sigma r n).1 h))
    · exact Int.ne_of_gt (s2.1 ((sgt_iff_sigma r n).1 h))
  have hv : validGen cx info y r n = decide (cross r.top n.bot n.top < 0) :=
    Clipper.Props.C01Order.isValidAelOrder_of_cross_ne (toO cx info y r) (toO cx info y n) (cr.trans cn.symm) hc0
  rw [hv, decide_eq_true_iff, ← s1, ← slt_iff_sigma]
  exact ⟨fun h => Or.inr ⟨hx, h⟩, fun h => h.elim (fun h => absurd hx (Int.ne_of_lt h)) (fun h => h.2)⟩

/-- `SweepOK` depends on the insertion predicate only through `ValidOK` -/
theorem sweepOK_of_validOK (edges : List SEdge) (valid valid' : Int → SEdge → SEdge → Bool) (next : SEdge → Option SEdge)
    (mins : Int → List (SEdge × SEdge)) (hv : ∀ y, ValidOK edges (valid' y) y) :
    ∀ ys, SweepOK edges valid next mins ys → SweepOK edges valid' next mins ys
  | [], _ => trivial
  | [_], _ => trivial
  | y0 :: y1 :: rest, h => by
    obtain ⟨⟨a, b, c, _, e, f⟩, hr⟩ := h
    exact ⟨⟨a, b, c, hv y0, e, f⟩, sweepOK_of_validOK edges valid valid' next mins hv (y1 :: rest) hr⟩

private theorem ltBelow_asymm {y : Int} {a b : SEdge} (h : ltBelow y a b) : ¬ ltBelow y b a := by
  unfold ltBelow xlt xeq slt at *; omega

/-- two lists sorted by `ltAbove y` (or `ltBelow y`) with the same elements are equal -/
theorem eq_of_sorted_same_mem {R : SEdge → SEdge → Prop} (hirr : ∀ a, ¬ R a a) (hasymm : ∀ a b, R a b → ¬ R b a)
    {l₁ l₂ : List SEdge} (h1 : l₁.Pairwise R) (h2 : l₂.Pairwise R) (hm : ∀ e, e ∈ l₁ ↔ e ∈ l₂) : l₁ = l₂ :=
  List.Perm.eq_of_pairwise (fun a b _ _ hab hba => absurd hba (hasymm a b hab)) h1 h2
    ((List.perm_ext_iff_of_nodup (nodup_of_pairwise_irrefl hirr h1) (nodup_of_pairwise_irrefl hirr h2)).2 hm)

/-- **sweep_rounding_independent.**  Under the hypotheses of `sweep_keeps_sorted`, the model sweep is the same for EVERY two
rounding functions within 1/2 of the exact x (and every choice of the fields read by the collinear branches of
`IsValidAelOrder`): every AEL of every scanbeam is determined by the exact geometry.  In particular the sweep computed with the
exact x rounded half to even (`rhe`, what the driver replays) is the sweep computed with any `TopX` that satisfies `Near` —
which the harness checks of the real `TopX` values (`SWEEPHYP`). -/
theorem sweep_rounding_independent (edges : List SEdge) (cx cx' : SEdge → Int → Int) (info info' : SEdge → OInfo)
    (next : SEdge → Option SEdge) (mins : Int → List (SEdge × SEdge))
    (hup : AllUp edges) (hnx : NextOK edges next mins) (hn : Near cx) (hn' : Near cx') :
    ∀ (ys : List Int) (ael : List SEdge), SweepOK edges (validGen cx info) next mins ys →
      (∀ y, ys.head? = some y → AelAt edges mins y ael) →
      sweepFrom (validGen cx info) cx next mins ael ys = sweepFrom (validGen cx' info') cx' next mins ael ys := by
  intro ys
  induction ys with
  | nil => intro ael _ _; simp [sweepFrom]
  | cons y0 t ih =>
    intro ael hok h0
    cases t with
    | nil => simp [sweepFrom]
    | cons y1 rest =>
      have hok' := sweepOK_of_validOK edges (validGen cx info) (validGen cx' info') next mins
        (fun y => validGen_ok edges cx' info' y hup hn') _ hok
      obtain ⟨hb, hrest⟩ := hok
      obtain ⟨hb', _⟩ := hok'
      obtain ⟨⟨a1, a2⟩, ⟨b1, _, b3⟩, c1⟩ :=
        scanbeam_keeps_sorted edges (validGen cx info) cx next mins ael y0 y1 hup hnx hn hb (h0 y0 rfl)
      obtain ⟨⟨a1', a2'⟩, ⟨b1', _, b3'⟩, _⟩ :=
        scanbeam_keeps_sorted edges (validGen cx' info') cx' next mins ael y0 y1 hup hnx hn' hb' (h0 y0 rfl)
      have e1 : (beamStep (validGen cx info) cx next mins ael y0 y1).inserted =
          (beamStep (validGen cx' info') cx' next mins ael y0 y1).inserted :=
        eq_of_sorted_same_mem (ltAbove_irrefl y0) (fun a b => ltAbove_asymm) a1 a1' (fun e => by rw [a2 e, a2' e])
      have e2 : (beamStep (validGen cx info) cx next mins ael y0 y1).afterIsect =
          (beamStep (validGen cx' info') cx' next mins ael y0 y1).afterIsect :=
        eq_of_sorted_same_mem (ltBelow_irrefl y1) (fun _ _ => ltBelow_asymm) b3 b3'
          (fun e => by rw [b1.mem_iff, b1'.mem_iff, e1])
      have e3 : (beamStep (validGen cx info) cx next mins ael y0 y1).afterTop =
          (beamStep (validGen cx' info') cx' next mins ael y0 y1).afterTop := by
        show topOfBeam next y1 _ = topOfBeam next y1 _
        exact congrArg _ e2
      have es : beamStep (validGen cx info) cx next mins ael y0 y1 = beamStep (validGen cx' info') cx' next mins ael y0 y1 :=
        show Snap.mk y0 y1 _ _ _ = Snap.mk y0 y1 _ _ _ from
          congr (congr (congrArg (Snap.mk y0 y1) e1) e2) e3
      rw [sweepFrom_cons, sweepFrom_cons, es]
      congr 1
      exact ih _ hrest (fun y hy => by simp at hy; subst hy; rw [← es]; exact c1)

/-- what the driver's replay (`SWEEPORDER`) rests on: for an input whose hypotheses `Built.Hyp` hold (decided by `decide`), the
sweep computed from the paths alone with `rhe` is sorted at every stage of every scanbeam … -/
theorem built_sweep_sorted (ps : Paths) (info : SEdge → OInfo) (h : (build ps).Hyp (validGen rhe info)) :
    ∀ s ∈ (build ps).sweep rhe info, SnapSorted (build ps).edges (build ps).mins rhe s :=
  sweep_keeps_sorted_from_empty _ _ _ _ _ h.1 h.2.2.1 rhe_near _ h.2.2.2

/-- … and it is the sweep for every other admissible rounding `cx` -/
theorem built_sweep_any_rounding (ps : Paths) (info info' : SEdge → OInfo) (cx : SEdge → Int → Int) (hn : Near cx)
    (h : (build ps).Hyp (validGen rhe info)) : (build ps).sweep rhe info = (build ps).sweep cx info' :=
  sweep_rounding_independent _ rhe cx info info' _ _ h.1 h.2.2.1 rhe_near hn _ [] h.2.2.2
    (fun y _ => aelAt_nil _ _ y)

/-- in a list sorted by a strict order, the elements in front of position `k` are exactly the elements smaller than the `k`-th -/
theorem take_eq_filter_of_sorted {α : Type} (lt : α → α → Prop) [DecidableRel lt] (hirr : ∀ a, ¬ lt a a)
    (hasymm : ∀ a b, lt a b → ¬ lt b a) (l : List α) (hs : l.Pairwise lt) (k : Nat) (hk : k < l.length) :
    l.take k = l.filter (fun e => decide (lt e l[k])) := by
  have hsplit : l = l.take k ++ l[k] :: l.drop (k + 1) := by
    rw [List.getElem_cons_drop hk, List.take_append_drop]
  generalize l[k] = x at hsplit ⊢
  have hs' := hs
  rw [hsplit, List.pairwise_append] at hs'
  obtain ⟨_, h2, h3⟩ := hs'
  rw [List.pairwise_cons] at h2
  conv => rhs; rw [hsplit]
  rw [List.filter_append, List.filter_cons]
  have f1 : (l.take k).filter (fun e => decide (lt e x)) = l.take k :=
    List.filter_eq_self.2 (fun a ha => by simpa using h3 a ha x (by simp))
  have f2 : (l.drop (k + 1)).filter (fun e => decide (lt e x)) = [] :=
    List.filter_eq_nil_iff.2 (fun a ha => by simpa using hasymm _ _ (h2.1 a ha))
  simp [f1, f2, hirr]

/-- **sweep_ael_left_to_right.**  Under the hypotheses of `sweep_keeps_sorted`, at every scanbeam of the model sweep and for
every position `k`: the edges in front of position `k` in the AEL are exactly the AEL edges that are geometrically LEFT of the
`k`-th edge — just above the bottom scanline after the insertions, just below the top scanline after `DoIntersections`, on the
top scanline after `DoTopOfScanbeam`.  Hence for every labelling `lab` of the sweep edges by bookkeeping records
(`Model.Edge`: path type, `wind_dx`, …) the prefix sums `sumT t ((AEL.map lab).take k)` — the quantities `wind_insert`,
`inv_reachable` and `coverage_1d` of `Props/C01.lean` are about — are the winding sums over the edges to the left. -/
theorem sweep_ael_left_to_right (edges : List SEdge) (valid : Int → SEdge → SEdge → Bool) (cx : SEdge → Int → Int)
    (next : SEdge → Option SEdge) (mins : Int → List (SEdge × SEdge))
    (hup : AllUp edges) (hnx : NextOK edges next mins) (hn : Near cx) (ys : List Int)
    (hok : SweepOK edges valid next mins ys) (s : Snap) (hs : s ∈ sweepFrom valid cx next mins [] ys)
    (lab : SEdge → Clipper.Model.Edge) (t : PathType) :
    (∀ k (hk : k < s.inserted.length),
        s.inserted.take k = s.inserted.filter (fun e => decide (ltAbove s.y0 e s.inserted[k])) ∧
        Clipper.Model.sumT t ((s.inserted.map lab).take k) =
          Clipper.Model.sumT t ((s.inserted.filter (fun e => decide (ltAbove s.y0 e s.inserted[k]))).map lab)) ∧
    (∀ k (hk : k < s.afterIsect.length),
        s.afterIsect.take k = s.afterIsect.filter (fun e => decide (ltBelow s.y1 e s.afterIsect[k])) ∧
        Clipper.Model.sumT t ((s.afterIsect.map lab).take k) =
          Clipper.Model.sumT t ((s.afterIsect.filter (fun e => decide (ltBelow s.y1 e s.afterIsect[k]))).map lab)) ∧
    (∀ k (hk : k < s.afterTop.length),
        s.afterTop.take k = s.afterTop.filter (fun e => decide (xlt s.y1 e s.afterTop[k])) ∧
        Clipper.Model.sumT t ((s.afterTop.map lab).take k) =
          Clipper.Model.sumT t ((s.afterTop.filter (fun e => decide (xlt s.y1 e s.afterTop[k]))).map lab)) := by
  have h := sweep_keeps_sorted_from_empty edges valid cx next mins hup hnx hn ys hok s hs
  refine ⟨fun k hk => ?_, fun k hk => ?_, fun k hk => ?_⟩
  · have e := take_eq_filter_of_sorted (ltAbove s.y0) (ltAbove_irrefl s.y0) (fun a b => ltAbove_asymm) _ h.inserted_sorted k hk
    exact ⟨e, by rw [← List.map_take, e]⟩
  · have e := take_eq_filter_of_sorted (ltBelow s.y1) (ltBelow_irrefl s.y1) (fun _ _ => ltBelow_asymm) _ h.isect_sorted k hk
    exact ⟨e, by rw [← List.map_take, e]⟩
  · have hsx : s.afterTop.Pairwise (xlt s.y1) := h.top_sorted.sorted.imp (fun h => h.1)
    have e := take_eq_filter_of_sorted (xlt s.y1) (xlt_irrefl s.y1) (fun a b => xlt_asymm) _ hsx k hk
    exact ⟨e, by rw [← List.map_take, e]⟩

/- The test input, two crossing triangles:
`A = (0,40) (30,3) (-30,11)` and `B = (-10,33) (-31,0) (34,20)`; edges 0–2 belong to `A`, 3–5 to `B`.  Six scanlines, five
scanbeams; in three of them edges cross (six crossings in all), one intermediate vertex per triangle, two maxima. -/

private def triA : Path := [⟨0, 40⟩, ⟨30, 3⟩, ⟨-30, 11⟩]
private def triB : Path := [⟨-10, 33⟩, ⟨-31, 0⟩, ⟨34, 20⟩]

/-- every hypothesis of the sweep theorems holds for this input (insertion predicate = the regenerated `IsValidAelOrder`,
`curr_x` = exact x rounded half to even) -/
theorem triangles_hyp : (build [triA, triB]).Hyp (validGen rhe default) := by decide +kernel

/-- the sweep the model computes: per scanbeam `(y0, y1, AEL after insertion, after DoIntersections, after DoTopOfScanbeam)`
by edge identity -/
example : ((build [triA, triB]).sweep rhe default).map
      (fun s => (s.y0, s.y1, idsOf s.inserted, idsOf s.afterIsect, idsOf s.afterTop)) =
    [(40, 33, [2, 0], [2, 0], [2, 0]),
     (33, 20, [3, 5, 2, 0], [2, 3, 0, 5], [2, 3, 0, 4]),
     (20, 11, [2, 3, 0, 4], [2, 3, 4, 0], [1, 3, 4, 0]),
     (11, 3, [1, 3, 4, 0], [3, 4, 1, 0], [3, 4]),
     (3, 0, [3, 4], [3, 4], [])] := by decide +kernel

/-- `sweep_keeps_sorted` applies to it: every snapshot of that sweep is sorted -/
example : ∀ s ∈ (build [triA, triB]).sweep rhe default, SnapSorted (build [triA, triB]).edges (build [triA, triB]).mins rhe s :=
  sweep_keeps_sorted_from_empty _ _ _ _ _ triangles_hyp.1 triangles_hyp.2.2.1 rhe_near _ triangles_hyp.2.2.2

/-- the intersect nodes `BuildIntersectList` records per scanbeam for that sweep — by `intersections_are_exactly_crossings`
exactly the pairs that cross strictly inside the scanbeam: the two triangle outlines meet in six points -/
example : ((build [triA, triB]).sweep rhe default).map
      (fun s => (buildIntersectList (keyed rhe s.y1 s.inserted)).nodes) =
    [[], [(5, 2), (3, 2), (5, 0)], [(0, 4)], [(1, 3), (1, 4)], []] := by decide +kernel

/-- `sweep_rounding_independent` on that input: rounding half up instead of half to even (they differ at ties: 5/2 becomes 2
under `rhe` and 3 under `rhu`, next example) gives the same sweep -/
example : (build [triA, triB]).sweep rhe default = (build [triA, triB]).sweep rhu default :=
  built_sweep_any_rounding _ _ _ rhu rhu_near triangles_hyp
example : rhe ⟨0, ⟨0, 2⟩, ⟨5, 0⟩⟩ 1 = 2 ∧ rhu ⟨0, ⟨0, 2⟩, ⟨5, 0⟩⟩ 1 = 3 := by decide

/-- `doIntersections_is_engine` on the AEL of the second scanbeam: the three recorded nodes handed over in reversed order -/
example : process 3 [3, 5, 2, 0] [(5, 0), (3, 2), (5, 2)] = .ok [2, 3, 0, 5] := rfl

/-- `validGen_shared_point`: the resident `(10,5)→(1,-7)` passes through the newcomer's bottom point `(4,-3)`; the newcomer
`(4,-3)→(-2,-6)` turns left of it: both `curr_x` are 4, the regenerated predicate says "not valid", and indeed the resident is
not left of the newcomer just above the scanline (the hypotheses of the theorem hold) -/
example : let r : SEdge := ⟨0, ⟨10, 5⟩, ⟨1, -7⟩⟩; let n : SEdge := ⟨1, ⟨4, -3⟩, ⟨-2, -6⟩⟩
    r.Up ∧ n.Up ∧ AliveAbove (-3) r ∧ n.bot.y = -3 ∧ xeq (-3) r n ∧ slt n r ∧
      validGen rhe default (-3) r n = false ∧ ¬ ltAbove (-3) r n ∧ ltAbove (-3) n r := by decide

/-- `validGen_ok` / `cx_lt_iff_xlt`: edges 2.4 units apart at the scanline, rounded to 0 and 2 -/
example : let r : SEdge := ⟨0, ⟨0, 10⟩, ⟨0, 0⟩⟩; let n : SEdge := ⟨1, ⟨12, 10⟩, ⟨0, 0⟩⟩
    far 2 r n ∧ rhe r 2 = 0 ∧ rhe n 2 = 2 ∧ xlt 2 r n := by decide

end Clipper.Props.C01Sweep

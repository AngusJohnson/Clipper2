/-
C01 — HORIZONTAL EDGES IN THE SWEEP: what `ClipperBase::DoHorizontal` and the scanline-level loop `while (PopHorz(e)) DoHorizontal(*e);`
do to the active edge list (model `Model/SweepHorz.lean`, tied to the compiled member function call by call: `harness/C01horz.cpp`,
records `HORZCALL`).  The scanbeam theorems of `Props/C01Sweep.lean` assume that no input edge is horizontal (`AllUp`); this file covers
what the engine does with the horizontal ones, between `DoTopOfScanbeam(y)` / `InsertLocalMinimaIntoAEL(y)` and the next scanbeam.

 1. `doHorizontal_terminates`          the call returns by itself and never needs a vertex that is not there (also a C10 obligation);
                                       `walk_visits_each_once`, `doHorizontal_turns_bounded`;
 2. `doHorizontal_events_are_crossings` the edges swapped with the horizontal are exactly the AEL edges whose x at the scanline lies
                                       strictly between the two ends of the horizontal run, in walk order, each once;
 3. `doHorizontal_keeps_sorted`        a sorted AEL stays sorted, the horizontal's successor standing at the far end of the run (or the
                                       horizontal and its maxima pair gone); `horzPhase_keeps_sorted` for the scanline-level loop;
                                       `beam_with_horizontals_keeps_sorted`: the hypothesis `AelAt` of `scanbeam_keeps_sorted` is
                                       re-established after the horizontal phase, so the next scanbeam is sorted at all three stages;
                                       `sweep_with_horizontals_keeps_sorted`: in the replay model of the whole sweep WITH horizontal
                                       edges (`Model/SweepHorzReplay.lean`) the AEL is sorted by `curr_x` at every observable stage;
 4. `horizontal_phase_region`          the bookkeeping events derived from the geometry are accepted by `Model.run` and keep the
                                       invariant of `Props/C01.lean` (wind counts = prefix sums, hot ⇔ contributing).

Hypotheses (all decidable, `Model/SweepHorz.lean`): `CallOK` — the AEL is sorted by `curr_x`, the horizontal stands at its `bot`, the
horizontal run of its bound is strictly monotone (no 180-degree spike, no zero-length piece), the run leaves the scanline, and if it ends
in a local maximum the other edge ending there is ahead; `CallGP` (for 2. only) — the edges ahead are strictly sorted and strictly
ahead of the start, and none stands exactly at the far end of the run except the maxima pair, which stands exactly there.  These are
general position extended to horizontals: no vertex of another bound on the end points of the run, no overlapping end points.
-/
import ClipperVerif.Lemmas.SweepHorz
import ClipperVerif.Lemmas.SweepHorzReplay
import ClipperVerif.Props.C01Sweep
import ClipperVerif.Lemmas.C01Region
import ClipperVerif.Props.C01
namespace Clipper.Props.C01Horz
open Clipper Clipper.Model Clipper.Model.SweepHorz Clipper.Lemmas.SweepHorz
open Clipper.Model.SweepOrder (SEdge AllUp NextOK Near BeamOK AliveAbove boundsOf far xlt beamStep ltAbove ltBelow)

/- Of the functions involved, `updateEdge` is hand-written and tied to the regenerated `UpdateEdgeIntoAEL` below
(`ResetHorzDirection` and `IsHorizontal` are used by the model as generated; `TrimHorz` is `Model/TrimHorz.lean`, bridged in
`Props/Bridges/CleanUp.lean` / `Trim.lean`) -/

/-- C++ `ClipperBase::UpdateEdgeIntoAEL` (the skeleton regenerated from the source, for an unjoined closed edge): the new `bot`, `top`,
`curr_x` are those of hand `updateEdge`, and `TrimHorz(e, preserve_collinear_)` is called exactly when `updateEdge` calls `trim` -/
theorem updateEdge_bridge (pc : Bool) (e : HEdge) (v : HV) (rest : List HV) (hr : e.rest = v :: rest) :
    let g := Gen.UpdateEdgeIntoAEL (e_NextVertex_pt_x := v.pt.x) (e_NextVertex_pt_y := v.pt.y) (e_bot_x := e.bot.x) (e_bot_y := e.bot.y)
      (e_join_with := .noJoin) (e_local_min_is_open := false) (e_top_x := e.top.x) (e_top_y := e.top.y) (preserve_collinear_ := pc)
    let e1 : HEdge := ⟨e.id, ⟨g.1, g.2.1⟩, ⟨g.2.2.2.1, g.2.2.2.2.1⟩, g.2.2.1, v.id, v.isMax, rest⟩
    updateEdge pc e = some (if ("TrimHorz(e,·)", [if pc then (1 : Int) else 0]) ∈ g.2.2.2.2.2 then trim pc e1 else e1) := by
  unfold updateEdge
  rw [hr]
  simp only [Gen.UpdateEdgeIntoAEL, Gen.UpdateEdgeIntoAEL.m1, Gen.UpdateEdgeIntoAEL.m2, Gen.IsJoined, Gen.IsHorizontal, Gen.IsOpen,
    HEdge.isHorz]
  have hpt : ∀ p : Pt, (⟨p.x, p.y⟩ : Pt) = p := fun p => by cases p; rfl
  by_cases h : v.pt.y = e.top.y <;> cases pc <;> simp [h, hpt] <;> rw [← h, hpt]

/-- **doHorizontal_terminates.**  For every AEL, every `PreserveCollinear`, every `TopX`: if the popped edge is in the AEL and the
horizontal run of its bound leaves the scanline within the supplied vertices (`Leaves`: true of one full turn of any vertex ring that
is not completely flat, and `AddPaths` drops completely flat closed paths), the model of `DoHorizontal` returns without fault: the
`while (true)` loop over consecutive horizontals ends by itself within the fuel `rest.length + 1` (each turn moves `vertex_top` at
least one vertex along the run: `doHorizontal_turns_bounded`), `NextVertex` / `TrimHorz` / `GetCurrYMaximaVertex` never need a vertex
beyond the supplied ones, the maxima pair is there when the walk stops at it.  (The inner `while (e)` loop is a structural recursion
over the neighbours: `walk_visits_each_once`.) -/
theorem doHorizontal_terminates (pc : Bool) (topx : HEdge → Int → Int) (ael : List HEdge) (hid : Nat) (L : List HEdge) (h : HEdge)
    (R : List HEdge) (hsp : splitAt hid [] ael = some (L, h, R)) (hl : Leaves h) :
    (doHorizontal pc topx ael hid).fault = false := by
  unfold doHorizontal
  rw [hsp]
  exact outer_nofault pc topx _ _ L h R [] (Nat.lt_succ_of_le (flatRun_length_le h)) hl

/-- **the walk visits each AEL neighbour at most once**: the edges passed followed by the edges not passed are the neighbours ahead,
in order — nothing is lost, duplicated or reordered, so one walk emits at most one swap per neighbour -/
theorem walk_visits_each_once (topx : HEdge → Int → Int) (s : Seg) (nbrs : List HEdge) :
    (walk topx s nbrs).1 ++ (walk topx s nbrs).2.2 = nbrs ∧
      (walkEvents s.l2r 0 0 (walk topx s nbrs).1).length ≤ nbrs.length := by
  refine ⟨walk_partition topx s nbrs, ?_⟩
  have := congrArg List.length (walk_partition topx s nbrs)
  simp only [List.length_append] at this
  simp only [walkEvents, List.length_map, List.length_zipIdx]
  omega

/-- **the outer loop consumes bound vertices**: ANY fuel beyond the number of supplied vertices on the scanline (the length of the
horizontal run) gives a fault-free result — the number of turns of `while (true)` is at most that number plus one -/
theorem doHorizontal_turns_bounded (pc : Bool) (topx : HEdge → Int → Int) (vmax : Option Nat) (fuel : Nat) (L : List HEdge) (h : HEdge)
    (R : List HEdge) (evs : List Ev) (hf : (flatRun h).length < fuel) (hl : Leaves h) :
    (outer pc topx vmax fuel L h R evs).fault = false :=
  outer_nofault pc topx vmax fuel L h R evs hf hl

/-- non-vacuity: a horizontal `(2,5) → (10,5)` whose bound continues to `(10,0)`: one turn, no fault -/
example : (doHorizontal false (fun _ _ => 0)
    [⟨0, ⟨0, 9⟩, ⟨0, 0⟩, 0, 100, false, []⟩, ⟨1, ⟨2, 5⟩, ⟨10, 5⟩, 2, 11, false, [⟨12, ⟨10, 0⟩, true⟩, ⟨13, ⟨2, 9⟩, false⟩]⟩] 1).fault = false := by decide

/-- what a call leaves behind, for a strictly monotone run in direction `d`: `P` = the edges passed, `Q` = the other edges ahead; the
horizontal survives as `hf` — same `Active`, no longer horizontal, standing at the far end of the run — or leaves with the maxima pair -/
def CallShape (d : Bool) (L : List HEdge) (h : HEdge) (R : List HEdge) (res : Res) (P Q : List HEdge) : Prop :=
  (∃ hf, res.ael = aelSurv d L R P Q hf ∧ res.evs = walkEvents d L.length h.id P ∧ hf.id = h.id ∧ hf.currX = runEnd h ∧
      hf.bot = ⟨runEnd h, h.top.y⟩ ∧ hf.isHorz = false) ∨
  (∃ p t, Q = p :: t ∧ some p.vtop = currYMaximaVertex h ∧ res.ael = aelMax d L R P t ∧
      res.evs = walkEvents d L.length h.id P ++ [evMax d L P t h.id p.id])

/-- **doHorizontal_keeps_sorted.**  Hypotheses `CallOK d L h R` (the AEL `L.reverse ++ h :: R` is sorted by `curr_x`, horizontals
standing at their `curr_x`; `h` stands at its `bot`; its run is strictly monotone in direction `d`; the run leaves the scanline; if it
ends in a local maximum the other edge ending there is ahead).  Then the call returns without fault, the AEL after it is again sorted
by `curr_x`, and it is the old AEL with `h` moved past a prefix `P` of the edges ahead and replaced by its successor `hf` — the same
`Active`, not horizontal, `bot` = the far end of the run, `curr_x` = its x — or, at a maximum, with `h` and the first edge not passed
(the maxima pair) removed.  No edge other than `h` moves; the events are one swap per edge of `P`, in walk order, then the removal. -/
theorem doHorizontal_keeps_sorted (pc : Bool) (topx : HEdge → Int → Int) (ael : List HEdge) (hid : Nat) (L : List HEdge) (h : HEdge)
    (R : List HEdge) (d : Bool) (hsp : splitAt hid [] ael = some (L, h, R)) (ok : CallOK d L h R) :
    let res := doHorizontal pc topx ael hid
    res.fault = false ∧ SortedX res.ael ∧
      ∃ P Q, ahead d L R = P ++ Q ∧ (∀ p ∈ P, some p.vtop ≠ currYMaximaVertex h) ∧ CallShape d L h R res P Q := by
  intro res
  have hm := outer_mono pc topx (currYMaximaVertex h) d (h.rest.length + 1) L h R []
    (Nat.lt_succ_of_le (flatRun_length_le h)) ok.leaves ok.atBot ok.mono ok.sorted (fun v hv => ok.pair v hv)
  have hres : res = outer pc topx (currYMaximaVertex h) (h.rest.length + 1) L h R [] := by
    show doHorizontal pc topx ael hid = _
    unfold doHorizontal; rw [hsp]
  rw [← hres] at hm
  obtain ⟨P, Q, e1, e2, e3, e4, e5⟩ := hm
  refine ⟨e3, e4, P, Q, e1, e2, ?_⟩
  simpa [CallShape] using e5

/-- **doHorizontal_events_are_crossings.**  Hypotheses `CallOK` and `CallGP` (general position at the two ends of the run).  Let
`x0 = h.curr_x` (where the horizontal starts) and `x1 = runEnd h` (where the whole run of consecutive horizontals ends).  Then the
intersect events of the call are exactly one `IntersectEdges` + `SwapPositionsInAEL` of `h` with every AEL edge whose `curr_x` lies
STRICTLY between `x0` and `x1`, in walk order (AEL order left to right, reversed AEL order right to left), each once, at consecutive
positions — followed by the removal of the maxima pair if the run ends in a local maximum, and by nothing else. -/
theorem doHorizontal_events_are_crossings (pc : Bool) (topx : HEdge → Int → Int) (ael : List HEdge) (hid : Nat) (L : List HEdge)
    (h : HEdge) (R : List HEdge) (d : Bool) (hsp : splitAt hid [] ael = some (L, h, R)) (ok : CallOK d L h R) (gp : CallGP d L h R) :
    let res := doHorizontal pc topx ael hid
    let X := if d then ael.filter (between d h.currX (runEnd h)) else (ael.filter (between d h.currX (runEnd h))).reverse
    res.evs = walkEvents d L.length h.id X ∨
      ∃ (p : HEdge) (t : List HEdge), some p.vtop = currYMaximaVertex h ∧
        res.evs = walkEvents d L.length h.id X ++ [evMax d L X t h.id p.id] := by
  intro res X
  obtain ⟨_, hsort, P, Q, hpq, hpv, hshape⟩ := doHorizontal_keeps_sorted pc topx ael hid L h R d hsp ok
  obtain ⟨hz, _⟩ := splitAt_spec hid ael [] L h R hsp
  -- the edges strictly between, among the edges ahead
  have hXa : X = (ahead d L R).filter (between d h.currX (runEnd h)) := by
    show (if d then ael.filter _ else (ael.filter _).reverse) = _
    rw [show ael = zip L h R from hz]
    exact filter_zip_between ok.sorted (runEnd h)
  have hmemP : ∀ a ∈ P, a ∈ ahead d L R := fun a ha => hpq ▸ List.mem_append_left _ ha
  -- `P` is that list
  have hPX : P = X := by
    rw [hXa, hpq]
    symm
    rcases hshape with ⟨hf, a1, _, _, a4, _, _⟩ | ⟨p, t, a1, a2, _, _⟩
    · -- the horizontal survives at `runEnd h`: sortedness of the result bounds `P` and `Q`
      obtain ⟨hP, hQ⟩ := sortedX_aelSurv (a1 ▸ hsort)
      rw [a4] at hP hQ
      exact filter_split _ _ _
        (fun a ha => between_iff.2 ⟨gp.beyond a (hmemP a ha),
          fwd_of_le_of_ne (hP a ha) (gp.noTie a (hmemP a ha) (hpv a ha))⟩)
        (fun a ha => Bool.eq_false_iff.2 (fun hb => not_fwd_of_le (hQ a ha) (between_iff.1 hb).2))
    · -- the maxima pair `p` stands at `runEnd h`: strict sortedness of the edges ahead bounds `P` and `t`
      have hst := gp.strict
      rw [hpq, a1] at hst
      have hpe := gp.pairAtEnd p (by rw [hpq, a1]; exact List.mem_append_right _ List.mem_cons_self) a2
      obtain ⟨_, h2, h3⟩ := List.pairwise_append.1 hst
      rw [a1]
      refine filter_split _ _ _ (fun a ha => between_iff.2 ⟨gp.beyond a (hmemP a ha), hpe ▸ h3 a ha p List.mem_cons_self⟩)
        (fun a ha => Bool.eq_false_iff.2 (fun hb => ?_))
      rcases List.mem_cons.1 ha with rfl | ha
      · exact fwd_irrefl d _ (hpe ▸ (between_iff.1 hb).2)
      · exact fwd_asymm (hpe ▸ (List.pairwise_cons.1 h2).1 a ha) (between_iff.1 hb).2
  rcases hshape with ⟨hf, _, a2, _⟩ | ⟨p, t, _, a2, _, a4⟩
  · left; rw [← hPX]; exact a2
  · right; exact ⟨p, t, a2, by rw [← hPX]; exact a4⟩

private def eA : HEdge := ⟨0, ⟨0, 9⟩, ⟨0, 0⟩, 0, 100, false, []⟩
/-- `(2,5) → (10,5)`, then the bound goes on to `(10,0)` -/
private def eH : HEdge := ⟨1, ⟨2, 5⟩, ⟨10, 5⟩, 2, 11, false, [⟨12, ⟨10, 0⟩, true⟩, ⟨13, ⟨2, 9⟩, false⟩]⟩
private def eB : HEdge := ⟨2, ⟨4, 9⟩, ⟨6, 1⟩, 5, 101, false, []⟩
private def eC : HEdge := ⟨3, ⟨12, 9⟩, ⟨12, 0⟩, 12, 102, false, []⟩
/-- the same horizontal split into two collinear pieces `(2,5) → (4,5) → (10,5)` (PreserveCollinear keeps the vertex) -/
private def eH2 : HEdge := ⟨1, ⟨2, 5⟩, ⟨4, 5⟩, 2, 10, false, [⟨11, ⟨10, 5⟩, false⟩, ⟨12, ⟨10, 0⟩, true⟩, ⟨13, ⟨2, 9⟩, false⟩]⟩
/-- a flat top `(12,5) → (3,5)`, the vertex `(3,5)` being the local maximum where the edge `eM` ends too -/
private def eT : HEdge := ⟨4, ⟨12, 5⟩, ⟨3, 5⟩, 12, 20, true, [⟨21, ⟨3, 9⟩, false⟩]⟩
private def eM : HEdge := ⟨5, ⟨1, 9⟩, ⟨3, 5⟩, 3, 20, true, []⟩

/-- the hypotheses hold for an intermediate horizontal walking left to right past one edge … -/
example : splitAt 1 [] [eA, eH, eB, eC] = some ([eA], eH, [eB, eC]) ∧ CallOK true [eA] eH [eB, eC] ∧ CallGP true [eA] eH [eB, eC] := by
  decide
/-- … the model swaps it with exactly that edge and puts its successor at `x = 10` -/
example : let r := doHorizontal true (fun _ _ => 0) [eA, eH, eB, eC] 1
    r.evs = [.isect 1 1 2] ∧ r.ael.map (fun e => (e.id, e.currX, e.bot, e.top)) =
      [(0, 0, ⟨0, 9⟩, ⟨0, 0⟩), (2, 5, ⟨4, 9⟩, ⟨6, 1⟩), (1, 10, ⟨10, 5⟩, ⟨10, 0⟩), (3, 12, ⟨12, 9⟩, ⟨12, 0⟩)] := by decide
/-- two consecutive collinear horizontals (two turns of the outer loop with PreserveCollinear on, one after `TrimHorz` merged them
with it off — the harness's `UpdateEdgeIntoAEL` did that before the call): same crossing, same result -/
example : CallOK true [eA] eH2 [eB, eC] ∧ CallGP true [eA] eH2 [eB, eC] ∧
    (doHorizontal true (fun _ _ => 0) [eA, eH2, eB, eC] 1).evs = [.isect 1 1 2] ∧ runEnd eH2 = 10 := by decide
/-- a flat top walking right to left to its maxima pair, past one edge: one swap, then both leave -/
example : CallOK false [eB, eM, eA] eT [] ∧ CallGP false [eB, eM, eA] eT [] ∧
    (doHorizontal false (fun _ _ => 0) [eA, eM, eB, eT] 4).evs = [.isect 2 2 4, .removePair 1 5 4] ∧
    (doHorizontal false (fun _ _ => 0) [eA, eM, eB, eT] 4).ael.map (·.id) = [0, 2] := by decide

/-- **horzPhase_keeps_sorted.**  The loop `while (PopHorz(e)) DoHorizontal(*e);` over the stack `sel` (top first): if the AEL is sorted by
`curr_x` and every call meets `CallOK` on the AEL the calls before it left (`PhaseOK`, decidable), the loop returns without fault and
the AEL after it is sorted by `curr_x`. -/
theorem horzPhase_keeps_sorted (pc : Bool) (topx : HEdge → Int → Int) : ∀ (sel : List Nat) (ael : List HEdge), SortedX ael →
    PhaseOK pc topx ael sel → (horzPhase pc topx ael sel).fault = false ∧ SortedX (horzPhase pc topx ael sel).ael := by
  intro sel
  induction sel with
  | nil => intro ael hs _; exact ⟨rfl, hs⟩
  | cons hid sel ih =>
    intro ael hs ⟨hc, hp⟩
    unfold CallOKAt at hc
    cases hsp : splitAt hid [] ael with
    | none => rw [hsp] at hc; exact False.elim hc
    | some t =>
      obtain ⟨L, h, R⟩ := t
      rw [hsp] at hc
      simp only at hc
      have key : (doHorizontal pc topx ael hid).fault = false ∧ SortedX (doHorizontal pc topx ael hid).ael := by
        rcases hc with hc | hc
        · obtain ⟨a, b, _⟩ := doHorizontal_keeps_sorted pc topx ael hid L h R true hsp hc; exact ⟨a, b⟩
        · obtain ⟨a, b, _⟩ := doHorizontal_keeps_sorted pc topx ael hid L h R false hsp hc; exact ⟨a, b⟩
      obtain ⟨i1, i2⟩ := ih _ key.2 hp
      simp only [horzPhase]
      exact ⟨by rw [key.1, i1]; rfl, i2⟩

open Clipper.Lemmas.SweepOrder in
/-- a list of non-horizontal sweep edges sorted by their rounded x-coordinates at the scanline `y`, any two of them more than one
unit apart there, is strictly sorted by EXACT x at `y` -/
theorem sortedX_to_exact (edges : List SEdge) (cx : SEdge → Int → Int) (y : Int) (hup : AllUp edges) (hn : Near cx)
    (l : List HEdge) (hs : SortedX l) (hmem : ∀ e ∈ l, e.toS ∈ edges ∧ AliveAbove y e.toS ∧ e.currX = cx e.toS y)
    (hgp : l.Pairwise (fun a b => far y a.toS b.toS)) :
    (l.map HEdge.toS).Pairwise (fun a b => xlt y a b ∧ far y a b) := by
  rw [List.pairwise_map]
  refine (List.Pairwise.and_mem.1 (hs.and hgp)).imp ?_
  intro a b ⟨ha, hb, hle, hf⟩
  obtain ⟨a1, a2, a3⟩ := hmem a ha
  obtain ⟨b1, b2, b3⟩ := hmem b hb
  have h := cx_lt_iff_of_far hn (hup _ b1) (hup _ a1) ⟨Int.le_of_lt b2.1, b2.2⟩ ⟨Int.le_of_lt a2.1, a2.2⟩ (far_symm hf)
  exact ⟨(xlt_or_of_far (hup _ a1) (hup _ b1) hf).resolve_right
    (fun hx => Int.not_lt.2 hle (by rw [a3, b3]; exact h.2 hx)), hf⟩

/-- **beam_with_horizontals_keeps_sorted** (composition with `Props/C01Sweep.scanbeam_keeps_sorted`).  `edges` = the NON-horizontal
input edges (`AllUp`), `next`, `mins`, `valid`, `cx` as in the scanbeam model.  At the scanline `y` the engine holds the AEL `ael`
(horizontal edges standing at their `curr_x`) and the stack `sel` of horizontals.  ASSUMED: `ael` is sorted by `curr_x`, every call of
the loop meets `CallOK` (`PhaseOK`); and of the AEL the loop LEAVES (`res.ael`, computed by the model: decidable hypotheses): every
edge is a non-horizontal input edge that continues above `y`, not a bound of a local minimum of `y` if it starts there, standing at its
rounded x (`curr_x = cx · y`), any two more than one unit apart at `y` (general position on the scanline, now including the points
where the horizontals' successors start); `BeamOK` for the next scanbeam `[y', y]`.
PROVED: the loop is fault-free; what it leaves is exactly the hypothesis `AelAt` of `scanbeam_keeps_sorted` — strictly sorted by exact
x at `y`, all more than one unit apart —; hence the next scanbeam is sorted at all three stages: after `InsertLocalMinimaIntoAEL(y)` in
the exact order just above `y`, after `DoIntersections(y')` in the exact order just below `y'`, after `DoTopOfScanbeam(y')` as `AelAt`
says for `y'` (as far as that scanbeam model goes: its own top-of-scanbeam step and local minima are those without horizontal edges). -/
theorem beam_with_horizontals_keeps_sorted (edges : List SEdge) (valid : Int → SEdge → SEdge → Bool) (cx : SEdge → Int → Int)
    (next : SEdge → Option SEdge) (mins : Int → List (SEdge × SEdge)) (pc : Bool) (topx : HEdge → Int → Int)
    (ael : List HEdge) (sel : List Nat) (y y' : Int)
    (hup : AllUp edges) (hnx : NextOK edges next mins) (hn : Near cx) (hs : SortedX ael) (hph : PhaseOK pc topx ael sel)
    (hmem : ∀ e ∈ (horzPhase pc topx ael sel).ael,
      e.toS ∈ edges ∧ AliveAbove y e.toS ∧ (e.bot.y = y → e.toS ∉ boundsOf (mins y)) ∧ e.currX = cx e.toS y)
    (hgp : (horzPhase pc topx ael sel).ael.Pairwise (fun a b => far y a.toS b.toS))
    (hb : BeamOK edges valid next mins y y') :
    let res := horzPhase pc topx ael sel
    let a0 := res.ael.map HEdge.toS
    res.fault = false ∧ Clipper.Props.C01Sweep.AelAt edges mins y a0 ∧
    (let s := beamStep valid cx next mins a0 y y'
     (s.inserted.Pairwise (ltAbove y) ∧ (∀ e, e ∈ s.inserted ↔ e ∈ a0 ∨ e ∈ boundsOf (mins y))) ∧
     (s.afterIsect.Perm s.inserted ∧ s.afterIsect.Pairwise (ltBelow y')) ∧
     Clipper.Props.C01Sweep.AelAt edges mins y' s.afterTop) := by
  intro res a0
  obtain ⟨f1, f2⟩ := horzPhase_keeps_sorted pc topx sel ael hs hph
  have hat : Clipper.Props.C01Sweep.AelAt edges mins y a0 := by
    refine ⟨sortedX_to_exact edges cx y hup hn res.ael f2 (fun e he => ⟨(hmem e he).1, (hmem e he).2.1, (hmem e he).2.2.2⟩) hgp, ?_⟩
    intro e he
    obtain ⟨x, hx, rfl⟩ := List.mem_map.1 he
    exact ⟨(hmem x hx).1, (hmem x hx).2.1, (hmem x hx).2.2.1⟩
  refine ⟨f1, hat, ?_⟩
  obtain ⟨c1, ⟨c2, _, c3⟩, c4⟩ := Clipper.Props.C01Sweep.scanbeam_keeps_sorted edges valid cx next mins a0 y y' hup hnx hn hb hat
  exact ⟨c1, ⟨c2, c3⟩, c4⟩

/-- the AEL after every single call of the loop is sorted -/
theorem horzPhaseTrace_sorted (pc : Bool) (topx : HEdge → Int → Int) : ∀ (sel : List Nat) (ael : List HEdge), SortedX ael →
    PhaseOK pc topx ael sel → ∀ r ∈ horzPhaseTrace pc topx ael sel, r.fault = false ∧ SortedX r.ael := by
  intro sel
  induction sel with
  | nil => intro ael _ _ r hr; simp [horzPhaseTrace] at hr
  | cons hid sel ih =>
    intro ael hs ⟨hc, hp⟩ r hr
    have h1 := horzPhase_keeps_sorted pc topx [hid] ael hs ⟨hc, trivial⟩
    simp only [horzPhase, Bool.or_false, List.append_nil] at h1
    simp only [horzPhaseTrace, List.mem_cons] at hr
    rcases hr with rfl | hr
    · exact h1
    · exact ih _ h1.2 hp r hr

open Clipper.Model.SweepHorzReplay Clipper.Lemmas.SweepHorzReplay in
/-- **sweep_with_horizontals_keeps_sorted.**  The replay model of `ExecuteInternal` WITH horizontal edges
(`Model/SweepHorzReplay.sweepX`: `InsertLocalMinimaIntoAEL` with horizontal bounds and the regenerated `IsValidAelOrder`, the horizontal
phase, `DoIntersections`, `DoTopOfScanbeam` with pending maxima / `UpdateEdgeIntoAEL` / `TrimHorz`, the horizontal phase again — tied to
the engine by replaying whole real sweeps from the input paths alone, `SWEEPHORZ`).  ASSUMED: `TopX(e, top.y) = top.x` and `TopX` does not
read `curr_x` (true of the C++ expression); the two bounds of a local minimum are created at the same `curr_x`; every call of both
horizontal phases of every scanline meets `CallOK` on the AEL the model has at that point (`SweepPhasesOK`, decidable: the driver decides
it for every replayed sweep).  PROVED: at EVERY observable stage of the sweep — after the insertions, after every single `DoHorizontal`,
after `DoIntersections`, after `DoTopOfScanbeam`, on every scanline — the AEL is sorted by `curr_x` (horizontal edges standing at their
`curr_x`).  No hypothesis on the other steps: `IsValidAelOrder` never contradicts a strict `curr_x` comparison, `DoIntersections` is a
sort, `DoTopOfScanbeam` replaces edges in place at the same `curr_x`. -/
theorem sweep_with_horizontals_keeps_sorted (pc : Bool) (topx : HEdge → Int → Int) (info : Nat → Info)
    (mins : Int → List (HEdge × HEdge)) (ht : ∀ e : HEdge, topx e e.top.y = e.top.x)
    (hcx : ∀ (e : HEdge) (c y : Int), topx { e with currX := c } y = topx e y)
    (hmins : ∀ y, ∀ p ∈ mins y, p.1.currX = p.2.currX) :
    ∀ (ys : List Int) (ael : List HEdge), SortedX ael → SweepPhasesOK pc topx info mins ael ys →
      ∀ st ∈ sweepX pc topx info mins ael ys, SortedX st.ael := by
  intro ys
  induction ys with
  | nil => intro ael _ _ st hst; simp [sweepX] at hst
  | cons y0 rest ih =>
    intro ael hs hok st hst
    unfold SweepPhasesOK at hok
    obtain ⟨hB, hrest⟩ := hok
    have s1 : SortedX (insertMinsH info ael (mins y0)) := insertMinsH_sortedX info _ _ hs (hmins y0)
    have hphase : ∀ (a : List HEdge) (sel : List Nat), SortedX a → PhaseOK pc topx a sel →
        ∀ st ∈ phaseStages pc topx a sel, SortedX st.ael := by
      intro a sel ha hp st hst
      unfold phaseStages at hst
      obtain ⟨q, hq, rfl⟩ := List.mem_map.1 hst
      exact (horzPhaseTrace_sorted pc topx sel a ha hp q.1 (List.of_mem_zip hq).1).2
    cases rest with
    | nil =>
      simp only [sweepX, List.mem_cons] at hst
      rcases hst with rfl | hst
      · exact s1
      · exact hphase _ _ s1 hB st hst
    | cons y1 rest =>
      simp only at hrest
      obtain ⟨hA, hnext⟩ := hrest
      have s3 : SortedX (doIntersectionsH topx y1 (horzPhase pc topx (insertMinsH info ael (mins y0)) (selAfterInsert (mins y0))).ael) :=
        doIntersectionsH_sortedX _ _ _
      have s4 : SortedX (topOfBeamH pc topx y1 (doIntersectionsH topx y1 (horzPhase pc topx (insertMinsH info ael (mins y0)) (selAfterInsert (mins y0))).ael)) :=
        topOfBeamH_sortedX pc topx y1 _ (doIntersectionsH_topKey topx y1 _ ht (fun e c => hcx e c y1))
      have s5 := (horzPhase_keeps_sorted pc topx _ _ s4 hA).2
      rw [sweepX_cons_cons] at hst
      simp only [List.mem_cons, List.mem_append] at hst
      rcases hst with h0 | hst
      · rcases h0 with h1 | rfl | rfl | hst
        · rcases h1 with rfl | hst
          · exact s1
          · exact hphase _ _ s1 hB st hst
        · exact s3
        · exact s4
        · exact hphase _ _ s4 hA st hst
      · exact ih _ s5 hnext st hst

section Examples
open Clipper.Model.SweepHorzReplay Clipper.Model.SweepOrder

/-- a square (two horizontal edges: a flat bottom at a local minimum, a flat top at a local maximum) and a triangle through it -/
private def sq : Path := [⟨0, 0⟩, ⟨100, 0⟩, ⟨100, 100⟩, ⟨0, 100⟩]
private def tr : Path := [⟨20, 110⟩, ⟨45, -20⟩, ⟨130, 90⟩]
private def exMs := allMins dxLtE (build [sq] [tr]).lms

/-- the hypotheses of `sweep_with_horizontals_keeps_sorted` hold for this input (`TopX` = the exact instance `topXE`) … -/
theorem square_triangle_hyp :
    SweepPhasesOK true topXE (infoOf exMs) (minsOf exMs) [] (build [sq] [tr]).ys ∧
      (∀ y ∈ (build [sq] [tr]).ys, ∀ p ∈ minsOf exMs y, p.1.currX = p.2.currX) := by decide +kernel

/-- … and this is the sweep the model computes: per stage the AEL by `Active` identity (`2 * slot + (wind_dx > 0)`; 6, 7 = the bounds of the
square's local minimum `(0,100)`, 8, 9 = those of the triangle's `(20,110)`) and the number of events.  The flat bottom `H 6` (a bound of the
local minimum, heading right) walks past the two triangle edges; the flat top `H 7` walks right past them to its maxima pair 6: two swaps
and the removal -/
example : (replay true topXE dxLtE [sq] [tr]).map (fun st => match st with
      | .ins y a => ("I", y, a, 0) | .horz h a e => ("H", (h : Int), a, e.length) | .isect y a => ("X", y, a, 0) | .top y a => ("T", y, a, 0)) =
    [("I", 110, [9, 8], 0), ("X", 100, [9, 8], 0), ("T", 100, [9, 8], 0),
     ("I", 100, [7, 6, 9, 8], 0), ("H", 6, [7, 9, 8, 6], 2),
     ("X", 90, [7, 9, 6, 8], 0), ("T", 90, [7, 9, 6, 8], 0), ("I", 90, [7, 9, 6, 8], 0),
     ("X", 0, [7, 9, 8, 6], 0), ("T", 0, [7, 9, 8, 6], 0), ("H", 7, [9, 8], 3), ("I", 0, [9, 8], 0),
     ("X", -20, [9, 8], 0), ("T", -20, [], 0), ("I", -20, [], 0)] := by decide +kernel

/-- the AEL of the first examples after the horizontal `eH` has been processed, as sweep edges: the universe `edges` of the next scanbeam -/
private def exEdges : List SEdge := [eA.toS, eB.toS, ⟨1, ⟨10, 5⟩, ⟨10, 0⟩⟩, eC.toS]

/-- every hypothesis of `beam_with_horizontals_keeps_sorted` (but `Near rhe`, which is `rhe_near`) holds for the scanline `y = 5` with the
AEL `[eA, eH, eB, eC]`, the stack `[1]` and the next scanbeam `[1, 5]` -/
example : AllUp exEdges ∧ NextOK exEdges (fun _ => none) (fun _ => []) ∧ SortedX [eA, eH, eB, eC] ∧
    PhaseOK true topXE [eA, eH, eB, eC] [1] ∧
    (∀ e ∈ (horzPhase true topXE [eA, eH, eB, eC] [1]).ael,
      e.toS ∈ exEdges ∧ AliveAbove 5 e.toS ∧ (e.bot.y = 5 → e.toS ∉ boundsOf ((fun _ => []) (5 : Int))) ∧ e.currX = rhe e.toS 5) ∧
    (horzPhase true topXE [eA, eH, eB, eC] [1]).ael.Pairwise (fun a b => far 5 a.toS b.toS) ∧
    BeamOK exEdges (validGen rhe default) (fun _ => none) (fun _ => []) 5 1 := by decide +kernel

end Examples

/-- a labelling of the `Active`s by identity: (`local_min->polytype`, `wind_dx`) — the fields of `Model/Ael` that never change -/
abbrev ALab := Nat → PathType × Int

/-- the key (path type, open flag, `wind_dx`) of an `Active` under a labelling (closed paths) -/
def kOf (lab : ALab) (e : HEdge) : PathType × Bool × Int := ((lab e.id).1, false, (lab e.id).2)

/-- the bookkeeping state `l` follows the AEL `ael`: same length, same order, same keys (`Tracks` of `Model/SweepEvents`) -/
def TracksH (lab : ALab) (l : Ael) (ael : List HEdge) : Prop := l.map Clipper.Model.SweepEvents.key = ael.map (kOf lab)

instance (lab : ALab) (l : Ael) (ael : List HEdge) : Decidable (TracksH lab l ael) := by unfold TracksH; infer_instance

/-- the maxima pair of `h` belongs to the same path and runs the other way -/
def PairLab (lab : ALab) (d : Bool) (L : List HEdge) (h : HEdge) (R : List HEdge) : Prop :=
  ∀ p ∈ ahead d L R, some p.vtop = currYMaximaVertex h → (lab p.id).1 = (lab h.id).1 ∧ (lab p.id).2 = -(lab h.id).2
instance (lab : ALab) (d : Bool) (L : List HEdge) (h : HEdge) (R : List HEdge) : Decidable (PairLab lab d L h R) := by
  unfold PairLab; infer_instance

open Clipper.Model.SweepEvents (swapAt applySwaps key) in
open Clipper.Lemmas.C01Region in
/-- **doHorizontal_events_accepted.**  Hypotheses: `CallOK`; the bookkeeping state `l` of `Model/Ael.lean` follows the AEL under a
labelling of the `Active`s (`TracksH`); the maxima pair, if the run ends in a maximum, has the same path type and the opposite
`wind_dx` (`PairLab`); `l` satisfies the invariant `Inv` of `Props/C01.lean` (stored wind counts = encodings of the winding sums to
the left, hot ⇔ contributing); the clip type is not `NoClip`.  Then the events DERIVED by the model of `DoHorizontal` — one
`intersect` per edge passed, at the position the geometry dictates, then `removePair` — are all accepted by `Model.run` (no position
out of range, the removal meets a maxima pair), the state after them again follows the AEL after the call, and `Inv` holds: with
`coverage_1d`, the hot edges still delimit exactly the region `inR ct fr` on the scanline. -/
theorem doHorizontal_events_accepted (cfg : Cfg) (hct : cfg.ct ≠ .noClip) (pc : Bool) (topx : HEdge → Int → Int) (ael : List HEdge)
    (hid : Nat) (L : List HEdge) (h : HEdge) (R : List HEdge) (d : Bool) (hsp : splitAt hid [] ael = some (L, h, R))
    (ok : CallOK d L h R) (lab : ALab) (l : Ael) (htr : TracksH lab l ael) (hpl : PairLab lab d L h R) (hinv : Inv cfg l) :
    ∃ l', runEvents cfg l (doHorizontal pc topx ael hid).evs = some l' ∧ Inv cfg l' ∧
      TracksH lab l' (doHorizontal pc topx ael hid).ael := by
  obtain ⟨_, _, P, Q, hpq, _, hshape⟩ := doHorizontal_keeps_sorted pc topx ael hid L h R d hsp ok
  obtain ⟨hz, _⟩ := splitAt_spec hid ael [] L h R hsp
  simp only [List.reverse_nil, List.nil_append] at hz
  unfold TracksH at htr ⊢
  unfold runEvents
  -- the swaps, on the AEL itself
  have hsw : applySwaps ((List.range P.length).map (fun j => if d then L.length + j else L.length - 1 - j)) ael =
      some (if d then L.reverse ++ P ++ h :: Q else Q.reverse ++ h :: (P.reverse ++ R)) :=
    (show ael = zip L h R from hz) ▸ applySwaps_walk d L R P Q h hpq
  have hsw' := congrArg (Option.map (List.map (kOf lab))) hsw
  rw [← applySwaps_map, ← htr] at hsw'
  simp only [Option.map_some] at hsw'
  obtain ⟨l1, hr1, hk1⟩ := run_intersects cfg _ l _ hsw'
  rw [← walkEvents_ops d L.length h.id P] at hr1
  rcases hshape with ⟨hf, a1, a2, a3, _⟩ | ⟨p, t, a1, a2, a3, a4⟩
  · refine ⟨l1, by rw [a2]; exact hr1, Clipper.Props.C01.inv_run cfg hct _ l l1 hinv hr1, ?_⟩
    rw [hk1, a1]
    have hkf : kOf lab hf = kOf lab h := by simp [kOf, a3]
    cases d <;> simp [aelSurv, hkf]
  · have hp := hpl p (by rw [hpq, a1]; simp) a2
    subst a1
    have hrm : ∃ l2, Clipper.Model.removePair (if d then L.length + P.length else t.length) l1 = some l2 ∧
        l2.map key = (aelMax d L R P t).map (kOf lab) := by
      cases d
      · simp only [Bool.false_eq_true, if_false] at hk1 ⊢
        obtain ⟨l2, e1, e2⟩ := removePair_tracks t.length l1 (t.reverse.map (kOf lab)) ((P.reverse ++ R).map (kOf lab))
          (lab p.id).1 false (lab p.id).2 (by rw [hk1]; simp [kOf, hp.1, hp.2]) (by simp)
        exact ⟨l2, e1, by rw [e2]; simp [aelMax]⟩
      · simp only [if_true] at hk1 ⊢
        obtain ⟨l2, e1, e2⟩ := removePair_tracks (L.length + P.length) l1 ((L.reverse ++ P).map (kOf lab)) (t.map (kOf lab))
          (lab h.id).1 false (lab h.id).2 (by rw [hk1]; simp [kOf, hp.1, hp.2]) (by simp)
        exact ⟨l2, e1, by rw [e2]; simp [aelMax]⟩
    obtain ⟨l2, e1, e2⟩ := hrm
    have hrun : Clipper.Model.run cfg l ((doHorizontal pc topx ael hid).evs.map Ev.toOp) = some l2 := by
      rw [a4, List.map_append, run_append, hr1]
      simp only [Option.bind_some, List.map_cons, List.map_nil, Clipper.Model.run]
      have : Clipper.Model.step cfg l1 (evMax d L P t h.id p.id).toOp = some l2 := by
        cases d <;> simpa [evMax, Ev.toOp, Clipper.Model.step] using e1
      rw [this]
    exact ⟨l2, hrun, Clipper.Props.C01.inv_run cfg hct _ l l2 hinv hrun, by rw [e2, a3]⟩

/-- the hypotheses of `horizontal_phase_region`: for every call of the loop, on the AEL the calls before it left, `CallOK` in one of
the two directions and `PairLab` -/
def PhaseLabOK (lab : ALab) (pc : Bool) (topx : HEdge → Int → Int) : List HEdge → List Nat → Prop
  | _, [] => True
  | ael, hid :: sel =>
    (∃ L h R d, splitAt hid [] ael = some (L, h, R) ∧ CallOK d L h R ∧ PairLab lab d L h R) ∧
      PhaseLabOK lab pc topx (doHorizontal pc topx ael hid).ael sel

open Clipper.Lemmas.C01Region in
/-- **horizontal_phase_region.**  The whole loop `while (PopHorz(e)) DoHorizontal(*e);`: under `PhaseLabOK`, from a bookkeeping state
that follows the AEL and satisfies `Inv`, the concatenated derived events of all calls are accepted by `Model.run`, and the state
after the loop follows the AEL after the loop and satisfies `Inv` (every closed edge stores the encodings of the winding sums to its
left and is hot exactly when it is contributing: `coverage_1d` applies on the scanline after the horizontal phase). -/
theorem horizontal_phase_region (cfg : Cfg) (hct : cfg.ct ≠ .noClip) (pc : Bool) (topx : HEdge → Int → Int) (lab : ALab) :
    ∀ (sel : List Nat) (ael : List HEdge) (l : Ael), PhaseLabOK lab pc topx ael sel → TracksH lab l ael → Inv cfg l →
      ∃ l', runEvents cfg l (horzPhase pc topx ael sel).evs = some l' ∧ Inv cfg l' ∧ TracksH lab l' (horzPhase pc topx ael sel).ael := by
  intro sel
  induction sel with
  | nil => intro ael l _ htr hinv; exact ⟨l, rfl, hinv, htr⟩
  | cons hid sel ih =>
    intro ael l ⟨⟨L, h, R, d, hsp, ok, hpl⟩, hrest⟩ htr hinv
    obtain ⟨l1, r1, i1, t1⟩ := doHorizontal_events_accepted cfg hct pc topx ael hid L h R d hsp ok lab l htr hpl hinv
    obtain ⟨l2, r2, i2, t2⟩ := ih _ l1 hrest t1 i1
    refine ⟨l2, ?_, i2, t2⟩
    unfold runEvents at r1 r2 ⊢
    simp only [horzPhase, List.map_append]
    rw [run_append, r1]
    exact r2

/-- non-vacuity of `doHorizontal_events_accepted`: the flat top of the examples above under Union / NonZero.  The flat top `eT`
(subject, `wind_dx = 1`) and its pair `eM` (subject, `wind_dx = -1`) bound the subject's filled region; the clip edge `eB` runs inside it, not
hot before the call and hot once the pair has left -/
example : let lab : ALab := fun i => if i = 4 then (.subject, 1) else if i = 5 then (.subject, -1) else if i = 0 then (.clip, -1) else (.clip, 1)
    let l : Ael := [⟨.clip, false, -1, -1, 0, true⟩, ⟨.subject, false, -1, -1, -1, false⟩, ⟨.clip, false, 1, -1, -1, false⟩, ⟨.subject, false, 1, -1, 0, true⟩]
    TracksH lab l [eA, eM, eB, eT] ∧ PairLab lab false [eB, eM, eA] eT [] ∧ checkInv ⟨.union, .nonZero⟩ l = true ∧
      runEvents ⟨.union, .nonZero⟩ l (doHorizontal false (fun _ _ => 0) [eA, eM, eB, eT] 4).evs =
        some [⟨.clip, false, -1, -1, 0, true⟩, ⟨.clip, false, 1, -1, 0, true⟩] := by
  decide

end Clipper.Props.C01Horz

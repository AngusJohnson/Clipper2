/-
C05, assembly of the OPEN solution paths: theorems on `Model/AelOpenRings.lean`, the model of how the Vatti sweep builds the open output records
(`StartOpenPath`, the open branches of `IntersectEdges` / `AddLocalMinPoly` / `AddLocalMaxPoly` / `JoinOutrecPaths`, `AddOutPt` on open records, the
`IsOpenEnd` branches of `DoMaxima` / `DoHorizontal`, `BuildPath64` for open records), layered on the ring model of C01 (`Model/AelRings.lean`) and tied to the
real engine by replaying hook traces record for record (`harness/aelopenrings.h`, `harness/C05rings.cpp`, driver command `AELOPENRINGS`).

Proved here for **every** event list from the empty state in which open paths are subject paths (any number of edges and records, any points, any
interleaving the model accepts), every clip type except `NoClip` and every fill rule:
the open layer refines the ring model of `Props/C01Rings.lean`, its invariant (`open_inv_reachable`), conservation and provenance of the points of the open
records, the pieces and their ends (`open_piece_ends`), and that a run is the tenure of one `Active`; each theorem says below what it stands for.

*Partial* (as for closed rings, `ring_segments_on_edges_partial`): that two consecutive emissions of one `Active` lie on one input edge is geometry and not proved;
the points of the events are inputs of the model.  Trusted base of the tie: the event list of a real sweep with the points read by `harness/aelopenrings.h`.
-/
import ClipperVerif.Lemmas.AelOpenRingsRuns
import ClipperVerif.Props.C01Rings
import ClipperVerif.Props.C05
namespace Clipper.Props.C05Rings
open Clipper Clipper.Model

/-- **erase_open_rings_step.** Forgetting the open layer, an accepted event is the same event of the ring model `Model.stepR` (a `locMinX` event is an
`intersect`); the open layer changes by `Model.openStep`. -/
theorem erase_open_rings_step (cfg : Cfg) (st st' : OState) (op : OOp) (h : stepO cfg st op = .ok st') :
    stepR cfg st.r op.erase = .ok st'.r ∧ openStep cfg st.x op = some st'.x := by
  unfold stepO at h
  split at h
  · next r' hr =>
    split at h
    · next x' hx => cases h; exact ⟨hr, hx⟩
    · cases h
  · cases h

/-- **erase_open_rings_run.** A run of this model projects to a run of the ring model. -/
theorem erase_open_rings_run (cfg : Cfg) (ops : List OOp) : ∀ (st st' : OState), runO cfg st ops = .ok st' →
    runR cfg st.r (ops.map OOp.erase) = .ok st'.r := by
  induction ops with
  | nil => intro st st' h; cases h; rfl
  | cons op ops ih =>
    intro st st' h
    obtain ⟨st1, hs, hr⟩ := runO_cons h
    simp only [List.map_cons, runR, (erase_open_rings_step cfg st st1 op hs).1]
    exact ih st1 st' hr

/-- the closed rings of a run of this model are those of the ring model: e.g. conservation of closed ring points (`C01Rings.rings_conserve_points`) carries over -/
theorem closed_rings_conserve_points (cfg : Cfg) (hct : cfg.ct ≠ .noClip) (ops : List OOp) (st : OState) (hr : runO cfg OState.empty ops = .ok st) :
    (allPts st.r.o.rings).Perm ((st.r.o.log.filter (fun e => e.kind != .dup)).map (·.pt)) :=
  (C01Rings.rings_conserve_points cfg hct _ st.r (erase_open_rings_run cfg ops OState.empty st hr)).1

/-- the `(state before, event)` pairs of the accepted events of a run -/
def visits (cfg : Cfg) : OState → List OOp → List (OState × OOp)
  | _, [] => []
  | st, op :: ops =>
    match stepO cfg st op with
    | .ok st' => (st, op) :: visits cfg st' ops
    | .error _ => []

/-- open paths are subject paths (`AddOpenSubject`; premise of C05 `open_toggle_inv`) -/
def OpsOK (ops : List OOp) : Prop := ∀ op ∈ ops, ∀ b, op.base = some b → C05.OpOK b

/-- everything that holds in a reachable state; `T` = the events visited so far -/
structure Reach (cfg : Cfg) (T : List (OState × OOp)) (st : OState) : Prop where
  sinv : SInv cfg st.r.s
  sync : erase st.x.ol = erase st.r.s.ael
  openinv : C05.OpenInv cfg (erase st.x.ol)
  xinv : XInv st.x
  bad : st.x.bad = false
  perm : PermOK st.x.oo
  kinds : SegKindsOK st.x.oo
  nodone : NoDone st.x.oo
  runs : RunsBound st.x.oo
  logprov : ∀ e ∈ st.x.oo.log, ∃ v ∈ T, v.2.pt = e.pt ∧ IsOpenEv v.1.x v.2
  markprov : ∀ k f m, markAt st.x.om k f = some m → ∃ v ∈ T, MarkEv cfg v.1.x v.2 m

theorem adjOpenAgree_of_openInv (keep : Int → Int → Bool) (l : List SEdge) (h : InvOpenFrom keep 0 0 (erase l)) : AdjOpenAgree l := by
  intro pre a b rest hl hao hbo
  rw [hl, erase_append, erase_cons, erase_cons, invOpenFrom_append] at h
  have h2 := h.2
  simp only [InvOpenFrom] at h2
  have := h2.2.1 hbo
  rw [contrib_open _ a.e hao, contrib_open _ a.e hao, Int.add_zero, Int.add_zero] at this
  rw [h2.1 hao, this]

theorem reach_step (cfg : Cfg) (hct : cfg.ct ≠ .noClip) (T : List (OState × OOp)) (st st' : OState) (op : OOp) (hop : ∀ b, op.base = some b → C05.OpOK b)
    (h : Reach cfg T st) (hs : stepO cfg st op = .ok st') : Reach cfg (T ++ [(st, op)]) st' := by
  obtain ⟨hR, hX⟩ := erase_open_rings_step cfg st st' op hs
  have hX := openStep_spec hX
  have hE := openStep_erase hX
  have hrs := (C01Rings.erase_ring_step cfg st.r st'.r op.erase hR).1
  have part1 : SInv cfg st'.r.s ∧ erase st'.x.ol = erase st'.r.s.ael ∧ C05.OpenInv cfg (erase st'.x.ol) := by
    -- an event of `Model.Op` moves both erased AELs by `Model.step`
    have base : ∀ b, stepS cfg st.r.s (.base b) = .ok st'.r.s → step cfg (erase st.x.ol) b = some (erase st'.x.ol) → C05.OpOK b →
        SInv cfg st'.r.s ∧ erase st'.x.ol = erase st'.r.s.ael ∧ C05.OpenInv cfg (erase st'.x.ol) := fun b hS hE hb =>
      ⟨C11Sides.sinv_step cfg hct _ _ _ h.sinv hS, Option.some.inj (by rw [← hE, h.sync]; exact C11Sides.erase_step cfg _ _ (.base b) h.sinv hS),
        C05.open_toggle_step cfg hct _ _ b hb h.openinv hE⟩
    -- `join`, `split` leave the bookkeeping fields of the side model alone and are invisible in the open layer; `update` is invisible in both
    have other : ∀ sop, stepS cfg st.r.s sop = .ok st'.r.s → erase st'.r.s.ael = erase st.r.s.ael → erase st'.x.ol = erase st.x.ol →
        SInv cfg st'.r.s ∧ erase st'.x.ol = erase st'.r.s.ael ∧ C05.OpenInv cfg (erase st'.x.ol) := fun sop hS e1 e2 =>
      ⟨C11Sides.sinv_step cfg hct _ _ _ h.sinv hS, by rw [e1, e2]; exact h.sync, by rw [e2]; exact h.openinv⟩
    cases op with
    | locMinX i p e3 => exact base (.intersect i) hrs hE trivial
    | ev o =>
      cases o with
      | base b p => exact base b hrs hE (hop b rfl)
      | join i p => exact other _ hrs (C11Sides.erase_step cfg _ _ (.join i) h.sinv hrs) hE
      | split i p => exact other _ hrs (C11Sides.erase_step cfg _ _ (.split i) h.sinv hrs) hE
      | update i p =>
        have hrs : st'.r.s = st.r.s := hrs
        have hE : erase st'.x.ol = erase st.x.ol := hE
        rw [hrs, hE]; exact ⟨h.sinv, h.sync, h.openinv⟩
  have hx := xinv_openStep hX h.xinv (adjOpenAgree_of_openInv _ st.x.ol h.openinv.2.1)
  have memT : ∀ v ∈ T, v ∈ T ++ [(st, op)] := fun v hv => List.mem_append_left _ hv
  have memNew : (st, op) ∈ T ++ [(st, op)] := List.mem_append_right _ List.mem_cons_self
  refine { sinv := part1.1, sync := part1.2.1, openinv := part1.2.2, xinv := hx.1, bad := by rw [hx.2]; exact h.bad,
           perm := pres_openStep hX PermOK (OPrim.of (permOK_prim op.pt)) h.perm,
           kinds := pres_openStep hX SegKindsOK (segKinds_prim op.pt) h.kinds,
           nodone := pres_openStep hX NoDone (noDone_prim op.pt) h.nodone,
           runs := pres_openStep hX RunsBound (OPrim.of (runsBound_prim op.pt)) h.runs,
           logprov := ?_, markprov := ?_ }
  · intro e he
    rcases log_step hX e he with h1 | ⟨h1, h2⟩
    · obtain ⟨v, hv, hp⟩ := h.logprov e h1
      exact ⟨v, memT v hv, hp⟩
    · exact ⟨(st, op), memNew, h1.symm, h2⟩
  · intro k f m hm
    rcases mark_step hX hm with ⟨k', f', h1⟩ | h1
    · obtain ⟨v, hv, hp⟩ := h.markprov k' f' m h1
      exact ⟨v, memT v hv, hp⟩
    · exact ⟨(st, op), memNew, h1⟩

theorem reach_run (cfg : Cfg) (hct : cfg.ct ≠ .noClip) (ops : List OOp) : ∀ (T : List (OState × OOp)) (st st' : OState), OpsOK ops → Reach cfg T st →
    runO cfg st ops = .ok st' → Reach cfg (T ++ visits cfg st ops) st' := by
  induction ops with
  | nil => intro T st st' _ h hr; cases hr; simpa [visits] using h
  | cons op ops ih =>
    intro T st st' hops h hr
    obtain ⟨st1, hs, hr⟩ := runO_cons hr
    have := ih (T ++ [(st, op)]) st1 st' (fun o ho => hops o (List.mem_cons_of_mem _ ho)) (reach_step cfg hct T st st1 op (hops op List.mem_cons_self) h hs) hr
    simpa [visits, hs, List.append_assoc] using this

theorem reach_empty (cfg : Cfg) : Reach cfg [] OState.empty :=
  { sinv := C11Sides.sinv_empty cfg, sync := rfl, openinv := ⟨trivial, trivial, fun _ he => (by cases he)⟩, xinv := xinv_empty, bad := rfl,
    perm := List.Perm.nil, kinds := fun _ hsg => (by cases hsg), nodone := fun _ hg => (by cases hg),
    runs := fun _ hg => (by cases hg), logprov := fun _ he => (by cases he), markprov := fun _ _ _ hm => (by cases hm) }

theorem reach_reachable (cfg : Cfg) (hct : cfg.ct ≠ .noClip) (ops : List OOp) (hops : OpsOK ops) (st : OState) (hr : runO cfg OState.empty ops = .ok st) :
    Reach cfg (visits cfg OState.empty ops) st := by
  have := reach_run cfg hct ops [] OState.empty st hops (reach_empty cfg) hr
  simpa using this

/-- **open_layer_in_sync.** The open layer's copy of the bookkeeping fields (`wind_cnt`, `wind_cnt2`, hot flag, …) is the ring model's, and it satisfies
C05's invariant: every open edge is hot exactly when `keepOpen` holds at its position. -/
theorem open_layer_in_sync (cfg : Cfg) (hct : cfg.ct ≠ .noClip) (ops : List OOp) (hops : OpsOK ops) (st : OState) (hr : runO cfg OState.empty ops = .ok st) :
    erase st.x.ol = erase st.r.s.ael ∧ C05.OpenInv cfg (erase st.x.ol) :=
  ⟨(reach_reachable cfg hct ops hops st hr).sync, (reach_reachable cfg hct ops hops st hr).openinv⟩

/-- **open_inv_reachable.** In every reachable state:
(a) a closed edge carries no open record; an open edge has `wind_dx = ±1`, owns a record exactly when it is hot, and is then the record's front edge iff `wind_dx > 0`;
(b) no two edges hold the same end of a record and record indices are below the number of records created;
(c) every held record is live with at least one point; there are as many mark pairs as records;
(d) an end of a live record is marked free exactly when no edge holds it, and the point at a free end is the point of its mark. -/
theorem open_inv_reachable (cfg : Cfg) (hct : cfg.ct ≠ .noClip) (ops : List OOp) (hops : OpsOK ops) (st : OState) (hr : runO cfg OState.empty ops = .ok st) :
    (∀ y ∈ st.x.ol, OLocal y) ∧ RecsOK st.x.oo.rings.length st.x.ol ∧
    (∀ y ∈ st.x.ol, ∀ k, y.orec = some k → ∃ g, st.x.oo.rings[k.id]? = some g ∧ g.stat = .live ∧ g.pts ≠ []) ∧ st.x.om.length = st.x.oo.rings.length ∧
    (∀ k g, st.x.oo.rings[k]? = some g → g.stat = .live → ∀ f,
      (markAt st.x.om k f = none ↔ ∃ y ∈ st.x.ol, y.orec = some ⟨k, f⟩) ∧ (∀ m, markAt st.x.om k f = some m → endPt f g.pts = some m.pt)) := by
  have h := (reach_reachable cfg hct ops hops st hr).xinv
  refine ⟨h.loc, h.recs.uniq, ?_, h.recs.mlen, ?_⟩
  · intro y hy k hk
    exact h.recs.live (k.id, k.front) (holder_cnt _ y k hy hk)
  · intro k g hg hl f
    have := h.recs.marks k g hg hl f
    refine ⟨this.1.trans ⟨fun hc => ?_, fun ⟨y, hy, ho⟩ => holder_cnt _ y ⟨k, f⟩ hy ho⟩, this.2⟩
    obtain ⟨y, hy, r, hr, e⟩ := holder_of_cnt hc
    cases e; exact ⟨y, hy, hr⟩

/-- **open_max_never_bad.** No event list reaches a state in which `AddLocalMaxPoly` on two open edges finds `IsFront(e1) == IsFront(e2)` (the only way an
open path makes `Execute` return false) or a maxima pair of open edges with exactly one hot edge (`IsFront` on a null `outrec`, or a record left with a dangling
edge pointer). -/
theorem open_max_never_bad (cfg : Cfg) (hct : cfg.ct ≠ .noClip) (ops : List OOp) (hops : OpsOK ops) (st : OState) (hr : runO cfg OState.empty ops = .ok st) :
    st.x.bad = false :=
  (reach_reachable cfg hct ops hops st hr).bad

/-- **open_rings_conserve_points.** After every event list: (a) the points of all open records are, up to order, exactly the points for which an `OutPt` was created
on an open record (log entries `new`, `added`), i.e. the points handed over minus exactly the duplicates `AddOutPt` suppressed — `JoinOutrecPaths` and the `SetSides`
branch of `IntersectEdges` neither lose nor duplicate a point; (b) `AddOutPt` is never called for an open edge without a live record; (c) provenance: every point
handed to an open record is the point of an event of the run that concerns an *open* edge (`IsOpenEv`: a local minimum / end vertex of an open path, a vertex
passed by an open edge, a crossing of an open and a closed edge, a local maximum / end vertex of an open path) — no event among closed edges puts a point into an open record. -/
theorem open_rings_conserve_points (cfg : Cfg) (hct : cfg.ct ≠ .noClip) (ops : List OOp) (hops : OpsOK ops) (st : OState) (hr : runO cfg OState.empty ops = .ok st) :
    (allPts st.x.oo.rings).Perm ((st.x.oo.log.filter (fun e => e.kind != .dup)).map (·.pt)) ∧
    (∀ e ∈ st.x.oo.log, e.kind ≠ .lost) ∧
    (∀ e ∈ st.x.oo.log, ∃ v ∈ visits cfg OState.empty ops, v.2.pt = e.pt ∧ IsOpenEv v.1.x v.2) := by
  have h := reach_reachable cfg hct ops hops st hr
  exact ⟨h.perm.not_dup h.xinv.recs.nolost, h.xinv.recs.nolost, h.logprov⟩

/-- every point of every open record is the point of an event on an open edge -/
theorem open_ring_points_from_open_events (cfg : Cfg) (hct : cfg.ct ≠ .noClip) (ops : List OOp) (hops : OpsOK ops) (st : OState) (hr : runO cfg OState.empty ops = .ok st)
    (g : Ring) (hg : g ∈ st.x.oo.rings) (p : Pt) (hp : p ∈ g.pts) : ∃ v ∈ visits cfg OState.empty ops, v.2.pt = p ∧ IsOpenEv v.1.x v.2 := by
  have h := reach_reachable cfg hct ops hops st hr
  obtain ⟨e, he, rfl⟩ := h.perm.mem_log hg hp
  exact h.logprov e he

theorem buildOpenPath_pairs (rev : Bool) (pts P : List Pt) (h : buildOpenPath rev pts = some P) (pq : Pt × Pt) (hpq : pq ∈ linPairs P) :
    pq.1 ≠ pq.2 ∧ (pq ∈ linPairs pts ∨ (pq.2, pq.1) ∈ linPairs pts) := by
  cases buildOpenPath_some h
  have := dedup_pairs _ pq hpq
  refine ⟨this.2, ?_⟩
  cases rev
  · exact Or.inr ((mem_linPairs_reverse _ pq.1 pq.2).mp this.1)
  · exact Or.inl this.1

/-- **open_path_is_monotone_piece_partial.** In every reachable state
(a) every pair of neighbours `(p, q)` of every open record is recorded in the open segment log (in one of the two orientations) with kind `extend` — two
consecutive emissions at one end of the record during one run, i.e. while one `Active` (one stretch of one bound of one input open path) holds that end — or
`meet` — the stretch of the second edge up to a local maximum of the open path, glued by `JoinOutrecPaths`; no other kind exists for open records, and no open record
is ever closed into a ring;
(b) every consecutive pair of every path `BuildPath64` makes from an open record, for either value of `ReverseSolution`, is a pair of neighbours of that record in
record order or exactly reversed, with two different points.
Full statement wanted (C05): "each piece is a stretch of one input open path".  Proved part: the enumeration above.  Missing (as for closed rings): the geometric step
that consecutive emissions of one `Active` lie on one input edge, or on two consecutive edges of its bound through an emitted vertex. -/
theorem open_path_is_monotone_piece_partial (cfg : Cfg) (hct : cfg.ct ≠ .noClip) (ops : List OOp) (hops : OpsOK ops) (st : OState) (hr : runO cfg OState.empty ops = .ok st) :
    (∀ g ∈ st.x.oo.rings, g.stat ≠ .done ∧ ∀ pq ∈ linPairs g.pts,
      ∃ sg ∈ st.x.oo.segs, ((sg.p = pq.1 ∧ sg.q = pq.2) ∨ (sg.p = pq.2 ∧ sg.q = pq.1)) ∧ (sg.kind = .extend ∨ sg.kind = .meet)) ∧
    (∀ rev, ∀ P ∈ openSolution rev st.x.oo.rings, ∃ g ∈ st.x.oo.rings, buildOpenPath rev g.pts = some P ∧
      ∀ pq ∈ linPairs P, pq.1 ≠ pq.2 ∧ (pq ∈ linPairs g.pts ∨ (pq.2, pq.1) ∈ linPairs g.pts)) := by
  have h := reach_reachable cfg hct ops hops st hr
  refine ⟨?_, ?_⟩
  · intro g hg
    refine ⟨h.nodone g hg, fun pq hpq => ?_⟩
    obtain ⟨sg, h1, h2⟩ := h.xinv.recs.segs g hg pq (linPairs_sub_pairsOf g pq hpq)
    exact ⟨sg, h1, by simpa [segMatches] using h2, h.kinds sg h1⟩
  · intro rev P hP
    unfold openSolution at hP
    obtain ⟨g, hg, hb⟩ := List.mem_filterMap.mp hP
    exact ⟨g, hg, hb, fun pq hpq => buildOpenPath_pairs rev g.pts P hb pq hpq⟩

/-- **open_piece_ends** (C05's headline at model level).  In every reachable state, for every open record that has points and both ends free (a *finished* piece):
its first point is the point of its front mark, its last point the point of its back mark, and each of the two marks was made by an event the run visited,
which (`MarkEv`) is
* `pathStart`: an `insertOne` — `InsertLocalMinimaIntoAEL` for an end vertex of an input open path — that was contributing (`StartOpenPath`), or
* `pathStop`: a `removeOne` — `DoMaxima` / `DoHorizontal` at `IsOpenEnd` — of a hot open edge, or
* `cutStart` / `cutStop`: an `intersect` of an open edge with a closed edge at which `IntersectEdges` reaches "toggle contribution" (`IsCut`: the three
  `return`s fail), the open edge being cold / hot before.
So pieces begin and end only at ends of input paths and at crossings where the open edge's hot state toggles; `cut_iff_keep_changes` says when that is. -/
theorem open_piece_ends (cfg : Cfg) (hct : cfg.ct ≠ .noClip) (ops : List OOp) (hops : OpsOK ops) (st : OState) (hr : runO cfg OState.empty ops = .ok st)
    (k : Nat) (g : Ring) (mf mb : Mark) (hg : st.x.oo.rings[k]? = some g) (hl : g.stat = .live)
    (hf : markAt st.x.om k true = some mf) (hb : markAt st.x.om k false = some mb) :
    g.pts.head? = some mf.pt ∧ g.pts.getLast? = some mb.pt ∧
    (∃ v ∈ visits cfg OState.empty ops, MarkEv cfg v.1.x v.2 mf) ∧ (∃ v ∈ visits cfg OState.empty ops, MarkEv cfg v.1.x v.2 mb) := by
  have h := reach_reachable cfg hct ops hops st hr
  have m1 := (h.xinv.recs.marks k g hg hl true).2 mf hf
  have m2 := (h.xinv.recs.marks k g hg hl false).2 mb hb
  exact ⟨by simpa [endPt] using m1, by simpa [endPt] using m2, h.markprov k true mf hf, h.markprov k false mb hb⟩

/-- **sweep_end_all_finished.** When the AEL is empty (the sweep is over) every open record that still has points is finished: both ends are marked. -/
theorem sweep_end_all_finished (cfg : Cfg) (hct : cfg.ct ≠ .noClip) (ops : List OOp) (hops : OpsOK ops) (st : OState) (hr : runO cfg OState.empty ops = .ok st)
    (hempty : st.x.ol = []) (k : Nat) (g : Ring) (hg : st.x.oo.rings[k]? = some g) (hl : g.stat = .live) :
    ∃ mf mb, markAt st.x.om k true = some mf ∧ markAt st.x.om k false = some mb := by
  have h := reach_reachable cfg hct ops hops st hr
  have key : ∀ f, ∃ m, markAt st.x.om k f = some m := by
    intro f
    have := (h.xinv.recs.marks k g hg hl f).1
    cases hm : markAt st.x.om k f with
    | some m => exact ⟨m, rfl⟩
    | none =>
      have := this.mp hm
      rw [hempty] at this; simp [cnt] at this
  obtain ⟨mf, h1⟩ := key true
  obtain ⟨mb, h2⟩ := key false
  exact ⟨mf, mb, h1, h2⟩

/-- **solution_path_ends.** `BuildPath64` keeps the two end points: the path made from a record starts at the record's front point and ends at its back point when
`ReverseSolution` is set, and the other way round when it is not — with `open_piece_ends`: every open solution path starts and ends at the points of the record's two marks. -/
theorem solution_path_ends (rev : Bool) (pts P : List Pt) (h : buildOpenPath rev pts = some P) :
    P.head? = (if rev then pts.head? else pts.getLast?) ∧ P.getLast? = (if rev then pts.getLast? else pts.head?) := by
  cases buildOpenPath_some h
  rw [dedup_head, dedup_getLast]
  cases rev <;> simp

/-- a record with fewer than two `OutPt`s gives no path (`!op || op->next == op`); every other record gives one with at least one point -/
theorem buildOpenPath_none_iff (rev : Bool) (pts : List Pt) : buildOpenPath rev pts = none ↔ pts.length ≤ 1 := by
  unfold buildOpenPath
  split <;> simp
  next h1 h2 =>
    cases pts with
    | nil => exact absurd rfl h1
    | cons a t =>
      cases t with
      | nil => exact absurd rfl (h2 a)
      | cons b t' => simp

/-- **cut_iff_keep_changes.** In every reachable state, for an open edge next to a closed edge (in either order) — the situation of an `intersect` event on them —
`IntersectEdges` reaches "toggle contribution" exactly when C05's keep rule differs between the two sides of the closed edge: `keepOpen` of the winding sums to the
left of the pair against `keepOpen` of those sums plus the closed edge's contribution.  So (`open_piece_ends`) a piece is cut at a crossing iff the keep rule changes there. -/
theorem cut_iff_keep_changes (cfg : Cfg) (hct : cfg.ct ≠ .noClip) (ops : List OOp) (hops : OpsOK ops) (st : OState) (hr : runO cfg OState.empty ops = .ok st)
    (pre rest : List SEdge) (a b : SEdge) (hl : st.x.ol = pre ++ a :: b :: rest) (eo ec : SEdge) (hoc : (eo = a ∧ ec = b) ∨ (eo = b ∧ ec = a))
    (ho : eo.e.isOpen = true) (hc : ec.e.isOpen = false) :
    openToggles cfg ec.e = (keepOpen cfg.ct cfg.fr (sumT .subject (erase pre)) (sumT .clip (erase pre)) !=
      keepOpen cfg.ct cfg.fr (sumT .subject (erase pre) + contrib .subject ec.e) (sumT .clip (erase pre) + contrib .clip ec.e)) := by
  have h := (reach_reachable cfg hct ops hops st hr).openinv.1
  unfold Model.Inv at h
  rw [hl, erase_append, erase_cons, erase_cons, invFrom_append] at h
  have h2 := h.2
  simp only [Int.zero_add, InvFrom] at h2
  rcases hoc with ⟨rfl, rfl⟩ | ⟨rfl, rfl⟩
  · have := h2.2.1 hc
    rw [contrib_open _ eo.e ho, contrib_open _ eo.e ho, Int.add_zero, Int.add_zero] at this
    exact toggles_iff cfg hct ec.e _ _ hc this
  · exact toggles_iff cfg hct ec.e _ _ hc (h2.1 hc)

/-- **open_run_follows_active.** The ghost run ids of the open records — `open_path_is_monotone_piece_partial` says "`extend` = two consecutive emissions at one end of a
record during one run" — follow one `Active` through the AEL: for every event from a reachable state, every run id held afterwards by the open edge at position `p'`
is either *new* (`≥ nrun` before the event: `StartOpenPath`, `AddLocalMinPoly`, or the `SetSides` branch of `IntersectEdges` handing a free end to the edge) or it is
the run the *same* edge held before the event (`OOp.track`: insertions shift, `SwapPositionsInAEL` exchanges, removals delete; `JoinOutrecPaths` may have renamed its
record).  So all emissions logged under one run id of an open record are emissions of one `Active`, i.e. of one bound of one input open path: an `extend` segment
joins two consecutive emissions on one stretch of the input polyline. -/
theorem open_run_follows_active (cfg : Cfg) (hct : cfg.ct ≠ .noClip) (ops : List OOp) (hops : OpsOK ops) (st : OState) (hr : runO cfg OState.empty ops = .ok st)
    (op : OOp) (st' : OState) (hs : stepO cfg st op = .ok st') (p' ρ : Nat) (h : holderRun st'.x.ol st'.x.oo.rings p' = some ρ) :
    st.x.oo.nrun ≤ ρ ∨ ∃ p, op.track p = some p' ∧ holderRun st.x.ol st.x.oo.rings p = some ρ :=
  follows_openStep (openStep_spec (erase_open_rings_step cfg st st' op hs).2) (reach_reachable cfg hct ops hops st hr).xinv p' ρ h

/-- run ids in use are below the counter, so a run `≥ nrun` really is one that did not exist before the event -/
theorem open_runs_below_nrun (cfg : Cfg) (hct : cfg.ct ≠ .noClip) (ops : List OOp) (hops : OpsOK ops) (st : OState) (hr : runO cfg OState.empty ops = .ok st)
    (g : Ring) (hg : g ∈ st.x.oo.rings) : g.frun < st.x.oo.nrun ∧ g.brun < st.x.oo.nrun :=
  (reach_reachable cfg hct ops hops st hr).runs g hg

/-- **open_update_emits_on_holder.** What the ghost log records, for the simplest emitting event: when the hot open edge at position `i` — holding end `k` of record
`k.id` under run `holderRun … i` — passes a vertex `pt` of its bound (`AddOutPt(e, e.top)` before `UpdateEdgeIntoAEL`), afterwards that end of the record is `pt`, and
every segment the event logs is an `extend` segment of exactly that run from the previous end point to `pt` (none if `pt` was suppressed as a duplicate). -/
theorem open_update_emits_on_holder (cfg : Cfg) (st st' : OState) (i : Nat) (pt : Pt) (hs : stepO cfg st (.ev (.update i pt)) = .ok st')
    (y : SEdge) (k : Rec) (hy : st.x.ol[i]? = some y) (hyo : y.e.isOpen = true) (hk : y.orec = some k)
    (g : Ring) (hg : st.x.oo.rings[k.id]? = some g) (hl : g.stat = .live) :
    holderRun st.x.ol st.x.oo.rings i = some (g.run k.front) ∧
    (∃ g', st'.x.oo.rings[k.id]? = some g' ∧ endPt k.front g'.pts = some pt) ∧
    (∀ sg ∈ st'.x.oo.segs, sg ∈ st.x.oo.segs ∨ (sg.run = g.run k.front ∧ some sg.p = endPt k.front g.pts ∧ sg.q = pt ∧ sg.kind = .extend)) := by
  have hX := (erase_open_rings_step cfg st st' _ hs).2
  have ho : st'.x.oo = addOutPt k.id k.front pt st.x.oo := by
    simp only [openStep, oUpdate, hy, hyo, if_true, hk, Option.some.injEq] at hX
    rw [← hX]
  refine ⟨by simp [holderRun, hy, hk, runOf, hg], ?_, ?_⟩
  · obtain ⟨g', h1, h2, _⟩ := C01Rings.addOutPt_end k.id k.front pt st.x.oo g hg hl
    exact ⟨g', by rw [ho]; exact h1, h2⟩
  · intro sg hsg
    rw [ho] at hsg
    rcases addOutPt_segs _ _ _ _ sg hsg with h1 | ⟨g', hg', _, h1⟩
    · exact Or.inl h1
    · rw [hg] at hg'; cases hg'; exact Or.inr h1

theorem olocalOK_iff (y : SEdge) (hdx : y.e.isOpen = true → (y.e.dx = 1 ∨ y.e.dx = -1)) : olocalOK y = true ↔ OLocal y := by
  unfold olocalOK OLocal
  cases ho : y.e.isOpen
  · simp
  · simp only [if_true, Bool.and_eq_true, beq_iff_eq, true_implies, Bool.true_eq_false, false_implies, true_and]
    constructor
    · rintro ⟨h1, h2, h3⟩
      refine ⟨h1, hdx ho, h2, ?_⟩
      intro k hk; rw [hk] at h3; simpa using h3
    · rintro ⟨h1, _, h2, h3⟩
      refine ⟨h1, h2, ?_⟩
      cases hk : y.orec with
      | none => rfl
      | some k => simpa using h3 k hk

/- Non-vacuity: a polyline crossing a square (events of the real sweep, `harness/C05rings.cpp`, corpus.segment-through-square).
Clip square (0,0) (100,3) (103,101) (2,98) (slightly skew: general position), open subject segment (-50,40) → (160,61).  The sweep runs from large y to small y. -/

def segmentThroughSquare : List OOp :=
  [ .ev (.base (.insertPair 0 .clip false 1) ⟨103, 101⟩),    -- the square's bottom vertex: two closed edges
    .ev (.update 0 ⟨2, 98⟩),
    .ev (.base (.insertOne 2 .subject (-1)) ⟨160, 61⟩),      -- the segment's lower end, right of the square: one open edge
    .ev (.base (.intersect 1) ⟨101, 55⟩),                    -- it crosses the square's right edge …
    .ev (.base (.intersect 0) ⟨0, 45⟩),                      -- … and its left edge
    .ev (.base (.removeOne 0) ⟨-50, 40⟩),                    -- the segment's upper end
    .ev (.update 1 ⟨100, 3⟩),
    .ev (.base (.removePair 0) ⟨0, 0⟩) ]

example : OpsOK segmentThroughSquare := by
  intro op hop b hb
  simp only [segmentThroughSquare, List.mem_cons, List.not_mem_nil, or_false] at hop
  rcases hop with rfl | rfl | rfl | rfl | rfl | rfl | rfl | rfl <;> simp [OOp.base] at hb <;> subst hb <;> simp [C05.OpOK]

def openOf (x : Except Err OState) (rev : Bool) : Option (List (List Pt)) := x.toOption.map (fun st => openSolution rev st.x.oo.rings)
def recsOf (x : Except Err OState) : Option (List (RStat × List Pt × Option Mark × Option Mark)) :=
  x.toOption.map (fun st => (List.range st.x.oo.rings.length).filterMap (fun k =>
    (st.x.oo.rings[k]?).map (fun g => (g.stat, g.pts, markAt st.x.om k true, markAt st.x.om k false))))

/-- Intersection: the inside piece, from the crossing with the right edge to the crossing with the left edge (as the engine returns it, `ReverseSolution` off) -/
example : openOf (runO ⟨.intersection, .evenOdd⟩ OState.empty segmentThroughSquare) false = some [[⟨0, 45⟩, ⟨101, 55⟩]] := by decide +kernel
example : openOf (runO ⟨.intersection, .evenOdd⟩ OState.empty segmentThroughSquare) true = some [[⟨101, 55⟩, ⟨0, 45⟩]] := by decide +kernel
/-- … one record: started by a cut (the open edge, held at the back end since `wind_dx < 0`, became hot at (101,55): the front end is free from the start), ended by a cut -/
example : recsOf (runO ⟨.intersection, .evenOdd⟩ OState.empty segmentThroughSquare) =
    some [(.live, [⟨101, 55⟩, ⟨0, 45⟩], some ⟨⟨101, 55⟩, .cutStart⟩, some ⟨⟨0, 45⟩, .cutStop⟩)] := by decide +kernel
/-- Difference: the two outside pieces: from the segment's lower end to the right edge, and from the left edge to the segment's upper end -/
example : openOf (runO ⟨.difference, .nonZero⟩ OState.empty segmentThroughSquare) false = some [[⟨101, 55⟩, ⟨160, 61⟩], [⟨-50, 40⟩, ⟨0, 45⟩]] := by decide +kernel
example : recsOf (runO ⟨.difference, .nonZero⟩ OState.empty segmentThroughSquare) =
    some [(.live, [⟨160, 61⟩, ⟨101, 55⟩], some ⟨⟨160, 61⟩, .pathStart⟩, some ⟨⟨101, 55⟩, .cutStop⟩),
          (.live, [⟨0, 45⟩, ⟨-50, 40⟩], some ⟨⟨0, 45⟩, .cutStart⟩, some ⟨⟨-50, 40⟩, .pathStop⟩)] := by decide +kernel
/-- Union (no closed subject): outside the clip region, the same two pieces; Xor likewise -/
example : openOf (runO ⟨.union, .nonZero⟩ OState.empty segmentThroughSquare) false = some [[⟨101, 55⟩, ⟨160, 61⟩], [⟨-50, 40⟩, ⟨0, 45⟩]] := by decide +kernel
/-- half way (after the first crossing) the Intersection piece is under construction: the open edge (position 1) holds the back end of record 0 -/
example : (runO ⟨.intersection, .evenOdd⟩ OState.empty (segmentThroughSquare.take 4)).toOption.map (fun st => (st.x.ol.map (·.orec), checkOpen st)) =
    some ([none, some ⟨0, false⟩, none], true) := by decide +kernel
example : (runO ⟨.difference, .nonZero⟩ OState.empty segmentThroughSquare).toOption.map (fun st => checkOpen st && checkSegs st.x.oo) = some true := by decide +kernel

/-- runs in the segment example, Difference (positions 0..2 of the AEL after each of the first five events): the open edge is inserted at position 2 holding the back end
of record 0 under run 1 (`StartOpenPath`), it keeps that run until it is cut at (101,55), and the second piece starts under the new run 3 at (0,45) -/
example : (List.range 6).map (fun n => (runO ⟨.difference, .nonZero⟩ OState.empty (segmentThroughSquare.take n)).toOption.map
      (fun st => (List.range 3).map (holderRun st.x.ol st.x.oo.rings))) =
    [some [none, none, none], some [none, none, none], some [none, none, none], some [none, none, some 1], some [none, none, none], some [some 3, none, none]] := by decide +kernel

/-- a polyline with a local minimum, entirely inside the square (events of the real sweep, corpus.polyline-inside): open subject (20,20) → (50,70) → (80,30).
Intersection keeps all of it: `AddLocalMinPoly` makes one record with both ends held (front end by the edge with `wind_dx > 0`), the two end vertices release them -/
def polylineInside : List OOp :=
  [ .ev (.base (.insertPair 0 .clip false 1) ⟨103, 101⟩),
    .ev (.update 0 ⟨2, 98⟩),
    .ev (.base (.insertPair 1 .subject true (-1)) ⟨50, 70⟩),   -- the local minimum of the open path: two open edges
    .ev (.base (.removeOne 2) ⟨80, 30⟩),
    .ev (.base (.removeOne 1) ⟨20, 20⟩),
    .ev (.update 1 ⟨100, 3⟩),
    .ev (.base (.removePair 0) ⟨0, 0⟩) ]

example : (runO ⟨.intersection, .evenOdd⟩ OState.empty (polylineInside.take 3)).toOption.map (fun st => (st.x.ol.map (·.orec), st.x.oo.rings.map (·.pts), checkOpen st)) =
    some ([none, some ⟨0, false⟩, some ⟨0, true⟩, none], [[⟨50, 70⟩]], true) := by decide +kernel
example : openOf (runO ⟨.intersection, .evenOdd⟩ OState.empty polylineInside) true = some [[⟨80, 30⟩, ⟨50, 70⟩, ⟨20, 20⟩]] := by decide +kernel
example : recsOf (runO ⟨.intersection, .evenOdd⟩ OState.empty polylineInside) =
    some [(.live, [⟨80, 30⟩, ⟨50, 70⟩, ⟨20, 20⟩], some ⟨⟨80, 30⟩, .pathStop⟩, some ⟨⟨20, 20⟩, .pathStop⟩)] := by decide +kernel
/-- Difference keeps nothing of it -/
example : openOf (runO ⟨.difference, .evenOdd⟩ OState.empty polylineInside) true = some [] := by decide +kernel

/-- the invariants are not decoration: an open edge that is hot without a record is rejected by the checker -/
example : olocalOK ⟨⟨.subject, true, 1, 0, 0, true⟩, .none, none⟩ = false := by decide +kernel
/-- a local maximum whose two open edges hold the two ends of one record is rejected -/
example : (runO ⟨.difference, .nonZero⟩ OState.empty
    [ .ev (.base (.insertPair 0 .subject true 1) ⟨0, 10⟩), .ev (.base (.removePair 0) ⟨0, 0⟩) ]).toOption.isNone = true := by decide +kernel
/-- `BuildPath64`: consecutive duplicates are dropped, a single `OutPt` gives no path, two equal `OutPt`s give a one-point path -/
example : buildOpenPath true [⟨0, 0⟩, ⟨0, 0⟩, ⟨5, 1⟩, ⟨5, 1⟩, ⟨9, 9⟩] = some [⟨0, 0⟩, ⟨5, 1⟩, ⟨9, 9⟩] := by decide +kernel
example : buildOpenPath false [⟨0, 0⟩, ⟨5, 1⟩, ⟨9, 9⟩] = some [⟨9, 9⟩, ⟨5, 1⟩, ⟨0, 0⟩] := by decide +kernel
example : buildOpenPath false [⟨3, 4⟩] = none := by decide +kernel
example : buildOpenPath true [⟨3, 4⟩, ⟨3, 4⟩] = some [⟨3, 4⟩] := by decide +kernel

end Clipper.Props.C05Rings

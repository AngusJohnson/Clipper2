/-
Property C04, clause "executing into a PolyTree yields exactly the same set of closed paths as executing into Paths", and C03's
"every ring that CleanCollinear splits off is itself cleaned and emitted": all four solution builders must reach the records that
are appended to `outrec_list_` WHILE they run.

* `builders_reread_size` — Tie T: the loop headers regenerated from /repo's source on every run (`Generated/BuilderLoops`, by
  tools/extract_loops.py from clang's AST) are, for all four builders, `for (i = 0; i < outrec_list_.size(); ++i)` with the call
  evaluated on every turn and a body that never writes `i`.
* `dynLoop_visits_all` — for every state type, size function and body that never shrinks the list: when that loop returns, the
  indices visited are exactly `i0, i0+1, …, size(final) - 1`, each once and in order — every record present at the END is visited,
  including those appended by the body.
* `hoisted_misses_appended` — the variant with the bound read once visits only the records present at the START (a concrete
  witness on which the two differ): the reading of the size inside the condition is what the clause rests on.

Not proved here: what the bodies do (C03: `CleanCollinear`/`FixSelfIntersects`, `Model/SplitOp.buildPathsG` whose work list
`rest ++ sp` is this loop; C04: `Model/Owner`), nor that the four bodies emit the same paths (correspondence: the records `tree64.*` (`TREECHECK`),
`treeD.pathsets`, `dense.tree64.pathsets`, `dense.treeD.pathsets` of harness/C04.cpp).
-/
import ClipperVerif.Model.BuilderLoop
import ClipperVerif.Generated.BuilderLoops

namespace Clipper.Props.C04Builders
open Clipper.Model.BuilderLoop Clipper.Generated.BuilderLoops

/-- Tie T: all four builders re-read `outrec_list_.size()` in the loop condition, start at 0, step by one and never write the
induction variable in the body. -/
theorem builders_reread_size :
    loops.map (·.fn) = ["BuildPaths64", "BuildTree64", "BuildPathsD", "BuildTreeD"] ∧
    ∀ l ∈ loops, l.singleVar = true ∧ l.initZero = true ∧ l.condRereadsSize = true ∧ l.incByOne = true ∧
      l.bodyWritesVar = false := by
  decide

variable {σ : Type}

/-- one turn of `dynLoop` that returns: either the condition fails, or the body runs and the rest of the loop returns -/
theorem dynLoop_succ {size : σ → Nat} {body : σ → Nat → σ} {fuel i : Nat} {s s' : σ} {vis : List Nat}
    (h : dynLoop size body (fuel + 1) i s = some (s', vis)) :
    (¬ i < size s ∧ s' = s ∧ vis = []) ∨
    (i < size s ∧ ∃ vis2, dynLoop size body fuel (i + 1) (body s i) = some (s', vis2) ∧ vis = i :: vis2) := by
  unfold dynLoop at h
  split at h
  · split at h
    · cases h; exact Or.inr ⟨‹_›, _, ‹_›, rfl⟩
    · cases h
  · cases h; exact Or.inl ⟨‹_›, rfl, rfl⟩

theorem dynLoop_size_mono (size : σ → Nat) (body : σ → Nat → σ) (hmono : ∀ s i, size s ≤ size (body s i)) :
    ∀ fuel i s s' vis, dynLoop size body fuel i s = some (s', vis) → size s ≤ size s' := by
  intro fuel
  induction fuel with
  | zero => intro i s s' vis h; cases h
  | succ n ih =>
    intro i s s' vis h
    rcases dynLoop_succ h with ⟨_, rfl, _⟩ | ⟨_, vis2, h2, _⟩
    · exact Nat.le_refl _
    · exact Nat.le_trans (hmono s i) (ih _ _ _ _ h2)

/-- The loop with the size re-read on every turn visits, in order and once each, exactly the indices from `i0` up to the size of
the list AT THE END — provided the body never shrinks the list (`outrec_list_` only grows: `NewOutRec` is its only writer during
the builders). -/
theorem dynLoop_visits_all (size : σ → Nat) (body : σ → Nat → σ) (hmono : ∀ s i, size s ≤ size (body s i)) :
    ∀ fuel i0 s s' vis, dynLoop size body fuel i0 s = some (s', vis) → vis = List.range' i0 (size s' - i0) := by
  intro fuel
  induction fuel with
  | zero => intro i s s' vis h; cases h
  | succ n ih =>
    intro i s s' vis h
    rcases dynLoop_succ h with ⟨hge, rfl, rfl⟩ | ⟨hlt, vis2, h2, rfl⟩
    · rw [Nat.sub_eq_zero_of_le (Nat.le_of_not_lt hge)]; rfl
    · have h1 := dynLoop_size_mono size body hmono _ _ _ _ _ h2
      have h3 := hmono s i
      rw [ih _ _ _ _ h2, show size s' - i = (size s' - (i + 1)) + 1 by omega, List.range'_succ]

/-- the premises are satisfiable and the conclusion is not trivial: a list of work items in which item 1 appends two more -/
example : dynLoop (σ := List Nat) List.length (fun s i => if i = 1 then s ++ [7, 8] else s) 10 0 [0, 0, 0]
    = some ([0, 0, 0, 7, 8], [0, 1, 2, 3, 4]) := by decide

/-- With the bound hoisted out of the loop the appended records are never visited: same body, same start, the hoisted loop stops
after the three records present at the start. -/
theorem hoisted_misses_appended :
    (hoistedLoop (σ := List Nat) List.length (fun s i => if i = 1 then s ++ [7, 8] else s) 0 [0, 0, 0]).2 = [0, 1, 2] ∧
    (dynLoop (σ := List Nat) List.length (fun s i => if i = 1 then s ++ [7, 8] else s) 10 0 [0, 0, 0]).map (·.2)
      = some [0, 1, 2, 3, 4] := by decide

end Clipper.Props.C04Builders

/-
C04 — PolyTree nesting: **what `Path1InsidePath2` guarantees.**

The ownership theorems of `Props/C04.lean` take the containment test as an abstract parameter `inside`.  This file is about the
executable model of that test, `Model.HorzJoins.path1InsidePath2` (`PointInOpPolygon`, `GetCleanPath`, `Path1InsidePath2` of
clipper.engine.cpp:490-596, compared with the real functions on thousands of ring pairs by the horizontal-join harness,
`HORZJOINS INSIDE`), judged against the exact even-odd rule `Spec.pipEvenOdd` of C18 (0 = on the boundary, 1 = strictly inside,
2 = strictly outside).

The ring-walking `PointInOpPolygon` that classifies ring1's vertices *is* the exact even-odd rule; the vote loop is a
function of the sequence of classifications in traversal order: it returns at the first vertex where `|outside_cnt|` reaches
**2** (`true` iff the count is −2), and otherwise the fallback answers with the classification of the midpoint of ring1's
bounds against ring2 (both passed through `GetCleanPath`), the boundary counted as inside.  Two concrete ring pairs show
that the threshold `2` (not `1`) and "boundary counts as inside" are decisive; the seeded changes C04r3-m1 and C04r3-m2
contradict them.  For rings in nesting position (all vertices of ring1 strictly on one side of ring2) the test answers true
iff ring1's vertices are strictly inside ring2, which instantiates `C04.tree_parent_sound` and `C04.tree_depth_parity` with
the concrete test.

Trusted base: the model `path1InsidePath2` itself (tied to the compiled function by the harness); `PointInPolygon` of the
fallback is the C18 model with exact integer `CrossProduct` (the C++ uses doubles: exact for |coordinates| ≤ 2^25).
Not proved: that removing the vertices `GetCleanPath` removes leaves the even-odd region unchanged (false for rings with
spikes, see the witness), and any Jordan-curve fact (that simple non-crossing rings *are* in nesting position).
-/
import ClipperVerif.Lemmas.Path1Inside
import ClipperVerif.Props.C04
import ClipperVerif.Props.C18Geom
namespace Clipper.Props.C04Inside
open Clipper Clipper.Model Clipper.Model.HorzJoins Clipper.Model.Owner Clipper.Lemmas.Path1Inside

/-- **`PointInOpPolygon` is the exact even-odd rule** for every ring with ≥ 3 vertices that has a vertex off the horizontal
line through the point (result code 0 = IsOn, 1 = IsInside, 2 = IsOutside). -/
theorem pointInOpPolygon_is_evenOdd (pt : Pt) (ring : List Pt) (hn : 3 ≤ ring.length) (hoff : ∃ v ∈ ring, v.y ≠ pt.y) :
    pipCode (pointInOpPolygon pt ring) = pipEvenOdd ring pt := by
  obtain ⟨v, hv, hvy⟩ := hoff
  have hsome : (ring.findIdx? (fun q => q.y != pt.y)).isSome = true := by
    rw [List.findIdx?_isSome, List.any_eq_true]
    exact ⟨v, hv, by simpa using hvy⟩
  obtain ⟨k, hk⟩ := Option.isSome_iff_exists.mp hsome
  obtain ⟨hklt, hkp, _⟩ := List.findIdx?_eq_some_iff_getElem.mp hk
  have hr : rotL ring k = ring[k] :: (ring.drop (k + 1) ++ ring.take k) := by
    rw [rotL, List.drop_eq_getElem_cons hklt]; rfl
  rw [pointInOpPolygon_eq_cyc pt ring k _ _ hn hk hr,
    Clipper.Lemmas.Geom.pipCyc_rot signCorrect_cpS _ _ (by simpa using hkp), ← List.drop_eq_getElem_cons hklt,
    List.take_append_drop]

example : 3 ≤ ([⟨0,0⟩, ⟨10,0⟩, ⟨10,10⟩, ⟨0,10⟩] : List Pt).length ∧
    ∃ v ∈ ([⟨0,0⟩, ⟨10,0⟩, ⟨10,10⟩, ⟨0,10⟩] : List Pt), v.y ≠ (⟨3, 0⟩ : Pt).y := by decide

/-- strictly inside by the exact rule ⇒ classified `IsInside` (no side condition) -/
theorem classify_inside (q : Pt) (ring : List Pt) (h : pipEvenOdd ring q = 1) : pointInOpPolygon q ring = .isInside := by
  have hodd : windPath ring q % 2 ≠ 0 := by
    unfold pipEvenOdd at h
    split at h
    · omega
    · split at h
      · assumption
      · omega
  rcases Nat.lt_or_ge ring.length 3 with h3 | hn
  · exact absurd (windPath_short ring q h3) hodd
  · rcases off_or_flat ring q with hoff | hall
    · exact Clipper.Lemmas.Geom.pipCode_inj ((pointInOpPolygon_is_evenOdd q ring hn hoff).trans h)
    · rw [windPath_eq_zero (Or.inl fun v hv => Int.le_of_eq (hall v hv))] at hodd
      exact absurd rfl hodd

/-- strictly outside by the exact rule ⇒ classified `IsOutside` (no side condition) -/
theorem classify_outside (q : Pt) (ring : List Pt) (h : pipEvenOdd ring q = 2) : pointInOpPolygon q ring = .isOutside := by
  rcases Nat.lt_or_ge ring.length 3 with h3 | hn
  · exact pointInOpPolygon_degenerate q ring (Or.inl h3)
  · rcases off_or_flat ring q with hoff | hall
    · exact Clipper.Lemmas.Geom.pipCode_inj ((pointInOpPolygon_is_evenOdd q ring hn hoff).trans h)
    · exact pointInOpPolygon_degenerate q ring (Or.inr hall)

example : pipEvenOdd [⟨0,0⟩, ⟨10,0⟩, ⟨10,10⟩, ⟨0,10⟩] ⟨3, 4⟩ = 1 ∧ pipEvenOdd [⟨0,0⟩, ⟨10,0⟩, ⟨10,10⟩, ⟨0,10⟩] ⟨13, 4⟩ = 2 := by
  decide

/-- the classifications `PointInOpPolygon(op->pt, op2)` of ring1's vertices, in traversal order starting at `op1` -/
def classes (ring1 ring2 : List Pt) : List PipResult := ring1.map (fun q => pointInOpPolygon q ring2)

/-- the fallback: `PointInPolygon(GetBounds(GetCleanPath(op1)).MidPoint(), GetCleanPath(op2)) != IsOutside` -/
def fallback (ring1 ring2 : List Pt) : Bool :=
  pointInPolygon (boundsMidPoint (getCleanPath ring1)) (getCleanPath ring2) != .isOutside

/-- **`vote_semantics`.**  `Path1InsidePath2` is the following function of the classification sequence: run
`decideVotes 0` (add `+1` per `IsOutside`, `−1` per `IsInside`, `0` per `IsOn`; stop as soon as the absolute value of the
count is no longer `< 2`, answering `count < 0`); if the sequence is exhausted first — `|outside_cnt| > 1` fails — answer
with the fallback. -/
theorem vote_semantics (ring1 ring2 : List Pt) :
    path1InsidePath2 ring1 ring2 =
      match decideVotes 0 (classes ring1 ring2) with
      | some b => b
      | none => fallback ring1 ring2 := by
  have h := insideVotes_spec ring2 ring1 0 (by decide)
  unfold path1InsidePath2 classes fallback
  simp only
  cases hd : decideVotes 0 (ring1.map (fun q => pointInOpPolygon q ring2)) with
  | some b =>
    rw [hd] at h
    simp only [h.1, if_true]; exact h.2
  | none =>
    rw [hd] at h
    simp only [h, if_false]

/-- **closed form of the vote**: the loop stops with answer `b` iff some prefix of the classification sequence has
`#outside − #inside` equal to `−2` (`b = true`) resp. `+2` (`b = false`) while every shorter prefix has `|score| < 2`. -/
theorem vote_closed_form (ring1 ring2 : List Pt) (b : Bool) :
    decideVotes 0 (classes ring1 ring2) = some b ↔
      ∃ k, k ≤ ring1.length ∧ score ((classes ring1 ring2).take k) = (if b then -2 else 2) ∧
        ∀ j, j < k → (score ((classes ring1 ring2).take j)).natAbs < 2 := by
  have := decideVotes_eq_some_iff (classes ring1 ring2) 0 (by decide) b
  simpa [classes] using this

/-- the vote is undecided (the fallback answers) iff every prefix of the classification sequence has `|score| < 2` -/
theorem vote_undecided_iff (ring1 ring2 : List Pt) :
    decideVotes 0 (classes ring1 ring2) = none ↔
      ∀ k, k ≤ ring1.length → (score ((classes ring1 ring2).take k)).natAbs < 2 := by
  have := decideVotes_eq_none_iff (classes ring1 ring2) 0 (by decide)
  simpa [classes] using this

/-- the square `[0,10]²` -/
def sq10 : List Pt := [⟨0,0⟩, ⟨10,0⟩, ⟨10,10⟩, ⟨0,10⟩]

/-- **The threshold is 2, not 1.**  ring1 starts at a vertex strictly outside the square and continues with three vertices
strictly inside: classifications `[out, in, in, in]`, counts `1, 0, −1, −2` — the answer is `true` (a single stray vertex, "a
rounding error", does not decide).  With the threshold lowered to 1 (seeded change C04r3-m1) the loop would stop after
the first vertex and answer `false`. -/
theorem vote_threshold_witness :
    classes [⟨12, 5⟩, ⟨8, 2⟩, ⟨8, 8⟩, ⟨2, 5⟩] sq10 = [.isOutside, .isInside, .isInside, .isInside] ∧
    path1InsidePath2 [⟨12, 5⟩, ⟨8, 2⟩, ⟨8, 8⟩, ⟨2, 5⟩] sq10 = true := by decide

/-- every vertex of ring1 strictly inside ring2 (exact even-odd rule) -/
def AllStrictlyInside (ring1 ring2 : List Pt) : Prop := ∀ q ∈ ring1, pipEvenOdd ring2 q = 1
/-- every vertex of ring1 strictly outside ring2 -/
def AllStrictlyOutside (ring1 ring2 : List Pt) : Prop := ∀ q ∈ ring1, pipEvenOdd ring2 q = 2

/-- the first two votes decide: two vertices strictly inside ⇒ `true` -/
theorem inside_of_first_two_inside (q1 q2 : Pt) (rest ring2 : List Pt)
    (h1 : pipEvenOdd ring2 q1 = 1) (h2 : pipEvenOdd ring2 q2 = 1) :
    path1InsidePath2 (q1 :: q2 :: rest) ring2 = true := by
  rw [vote_semantics]
  simp [classes, decideVotes, classify_inside _ _ h1, classify_inside _ _ h2, voteOf]

/-- the first two votes decide: two vertices strictly outside ⇒ `false` -/
theorem outside_of_first_two_outside (q1 q2 : Pt) (rest ring2 : List Pt)
    (h1 : pipEvenOdd ring2 q1 = 2) (h2 : pipEvenOdd ring2 q2 = 2) :
    path1InsidePath2 (q1 :: q2 :: rest) ring2 = false := by
  rw [vote_semantics]
  simp [classes, decideVotes, classify_outside _ _ h1, classify_outside _ _ h2, voteOf]

/-- **`inside_of_all_strictly_inside`.**  If every vertex of ring1 is strictly inside polygon ring2 (exact even-odd rule)
and ring1 has at least **two** vertices — the vote loop needs exactly two concordant votes — the test answers `true`.
No hypothesis on ring2 (a point can only be strictly inside a ring with ≥ 3 vertices not on one horizontal line). -/
theorem inside_of_all_strictly_inside (ring1 ring2 : List Pt) (h2 : 2 ≤ ring1.length)
    (h : AllStrictlyInside ring1 ring2) : path1InsidePath2 ring1 ring2 = true := by
  match ring1, h2 with
  | q1 :: q2 :: rest, _ =>
    exact inside_of_first_two_inside q1 q2 rest ring2 (h q1 (by simp)) (h q2 (by simp))

/-- **`outside_of_all_strictly_outside`.**  If every vertex of ring1 is strictly outside ring2 and ring1 has at least
**two** vertices, the test answers `false`.  (With a single vertex the count only reaches 1 and the fallback decides:
`one_vertex_falls_back`.) -/
theorem outside_of_all_strictly_outside (ring1 ring2 : List Pt) (h2 : 2 ≤ ring1.length)
    (h : AllStrictlyOutside ring1 ring2) : path1InsidePath2 ring1 ring2 = false := by
  match ring1, h2 with
  | q1 :: q2 :: rest, _ =>
    exact outside_of_first_two_outside q1 q2 rest ring2 (h q1 (by simp)) (h q2 (by simp))

/-- the count "2" is sharp: a one-vertex ring is never decided by the vote -/
theorem one_vertex_falls_back (q : Pt) (ring2 : List Pt) : path1InsidePath2 [q] ring2 = fallback [q] ring2 := by
  rw [vote_semantics]
  have hv := voteOf_range (pointInOpPolygon q ring2)
  have : decideVotes 0 (classes [q] ring2) = none := by
    simp only [classes, List.map_cons, List.map_nil, decideVotes]
    rw [if_pos (by omega)]
  rw [this]

example : AllStrictlyInside [⟨2, 2⟩, ⟨8, 2⟩, ⟨5, 8⟩] sq10 ∧ 2 ≤ ([⟨2, 2⟩, ⟨8, 2⟩, ⟨5, 8⟩] : List Pt).length := by
  refine ⟨?_, by decide⟩
  intro q hq
  simp only [List.mem_cons, List.not_mem_nil, or_false] at hq
  rcases hq with rfl | rfl | rfl <;> decide

example : AllStrictlyOutside [⟨12, 2⟩, ⟨18, 2⟩, ⟨15, 8⟩] sq10 := by
  intro q hq
  simp only [List.mem_cons, List.not_mem_nil, or_false] at hq
  rcases hq with rfl | rfl | rfl <;> decide

/-- **`fallback_semantics`.**  When the vote is undecided, the answer is the exact even-odd classification of the midpoint of
the bounding box of the cleaned ring1 against the cleaned ring2, **with the boundary counted as inside** (`≠ IsOutside`),
provided the cleaned ring2 has ≥ 3 vertices, one of them off the horizontal through the midpoint. -/
theorem fallback_semantics (ring1 ring2 : List Pt) (hv : decideVotes 0 (classes ring1 ring2) = none)
    (hn : 3 ≤ (getCleanPath ring2).length)
    (hoff : ∃ v ∈ getCleanPath ring2, v.y ≠ (boundsMidPoint (getCleanPath ring1)).y) :
    path1InsidePath2 ring1 ring2 =
      decide (pipEvenOdd (getCleanPath ring2) (boundsMidPoint (getCleanPath ring1)) ≠ 2) := by
  rw [vote_semantics, hv]
  simp only [fallback]
  have h := Clipper.Props.C18Geom.pointInPolygon_exact (boundsMidPoint (getCleanPath ring1)) (getCleanPath ring2) hn hoff
  rw [← h]
  cases pointInPolygon (boundsMidPoint (getCleanPath ring1)) (getCleanPath ring2) <;> simp [pipCode]

/-- … and `false` when the cleaned ring2 is degenerate (fewer than three vertices, or all on the horizontal through the
midpoint): `PointInPolygon` answers `IsOutside` there whatever the geometry. -/
theorem fallback_degenerate (ring1 ring2 : List Pt) (hv : decideVotes 0 (classes ring1 ring2) = none)
    (hdeg : (getCleanPath ring2).length < 3 ∨
      ∀ v ∈ getCleanPath ring2, v.y = (boundsMidPoint (getCleanPath ring1)).y) :
    path1InsidePath2 ring1 ring2 = false := by
  rw [vote_semantics, hv]
  simp only [fallback]
  rw [Clipper.Props.C18Geom.pointInPolygon_degenerate _ _ hdeg]
  rfl

-- non-vacuity of `fallback_degenerate`: an undecided vote against a two-point "ring"
example : decideVotes 0 (classes [⟨5, 5⟩] [⟨0, 0⟩, ⟨10, 10⟩]) = none ∧ (getCleanPath [⟨0, 0⟩, ⟨10, 10⟩]).length < 3 := by
  decide

/-- a bow-tie whose vertices alternate outside / inside the square: the vote stays equivocal (counts 1, 0, 1, 0) -/
def bowtie : List Pt := [⟨2, -3⟩, ⟨2, 3⟩, ⟨8, -3⟩, ⟨8, 3⟩]

/-- **The boundary counts as inside.**  For the bow-tie the vote is undecided, `GetCleanPath` changes neither ring, the
midpoint of ring1's bounds is `(5, 0)`, which lies *on* the boundary of the square, and the test answers `true`.  With
"boundary midpoint no longer counted" (seeded change C04r3-m2) it would answer `false`. -/
theorem boundary_midpoint_witness :
    decideVotes 0 (classes bowtie sq10) = none ∧ getCleanPath bowtie = bowtie ∧ getCleanPath sq10 = sq10 ∧
    boundsMidPoint (getCleanPath bowtie) = ⟨5, 0⟩ ∧ pipEvenOdd sq10 ⟨5, 0⟩ = 0 ∧
    path1InsidePath2 bowtie sq10 = true := by
  have h1 : decideVotes 0 (classes bowtie sq10) = none := by decide
  have h2 : getCleanPath bowtie = bowtie := by decide
  have h3 : getCleanPath sq10 = sq10 := by decide
  have h4 : boundsMidPoint (getCleanPath bowtie) = ⟨5, 0⟩ := by rw [h2]; decide
  have h5 : pipEvenOdd sq10 ⟨5, 0⟩ = 0 := by decide
  refine ⟨h1, h2, h3, h4, h5, ?_⟩
  rw [fallback_semantics bowtie sq10 h1 (by rw [h3]; decide) (by rw [h3, h4]; decide), h3, h4, h5]
  decide

/-- `GetCleanPath` only removes vertices: its result is a sublist of the ring (same order, starting from `op`). -/
theorem cleanPath_sublist (ring : List Pt) : (getCleanPath ring).Sublist ring := by
  unfold getCleanPath
  simp only
  generalize cleanStart ring.toArray ring.length ring.length 0 = k
  cases hd : ring.drop k with
  | nil => simp
  | cons s rest =>
    cases hh : ring.head? with
    | none => simp
    | some first =>
      simp only
      have h1 : (s :: cleanRest first s rest).Sublist (s :: rest) := (cleanRest_sublist first rest s).cons_cons s
      rw [← hd] at h1
      exact h1.trans (List.drop_sublist k ring)

/-- it never returns an empty path for a non-empty ring -/
theorem cleanPath_ne_nil (ring : List Pt) (h : ring ≠ []) : getCleanPath ring ≠ [] := by
  unfold getCleanPath
  simp only
  have hn : 0 < ring.length := List.length_pos_iff.mpr h
  have hk := cleanStart_lt ring.toArray ring.length ring.length 0 hn
  generalize cleanStart ring.toArray ring.length ring.length 0 = k at hk
  cases hd : ring.drop k with
  | nil => have := List.drop_eq_nil_iff.mp hd; omega
  | cons s rest =>
    cases ring with
    | nil => exact absurd rfl h
    | cons f r => simp

/-- what is removed: a vertex `c` is dropped iff it has the same `x` as both the last *kept* vertex `pv` and its ring
successor `nx`, or the same `y` as both (`axisCollinear pv c nx`) — axis-parallel collinearity only; a vertex that is
collinear with its neighbours on a slanted line is kept. -/
theorem cleanPath_step (first pv c : Pt) (rest : List Pt) :
    cleanRest first pv (c :: rest) =
      if axisCollinear pv c (nextOr first rest) then cleanRest first pv rest else c :: cleanRest first c rest :=
  cleanRest_cons first pv c rest

/-- **identity on clean rings**: if no vertex of the ring has the same `x` (or the same `y`) as both its predecessor and its
successor, cyclically (`AxisClean`), `GetCleanPath` returns the ring unchanged. -/
theorem cleanPath_id_of_axisClean (ring : List Pt) (h : AxisClean ring) : getCleanPath ring = ring := by
  match ring, h with
  | [], _ => rfl
  | [f], _ => simp [getCleanPath, cleanStart, cleanRest]
  | f :: q :: r, ⟨h1, h2⟩ =>
    have h1' : ¬ axisCollinear (Clipper.Lemmas.Geom.lastOf f (q :: r)) f q := by
      rcases h1 with h1 | h1
      · exact absurd h1 (by simp)
      · exact h1
    unfold getCleanPath
    simp only
    rw [cleanStart_zero f q r h1']
    simp only [List.drop_zero, List.head?_cons]
    rw [cleanRest_id f (q :: r) f h2]

example : AxisClean sq10 := by
  simp only [sq10, AxisClean, ChainClean, axisCollinear, nextOr, Clipper.Lemmas.Geom.lastOf]
  decide

/-- rectilinear collinear vertices are removed … -/
example : getCleanPath [⟨0,0⟩, ⟨5,0⟩, ⟨10,0⟩, ⟨10,10⟩, ⟨0,10⟩] = sq10 := by decide
/-- … including the ones at the start of the traversal (the first loop skips them) … -/
example : getCleanPath [⟨5,0⟩, ⟨10,0⟩, ⟨10,10⟩, ⟨0,10⟩, ⟨0,0⟩] = [⟨10,0⟩, ⟨10,10⟩, ⟨0,10⟩, ⟨0,0⟩] := by decide
/-- … slanted collinear vertices are not -/
example : getCleanPath [⟨0,0⟩, ⟨5,5⟩, ⟨10,10⟩, ⟨0,10⟩] = [⟨0,0⟩, ⟨5,5⟩, ⟨10,10⟩, ⟨0,10⟩] := by decide

/-- **The result is not always free of axis-parallel collinear triples**: the removal test looks at the ring successor, not
at the next *kept* vertex.  On a ring with a spike `(5,0) → (5,3) → (5,0)` the output contains `(0,0), (5,0), (9,0)` in a row.
(Such a ring is not a valid solution polygon; the statement "no three consecutive axis-collinear vertices" therefore holds
for the output only under a no-spike hypothesis, which is not proved here.) -/
theorem cleanPath_keeps_collinear_witness :
    getCleanPath [⟨0,0⟩, ⟨5,0⟩, ⟨5,3⟩, ⟨5,0⟩, ⟨9,0⟩, ⟨9,9⟩, ⟨0,9⟩] = [⟨0,0⟩, ⟨5,0⟩, ⟨9,0⟩, ⟨9,9⟩, ⟨0,9⟩] := by decide

/-- **`inside_respects_nesting`.**  Let ring1 (≥ 2 vertices) and ring2 be in *nesting position*: all vertices of ring1 are
strictly on one side of ring2 — all strictly inside or all strictly outside by the exact even-odd rule; in particular no
vertex of ring1 lies on ring2's boundary.  (Two simple polygons whose boundaries do not meet are in nesting position; that
Jordan-curve fact is not formalised.)  Then the test answers `true` **iff** ring1's vertices are strictly inside ring2. -/
theorem inside_respects_nesting (ring1 ring2 : List Pt) (h2 : 2 ≤ ring1.length)
    (hpos : AllStrictlyInside ring1 ring2 ∨ AllStrictlyOutside ring1 ring2) :
    path1InsidePath2 ring1 ring2 = true ↔ AllStrictlyInside ring1 ring2 := by
  constructor
  · intro ht
    rcases hpos with h | h
    · exact h
    · rw [outside_of_all_strictly_outside ring1 ring2 h2 h] at ht
      exact absurd ht (by decide)
  · exact inside_of_all_strictly_inside ring1 ring2 h2

/-- the hypothesis is satisfiable both ways -/
example : 2 ≤ ([⟨2, 2⟩, ⟨8, 2⟩, ⟨5, 8⟩] : List Pt).length ∧
    (AllStrictlyInside [⟨2, 2⟩, ⟨8, 2⟩, ⟨5, 8⟩] sq10 ∨ AllStrictlyOutside [⟨2, 2⟩, ⟨8, 2⟩, ⟨5, 8⟩] sq10) := by
  refine ⟨by decide, Or.inl ?_⟩
  intro q hq
  simp only [List.mem_cons, List.not_mem_nil, or_false] at hq
  rcases hq with rfl | rfl | rfl <;> decide

/-- the concrete containment test on a family of rings `ring i` (= the points of `outrec i`'s `pts` ring at the time
`Path1InsidePath2(i->pts, j->pts)` is evaluated) -/
def insideOf (ring : Nat → List Pt) (c p : Nat) : Bool := path1InsidePath2 (ring c) (ring p)

/-- every pair of different rings is in nesting position and every ring has ≥ 2 vertices -/
def NestingPosition (ring : Nat → List Pt) : Prop :=
  ∀ c p, c ≠ p → 2 ≤ (ring c).length ∧
    (AllStrictlyInside (ring c) (ring p) ∨ AllStrictlyOutside (ring c) (ring p))

/-- **`C04.tree_parent_sound` with the concrete test.**  If the rings are pairwise in nesting position, then every outrec
`c` that received a tree node below level 1 has a final owner `p ≠ c` that owns the parent node, and **all vertices of
`c`'s ring are strictly inside `p`'s ring** by the exact even-odd rule. -/
theorem tree_parent_geometric {clean : Nat → CleanRes} {openPath : Nat → Option Path} {fuel : Nat} {T : Table} {S : St}
    (ring : Nat → List Pt) (hN : NestingPosition ring) (hF : Fresh T) (hA : Acyclic T)
    (h : buildTree clean (insideOf ring) openPath fuel T = some S) :
    ∀ (c : Nat) (r : OutRec) (a : List Nat), S.recs[c]? = some r → r.polypath = some a → level a ≠ 1 →
      ∃ (p : Nat) (rp : OutRec) (pa : List Nat), r.owner = some p ∧ p ≠ c ∧ S.recs[p]? = some rp ∧
        rp.polypath = some pa ∧ parentAddr a = some pa ∧ rp.bounds.contains r.bounds = true ∧
        AllStrictlyInside (ring c) (ring p) := by
  intro c r a hc ha hl
  obtain ⟨_, _, _, _, _, _, _, hown⟩ := C04.tree_parent_sound hF hA h c r a hc ha
  obtain ⟨p, rp, pa, ho, hp, hppa, hpar, hcont, hins, _⟩ := hown hl
  have hne : p ≠ c := fun e =>
    (C04.buildTree_acyclic hF hA h).not_reachP_self c ⟨r, p, hc, ho, e ▸ Reach.refl _⟩
  obtain ⟨h2, hpos⟩ := hN c p (Ne.symm hne)
  exact ⟨p, rp, pa, ho, hne, hp, hppa, hpar, hcont,
    (inside_respects_nesting (ring c) (ring p) h2 hpos).mp hins⟩

/-- `c = p`, or a chain `c = a₀, a₁, …, a_k = p` with all vertices of each ring strictly inside the next -/
def NestChain (ring : Nat → List Pt) (c p : Nat) : Prop :=
  c = p ∨ Relation.TransGen (fun a b => AllStrictlyInside (ring a) (ring b)) c p

theorem NestChain.trans {ring : Nat → List Pt} {a b c : Nat} (h1 : NestChain ring a b) (h2 : NestChain ring b c) :
    NestChain ring a c := by
  rcases h1 with rfl | h1
  · exact h2
  · rcases h2 with rfl | h2
    · exact Or.inr h1
    · exact Or.inr (h1.trans h2)

/-- the concrete test respects `NestChain` when the rings are pairwise in nesting position — the hypothesis `G1` of
`C04.tree_depth_parity` -/
theorem insideOf_respects (ring : Nat → List Pt) (hN : NestingPosition ring) :
    ∀ c p, insideOf ring c p = true → NestChain ring c p := by
  intro c p h
  by_cases e : c = p
  · exact Or.inl e
  · obtain ⟨h2, hpos⟩ := hN c p e
    exact Or.inr (Relation.TransGen.single ((inside_respects_nesting (ring c) (ring p) h2 hpos).mp h))

/-- **`C04.tree_depth_parity` with the concrete test.**  With rings pairwise in nesting position: `IsHole()` ⇔ even level,
hole / outer alternation between child and parent, and every placed outrec `c` is linked to each of its `level − 1` ancestors
by a chain of rings each of which has all its vertices strictly inside the next (exact even-odd rule). -/
theorem tree_depth_parity_geometric {clean : Nat → CleanRes} {openPath : Nat → Option Path} {fuel : Nat} {T : Table}
    {S : St} (ring : Nat → List Pt) (hN : NestingPosition ring) (hF : Fresh T) (hA : Acyclic T)
    (h : buildTree clean (insideOf ring) openPath fuel T = some S) :
    ∀ (c : Nat) (r : OutRec) (a : List Nat), S.recs[c]? = some r → r.polypath = some a →
      1 ≤ level a ∧ isHole a = decide (level a % 2 = 0) ∧ (level a = 1 → isHole a = false) ∧
      (∀ (p : Nat) (rp : OutRec) (pa : List Nat), r.owner = some p → S.recs[p]? = some rp → rp.polypath = some pa →
        level a = level pa + 1 ∧ isHole a = !isHole pa) ∧
      (∀ k, 1 ≤ k → k < level a → ∃ (anc : Nat) (ra : OutRec), ownerSteps S.recs k c = some anc ∧
        S.recs[anc]? = some ra ∧ ra.polypath = some (a.take (level a - k)) ∧ NestChain ring c anc) :=
  C04.tree_depth_parity hF hA h (insideOf_respects ring hN) (fun _ _ _ h1 h2 => h1.trans h2)

/-- non-vacuity: three nested squares (0 ⊃ 1 ⊃ 2) are pairwise in nesting position, and the tree of `C04.exT` is built
with the concrete test -/
def exRing (i : Nat) : List Pt :=
  match i with
  | 0 => C04.square 0 100 | 1 => C04.square 10 90 | 2 => C04.square 20 80 | _ => C04.square (1000 * (i : Int)) (1000 * (i : Int) + 1)

theorem mem_square {lo hi : Int} {q : Pt} (h : q ∈ C04.square lo hi) : q.y = lo ∨ q.y = hi := by
  simp only [C04.square, List.mem_cons, List.not_mem_nil, or_false] at h
  rcases h with rfl | rfl | rfl | rfl <;> simp

/-- the heights a ring of the example occupies: the three nested squares lie in `[0, 100]`, the others far above them and
above each other -/
theorem exRing_band {i : Nat} {q : Pt} (hq : q ∈ exRing i) :
    (i < 3 ∧ 0 ≤ q.y ∧ q.y ≤ 100) ∨ (3 ≤ i ∧ 1000 * (i : Int) ≤ q.y ∧ q.y ≤ 1000 * (i : Int) + 1) := by
  match i, hq with
  | 0, hq | 1, hq | 2, hq => have := mem_square hq; omega
  | n + 3, hq => have := mem_square (lo := 1000 * ((n + 3 : Nat) : Int)) hq; omega

/-- the rings of the example are pairwise in nesting position (the hypothesis of the two corollaries is satisfiable) -/
theorem exRing_nestingPosition : NestingPosition exRing := by
  intro c p hne
  refine ⟨by unfold exRing; split <;> exact Nat.le_add_left 2 2, ?_⟩
  by_cases hs : c < 3 ∧ p < 3
  · -- the three nested squares: decided vertex by vertex
    have key : ∀ i < 3, ∀ j < i, (∀ q ∈ exRing i, pipEvenOdd (exRing j) q = 1) ∧
        (∀ q ∈ exRing j, pipEvenOdd (exRing i) q = 2) := by decide
    rcases Nat.lt_or_gt_of_ne hne with h | h
    · exact Or.inr (key p hs.2 c h).2
    · exact Or.inl (key c hs.1 p h).1
  · -- otherwise the two rings occupy disjoint heights
    refine Or.inr fun q hq => pipEvenOdd_of_off ?_
    have hq := exRing_band hq
    rcases Nat.lt_or_gt_of_ne hne with h | h
    · exact Or.inr fun v hv => by have := exRing_band hv; omega
    · exact Or.inl fun v hv => by have := exRing_band hv; omega

example : NestingPosition exRing ∧ Fresh C04.exT ∧ Acyclic C04.exT := ⟨exRing_nestingPosition, C04.exT_fresh, C04.exT_acyclic⟩

example : (buildTree C04.exClean (insideOf exRing) C04.exOpen 10 C04.exT).map
    (fun S => S.recs.toList.map (·.polypath)) = some [some [0], some [0, 0], some [0, 0, 0], none] := by decide

end Clipper.Props.C04Inside

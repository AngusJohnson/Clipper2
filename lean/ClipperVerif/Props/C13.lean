/-
C13 — Results are independent of representation and obey set algebra: the *algebra* of the region
predicate `Spec.inR`, and the symmetries of the AEL bookkeeping model (`Model/Ael.lean`).

Proved here: `inR` is symmetric in subject/clip for Intersection, Union, Xor; negating all winding numbers fixes
EvenOdd/NonZero and exchanges Positive/Negative; Xor = Union minus Intersection; Difference and Intersection
partition the subject region; and on the bookkeeping model, exchanging the path types (ct ≠ Difference) resp. negating
every direction while exchanging Positive/Negative commutes with every operation on closed edges, hot flags included.

NOT proved here: invariance of `Spec.wind` under geometric transformations and path re-representation, `AddPaths_`
invariances (other files of C13); equality of the real outputs (spec-level correspondence).
-/
import ClipperVerif.Lemmas.AelSim
namespace Clipper.Props.C13
open Clipper Clipper.Model

/-- **inR_symm.** Intersection, Union and Xor (and NoClip) do not care which path set is called subject. -/
theorem inR_symm (ct : ClipType) (hct : ct ≠ .difference) (fr : FillRule) (a b : Int) :
    inR ct fr a b = inR ct fr b a := by
  cases ct <;> (try exact absurd rfl hct) <;> simp only [inR] <;>
    cases inFill fr a <;> cases inFill fr b <;> rfl

/-- Difference is genuinely asymmetric (witness) -/
example : inR .difference .nonZero 1 0 ≠ inR .difference .nonZero 0 1 := by decide

/-- reversing every path negates every winding number; `Model.flipFr` exchanges Positive and Negative -/
theorem inFill_neg (fr : FillRule) (w : Int) : inFill (Model.flipFr fr) (-w) = inFill fr w :=
  Model.inFill_neg fr w

/-- **inR_neg.** Negating both winding numbers (reversing all paths) leaves EvenOdd and NonZero regions unchanged and turns
a Positive region into the Negative one and vice versa. -/
theorem inR_neg (ct : ClipType) (fr : FillRule) (a b : Int) :
    inR ct (Model.flipFr fr) (-a) (-b) = inR ct fr a b := by
  cases ct <;> simp only [inR, Model.inFill_neg]

example : Model.flipFr .positive = .negative ∧ Model.flipFr .negative = .positive ∧
    Model.flipFr .evenOdd = .evenOdd ∧ Model.flipFr .nonZero = .nonZero := ⟨rfl, rfl, rfl, rfl⟩

theorem xor_eq_union_minus_inter (fr : FillRule) (a b : Int) :
    inR .xor fr a b = (inR .union fr a b && !inR .intersection fr a b) := by
  simp only [inR]; cases inFill fr a <;> cases inFill fr b <;> rfl

/-- **diff_inter_partition.** Difference and Intersection are disjoint and together are the subject region. -/
theorem diff_inter_partition (fr : FillRule) (a b : Int) :
    (inR .difference fr a b || inR .intersection fr a b) = inFill fr a ∧
    (inR .difference fr a b && inR .intersection fr a b) = false := by
  simp only [inR]; cases inFill fr a <;> cases inFill fr b <;> exact ⟨rfl, rfl⟩

/-- further identities of the same kind: Union = Difference ∪ clip region; Xor = (S−C) ∪ (C−S) -/
theorem union_eq_diff_or_clip (fr : FillRule) (a b : Int) :
    inR .union fr a b = (inR .difference fr a b || inFill fr b) := by
  simp only [inR]; cases inFill fr a <;> cases inFill fr b <;> rfl
theorem xor_eq_diff_or_diff (fr : FillRule) (a b : Int) :
    inR .xor fr a b = (inR .difference fr a b || inR .difference fr b a) := by
  simp only [inR]; cases inFill fr a <;> cases inFill fr b <;> rfl

/- `swapE` exchanges an edge's path type; `negE fr` reverses it (`dx`, `wc` negated; `wc2` negated unless it is an
EvenOdd parity); `swapOp`/`negOp` do the same to the edges an operation inserts; `negCfg` exchanges Positive/Negative.
Both statements are for sweeps with closed paths only (`AllClosed`, `OpClosed`): open paths are subject-only, so the
exchange of types is meaningless for them. -/

/-- **swapTypes_sim (one step).** For every clip type but Difference, exchanging subject and clip commutes with every
operation: same success/failure, same positions, same counts, same hot flags. -/
theorem swapTypes_sim (cfg : Cfg) (hct : cfg.ct ≠ .difference) (l : Ael) (hl : AllClosed l) (op : Op)
    (hop : OpClosed op) :
    step cfg (l.map swapE) (swapOp op) = (step cfg l op).map (fun l' => l'.map swapE) :=
  (swapSym cfg hct).step l hl op hop

theorem swapTypes_sim_run (cfg : Cfg) (hct : cfg.ct ≠ .difference) (ops : List Op)
    (hops : ∀ op ∈ ops, OpClosed op) :
    run cfg [] (ops.map swapOp) = (run cfg [] ops).map (fun l' => l'.map swapE) :=
  (swapSym cfg hct).run ops [] (fun _ h => by cases h) hops

/-- **negate_sim (one step).** Reversing every path (negating every `wind_dx`) while exchanging Positive and Negative
commutes with every operation; the stored counts are negated (EvenOdd parities unchanged), hot flags are equal. -/
theorem negate_sim (cfg : Cfg) (l : Ael) (hl : AllClosed l) (op : Op) (hop : OpClosed op) :
    step (negCfg cfg) (l.map (negE cfg.fr)) (negOp op) =
      (step cfg l op).map (fun l' => l'.map (negE cfg.fr)) :=
  (negSym cfg).step l hl op hop

theorem negate_sim_run (cfg : Cfg) (ops : List Op) (hops : ∀ op ∈ ops, OpClosed op) :
    run (negCfg cfg) [] (ops.map negOp) = (run cfg [] ops).map (fun l' => l'.map (negE cfg.fr)) :=
  (negSym cfg).run ops [] (fun _ h => by cases h) hops

/-- hot flags are literally the same after reversal -/
theorem negate_hot (fr : FillRule) (l : Ael) : (l.map (negE fr)).map (·.hot) = l.map (·.hot) := by
  simp [negE, List.map_map, Function.comp_def]
theorem swap_hot (l : Ael) : (l.map swapE).map (·.hot) = l.map (·.hot) := by
  simp [swapE, List.map_map, Function.comp_def]

def sqOps : List Op := [ .insertPair 0 .subject false (-1), .insertPair 1 .clip false (-1), .intersect 2, .removePair 0 ]
example : ∀ op ∈ sqOps, OpClosed op := by simp [sqOps, OpClosed]
example : run ⟨.union, .positive⟩ [] (sqOps.take 3) ≠ none := by decide
/-- with Difference the exchange does change the hot flags (so the hypothesis `ct ≠ .difference` is needed) -/
example : (run ⟨.difference, .nonZero⟩ [] ((sqOps.take 3).map swapOp)).map (fun l => l.map (·.hot)) ≠
    (run ⟨.difference, .nonZero⟩ [] (sqOps.take 3)).map (fun l => l.map (·.hot)) := by decide
/-- without exchanging Positive/Negative a reversal does change the result -/
example : (run ⟨.union, .positive⟩ [] ((sqOps.take 3).map negOp)).map (fun l => l.map (·.hot)) ≠
    (run ⟨.union, .positive⟩ [] (sqOps.take 3)).map (fun l => l.map (·.hot)) := by decide

end Clipper.Props.C13

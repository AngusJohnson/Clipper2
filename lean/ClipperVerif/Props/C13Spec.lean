/-
C13 (Spec level) — the winding number of the Spec is independent of representation and transforms as it
should under the maps used by the C13 metamorphic checks.  These are theorems about `Clipper.wind`
(Spec/Basic.lean), not about the engine: they justify comparing the engine's outputs on two representations
of the same geometry against ONE region predicate.

The half-open rule (an edge owns its lower end point) is not symmetric under `y ↦ −y`, and the ray towards +x
is not symmetric under `x ↦ −x`; the two mirror theorems therefore carry hypotheses (`p.y` is no vertex ordinate,
resp. `p` is on no edge that spans its ordinate), with counterexamples showing that they cannot be dropped.
-/
import ClipperVerif.Lemmas.WindSpec
namespace Clipper.Props.C13Spec
open Clipper Clipper.WindSpec

def translate (d : Pt) (ps : Paths) : Paths := mapPaths (fun a => a.add d) ps
def scale (k : Int) (ps : Paths) : Paths := mapPaths (Pt.scale k) ps
def mirX (a : Pt) : Pt := ⟨-a.x, a.y⟩
def mirY (a : Pt) : Pt := ⟨a.x, -a.y⟩

theorem cross_rel (a b p : Pt) : cross a b p = (a.x - p.x) * (b.y - p.y) - (b.x - p.x) * (a.y - p.y) := by
  simp only [cross]; grind

theorem cross_translate (d a b p : Pt) : cross (a.add d) (b.add d) (p.add d) = cross a b p := by
  simp only [cross, Pt.add, Int.add_sub_add_right]

theorem crossing_translate (d a b p : Pt) : crossing (p.add d) (a.add d) (b.add d) = crossing p a b := by
  unfold crossing
  rw [cross_translate]
  simp only [Pt.add, Int.add_le_add_iff_right, Int.add_lt_add_iff_right]

/-- **Translation.** Translating the paths and the point by the same vector keeps the winding number. -/
theorem wind_translate (d : Pt) (ps : Paths) (p : Pt) : wind (translate d ps) (p.add d) = wind ps p :=
  wind_map_eq _ ps _ _ fun path _ => windPath_map_eq _ path _ _ fun e _ => crossing_translate d e.1 e.2 p

theorem cross_scale (k : Int) (a b p : Pt) :
    cross (Pt.scale k a) (Pt.scale k b) (Pt.scale k p) = (k * k) * cross a b p := by
  simp only [cross, Pt.scale]; grind

theorem crossing_scale {k : Int} (hk : 0 < k) (a b p : Pt) :
    crossing (Pt.scale k p) (Pt.scale k a) (Pt.scale k b) = crossing p a b := by
  unfold crossing
  rw [cross_scale]
  have hkk := sign_mul (e := cross a b p) (Int.mul_pos hk hk)
  simp only [Pt.scale, Int.mul_le_mul_left hk, Int.mul_lt_mul_left hk, hkk.1, hkk.2]

/-- **Scaling** by a positive integer keeps the winding number. -/
theorem wind_scale {k : Int} (hk : 0 < k) (ps : Paths) (p : Pt) :
    wind (scale k ps) (Pt.scale k p) = wind ps p :=
  wind_map_eq _ ps _ _ fun path _ => windPath_map_eq _ path _ _ fun e _ => crossing_scale hk e.1 e.2 p

example : wind (scale 3 [[⟨0,0⟩, ⟨2,0⟩, ⟨0,2⟩]]) (Pt.scale 3 ⟨0, 1⟩) = 1 := by decide +kernel

theorem crossing_swap (p a b : Pt) : crossing p b a = -crossing p a b := by
  unfold crossing
  rw [cross_swap]
  simp only [gt_iff_lt, Int.neg_pos, Int.neg_neg_iff_pos, apply_ite (- ·), Int.neg_zero, Int.neg_neg]
  -- both sides test the same two spans, in the other order; the spans exclude each other
  by_cases h1 : a.y ≤ p.y ∧ p.y < b.y
  · have n : ¬ (b.y ≤ p.y ∧ p.y < a.y) := by omega
    simp only [h1, n, if_false]
  · simp only [h1, if_false]

theorem cross_mirY (a b p : Pt) : cross (mirY a) (mirY b) (mirY p) = -cross a b p := by
  simp only [cross, mirY]; grind

/-- off the vertex ordinates the mirror image of an edge counts as the reversed edge -/
theorem crossing_mirY {a b p : Pt} (ha : p.y ≠ a.y) (hb : p.y ≠ b.y) :
    crossing (mirY p) (mirY a) (mirY b) = -crossing p a b := by
  rw [← crossing_swap]
  unfold crossing
  rw [cross_mirY, ← cross_swap]
  have e1 : (-a.y ≤ -p.y ∧ -p.y < -b.y) ↔ (b.y ≤ p.y ∧ p.y < a.y) := by omega
  have e2 : (-b.y ≤ -p.y ∧ -p.y < -a.y) ↔ (a.y ≤ p.y ∧ p.y < b.y) := by omega
  simp only [mirY, e1, e2]

/-- **Mirror `y ↦ −y`** (orientation reversing): the winding number is negated, provided the point's ordinate
is not the ordinate of a vertex (the half-open rule owns lower end points, which the mirror turns into upper
ones). -/
theorem wind_mirrorY (ps : Paths) (p : Pt) (h : ∀ path ∈ ps, ∀ v ∈ path, p.y ≠ v.y) :
    wind (mapPaths mirY ps) (mirY p) = -wind ps p :=
  wind_map_neg _ ps _ _ fun path hp => windPath_map_neg mirY path _ _ fun e he =>
    crossing_mirY (h path hp e.1 (mem_edgesOf he).1) (h path hp e.2 (mem_edgesOf he).2)

example : (∀ path ∈ ([[⟨0,0⟩, ⟨4,0⟩, ⟨0,2⟩, ⟨-4, 0⟩]] : Paths), ∀ v ∈ path, (⟨-1, 1⟩ : Pt).y ≠ v.y) ∧
    wind (mapPaths mirY [[⟨0,0⟩, ⟨4,0⟩, ⟨0,2⟩, ⟨-4, 0⟩]]) (mirY ⟨-1, 1⟩) = -1 := by decide +kernel

/-- the hypothesis of `wind_mirrorY` cannot be dropped: a point level with the apex of a triangle -/
example : wind (mapPaths mirY [[⟨0,0⟩, ⟨4,0⟩, ⟨0,2⟩, ⟨-4, 0⟩]]) (mirY ⟨-1, 0⟩) ≠ -wind [[⟨0,0⟩, ⟨4,0⟩, ⟨0,2⟩, ⟨-4,0⟩]] ⟨-1, 0⟩ := by
  decide +kernel

/-- `p` lies on no edge that spans its ordinate (half-open): then every spanning edge passes strictly left or strictly
right of `p`, so the ray towards −x counts what the ray towards +x does not.  Implied by "p is on no edge"
(`offSpan_of_not_onBoundary`). -/
def OffSpan (ps : Paths) (p : Pt) : Prop :=
  ∀ path ∈ ps, ∀ e ∈ edgesOf path,
    ((e.1.y ≤ p.y ∧ p.y < e.2.y) ∨ (e.2.y ≤ p.y ∧ p.y < e.1.y)) → cross e.1 e.2 p ≠ 0

instance (ps : Paths) (p : Pt) : Decidable (OffSpan ps p) := by unfold OffSpan; infer_instance

theorem cross_mirX (a b p : Pt) : cross (mirX a) (mirX b) (mirX p) = -cross a b p := by
  simp only [cross, mirX]; grind

/-- the mirrored ray counts the spanning edges on the other side: together with the original count they
make up the net number of level crossings, which telescopes -/
theorem crossing_mirX {a b p : Pt}
    (h : ((a.y ≤ p.y ∧ p.y < b.y) ∨ (b.y ≤ p.y ∧ p.y < a.y)) → cross a b p ≠ 0) :
    crossing (mirX p) (mirX a) (mirX b) = -crossing p a b + (above p b - above p a) := by
  unfold crossing above
  rw [cross_mirX]
  simp only [mirX, ← Int.not_lt (a := p.y)] at h ⊢
  by_cases ha : p.y < a.y <;> by_cases hb : p.y < b.y <;>
    simp only [ha, hb, not_true_eq_false, not_false_eq_true, and_self, and_true, and_false, or_self, or_true, or_false,
      if_true, if_false, true_imp_iff] at h ⊢ <;> omega

theorem windPath_mirrorX (path : Path) (p : Pt)
    (h : ∀ e ∈ edgesOf path, ((e.1.y ≤ p.y ∧ p.y < e.2.y) ∨ (e.2.y ≤ p.y ∧ p.y < e.1.y)) → cross e.1 e.2 p ≠ 0) :
    windPath (path.map mirX) (mirX p) = -windPath path p := by
  rw [windPath_map_eq mirX path _ (fun e => -crossing p e.1 e.2 + (above p e.2 - above p e.1))
    (fun e he => crossing_mirX (h e he)), sum_map_add, sum_map_neg, edges_telescope (above p), Int.add_zero]
  rfl

/-- **Mirror `x ↦ −x`** (orientation reversing): the winding number is negated wherever the point lies on no
edge spanning its ordinate.  (The mirrored ray points the other way; that both rays count the same number is
the closedness of the paths.) -/
theorem wind_mirrorX (ps : Paths) (p : Pt) (h : OffSpan ps p) :
    wind (mapPaths mirX ps) (mirX p) = -wind ps p :=
  wind_map_neg _ ps _ _ fun path hp => windPath_mirrorX path p (h path hp)

example : OffSpan [[⟨0,0⟩, ⟨4,0⟩, ⟨4,4⟩, ⟨0,4⟩]] ⟨1, 2⟩ ∧
    wind (mapPaths mirX [[⟨0,0⟩, ⟨4,0⟩, ⟨4,4⟩, ⟨0,4⟩]]) (mirX ⟨1, 2⟩) = -1 := by decide +kernel

/-- the hypothesis of `wind_mirrorX` cannot be dropped: a point on the left edge of a square -/
example : wind (mapPaths mirX [[⟨0,0⟩, ⟨4,0⟩, ⟨4,4⟩, ⟨0,4⟩]]) (mirX ⟨0, 2⟩) ≠ -wind [[⟨0,0⟩, ⟨4,0⟩, ⟨4,4⟩, ⟨0,4⟩]] ⟨0, 2⟩ := by
  decide +kernel

/-- **Path order.** -/
theorem wind_perm {ps qs : Paths} (h : ps.Perm qs) (p : Pt) : wind ps p = wind qs p :=
  sum_perm (h.map _)

/-- **Start vertex.** Rotating the vertex list of a closed path keeps its winding number. -/
theorem windPath_rotate (l₁ l₂ : List Pt) (p : Pt) : windPath (l₂ ++ l₁) p = windPath (l₁ ++ l₂) p :=
  sum_perm ((edgesOf_rotate_perm l₁ l₂).map _)

theorem wind_replace (ps₁ ps₂ : Paths) {q q' : Path} {p : Pt} (h : windPath q p = windPath q' p) :
    wind (ps₁ ++ q :: ps₂) p = wind (ps₁ ++ q' :: ps₂) p := by
  simp only [wind, List.map_append, List.map_cons, h]

theorem wind_rotate (ps₁ ps₂ : Paths) (l₁ l₂ : List Pt) (p : Pt) :
    wind (ps₁ ++ (l₂ ++ l₁) :: ps₂) p = wind (ps₁ ++ (l₁ ++ l₂) :: ps₂) p :=
  wind_replace ps₁ ps₂ (windPath_rotate l₁ l₂ p)

theorem crossing_self (p a : Pt) : crossing p a a = 0 := crossing_same_side Iff.rfl

theorem windPath_singleton (a p : Pt) : windPath [a] p = 0 := by
  show crossing p a a + 0 = 0
  rw [crossing_self, Int.add_zero]

theorem windPath_dup_head (a : Pt) (l : List Pt) (p : Pt) : windPath (a :: a :: l) p = windPath (a :: l) p := by
  unfold windPath
  rw [edgesOf_cons, edgesOf_cons]
  simp only [chain, List.map_cons, List.sum_cons, crossing_self, Int.zero_add]

/-- **Duplicate vertex.** Repeating a vertex anywhere in a closed path keeps its winding number. -/
theorem windPath_dup (l₁ l₂ : List Pt) (a : Pt) (p : Pt) :
    windPath (l₁ ++ a :: a :: l₂) p = windPath (l₁ ++ a :: l₂) p := by
  rw [windPath_rotate (a :: a :: l₂) l₁, windPath_rotate (a :: l₂) l₁]
  exact windPath_dup_head a (l₂ ++ l₁) p

/-- **Explicit closing vertex.** Appending a copy of the first vertex keeps the winding number. -/
theorem windPath_closing (a : Pt) (rest : List Pt) (p : Pt) :
    windPath (a :: rest ++ [a]) p = windPath (a :: rest) p := by
  rw [windPath_rotate [a] (a :: rest) p]
  exact windPath_dup_head a rest p

theorem windPath_dropLast {vs : List Pt} (h : vs.getLast? = vs.head?) (p : Pt) : windPath vs.dropLast p = windPath vs p := by
  match vs, h with
  | [], _ => rfl
  | [a], _ => exact (windPath_singleton a p).symm
  | a :: b :: r, h =>
    obtain ⟨ys, hy⟩ := List.getLast?_eq_some_iff.mp (List.getLast?_cons_cons.symm.trans h)
    rw [hy, ← List.cons_append, List.dropLast_concat]
    exact (windPath_closing a ys p).symm

theorem wind_dup (ps₁ ps₂ : Paths) (l₁ l₂ : List Pt) (a : Pt) (p : Pt) :
    wind (ps₁ ++ (l₁ ++ a :: a :: l₂) :: ps₂) p = wind (ps₁ ++ (l₁ ++ a :: l₂) :: ps₂) p :=
  wind_replace ps₁ ps₂ (windPath_dup l₁ l₂ a p)

theorem wind_closing (ps₁ ps₂ : Paths) (a : Pt) (rest : List Pt) (p : Pt) :
    wind (ps₁ ++ (a :: rest ++ [a]) :: ps₂) p = wind (ps₁ ++ (a :: rest) :: ps₂) p :=
  wind_replace ps₁ ps₂ (windPath_closing a rest p)

example : windPath ([⟨0,0⟩, ⟨2,0⟩] ++ ⟨2,2⟩ :: ⟨2,2⟩ :: [⟨0,2⟩]) ⟨1,1⟩ = 1 := by decide +kernel

/-- negating the winding number keeps EvenOdd and NonZero fillings and exchanges Positive with Negative -/
theorem inFill_neg (w : Int) :
    inFill .evenOdd (-w) = inFill .evenOdd w ∧ inFill .nonZero (-w) = inFill .nonZero w ∧
    inFill .positive (-w) = inFill .negative w ∧ inFill .negative (-w) = inFill .positive w := by
  simp only [inFill]
  refine ⟨?_, ?_, ?_, ?_⟩ <;> (rw [Bool.eq_iff_iff]; simp <;> omega)

/-- **Reversal.** Reversing the vertex order of a closed path negates its winding number (so reversing all
paths keeps EvenOdd / NonZero fillings and exchanges Positive with Negative, see `inFill_neg`). -/
theorem windPath_reverse (path : Path) (p : Pt) : windPath path.reverse p = -windPath path p := by
  cases path with
  | nil => rfl
  | cons a rest =>
    rw [List.reverse_cons, windPath_rotate [a] rest.reverse p]
    unfold windPath
    rw [List.singleton_append, edgesOf_cons, edgesOf_cons, ← chain_reverse, List.map_map,
      sum_perm ((List.reverse_perm (chain a rest a)).map _), ← sum_map_neg]
    exact congrArg List.sum (List.map_congr_left fun e _ => crossing_swap p e.1 e.2)

theorem wind_reverse (ps : Paths) (p : Pt) : wind (ps.map List.reverse) p = -wind ps p :=
  wind_map_neg _ ps _ _ fun path _ => windPath_reverse path p

example : windPath ([⟨0,0⟩, ⟨2,0⟩, ⟨0,2⟩] : Path).reverse ⟨0, 1⟩ = -1 := by decide +kernel

theorem span_between {a b p : Pt} (hs : a.y ≤ p.y ∧ p.y < b.y) (hc : cross a b p = 0) :
    min a.x b.x ≤ p.x ∧ p.x ≤ max a.x b.x := by
  have h1 := cross_pos_of_left (p := p) hs.1 (Int.le_of_lt hs.2) (Int.lt_of_le_of_lt hs.1 hs.2)
  have h2 := cross_neg_of_right (p := p) hs.1 (Int.le_of_lt hs.2) (Int.lt_of_le_of_lt hs.1 hs.2)
  omega

theorem offSpan_of_not_onBoundary {ps : Paths} {p : Pt} (h : ∀ path ∈ ps, onBoundary path p = false) :
    OffSpan ps p := by
  intro path hp e he hspan hc
  apply List.any_eq_false.mp (h path hp) e he
  have hx : min e.1.x e.2.x ≤ p.x ∧ p.x ≤ max e.1.x e.2.x := by
    rcases hspan with hs | hs
    · exact span_between hs hc
    · rw [Int.min_comm, Int.max_comm]
      exact span_between hs (by rw [cross_swap, hc]; rfl)
  simp only [onSeg, hc, Bool.and_eq_true, decide_eq_true_eq, beq_self_eq_true, true_and]
  omega

/-- `wind_mirrorX` for points on no edge. -/
theorem wind_mirrorX_offBoundary (ps : Paths) (p : Pt) (h : ∀ path ∈ ps, onBoundary path p = false) :
    wind (mapPaths mirX ps) (mirX p) = -wind ps p :=
  wind_mirrorX ps p (offSpan_of_not_onBoundary h)

/-! ### transposition `x ↔ y`: the winding number does not depend on the direction of the ray

`transpose` turns the ray towards +x (half-open in y) into the ray towards +y (half-open in x) and reverses
orientation.  That both rays count the same winding number is not an edge-by-edge fact: the two counts of one edge
differ by the increment of a *potential* — the indicator of the open quadrant between the two rays — so the difference
telescopes to zero around a closed path (`edges_telescope`). -/

def transposePt (a : Pt) : Pt := ⟨a.y, a.x⟩
def transpose (ps : Paths) : Paths := mapPaths transposePt ps

/-- Contribution of the directed edge `a → b` to the winding number around `p` counted on the ray towards **+y**
(half-open rule in x: an edge owns its left end point, not its right one); counter-clockwise positive as `crossing`. -/
def crossingV (p a b : Pt) : Int :=
  if b.x ≤ p.x ∧ p.x < a.x then (if cross a b p > 0 then 1 else 0)
  else if a.x ≤ p.x ∧ p.x < b.x then (if cross a b p < 0 then -1 else 0)
  else 0

/-- winding number of a closed path counted on the vertical ray -/
def windPathV (path : Path) (p : Pt) : Int := ((edgesOf path).map (fun e => crossingV p e.1 e.2)).sum
def windV (ps : Paths) (p : Pt) : Int := (ps.map (fun path => windPathV path p)).sum

/-- 1 in the open quadrant right of and above `p` (the sector swept counter-clockwise from the ray towards +x to the
ray towards +y; points on either ray are outside, matching the two half-open rules) -/
def quadI (p v : Pt) : Int := if p.x < v.x ∧ p.y < v.y then 1 else 0

theorem cross_transpose (a b p : Pt) : cross (transposePt a) (transposePt b) (transposePt p) = -cross a b p := by
  simp only [cross, transposePt]; grind

/-- transposing the picture is counting on the vertical ray, with the orientation reversed: `crossingV` is `crossing` of the
transposed, reversed edge by definition -/
theorem crossing_transpose (p a b : Pt) : crossing (transposePt p) (transposePt a) (transposePt b) = -crossingV p a b := by
  have : crossingV p a b = crossing (transposePt p) (transposePt b) (transposePt a) := by
    unfold crossing crossingV
    rw [cross_swap (transposePt a) (transposePt b), cross_transpose, Int.neg_neg]
    rfl
  rw [this, crossing_swap]

/-- **The local lemma.**  For a segment that does not contain `p`, the count on the horizontal ray and the count on the
vertical ray differ by the increment of the quadrant indicator.

Sort `a` and `b` into the four quadrants around `p` (right of `p` and above `p` meant strictly, as in the two half-open rules).
In each of the 16 cases both sides are numerals once the sign of `cross a b p = (a−p).x·(b−p).y − (b−p).x·(a−p).y` is known.
The quadrants fix the signs of the two products (`mul_sign_quadrants`), which settles all cases but four: between the second and the fourth
quadrant the two counts are the same test of `cross a b p` and cancel; between the first and the third all the formula needs is
`cross a b p ≠ 0`, and there `p` lies in the bounding box, so this is `onSeg p a b = false`. -/
theorem crossing_sub_crossingV {a b p : Pt} (h : onSeg p a b = false) :
    crossing p a b - crossingV p a b = quadI p b - quadI p a := by
  have hoff : cross a b p = 0 → ¬ (p.x < a.x ∧ p.y < a.y ∧ ¬ p.x < b.x ∧ ¬ p.y < b.y) ∧
      ¬ (p.x < b.x ∧ p.y < b.y ∧ ¬ p.x < a.x ∧ ¬ p.y < a.y) := by
    intro h0
    simp only [onSeg, h0, beq_self_eq_true, Bool.true_and, Bool.and_eq_false_iff, decide_eq_false_iff_not] at h
    omega
  have s1 := mul_sign_quadrants (a.x - p.x) (b.y - p.y)
  have s2 := mul_sign_quadrants (b.x - p.x) (a.y - p.y)
  simp only [Int.sub_pos] at s1 s2
  unfold crossing crossingV quadI
  rw [cross_rel] at hoff ⊢
  generalize (a.x - p.x) * (b.y - p.y) = m1 at *
  generalize (b.x - p.x) * (a.y - p.y) = m2 at *
  simp only [← Int.not_lt (a := p.x), ← Int.not_lt (a := p.y)]
  by_cases hax : p.x < a.x <;> by_cases hay : p.y < a.y <;> by_cases hbx : p.x < b.x <;> by_cases hby : p.y < b.y <;>
    simp only [hax, hay, hbx, hby, not_true_eq_false, not_false_eq_true, and_true, true_and, and_false, and_self,
      if_true, if_false, true_imp_iff, false_imp_iff, imp_false] at s1 s2 hoff ⊢ <;> omega

theorem windPathV_eq_windPath (path : Path) (p : Pt) (h : onBoundary path p = false) :
    windPathV path p = windPath path p := by
  have hedge : ∀ e ∈ edgesOf path, crossingV p e.1 e.2 = crossing p e.1 e.2 - (quadI p e.2 - quadI p e.1) := by
    intro e he
    have := crossing_sub_crossingV (Bool.eq_false_iff.mpr (List.any_eq_false.mp h e he))
    omega
  unfold windPathV windPath
  rw [List.map_congr_left hedge, sum_map_sub, edges_telescope (quadI p), Int.sub_zero]

/-- **Ray-direction independence.**  For closed paths and a point on no edge, `windV` (ray towards +y, half-open in x)
equals `wind` (ray towards +x, half-open in y). -/
theorem windV_eq_wind (ps : Paths) (p : Pt) (h : ∀ path ∈ ps, onBoundary path p = false) : windV ps p = wind ps p :=
  congrArg List.sum (List.map_congr_left fun path hp => windPathV_eq_windPath path p (h path hp))

theorem wind_transpose_eq_windV (ps : Paths) (p : Pt) : wind (transpose ps) (transposePt p) = -windV ps p :=
  wind_map_neg _ ps _ _ fun path _ => windPath_map_neg transposePt path _ _ fun e _ => crossing_transpose p e.1 e.2

/-- **Transposition `x ↔ y`** (orientation reversing): for every set of closed paths and every point that lies on no
edge, the winding number of the transposed paths around the transposed point is the negative of the original one. -/
theorem wind_transpose (ps : Paths) (p : Pt) (h : ∀ path ∈ ps, onBoundary path p = false) :
    wind (transpose ps) (transposePt p) = -wind ps p := by
  rw [wind_transpose_eq_windV, windV_eq_wind ps p h]

/-- hence transposition keeps EvenOdd / NonZero fillings and exchanges Positive with Negative -/
theorem inFill_transpose (ps : Paths) (p : Pt) (h : ∀ path ∈ ps, onBoundary path p = false) :
    inFill .evenOdd (wind (transpose ps) (transposePt p)) = inFill .evenOdd (wind ps p) ∧
    inFill .nonZero (wind (transpose ps) (transposePt p)) = inFill .nonZero (wind ps p) ∧
    inFill .positive (wind (transpose ps) (transposePt p)) = inFill .negative (wind ps p) ∧
    inFill .negative (wind (transpose ps) (transposePt p)) = inFill .positive (wind ps p) := by
  rw [wind_transpose ps p h]; exact inFill_neg _

/-- non-vacuity: a self-overlapping path (winding number 2 at the point) and a second path around it; the point is level
with vertices in x and in y and lies on the supporting line of an edge, but on no edge -/
example :
    (∀ path ∈ ([[⟨0,0⟩, ⟨6,0⟩, ⟨6,6⟩, ⟨0,6⟩, ⟨0,0⟩, ⟨4,0⟩, ⟨4,4⟩, ⟨0,4⟩], [⟨1,1⟩, ⟨3,2⟩, ⟨9,2⟩, ⟨9,9⟩, ⟨1,9⟩]] : Paths),
      onBoundary path ⟨2, 2⟩ = false) ∧
    wind [[⟨0,0⟩, ⟨6,0⟩, ⟨6,6⟩, ⟨0,6⟩, ⟨0,0⟩, ⟨4,0⟩, ⟨4,4⟩, ⟨0,4⟩], [⟨1,1⟩, ⟨3,2⟩, ⟨9,2⟩, ⟨9,9⟩, ⟨1,9⟩]] ⟨2, 2⟩ = 3 ∧
    wind (transpose [[⟨0,0⟩, ⟨6,0⟩, ⟨6,6⟩, ⟨0,6⟩, ⟨0,0⟩, ⟨4,0⟩, ⟨4,4⟩, ⟨0,4⟩], [⟨1,1⟩, ⟨3,2⟩, ⟨9,2⟩, ⟨9,9⟩, ⟨1,9⟩]])
      (transposePt ⟨2, 2⟩) = -3 := by decide +kernel

/-- the hypothesis cannot be dropped: a point on the diagonal edge of a triangle counts as outside for the horizontal
ray (the edges to its right own it) and as inside for the vertical one -/
example : wind (transpose [[⟨0,0⟩, ⟨4,4⟩, ⟨0,4⟩]]) (transposePt ⟨2, 2⟩) ≠ -wind [[⟨0,0⟩, ⟨4,4⟩, ⟨0,4⟩]] ⟨2, 2⟩ := by
  decide +kernel

/-- the two counts of a single edge do differ (it is only the sum around a closed path that agrees) -/
example : crossing ⟨0,0⟩ ⟨1,-1⟩ ⟨1,1⟩ = 1 ∧ crossingV ⟨0,0⟩ ⟨1,-1⟩ ⟨1,1⟩ = 0 := by decide +kernel

end Clipper.Props.C13Spec

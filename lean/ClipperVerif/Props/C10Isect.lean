/-
C10 (and C01's premise "the sweep presents intersections so that the AEL stays ordered") — `ClipperBase::BuildIntersectList`
produces exactly the inversion set, so the unbounded scan of `ProcessIntersectList` never leaves `intersect_nodes_`.

`Props/C10.lean` proves of the loop of `ProcessIntersectList` (model `Model/IntersectList.process`):
if the node list is a permutation of the inversions of the AEL order with respect to the target order, the scan
`while (!EdgesAdjacentInAEL(*node_iter2)) ++node_iter2;` stops inside the list, and the loop ends with the AEL in target
order.  That premise is a hypothesis there.  This file proves it of the model of the code that builds the list
(`Model/BuildIntersectList.lean`: `AdjustCurrXAndCopyToSEL` + the bottom-up merge sort over the SEL with its `jump` runs
+ the recording walk `AddNewIntersectNode(*tmp, *right)`; compared with the real function, node order included, by
`harness/C10isect.cpp`), for every AEL: any length, any `curr_x` values, ties included.

Ties.  `if (right->curr_x < left->curr_x)` is strict: on equal `curr_x` the merge advances `left`, so edges with equal
`curr_x` are never recorded as a node and keep their AEL order in the SEL.  The final SEL is therefore the *stable* sort
of the AEL by `curr_x`, and the *rank* of an edge (the key under which `Model/IntersectList` knows it) is its position
in that stable sort: among edges of equal `curr_x`, the one further left in the AEL has the smaller rank.  With this
rank, "`a` before `b` in the AEL and `rank b < rank a`" is equivalent to "`a` before `b` and `b.curr_x < a.curr_x`"
(`rank_inversion_iff`), which is what makes the two notions of inversion coincide.

Helper lemmas: `Lemmas/BuildIntersectList.lean`, `Lemmas/BuildIntersectListRank.lean`.
-/
import ClipperVerif.Lemmas.BuildIntersectList
import ClipperVerif.Lemmas.BuildIntersectListRank
import ClipperVerif.Props.C10
namespace Clipper.Props.C10Isect
open Clipper Clipper.Model.BuildIntersectList Clipper.Model.IntersectList
open Clipper.Lemmas.BuildIntersectList Clipper.Lemmas.Inversions Clipper.Lemmas.StableSort

/-- For every AEL (list of `(id, curr_x)`, no assumption at all) the
nodes appended to `intersect_nodes_` are, as a multiset, the pairs `(a.id, b.id)` with `a` before `b` in the AEL and
`b.curr_x < a.curr_x` (`inversions`, `Model/BuildIntersectList.lean`): none is missed, none is recorded twice, none is
recorded for a tie or for a pair already in order. -/
theorem buildIntersectList_nodes_eq_inversions (ael : List Edge) :
    (buildIntersectList ael).nodes.Perm (inversions ael) :=
  (build_spec ael).2.2.2

/-- the same as a membership statement: a node `(x, y)` is recorded iff some edge `a` with identity `x` stands before
some edge `b` with identity `y` in the AEL and `b.curr_x < a.curr_x` (strict) -/
theorem mem_nodes_iff (ael : List Edge) (n : Node) :
    n ∈ (buildIntersectList ael).nodes ↔ ∃ a b, [a, b].Sublist ael ∧ b.2 < a.2 ∧ n = (a.1, b.1) := by
  rw [(buildIntersectList_nodes_eq_inversions ael).mem_iff]
  exact mem_inversions ael n

/-- with distinct edge identities no node occurs twice -/
theorem nodes_nodup (ael : List Edge) (hnd : (ids ael).Nodup) : (buildIntersectList ael).nodes.Nodup :=
  (buildIntersectList_nodes_eq_inversions ael).symm.nodup (inversions_nodup ael hnd)

/-- the number of nodes is the number of inversions; the return value `intersect_nodes_.size() > 0` says whether there
is one, i.e. whether the AEL is not already sorted by `curr_x` -/
theorem ret_iff_not_sorted (ael : List Edge) :
    (buildIntersectList ael).ret = true ↔ ¬ ael.Pairwise (fun a b => a.2 ≤ b.2) := by
  have hret : (buildIntersectList ael).ret = !(buildIntersectList ael).nodes.isEmpty := by
    match ael with
    | [] => rfl
    | [_] => rfl
    | _ :: _ :: _ => rfl
  rw [hret, Bool.not_eq_true', List.isEmpty_eq_false_iff]
  refine (not_congr ?_).trans (not_congr (inversions_eq_nil_iff ael))
  exact ⟨fun h => (h ▸ buildIntersectList_nodes_eq_inversions ael).symm.eq_nil,
    fun h => (h ▸ buildIntersectList_nodes_eq_inversions ael).eq_nil⟩

/-- The SEL left behind is core's `List.mergeSort` of the AEL by `curr_x` (`leX a b =
a.curr_x ≤ b.curr_x`), the stable sort: a permutation of the AEL, non-decreasing in `curr_x`, edges of equal `curr_x`
in AEL order (next theorem). -/
theorem buildIntersectList_sorted (ael : List Edge) :
    (buildIntersectList ael).sel = ael.mergeSort leX :=
  sel_eq_mergeSort ael

/-- spelled out: permutation, sorted, stable -/
theorem buildIntersectList_sorted_spelled (ael : List Edge) :
    (buildIntersectList ael).sel.Perm ael ∧
    (buildIntersectList ael).sel.Pairwise (fun a b => a.2 ≤ b.2) ∧
    (∀ k : Int, (buildIntersectList ael).sel.filter (fun e => e.2 == k) = ael.filter (fun e => e.2 == k)) := by
  obtain ⟨hs, hp, hc, _⟩ := build_spec ael
  refine ⟨hp, hs, ?_⟩
  intro k
  have h := hc (0, k)
  unfold cls at h
  have hfun : (fun x : Edge => leX ((0 : Nat), k) x && leX x ((0 : Nat), k)) = (fun e : Edge => e.2 == k) := by
    funext e
    simp only [leX]
    rw [Bool.eq_iff_iff]
    simp only [Bool.and_eq_true, decide_eq_true_eq, beq_iff_eq]
    omega
  rwa [hfun] at h

/-- **ranks and `curr_x` agree on what an inversion is** (ties included): for `a` before `b` in an AEL with distinct
identities, `b` has the smaller rank (= position in the final SEL = position in the stable sort) iff `b.curr_x` is
strictly smaller.  For equal `curr_x` the rank follows the AEL order. -/
theorem rank_inversion_iff (ael : List Edge) (hnd : (ids ael).Nodup) (a b : Edge) (hs : [a, b].Sublist ael) :
    rankOf ael b.1 < rankOf ael a.1 ↔ b.2 < a.2 :=
  rank_order ael hnd a b hs

/-- **the hypothesis of `Props.C10.processIntersectList_no_fault` holds for what `BuildIntersectList` builds**: with
every edge named by its rank, any reordering `nodes` of the recorded node list (in particular the one
`std::sort(…, IntersectListSort)` produces) is a permutation of `invPairs` of the AEL's rank list; and the ranks are
distinct. -/
theorem built_nodes_are_rank_inversions (ael : List Edge) (hnd : (ids ael).Nodup) (nodes : List Node)
    (hperm : nodes.Perm (buildIntersectList ael).nodes) :
    (nodes.map (mapNode (rankOf ael))).Perm (invPairs ((ids ael).map (rankOf ael))) ∧
    ((ids ael).map (rankOf ael)).Nodup := by
  refine ⟨?_, ranks_nodup ael hnd⟩
  rw [invPairs_ranks ael hnd]
  exact (hperm.trans (buildIntersectList_nodes_eq_inversions ael)).map _

/-- `Props.C10.processIntersectList_no_fault` without its inversion-set
hypothesis: for every AEL with distinct edge identities and every ordering of the nodes `BuildIntersectList` recorded,
the loop model on rank-named edges returns normally (never `scanPastEnd`) with the ranks in increasing order. -/
theorem processIntersectList_no_fault_built_ranks (ael : List Edge) (hnd : (ids ael).Nodup) (nodes : List Node)
    (hperm : nodes.Perm (buildIntersectList ael).nodes) :
    ∃ π', process nodes.length ((ids ael).map (rankOf ael)) (nodes.map (mapNode (rankOf ael))) = .ok π' ∧
      π'.Pairwise (· ≤ ·) ∧ π'.Perm ((ids ael).map (rankOf ael)) := by
  obtain ⟨h1, h2⟩ := built_nodes_are_rank_inversions ael hnd nodes hperm
  exact List.length_map (mapNode (rankOf ael)) ▸ Clipper.Props.C10.processIntersectList_no_fault _ _ h2 h1

/-- The same on the edge identities themselves (the `Active*` of the C++),
with no hypothesis besides their distinctness: run `BuildIntersectList` on any AEL, hand its node list in **any order**
(the real code sorts it with `IntersectListSort`, by intersection point, of which the model knows nothing — and needs
nothing) to the loop of `ProcessIntersectList`: the adjacent-node scan never reads past the end of `intersect_nodes_`
(`process` does not return `.error scanPastEnd`), every node is processed, and the AEL ends in exactly the SEL order,
i.e. stably sorted by `curr_x`.

The loop theorem `Lemmas/IntersectList.process_ok` holds for any target order of the keys; here the keys are the identities and the
target order is their rank, whose inversions are exactly the recorded nodes (`invBy_rank`); it is independent of the order of `nodes`. -/
theorem processIntersectList_no_fault_built (ael : List Edge) (hnd : (ids ael).Nodup) (nodes : List Node)
    (hperm : nodes.Perm (buildIntersectList ael).nodes) :
    process nodes.length (ids ael) nodes = .ok (ids (buildIntersectList ael).sel) := by
  -- the loop with the ranks as target order: its nodes are the inversions by rank (`invBy_rank`)
  obtain ⟨ρ, hok, hsorted, hρperm⟩ := Clipper.Lemmas.IntersectList.process_ok (fun y x => decide (rankOf ael y < rankOf ael x))
    (key_inorder_trans (rankOf ael)) (key_lt_asymm (rankOf ael)) nodes.length (ids ael) nodes rfl hnd
    (invBy_rank ael hnd ▸ hperm.trans (buildIntersectList_nodes_eq_inversions ael))
  rw [hok]
  -- `ρ` and the SEL identities are two arrangements of the same distinct edges, both increasing in rank
  have hJ := ids_sel_nodup ael hnd
  have hJsorted : (ids (buildIntersectList ael).sel).Pairwise (fun x y => decide (rankOf ael x ≤ rankOf ael y) = true) :=
    List.pairwise_iff_forall_sublist.2 (fun {x y} hs => decide_eq_true (Nat.le_of_lt (idxOf_lt_of_sublist _ x y hJ hs)))
  exact congrArg _ (List.Perm.eq_of_pairwise (le := fun x y => decide (rankOf ael x ≤ rankOf ael y))
    (fun x y hx _ h1 h2 => rankOf_inj ael x y (hρperm.subset hx) (Nat.le_antisymm (of_decide_eq_true h1) (of_decide_eq_true h2)))
    (hsorted.imp (fun h => decide_eq_true (Nat.not_lt.1 (of_decide_eq_false h)))) hJsorted (hρperm.trans (ids_sel_perm ael).symm))

/-- corollary in the words of the property: the scan always finds its node -/
theorem scan_never_past_end (ael : List Edge) (hnd : (ids ael).Nodup) (nodes : List Node)
    (hperm : nodes.Perm (buildIntersectList ael).nodes) :
    process nodes.length (ids ael) nodes ≠ .error .scanPastEnd := by
  rw [processIntersectList_no_fault_built ael hnd nodes hperm]; exact fun h => nomatch h

/-- five edges, `curr_x = 5 3 5 1 3` (two ties): six nodes in the order the C++ appends them (pass 1: runs of one; pass 2:
the walk from the end of the left run back to `left`), final SEL stably sorted; the six nodes are the six inversions;
tied pairs `(0,2)`, `(1,4)` are not nodes. -/
example : buildIntersectList [(0, 5), (1, 3), (2, 5), (3, 1), (4, 3)] =
    ⟨true, [(0, 1), (2, 3), (0, 3), (1, 3), (2, 4), (0, 4)], [(3, 1), (1, 3), (4, 3), (0, 5), (2, 5)]⟩ := by
  decide +kernel

example : inversions [(0, 5), (1, 3), (2, 5), (3, 1), (4, 3)] = [(0, 1), (0, 3), (0, 4), (1, 3), (2, 3), (2, 4)] := by
  decide

/-- the hypotheses of `processIntersectList_no_fault_built` are satisfiable, its conclusion is not trivial: the nodes in
reversed order make the scan skip non-adjacent nodes, and the loop still ends in SEL order -/
example : (ids [(0, 5), (1, 3), (2, 5), (3, 1), (4, 3)]).Nodup ∧
    process 6 [0, 1, 2, 3, 4] [(0, 4), (2, 4), (1, 3), (0, 3), (2, 3), (0, 1)] = .ok [3, 1, 4, 0, 2] ∧
    adjacent [0, 1, 2, 3, 4] (0, 4) = false :=
  ⟨by decide, rfl, rfl⟩

/-- and the instance of the theorem itself -/
example : process 6 (ids [(0, 5), (1, 3), (2, 5), (3, 1), (4, 3)]) [(0, 4), (2, 4), (1, 3), (0, 3), (2, 3), (0, 1)] =
    .ok (ids (buildIntersectList [(0, 5), (1, 3), (2, 5), (3, 1), (4, 3)]).sel) :=
  processIntersectList_no_fault_built [(0, 5), (1, 3), (2, 5), (3, 1), (4, 3)] (by decide)
    [(0, 4), (2, 4), (1, 3), (0, 3), (2, 3), (0, 1)] (by decide +kernel)

/-- all `curr_x` equal: no node, `ret = false`, SEL = AEL; reversed distinct: every pair is a node -/
example : buildIntersectList [(7, 2), (8, 2), (9, 2)] = ⟨false, [], [(7, 2), (8, 2), (9, 2)]⟩ ∧
    buildIntersectList [(0, 3), (1, 2), (2, 1)] = ⟨true, [(0, 1), (0, 2), (1, 2)], [(2, 1), (1, 2), (0, 3)]⟩ := by
  decide +kernel

/-- a node list that is **not** what `BuildIntersectList` builds (a tied pair recorded as a node) does make the loop
model fault: the premise is needed, and the strictness of `<` matters -/
example : process 1 [0, 1, 2] [(0, 2)] = .error .scanPastEnd := rfl

/-- `AdjustCurrXAndCopyToSEL`: an edge joined to its left neighbour takes that neighbour's `curr_x` (hence ties with it);
a first edge flagged so is the null dereference -/
example : adjustCurrX none [⟨0, 9, false⟩, ⟨1, 4, true⟩, ⟨2, 5, false⟩] = some [(0, 9), (1, 9), (2, 5)] ∧
    adjustCurrX none [⟨0, 9, true⟩] = none := by decide

end Clipper.Props.C10Isect

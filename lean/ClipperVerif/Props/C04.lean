/-
Property C04: the PolyTree built by `BuildTree64` (model: `ClipperVerif/Model/Owner.lean`).

Trusted base: the model itself (checked against the C++ by the correspondence harness); the abstract parameters
`clean i` (= `CleanCollinear` + `BuildPath64` of outrec `i`), `inside i j` (= `Path1InsidePath2`), `openPath i`;
the assumption that the outrec table does not grow while the tree is built.
-/
import ClipperVerif.Lemmas.Owner
import ClipperVerif.Lemmas.WindSpec
namespace Clipper.Props.C04
open Clipper Clipper.Model.Owner

/-! ## example data used to show that the hypotheses of the theorems are satisfiable -/

/-- an axis-parallel square ring -/
def square (lo hi : Int) : Path := [⟨lo, lo⟩, ⟨hi, lo⟩, ⟨hi, hi⟩, ⟨lo, hi⟩]
/-- outer ring 0, hole 1 (owner 0), island 2 (owner 1); outrec 3 is dead and owned by 2 -/
def exClean (i : Nat) : CleanRes :=
  match i with
  | 0 => .path (square 0 100) | 1 => .path (square 10 90) | 2 => .path (square 20 80) | _ => .invalid
def exInside (i j : Nat) : Bool := decide (j < i)
def exOpen : Nat → Option Path := fun _ => none
def exT : Table := #[{}, { owner := some 0 }, { owner := some 1, splits := [3] }, { owner := some 2, hasPts := false }]

theorem exT_fresh : Fresh exT := fun _ r h =>
  (by decide : ∀ r ∈ exT.toList, r.polypath = none ∧ r.bounds.isEmpty = true) r
    (Array.mem_toList_iff.mpr (Array.mem_of_getElem? h))

theorem exT_rank : RankOK exT id := ownerRankB_sound (by decide)

theorem exT_acyclic : Acyclic exT := ⟨id, exT_rank⟩

theorem exT_inRange : OwnersInRange exT := ownersInRangeB_sound (by decide)

theorem exT_builds : ∃ S, buildTree exClean exInside exOpen 10 exT = some S :=
  Option.isSome_iff_exists.mp (by decide)

/-- the tree that is built for the example: 0 ⊃ 1 ⊃ 2 -/
example : (buildTree exClean exInside exOpen 10 exT).map (fun S => S.recs.toList.map (·.polypath)) =
    some [some [0], some [0, 0], some [0, 0, 0], none] := by decide

/-- a tree with a valid address `[0]` -/
def exTree : Tree := .node [] [.node (square 0 100) []]

/-- `AddChild` adds exactly one path to the flattened tree (`PolyPathToPaths64` of the node). -/
theorem addChild_toPaths {t t' : Tree} {a a' : List Nat} {q : Path}
    (h : addChild t a q = some (t', a')) : t'.toPaths.Perm (q :: t.toPaths) :=
  addChild_toPaths' h

/-- The same for `PolyTreeToPaths64` (which omits the root's own empty polygon). -/
theorem addChild_polyTreeToPaths {t t' : Tree} {a a' : List Nat} {q : Path}
    (h : addChild t a q = some (t', a')) : (polyTreeToPaths t').Perm (q :: polyTreeToPaths t) :=
  addChild_polyTreeToPaths' h

example : ∃ t' a', addChild exTree [0] (square 10 90) = some (t', a') := ⟨_, _, rfl⟩

/-- `AddChild(q)` adds `Area(q)` to `PolyPath64::Area()` of the tree (in units of one half). -/
theorem addChild_area2 {t t' : Tree} {a a' : List Nat} {q : Path}
    (h : addChild t a q = some (t', a')) : t'.area2 = t.area2 + shoelace2 q := by
  refine addChild_induct (motive := fun t _ t' _ => t'.area2 = t.area2 + shoelace2 q) ?_ (fun hc _ ih => ?_) h
  · simp only [Tree.area2, area2L_append, area2L]; omega
  · simp only [Tree.area2, area2L_set hc ih]; omega

/-- The new child sits one level below its parent, holds the new polygon and has no children;
the parent address was valid, the new address was unused, and every existing node keeps its address and polygon. -/
theorem addChild_at {t t' : Tree} {a a' : List Nat} {q : Path}
    (h : addChild t a q = some (t', a')) :
    (∃ k, a' = a ++ [k]) ∧ parentAddr a' = some a ∧ level a' = level a + 1 ∧
    t'.at? a' = some (.node q []) ∧ t.at? a' = none ∧ (∃ n, t.at? a = some n) ∧
    ∀ b n, t.at? b = some n → ∃ n', t'.at? b = some n' ∧ n'.path = n.path := by
  obtain ⟨k, hk⟩ := addChild_addr h
  refine ⟨⟨k, hk⟩, ?_, ?_, addChild_at_new h, addChild_at_fresh h, addChild_parent_valid h,
    fun b n hb => addChild_at_old h hb⟩
  · subst hk; simp [parentAddr]
  · subst hk; simp [level]

/-- `PolyPath64::Area()` of any node is the sum of the shoelace areas of the flattened paths. -/
theorem tree_area (t : Tree) : t.area2 = (t.toPaths.map shoelace2).sum := tree_area2_eq t

/-- For the root of a PolyTree (its own polygon is empty) the area is the sum over `PolyTreeToPaths64`. -/
theorem root_area (ks : List Tree) :
    (Tree.node [] ks).area2 = ((polyTreeToPaths (.node [] ks)).map shoelace2).sum := by
  rw [tree_area]
  simp [Tree.toPaths, polyTreeToPaths, Tree.kids, shoelace2_nil]

/-- Flattened path lists that are permutations of each other have the same total area. -/
theorem area_perm {ps qs : List Path} (h : ps.Perm qs) : (ps.map shoelace2).sum = (qs.map shoelace2).sum :=
  WindSpec.sum_perm (h.map _)

/-- Soundness of the parent relation of the PolyTree.  `T` is the outrec table before `BuildTree64`
(`Fresh`: no polypaths, no bounds yet) and its owner graph is acyclic (this hypothesis is *needed*: with a cyclic
owner chain `RecursiveCheckOwners` re-enters the outrec it is working on).
Then for every outrec `c` that received a node at address `a`: the node holds `c`'s path, which is the cleaned
ring `clean c`, with the recorded bounds; its level is ≥ 1; at level 1 the final owner is null; otherwise the final
owner `p` owns the parent node, and the containment test was evaluated positively on the final data:
bounds of `p` contain bounds of `c`, `Path1InsidePath2(c, p)`, and `p`'s path is `clean p`. -/
theorem tree_parent_sound {clean : Nat → CleanRes} {inside : Nat → Nat → Bool} {openPath : Nat → Option Path}
    {fuel : Nat} {T : Table} {S : St} (hF : Fresh T) (hA : Acyclic T)
    (h : buildTree clean inside openPath fuel T = some S) :
    ∀ (c : Nat) (r : OutRec) (a : List Nat), S.recs[c]? = some r → r.polypath = some a →
      (∃ n, S.tree.at? a = some n ∧ n.path = r.path) ∧
      r.hasPts = true ∧ clean c = .path r.path ∧ r.bounds = getBounds r.path ∧ r.bounds.isEmpty = false ∧
      level a ≥ 1 ∧
      (level a = 1 → r.owner = none) ∧
      (level a ≠ 1 → ∃ (p : Nat) (rp : OutRec) (pa : List Nat),
        r.owner = some p ∧ S.recs[p]? = some rp ∧ rp.polypath = some pa ∧ parentAddr a = some pa ∧
        rp.bounds.contains r.bounds = true ∧ inside c p = true ∧ clean p = .path rp.path) := by
  obtain ⟨_, hB, hT⟩ := (buildTree_loopInv hF hA h).ginv
  intro c r a hc ha
  obtain ⟨hnode, hne, hdis⟩ := hT c r a hc ha
  obtain ⟨b1, b2, b3⟩ := hB c r hc hne
  refine ⟨hnode, b1, b2, b3, hne, hT.level_pos hc ha, ?_, ?_⟩
  · intro hl
    rcases hdis with ⟨ho, _⟩ | ⟨p, rp, pa, k, _, hp, hppa, hak, _⟩
    · exact ho
    · have := hT.level_pos hp hppa
      rw [hak] at hl
      simp only [level, List.length_append, List.length_singleton] at hl
      omega
  · intro hl
    rcases hdis with ⟨_, k, hk⟩ | ⟨p, rp, pa, k, ho, hp, hppa, hak, hcont, hins⟩
    · simp [level, hk] at hl
    · obtain ⟨_, hpne, _⟩ := hT p rp pa hp hppa
      exact ⟨p, rp, pa, ho, hp, hppa, by simp [parentAddr, hak], hcont, hins, (hB p rp hp hpne).2.1⟩

example : Fresh exT ∧ Acyclic exT ∧ ∃ S, buildTree exClean exInside exOpen 10 exT = some S :=
  ⟨exT_fresh, exT_acyclic, exT_builds⟩

/-- Corollary of `tree_parent_sound`: `Level()` is well defined and the owner chain of a placed outrec is acyclic:
following `owner` from `c` reaches an outrec without owner in exactly `level a - 1` steps. -/
theorem owner_chain_length {clean : Nat → CleanRes} {inside : Nat → Nat → Bool} {openPath : Nat → Option Path}
    {fuel : Nat} {T : Table} {S : St} (hF : Fresh T) (hA : Acyclic T)
    (h : buildTree clean inside openPath fuel T = some S)
    {c : Nat} {r : OutRec} {a : List Nat} (hc : S.recs[c]? = some r) (ha : r.polypath = some a) :
    ∃ (root : Nat) (rr : OutRec), ownerSteps S.recs (level a - 1) c = some root ∧
      S.recs[root]? = some rr ∧ rr.owner = none :=
  (buildTree_loopInv hF hA h).ginv.2.2.chain hc ha

/-- The owner graph is still acyclic after `BuildTree64`. -/
theorem buildTree_acyclic {clean : Nat → CleanRes} {inside : Nat → Nat → Bool} {openPath : Nat → Option Path}
    {fuel : Nat} {T : Table} {S : St} (hF : Fresh T) (hA : Acyclic T)
    (h : buildTree clean inside openPath fuel T = some S) : Acyclic S.recs :=
  (buildTree_loopInv hF hA h).ginv.1

/- The full statement is `tree_paths_perm` below.  Three weaker statements are theorems of their own:
   `tree_paths_complete_partial` / `tree_paths_sound_partial` (the two inclusions on the level of outrecs) and
   `tree_paths_perm_placed` (the multiset bookkeeping "tree paths = paths of placed outrecs"). -/

/-- Completeness (partial): every closed outrec that has points before `BuildTree64` and whose cleaned ring is a
valid path — i.e. every outrec that contributes a path to `BuildPaths64` — owns a node of the tree holding that
path.  (H1) = cleaned rings have non-empty bounds (C03). -/
theorem tree_paths_complete_partial {clean : Nat → CleanRes} {inside : Nat → Nat → Bool}
    {openPath : Nat → Option Path} {fuel : Nat} {T : Table} {S : St} (hF : Fresh T) (hA : Acyclic T)
    (H1 : ∀ i p, clean i = .path p → (getBounds p).isEmpty = false)
    (h : buildTree clean inside openPath fuel T = some S) :
    ∀ (i : Nat) (r : OutRec) (p : Path), T[i]? = some r → r.isOpen = false → r.hasPts = true → clean i = .path p →
      ∃ (r' : OutRec) (a : List Nat) (n : Tree), S.recs[i]? = some r' ∧ r'.polypath = some a ∧
        S.tree.at? a = some n ∧ n.path = p := by
  have hI := buildTree_loopInv hF hA h
  obtain ⟨_, hB, hT⟩ := hI.ginv
  intro i r p hi hop hpts hc
  obtain ⟨r', hr', hs⟩ := hI.placed i (List.mem_range.mpr (getElem?_lt hi)) r p hi hop hpts hc (H1 i p hc)
  obtain ⟨a, ha⟩ := Option.isSome_iff_exists.mp hs
  obtain ⟨⟨n, hn, hnp⟩, hne, _⟩ := hT i r' a hr' ha
  cases hc.symm.trans (hB i r' hr' hne).2.1
  exact ⟨r', a, n, hr', ha, hn, hnp⟩

example : Fresh exT ∧ Acyclic exT ∧ (∀ i p, exClean i = .path p → (getBounds p).isEmpty = false) ∧
    ∃ S, buildTree exClean exInside exOpen 10 exT = some S := by
  refine ⟨exT_fresh, exT_acyclic, fun i p h => ?_, exT_builds⟩
  match i, h with
  | 0, h => simp only [exClean, CleanRes.path.injEq] at h; subst h; decide
  | 1, h => simp only [exClean, CleanRes.path.injEq] at h; subst h; decide
  | 2, h => simp only [exClean, CleanRes.path.injEq] at h; subst h; decide
  | _ + 3, h => simp [exClean] at h

/-- Soundness (partial): no path is invented — an outrec that owns a node had points before `BuildTree64`,
kept its `is_open` flag, and the node holds exactly its cleaned ring `clean c`. -/
theorem tree_paths_sound_partial {clean : Nat → CleanRes} {inside : Nat → Nat → Bool}
    {openPath : Nat → Option Path} {fuel : Nat} {T : Table} {S : St} (hF : Fresh T) (hA : Acyclic T)
    (h : buildTree clean inside openPath fuel T = some S) :
    ∀ (c : Nat) (r' : OutRec) (a : List Nat), S.recs[c]? = some r' → r'.polypath = some a →
      ∃ (r : OutRec) (n : Tree), T[c]? = some r ∧ r.hasPts = true ∧ r.isOpen = r'.isOpen ∧
        clean c = .path n.path ∧ S.tree.at? a = some n := by
  have hI := buildTree_loopInv hF hA h
  obtain ⟨_, hB, hT⟩ := hI.ginv
  intro c r' a hc ha
  obtain ⟨⟨n, hn, hnp⟩, hne, _⟩ := hT c r' a hc ha
  obtain ⟨b1, b2, _⟩ := hB c r' hc hne
  obtain ⟨r, hr, rs⟩ := hI.stepS.back hc
  exact ⟨r, n, hr, rs.hasPts_mono b1, rs.isOpen.symm, hnp ▸ b2, hn⟩

/-- Multiset invariant: after `BuildTree64` the flattened tree
(`PolyTreeToPaths64`) is a permutation of the paths of the outrecs that own a node, taken in outrec order
(`placedPaths`): every `AddChild` is matched by exactly one outrec receiving its polypath, no outrec is placed twice,
and the path of a placed outrec never changes afterwards.  `tree_paths_perm` combines it with `placedPaths_eq_closed`
(under (H1), (H2) the placed outrecs are the contributors of closed paths to `BuildPaths64`) and `buildPaths_filterMap`. -/
theorem tree_paths_perm_placed {clean : Nat → CleanRes} {inside : Nat → Nat → Bool}
    {openPath : Nat → Option Path} {fuel : Nat} {T : Table} {S : St} (hF : Fresh T) (hA : Acyclic T)
    (h : buildTree clean inside openPath fuel T = some S) :
    (polyTreeToPaths S.tree).Perm (placedPaths S.recs) :=
  (buildTree_loopInv hF hA h).pinv hF.pinv

example : (buildTree exClean exInside exOpen 10 exT).map (fun S => placedPaths S.recs) =
    some [square 0 100, square 10 90, square 20 80] := by decide

/-- `BuildPaths64` written as two `filterMap`s over the outrec table: the closed solution is `clean i` of the
live closed outrecs whose cleaned ring is a valid path, the open solution is `openPath i` of the live open outrecs,
both in outrec order. -/
theorem buildPaths_filterMap (clean : Nat → CleanRes) (openPath : Nat → Option Path) (T : Table) :
    buildPaths clean openPath T =
      ((List.range T.size).filterMap (closedPathOf clean T), (List.range T.size).filterMap (openPathOf openPath T)) :=
  buildPaths_eq clean openPath T

/-- the hypotheses of `tree_paths_perm` on the example table (checked through their decidable versions) -/
theorem exT_closedWorld : ClosedWorld exT := closedWorldB_sound (by decide)
theorem exT_h1 : ∀ (i : Nat) (r : OutRec) (p : Path), exT[i]? = some r → r.isOpen = false → r.hasPts = true →
    exClean i = .path p → (getBounds p).isEmpty = false := h1B_sound (by decide)

/-- **`tree_paths_perm` in full.**  `T` is the outrec table handed to `BuildTree64` (`Fresh`), its owner graph is
acyclic, (H1) the cleaned ring of every live closed outrec has non-empty bounds (a consequence of C03: a cleaned ring
has ≥ 3 points that are not all collinear), and (H2 = `ClosedWorld`) `owner` and `splits` of closed outrecs name closed
outrecs of the table.  Then, whatever the containment test answers and however much fuel was given, if the tree is built
at all, `PolyTreeToPaths64` of the tree is a permutation of the closed paths `BuildPaths64` returns for the same table
(nothing lost, nothing duplicated, nothing invented), and the open paths are identical, in the same order.
The decidable versions of all four hypotheses are evaluated on every real table by the harness (`OWNERSHYP`). -/
theorem tree_paths_perm {clean : Nat → CleanRes} {inside : Nat → Nat → Bool} {openPath : Nat → Option Path}
    {fuel : Nat} {T : Table} {S : St} (hF : Fresh T) (hA : Acyclic T)
    (H1 : ∀ (i : Nat) (r : OutRec) (p : Path), T[i]? = some r → r.isOpen = false → r.hasPts = true →
      clean i = .path p → (getBounds p).isEmpty = false)
    (H2 : ClosedWorld T) (h : buildTree clean inside openPath fuel T = some S) :
    (polyTreeToPaths S.tree).Perm (buildPaths clean openPath T).1 ∧
    S.openPaths = (buildPaths clean openPath T).2 := by
  obtain ⟨hI, hO⟩ := buildTree_loopInv_open hF hA H2 h
  rw [buildPaths_eq]
  exact ⟨placedPaths_eq_closed H1 hF hI ▸ hI.pinv hF.pinv, hO⟩

example : Fresh exT ∧ Acyclic exT ∧ ClosedWorld exT ∧ ∃ S, buildTree exClean exInside exOpen 10 exT = some S :=
  ⟨exT_fresh, exT_acyclic, exT_closedWorld, exT_builds⟩

/-- the example with an open outrec: 0 closed, 1 open (with points, never placed, its path is an open solution path) -/
def exT2 : Table := #[{}, { isOpen := true }, { owner := some 0 }]
def exOpen2 : Nat → Option Path := fun i => if i = 1 then some [⟨0, 0⟩, ⟨5, 5⟩] else none
example : (buildTree exClean exInside exOpen2 10 exT2).map (fun S => (polyTreeToPaths S.tree, S.openPaths)) =
      some (buildPaths exClean exOpen2 exT2) ∧
    (buildPaths exClean exOpen2 exT2) = ([square 0 100, square 20 80], [[⟨0, 0⟩, ⟨5, 5⟩]]) ∧
    ClosedWorld exT2 := ⟨by decide, by decide, closedWorldB_sound (by decide)⟩

/-- Necessity of (H2): if a closed outrec is owned by an open one, the open outrec receives a tree node, so the
tree holds a path the Paths execution does not return.  (Real tables satisfy (H2): `OWNERSHYP`.) -/
def badT : Table := #[{ isOpen := true }, { owner := some 0 }]
theorem h2_needed :
    Fresh badT ∧ Acyclic badT ∧ ¬ ClosedWorld badT ∧
    (buildTree exClean (fun _ _ => true) (fun _ => none) 10 badT).map (fun S => (polyTreeToPaths S.tree).length) = some 2 ∧
    (buildPaths exClean (fun _ => none) badT).1.length = 1 := by
  refine ⟨freshB_sound (by decide), ownerRankB_acyclic (rk := fun j => j) (by decide), ?_, by decide, by decide⟩
  intro h
  obtain ⟨r, hr, ho⟩ := (h 1 { owner := some 0 } rfl rfl).1 0 rfl
  cases (show badT[0]? = some { isOpen := true } from rfl).symm.trans hr
  cases ho

/-- Corollary of `tree_paths_perm`: `PolyTree64::Area()` equals the sum of the areas of the closed paths the
Paths execution returns (in units of one half, exact). -/
theorem tree_area_eq_paths_area {clean : Nat → CleanRes} {inside : Nat → Nat → Bool} {openPath : Nat → Option Path}
    {fuel : Nat} {T : Table} {S : St} (hF : Fresh T) (hA : Acyclic T)
    (H1 : ∀ (i : Nat) (r : OutRec) (p : Path), T[i]? = some r → r.isOpen = false → r.hasPts = true →
      clean i = .path p → (getBounds p).isEmpty = false)
    (H2 : ClosedWorld T) (h : buildTree clean inside openPath fuel T = some S) :
    S.tree.area2 = ((buildPaths clean openPath T).1.map shoelace2).sum := by
  have hroot := buildTree_root hF hA h
  rw [← area_perm (tree_paths_perm hF hA H1 H2 h).1]
  cases hS : S.tree with
  | node p ks =>
    rw [hS] at hroot
    cases hroot
    exact root_area ks

/-- `IsValidOwner(outrec, testOwner)` is sound: it answers true only if `outrec` is not on the owner
chain of `testOwner`, and false only if it is. -/
theorem isValidOwner_sound {T : Table} {f i s : Nat} :
    (isValidOwner T f i (some s) = some true → ¬ Reach T s i) ∧
    (isValidOwner T f i (some s) = some false → Reach T s i) :=
  ⟨isValidOwner_true, isValidOwner_false⟩

example : isValidOwner exT 5 2 (some 1) = some true ∧ isValidOwner exT 5 0 (some 2) = some false := by decide

/-- `IsValidOwner` terminates within `size + 1` iterations when the owner graph is acyclic and all owner
indices are in range. -/
theorem isValidOwner_terminates {T : Table} (hA : Acyclic T) (hO : OwnersInRange T) (i t : Nat) (ht : t < T.size) :
    ∃ b, isValidOwner T (T.size + 1) i (some t) = some b :=
  isValidOwner_fuel hA hO i t ht

/-- `GetRealOutRec` terminates within `size + 1` iterations under the same hypotheses. -/
theorem getRealOutRec_terminates {T : Table} (hA : Acyclic T) (hO : OwnersInRange T) (t : Nat) (ht : t < T.size) :
    ∃ o, getRealOutRec T (T.size + 1) (some t) = some o :=
  getRealOutRec_fuel hA hO t ht

example : Acyclic exT ∧ OwnersInRange exT ∧ 3 < exT.size := ⟨exT_acyclic, exT_inRange, by decide⟩

/-- `outrec->owner = split` after `IsValidOwner(outrec, split)` keeps the owner graph acyclic. -/
theorem set_valid_owner_acyclic {T : Table} {f i s : Nat} (hA : Acyclic T)
    (hv : isValidOwner T f i (some s) = some true) :
    Acyclic (T.modify i (fun x => { x with owner := some s })) :=
  hA.set_valid (isValidOwner_true hv)

example : Acyclic exT ∧ isValidOwner exT 5 2 (some 0) = some true := ⟨exT_acyclic, by decide⟩

/-- `outrec->owner = outrec->owner->owner` keeps the owner graph acyclic. -/
theorem skip_owner_acyclic {T : Table} {i o : Nat} {ri ro : OutRec} (hA : Acyclic T)
    (hi : T[i]? = some ri) (hio : ri.owner = some o) (ho : T[o]? = some ro) :
    Acyclic (T.modify i (fun x => { x with owner := ro.owner })) :=
  hA.skip_owner hi hio ho

example : Acyclic exT ∧ exT[2]? = some { owner := some 1, splits := [3] } ∧ exT[1]? = some { owner := some 0 } :=
  ⟨exT_acyclic, rfl, rfl⟩

/-- `CheckSplitOwner` preserves acyclicity of the owner graph, changes no `owner` except that of `outrec`
(and that only when it answers true), and when it answers true the new owner passed the containment test. -/
theorem checkSplitOwner_sound {clean : Nat → CleanRes} {inside : Nat → Nat → Bool} {f i : Nat} {T T' : Table}
    {L : List Nat} {b : Bool} (h : checkSplitOwner clean inside f T i L = some (T', b)) :
    (Acyclic T → Acyclic T') ∧ T'.size = T.size ∧
    (∀ j r, T[j]? = some r → (j ≠ i ∨ b = false) → ∃ r', T'[j]? = some r' ∧ r'.owner = r.owner) ∧
    (b = true → ∃ ri s rs, T'[i]? = some ri ∧ ri.owner = some s ∧ T'[s]? = some rs ∧
      rs.bounds.contains ri.bounds = true ∧ inside i s = true) := by
  have hs := checkSplitOwner_spec (C := fun _ => True) trivial _ _ _ _ _ h (ownC_true T) (fun _ _ => trivial)
  cases b with
  | false =>
    have hg := hs.1 rfl
    refine ⟨hg.acyc, hg.step.1, fun j r hj _ => ?_, fun hb => by cases hb⟩
    obtain ⟨r', hr', _, _, ow⟩ := hg.step.2 j r hj
    exact ⟨r', hr', ow (by simp)⟩
  | true =>
    obtain ⟨hg, hok⟩ := hs.2 rfl
    refine ⟨hg.acyc, hg.step.1, fun j r hj hji => ?_, fun _ => hok⟩
    obtain ⟨r', hr', _, _, ow⟩ := hg.step.2 j r hj
    exact ⟨r', hr', ow (by simpa using hji)⟩

example : (checkSplitOwner exClean exInside 10 exT 2 [3]).isSome = true := by decide

/-- The `while (outrec->owner)` loop of `RecursiveCheckOwners` preserves acyclicity, changes no owner
except that of `outrec`, and ends with `outrec->owner` null or an owner that passed the containment test. -/
theorem ownerLoop_sound {clean : Nat → CleanRes} {inside : Nat → Nat → Bool} {f i : Nat} {T T' : Table}
    (h : ownerLoop clean inside f T i = some T') :
    (Acyclic T → Acyclic T') ∧ T'.size = T.size ∧
    (∀ j r, T[j]? = some r → j ≠ i → ∃ r', T'[j]? = some r' ∧ r'.owner = r.owner) ∧
    ((∃ ri, T'[i]? = some ri ∧ ri.owner = none) ∨
     (∃ ri s rs, T'[i]? = some ri ∧ ri.owner = some s ∧ T'[s]? = some rs ∧
      rs.bounds.contains ri.bounds = true ∧ inside i s = true)) := by
  obtain ⟨hg, hd⟩ := ownerLoop_spec (C := fun _ => True) trivial _ _ _ h (ownC_true T)
  refine ⟨hg.acyc, hg.step.1, fun j r hj hji => ?_, hd⟩
  obtain ⟨r', hr', _, _, ow⟩ := hg.step.2 j r hj
  exact ⟨r', hr', ow (by simpa using hji)⟩

example : (ownerLoop exClean exInside 10 exT 2).isSome = true := by decide


/-! ### Termination of `CheckSplitOwner`, the owner loop, `SetOwner`, `RecursiveCheckOwners`, `BuildTree64`

Hypotheses (all four are evaluated on every real table by the harness, `OWNERSHYP`):
* `Acyclic T`, `OwnersInRange T` — for `GetRealOutRec`, `IsValidOwner`, and for the owner loop itself;
* `SplitsInRange T` — every entry of every `splits` list is an index of the table;
* `SplitsWF clean T` — the `splits` relation restricted to outrecs that are without points (now, or after `CheckBounds`
  disposes them: `clean j = .disposed`) is well founded: `∃ rk, ∀ j r s, T[j]? = some r →
  (r.hasPts = false ∨ clean j = .disposed) → s ∈ r.splits → rk s < rk j`.  This is what the unguarded `//#942` call
  needs; `divergence_942` shows that without it the function does not return.

Measures (Lean forces them):
* `CheckSplitOwner(outrec, L)`: lexicographically (`unmarked T outrec` = number of outrecs with points that are not
  marked `recursive_split == outrec`, `maxRk rk L` = 1 + largest `rk` of an entry of `L`, `L.length`).  The call guarded
  by the mark decreases the first component (the mark is set before the call, nothing ever unmarks or revives);
  the `//#942` call leaves the first component alone and decreases the second (all entries of `split->splits` have
  smaller `rk` than `split`, which is an entry of `L`); the loop decreases the third.  As one number:
  `csoFuel R M u ρ ℓ = u·(R+1)·(M+1) + ρ·(M+1) + ℓ + 1` with `R` > every rank and `M` ≥ every `splits` length.
* the `while (outrec->owner)` loop: the rank of `outrec->owner` in the owner graph (`ownerRank`); every iteration that
  does not `break` replaces `outrec->owner` by `outrec->owner->owner`; `CheckSplitOwner`/`CheckBounds` change no owner.
* the first loop of `SetOwner`: the rank of `new_owner->owner`.
* `RecursiveCheckOwners`: the number of outrecs not on the stack of pending calls; the stacked outrecs are pairwise
  different because each reaches the current `outrec` by `owner` links and the owner graph is acyclic.  (That the
  dereference `outrec->owner->polypath->AddChild` is safe is part of the theorem: the owner passed the containment
  test, so its bounds are not empty, so the recursive call gave it a polypath.) -/

/-- the four hypotheses on the example table -/
theorem exT_splitsInRange : SplitsInRange exT := splitsInRangeB_sound (by decide)
theorem exT_splitsWF : SplitsWF exClean exT := splitsRankB_wf (rk := fun _ => 0) (by decide)

/-- a table in which `splits` matters: outrec 2 was split off outrec 1 and later lost its points (it lists 3),
outrec 3 is a hole of 0 that is only found through `splits`; the point-less outrec 2 is entered by the `//#942` call -/
def exT3 : Table :=
  #[{}, { owner := some 0, splits := [2] }, { owner := some 1, hasPts := false, splits := [3] }, { owner := some 1 }]
def exClean3 (i : Nat) : CleanRes :=
  match i with
  | 0 => .path (square 0 100) | 1 => .path (square 10 40) | 3 => .path (square 50 90) | _ => .invalid
theorem exT3_hyps : Fresh exT3 ∧ Acyclic exT3 ∧ OwnersInRange exT3 ∧ SplitsInRange exT3 ∧ SplitsWF exClean3 exT3 :=
  ⟨freshB_sound (by decide), ownerRankB_acyclic (rk := fun j => j) (by decide), ownersInRangeB_sound (by decide),
   splitsInRangeB_sound (by decide), splitsRankB_wf (rk := fun j => 10 - j) (by decide)⟩
example : (buildTree exClean3 (fun i j => decide (j = 0 ∧ i ≠ 0)) exOpen (treeFuel exT3) exT3).map
    (fun S => S.recs.toList.map (·.polypath)) = some [some [0], some [0, 0], none, some [0, 1]] := by decide

/-- **Fuel sufficiency for `CheckSplitOwner`.**  There is a rank `rk ≤ size` witnessing `SplitsWF` such that
`csoFuel` of the measure `(unmarked, maxRk rk L, L.length)` is enough fuel for `CheckSplitOwner(i, L)`. -/
theorem checkSplitOwner_terminates {clean : Nat → CleanRes} {inside : Nat → Nat → Bool} {T : Table} {i : Nat}
    {L : List Nat} (hA : Acyclic T) (hO : OwnersInRange T) (hS : SplitsInRange T) (hW : SplitsWF clean T)
    (hi : i < T.size) (hL : ∀ s ∈ L, s < T.size) :
    ∃ rk : Nat → Nat, SplitsRank clean T rk ∧ (∀ j, rk j < T.size + 1) ∧
      ∀ f, csoFuel (T.size + 1) (maxSplits T) (unmarked T i) (maxRk rk L) L.length ≤ f →
        ∃ T' b, checkSplitOwner clean inside f T i L = some (T', b) := by
  obtain ⟨rk, hT⟩ := TermInv.of_hyps hA hO hS hW
  refine ⟨rk, hT.wf, hT.rkR, fun f hf => ?_⟩
  obtain ⟨⟨T', b⟩, h⟩ := checkSplitOwner_total (inside := inside) hi f T L hT rfl hL hf
  exact ⟨T', b, h⟩

example : Acyclic exT3 ∧ OwnersInRange exT3 ∧ SplitsInRange exT3 ∧ SplitsWF exClean3 exT3 ∧ 3 < exT3.size ∧
    ∀ s ∈ [2], s < exT3.size :=
  ⟨exT3_hyps.2.1, exT3_hyps.2.2.1, exT3_hyps.2.2.2.1, exT3_hyps.2.2.2.2, by decide, by decide⟩

/-- Closed form: `csoMax (size+1) (maxSplits T) size` units of fuel suffice for every `CheckSplitOwner` call on a
`splits` list of the table. -/
theorem checkSplitOwner_terminates_splits {clean : Nat → CleanRes} {inside : Nat → Nat → Bool} {T : Table} {i o : Nat}
    {ro : OutRec} (hA : Acyclic T) (hO : OwnersInRange T) (hS : SplitsInRange T) (hW : SplitsWF clean T)
    (hi : i < T.size) (ho : T[o]? = some ro) :
    ∀ f, csoMax (T.size + 1) (maxSplits T) T.size ≤ f →
      ∃ T' b, checkSplitOwner clean inside f T i ro.splits = some (T', b) := by
  obtain ⟨rk, _, hrk, h⟩ := checkSplitOwner_terminates (inside := inside) hA hO hS hW hi (fun s hs => hS o ro s ho hs)
  exact fun f hf => h f
    (Nat.le_trans (csoFuel_mono (unmarked_le_size T i) (maxRk_le (fun s _ => hrk s)) (le_maxSplits ho)) hf)

/-- **Fuel sufficiency for the `while (outrec->owner)` loop of `RecursiveCheckOwners`**: for every rank function
of the owner graph, `csoMax + ownerRank + 1` units suffice (`ownerRank` = 1 + rank of `outrec->owner`). -/
theorem ownerLoop_terminates {clean : Nat → CleanRes} {inside : Nat → Nat → Bool} {T : Table} {i : Nat}
    {rank : Nat → Nat} (hR : RankOK T rank) (hO : OwnersInRange T) (hS : SplitsInRange T) (hW : SplitsWF clean T)
    (hi : i < T.size) :
    ∀ f, csoMax (T.size + 1) (maxSplits T) T.size + ownerRank rank T i + 1 ≤ f →
      ∃ T', ownerLoop clean inside f T i = some T' := by
  obtain ⟨rk, hT⟩ := TermInv.of_hyps ⟨rank, hR⟩ hO hS hW
  exact fun f hf => ownerLoop_total hi f T hT rfl hR hf

example : RankOK exT3 (fun j => j) ∧ OwnersInRange exT3 ∧ SplitsInRange exT3 ∧ SplitsWF exClean3 exT3 ∧ 3 < exT3.size :=
  ⟨ownerRankB_sound (by decide), exT3_hyps.2.2.1, exT3_hyps.2.2.2.1, exT3_hyps.2.2.2.2, by decide⟩

/-- **Fuel sufficiency for the first loop of `SetOwner`** (`while (new_owner->owner && !new_owner->owner->pts)`):
`ownerRank + 1` units suffice; and `SetOwner` as a whole terminates with `size + 2` units. -/
theorem skipDeadOwners_terminates {T : Table} {no : Nat} {rank : Nat → Nat} (hR : RankOK T rank)
    (hO : OwnersInRange T) (hno : no < T.size) :
    ∀ f, ownerRank rank T no + 1 ≤ f → ∃ T1, skipDeadOwners T f no = some T1 := by
  intro f hf
  obtain ⟨T1, h, _⟩ := skipDeadOwners_total f T no hR hO hno hf
  exact ⟨T1, h⟩

theorem setOwner_terminates {T : Table} {i no : Nat} (hA : Acyclic T) (hO : OwnersInRange T) (hi : i < T.size)
    (hno : no < T.size) : ∃ T', setOwner T (T.size + 2) i no = some T' := by
  exact Option.ne_none_iff_exists'.mp (setOwner_total hA hO hi hno)

example : RankOK exT (fun j => j) ∧ Acyclic exT ∧ OwnersInRange exT ∧ 0 < exT.size ∧ 2 < exT.size :=
  ⟨exT_rank, exT_acyclic, exT_inRange, by decide, by decide⟩

/-- **Fuel sufficiency for `RecursiveCheckOwners`** from any state the outer loop of `BuildTree64` can be in
(`GInv` = acyclic owners, bounds computed by `CheckBounds`, the tree matches the polypaths — the invariant of
`tree_parent_sound`): `treeFuel` units suffice. -/
theorem recursiveCheckOwners_terminates {clean : Nat → CleanRes} {inside : Nat → Nat → Bool} {S : St} {i : Nat}
    (hG : GInv clean inside S) (hO : OwnersInRange S.recs) (hS : SplitsInRange S.recs) (hW : SplitsWF clean S.recs)
    (hi : i < S.recs.size) :
    ∀ f, treeFuel S.recs ≤ f → ∃ S', recursiveCheckOwners clean inside f S i = some S' := by
  obtain ⟨rk, hT⟩ := TermInv.of_hyps hG.1 hO hS hW
  intro f hf
  obtain ⟨S', h, _⟩ := rco_total f S i [] hT hG rfl hi List.nodup_nil (fun _ hx => by cases hx) hf
  exact ⟨S', h⟩

example : GInv exClean3 exInside { recs := exT3 } ∧ OwnersInRange exT3 ∧ SplitsInRange exT3 ∧ SplitsWF exClean3 exT3 :=
  ⟨exT3_hyps.1.ginv exT3_hyps.2.1, exT3_hyps.2.2.1, exT3_hyps.2.2.2.1, exT3_hyps.2.2.2.2⟩

/-- **`checkOwners_terminates`: fuel sufficiency for `BuildTree64`** and hence for every
`RecursiveCheckOwners`, owner loop and `CheckSplitOwner` it runs: on a fresh table with acyclic in-range owners, in-range
`splits` and a well-founded `splits` relation on point-less outrecs, `treeFuel T` units of fuel suffice, for every
containment test and every result of `CleanCollinear`. -/
theorem checkOwners_terminates {clean : Nat → CleanRes} {inside : Nat → Nat → Bool} {openPath : Nat → Option Path}
    {T : Table} (hF : Fresh T) (hA : Acyclic T) (hO : OwnersInRange T) (hS : SplitsInRange T)
    (hW : SplitsWF clean T) :
    ∀ fuel, treeFuel T ≤ fuel → ∃ S, buildTree clean inside openPath fuel T = some S := by
  obtain ⟨rk, hT⟩ := TermInv.of_hyps hA hO hS hW
  intro fuel hf
  exact buildTree_total hF hT hf

example : Fresh exT3 ∧ Acyclic exT3 ∧ OwnersInRange exT3 ∧ SplitsInRange exT3 ∧ SplitsWF exClean3 exT3 := exT3_hyps

/-- `SplitsWF` holds whenever no outrec lists itself, directly or transitively, in `splits`
(`SplitsAcyclic`: the whole `splits` relation has a rank). -/
theorem splitsAcyclic_splitsWF {clean : Nat → CleanRes} {T : Table} (h : SplitsAcyclic T) : SplitsWF clean T := h.wf

example : SplitsAcyclic exT3 := splitsAllRankB_sound (rk := fun j => 10 - j) (by decide)

/-- a table in which the points-less outrec 1 lists itself in its `splits` -/
def loopT : Table := #[{}, { hasPts := false, splits := [1] }]

/-- Finding: the `//#942` recursion of `CheckSplitOwner` is not protected by the `recursive_split` mark.
On a table where a points-less outrec is (directly) its own split, no amount of fuel suffices: the C++ recursion
`CheckSplitOwner(outrec, split->splits)` never returns. -/
theorem divergence_942 (clean : Nat → CleanRes) (inside : Nat → Nat → Bool) :
    ∀ fuel, checkSplitOwner clean inside fuel loopT 0 [1] = none := by
  intro fuel
  induction fuel with
  | zero => rfl
  | succ f ih =>
    rw [cso_unfold]
    have h1 : loopT[1]? = some { hasPts := false, splits := [1] } := rfl
    simp only [h1, Bool.not_false, List.isEmpty_cons, Bool.and_self, csoIf, if_true, ih, orElse]

/-- The well-foundedness hypothesis of `checkOwners_terminates` is exactly what `loopT` violates: the point-less
outrec 1 lists itself. -/
theorem loopT_not_splitsWF (clean : Nat → CleanRes) : ¬ SplitsWF clean loopT := by
  intro ⟨rk, hr⟩
  have := hr 1 { hasPts := false, splits := [1] } 1 rfl (Or.inl rfl) (by simp)
  omega

/-- all other hypotheses of `checkOwners_terminates` hold for `loopT`, so `SplitsWF` cannot be dropped -/
theorem loopT_other_hyps : Fresh loopT ∧ Acyclic loopT ∧ OwnersInRange loopT ∧ SplitsInRange loopT :=
  ⟨freshB_sound (by decide), ownerRankB_acyclic (rk := fun j => j) (by decide), ownersInRangeB_sound (by decide),
   splitsInRangeB_sound (by decide)⟩


/-- **`tree_depth_parity`.**  `Geo c p` is any transitive relation ("the ring of outrec `c` lies inside the ring of
outrec `p`") that the containment test respects (`inside c p = true → Geo c p`).  Then for every outrec `c` that owns
a node at address `a` (`level a` = `PolyPath::Level()`, `isHole a` = `PolyPath::IsHole()`):
* `level a ≥ 1` and `IsHole()` ⇔ the level is even; a top-level node is not a hole, and a child is a hole exactly when
  its parent is not (hole / outer alternation);
* `c` is nested inside `level a − 1` rings of the tree: for every `k` with `1 ≤ k < level a` the `k`-th owner of `c`
  owns the ancestor node `k` levels up, and `Geo c` holds for it.
So `IsHole()` = "nested inside an odd number of ancestors".  That no *other* ring of the tree contains `c` needs
disjointness of sibling rings, which the model cannot know; it is judged on real trees with exact arithmetic
(`TREECHECK`: child inside parent, outside siblings, orientation = depth parity).  The model's `level`/`isHole` are
compared with `PolyPath::Level()`/`IsHole()` of every node of every replayed real tree (`OWNERSLVL`). -/
theorem tree_depth_parity {clean : Nat → CleanRes} {inside : Nat → Nat → Bool} {openPath : Nat → Option Path}
    {fuel : Nat} {T : Table} {S : St} (hF : Fresh T) (hA : Acyclic T)
    (h : buildTree clean inside openPath fuel T = some S)
    {Geo : Nat → Nat → Prop} (G1 : ∀ c p, inside c p = true → Geo c p) (G2 : ∀ a b c, Geo a b → Geo b c → Geo a c) :
    ∀ (c : Nat) (r : OutRec) (a : List Nat), S.recs[c]? = some r → r.polypath = some a →
      1 ≤ level a ∧ isHole a = decide (level a % 2 = 0) ∧ (level a = 1 → isHole a = false) ∧
      (∀ (p : Nat) (rp : OutRec) (pa : List Nat), r.owner = some p → S.recs[p]? = some rp → rp.polypath = some pa →
        level a = level pa + 1 ∧ isHole a = !isHole pa) ∧
      (∀ k, 1 ≤ k → k < level a → ∃ (anc : Nat) (ra : OutRec), ownerSteps S.recs k c = some anc ∧
        S.recs[anc]? = some ra ∧ ra.polypath = some (a.take (level a - k)) ∧ Geo c anc) := by
  have hT := (buildTree_loopInv hF hA h).ginv.2.2
  intro c r a hc ha
  have hpos : 1 ≤ level a := hT.level_pos hc ha
  refine ⟨hpos, isHole_of_pos hpos, fun h1 => by rw [isHole_of_pos hpos, h1]; rfl, ?_,
    fun k h1 h2 => hT.ancestors G1 G2 k c r a hc ha h1 h2⟩
  intro p rp pa ho hp hppa
  rcases (hT c r a hc ha).2.2 with ⟨hnone, _⟩ | ⟨p', rp', pa', k, ho', hp', hppa', rfl, _⟩
  · cases hnone.symm.trans ho
  · cases ho.symm.trans ho'
    cases hp.symm.trans hp'
    cases hppa.symm.trans hppa'
    have hne : pa ≠ [] := List.length_pos_iff.mp (hT.level_pos hp hppa)
    exact ⟨by simp [level], isHole_child pa k hne⟩

example : Fresh exT ∧ Acyclic exT ∧ (∃ S, buildTree exClean exInside exOpen 10 exT = some S) ∧
    (∀ c p, exInside c p = true → (fun c p => p < c) c p) ∧
    (∀ a b c : Nat, (fun c p => p < c) a b → (fun c p => p < c) b c → (fun c p => p < c) a c) :=
  ⟨exT_fresh, exT_acyclic, exT_builds, fun c p h => by simpa [exInside] using h, fun a b c h1 h2 => by simp only at *; omega⟩

/-- the levels and hole flags of the example tree 0 ⊃ 1 ⊃ 2 -/
example : (buildTree exClean exInside exOpen 10 exT).map
    (fun S => S.recs.toList.map (fun r => r.polypath.map (fun a => (level a, isHole a)))) =
    some [some (1, false), some (2, true), some (3, false), none] := by decide

/-- `SetOwner(outrec, new_owner)`: afterwards `outrec->owner == new_owner`; the table keeps its size; every
outrec other than `outrec` and `new_owner` is unchanged; and if the owner graph was acyclic and
`outrec != new_owner` it is acyclic afterwards (Lean forced the hypothesis `i ≠ no`: `SetOwner(x, x)` creates the
self-loop `x->owner == x`). -/
theorem setOwner_spec {T T' : Table} {fuel i no : Nat} (h : setOwner T fuel i no = some T') :
    T'.size = T.size ∧ (∃ r : OutRec, T'[i]? = some r ∧ r.owner = some no) ∧
    (∀ j : Nat, j ≠ i → j ≠ no → T'[j]? = T[j]?) ∧ (Acyclic T → i ≠ no → Acyclic T') :=
  setOwner_spec' h

/-- example: `SetOwner(0, 2)` on the chain 2 → 1 → 0 (the case `tmp != nullptr`: 0 is on the owner chain of 2) -/
example : (setOwner exT 5 0 2).map (fun T => T.toList.map (·.owner)) = some [some 2, some 0, none, some 2] ∧
    Acyclic exT ∧ (0 : Nat) ≠ 2 := ⟨by decide, exT_acyclic, by decide⟩

end Clipper.Props.C04

/-
C09 — `lines_cover`: for sign-exact arithmetic the pieces `RectClipLines` returns for one polyline are exactly the
parts of the polyline inside the rectangle, described segment by segment.

Setting.  `A : Arith` is the `double` arithmetic of the C++ (sign of `CrossProduct`, `GetSegmentIntersectPt`).
The theorems below assume that `A` reports the exact sign of every cross product (`SignExact`) and always delivers
an intersection point (`IsectTotal`; the point is only ever requested for two properly crossing segments).
Instances: `exactArith` (exact integer sign, exact truncated intersection) and `hybridArith` (exact integer sign,
the *real* `double` intersection point) — so the theorems apply to every run of the compiled code on which no
`CrossProduct` sign is mis-rounded; the driver command `LINESCOVER` checks for every generated input that the run of the
`double` model makes the same `Add` calls as the run of `hybridArith`.
No hypothesis on segments along a rectangle side or on boundary vertices is needed for the description itself
(`lines_cover`); such hypotheses enter only where the description is read geometrically
(`through_segment_geometry`, `new_piece_only_after_leaving`, and the witness `pieces_not_maximal_witness`).

What is proved, in the terms of the task statement:
(i)   soundness — `lines_cover`: the list of `Add` calls is the concatenation, segment by segment, of the
      contributions `SegPart` allows; every call is a vertex of the input in the closed rectangle or a crossing point
      found by `GetIntersection` on that very segment; `cover_vertex_calls`: the vertex calls are exactly the vertices
      of class in, once each, in input order;
(ii)  completeness — `SegPart`: two consecutive vertices of class in are joined (no `start_new` between them); a
      segment in → out / out → in contributes exactly one crossing point (`exit_crossing_found`,
      `Lemmas.RCE.getIntersection_from_inside` — never lost);
      a segment out → out contributes nothing or a two-point piece, the latter only if it meets the closed rectangle and
      always if it enters the open rectangle (`through_segment_geometry`), and then the unchecked second
      `GetIntersection` call succeeds as well (`noLostCrossing_exact`, which discharges the hypothesis of
      `Props.C09.lines_in_rect`: `lines_in_rect_exact`);
(iii) `lines_piece_count`: number of rings = (1 if the first vertex is of class in) + number of entering events.
Where the crossing points lie is a matter of the intersection-point routine, about which nothing is assumed above;
`crossing_points_on_boundary` adds the idealisation "the point returned for a proper crossing lies on both lines"
(`IsectExactOn`, decidable per input) and concludes that every crossing point lies on its segment and on the boundary.
`meets_is_common_point` shows that the integer predicate `Meets` used in the geometric statements is the existence
of a common point of segment and rectangle.
The class of a vertex (`classes`): strictly inside = in, outside the closed rectangle = out, **on the boundary = the
class of the preceding vertex**.  Because of the last rule the pieces are *not* always maximal: a polyline that
reaches a boundary vertex from outside through the interior and goes on inside the rectangle is returned as two
pieces sharing that vertex (`pieces_not_maximal_witness`, reproduced on the real code by harness/C09.cpp, label
`cover.boundary_vertex_split`).  `new_piece_only_after_leaving` is the maximality statement that does hold.
-/
import ClipperVerif.Lemmas.RectLinesPieces
import ClipperVerif.Lemmas.RectLinesLoop
import ClipperVerif.Props.C09
namespace Clipper.Props.C09Cover
open Clipper Clipper.Model.RC Clipper.Lemmas.RC Clipper.Lemmas.RCE Clipper.Lemmas.RLG Clipper.Lemmas.RLV
open Clipper.Props.C09

theorem sign_exact (x : Int) : (Int.sign x = 0 ↔ x = 0) ∧ (Int.sign x > 0 ↔ x > 0) :=
  ⟨Int.sign_eq_zero_iff_zero, Int.sign_pos_iff⟩

/-- exact integer signs, exact (truncated) intersection point -/
theorem exactArith_exact : SignExact exactArith ∧ IsectTotal exactArith := by
  refine ⟨fun a b c => sign_exact _, fun a b c d => ?_⟩
  simp only [exactArith, isectZ]
  split <;> rfl

/-- exact integer signs, the `double` intersection point of the real code -/
theorem hybridArith_exact : SignExact hybridArith ∧ IsectTotal hybridArith := by
  refine ⟨fun a b c => sign_exact _, fun a b c d => ?_⟩
  simp only [hybridArith]
  cases isectF a b c d <;> rfl

/-- **`GetIntersection` from outside is sound and complete** (sign-exact arithmetic, non-empty rectangle): called
with `p` in the closed half-plane beyond side `loc` (`p.x ≤ left` for `Left`, …) and `q` such that `p q` is not
contained in the line of that side, it reports a crossing iff the closed segment `p q` meets the closed rectangle
(`Meets`: separating-axis form over the integers — no side line and not the line `p q` separates them):
a segment between two outside regions that meets the rectangle meets one of the three edges tried. -/
theorem getIntersection_complete (A : Arith) (hA : SignExact A) (ht : IsectTotal A) (r : Rect)
    (hw : r.left < r.right) (hh : r.top < r.bottom) (loc : Location) (p q : Pt) (hr : Ready r loc p)
    (hl : loc ≠ .inside) (hnc : ¬ (OnSideLine r loc p ∧ OnSideLine r loc q)) (ip : Pt) :
    (getIntersection A r p q loc ip).1 = true ↔ Meets r p q :=
  getIntersection_outside_iff hA ht hw hh hr hl hnc ip

/-- **`Meets` means what it should**: for a non-empty rectangle, the integer separating-axis predicate `Meets r p q`
holds iff the closed segment and the closed rectangle have a common point `p + (s/t)(q - p)`, `0 ≤ s ≤ t`, `0 < t`
(`MeetsParam`, all inequalities multiplied out by `t`). -/
theorem meets_is_common_point (r : Rect) (hw : r.left < r.right) (hh : r.top < r.bottom) (p q : Pt) :
    Meets r p q ↔ MeetsParam r p q := by
  have bridge : MeetsParam r p q ↔
      Lemmas.RLC.ParamO (r.left - p.x) (r.right - p.x) (r.top - p.y) (r.bottom - p.y) (q.x - p.x) (q.y - p.y) := by
    unfold MeetsParam Lemmas.RLC.ParamO
    simp only [Int.mul_sub]
    constructor <;> rintro ⟨s, t, h⟩ <;> exact ⟨s, t, by omega⟩
  rw [bridge]
  exact ⟨Lemmas.RLC.meetsO_param (by omega) (by omega), Lemmas.RLC.paramO_meets⟩

example : MeetsParam ⟨0, 0, 10, 10⟩ ⟨-3, -3⟩ ⟨12, 5⟩ := ⟨3, 8, by decide⟩

/-- the hypothesis "not both on the line of side `loc`" of `getIntersection_complete` is needed: the segment
`(0,2) → (0,5)` lies on the left side of `[0,10]²`, yet `GetIntersection(…, Left)` reports nothing -/
example : Meets ⟨0, 0, 10, 10⟩ ⟨0, 2⟩ ⟨0, 5⟩ ∧
    (getIntersection exactArith ⟨0, 0, 10, 10⟩ ⟨0, 2⟩ ⟨0, 5⟩ .left ⟨0, 0⟩).1 = false := by decide

/-- a non-trivial instance: from the corner region beyond the left side, through the top edge -/
example : Ready ⟨0, 0, 10, 10⟩ .left ⟨-3, -3⟩ ∧ ¬ (OnSideLine ⟨0, 0, 10, 10⟩ .left ⟨-3, -3⟩ ∧ OnSideLine ⟨0, 0, 10, 10⟩ .left ⟨12, 5⟩) ∧
    (getIntersection exactArith ⟨0, 0, 10, 10⟩ ⟨-3, -3⟩ ⟨12, 5⟩ .left ⟨0, 0⟩).1 = true :=
  ⟨by simp [Ready], by simp [OnSideLine], by decide⟩

/-- **An exiting crossing is never lost**: `cur` outside the closed rectangle in region `loc`, `prv` in the closed
rectangle (boundary included). -/
theorem exit_crossing_found (A : Arith) (hA : SignExact A) (ht : IsectTotal A) (r : Rect) (hw : r.left < r.right)
    (hh : r.top < r.bottom) (cur prv : Pt) (loc : Location) (ho : outsideLoc r cur = some loc)
    (hp : inRect r prv = true) (ip : Pt) : (getIntersection A r cur prv loc ip).1 = true :=
  exit_found hA ht hw hh ho hp ip

example : outsideLoc ⟨0, 0, 10, 10⟩ ⟨-5, -3⟩ = some .left ∧ inRect ⟨0, 0, 10, 10⟩ ⟨5, 0⟩ = true := by decide

/-- **`lines_cover`.**  For sign-exact arithmetic, a non-empty rectangle and a polyline of at least two vertices,
the `Add` calls of `RectClipLines64::ExecuteInternal` are `es` with `Cover A r path es`:
the first vertex if it is of class in (`cls0`), followed, for every segment `k = 1 … n-1` in order, by the
contribution `SegPart A r k path[k-1] path[k] c(k-1) c(k)` (`c` = `classes r path`, computed by `clsNext`):
* in → in: `Add(path[k])`;
* in → out: `Add(ip)`, `ip` the crossing `GetIntersection(path[k], path[k-1], region of path[k])` found;
* out → in: `Add(ip, start_new)`, `ip` the crossing `GetIntersection(path[k], path[k-1], Inside)` found, then
  `Add(path[k])`;
* out → out: nothing (both end points in one closed outer half-plane, or `GetIntersection` from `path[k]` found
  nothing), or `Add(ip2, start_new); Add(ip)` with `ip` found by `GetIntersection` from `path[k]` and `ip2` left by the
  unchecked call from `path[k-1]`.
The result of `ExecuteInternal` is `assemble es` (a new ring at every `start_new`, consecutive duplicates removed,
single points dropped).  No hypothesis on boundary vertices or on segments along a side. -/
theorem lines_cover (A : Arith) (hA : SignExact A) (ht : IsectTotal A) (r : Rect) (hw : r.left < r.right)
    (hh : r.top < r.bottom) (path : Path) (hlen : 2 ≤ path.length) :
    ∃ es, emits A r path = some es ∧ executeInternal A r path = some (assemble es) ∧ Cover A r path es := by
  obtain ⟨es, he, hc⟩ := emits_cover hA ht hw hh path hlen
  exact ⟨es, he, by simp [executeInternal, he], hc⟩

/-- **The checker the harness runs is sound**: the driver command `LINESCOVER` evaluates `coverB` on the `Add` calls
of the `double` model for every generated input; a `true` answer means `Cover` holds (for any arithmetic). -/
theorem cover_checker_sound (A : Arith) (r : Rect) (path : Path) (es : List Emit)
    (h : coverB A r path es = true) : Cover A r path es := by
  unfold Cover CoverP
  cases path with
  | nil => simpa [coverB] using h
  | cons p0 rest =>
    simp only [coverB, Bool.and_eq_true, beq_iff_eq] at h
    refine ⟨es.drop (if cls0 r (p0 :: rest) = true then [V 0 p0] else []).length, ?_, tailB_sound _ _ _ _ h.2⟩
    conv => lhs; rw [← List.take_append_drop (if cls0 r (p0 :: rest) = true then [V 0 p0] else []).length es]
    rw [h.1]

/-- the hypotheses of `lines_cover` hold for the exact arithmetic on a run with an entering, an exiting and a
through-going segment; the classes of the five vertices are out, out, in, in, out -/
example : (emits exactArith ⟨0, 0, 10, 10⟩ [⟨-5, 5⟩, ⟨15, 7⟩, ⟨3, 3⟩, ⟨4, 4⟩, ⟨4, 20⟩]).map (·.map (·.kind)) =
      some [.thru1 true, .thru2, .enter, .vertex, .vertex, .exit] ∧
    classes ⟨0, 0, 10, 10⟩ [⟨-5, 5⟩, ⟨15, 7⟩, ⟨3, 3⟩, ⟨4, 4⟩, ⟨4, 20⟩] = [false, false, true, true, false] := by
  decide

/-- **`through_segment_geometry`.**  In the description of `lines_cover`, the contribution of a segment between two
vertices of class out is, geometrically: nothing, and then the segment does not enter the open rectangle (both end
points in one closed outer half-plane, or the closed segment misses the closed rectangle: `Outside2`); or the two
crossing points, and then the closed segment meets the closed rectangle and *both* `GetIntersection` calls
succeeded.  (A segment that only touches the boundary may fall in either case; a segment along a side likewise —
"may be kept or dropped" in the property statement.) -/
theorem through_segment_geometry (A : Arith) (hA : SignExact A) (ht : IsectTotal A) (r : Rect)
    (hw : r.left < r.right) (hh : r.top < r.bottom) (path : Path) (hlen : 2 ≤ path.length) :
    ∃ es, emits A r path = some es ∧
      CoverP r (fun k prv cur ip ic es => SegPart A r k prv cur ip ic es ∧
        (ip = false → ic = false →
          (es = [] ∧ Outside2 r prv cur) ∨
          (Meets r prv cur ∧ ∃ loc loc2, loc ≠ .inside ∧ Ready r loc cur ∧ loc2 ≠ .inside ∧ Ready r loc2 prv ∧
            (getIntersection A r cur prv loc ⟨0, 0⟩).1 = true ∧ (getIntersection A r prv cur loc2 ⟨0, 0⟩).1 = true ∧
            es = [⟨k, (getIntersection A r prv cur loc2 ⟨0, 0⟩).2.2, true, .thru1 true⟩,
                  ⟨k, (getIntersection A r cur prv loc ⟨0, 0⟩).2.2, false, .thru2⟩]))) path es := by
  obtain ⟨es, he, hc⟩ := emits_cover hA ht hw hh path hlen
  refine ⟨es, he, coverP_mono ?_ hc⟩
  intro k prv cur ip ic es _ h
  refine ⟨h, ?_⟩
  rintro rfl rfl
  exact segPart_out_out hA ht hw hh h

/-- **`crossing_points_on_boundary`** (idealised intersection-point routine).  Assume in addition that, for every
segment of the polyline and every rectangle edge it properly crosses, the point the intersection routine returns lies
on the line of the segment and on the line of the edge (`IsectExactOn`; decidable on a concrete input by
`isectExactOnB`, true for exact arithmetic exactly when those intersection points have integer coordinates).
Then in the description of `lines_cover` every `Add` call that is not an input vertex adds a point of the rectangle
boundary that lies on the closed segment `path[k-1] path[k]` it is tagged with: every piece starts and ends at a
boundary crossing of the polyline or at an end point of the polyline of class in. -/
theorem crossing_points_on_boundary (A : Arith) (hA : SignExact A) (ht : IsectTotal A) (r : Rect)
    (hw : r.left < r.right) (hh : r.top < r.bottom) (path : Path) (hlen : 2 ≤ path.length)
    (hex : IsectExactOn A r path) :
    ∃ es, emits A r path = some es ∧
      CoverP r (fun k prv cur ip ic es => SegPart A r k prv cur ip ic es ∧
        ∀ e ∈ es, e.kind ≠ .vertex → OnSeg prv cur e.pt ∧ OnBoundary r e.pt) path es := by
  obtain ⟨es, he, hc⟩ := emits_cover hA ht hw hh path hlen
  refine ⟨es, he, coverP_mono ?_ hc⟩
  rintro k prv cur ip ic es ⟨t, h1, h2⟩ h
  exact ⟨h, segPart_points hA ht hw hh (hex t prv cur h1 h2).1 (hex t prv cur h1 h2).2 h⟩

/-- the idealisation holds for the exact arithmetic on a polyline whose crossings have integer coordinates, and fails
on one whose crossing `(0, 2.5)` has not -/
example : IsectExactOn exactArith ⟨0, 0, 10, 10⟩ [⟨-5, 5⟩, ⟨5, 5⟩, ⟨9, 15⟩, ⟨20, 4⟩] ∧
    isectExactOnB exactArith ⟨0, 0, 10, 10⟩ [⟨-2, 2⟩, ⟨2, 3⟩] = false :=
  ⟨isectExactOnB_sound (by decide), by decide⟩

/-- **`noLostCrossing_exact`.**  For sign-exact arithmetic the hypothesis `NoLostCrossing` of `lines_in_rect` holds
for every polyline: whenever the first `GetIntersection` call of a "passing right through" step succeeds, so does
the second one, whose result the C++ ignores.  (The defect `lines_in_rect_needs_hyp` is a rounding defect.) -/
theorem noLostCrossing_exact (A : Arith) (hA : SignExact A) (ht : IsectTotal A) (r : Rect) (hw : r.left < r.right)
    (hh : r.top < r.bottom) (path : Path) : NoLostCrossing A r path := by
  intro es he e hm
  by_cases hlen : 2 ≤ path.length
  · obtain ⟨es', he', hc⟩ := emits_cover hA ht hw hh path hlen
    rw [he] at he'
    cases he'
    exact coverP_all (Pr := fun e => e.kind ≠ .thru1 false) (segPart_no_lost hA ht hw hh) (by simp [V]) hc e hm
  · unfold emits at he
    have : decide (path.length < 2) = true := by simp; omega
    rw [this] at he
    simp at he
    subst he
    simp at hm

/-- **`lines_in_rect_exact`.**  `lines_in_rect` for sign-exact arithmetic, with its two run hypotheses discharged:
every vertex returned by `RectClipLines(rect, lines)` lies in any rectangle `R ⊇ rect` into which the intersection
routine delivers its points. -/
theorem lines_in_rect_exact (A : Arith) (hA : SignExact A) (ht : IsectTotal A) (r R : Rect) (hw : r.left < r.right)
    (hh : r.top < r.bottom) (lines : Paths) (hi : IsectIn A R) (hsub : Subrect r R)
    (out : Paths) (ho : rectClipLines A r lines = some out) :
    ∀ piece ∈ out, ∀ p ∈ piece, inRect R p = true :=
  lines_in_rect A r R lines (fun a b c _ => (hA a b c).1) hi hsub
    (fun path _ => noLostCrossing_exact A hA ht r hw hh path) out ho

/-- **`cover_vertex_calls`.**  The vertex calls of the run are exactly the vertices of class in, once each, in
input order — in particular every input vertex strictly inside the rectangle is added exactly once, and no vertex
outside the closed rectangle ever is. -/
theorem cover_vertex_calls (A : Arith) (hA : SignExact A) (ht : IsectTotal A) (r : Rect) (hw : r.left < r.right)
    (hh : r.top < r.bottom) (p0 : Pt) (rest : List Pt) (hlen : 1 ≤ rest.length) :
    ∃ es, emits A r (p0 :: rest) = some es ∧
      es.filter isVertex =
        (if cls0 r (p0 :: rest) then [V 0 p0] else []) ++ inVerts r 1 (cls0 r (p0 :: rest)) rest := by
  obtain ⟨es, he, hc⟩ := emits_cover hA ht hw hh (p0 :: rest) (by simp; omega)
  exact ⟨es, he, cover_vertices hc⟩

/-- the class of a vertex lies between "strictly inside" and "in the closed rectangle" -/
theorem class_sandwich (r : Rect) (ip : Bool) (p : Pt) :
    (sInB r p = true → clsNext r ip p = true) ∧ (clsNext r ip p = true → inRect r p = true) := by
  unfold clsNext
  refine ⟨fun h => by simp [h], fun h => ?_⟩
  simp only [Bool.or_eq_true, Bool.and_eq_true] at h
  rcases h with h | h
  · rw [inRect_iff]; have := (sInB_iff r p).mp h; unfold Lemmas.RCC.SI at this; omega
  · exact h.1

/-- **`lines_piece_count`** (iii).  The number of rings `Add` builds for one polyline is one for a first vertex of
class in plus the number of entering events (`start_new` calls: the `enter` crossings and the first points `thru1`
of through-going segments, by `startNew_iff_entering`).  Rings of a single point are dropped afterwards by
`GetPath`. -/
theorem lines_piece_count (A : Arith) (hA : SignExact A) (ht : IsectTotal A) (r : Rect) (hw : r.left < r.right)
    (hh : r.top < r.bottom) (path : Path) (hlen : 2 ≤ path.length) :
    ∃ es, emits A r path = some es ∧
      (addAll (es.map (fun e => (e.pt, e.startNew)))).length =
        (if cls0 r path then 1 else 0) + (es.filter (·.startNew)).length := by
  obtain ⟨es, he, hc⟩ := emits_cover hA ht hw hh path hlen
  exact ⟨es, he, rings_count hc⟩

/-- **`pieces_are_groups`.**  From the `Add` calls to the pieces returned (any arithmetic): group the calls at every
`start_new` (`addE`), remove consecutive duplicate points inside each group (`ringR`), put groups and points in
chronological order, and drop the groups of fewer than two points.  With `lines_cover` this reads off the pieces: each
piece is an entering crossing (or the first vertex, if of class in), the following run of consecutive vertices of
class in, and the exiting crossing (or nothing, if the polyline ends inside). -/
theorem pieces_are_groups (es : List Emit) :
    assemble es =
      (((es.foldl addE []).map (fun g => ringR (g.map (·.pt)))).reverse.map List.reverse).filter
        (fun p => decide (p.length ≥ 2)) := by
  unfold assemble getPaths
  rw [addAll_eq_groups]

/-- **`new_piece_only_after_leaving`** (the maximality that holds).  A new piece starts only on a segment whose
first vertex `path[k-1]` is of class out: that vertex is not strictly inside the rectangle and, unless it lies on the
boundary, it is outside the closed rectangle.  Together with `lines_cover` (consecutive vertices of class in are
never separated) the pieces are the maximal sub-polylines inside the closed rectangle whenever no vertex that is
reached from outside lies on the boundary; `pieces_not_maximal_witness` shows that the exception is real. -/
theorem new_piece_only_after_leaving (A : Arith) (hA : SignExact A) (ht : IsectTotal A) (r : Rect)
    (hw : r.left < r.right) (hh : r.top < r.bottom) (path : Path) (hlen : 2 ≤ path.length) :
    ∃ es, emits A r path = some es ∧ ∀ e ∈ es, e.startNew = true →
      1 ≤ e.k ∧ ∃ prv, path[e.k - 1]? = some prv ∧ sInB r prv = false ∧ (onBd r prv = false → inRect r prv = false) := by
  obtain ⟨es, he, hc⟩ := emits_cover hA ht hw hh path hlen
  refine ⟨es, he, ?_⟩
  intro e hm hs
  unfold Cover CoverP at hc
  match path, hc with
  | p0 :: rest, hc =>
    obtain ⟨e2, rfl, ht'⟩ := hc
    rcases List.mem_append.mp hm with hm | hm
    · split at hm
      · simp only [List.mem_singleton] at hm; subst hm; simp [V] at hs
      · simp at hm
    · obtain ⟨t, prv, hp, hk, hcl⟩ := tail_startNew _ _ _ _ ht' e hm hs
      refine ⟨by omega, prv, ?_, ?_⟩
      · have : e.k - 1 = t := by omega
        rw [this]; exact hp
      · exact class_false (path := p0 :: rest) (t := t) (by simpa [classes] using hcl) hp

/-- **Negation of "the pieces are exactly the maximal sub-polylines inside the closed rectangle".**
Rectangle `[0,10]²`, polyline `(20,10) → (0,0) → (10,20)`: it enters at `(10,5)`, passes through the corner `(0,0)`
— a vertex on the boundary, reached from outside — and leaves at `(5,10)`; the part inside the closed rectangle is the
single polyline `(10,5) → (0,0) → (5,10)`.  The model (exact arithmetic) — and the compiled `RectClipLines`, harness
label `cover.boundary_vertex_split` — return it as **two** pieces that share the vertex `(0,0)`: the vertex is of
class out (it inherits the class of `(20,10)`), so the segment reaching it and the segment leaving it are both
treated as passing right through.  The union of the pieces is still the right point set. -/
theorem pieces_not_maximal_witness :
    rectClipLines exactArith ⟨0, 0, 10, 10⟩ [[⟨20, 10⟩, ⟨0, 0⟩, ⟨10, 20⟩]] =
      some [[⟨10, 5⟩, ⟨0, 0⟩], [⟨0, 0⟩, ⟨5, 10⟩]] ∧
    classes ⟨0, 0, 10, 10⟩ [⟨20, 10⟩, ⟨0, 0⟩, ⟨10, 20⟩] = [false, false, false] ∧
    onBd ⟨0, 0, 10, 10⟩ ⟨0, 0⟩ = true ∧
    (∀ p ∈ [(⟨10, 5⟩ : Pt), ⟨0, 0⟩, ⟨5, 10⟩], inRect ⟨0, 0, 10, 10⟩ p = true) := by
  decide

/-- a second witness, with the boundary vertices in the interior of sides: `(-5,3) → (0,4) → (10,6) → (5,5)` is
returned as `(0,4) → (10,6)` and `(10,6) → (5,5)` -/
theorem pieces_not_maximal_witness2 :
    rectClipLines exactArith ⟨0, 0, 10, 10⟩ [[⟨-5, 3⟩, ⟨0, 4⟩, ⟨10, 6⟩, ⟨5, 5⟩]] =
      some [[⟨0, 4⟩, ⟨10, 6⟩], [⟨10, 6⟩, ⟨5, 5⟩]] := by
  decide

/-- with no vertex on the boundary other than the first and the last (`noInnerBoundaryB`), the class of every other
vertex is simply "strictly inside", equivalently "in the closed rectangle" -/
theorem class_general_position (r : Rect) (ip : Bool) (p : Pt) (h : onBd r p = false) :
    clsNext r ip p = sInB r p ∧ (sInB r p = inRect r p) := by
  have hnb : ¬ OnBoundary r p := fun hb => by rw [(onBd_iff r p).mpr hb] at h; cases h
  have e : sInB r p = inRect r p := by
    rw [Bool.eq_iff_iff, sInB_iff, inRect_iff]
    unfold Lemmas.RCC.SI; unfold OnBoundary at hnb; omega
  refine ⟨?_, e⟩
  unfold clsNext
  rw [e]
  cases inRect r p <;> simp

example : noInnerBoundaryB ⟨0, 0, 10, 10⟩ [⟨0, 5⟩, ⟨15, 7⟩, ⟨3, 3⟩, ⟨10, 4⟩] = true ∧
    noInnerBoundaryB ⟨0, 0, 10, 10⟩ [⟨20, 10⟩, ⟨0, 0⟩, ⟨10, 20⟩] = false := by decide

end Clipper.Props.C09Cover

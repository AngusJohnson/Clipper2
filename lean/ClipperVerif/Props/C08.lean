/-
C08 — RectClip equals intersection with the rectangle, path by path (partial by design, DESIGN.md §5 C08).

Proved here, about `Model/RectClip.lean` and the definitions *generated* from clipper.rectclip.cpp
(`Gen.GetAdjacentLocation`, `Gen.HeadingClockwise`, `Gen.AreOpposites`; `Gen.GetLocation` is characterised in
`Props/C09.lean`, theorem `getLocation_spec`):
* the bounds shortcuts of `RectClip64::Execute` (`shortcut_inside`, `shortcut_outside`, `shortcut_small`, and the
  converse `shortcut_sound`);
* the helpers' exact meaning on the four sides (`getAdjacent_cycle`, `headingClockwise_iff`, `areOpposites_iff`);
* every `do { AddCorner … } while (prev != loc)` loop runs at most 4 (3 if `prev ≠ loc`) steps and never indexes
  `rect_as_path_` out of range when neither location is `Inside` (`corner_loops_terminate`), and would never
  terminate if the target were `Inside` (`corner_loop_diverges_on_inside`).
* the location / corner automaton `RectClip64::ExecuteInternal` (model `Model/RectClipAuto.lean`, tied to the code bit
  for bit by the `RCAUTO` records: raw result ring and `start_locs_` read before `CheckEdges` runs), second half of
  this file: provenance of every point passed to `Add` (`added_points_provenance`), hence containment in the
  rectangle (`added_points_in_rect`, `raw_ring_in_rect`) and "new vertices lie on the boundary"
  (`new_vertices_on_boundary`) under the arithmetic hypotheses of C09 — `NoLostCrossingA` is needed
  (`raw_ring_needs_hyp`, the known finding kf.lost_crossing); no `path[i]` is ever read out of range
  (`executeInternal_no_path_fault`); termination within `2n+2` iterations without any fault
  (`executeInternal_total`) under the run hypothesis `RunFine`, decided input by input by `runFineB`
  (`runFineB_sound`); which corner-loop call sites can never see `Inside` and which see it exactly when a crossing
  is missed (`corner_loop_targets_never_inside`, `corner_loop_inside_reachable`); for sign-exact arithmetic no entering
  crossing is ever missed (`entering_crossing_found_exact`, geometric completeness of `GetIntersection` from inside) and
  therefore no corner loop ever gets the target `Inside` (`corner_loop_targets_never_inside_exact`);
  `inside_path_unchanged`, `outside_path_corners_or_nothing`.
`CheckEdges`, `TidyEdges`, `GetPath` and the per-path body of `Execute`: model `Model/RectClipTidy.lean`, theorems in
`Props/C08Tidy.lean`.  Not proved: the winding-number statement of the property; it is checked on the real code by the
exact judge `RECTCLIPCHECK` (Driver/C08.lean).
-/
import ClipperVerif.Lemmas.RectClip
import ClipperVerif.Lemmas.RectClipAuto
import ClipperVerif.Lemmas.RectClipComplete
import ClipperVerif.Lemmas.PipRefine
import ClipperVerif.Props.C09
namespace Clipper.Props.C08
open Clipper Clipper.Model.RC Clipper.Lemmas.RC Clipper.Lemmas.RCA Clipper.Lemmas.RCE

/-- next side clockwise (screen coordinates, y down): left → top → right → bottom → left -/
def cwNext : Location → Location
  | .left => .top | .top => .right | .right => .bottom | .bottom => .left | .inside => .inside
def ccwNext : Location → Location
  | .left => .bottom | .top => .left | .right => .top | .bottom => .right | .inside => .inside

/-- `GetAdjacentLocation` steps once round the four sides in the requested direction, the two directions are
inverse to each other, four steps return to the start, and the result is never `Inside`. -/
theorem getAdjacent_cycle (a : Location) (cw : Bool) :
    (a ≠ .inside → Gen.GetAdjacentLocation a cw = if cw then cwNext a else ccwNext a) ∧
    (a ≠ .inside → Gen.GetAdjacentLocation (Gen.GetAdjacentLocation a cw) (!cw) = a) ∧
    (a ≠ .inside → Gen.GetAdjacentLocation (Gen.GetAdjacentLocation (Gen.GetAdjacentLocation
        (Gen.GetAdjacentLocation a cw) cw) cw) cw = a) ∧
    Gen.GetAdjacentLocation a cw ≠ .inside := by
  refine ⟨?_, ?_, ?_, adj_ne_inside a cw⟩ <;> cases a <;> cases cw <;> decide

/-- `HeadingClockwise(prev, curr)` holds exactly when `curr` is the next side clockwise (for `prev` a side). -/
theorem headingClockwise_iff (prev curr : Location) (h : prev ≠ .inside) :
    Gen.HeadingClockwise prev curr = true ↔ curr = cwNext prev := by
  cases prev <;> cases curr <;> first | exact absurd rfl h | decide

/-- `AreOpposites(prev, curr)` holds exactly for the pairs left/right and top/bottom (for sides). -/
theorem areOpposites_iff (prev curr : Location) (hp : prev ≠ .inside) (hc : curr ≠ .inside) :
    Gen.AreOpposites prev curr = true ↔ curr = cwNext (cwNext prev) := by
  cases prev <;> cases curr <;> first | exact absurd rfl hp | exact absurd rfl hc | decide

example : Gen.HeadingClockwise .bottom .left = true ∧ Gen.AreOpposites .top .bottom = true := by decide

/-- **`corner_loops_terminate`.**  Entered with `prev` and `loc` both different from `Inside`, the loops
`do { AddCorner(prev, isClockw); } while (prev != loc);` and
`do { start_locs_.emplace_back(prev); prev = GetAdjacentLocation(prev, isClockw); } while (prev != loc);`
finish within 4 iterations (3 when `prev ≠ loc` on entry), perform the same number of iterations, and every
`rect_as_path_[…]` index they use is in range (`cornerLoop` would return `none` otherwise). -/
theorem corner_loops_terminate (r : Rect) (prev loc : Location) (cw : Bool)
    (hp : prev ≠ .inside) (hl : loc ≠ .inside) :
    ∃ pts ls, cornerLoop r loc cw 4 prev = some pts ∧ startLocsLoop loc cw 4 prev = some ls ∧
      1 ≤ pts.length ∧ pts.length ≤ 4 ∧ (prev ≠ loc → pts.length ≤ 3) ∧ ls.length = pts.length :=
  corner_loops r prev loc cw hp hl

example (r : Rect) : cornerLoop r .bottom true 4 .left = some [r.c0, r.c1, r.c2] := rfl

/-- The precondition `loc ≠ Inside` is needed: with target `Inside` the location loop never ends, whatever the
fuel (`GetAdjacentLocation` never returns `Inside`).  In the C++ this would be an endless loop appending to
`start_locs_`; `ExecuteInternal` reaches the loops with `loc == Inside` only after a missed entering crossing
(`corner_loop_targets_never_inside`). -/
theorem corner_loop_diverges_on_inside (cw : Bool) (fuel : Nat) (prev : Location) :
    startLocsLoop .inside cw fuel prev = none :=
  startLocsLoop_inside cw fuel prev

/-- a walk that goes once round clockwise is recognised, its reverse is not -/
example : startLocsAreClockwise [.left, .top, .right, .bottom, .left] = true ∧
    startLocsAreClockwise [.left, .bottom, .right, .top, .left] = false := by decide

/-- each step clockwise counts +1, each step counter-clockwise −1, anything else 0 -/
theorem startLocsSum_step (a b : Location) (rest : List Location) (ha : a ≠ .inside) (hb : b ≠ .inside) :
    startLocsSum (a :: b :: rest) =
      (if b = cwNext a then 1 else if b = ccwNext a then -1 else 0) + startLocsSum (b :: rest) := by
  rw [startLocsSum]
  congr 1
  cases a <;> cases b <;> first | exact absurd rfl ha | exact absurd rfl hb | decide

def I64 (x : Int) : Prop := i64min ≤ x ∧ x ≤ i64max

/-- a running minimum: below its start value and every element, and attained by one of them -/
theorem foldl_min (f : Pt → Int) (path : Path) (m : Int) :
    path.foldl (fun m p => if f p < m then f p else m) m ≤ m ∧
    (∀ p ∈ path, path.foldl (fun m p => if f p < m then f p else m) m ≤ f p) ∧
    (path.foldl (fun m p => if f p < m then f p else m) m = m ∨
      ∃ p ∈ path, path.foldl (fun m p => if f p < m then f p else m) m = f p) := by
  induction path generalizing m with
  | nil => simp
  | cons q path ih =>
    simp only [List.foldl_cons]
    obtain ⟨h1, h2, h3⟩ := ih (if f q < m then f q else m)
    generalize path.foldl (fun m p => if f p < m then f p else m) (if f q < m then f q else m) = R at *
    refine ⟨by split at h1 <;> omega, ?_, ?_⟩
    · intro p hp
      rcases List.mem_cons.mp hp with rfl | hp
      · split at h1 <;> omega
      · exact h2 p hp
    · rcases h3 with h | ⟨p, hp, h⟩
      · split at h
        · exact Or.inr ⟨q, List.mem_cons_self .., h⟩
        · exact Or.inl h
      · exact Or.inr ⟨p, List.mem_cons_of_mem _ hp, h⟩

theorem foldl_max (f : Pt → Int) (path : Path) (m : Int) :
    m ≤ path.foldl (fun m p => if f p > m then f p else m) m ∧
    (∀ p ∈ path, f p ≤ path.foldl (fun m p => if f p > m then f p else m) m) ∧
    (path.foldl (fun m p => if f p > m then f p else m) m = m ∨
      ∃ p ∈ path, path.foldl (fun m p => if f p > m then f p else m) m = f p) := by
  induction path generalizing m with
  | nil => simp
  | cons q path ih =>
    simp only [List.foldl_cons]
    obtain ⟨h1, h2, h3⟩ := ih (if f q > m then f q else m)
    generalize path.foldl (fun m p => if f p > m then f p else m) (if f q > m then f q else m) = R at *
    refine ⟨by split at h1 <;> omega, ?_, ?_⟩
    · intro p hp
      rcases List.mem_cons.mp hp with rfl | hp
      · split at h1 <;> omega
      · exact h2 p hp
    · rcases h3 with h | ⟨p, hp, h⟩
      · split at h
        · exact Or.inr ⟨q, List.mem_cons_self .., h⟩
        · exact Or.inl h
      · exact Or.inr ⟨p, List.mem_cons_of_mem _ hp, h⟩

/-- `GetBounds` is four independent running extrema -/
theorem getBounds_eq (path : Path) : getBounds path =
    ⟨path.foldl (fun m p => if p.x < m then p.x else m) i64max, path.foldl (fun m p => if p.y < m then p.y else m) i64max,
     path.foldl (fun m p => if p.x > m then p.x else m) i64min, path.foldl (fun m p => if p.y > m then p.y else m) i64min⟩ := by
  unfold getBounds
  generalize i64max = a, i64min = b
  have : ∀ (l t r' bt : Int), path.foldl (fun b p => (⟨if p.x < b.left then p.x else b.left,
        if p.y < b.top then p.y else b.top, if p.x > b.right then p.x else b.right,
        if p.y > b.bottom then p.y else b.bottom⟩ : Rect)) ⟨l, t, r', bt⟩ =
      ⟨path.foldl (fun m p => if p.x < m then p.x else m) l, path.foldl (fun m p => if p.y < m then p.y else m) t,
       path.foldl (fun m p => if p.x > m then p.x else m) r', path.foldl (fun m p => if p.y > m then p.y else m) bt⟩ := by
    induction path with
    | nil => intros; rfl
    | cons q path ih => intro l t r' bt; simp only [List.foldl_cons]; exact ih _ _ _ _
  exact this a a b b

/-- `GetBounds` of a non-empty path with `int64` coordinates is its bounding box: it contains every vertex and
each of its four sides is attained by a vertex. -/
theorem getBounds_spec (path : Path) (hne : path ≠ []) (hr : ∀ p ∈ path, I64 p.x ∧ I64 p.y) :
    (∀ p ∈ path, (getBounds path).left ≤ p.x ∧ p.x ≤ (getBounds path).right ∧
        (getBounds path).top ≤ p.y ∧ p.y ≤ (getBounds path).bottom) ∧
    (∃ p ∈ path, (getBounds path).left = p.x) ∧ (∃ p ∈ path, (getBounds path).right = p.x) ∧
    (∃ p ∈ path, (getBounds path).top = p.y) ∧ (∃ p ∈ path, (getBounds path).bottom = p.y) := by
  obtain ⟨_, l2, l3⟩ := foldl_min (·.x) path i64max
  obtain ⟨_, t2, t3⟩ := foldl_min (·.y) path i64max
  obtain ⟨_, r2, r3⟩ := foldl_max (·.x) path i64min
  obtain ⟨_, b2, b3⟩ := foldl_max (·.y) path i64min
  obtain ⟨p0, hp0⟩ := List.exists_mem_of_ne_nil path hne
  -- an extremum still at its start value is attained by any vertex, which cannot be beyond `int64`
  have hi := hr p0 hp0
  have := l2 p0 hp0; have := t2 p0 hp0; have := r2 p0 hp0; have := b2 p0 hp0
  unfold I64 at hi
  rw [getBounds_eq]
  refine ⟨fun p hp => ⟨l2 p hp, r2 p hp, t2 p hp, b2 p hp⟩, l3.elim (fun h => ⟨p0, hp0, ?_⟩) id,
    r3.elim (fun h => ⟨p0, hp0, ?_⟩) id, t3.elim (fun h => ⟨p0, hp0, ?_⟩) id, b3.elim (fun h => ⟨p0, hp0, ?_⟩) id⟩ <;>
    simp only at * <;> omega

/-- **`shortcut_small`.** A path of fewer than three points gives no output. -/
theorem shortcut_small (r : Rect) (path : Path) (h : path.length < 3) : executeShortcut r path = some [] := by
  unfold executeShortcut; rw [if_pos h]

/-- **`shortcut_inside`.**  A path (≥ 3 points, `int64` coordinates) all of whose vertices lie in the closed
rectangle is returned unchanged — one output path, identical to the input, whatever its orientation. -/
theorem shortcut_inside (r : Rect) (path : Path) (hlen : 3 ≤ path.length)
    (hr : ∀ p ∈ path, I64 p.x ∧ I64 p.y) (hin : ∀ p ∈ path, inRect r p = true) :
    executeShortcut r path = some [path] := by
  have hne : path ≠ [] := by intro h; rw [h] at hlen; simp at hlen
  obtain ⟨h1, ⟨pl, hpl, hl⟩, ⟨pr, hpr, hrr⟩, ⟨pt, hpt, ht⟩, ⟨pb, hpb, hb⟩⟩ := getBounds_spec path hne hr
  have il := (inRect_iff r pl).mp (hin pl hpl)
  have ir := (inRect_iff r pr).mp (hin pr hpr)
  have it := (inRect_iff r pt).mp (hin pt hpt)
  have ib := (inRect_iff r pb).mp (hin pb hpb)
  have bl := h1 pl hpl
  have bt := h1 pt hpt
  unfold executeShortcut
  rw [if_neg (by omega)]
  simp only
  have hint : r.intersects (getBounds path) = true := by
    unfold Rect.intersects
    simp only [Bool.and_eq_true, decide_eq_true_eq]
    omega
  have hcont : r.containsRect (getBounds path) = true := by
    unfold Rect.containsRect
    simp only [Bool.and_eq_true, decide_eq_true_eq]
    omega
  rw [hint, hcont]
  rfl

/-- **`shortcut_outside`.**  A path whose vertices all lie strictly to one side of the rectangle
(bounding boxes disjoint) is dropped. -/
theorem shortcut_outside (r : Rect) (path : Path) (hne : path ≠ [])
    (hr : ∀ p ∈ path, I64 p.x ∧ I64 p.y)
    (hout : (∀ p ∈ path, p.x < r.left) ∨ (∀ p ∈ path, p.x > r.right) ∨
            (∀ p ∈ path, p.y < r.top) ∨ (∀ p ∈ path, p.y > r.bottom)) :
    executeShortcut r path = some [] := by
  obtain ⟨h1, ⟨pl, hpl, hl⟩, ⟨pr, hpr, hrr⟩, ⟨pt, hpt, ht⟩, ⟨pb, hpb, hb⟩⟩ := getBounds_spec path hne hr
  unfold executeShortcut
  split
  · rfl
  · simp only
    have hint : r.intersects (getBounds path) = false := by
      unfold Rect.intersects
      rw [Bool.and_eq_false_iff]
      simp only [decide_eq_false_iff_not]
      rcases hout with h | h | h | h
      · have := h pr hpr; left; omega
      · have := h pl hpl; left; omega
      · have := h pb hpb; right; omega
      · have := h pt hpt; right; omega
    rw [hint]
    rfl

/-- **Soundness of the shortcuts** (the converse direction): when `Execute` decides a path of ≥ 3 points without
running the general algorithm (non-empty rectangle), then either it returned the path itself and every vertex is in
the closed rectangle, or it returned nothing and all vertices lie strictly to one side of the rectangle. -/
theorem shortcut_sound (r : Rect) (path : Path) (hre : r.isEmpty = false) (hlen : 3 ≤ path.length)
    (hr : ∀ p ∈ path, I64 p.x ∧ I64 p.y) (out : Paths) (h : executeShortcut r path = some out) :
    (out = [path] ∧ ∀ p ∈ path, inRect r p = true) ∨
    (out = [] ∧ ((∀ p ∈ path, p.x < r.left) ∨ (∀ p ∈ path, p.x > r.right) ∨
                 (∀ p ∈ path, p.y < r.top) ∨ (∀ p ∈ path, p.y > r.bottom))) := by
  have hne : path ≠ [] := by intro h; rw [h] at hlen; simp at hlen
  obtain ⟨h1, _⟩ := getBounds_spec path hne hr
  obtain ⟨p0, hp0⟩ := List.exists_mem_of_ne_nil path hne
  have hb0 := h1 p0 hp0
  have := nonempty_dims hre
  unfold executeShortcut at h
  rw [if_neg (by omega)] at h
  simp only at h
  split at h
  · rename_i hint
    right
    simp only [Option.some.injEq] at h
    refine ⟨h.symm, ?_⟩
    unfold Rect.intersects at hint
    simp only [Bool.not_eq_true', Bool.and_eq_false_iff, decide_eq_false_iff_not] at hint
    rcases hint with hx | hy
    · by_cases hc : (getBounds path).right < r.left
      · left; intro p hp; have := h1 p hp; omega
      · right; left; intro p hp; have := h1 p hp; omega
    · by_cases hc : (getBounds path).bottom < r.top
      · right; right; left; intro p hp; have := h1 p hp; omega
      · right; right; right; intro p hp; have := h1 p hp; omega
  · split at h
    · rename_i hcont
      left
      simp only [Option.some.injEq] at h
      refine ⟨h.symm, ?_⟩
      unfold Rect.containsRect at hcont
      simp only [Bool.and_eq_true, decide_eq_true_eq] at hcont
      intro p hp
      have := h1 p hp
      rw [inRect_iff]; omega
    · simp at h

/-- the hypotheses of the shortcut theorems are satisfiable by non-trivial inputs -/
example : executeShortcut ⟨0, 0, 10, 10⟩ [⟨1, 1⟩, ⟨9, 2⟩, ⟨5, 10⟩] = some [[⟨1, 1⟩, ⟨9, 2⟩, ⟨5, 10⟩]] ∧
    executeShortcut ⟨0, 0, 10, 10⟩ [⟨11, 1⟩, ⟨19, 2⟩, ⟨15, 10⟩] = some [] ∧
    executeShortcut ⟨0, 0, 10, 10⟩ [⟨-1, 1⟩, ⟨19, 2⟩, ⟨15, 10⟩] = none := by decide

/- The location / corner automaton of `RectClip64::ExecuteInternal`.  Model: `Model/RectClipAuto.lean`
(`executeInternalA A pip r path`): the list of `Add` calls, each tagged with its origin, `start_locs_` and the final
values of the locals, for an abstract arithmetic `A : Arith` (`CrossProduct` signs,
`GetSegmentIntersectPt`) and an abstract `PointInPolygon`.  `Execute` calls `ExecuteInternal` only for a non-empty
rectangle; that is the hypothesis `r.isEmpty = false` below. -/

/-- **`added_points_in_rect`, provenance part.**  Every point passed to `Add` is (`AGood`)
* `vertex`: the path vertex `path[k]`, and it lies in the closed rectangle, or
* `corner`: one of the four rectangle corners, or
* `cross`: the point a *successful* `GetIntersection` call reported for the segment ending in `path[k]`, or
* `thru1 f`: the point the second `GetIntersection` call of a passing-right-through step left in `ip2`; `f` is the
  result of that call, which the C++ ignores.
Holds for every arithmetic, every `PointInPolygon` and every path. -/
theorem added_points_provenance (A : Arith) (pip : Pt → Path → Option PipResult) (r : Rect) (path : Path)
    (hne : r.isEmpty = false) (res : AResult) (h : executeInternalA A pip r path = .ok res) :
    ∀ e ∈ res.es, AGood A r path e := by
  rcases exec_cases h with ⟨_, rfl⟩ | ⟨last, es, hl, hs, rfl⟩ | ⟨last, loc0, o, fin, _, _, hlo, hfin, rfl⟩
  · simp
  · obtain ⟨rfl, hb⟩ := startLoc_inl hl hs
    apply good_vtx (i := 0) (j := path.length)
    intro k q hm
    have m := mem_indexFrom 0 path k q hm
    have hk : path[k]? = some q := by simpa using m.2.2
    exact ⟨hk, onBoundary_inRect (hb q (List.mem_of_getElem? hk)) hne, by omega, by omega⟩
  · exact all_append (aloop_good A r path _ _ o hlo) (afinish_good pip r path loc0 o fin hfin)

/-- The second `GetIntersection` call of every passing-right-through step of the run — whose result the C++
ignores — found the first crossing (same hypothesis as `Props.C09.NoLostCrossing`). -/
def NoLostCrossingA (A : Arith) (pip : Pt → Path → Option PipResult) (r : Rect) (path : Path) : Prop :=
  ∀ res, executeInternalA A pip r path = .ok res → ∀ e ∈ res.es, e.kind ≠ .thru1 false

theorem agood_inR {A : Arith} {r R : Rect} {path : Path} (hne : r.isEmpty = false) (hce : CrossZeroExact A)
    (hi : IsectIn A R) (hsub : Subrect r R) {e : AEmit} (hg : AGood A r path e) (hl : e.kind ≠ .thru1 false) :
    inRect R e.pt = true := by
  rcases Clipper.Lemmas.RCC.agood_not_lost hg hl with
    ⟨_, _, hin⟩ | hc | ⟨cur, prv, loc, _, _, ⟨h1, h2⟩ | ⟨h1, h2⟩⟩
  · exact inRect_mono hsub hin
  · exact inRect_mono hsub (corner_inRect hne hc)
  · rw [← h2]; exact getIntersection_inR hne hce hi hsub _ _ _ _ h1
  · rw [← h2]; exact getIntersection_inR hne hce hi hsub _ _ _ _ h1

/-- **`added_points_in_rect`.**  Every point passed to `Add` lies in the closed rectangle `R ⊇ rect` into which
`GetSegmentIntersectPt` delivers its points (`R = rect` for an exact routine, `rect` widened by one unit for the real
one), provided `CrossProduct(a, b, c) == 0` is decided exactly when `b c` is axis-parallel and no first crossing of
a through-going segment is lost.  The last hypothesis is necessary: `raw_ring_needs_hyp`. -/
theorem added_points_in_rect (A : Arith) (pip : Pt → Path → Option PipResult) (r R : Rect) (path : Path)
    (hne : r.isEmpty = false) (hce : CrossZeroExact A) (hi : IsectIn A R) (hsub : Subrect r R)
    (hnl : NoLostCrossingA A pip r path) (res : AResult) (h : executeInternalA A pip r path = .ok res) :
    ∀ e ∈ res.es, inRect R e.pt = true :=
  fun e he => agood_inR hne hce hi hsub (added_points_provenance A pip r path hne res h e he) (hnl res h e he)

theorem agood_new {A : Arith} {r : Rect} {path : Path} (Q : Pt → Prop) (hQ : EdgeSat A r Q) {e : AEmit}
    (hg : AGood A r path e) (hl : e.kind ≠ .thru1 false) : e.pt ∈ path ∨ Q e.pt := by
  have hQ' : EdgeSat A r (fun q => q ∈ path ∨ Q q) :=
    ⟨fun c hc => Or.inr (hQ.1 c hc), fun a b c d q he hq => Or.inr (hQ.2 a b c d q he hq)⟩
  rcases Clipper.Lemmas.RCC.agood_not_lost hg hl with
    ⟨_, hk, _⟩ | hc | ⟨cur, prv, loc, hc, hp, ⟨h1, h2⟩ | ⟨h1, h2⟩⟩
  · exact Or.inl (List.mem_of_getElem? hk)
  · exact Or.inr (hQ.1 _ hc)
  · rw [← h2]
    exact getIntersection_sat _ hQ' (Or.inl (List.mem_of_getElem? hc)) (Or.inl (prevPt_mem hp)) loc _ h1
  · rw [← h2]
    exact getIntersection_sat _ hQ' (Or.inl (prevPt_mem hp)) (Or.inl (List.mem_of_getElem? hc)) loc _ h1

/-- **`new_vertices_on_boundary`.**  Let `Q` be any property that holds for the four rectangle corners and for every
point `GetSegmentIntersectPt` computes against a rectangle edge (`EdgeSat`; e.g. `Q` = "on the boundary" for an exact
routine, "within one unit of the boundary" for the real one).  Then every point passed to `Add` that is not an input
vertex satisfies `Q` — provided no first crossing of a through-going segment is lost. -/
theorem new_vertices_on_boundary (A : Arith) (pip : Pt → Path → Option PipResult) (r : Rect) (path : Path)
    (Q : Pt → Prop) (hne : r.isEmpty = false) (hQ : EdgeSat A r Q) (hnl : NoLostCrossingA A pip r path)
    (res : AResult) (h : executeInternalA A pip r path = .ok res) :
    ∀ e ∈ res.es, e.pt ∈ path ∨ Q e.pt :=
  fun e he => agood_new Q hQ (added_points_provenance A pip r path hne res h e he) (hnl res h e he)

/-- every point of the raw result ring was passed to `Add` -/
theorem mem_ringOf {es : List AEmit} {p : Pt} (h : p ∈ ringOf es) : ∃ e ∈ es, e.pt = p :=
  List.mem_map.mp ((Clipper.Lemmas.RCC.ringOf_sublist es).subset h)

/-- **The raw result ring** (`results_[0]` when `ExecuteInternal` returns, before `CheckEdges` / `TidyEdges`) lies in
the closed rectangle `R`, and each of its vertices is an input vertex or lies on the boundary of the rectangle —
for an arithmetic whose intersection points lie on the boundary of `rect` (`EdgeSat … OnBoundary`, then `R = rect`
does), exact zero tests on axis-parallel edges, and no lost crossing. -/
theorem raw_ring_in_rect (A : Arith) (pip : Pt → Path → Option PipResult) (r R : Rect) (path : Path)
    (hne : r.isEmpty = false) (hce : CrossZeroExact A) (hi : IsectIn A R) (hsub : Subrect r R)
    (hQ : EdgeSat A r (OnBoundary r)) (hnl : NoLostCrossingA A pip r path)
    (res : AResult) (h : executeInternalA A pip r path = .ok res) :
    ∀ p ∈ ringOf res.es, inRect R p = true ∧ (p ∈ path ∨ OnBoundary r p) := by
  intro p hp
  obtain ⟨e, he, rfl⟩ := mem_ringOf hp
  exact ⟨added_points_in_rect A pip r R path hne hce hi hsub hnl res h e he,
    new_vertices_on_boundary A pip r path _ hne hQ hnl res h e he⟩

/-- exact `PointInPolygon` (the model of property C18) as the `pip` parameter -/
def pipX (p : Pt) (poly : Path) : Option PipResult := Clipper.Model.pointInPolygonX p poly

/-- the hypotheses of `raw_ring_in_rect` are satisfiable on a run with a through-going segment, an entering and an
exiting one (arithmetic: exact signs, every intersection "computed" as the corner `c0`) -/
example : let A := Props.C09.exampleArith ⟨0, 0, 10, 10⟩
    CrossZeroExact A ∧ IsectIn A ⟨0, 0, 10, 10⟩ ∧ EdgeSat A ⟨0, 0, 10, 10⟩ (OnBoundary ⟨0, 0, 10, 10⟩) ∧
    NoLostCrossingA A pipX ⟨0, 0, 10, 10⟩ [⟨-5, 5⟩, ⟨15, 7⟩, ⟨3, 3⟩] ∧
    (executeInternalA A pipX ⟨0, 0, 10, 10⟩ [⟨-5, 5⟩, ⟨15, 7⟩, ⟨3, 3⟩]).toOption.map (·.es.map (·.kind)) =
      some [.cross, .thru1 true, .corner, .cross, .vertex] := by
  refine ⟨?_, ?_, ⟨?_, ?_⟩, ?_, by decide⟩
  · intro a b c _; simp [Props.C09.exampleArith, Int.sign_eq_zero_iff_zero]
  · intro a b c d q h; simp [Props.C09.exampleArith] at h; subst h; decide
  · intro c hc
    simp only [Rect.asPath, List.mem_cons, List.not_mem_nil, or_false] at hc
    rcases hc with rfl | rfl | rfl | rfl <;> simp [OnBoundary, Rect.c0, Rect.c1, Rect.c2, Rect.c3]
  · intro a b c d q _ h; simp [Props.C09.exampleArith] at h; subst h; simp [OnBoundary, Rect.c0]
  · intro res hres e he
    have : (executeInternalA (Props.C09.exampleArith ⟨0, 0, 10, 10⟩) pipX ⟨0, 0, 10, 10⟩ [⟨-5, 5⟩, ⟨15, 7⟩, ⟨3, 3⟩]).toOption.map
        (·.es.all (fun e => e.kind != .thru1 false)) = some true := by decide
    rw [hres] at this
    simp only [Except.toOption, Option.map_some, Option.some.injEq, List.all_eq_true, bne_iff_ne] at this
    exact this e he

/- `NoLostCrossingA` is necessary (known finding kf.lost_crossing, RectClip variant).  Real input (harness labels
`kf.lost_crossing.spec`, `kf.lost_crossing.auto.model`): `RectClip(Rect64(347, 434, 67109211, 67109298), {(-28115609, 29720495), (95231410, -100663865), (1000, 1000)})`: the raw ring contains `(0,0)`, left in
`ip2` by the second `GetIntersection` call, whose failure `ExecuteInternal` ignores.  As in `Props.C09` the kernel
witness uses an arithmetic that is exact except for the one product the `double` computation rounds to zero. -/

/-- the cross product of `Props.C09.witnessArith` (exact signs except `CrossProduct(c0, b, a)`, rounded to zero as the
`double` computation does); every intersection point is "computed" as the corner `c0`, a point of the rectangle -/
def witnessArithA : Arith := ⟨Props.C09.witnessArith.cross, fun _ _ _ _ => some Props.C09.wRect.c0⟩

/-- **Negation of `added_points_in_rect` without `NoLostCrossingA`.**  The arithmetic satisfies the other hypotheses
(and `RunFine`, see `raw_ring_needs_hyp_regular`), yet the raw ring contains `(0,0)`, outside `[347, 67109211] × [434, 67109298]`. -/
theorem raw_ring_needs_hyp :
    CrossZeroExact witnessArithA ∧ IsectIn witnessArithA Props.C09.wRect ∧
    (executeInternalA witnessArithA pipX Props.C09.wRect
        [Props.C09.wA, Props.C09.wB, ⟨1000, 1000⟩]).toOption.map (fun res => ringOf res.es) =
      some [⟨347, 434⟩, ⟨0, 0⟩, ⟨347, 434⟩, ⟨1000, 1000⟩] ∧
    inRect Props.C09.wRect ⟨0, 0⟩ = false := by
  refine ⟨fun a b c h => Props.C09.witnessArith_crossZeroExact a b c h, ?_, by decide, by decide⟩
  intro a b c d q h
  simp only [witnessArithA, Option.some.injEq] at h
  subst h; decide

/-- **No `path[i]` is read out of range**, whatever the arithmetic: the only faults the model can raise are a
rectangle-corner index / a corner loop that cannot end (`corner`), a faulting `PointInPolygon` (`pip`), and
exhausted fuel. -/
theorem executeInternal_no_path_fault (A : Arith) (pip : Pt → Path → Option PipResult) (r : Rect) (path : Path) :
    executeInternalA A pip r path ≠ .error .path := by
  intro h
  unfold executeInternalA at h
  split at h
  · cases h
  · split at h
    · cases h
    · split at h
      · rename_i f hf
        simp only [Except.error.injEq] at h
        subst h
        rcases aloop_fault A r path _ _ _ hf with h | h <;> cases h
      · split at h
        · rename_i f hf
          simp only [Except.error.injEq] at h
          subst h
          rcases afinish_fault pip r path _ _ _ hf with h | h <;> cases h
        · cases h

/-- Run hypothesis of the termination theorem: `StepFine` (no missed crossing; a crossing found on an iteration that
does not advance `i` leaves a location from which the next iteration advances) in every control state the main loop
goes through.  These are facts about `GetIntersection` under the given arithmetic which a geometrically complete
intersection test has; they are not proved here for any arithmetic, but decided input by input (`runFineB`). -/
def RunFine (A : Arith) (r : Rect) (path : Path) : Prop :=
  ∀ last loc0, path.getLast? = some last → startLoc r path last = .inr loc0 →
    ∀ c, Reach A r path ⟨0, loc0, .inside, .inside⟩ c → c.i < path.length → StepFine A r path c

/-- the executable check `runFineB` (driver command `RCAUTOHYP`, evaluated on every generated input) is sound -/
theorem runFineB_sound (A : Arith) (r : Rect) (path : Path) (h : runFineB A r path = true) : RunFine A r path := by
  intro last loc0 hl hs c hr hi
  unfold runFineB at h
  rw [hl] at h
  simp only [hs] at h
  exact fineLoop_sound A r path _ _ h c hr hi

/-- the run of `raw_ring_needs_hyp` is regular: the lost crossing is not a termination problem -/
theorem raw_ring_needs_hyp_regular :
    RunFine witnessArithA Props.C09.wRect [Props.C09.wA, Props.C09.wB, ⟨1000, 1000⟩] :=
  runFineB_sound _ _ _ (by decide)

/-- **`executeInternal_total`** (C10 obligations of this code).  Under `RunFine` and a total `PointInPolygon`,
`ExecuteInternal` returns: the main loop ends within `2 * path.size() + 2` iterations (every iteration either advances
`i` or leaves a location from which the next one does), every `do { … } while (prev != loc)` corner loop ends within 4
iterations, no `rect_as_path_[…]` or `path[…]` index is out of range, and `start_locs_` never contains `Inside`.
Without `RunFine` the statement is false for an abstract arithmetic (`corner_loop_inside_reachable`); see
`executeInternal_no_path_fault` for the part that holds unconditionally. -/
theorem executeInternal_total (A : Arith) (pip : Pt → Path → Option PipResult) (r : Rect) (path : Path)
    (hfine : RunFine A r path) (hpip : ∀ q poly, (pip q poly).isSome = true) :
    ∃ res, executeInternalA A pip r path = .ok res ∧ ∀ l ∈ res.startLocs, l ≠ .inside := by
  unfold executeInternalA
  cases hl : path.getLast? with
  | none => exact ⟨_, rfl, by simp⟩
  | some last =>
    simp only
    cases hs : startLoc r path last with
    | inl es => exact ⟨_, rfl, by simp⟩
    | inr loc0 =>
      simp only
      obtain ⟨o, ho, hsl⟩ := aloop_total A r path ⟨0, loc0, .inside, .inside⟩ (hfine last loc0 hl hs)
        (afuel path) ⟨0, loc0, .inside, .inside⟩ Reach.init (Nat.zero_le _) (Or.inl (by simp [afuel]))
      rw [ho]
      simp only
      obtain ⟨fin, hfin⟩ := afinish_total pip r path loc0 o hpip hsl
      rw [hfin]
      exact ⟨_, rfl, hsl⟩

/-- `PointInPolygon` is total for every cross-product function, in particular for the exact and for the `double` one -/
theorem pipG_total (cp : Pt → Pt → Pt → Int) (p : Pt) (poly : Path) :
    (Clipper.Model.pointInPolygonG cp p poly).isSome = true := by
  by_cases hn : poly.length < 3
  · simp [Clipper.Model.pointInPolygonG, hn]
  · by_cases hfirst : Clipper.Model.findFirst p.y poly = poly.length
    · simp [Clipper.Model.pointInPolygonG, hn, hfirst]
    · have hlt : Clipper.Model.findFirst p.y poly < poly.length := by
        have := Clipper.Lemmas.Geom.findFirst_le p.y poly; omega
      rw [Clipper.Lemmas.Geom.pointInPolygonG_eq_cyc cp p poly _ (by omega) (List.getElem?_eq_getElem hlt)]
      rfl

/-- the hypotheses of `executeInternal_total` hold on a run that enters, leaves, passes right through and turns two
corners (exact signs); the `double` instance of `PointInPolygon` used by the correspondence is total too -/
example : RunFine (Props.C09.exampleArith ⟨0, 0, 10, 10⟩) ⟨0, 0, 10, 10⟩ [⟨-5, 5⟩, ⟨15, 7⟩, ⟨3, 3⟩, ⟨20, 20⟩, ⟨-7, 30⟩] ∧
    (∀ q poly, (pipX q poly).isSome = true) ∧ (∀ q poly, (pipFloat q poly).isSome = true) :=
  ⟨runFineB_sound _ _ _ (by decide), fun q poly => pipG_total _ q poly, fun q poly => pipG_total _ q poly⟩

/-- **`corner_loop_targets_never_inside`.**  One iteration of the main loop, `loc`/`j` being what `GetNextLocation`
returns, `cur = path[j]`, `prv` the vertex before it, `x` the first `GetIntersection` call.  For **every** arithmetic:
* the corner loop of the entering branch (`do AddCorner(prev, cw) while (prev != crossing_loc)`) starts from a
  location `≠ Inside` and has a target `≠ Inside`;
* both two-location `AddCorner` calls of the passing-right-through branch get locations `≠ Inside`;
* the two loops of the remaining-outside branch (`do … while (prev != loc)`) have target `loc`, and `loc == Inside`
  there means precisely that `GetIntersection` reported "no crossing" for a segment whose end point `cur` lies
  strictly inside the rectangle while the automaton was outside — a missed crossing, excluded by `StepFine`.
So `corner_loop_diverges_on_inside` is unreachable exactly as long as no entering crossing is missed. -/
theorem corner_loop_targets_never_inside (A : Arith) (r : Rect) (path : Path) (c : Ctl) (cur prv : Pt)
    (hcur : path[(getNextLocation r path c.loc c.i).2.1]? = some cur) :
    let loc := (getNextLocation r path c.loc c.i).1
    let x := getIntersection A r cur prv loc ⟨0, 0⟩
    (x.1 = true → loc = .inside → c.loc ≠ .inside ∧ x.2.1 ≠ .inside) ∧
    (x.1 = true → loc ≠ .inside → c.loc ≠ .inside →
      x.2.1 ≠ .inside ∧ (getIntersection A r prv cur c.loc ⟨0, 0⟩).2.1 ≠ .inside ∧
      (getLocation r cur x.2.1).2 ≠ .inside) ∧
    (x.1 = false → loc = .inside →
      c.loc ≠ .inside ∧ (r.left < cur.x ∧ cur.x < r.right ∧ r.top < cur.y ∧ cur.y < r.bottom)) ∧
    (StepFine A r path c → prevPt path (getNextLocation r path c.loc c.i).2.1 = some prv → x.1 = false →
      loc ≠ .inside) := by
  intro loc x
  have hcne : loc = .inside → c.loc ≠ .inside := gnl_inside_from r path c.loc c.i cur hcur
  refine ⟨?_, ?_, ?_, ?_⟩
  · intro hx hl
    exact ⟨hcne hl, (getIntersection_loc A r cur prv loc ⟨0, 0⟩).1 hx⟩
  · intro hx hl hc
    refine ⟨(getIntersection_loc A r cur prv loc ⟨0, 0⟩).1 hx, getIntersection_loc_ne A r prv cur c.loc ⟨0, 0⟩ hc, ?_⟩
    exact getLocation_ne_inside_of_ready ((gnl_spec r path c.loc c.i).ready cur hcur) hl _
  · intro _ hl
    exact ⟨hcne hl, gnl_inside_strict r path c.loc c.i cur (hcne hl) hcur hl⟩
  · intro hf hprv hx
    exact ((hf cur prv hcur hprv).1 hx).1

/-- **`entering_crossing_found_exact`: the missed crossing cannot happen with exact signs.**  For an arithmetic that
reports the exact sign of every cross product (`SignExact`) and always delivers an intersection point (`IsectTotal`), a
non-empty rectangle, a point `cur` strictly inside it and a point `prv` that is not strictly inside,
`GetIntersection(cur, prv, Inside)` finds a crossing: one of the four `GetSegmentIntersection` calls succeeds
(`Lemmas.RLC.inside_hits`: seen from `prv`, which lies beyond some side, the segment meets the rectangle, and the case
analysis is that of a call from outside, `Lemmas.RLC.meets_arms`).  Together with the third clause of
`corner_loop_targets_never_inside`: with exact signs the loops of the remaining-outside branch can get the target
`Inside` only for a segment with *both* ends strictly inside the rectangle while the automaton believes it is outside. -/
theorem entering_crossing_found_exact (A : Arith) (hA : SignExact A) (ht : IsectTotal A) (r : Rect)
    (hne : r.isEmpty = false) (cur prv : Pt)
    (hin : r.left < cur.x ∧ cur.x < r.right ∧ r.top < cur.y ∧ cur.y < r.bottom)
    (hout : ¬ (r.left < prv.x ∧ prv.x < r.right ∧ r.top < prv.y ∧ prv.y < r.bottom)) (ip : Pt) :
    (getIntersection A r cur prv .inside ip).1 = true :=
  getIntersection_from_inside hA ht hin hout ip

/-- the hypotheses are satisfiable: the exact-sign arithmetic of `Props.C09` -/
example : SignExact (Props.C09.exampleArith ⟨0, 0, 10, 10⟩) ∧ IsectTotal (Props.C09.exampleArith ⟨0, 0, 10, 10⟩) := by
  refine ⟨fun a b c => ⟨by simp [Props.C09.exampleArith, Int.sign_eq_zero_iff_zero], ?_⟩, fun a b c d => rfl⟩
  simp only [Props.C09.exampleArith, gt_iff_lt]
  exact Int.sign_pos_iff

/-- **`corner_loop_targets_never_inside_exact`.**  For a sign-exact arithmetic and a non-empty rectangle, in every control state the main loop of `ExecuteInternal` goes
through (`Reach` from the start state), a failed `GetIntersection` call implies that `GetNextLocation` did not classify
the vertex as `Inside`: the two `do … while (prev != loc)` loops of the remaining-outside branch never get the target
`Inside`.  With the first two clauses of `corner_loop_targets_never_inside` (which hold for every arithmetic) no corner
loop of `ExecuteInternal` ever has the target `Inside`, so `corner_loop_diverges_on_inside` is unreachable.
(This is the first clause of `StepFine` in `Lemmas.RCC.runFine_exact`; the geometric content is
`entering_crossing_found_exact`.)  For `double` arithmetic the same holds as long as the sign of the cross products
involved is not rounded to zero, which within |coordinates| ≤ 2^40 cannot happen for this configuration (relative gap
≥ 2^-41) and does happen from about 2^53 (`probes/rectclip_hang_2p53.cpp.txt`). -/
theorem corner_loop_targets_never_inside_exact (A : Arith) (hA : SignExact A) (ht : IsectTotal A) (r : Rect)
    (hne : r.isEmpty = false) (path : Path) (last : Pt) (loc0 : Location) (hl : path.getLast? = some last)
    (hs : startLoc r path last = .inr loc0) (c : Ctl) (hr : Reach A r path ⟨0, loc0, .inside, .inside⟩ c)
    (cur prv : Pt) (hcur : path[(getNextLocation r path c.loc c.i).2.1]? = some cur)
    (hprv : prevPt path (getNextLocation r path c.loc c.i).2.1 = some prv)
    (hx : (getIntersection A r cur prv (getNextLocation r path c.loc c.i).1 ⟨0, 0⟩).1 = false) :
    (getNextLocation r path c.loc c.i).1 ≠ .inside :=
  ((Clipper.Lemmas.RCC.runFine_exact hA ht r hne path last loc0 hl hs c hr cur prv hcur hprv).1 hx).1

/-- the fault a run ends with, if any -/
def faultOf : Except Fault AResult → Option Fault
  | .ok _ => none
  | .error f => some f

/-- an arithmetic whose `CrossProduct` is always positive: `GetSegmentIntersection` never finds anything -/
def blindArith : Arith := ⟨fun _ _ _ => 1, fun _ _ _ _ => none⟩

/-- **The hypothesis is needed: with an abstract arithmetic the corner loops do get the target `Inside`.**  For the
triangle `(-5,5) (5,5) (5,6)` and the rectangle `[0,10]²` the vertex `(5,5)` is classified `Inside`, the blind
`GetIntersection` reports no crossing, and `do { start_locs_.emplace_back(prev); … } while (prev != Inside)` is entered:
the model reports the fault, `RunFine` is false, and by `corner_loop_diverges_on_inside` the loop never ends whatever
the fuel.  (With the real `double` arithmetic the same happens only outside the property's coordinate range, from
about 2^53: `probes/rectclip_hang_2p53.cpp.txt`.) -/
theorem corner_loop_inside_reachable :
    faultOf (executeInternalA blindArith pipX ⟨0, 0, 10, 10⟩ [⟨-5, 5⟩, ⟨5, 5⟩, ⟨5, 6⟩]) = some .corner ∧
    runFineB blindArith ⟨0, 0, 10, 10⟩ [⟨-5, 5⟩, ⟨5, 5⟩, ⟨5, 6⟩] = false ∧
    ∀ cw fuel prev, startLocsLoop .inside cw fuel prev = none :=
  ⟨by decide, by decide, corner_loop_diverges_on_inside⟩

/-- **`inside_path_unchanged`** (automaton level).  A non-empty path all of whose vertices lie in the closed
rectangle is passed to `Add` vertex by vertex, in order, and nothing else is (no corner, no crossing, `start_locs_`
stays empty) — for every arithmetic, which is never consulted. -/
theorem inside_path_unchanged (A : Arith) (pip : Pt → Path → Option PipResult) (r : Rect) (path : Path)
    (hne : path ≠ []) (hin : ∀ p ∈ path, inRect r p = true) :
    ∃ res, executeInternalA A pip r path = .ok res ∧ res.es = vtxEmits (indexFrom 0 path) ∧
      res.es.map (·.pt) = path ∧ res.startLocs = [] ∧ res.firstCross = .inside := by
  have hmap : (vtxEmits (indexFrom 0 path)).map (·.pt) = path := by
    have := indexFrom_map_snd 0 path
    simpa [vtxEmits, List.map_map, Function.comp_def] using this
  unfold executeInternalA
  cases hl : path.getLast? with
  | none => rw [List.getLast?_eq_none_iff] at hl; exact absurd hl hne
  | some last =>
    simp only
    rcases startLoc_inside r path last (List.mem_of_getLast? hl) hin with hs | hs
    · rw [hs]; exact ⟨_, rfl, rfl, hmap, rfl, rfl⟩
    · rw [hs]
      simp only [afuel]
      rw [aloop_all_inside A r path hne hin]
      simp only [afinish, if_true, ne_eq, not_true_eq_false, if_false, List.append_nil]
      exact ⟨_, rfl, rfl, hmap, rfl, rfl⟩

example : ∀ p ∈ ([⟨0, 3⟩, ⟨10, 10⟩, ⟨4, 4⟩] : Path), inRect ⟨0, 0, 10, 10⟩ p = true := by decide

/-- **`outside_path_corners_or_nothing`** (automaton level).  Let no vertex of the path lie in the closed rectangle
and let `GetIntersection` report no crossing for any of its segments.  Then `first_cross_` stays `Inside`, no point is
added during the main loop, and the result is decided by the closing logic alone: if the path's bounding box contains
the rectangle and `Path1ContainsPath2(path, rect)` answers `b = true`, the four corners are added — in the order
`c0 c1 c2 c3` when `StartLocsAreClockwise(start_locs_)`, reversed otherwise — and in every other case nothing is. -/
theorem outside_path_corners_or_nothing (A : Arith) (pip : Pt → Path → Option PipResult) (r : Rect) (path : Path)
    (hne : r.isEmpty = false) (hpne : path ≠ []) (hout : ∀ p ∈ path, outsideLoc r p ≠ none)
    (hmiss : ∀ cur prv loc, cur ∈ path → prv ∈ path → (getIntersection A r cur prv loc ⟨0, 0⟩).1 = false)
    (b : Bool) (hb : path1ContainsPath2 pip path r.asPath = some b) :
    ∃ res, executeInternalA A pip r path = .ok res ∧ res.firstCross = .inside ∧
      res.es.map (·.pt) =
        if (getBounds path).containsRect r && b then
          (if startLocsAreClockwise res.startLocs then r.asPath else r.asPath.reverse)
        else [] := by
  unfold executeInternalA
  cases hl : path.getLast? with
  | none => exact absurd (List.getLast?_eq_none_iff.mp hl) hpne
  | some last =>
    simp only
    obtain ⟨loc0, hs, hl0⟩ := startLoc_outside r hne path last (hout last (List.mem_of_getLast? hl))
    rw [hs]
    simp only
    obtain ⟨o, ho, hes, hfc⟩ := aloop_outside A r path hout hmiss (afuel path) ⟨0, loc0, .inside, .inside⟩ hl0 rfl rfl
      (by simp only [afuel]; omega)
    rw [ho]
    simp only
    unfold afinish
    simp only [hfc, if_true, ne_eq, hl0, not_false_eq_true, hb, hes, List.nil_append]
    cases hc : (getBounds path).containsRect r
    · simp only [Bool.false_eq_true, if_false, Bool.false_and]
      exact ⟨_, rfl, rfl, rfl⟩
    · cases b
      · simp only [if_true, Bool.and_false, Bool.false_eq_true, if_false]
        exact ⟨_, rfl, rfl, rfl⟩
      · simp only [if_true, Bool.and_true]
        refine ⟨_, rfl, rfl, ?_⟩
        simp only [cornerEmits, List.map_map, Function.comp_def, List.map_id']

/-- the hypotheses of `outside_path_corners_or_nothing` hold for a square around the rectangle (exact signs): the
result is the rectangle, clockwise like the path -/
example : (∀ p ∈ ([⟨-5, -5⟩, ⟨15, -5⟩, ⟨15, 15⟩, ⟨-5, 15⟩] : Path), outsideLoc ⟨0, 0, 10, 10⟩ p ≠ none) ∧
    (executeInternalA (Props.C09.exampleArith ⟨0, 0, 10, 10⟩) (fun _ _ => some .isInside) ⟨0, 0, 10, 10⟩
      [⟨-5, -5⟩, ⟨15, -5⟩, ⟨15, 15⟩, ⟨-5, 15⟩]).toOption.map (fun res => (res.es.map (·.pt), res.startLocs)) =
      some ([⟨0, 0⟩, ⟨10, 0⟩, ⟨10, 10⟩, ⟨0, 10⟩], [.left, .top, .right, .bottom]) := by
  refine ⟨by decide, by decide⟩

end Clipper.Props.C08

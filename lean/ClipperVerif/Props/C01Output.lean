/-
C01 — THE OUTPUT RINGS RUN ALONG THE INPUT EDGES  (the last geometric step of C01 at model level; glue `Model/SweepPoints.lean`).

It rests on (all proved, all tied to the compiled engine):
 * `Props/C01Region`  — from the input paths alone the bookkeeping events are derived, never rejected, and on every scanline strictly inside a
   scanbeam the hot edges delimit exactly the region `inR ct fr (wind subj p) (wind clip p)` (`scanline_region`);
 * `Props/C01Rings`   — ring assembly as list operations: conservation, ring ends = last emissions, every pair of ring neighbours is a logged
   segment (`extend` / `meet` / join kinds) — for ANY points handed in with the events;
 * `Props/C11Sides`   — a front edge has the region on its right.
None of these says WHERE the emitted points lie.  In the exact scanbeam model every emission has a definite point: a local minimum's vertex, an edge's
top vertex, or the exact crossing point of two edges (a rational point).  This file:

 1. `sweepEventsP_accepted`  the derived events decorated with the exact points (`Model/SweepPoints.sweepEventsP`, coordinates scaled by a common
                             denominator `D` of all crossing points) are accepted by the ring model `runR`; they contain no join, split or open-path
                             event; forgetting the points, the insertion and the top-of-scanbeam events ARE those of `Model/SweepEvents`, and the
                             intersection events of every scanbeam are, like those of `Model/SweepEvents`, adjacent transpositions that turn the AEL
                             after the insertions into the AEL after `DoIntersections` — in BOTTOM-UP order of the exact crossing points (the order
                             of the real `ProcessIntersectList`) instead of insertion-sort order; the side state follows the scanbeam model's AEL at
                             all three stages of every scanbeam; `sweepEventsP_same_hot`: with the same hot flags as the run of `Props/C01Region`;
 2. `emission_on_edge`       every event's point lies on the closed input segment of every edge the event touches (`GEv`): the common bottom of the
                             two bounds of a local minimum, a point of BOTH segments at a crossing, the common top at a local maximum, top = bottom of the
                             successor at an intermediate vertex; `ring_ends_on_edges`: after every prefix of the sweep the end point of the ring end an
                             `Active` holds lies on the input edge that `Active` currently is; `sweepEventsP_bottom_up`: the event list is in bottom-up order
                             (the heights of its points never increase); `emissions_bottom_up`: every logged segment runs upwards (non-increasing
                             y from its older to its newer end point);
 3. `ring_segments_on_input_edges`  every pair of ring neighbours (cyclically for finished rings) lies on ONE input edge: `p, q ∈` the closed segment
                             of the same input edge (also for the `meet` segments: they are the stretch of the second edge up to the meeting point);
                             no join segment occurs (`Props/C01Rings.ring_segments_on_edges_partial` made concrete for the derived sweep).
 4. `output_edges_cross_scanline_partial`  PARTIAL: for the sweep's own state after the insertions of a scanbeam, at the heights where it is in
                             scanline order: hot ⇔ holds a ring end; that ring end's end point lies on the hot edge's input segment, not above the
                             bottom scanline; front ⇔ region on the right; the hot edges delimit `inR ct fr (wind subj p) (wind clip p)`.  The full
                             statement (the sides of the finished rings crossing a scanline are its hot edges, hence `wind (output rings) p ≠ 0 ⟺
                             inR …`) is `Props/C01Crown.finished_rings_sides_cross_scanline_sum` / `output_region`; here it is only evaluated on the
                             two triangles.
 Also: `crossing_dens_pos` (the scale `sweepDen` is admissible), `output_rings_on_input_edges(_lcm)` (1–3 for inputs given as paths).

Orientation as in `Props/C01Sweep`: y grows downwards, the sweep climbs from large y to small y; "bottom-up" = non-increasing y.
Coordinates: `D > 0` a common multiple of the denominators of all crossing points of the sweep (`DenOK`; `sweepDen` is the least one); a vertex `v`
is `D·v = Pt.scale D v`, a crossing `(xn/d, yn/d)` is `(xn·(D/d), yn·(D/d))`; `OnE D e p` = `p` is on the closed segment `[D·e.bot, D·e.top]`
(`onE_iff_onSeg`: the specification's `onSeg`).

OUTSIDE: the ROUNDING of crossing points (the engine stores them rounded to integers: its rings differ from these
exact rings by less than one unit per vertex — harness `C01output`, command `SWEEPRINGS`; C01's tolerance is 2 units), `CleanCollinear` /
`BuildPath` (C03), horizontal edges, joins, open paths; `Built.Hyp` / `Built.HypR` are hypotheses here (derived in `Props/C01Build`; `DenOK` is a theorem for `sweepDen`).
-/
import ClipperVerif.Lemmas.C01OutputBeam
import ClipperVerif.Props.C01RegionRings
namespace Clipper.Props.C01Output
open Clipper Clipper.Model Clipper.Model.AelOrder Clipper.Model.SweepOrder Clipper.Model.SweepEvents Clipper.Model.SweepPoints
open Clipper.Lemmas.SweepOrder Clipper.Lemmas.C01Region Clipper.Lemmas.C01Output Clipper.Props.C01Sweep Clipper.Props.C01Region
open Clipper.Props.C01RegionRings (baseOps baseOf)

theorem foldl_lcm_dvd : ∀ (ds : List Int) (acc : Nat),
    acc ∣ ds.foldl (fun acc d => Nat.lcm acc d.natAbs) acc ∧ ∀ d ∈ ds, d.natAbs ∣ ds.foldl (fun acc d => Nat.lcm acc d.natAbs) acc := by
  intro ds
  induction ds with
  | nil => intro acc; exact ⟨Nat.dvd_refl _, fun d hd => by cases hd⟩
  | cons x xs ih =>
    intro acc
    obtain ⟨h1, h2⟩ := ih (Nat.lcm acc x.natAbs)
    simp only [List.foldl_cons]
    refine ⟨Nat.dvd_trans (Nat.dvd_lcm_left _ _) h1, ?_⟩
    intro d hd
    rcases List.mem_cons.1 hd with rfl | hd
    · exact Nat.dvd_trans (Nat.dvd_lcm_right _ _) h1
    · exact h2 d hd


theorem foldl_lcm_pos : ∀ (ds : List Int) (acc : Nat), 0 < acc → (∀ d ∈ ds, d ≠ 0) →
    0 < ds.foldl (fun acc d => Nat.lcm acc d.natAbs) acc := by
  intro ds
  induction ds with
  | nil => intro acc h _; exact h
  | cons x xs ih =>
    intro acc h hne
    simp only [List.foldl_cons]
    exact ih _ (Nat.lcm_pos h (Int.natAbs_pos.2 (hne x (by simp)))) (fun d hd => hne d (by simp [hd]))

/-- **the least common multiple of the crossing denominators is an admissible scale** (none of them is zero: under the hypotheses of the sweep
theorems they are positive, `crossing_dens_pos`) -/
theorem denOK_lcmList (ds : List Int) (h : ∀ d ∈ ds, d ≠ 0) : DenOK (lcmList ds) ds := by
  refine ⟨?_, ?_⟩
  · unfold lcmList
    exact Int.natCast_pos.2 (foldl_lcm_pos ds 1 (by omega) h)
  · intro d hd
    unfold lcmList
    have := (foldl_lcm_dvd ds 1).2 d hd
    rw [← Int.natAbs_dvd_natAbs, Int.natAbs_natCast]
    exact this

/-- **sweepEventsP_accepted.**  ASSUMED: the hypotheses of `Props/C01Region.sweepEvents_accepted` (`AllUp`, `NextOK`, `Near cx`, `SweepOK`,
`HypR`; all but `Near` decidable), `ct ≠ NoClip`, and `D` a positive common multiple of the denominators of the crossing points of the sweep
(`DenOK`, decidable; `sweepDen` is one).
PROVED, for the ring model `Model/AelRings.lean` started in the empty state:
 * the decorated event list `sweepEventsP` is accepted (`runR … = .ok rs`): no event is rejected, none faults (`AddLocalMaxPoly` never meets two
   front or two back edges, no null dereference), every `update` names a position inside the AEL;
 * it consists of `insertPair` events of closed paths, `intersect`, `removePair` and `update` events only (`PlainOp`): no `join`, no `split`, no
   open-path event — joins do not occur in the derived run;
 * for every scanbeam `r` of the decorated run — it is `beamRunP … aelr y0 y1` for the AEL `aelr` the scanbeam model enters it with, and
   `q = beamRun … aelr y0 y1` is the same scanbeam of the run of `Props/C01Region` (same snapshots) —: forgetting points and `update`s, the insertion
   events of `r` ARE the insertion events of `q` and its top-of-scanbeam events ARE those of `q`; its intersection events are `intersect i` for a list
   `is` of adjacent transpositions with `applySwaps is inserted = some afterIsect` (exactly what `sortSwaps_spec` says of `q.evIsect`); the three
   groups are accepted one after the other from the state reached by the scanbeams before, and after each group the side state, its records
   forgotten, lists the same edges in the same order as the scanbeam model's AEL (`Tracks`); `BeamFacts`: that AEL consists of exactly the input
   edges crossing the scanbeam. -/
theorem sweepEventsP_accepted (cfg : Cfg) (hct : cfg.ct ≠ .noClip) (D : Int) (edges : List GEdge) (valid : Int → GEdge → GEdge → Bool)
    (cx : GEdge → Int → Int) (next : GEdge → Option GEdge) (mins : Int → List (GEdge × GEdge)) (lab : Lab) (ys : List Int)
    (hup : AllUp edges) (hnx : NextOK edges next mins) (hn : Near cx) (hok : SweepOK edges valid next mins ys)
    (hR : HypR edges next mins lab ys) (hD : DenOK D (sweepDens valid cx next mins ys)) :
    (∃ rs, runR cfg RState.empty (sweepEventsP D valid cx next mins lab ys) = .ok rs) ∧
    (∀ op ∈ sweepEventsP D valid cx next mins lab ys, PlainOp op) ∧
    ∀ (pre : List BeamRunP) (r : BeamRunP) (post : List BeamRunP), beamRunsP D valid cx next mins lab [] ys = pre ++ r :: post →
      ∃ (r1 : RState) (aelr : List GEdge) (y0 y1 : Int) (rI rX rT : RState),
        runR cfg RState.empty (pre.flatMap BeamRunP.events) = .ok r1 ∧
        r = beamRunP D valid cx next mins lab aelr y0 y1 ∧
        baseOps r.evIns = (beamRun valid cx next mins lab aelr y0 y1).evIns ∧
        baseOps r.evTop = (beamRun valid cx next mins lab aelr y0 y1).evTop ∧
        (∃ is, baseOps r.evIsect = is.map .intersect ∧ applySwaps is r.snap.inserted = some r.snap.afterIsect) ∧
        runR cfg r1 r.evIns = .ok rI ∧ Tracks lab (erase rI.s.ael) r.snap.inserted ∧
        runR cfg rI r.evIsect = .ok rX ∧ Tracks lab (erase rX.s.ael) r.snap.afterIsect ∧
        runR cfg rX r.evTop = .ok rT ∧ Tracks lab (erase rT.s.ael) r.snap.afterTop ∧
        BeamFacts edges r.snap := by
  have h := sweepP_empty cfg hct D edges valid cx next mins lab ys hup hnx hn hok hR hD
  obtain ⟨rEnd, _, e1, _⟩ := h.all
  refine ⟨⟨rEnd, e1⟩, h.plainOps, ?_⟩
  intro pre r post hsplit
  obtain ⟨r1, aelr, y0, y1, rI, rX, rT, f1, _, f3, f4, f5, _⟩ := h.beams pre r post hsplit
  exact ⟨r1, aelr, y0, y1, rI, rX, rT, f1, f3, f4.eraseIns, f4.eraseTop, f4.swaps, f4.runIns, f4.trIns, f4.runIsect, f4.trIsect,
    f4.runTop, f4.trTop, f5⟩

/-- **sweepEventsP_same_hot.**  The order of the transpositions does not matter for the hot flags: ANY state `rs` of the ring model reached from
the empty state whose side state lists, records forgotten, the same edges in the same order as a state `l` of the bookkeeping model reached from
the empty AEL (e.g. the states of `Props/C01Region.sweepEvents_accepted` / `scanline_region` at the same stage of the same scanbeam) has the
same hot flags as `l`; and there a closed edge is hot iff it owns a ring end. -/
theorem sweepEventsP_same_hot (cfg : Cfg) (hct : cfg.ct ≠ .noClip) (lab : Lab) (es : List GEdge) (rops : List ROp) (rs : RState)
    (hr : runR cfg RState.empty rops = .ok rs) (htr : Tracks lab (erase rs.s.ael) es)
    (evs : List Op) (l : Ael) (hl : Model.run cfg [] evs = some l) (htl : Tracks lab l es) :
    (erase rs.s.ael).map (·.hot) = l.map (·.hot) ∧
    ∀ x ∈ rs.s.ael, x.e.isOpen = false ∧ x.e.hot = (x.orec.isSome || x.join != .none) := by
  have hE := erased_run cfg hct rops rs hr
  have i1 := Clipper.Props.C01.inv_reachable cfg hct _ _ hE
  have i2 := Clipper.Props.C01.inv_reachable cfg hct _ _ hl
  refine ⟨hot_determined_by_order cfg _ _ i1 i2 (by rw [htr, htl]) (tracks_closed htr), ?_⟩
  intro x hx
  have hc : x.e.isOpen = false := tracks_closed htr x.e (List.mem_map_of_mem hx)
  exact ⟨hc, reach_hot hct ⟨rops, hr⟩ hx hc⟩

/-- **emission_on_edge.**  Same hypotheses.  The decorated event list is GEOMETRIC (`GRun`, `GEv`): following the AEL of the scanbeam model
through the events (`insertPair` puts the two bounds in, `intersect` exchanges two neighbours, `removePair` takes a local maximum out, `update`
replaces an edge by the next edge of its bound), EVERY event's point lies on the closed input segment of EVERY edge it touches:
 * `insertPair i … pt`: `pt = D·l.bot = D·r.bot`, the common bottom vertex of the two bounds `l`, `r` that go in at positions `i`, `i+1`;
 * `intersect i pt`:    `pt` lies on the closed segment of the edge at `i` AND on the closed segment of the edge at `i+1` (`OnE`);
 * `removePair i pt`:   `pt = D·a.top = D·b.top`, the common top vertex of the edges at `i`, `i+1`;
 * `update i pt`:       `pt = D·a.top = D·a'.bot` for the edge `a` at `i` and its successor `a'` in the bound (an input edge), which takes its place.
The geometric AEL the events are read against IS the scanbeam model's: for every scanbeam `r` the insertion events lead from the AEL the scanbeam is
entered with to `r.snap.inserted`, the intersection events from there to `r.snap.afterIsect`, the top-of-scanbeam events to `r.snap.afterTop`
(the snapshots of `Props/C01Sweep`, tied to the engine by `SWEEPORDER`).  The points of the insertion events of a scanbeam `[y1, y0]` have height
`D·y0`, those of its intersection events heights in `(D·y1, D·y0]`, those of its top-of-scanbeam events height `D·y1`. -/
theorem emission_on_edge (cfg : Cfg) (hct : cfg.ct ≠ .noClip) (D : Int) (edges : List GEdge) (valid : Int → GEdge → GEdge → Bool)
    (cx : GEdge → Int → Int) (next : GEdge → Option GEdge) (mins : Int → List (GEdge × GEdge)) (lab : Lab) (ys : List Int)
    (hup : AllUp edges) (hnx : NextOK edges next mins) (hn : Near cx) (hok : SweepOK edges valid next mins ys)
    (hR : HypR edges next mins lab ys) (hD : DenOK D (sweepDens valid cx next mins ys)) :
    (∃ aelEnd, GRun D (· ∈ edges) [] (sweepEventsP D valid cx next mins lab ys) aelEnd) ∧
    ∀ (pre : List BeamRunP) (r : BeamRunP) (post : List BeamRunP), beamRunsP D valid cx next mins lab [] ys = pre ++ r :: post →
      ∃ aelr, GRun D (· ∈ edges) [] (pre.flatMap BeamRunP.events) aelr ∧
        GRun D (· ∈ edges) aelr r.evIns r.snap.inserted ∧ GRun D (· ∈ edges) r.snap.inserted r.evIsect r.snap.afterIsect ∧
        GRun D (· ∈ edges) r.snap.afterIsect r.evTop r.snap.afterTop ∧
        (∀ op ∈ r.evIns, op.pt.y = D * r.snap.y0) ∧
        (∀ op ∈ r.evIsect, D * r.snap.y1 < op.pt.y ∧ op.pt.y ≤ D * r.snap.y0) ∧
        (∀ op ∈ r.evTop, op.pt.y = D * r.snap.y1) := by
  have h := sweepP_empty cfg hct D edges valid cx next mins lab ys hup hnx hn hok hR hD
  obtain ⟨_, aelEnd, _, e2, _⟩ := h.all
  refine ⟨⟨aelEnd, e2⟩, ?_⟩
  intro pre r post hsplit
  obtain ⟨_, aelr, _, _, _, _, _, _, f2, _, f4, _⟩ := h.beams pre r post hsplit
  exact ⟨aelr, f2, f4.gIns, f4.gIsect, f4.gTop, f4.hIns, f4.heights, f4.hTop⟩

/-- **ring_ends_on_edges.**  Same hypotheses.  After EVERY prefix `a` of the decorated event list (`sweepEventsP = a ++ b`), in the state `ra`
of the ring model: the side state's AEL is in step with the AEL `es` of the scanbeam model at that moment (`GeoAll`: same length, position by
position), every geometric edge is an input edge, and for every `Active` that owns a ring end `(outrec, IsFront)` the END POINT of that ring end
— by `ring_ends_at_edges` the last point emitted on that `Active` — lies on the closed segment of the input edge that `Active` currently is.
Also: no edge is joined or open (`Plain`), and every segment logged so far lies on one input edge (`SegGeo`). -/
theorem ring_ends_on_edges (cfg : Cfg) (hct : cfg.ct ≠ .noClip) (D : Int) (edges : List GEdge) (valid : Int → GEdge → GEdge → Bool)
    (cx : GEdge → Int → Int) (next : GEdge → Option GEdge) (mins : Int → List (GEdge × GEdge)) (lab : Lab) (ys : List Int)
    (hup : AllUp edges) (hnx : NextOK edges next mins) (hn : Near cx) (hok : SweepOK edges valid next mins ys)
    (hR : HypR edges next mins lab ys) (hD : DenOK D (sweepDens valid cx next mins ys))
    (a b : List ROp) (hab : sweepEventsP D valid cx next mins lab ys = a ++ b) :
    ∃ (ra : RState) (es : List GEdge), runR cfg RState.empty a = .ok ra ∧ GRun D (· ∈ edges) [] a es ∧ Plain ra.s.ael ∧
      GeoAll (Holds D (· ∈ edges) ra.o) ra.s.ael es ∧ SegGeo D (· ∈ edges) ra.o := by
  have h := sweepP_empty cfg hct D edges valid cx next mins lab ys hup hnx hn hok hR hD
  obtain ⟨rEnd, aelEnd, e1, e2, _⟩ := h.all
  have e1' : runR cfg RState.empty (a ++ b) = .ok rEnd := by rw [← hab]; exact e1
  have e2' : GRun D (· ∈ edges) [] (a ++ b) aelEnd := by rw [← hab]; exact e2
  obtain ⟨es, g1, _⟩ := gRun_split D _ a b [] aelEnd e2'
  rw [Clipper.Props.C01Rings.runR_append] at e1'
  cases hra : runR cfg RState.empty a with
  | error e => simp [hra] at e1'
  | ok ra =>
    obtain ⟨_, p2, p3, p4⟩ := geo_run cfg hct D hD.1 (· ∈ edges) a es ra g1 hra
    exact ⟨ra, es, rfl, g1, p2, p3, p4⟩

/-- **sweepEventsP_bottom_up.**  Same hypotheses.  The decorated event list is in BOTTOM-UP order: the heights of the events' points never
increase (`ySorted`; y grows downwards, the sweep climbs).  Within a scanbeam this is the statement that `Model/SweepPoints.geo` — which
exchanges, among the NEIGHBOURS that are in the wrong order for the top of the scanbeam, the pair whose exact crossing point is lowest — processes
the crossings of the scanbeam bottom-up, as the real `ProcessIntersectList` does with its sorted node list: the current list is always in
left-to-right order on the scanline of the last crossing, so every remaining crossing lies at or above it, and (the order on one scanline being
transitive) the lowest remaining crossing is between neighbours (`Lemmas/C01OutputMono.geo_heights`). -/
theorem sweepEventsP_bottom_up (cfg : Cfg) (hct : cfg.ct ≠ .noClip) (D : Int) (edges : List GEdge) (valid : Int → GEdge → GEdge → Bool)
    (cx : GEdge → Int → Int) (next : GEdge → Option GEdge) (mins : Int → List (GEdge × GEdge)) (lab : Lab) (ys : List Int)
    (hup : AllUp edges) (hnx : NextOK edges next mins) (hn : Near cx) (hok : SweepOK edges valid next mins ys)
    (hR : HypR edges next mins lab ys) (hD : DenOK D (sweepDens valid cx next mins ys)) :
    ySorted (sweepEventsP D valid cx next mins lab ys) = true := by
  have h := sweepP_empty cfg hct D edges valid cx next mins lab ys hup hnx hn hok hR hD
  cases ys with
  | nil => rfl
  | cons y t => exact ySorted_of_yChain _ _ (h.chain y rfl)

/-- **emissions_bottom_up.**  Same hypotheses; `rs` the state after the whole decorated event list.  Every segment the sweep logs — hence, by
`ring_segments_on_input_edges`, every side of every ring — runs from its older end point `p` UP to its newer end point `q` (`q.y ≤ p.y`):
consecutive emissions on one ring end, which lie on one bound (a chain of input edges joined at their vertices: `emission_on_edge`, `update`), are in
non-increasing y. -/
theorem emissions_bottom_up (cfg : Cfg) (hct : cfg.ct ≠ .noClip) (D : Int) (edges : List GEdge) (valid : Int → GEdge → GEdge → Bool)
    (cx : GEdge → Int → Int) (next : GEdge → Option GEdge) (mins : Int → List (GEdge × GEdge)) (lab : Lab) (ys : List Int)
    (hup : AllUp edges) (hnx : NextOK edges next mins) (hn : Near cx) (hok : SweepOK edges valid next mins ys)
    (hR : HypR edges next mins lab ys) (hD : DenOK D (sweepDens valid cx next mins ys))
    (rs : RState) (hr : runR cfg RState.empty (sweepEventsP D valid cx next mins lab ys) = .ok rs) :
    ∀ sg ∈ rs.o.segs, sg.q.y ≤ sg.p.y := by
  have h := sweepP_empty cfg hct D edges valid cx next mins lab ys hup hnx hn hok hR hD
  cases ys with
  | nil => simp only [sweepEventsP, beamRunsP, List.flatMap_nil, runR] at hr; cases hr; intro sg hsg; simp [RState.empty, Out.empty] at hsg
  | cons y t =>
    exact mono_run cfg hct _ rs (D * y) h.plainOps (h.chain y rfl) hr

/-- **ring_segments_on_input_edges.**  Same hypotheses; `rs` the state of the ring model after the whole decorated event list (all rings finished
by the end of the sweep are in it, as `OutPt` rings before `CleanCollinear`).  EVERY pair of ring neighbours `(p, q)` of EVERY ring — cyclically
consecutive points of a finished ring, consecutive points of a ring still under construction — lies on ONE input edge: there is an input edge
`e` with `p` and `q` both on its closed segment `[D·e.bot, D·e.top]` (`OnE`; `onE_iff_onSeg`: `Spec.onSeg`).  This covers the `meet` pairs too
(the point of a local maximum / of a crossing handled as one, and the last point emitted on the SECOND edge: the stretch of that edge up to the
meeting point); duplicates `p = q` are the special case of a degenerate stretch.  And no join occurs: every logged segment is an `extend` or a
`meet` segment. -/
theorem ring_segments_on_input_edges (cfg : Cfg) (hct : cfg.ct ≠ .noClip) (D : Int) (edges : List GEdge)
    (valid : Int → GEdge → GEdge → Bool) (cx : GEdge → Int → Int) (next : GEdge → Option GEdge) (mins : Int → List (GEdge × GEdge))
    (lab : Lab) (ys : List Int)
    (hup : AllUp edges) (hnx : NextOK edges next mins) (hn : Near cx) (hok : SweepOK edges valid next mins ys)
    (hR : HypR edges next mins lab ys) (hD : DenOK D (sweepDens valid cx next mins ys))
    (rs : RState) (hr : runR cfg RState.empty (sweepEventsP D valid cx next mins lab ys) = .ok rs) :
    (∀ g ∈ rs.o.rings, ∀ pq ∈ (match g.stat with | .done => cycPairs g.pts | _ => linPairs g.pts),
      ∃ e ∈ edges, OnE D e pq.1 ∧ OnE D e pq.2) ∧
    (∀ sg ∈ rs.o.segs, sg.kind = .extend ∨ sg.kind = .meet) := by
  obtain ⟨ra, es, h1, _, _, _, h5⟩ := ring_ends_on_edges cfg hct D edges valid cx next mins lab ys hup hnx hn hok hR hD
    (sweepEventsP D valid cx next mins lab ys) [] (by simp)
  rw [hr] at h1; cases h1
  refine ⟨?_, fun sg hsg => (h5 sg hsg).1⟩
  intro g hg pq hpq
  obtain ⟨sg, hsg, hm⟩ := Clipper.Props.C01Rings.ring_segments_on_edges_partial cfg hct _ rs hr g hg pq hpq
  obtain ⟨_, e, he, hp, hq⟩ := h5 sg hsg
  rcases hm with ⟨m1, m2⟩ | ⟨m1, m2⟩
  · exact ⟨e, he, by rw [← m1]; exact hp, by rw [← m2]; exact hq⟩
  · exact ⟨e, he, by rw [← m2]; exact hq, by rw [← m1]; exact hp⟩

/-- **crossing_dens_pos.**  Under the hypotheses of `sweepEvents_accepted` every crossing point of the sweep has a POSITIVE denominator (the two
edges exchanged are not parallel: they cross strictly inside their scanbeam), hence `sweepDen`, the least common multiple of the denominators,
is an admissible scale: the hypothesis `DenOK` of the theorems above can always be met. -/
theorem crossing_dens_pos (cfg : Cfg) (edges : List GEdge) (valid : Int → GEdge → GEdge → Bool)
    (cx : GEdge → Int → Int) (next : GEdge → Option GEdge) (mins : Int → List (GEdge × GEdge)) (lab : Lab) (ys : List Int)
    (hup : AllUp edges) (hnx : NextOK edges next mins) (hn : Near cx) (hok : SweepOK edges valid next mins ys)
    (hR : HypR edges next mins lab ys) :
    (∀ d ∈ sweepDens valid cx next mins ys, 0 < d) ∧
    DenOK (sweepDen valid cx next mins ys) (sweepDens valid cx next mins ys) := by
  have hpos : ∀ d ∈ sweepDens valid cx next mins ys, 0 < d := by
    intro d hd
    simp only [sweepDens, List.mem_flatMap, List.mem_map] at hd
    obtain ⟨s, hs, c, hc, rfl⟩ := hd
    -- the snapshot belongs to a scanbeam of the derived run
    rw [← sweepEvents_snaps valid cx next mins lab ys] at hs
    obtain ⟨q, hq, rfl⟩ := List.mem_map.1 hs
    obtain ⟨pre, post, hsplit⟩ := List.append_of_mem hq
    obtain ⟨_, htr⟩ := sweepEvents_accepted cfg edges valid cx next mins lab ys hup hnx hn hok hR
    obtain ⟨_, _, _, _, _, _, hf⟩ := htr pre q post hsplit
    have hsched := geoSwaps_spec q.snap.y0 q.snap.y1 hf.hy _ _ hf.sorted hf.isect_sorted hf.isect_perm
    have halive : ∀ e ∈ q.snap.inserted, e.top.y ≤ q.snap.y1 ∧ q.snap.y0 ≤ e.bot.y := by
      intro e he
      obtain ⟨_, h2, h3⟩ := hf.mem e he
      unfold AliveAbove at h2; unfold AliveBelow at h3
      omega
    exact (sched_crossQ hf.hy hsched halive c hc).1
  exact ⟨hpos, denOK_lcmList _ (fun d hd => Int.ne_of_gt (hpos d hd))⟩

/-- the decorated event list of `build (subj ++ clip)`, in coordinates scaled by `D` -/
def builtEventsP (D : Int) (subj clip : Paths) (cx : GEdge → Int → Int) (info : GEdge → OInfo) : List ROp :=
  sweepEventsP D (validGen cx info) cx (build (subj ++ clip)).next (build (subj ++ clip)).mins (labOf subj clip) (build (subj ++ clip)).ys

/-- the denominators of its crossing points -/
def builtDens (subj clip : Paths) (cx : GEdge → Int → Int) (info : GEdge → OInfo) : List Int :=
  sweepDens (validGen cx info) cx (build (subj ++ clip)).next (build (subj ++ clip)).mins (build (subj ++ clip)).ys

/-- **output_rings_on_input_edges — items 1–3 for inputs given as paths.**  `subj`, `clip`: closed paths; `Built.Hyp`, `Built.HypR` as in
`Props/C01Region.scanline_region` (no horizontal edge, general position at every scanline, the structural facts; decidable), `cx` within 1/2 of
the exact x, `ct ≠ NoClip`, `D` an admissible scale (`DenOK`, decidable).  Then the decorated event list is accepted by the ring model, and EVERY
SIDE OF EVERY FINISHED RING — the `OutPt` rings the exact sweep hands to `CleanCollinear` / `BuildPath` — LIES ON AN INPUT EDGE: both end points
are on the closed segment `[D·e.bot, D·e.top]` of one edge `e` of `subj ++ clip` (`Spec.onSeg`). -/
theorem output_rings_on_input_edges (subj clip : Paths) (cfg : Cfg) (hct : cfg.ct ≠ .noClip) (cx : GEdge → Int → Int) (hn : Near cx)
    (info : GEdge → OInfo) (h : (build (subj ++ clip)).Hyp (validGen cx info))
    (hR : Built.HypR (build (subj ++ clip)) (labOf subj clip)) (D : Int) (hD : DenOK D (builtDens subj clip cx info)) :
    ∃ rs, runR cfg RState.empty (builtEventsP D subj clip cx info) = .ok rs ∧
      ∀ ring ∈ finishedRings rs, ∀ pq ∈ cycPairs ring, ∃ e ∈ (build (subj ++ clip)).edges,
        onSeg pq.1 (Pt.scale D e.bot) (Pt.scale D e.top) = true ∧ onSeg pq.2 (Pt.scale D e.bot) (Pt.scale D e.top) = true := by
  obtain ⟨⟨rs, hr⟩, _, _⟩ := sweepEventsP_accepted cfg hct D _ (validGen cx info) cx _ _ (labOf subj clip) _ h.1 h.2.2.1 hn h.2.2.2 hR hD
  obtain ⟨h1, _⟩ := ring_segments_on_input_edges cfg hct D _ (validGen cx info) cx _ _ (labOf subj clip) _ h.1 h.2.2.1 hn h.2.2.2 hR hD rs hr
  refine ⟨rs, hr, ?_⟩
  intro ring hring pq hpq
  simp only [finishedRings, List.mem_map, List.mem_filter, beq_iff_eq] at hring
  obtain ⟨g, ⟨hg, hst⟩, rfl⟩ := hring
  have := h1 g hg pq (by rw [hst]; exact hpq)
  obtain ⟨e, he, p1, p2⟩ := this
  exact ⟨e, he, (onE_iff_onSeg D e pq.1 hD.1 (h.1 e he)).1 p1, (onE_iff_onSeg D e pq.2 hD.1 (h.1 e he)).1 p2⟩

/-- `output_rings_on_input_edges` for the least admissible scale `sweepDen` (no hypothesis on the scale: `crossing_dens_pos`) -/
theorem output_rings_on_input_edges_lcm (subj clip : Paths) (cfg : Cfg) (hct : cfg.ct ≠ .noClip) (cx : GEdge → Int → Int) (hn : Near cx)
    (info : GEdge → OInfo) (h : (build (subj ++ clip)).Hyp (validGen cx info))
    (hR : Built.HypR (build (subj ++ clip)) (labOf subj clip)) :
    let D := sweepDen (validGen cx info) cx (build (subj ++ clip)).next (build (subj ++ clip)).mins (build (subj ++ clip)).ys
    0 < D ∧ ∃ rs, runR cfg RState.empty (builtEventsP D subj clip cx info) = .ok rs ∧
      ∀ ring ∈ finishedRings rs, ∀ pq ∈ cycPairs ring, ∃ e ∈ (build (subj ++ clip)).edges,
        onSeg pq.1 (Pt.scale D e.bot) (Pt.scale D e.top) = true ∧ onSeg pq.2 (Pt.scale D e.bot) (Pt.scale D e.top) = true := by
  intro D
  have hD := (crossing_dens_pos cfg _ (validGen cx info) cx _ _ (labOf subj clip) _ h.1 h.2.2.1 hn h.2.2.2 hR).2
  exact ⟨hD.1, output_rings_on_input_edges subj clip cfg hct cx hn info h hR D hD⟩

/-- **output_edges_cross_scanline_partial.**  Hypotheses of `output_rings_on_input_edges`.  `r`: a scanbeam of the decorated run
(`beamRunsP … = pre ++ r :: post`), `[y1, y0]` its scanlines.  There is a state `rI` of the ring model — reached from the empty state by the
decorated events of the scanbeams before `r` and the insertion events of `r` — such that
 (a) its AEL is, edge by edge, the scanbeam model's AEL after the insertions (`GeoAll`), every geometric edge an input edge; an edge is HOT iff it
     holds a ring end `(outrec, IsFront)`; the END POINT `p` of that ring end lies on the closed input segment of the edge (`OnE`) and is not
     above the bottom scanline (`D·y0 ≤ p.y`);
 (b) at every rational height `yn/yd` strictly inside the scanbeam at which that AEL is in left-to-right order, for every `xn` with the point
     `(xn/yd, yn/yd)` on no edge: the number of hot edges left of the point is odd IFF `inR ct fr (wind subj p) (wind clip p)`; and the edge at
     position `j`, if it holds the ring end `k` and the point lies in the gap immediately left of it, holds the FRONT end iff the point is
     OUTSIDE that region (front edge: region on its right; back edge: region on its left). -/
theorem output_edges_cross_scanline_partial (subj clip : Paths) (cfg : Cfg) (hct : cfg.ct ≠ .noClip) (cx : GEdge → Int → Int) (hn : Near cx)
    (info : GEdge → OInfo) (h : (build (subj ++ clip)).Hyp (validGen cx info))
    (hR : Built.HypR (build (subj ++ clip)) (labOf subj clip)) (D : Int) (hD : DenOK D (builtDens subj clip cx info))
    (pre : List BeamRunP) (r : BeamRunP) (post : List BeamRunP)
    (hruns : beamRunsP D (validGen cx info) cx (build (subj ++ clip)).next (build (subj ++ clip)).mins (labOf subj clip) []
      (build (subj ++ clip)).ys = pre ++ r :: post) :
    ∃ rI, runR cfg RState.empty (pre.flatMap BeamRunP.events ++ r.evIns) = .ok rI ∧
      GeoAll (fun x e => e ∈ (build (subj ++ clip)).edges ∧ x.e.hot = x.orec.isSome ∧
        ∀ k, x.orec = some k → ∃ p, endOf rI.o k = some p ∧ OnE D e p ∧ D * r.snap.y0 ≤ p.y) rI.s.ael r.snap.inserted ∧
      ∀ (yn yd : Int), 0 < yd → r.snap.y1 * yd < yn → yn < r.snap.y0 * yd →
        r.snap.inserted.Pairwise (fun a b => leAt yn yd a b = true) →
        ∀ xn : Int, (∀ e ∈ r.snap.inserted, ¬ onEdgeLine e xn yn yd) →
          insideHot (hotEdges (erase rI.s.ael) r.snap.inserted) xn yn yd = inR cfg.ct cfg.fr (windQ subj xn yn yd) (windQ clip xn yn yd) ∧
          ∀ (j : Nat) (x : Model.SEdge) (k : Rec), rI.s.ael[j]? = some x → x.orec = some k →
            r.snap.inserted.filter (fun e => decide (leftOfPt e xn yn yd)) = r.snap.inserted.take j →
            k.front = !inR cfg.ct cfg.fr (windQ subj xn yn yd) (windQ clip xn yn yd) := by
  have hS := sweepP_empty cfg hct D _ (validGen cx info) cx _ _ (labOf subj clip) _ h.1 h.2.2.1 hn h.2.2.2 hR hD
  obtain ⟨r1, aelr, y0, y1, rI, rX, rT, f1, f2, f3, f4, hf, hlow, _⟩ := hS.beams pre r post hruns
  have hrI : runR cfg RState.empty (pre.flatMap BeamRunP.events ++ r.evIns) = .ok rI := by
    rw [Clipper.Props.C01Rings.runR_append, f1]; exact f4.runIns
  have hgI := gRun_append D _ _ _ _ _ _ f2 f4.gIns
  obtain ⟨hre, hP, hG, _⟩ := geo_run cfg hct D hD.1 (· ∈ (build (subj ++ clip)).edges) _ _ rI hgI hrI
  obtain ⟨hO, _, _⟩ := reach_facts hct hre
  -- every event so far lies at or below the bottom scanline of the scanbeam, hence so does every ring point
  have hbel := Clipper.Lemmas.C01Crown.ptsBelow_run (lv := D * r.snap.y0) cfg hct _ rI hrI (fun op ho => by
    rcases List.mem_append.1 ho with ho | ho
    · exact hlow op ho
    · exact Int.le_of_eq (f4.hIns op ho).symm)
  refine ⟨rI, hrI, ?_, ?_⟩
  · refine geoAll_mono _ _ ?_ hG
    intro x hx e hh
    refine ⟨hh.1, ?_, ?_⟩
    · exact ((plain_hot hct hre hP).1 x hx).2
    · intro k hk
      obtain ⟨p, hp⟩ := endAt_some_of_live (hO.hot x hx k hk) k.front
      exact ⟨p, hp, hh.2 k p hk hp, Clipper.Lemmas.C01Crown.ptsBelow_endOf hbel hp⟩
  · intro yn yd hd hlo hhi hs xn hoff
    obtain ⟨hal, hvt⟩ := beam_alive hf hd hlo hhi
    have hE := erased_run cfg hct _ rI hrI
    have hinv : Inv cfg (erase rI.s.ael) := Clipper.Props.C01.inv_reachable cfg hct _ _ hE
    have hndI : r.snap.inserted.Nodup := nodup_of_pairwise_irrefl (ltAbove_irrefl r.snap.y0) hf.sorted
    obtain ⟨wS, wC⟩ := ray_winding subj clip xn yn yd hd hR.1 hvt (fun e he ha => hoff e ((hal e).2 ⟨he, ha⟩))
    have hreg := region_on_scanline cfg (labOf subj clip) _ hR.1 h.1 (erase rI.s.ael) _ xn yn yd hd hinv f4.trIns hndI hal hs
    refine ⟨by rw [wS, wC]; exact hreg.symm, ?_⟩
    intro j x k hj hk hfil
    obtain ⟨_, _, _, _, hfront⟩ := Clipper.Props.C01RegionRings.region_of_rings_partial cfg hct (labOf subj clip) _ hR.1 _ _ _ hE f4.trIns
      yn yd hndI hal _ rI hrI rfl
    rw [wS, wC]
    exact hfront j x k hj hk xn hfil

/- The test input, the two crossing triangles of `Props/C01Sweep` / `Props/C01Region`:
`A = (0,40) (30,3) (-30,11)` (subject, edges 0–2) and `B = (-10,33) (-31,0) (34,20)` (clip, edges 3–5).  Six crossings; the least common
denominator of the six crossing points is `D = 36351017860465560`. -/

private def triA : Path := [⟨0, 40⟩, ⟨30, 3⟩, ⟨-30, 11⟩]
private def triB : Path := [⟨-10, 33⟩, ⟨-31, 0⟩, ⟨34, 20⟩]
private def triD : Int := 36351017860465560

theorem triangles_hyp : (build ([triA] ++ [triB])).Hyp (validGen rhe default) := C01Region.triangles_hyp
theorem triangles_hypR : Built.HypR (build ([triA] ++ [triB])) (labOf [triA] [triB]) := C01Region.triangles_hypR

/-- the six crossing points `[position, left edge, right edge, xn, yn, d]`, scanbeam by scanbeam, bottom-up within a scanbeam -/
example : (sweepFrom (validGen rhe default) rhe (build ([triA] ++ [triB])).next (build ([triA] ++ [triB])).mins []
      (build ([triA] ++ [triB])).ys).map (fun s => (geoSwaps s.afterIsect s.inserted).map
        (fun c => [(c.1 : Int), c.2.1.id, c.2.2.id, (crossQ c.2.1 c.2.2).xn, (crossQ c.2.1 c.2.2).yn, (crossQ c.2.1 c.2.2).d])) =
    [[], [[1, 5, 2, -13140, 53938, 1666], [2, 5, 0, 13140, 33314, 1238], [0, 3, 2, -5490, 9933, 381]],
     [[2, 0, 4, 59400, 46940, 3005]], [[0, 1, 3, -52560, 22044, 2148], [1, 1, 4, -9900, 13360, 1720]], []] := by decide +kernel

theorem triangles_sweepDen :
    sweepDen (validGen rhe default) rhe (build ([triA] ++ [triB])).next (build ([triA] ++ [triB])).mins (build ([triA] ++ [triB])).ys = triD := by
  decide +kernel

/-- `triD` is the least admissible scale -/
example : sweepDen (validGen rhe default) rhe (build ([triA] ++ [triB])).next (build ([triA] ++ [triB])).mins (build ([triA] ++ [triB])).ys = triD :=
  triangles_sweepDen
/-- … hence admissible (`crossing_dens_pos`) -/
theorem triangles_den : DenOK triD (builtDens [triA] [triB] rhe default) :=
  triangles_sweepDen ▸ (crossing_dens_pos ⟨.union, .nonZero⟩ _ _ rhe _ _ _ _ triangles_hyp.1 triangles_hyp.2.2.1 rhe_near triangles_hyp.2.2.2
    triangles_hypR).2

/-- the decorated events, with their points as rationals `(xn, yn, d)` = `(xn/d, yn/d)`: insertions at the two local minima, the three crossings of
the second scanbeam bottom-up (heights 32.4, 26.9, 26.1), … -/
private def q (xn yn d : Int) : Pt := (QPt.mk xn yn d).toPt triD

example : builtEventsP triD [triA] [triB] rhe default =
    [.base (.insertPair 0 .subject false (-1)) (q 0 40 1), .base (.insertPair 0 .clip false 1) (q (-10) 33 1),
     .base (.intersect 1) (q (-13140) 53938 1666), .base (.intersect 2) (q 13140 33314 1238), .base (.intersect 0) (q (-5490) 9933 381),
     .update 3 (q 34 20 1), .base (.intersect 2) (q 59400 46940 3005), .update 0 (q (-30) 11 1),
     .base (.intersect 0) (q (-52560) 22044 2148), .base (.intersect 1) (q (-9900) 13360 1720),
     .base (.removePair 2) (q 30 3 1), .base (.removePair 0) (q (-31) 0 1)] := by decide +kernel

/-- they are in bottom-up order (`sweepEventsP_bottom_up`) -/
example : ySorted (builtEventsP triD [triA] [triB] rhe default) = true :=
  sweepEventsP_bottom_up ⟨.union, .nonZero⟩ (by decide) triD _ _ rhe _ _ _ _ triangles_hyp.1 triangles_hyp.2.2.1 rhe_near
    triangles_hyp.2.2.2 triangles_hypR triangles_den

/-- UNION: one finished ring, the 12-gon whose vertices are the six triangle vertices and the six EXACT crossing points, in ring order -/
example : (match runR ⟨.union, .nonZero⟩ RState.empty (builtEventsP triD [triA] [triB] rhe default) with
    | .ok rs => some (finishedRings rs, rs.s.ael.length) | .error _ => none) =
    some ([[q (-31) 0 1, q (-52560) 22044 2148, q (-30) 11 1, q (-5490) 9933 381, q (-10) 33 1, q (-13140) 53938 1666, q 0 40 1,
      q 13140 33314 1238, q 34 20 1, q 59400 46940 3005, q 30 3 1, q (-9900) 13360 1720]], 0) := by decide +kernel

/-- INTERSECTION: one finished ring, the hexagon of the six exact crossing points -/
example : (match runR ⟨.intersection, .nonZero⟩ RState.empty (builtEventsP triD [triA] [triB] rhe default) with
    | .ok rs => some (finishedRings rs, rs.s.ael.length) | .error _ => none) =
    some ([[q (-9900) 13360 1720, q (-52560) 22044 2148, q (-5490) 9933 381, q (-13140) 53938 1666, q 13140 33314 1238,
      q 59400 46940 3005]], 0) := by decide +kernel

/-- the theorem applies: every side of the union 12-gon lies on an input edge -/
example : ∃ rs, runR ⟨.union, .nonZero⟩ RState.empty (builtEventsP triD [triA] [triB] rhe default) = .ok rs ∧
    ∀ ring ∈ finishedRings rs, ∀ pq ∈ cycPairs ring, ∃ e ∈ (build ([triA] ++ [triB])).edges,
      onSeg pq.1 (Pt.scale triD e.bot) (Pt.scale triD e.top) = true ∧ onSeg pq.2 (Pt.scale triD e.bot) (Pt.scale triD e.top) = true :=
  output_rings_on_input_edges [triA] [triB] ⟨.union, .nonZero⟩ (by decide) rhe rhe_near default triangles_hyp triangles_hypR triD triangles_den

/- The statements of `Props/C01Crown` evaluated on the triangles, on the scanline `y = 59/2` (strictly inside the second scanbeam, between its
crossings).  The hot edges of that scanline (`Props/C01Region`): `3` and `0` for Union (state `3 2 5 0`, hot flags `1 0 0 1`), `2` and `5` for Intersection. -/

private def triOut (cfg : Cfg) : Paths :=
  match runR cfg RState.empty (builtEventsP triD [triA] [triB] rhe default) with
  | .ok rs => outputPaths rs
  | .error _ => []

/-- **`Props/C01Crown.finished_rings_sides_cross_scanline_sum` evaluated**: exactly two sides of the finished ring cross the scanline, one on each hot edge (both end points
on that input edge); read as `BuildPath64` does, the side on the FRONT edge (`3`, the region on its right) runs upwards, the side on the BACK
edge (`0`) downwards … -/
example : sidesCrossing triD (build ([triA] ++ [triB])).edges (triOut ⟨.union, .nonZero⟩) 59 2 = [(some 0, false), (some 3, true)] := by
  decide +kernel
/-- … and for Intersection on the hot edges `2` (front) and `5` (back) -/
example : sidesCrossing triD (build ([triA] ++ [triB])).edges (triOut ⟨.intersection, .nonZero⟩) 59 2 = [(some 5, false), (some 2, true)] := by
  decide +kernel

/-- **`Props/C01Crown.output_region` evaluated** at the 40 points `x = (4 i − 79)/2` of that scanline (none on an edge): the winding number of the EXACT output
rings (read as `BuildPath64` does) is `1` exactly where `inR ct fr (wind subj p) (wind clip p)` holds and `0` elsewhere — UNION … -/
example : (List.range 40).map (fun (i : Nat) =>
      let xn : Int := 4 * (i : Int) - 79
      (wind ((triOut ⟨.union, .nonZero⟩).map (fun p => p.map (Pt.scale 2))) ⟨xn * triD, 59 * triD⟩,
       inR .union .nonZero (windQ [triA] xn 59 2) (windQ [triB] xn 59 2))) =
    List.replicate 14 (0, false) ++ List.replicate 11 (1, true) ++ List.replicate 15 (0, false) := by
  decide +kernel
/-- … and INTERSECTION -/
example : (List.range 40).map (fun (i : Nat) =>
      let xn : Int := 4 * (i : Int) - 79
      (wind ((triOut ⟨.intersection, .nonZero⟩).map (fun p => p.map (Pt.scale 2))) ⟨xn * triD, 59 * triD⟩,
       inR .intersection .nonZero (windQ [triA] xn 59 2) (windQ [triB] xn 59 2))) =
    List.replicate 15 (0, false) ++ List.replicate 6 (1, true) ++ List.replicate 19 (0, false) := by
  decide +kernel

/-- `output_edges_cross_scanline_partial` applies to the second scanbeam (its hypotheses are satisfiable) -/
example : ∃ rI, runR ⟨.union, .nonZero⟩ RState.empty
      (((beamRunsP triD (validGen rhe default) rhe (build ([triA] ++ [triB])).next (build ([triA] ++ [triB])).mins (labOf [triA] [triB]) []
        (build ([triA] ++ [triB])).ys).take 1).flatMap BeamRunP.events ++
       ((beamRunsP triD (validGen rhe default) rhe (build ([triA] ++ [triB])).next (build ([triA] ++ [triB])).mins (labOf [triA] [triB]) []
        (build ([triA] ++ [triB])).ys).getD 1 default).evIns) = .ok rI := by
  obtain ⟨rI, h1, _, _⟩ := output_edges_cross_scanline_partial [triA] [triB] ⟨.union, .nonZero⟩ (by decide) rhe rhe_near default
    triangles_hyp triangles_hypR triD triangles_den _ _ _ (split_at _ 1 (by decide +kernel))
  exact ⟨rI, h1⟩

end Clipper.Props.C01Output

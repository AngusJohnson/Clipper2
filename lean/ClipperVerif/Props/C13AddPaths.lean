/-
C13 (representation independence), C12 (which minima a path set yields), C10 (content of the sizing claim):
theorems about the model of `AddPaths_` / `AddLocMin` (Model/AddPathsRings.lean; clipper.engine.cpp:602-714).

Vocabulary (definitions in Lemmas/AddPathsRings.lean): `pushPts none path` = the points the point loop writes;
`NoAdjDup` / `CycNoAdjDup` = no two (cyclic) neighbours equal; `Stutter r l` = `l` is `r` with elements repeated in place;
`ringOf` = the written points minus an explicit closing vertex (closed paths); `IsRot a b` = `a = x ++ y`, `b = y ++ x`;
`closedFlagsAt v others` / `specW` = the flags of a vertex of a closed ring in the code's sense (see `minima_are_minima_closed`);
`minIdx 0 flags` = the indices flagged `LocalMin`, ascending.

The y axis points down: a local *minimum* is a bottom vertex (locally largest `y`), where the sweep starts two bounds.
-/
import ClipperVerif.Lemmas.AddPathsRings
import ClipperVerif.Lemmas.History
import ClipperVerif.Generated.Engine
namespace Clipper.Props.C13AddPaths
open Clipper Clipper.Model.AddPathsRings Clipper.Lemmas.AddPathsRings

/-- The point loop writes a subsequence of the path in which no two consecutive points are equal, and the
path is that subsequence with points repeated in place: exactly the consecutive duplicates are skipped (the three facts
determine the written list uniquely: `pushPts_of_stutter`, `pushPts_of_noAdjDup`). -/
theorem written_spec (path : List Pt) :
    (pushPts none path).Sublist path ∧ NoAdjDup (pushPts none path) ∧ Stutter (pushPts none path) path :=
  ⟨pushPts_sublist none path, pushPts_noAdjDup path, pushPts_stutter path⟩

/-- uniqueness: any duplicate-free `r` of which the path is a stutter is what the loop writes -/
theorem written_unique (r path : List Pt) (h : Stutter r path) (hr : NoAdjDup r) : pushPts none path = r := by
  rw [pushPts_of_stutter h, pushPts_of_noAdjDup r hr]

/-- With `vs` the path minus consecutive duplicates: `cnt = |vs|` slots are written.
Fewer than two distinct consecutive vertices: nothing is linked (no ring, no flags, no minima; the slot is given back).
Otherwise the ring is `vs` for an open path, and for a closed path `vs` without its last vertex if that repeats the
first (`vs` otherwise); it has at least two vertices, as many flags as vertices, no two neighbours equal — cyclically for a
closed path — and every minimum index is a valid ring index. -/
theorem addPath_ring (isOpen : Bool) (path : List Pt) :
    let vs := pushPts none path
    let o := addPath isOpen path
    o.cnt = vs.length ∧ o.flags.length = o.pts.length ∧ (∀ m ∈ o.minima, m < o.pts.length) ∧
    (vs.length < 2 → o.pts = [] ∧ o.flags = [] ∧ o.minima = [] ∧ o.used = 0) ∧
    (2 ≤ vs.length →
      o.pts = (if isOpen = false ∧ vs.getLast? = vs.head? then vs.dropLast else vs) ∧ 2 ≤ o.pts.length ∧ o.used = vs.length ∧
      o.pts.head? = vs.head? ∧ (if isOpen then NoAdjDup o.pts else CycNoAdjDup o.pts)) := by
  intro vs o
  have hs := addPath_sizes isOpen path
  refine ⟨hs.1, hs.2.1, hs.2.2.2.1, ?_, ?_⟩
  · intro h
    have ho : o = addPath isOpen path := rfl
    rw [ho, addPath_short isOpen path h]; simp [PathOut.used]
  · intro h
    have hpts : o.pts = ringOf isOpen vs := addPath_pts isOpen path h
    have hn : NoAdjDup vs := pushPts_noAdjDup path
    have hused : o.used = vs.length := by
      obtain ⟨r0, rtl, hr, _⟩ := addPath_long isOpen path h
      show (if (addPath isOpen path).pts.isEmpty then 0 else _) = _
      rw [show (addPath isOpen path).pts = _ from hpts, hr, hs.1]; rfl
    cases isOpen with
    | true =>
      rw [ringOf_open] at hpts
      refine ⟨by simpa using hpts, by rw [hpts]; exact h, hused, by rw [hpts], ?_⟩
      simp only [if_true]; rw [hpts]; exact hn
    | false =>
      have hc := ringOf_closed_spec vs hn h
      refine ⟨?_, by rw [hpts]; exact hc.1, hused, by rw [hpts]; exact hc.2.2, ?_⟩
      · rw [hpts]; unfold ringOf; simp
      · simp only [Bool.false_eq_true, if_false]; rw [hpts]; exact hc.2.1

example : (addPath false [⟨0,0⟩, ⟨0,0⟩, ⟨4,0⟩, ⟨4,4⟩, ⟨4,4⟩, ⟨0,0⟩]).pts = [⟨0,0⟩, ⟨4,0⟩, ⟨4,4⟩] := by decide
example : (addPath true [⟨0,0⟩, ⟨0,0⟩, ⟨4,0⟩, ⟨4,4⟩, ⟨4,4⟩, ⟨0,0⟩]).pts = [⟨0,0⟩, ⟨4,0⟩, ⟨4,4⟩, ⟨0,0⟩] := by decide
example : (addPath false [⟨1,1⟩, ⟨1,1⟩, ⟨1,1⟩]).pts = [] ∧ (addPath false [⟨1,1⟩, ⟨1,1⟩, ⟨1,1⟩]).cnt = 1 := by decide

/-- Repeating a vertex in place, anywhere in the path, open or closed, changes nothing at all: same slot
count, same ring, same flags, same minima. -/
theorem addPath_dup (isOpen : Bool) (l₁ : List Pt) (a : Pt) (l₂ : List Pt) :
    addPath isOpen (l₁ ++ a :: a :: l₂) = addPath isOpen (l₁ ++ a :: l₂) :=
  addPath_congr isOpen (pushPts_insert_dup none l₁ a l₂)

/-- the same for any number of repetitions at any number of places -/
theorem addPath_stutter (isOpen : Bool) {r l : List Pt} (h : Stutter r l) : addPath isOpen l = addPath isOpen r :=
  addPath_congr isOpen (pushPts_of_stutter h none)

example : Stutter [⟨0,0⟩, ⟨4,0⟩, ⟨4,4⟩] [⟨0,0⟩, ⟨0,0⟩, ⟨4,0⟩, ⟨4,4⟩, ⟨4,4⟩, ⟨4,4⟩] :=
  .dup _ (.cons _ (.cons _ (.dup _ (.dup _ (.cons _ .nil)))))

/-- Appending the first vertex to a closed path that has at least three distinct consecutive
vertices and does not already end in its first vertex leaves ring, flags and minima unchanged; one more slot is written
(and stays unlinked). -/
theorem addPath_closing (a : Pt) (l : List Pt)
    (h3 : 3 ≤ (pushPts none (a :: l)).length) (hlast : (pushPts none (a :: l)).getLast? ≠ some a) :
    let o := addPath false (a :: l)
    let o' := addPath false (a :: l ++ [a])
    o'.pts = o.pts ∧ o'.flags = o.flags ∧ o'.minima = o.minima ∧ o'.cnt = o.cnt + 1 := by
  intro o o'
  have hvs : pushPts none (a :: l ++ [a]) = pushPts none (a :: l) ++ [a] := by
    rw [pushPts_concat, Option.or_none, if_neg hlast]
  have hc : cdedup (a :: l) = pushPts none (a :: l) := by
    unfold cdedup ringOf; simp at hlast ⊢; intro h; exact absurd h hlast
  have h3c : 3 ≤ (cdedup (a :: l)).length := hc ▸ h3
  obtain ⟨p1, f1, m1⟩ := addPath_of_cdedup (a :: l) h3c
  obtain ⟨p2, f2, m2⟩ := addPath_of_cdedup (a :: l ++ [a]) (by rw [cdedup_closing]; exact h3c)
  rw [cdedup_closing] at p2 f2 m2
  refine ⟨p2.trans p1.symm, f2.trans f1.symm, m2.trans m1.symm, ?_⟩
  show (addPath false _).cnt = (addPath false _).cnt + 1
  rw [(addPath_sizes false _).1, (addPath_sizes false _).1, hvs, List.length_append]; rfl

example : 3 ≤ (pushPts none [⟨0,0⟩, ⟨4,0⟩, ⟨4,4⟩]).length ∧ (pushPts none [(⟨0,0⟩ : Pt), ⟨4,0⟩, ⟨4,4⟩]).getLast? ≠ some ⟨0,0⟩ := by decide

/-- The property fails here.  `cnt` counts a dropped closing vertex, so line 651
(`cnt == 2 && !is_open`) lets the two-vertex ring of `[A, B, A]` through to the minima search while `[A, B]` and the
rotation `[B, A, A]` — the same closed path — get no minima.  (With the public API the extra pair of coincident bounds adds
vertices to other polygons' results: harness record `kf.two-vertex-ring.execute`.) -/
theorem closing_two_vertex_quirk :
    (addPath false [⟨0,0⟩, ⟨5,5⟩]).minima = [] ∧ (addPath false [⟨5,5⟩, ⟨0,0⟩, ⟨0,0⟩]).minima = [] ∧
    (addPath false [⟨0,0⟩, ⟨5,5⟩, ⟨0,0⟩]).minima = [1] ∧
    (addPath false [⟨0,0⟩, ⟨5,5⟩]).pts = (addPath false [⟨0,0⟩, ⟨5,5⟩, ⟨0,0⟩]).pts := by decide

/-- in general: a closed path with exactly two written vertices gets no minima -/
theorem closed_two_written_no_minima (path : List Pt) (h : (pushPts none path).length = 2) :
    (addPath false path).minima = [] ∧ (addPath false path).flags = (addPath false path).pts.map (fun _ => VFlags.empty) := by
  obtain ⟨r0, rtl, _, _, heq⟩ := addPath_long false path (by omega)
  rw [heq, h]; simp [noMinimaCase]

/-- `AddLocMin`'s "only once" guard never discards anything: the minima appended for a path are
exactly the ring vertices that end up flagged `LocalMin`, each once, in ring order. -/
theorem minima_are_flagged (isOpen : Bool) (path : List Pt) :
    (addPath isOpen path).minima = minIdx 0 (addPath isOpen path).flags := by
  by_cases h : (pushPts none path).length < 2
  · rw [addPath_short isOpen path h]; rfl
  · obtain ⟨r0, rtl, _, _, heq⟩ := addPath_long isOpen path (by omega)
    rw [heq]
    split
    · simp only
      rw [minIdx_all_empty]
      intro f hf
      simp only [List.mem_map] at hf
      obtain ⟨_, _, rfl⟩ := hf; rfl
    · exact findMinima_minima isOpen r0 rtl

/-- For a closed path of at least three written vertices the flags are, vertex by
vertex, `closedFlagsAt v (the other vertices in ring order)`:
`LocalMin` iff the ring arrives at `v` *downwards* — the nearest preceding vertex with a different `y`, found by walking
backwards around the ring, has smaller `y` — and leaves it upwards (`next.y < v.y`); `LocalMax` iff it arrives upwards and
leaves downwards (`next.y > v.y`).  So of a horizontal run at the bottom (top) exactly the *last* vertex in ring order is
the local minimum (maximum); a completely flat ring has no flags; no vertex is `OpenStart`/`OpenEnd`. -/
theorem minima_are_minima_closed (path : List Pt) (h : 3 ≤ (pushPts none path).length) :
    (addPath false path).flags = specW (addPath false path).pts [] := by
  obtain ⟨r0, rtl, _, hp, hf, _⟩ := addPath_main false path (by omega) (noMinimaCase_of_three _ _ h)
  rw [hf, hp]; exact closed_flags_spec r0 rtl

example : (addPath false [⟨0,5⟩, ⟨3,5⟩, ⟨6,5⟩, ⟨6,0⟩, ⟨0,0⟩]).flags.map VFlags.bits = [0, 0, 8, 0, 4] := by decide
example : (addPath false [⟨3,5⟩, ⟨6,5⟩, ⟨6,0⟩, ⟨0,0⟩, ⟨0,5⟩]).flags.map VFlags.bits = [0, 8, 0, 4, 0] := by decide

/-- For an open path of at least two written vertices the flags are, vertex by
vertex, `openFlagsAt (vertices before) v (vertices after)`:
* the first vertex is `OpenStart`, and a `LocalMin` if the first later vertex with a different `y` lies above it (smaller `y`)
  or the whole path is flat, else a `LocalMax` — horizontal edges at the start are looked through;
* the last vertex is `OpenEnd`, and a `LocalMax` if the path arrives at it upwards (`dirAt`: last non-horizontal edge; a flat
  path counts as going up), else a `LocalMin`;
* an interior vertex is a `LocalMax` iff the path arrives upwards and the next vertex is lower (`next.y > v.y`), a `LocalMin` iff it
  arrives downwards and the next vertex is higher: of an interior horizontal run at an extremum the last vertex carries the flag. -/
theorem minima_are_minima_open (path : List Pt) (h : 2 ≤ (pushPts none path).length) :
    (addPath true path).flags = specOpen [] (addPath true path).pts := by
  obtain ⟨r0, rtl, hne, hp, hf, _⟩ := addPath_main true path h (noMinimaCase_open _ h)
  rw [hf, hp]; exact open_flags_spec r0 rtl hne

example : (addPath true [⟨0,5⟩, ⟨3,5⟩, ⟨6,5⟩, ⟨6,0⟩, ⟨0,0⟩]).flags.map VFlags.bits = [9, 0, 0, 0, 6] := by decide
example : (addPath true [⟨0,0⟩, ⟨3,0⟩, ⟨6,0⟩]).flags.map VFlags.bits = [9, 0, 6] := by decide
example : (addPath true [⟨0,0⟩, ⟨3,5⟩, ⟨6,5⟩, ⟨9,0⟩]).flags.map VFlags.bits = [5, 0, 8, 6] := by decide

/-- Going round a closed ring, `LocalMax` and `LocalMin` vertices alternate — also across
the start vertex — no vertex is both, and there are equally many of each. -/
theorem extrema_alternate_closed (path : List Pt) (h : 3 ≤ (pushPts none path).length) :
    let fl := (addPath false path).flags
    Alt (events fl) ∧ (events fl ≠ [] → (events fl).head? ≠ (events fl).getLast?) ∧
    (∀ f ∈ fl, ¬ (f.localMax = true ∧ f.localMin = true)) ∧
    (fl.filter (·.localMax)).length = (fl.filter (·.localMin)).length := by
  intro fl
  have hexcl : ∀ f ∈ fl, ¬ (f.localMax = true ∧ f.localMin = true) := by
    show ∀ f ∈ (addPath false path).flags, _
    rw [minima_are_minima_closed path h]; exact specW_excl _ _
  obtain ⟨r0, rtl, _, _, hfl, _⟩ := addPath_main false path (by omega) (noMinimaCase_of_three _ _ h)
  have hfl : fl = (findMinima false r0 rtl).1 := hfl
  obtain ⟨g, hg⟩ := closed_flags_alt r0 rtl
  rw [← hfl] at hg
  obtain ⟨ha, hc, hl⟩ := altEnd_spec g g _ hg
  have hcnt := events_count fl hexcl
  refine ⟨ha, ?_, hexcl, by omega⟩
  intro hne
  rw [(hl hne).1, (hl hne).2]; cases g <;> simp

/-- Along an open path the start vertex, the interior extrema and the end vertex alternate
between `LocalMin` and `LocalMax`; no vertex is both; so the two counts differ by at most one. -/
theorem extrema_alternate_open (path : List Pt) (h : 2 ≤ (pushPts none path).length) :
    let fl := (addPath true path).flags
    Alt (events fl) ∧ (∀ f ∈ fl, ¬ (f.localMax = true ∧ f.localMin = true)) ∧
    (fl.filter (·.localMax)).length ≤ (fl.filter (·.localMin)).length + 1 ∧
    (fl.filter (·.localMin)).length ≤ (fl.filter (·.localMax)).length + 1 := by
  intro fl
  have hexcl : ∀ f ∈ fl, ¬ (f.localMax = true ∧ f.localMin = true) := by
    show ∀ f ∈ (addPath true path).flags, _
    rw [minima_are_minima_open path h]; exact specOpen_excl _ _
  obtain ⟨r0, rtl, hne, _, hfl, _⟩ := addPath_main true path h (noMinimaCase_open _ h)
  have hfl : fl = (findMinima true r0 rtl).1 := hfl
  obtain ⟨gEnd, hg⟩ := open_flags_alt r0 rtl hne
  rw [← hfl] at hg
  obtain ⟨ha, hc, _⟩ := altEnd_spec _ gEnd _ hg
  obtain ⟨c1, c2⟩ := events_count fl hexcl
  have b1 : ∀ b : Bool, (if b then 1 else 0 : Nat) ≤ 1 := fun b => by cases b <;> decide
  have := b1 gEnd
  have := b1 (!upFwd r0.y rtl)
  exact ⟨ha, hexcl, by omega, by omega⟩

/-- Starting a closed path at another vertex (`l₁ ++ l₂` ↦ `l₂ ++ l₁`), for a ring of at least three
vertices: the ring is the same cyclic sequence read from another start, and the flags move with their vertices. -/
theorem addPath_rotate (l₁ l₂ : List Pt) (h3 : 3 ≤ (addPath false (l₁ ++ l₂)).pts.length) :
    ∃ x y : List Pt,
      (addPath false (l₁ ++ l₂)).pts = x ++ y ∧ (addPath false (l₂ ++ l₁)).pts = y ++ x ∧
      (addPath false (l₁ ++ l₂)).flags = specW x y ++ specW y x ∧ (addPath false (l₂ ++ l₁)).flags = specW y x ++ specW x y := by
  have hA : (addPath false (l₁ ++ l₂)).pts = cdedup (l₁ ++ l₂) := by
    by_cases hs : (pushPts none (l₁ ++ l₂)).length < 2
    · rw [addPath_short false _ hs] at h3; exact absurd h3 (Nat.not_succ_le_zero 2)
    · exact addPath_pts false _ (by omega)
  have hrot := cdedup_rotate l₁ l₂
  have h3A : 3 ≤ (cdedup (l₁ ++ l₂)).length := hA ▸ h3
  obtain ⟨pA, fA, _⟩ := addPath_of_cdedup _ h3A
  obtain ⟨pB, fB, _⟩ := addPath_of_cdedup _ (hrot.length_eq ▸ h3A)
  obtain ⟨x, y, hx, hy⟩ := hrot
  rw [hx] at pA fA; rw [hy] at pB fB
  exact ⟨x, y, pA, pB, by rw [fA, specW_append]; simp, by rw [fB, specW_append]; simp⟩

example : 3 ≤ (addPath false ([⟨0,5⟩, ⟨3,5⟩] ++ [⟨6,5⟩, ⟨6,0⟩, ⟨0,0⟩])).pts.length := by decide

theorem addPath_rotate_perm (l₁ l₂ : List Pt) (h3 : 3 ≤ (addPath false (l₁ ++ l₂)).pts.length) :
    ((addPath false (l₁ ++ l₂)).ring).Perm ((addPath false (l₂ ++ l₁)).ring) := by
  obtain ⟨x, y, h1, h2, h3', h4⟩ := addPath_rotate l₁ l₂ h3
  unfold PathOut.ring
  rw [h1, h2, h3', h4]
  rw [List.zip_append (by rw [specW_length]), List.zip_append (by rw [specW_length])]
  exact List.perm_append_comm

theorem minimaPts_eq (isOpen : Bool) (path : List Pt) :
    minimaPts (addPath isOpen path) = (((addPath isOpen path).ring).filter (fun pf => pf.2.localMin)).map (·.1) := by
  unfold minimaPts PathOut.ring
  rw [minima_are_flagged]
  exact minIdx_filterMap_get [] _ _ (addPath_ring isOpen path).2.1.symm

/-- The local minima of the rotated path are the same points (as a multiset; their order of
appending is rotated with the ring). -/
theorem addPath_rotate_minima (l₁ l₂ : List Pt) (h3 : 3 ≤ (addPath false (l₁ ++ l₂)).pts.length) :
    (minimaPts (addPath false (l₁ ++ l₂))).Perm (minimaPts (addPath false (l₂ ++ l₁))) := by
  rw [minimaPts_eq, minimaPts_eq]
  exact ((addPath_rotate_perm l₁ l₂ h3).filter _).map _

example : minimaPts (addPath false ([⟨0,5⟩, ⟨3,5⟩] ++ [⟨6,5⟩, ⟨6,0⟩, ⟨0,0⟩])) = [⟨6,5⟩] ∧
    minimaPts (addPath false ([⟨6,5⟩, ⟨6,0⟩, ⟨0,0⟩] ++ [⟨0,5⟩, ⟨3,5⟩])) = [⟨6,5⟩] := by decide

/-- two-vertex rings are the exception (same closed path, different minima) -/
theorem addPath_rotate_two_vertex_quirk :
    (addPath false ([⟨0,0⟩] ++ [⟨5,5⟩, ⟨0,0⟩])).minima ≠ [] ∧ (addPath false ([⟨5,5⟩, ⟨0,0⟩] ++ [⟨0,0⟩])).minima = [] := by decide

/-- For every input (empty list, empty paths, one-point paths, all-equal points, flat paths, …):
the model is total by structural recursion — each loop of the C++ walks a ring once; and in its result
* nothing is allocated iff the total vertex count is zero; otherwise every path has a record;
* every slot a path writes (`base … base + cnt - 1`, including the single slot of a path that is then given back, and an
  unlinked closing vertex) lies inside the `total_vertex_count` slots allocated  — the content of C10's sizing claim;
* a ring never has more vertices than slots written, has one flag word per vertex, and every minimum names a vertex of
  its ring (`locMinsOf` drops nothing) whose slot lies inside the array. -/
theorem addPaths_no_fault (pt : PathType) (isOpen : Bool) (paths : List (List Pt)) :
    let out := addPaths pt isOpen paths
    (out.allocates = decide ((paths.map List.length).sum ≠ 0)) ∧
    (out.allocates = true → out.total = (paths.map List.length).sum ∧ out.recs.length = paths.length) ∧
    (∀ r ∈ out.recs,
      r.base + r.out.cnt ≤ out.total ∧ r.out.flags.length = r.out.pts.length ∧ r.out.pts.length ≤ r.out.cnt ∧
      (∀ m ∈ r.out.minima, m < r.out.pts.length) ∧ r.minima.length = r.out.minima.length) ∧
    (∀ m ∈ out.minima, m.slot < out.total) := by
  intro out
  by_cases h0 : (paths.map List.length).sum = 0
  · have hout : out = {} := if_pos h0
    rw [hout]; simp [h0, Out.minima]
  · have hout : out = { total := _, allocates := true, recs := addPathsFrom pt isOpen 0 0 paths } := if_neg h0
    have hrec := addPathsFrom_rec pt isOpen 0 0 paths
    rw [hout]
    refine ⟨by simp [h0], fun _ => ⟨rfl, addPathsFrom_length ..⟩, ?_, ?_⟩
    · intro r hr
      obtain ⟨_, hin, hfl, hle, hidx, hlen, _⟩ := hrec r hr
      exact ⟨by simpa using hin, hfl, hle, hidx, hlen⟩
    intro m hm
    obtain ⟨r, hr, hmr⟩ := List.mem_flatMap.mp hm
    obtain ⟨_, h2, _, _, h5, _, h7⟩ := hrec r hr
    have := h5 _ (h7 m hmr).2
    rw [(h7 m hmr).1]; simp only [Nat.zero_add] at h2 ⊢; omega

example : addPaths .subject false [] = {} ∧ addPaths .subject false [[], []] = {} := by decide
example : (addPaths .subject false [[⟨1,1⟩]]).recs.map (·.out.cnt) = [1] ∧ (addPaths .subject false [[⟨1,1⟩]]).minima = [] := by decide
example : ((addPaths .clip true [[⟨1,1⟩], [⟨0,0⟩, ⟨0,0⟩], [⟨0,0⟩, ⟨3,0⟩, ⟨6,0⟩]]).recs.map (·.base)) = [0, 0, 0] := by decide

/-- the C12 history model's `LocalMin` for a minimum, `vid` naming its vertex -/
def toHist (vid : MinV → Nat) (m : MinV) : Clipper.Model.History.LocalMin := ⟨m.pt.y, m.pt.x, m.polytype, m.isOpen, vid m⟩

/-- the order `std::stable_sort(…, LocMinSorter())` sorts by, on minima that carry their ring -/
def leV (a b : MinV) : Bool := !(Clipper.Gen.LocMinSorter b.pt.x b.pt.y a.pt.x a.pt.y)

/-- it is the history model's order (which `Props/C12.lean` `lmBefore_is_generated` ties to the same generated comparator) -/
theorem leV_eq_locMinLe (vid : MinV → Nat) (a b : MinV) :
    leV a b = Clipper.Model.History.locMinLe (toHist vid a) (toHist vid b) := by
  unfold leV Clipper.Model.History.locMinLe Clipper.Model.History.locMinBefore Clipper.Gen.LocMinSorter toHist
  by_cases h : a.pt.y = b.pt.y
  · simp [h]
  · simp [h]

theorem leV_trans (a b c : MinV) : leV a b = true → leV b c = true → leV a c = true := by
  rw [leV_eq_locMinLe (fun _ => 0), leV_eq_locMinLe (fun _ => 0), leV_eq_locMinLe (fun _ => 0)]
  exact Clipper.Lemmas.History.locMinLe_trans _ _ _

theorem leV_total (a b : MinV) : (leV a b || leV b a) = true := by
  rw [leV_eq_locMinLe (fun _ => 0), leV_eq_locMinLe (fun _ => 0)]
  exact Clipper.Lemmas.History.locMinLe_total _ _

/-- sorting the history model's list is sorting the minima and relabelling: `Model.History.stableSort` sees only (y, x) -/
theorem stableSort_toHist (vid : MinV → Nat) (l : List MinV) :
    Clipper.Model.History.stableSort (l.map (toHist vid)) = (l.mergeSort leV).map (toHist vid) := by
  unfold Clipper.Model.History.stableSort
  exact (List.map_mergeSort (fun a _ b _ => leV_eq_locMinLe vid a b)).symm

/-- stable sorting by `LocMinSorter` of two lists with the same elements at pairwise distinct points gives one list: the sorted
lists are permutations of each other, and equal keys mean equal points, hence equal elements -/
theorem mergeSort_leV_perm (A B : List MinV) (hp : A.Perm B) (hd : A.Pairwise (fun a b => a.pt ≠ b.pt)) :
    A.mergeSort leV = B.mergeSort leV := by
  have hAB : (A.mergeSort leV).Perm (B.mergeSort leV) :=
    (List.mergeSort_perm A leV).trans (hp.trans (List.mergeSort_perm B leV).symm)
  refine List.Perm.eq_of_pairwise (le := fun a b => leV a b = true) ?_
    (List.pairwise_mergeSort leV_trans leV_total A) (List.pairwise_mergeSort leV_trans leV_total B) hAB
  intro a b ha hb hab hba
  have haA : a ∈ A := (List.mergeSort_perm A leV).mem_iff.mp ha
  have hbA : b ∈ A := hp.mem_iff.mpr ((List.mergeSort_perm B leV).mem_iff.mp hb)
  have hkey : a.pt = b.pt := by
    rw [leV_eq_locMinLe (fun _ => 0), Clipper.Lemmas.History.locMinLe_iff] at hab hba
    simp only [toHist] at hab hba
    have hx : a.pt.x = b.pt.x := by omega
    have hy : a.pt.y = b.pt.y := by omega
    show (⟨a.pt.x, a.pt.y⟩ : Pt) = ⟨b.pt.x, b.pt.y⟩
    rw [hx, hy]
  by_cases hEq : a = b
  · exact hEq
  · exfalso
    rcases List.mem_iff_append.mp haA with ⟨s, t, rfl⟩
    rcases List.mem_append.mp hbA with hb1 | hb1
    · exact (List.pairwise_append.mp hd).2.2 b hb1 a (by simp) hkey.symm
    · rcases List.mem_cons.mp hb1 with rfl | hb2
      · exact hEq rfl
      · exact (List.pairwise_cons.mp (List.pairwise_append.mp hd).2.1).1 b hb2 hkey

/-- If the minima of a call lie at pairwise distinct points (distinct sort keys (y, x)), the stably
sorted minima list — each minimum with its ring, flags and position in the ring, i.e. everything the sweep reaches from the
`LocalMinima` — is the same for every order of the paths.  (With equal keys `stable_sort` keeps the order of addition, which
does depend on path order: `sorted_minima_perm_needs_distinct`.) -/
theorem sorted_minima_perm (pt : PathType) (isOpen : Bool) (ps ps' : List (List Pt)) (hperm : ps.Perm ps')
    (hd : (minimaV (addPaths pt isOpen ps)).Pairwise (fun a b => a.pt ≠ b.pt)) :
    (minimaV (addPaths pt isOpen ps)).mergeSort leV = (minimaV (addPaths pt isOpen ps')).mergeSort leV :=
  mergeSort_leV_perm _ _ (minimaV_perm pt isOpen hperm) hd

example : (minimaV (addPaths .subject false [[⟨0,0⟩, ⟨4,4⟩, ⟨8,0⟩], [⟨20,1⟩, ⟨24,5⟩, ⟨28,1⟩]])).Pairwise (fun a b => a.pt ≠ b.pt) := by decide

/-- the corollary for the C12 history model: whatever names (`vid`) the two calls give the vertices, the two sorted
`LocalMin` lists are the images of one and the same sorted list of minima-with-rings. -/
theorem sorted_minima_perm_history (pt : PathType) (isOpen : Bool) (ps ps' : List (List Pt)) (hperm : ps.Perm ps')
    (hd : (minimaV (addPaths pt isOpen ps)).Pairwise (fun a b => a.pt ≠ b.pt)) (vid vid' : MinV → Nat) :
    ∃ sorted : List MinV,
      Clipper.Model.History.stableSort ((minimaV (addPaths pt isOpen ps)).map (toHist vid)) = sorted.map (toHist vid) ∧
      Clipper.Model.History.stableSort ((minimaV (addPaths pt isOpen ps')).map (toHist vid')) = sorted.map (toHist vid') :=
  ⟨_, stableSort_toHist vid _, by rw [stableSort_toHist, ← sorted_minima_perm pt isOpen ps ps' hperm hd]⟩

/-- without distinct keys the order of coincident minima follows the path order (witness) -/
theorem sorted_minima_perm_needs_distinct :
    (minimaV (addPaths .subject false [[⟨0,0⟩, ⟨4,4⟩, ⟨8,0⟩], [⟨1,0⟩, ⟨4,4⟩, ⟨7,0⟩]])).mergeSort leV ≠
    (minimaV (addPaths .subject false [[⟨1,0⟩, ⟨4,4⟩, ⟨7,0⟩], [⟨0,0⟩, ⟨4,4⟩, ⟨8,0⟩]])).mergeSort leV := by
  rw [List.mergeSort_of_pairwise (le := leV) (by decide), List.mergeSort_of_pairwise (le := leV) (by decide)]
  decide

end Clipper.Props.C13AddPaths

/-
Bridge between the two models of `AddPaths_`: the *counting* model of the C10 slice (`Model/AddPaths.lean`: which cells
are written — `written`, `stepPath`, `cursor`) and the *content* model of this slice (`Model/AddPathsRings.lean`: what is
written — rings, flags, minima).  They agree on every count, so C10's `writes ≤ allocation` theorem speaks about exactly
the slots whose content `Props/C13AddPaths.lean` describes.
-/
import ClipperVerif.Model.AddPaths
import ClipperVerif.Props.C13AddPaths
namespace Clipper.Props.C10AddPathsBridge
open Clipper Clipper.Model.AddPathsRings Clipper.Lemmas.AddPathsRings

theorem changes_eq (prev : Pt) (t : List Pt) : Clipper.Model.AddPaths.changes prev t = (pushPts (some prev) t).length := by
  induction t generalizing prev with
  | nil => rfl
  | cons b t ih =>
    simp only [Clipper.Model.AddPaths.changes, pushPts_some_cons]
    by_cases h : b = prev
    · subst h; simp [ih]
    · have h' : ¬ prev = b := fun e => h e.symm
      simp [h, h', ih]; omega

/-- The counting model's `written` is this model's `cnt` (slots written for the path). -/
theorem counting_model_cnt (isOpen : Bool) (p : List Pt) : Clipper.Model.AddPaths.written p = (addPath isOpen p).cnt := by
  rw [(addPath_sizes isOpen p).1]
  cases p with
  | nil => rfl
  | cons a t => simp [Clipper.Model.AddPaths.written, changes_eq]; omega

/-- One step of the counting model advances the cursor by this model's `used`. -/
theorem counting_model_cursor (isOpen : Bool) (c : Clipper.Model.AddPaths.Cur) (p : List Pt) :
    (Clipper.Model.AddPaths.stepPath c p).v = c.v + (addPath isOpen p).used := by
  have hr := Clipper.Props.C13AddPaths.addPath_ring isOpen p
  simp only [Clipper.Model.AddPaths.stepPath, counting_model_cnt isOpen p]
  by_cases h : (pushPts none p).length < 2
  · rw [hr.1, if_pos h, (hr.2.2.2.1 h).2.2.2]; rfl
  · rw [hr.1, if_neg h, (hr.2.2.2.2 (by omega)).2.2.1]

/-- all paths of a call: the counting model's final cursor is the sum of the `used` counts, i.e. the `base` the next path
would get in `addPathsFrom` -/
theorem counting_model_cursor_all (isOpen : Bool) (paths : List (List Pt)) (c : Clipper.Model.AddPaths.Cur) :
    (paths.foldl Clipper.Model.AddPaths.stepPath c).v = c.v + (paths.map (fun p => (addPath isOpen p).used)).sum := by
  induction paths generalizing c with
  | nil => simp
  | cons p ps ih =>
    simp only [List.foldl_cons, List.map_cons, List.sum_cons]
    rw [ih, counting_model_cursor isOpen]; omega

end Clipper.Props.C10AddPathsBridge

/-
C01 — the scanline region and the output rings under construction (a corollary of `Props/C01Region.lean`).

`Props/C01Rings.lean` proves, for EVERY event list of the ring model `Model/AelRings.lean` (the events of `Model/Ael.lean` decorated with
the points the C++ has in hand, plus `update`/`join`/`split`): every closed edge that owns an output record owns a ring under
construction whose front / back point is the last point emitted on the edge holding that end (`ring_ends_at_edges`), and an edge holds
the FRONT end iff the gap to its left is outside the result region of the winding SUMS to its left (`front_edge_unfilled_left`).
`Props/C01Region.lean` identifies these winding sums, for the event list derived from the scanbeam model, with the `Spec.wind` winding
numbers of the points of the scanline.  Composition (`region_of_rings_partial`): for any decoration of the derived events with points,
the edges holding ring ends are exactly the hot edges of the scanline — the boundary points of the region C01 defines on it — and the
front end of a ring is held by an edge that has the region on its RIGHT, the back end by an edge that has it on its LEFT.

PARTIAL: nothing is said about WHERE on its edge a ring's end point lies (the model's points are inputs), so "the finished rings bound the
region" does not follow here (it is `Props/C01Crown.output_region`, for the exact points of `Props/C01Output`); joins do not occur in the
derived run.
-/
import ClipperVerif.Props.C01Region
import ClipperVerif.Props.C01Rings
namespace Clipper.Props.C01RegionRings
open Clipper Clipper.Model Clipper.Model.AelOrder Clipper.Model.SweepEvents
open Clipper.Lemmas.C01Region Clipper.Props.C01Region

/-- **region_of_rings_partial.**  `edges` under a labelling `lab`; `evs`: an event list of `Model/Ael.lean` accepted from the empty AEL
with final state `l`, which tracks the list `es` of sweep edges: exactly the input edges crossing the scanline `yn/yd`, each once, in
left-to-right order on it (`Props/C01Region.scanline_region_stage` provides such `evs`, `l`, `es` for the two stages of every scanbeam,
`scanline_sums` for every height).  `rops`: ANY event list of the ring model whose bookkeeping events are `evs` (any points, any
`update` events, …), accepted from the empty state with final state `rs`.  Then
 * the side model's AEL, its records forgotten, IS `l`;
 * a closed edge is hot iff it owns an output record or is joined;
 * every edge owning a record owns a ring under construction with at least one point, and the front / back point of every ring under
   construction is the last point emitted on the edge holding that end (`ring_ends_at_edges`);
 * for the edge at position `i` owning the record `k` and every point of the scanline in the gap immediately left of it (the `i` edges
   before it are left of the point, no other edge is): `k` holds the FRONT end of its ring iff the point is OUTSIDE the region
   `inR ct fr` of the winding sums of the edges left of the point — which `ray_winding` identifies with `Spec.wind`. -/
theorem region_of_rings_partial (cfg : Cfg) (hct : cfg.ct ≠ .noClip) (lab : Lab) (edges : List SweepOrder.SEdge) (hnd : edges.Nodup)
    (evs : List Op) (l : Ael) (es : List SweepOrder.SEdge) (hrun : Model.run cfg [] evs = some l) (htr : Tracks lab l es)
    (yn yd : Int) (hndes : es.Nodup) (hmem : ∀ e, e ∈ es ↔ e ∈ edges ∧ aliveAt e yn yd)
    (rops : List ROp) (rs : RState) (hr : runR cfg RState.empty rops = .ok rs) (hev : baseOps rops = evs) :
    erase rs.s.ael = l ∧
    (∀ x ∈ rs.s.ael, x.e.isOpen = false ∧ x.e.hot = (x.orec.isSome || x.join != .none)) ∧
    (∀ x ∈ rs.s.ael, ∀ k, x.orec = some k → ∃ g, rs.o.rings[k.id]? = some g ∧ g.stat = .live ∧ g.pts ≠ []) ∧
    (∀ g ∈ rs.o.rings, g.stat = .live → g.pts.head? = some g.flast ∧ g.pts.getLast? = some g.blast) ∧
    ∀ (i : Nat) (x : Model.SEdge) (k : Rec), rs.s.ael[i]? = some x → x.orec = some k → ∀ xn : Int,
      es.filter (fun e => decide (leftOfPt e xn yn yd)) = es.take i →
      k.front = !inR cfg.ct cfg.fr (labSum lab .subject (leftEdges edges xn yn yd)) (labSum lab .clip (leftEdges edges xn yn yd)) := by
  have hS := C01Rings.erase_ring_run cfg rops _ rs hr
  have hE : Model.run cfg [] evs = some (erase rs.s.ael) := by
    have := erase_runS cfg hct _ SState.empty rs.s (C11Sides.sinv_empty cfg) hS
    rw [← hev]; exact this
  have hl : erase rs.s.ael = l := by rw [hrun] at hE; exact (Option.some.inj hE).symm
  have hclosed : ∀ x ∈ rs.s.ael, x.e.isOpen = false := by
    intro x hx
    exact tracks_closed htr x.e (by rw [← hl]; exact List.mem_map_of_mem hx)
  obtain ⟨r1, r2, r3⟩ := C01Rings.ring_ends_at_edges cfg hct rops rs hr
  have hside := (C01Rings.sinv_rings cfg hct rops rs hr).side
  refine ⟨hl, ?_, r2, r3, ?_⟩
  · intro x hx
    refine ⟨hclosed x hx, ?_⟩
    have := List.all_eq_true.1 hside.1 x hx
    simp only [localOK, hclosed x hx, Bool.false_eq_true, if_false, Bool.and_eq_true, beq_iff_eq] at this
    exact this.1
  · intro i x k hi hk xn hfil
    obtain ⟨hilt, hx⟩ := List.getElem?_eq_some_iff.1 hi
    have hsplit : rs.s.ael = rs.s.ael.take i ++ x :: rs.s.ael.drop (i + 1) := by
      rw [← hx, List.getElem_cons_drop hilt, List.take_append_drop]
    have hf := C01Rings.front_edge_unfilled_left cfg hct rops rs hr _ _ x k hsplit (hclosed x (hx ▸ List.getElem_mem hilt)) hk
    rw [hf]
    have hpre : erase (rs.s.ael.take i) = l.take i := by rw [← hl]; simp [erase, List.map_take]
    have hperm : (leftEdges edges xn yn yd).Perm (es.take i) := by
      rw [← hfil]
      refine (List.perm_ext_iff_of_nodup (hnd.filter _) (hndes.filter _)).2 ?_
      intro e
      simp only [List.mem_filter, decide_eq_true_eq, hmem]
      constructor
      · rintro ⟨h1, h2, h3⟩; exact ⟨⟨h1, h2⟩, h3⟩
      · rintro ⟨⟨h1, h2⟩, h3⟩; exact ⟨h1, h2, h3⟩
    rw [hpre, sumT_tracks lab .subject _ _ (tracks_take htr i), sumT_tracks lab .clip _ _ (tracks_take htr i),
      labSum_perm lab .subject hperm, labSum_perm lab .clip hperm]

/- The derived events of the two triangles of `Props/C01Region.lean`, decorated with points.
Second scanbeam `[20, 33]`, after its insertions; Union, NonZero: the AEL is `3 5 2 0` (the clip triangle's local minimum lies left of the
subject triangle at that height: all four edges are hot). -/

private def triA : Path := [⟨0, 40⟩, ⟨30, 3⟩, ⟨-30, 11⟩]
private def triB : Path := [⟨-10, 33⟩, ⟨-31, 0⟩, ⟨34, 20⟩]
private def ropsTri : List ROp :=
  [.base (.insertPair 0 .subject false (-1)) ⟨0, 40⟩, .base (.insertPair 0 .clip false 1) ⟨-10, 33⟩]

example : baseOps ropsTri = [.insertPair 0 .subject false (-1), .insertPair 0 .clip false 1] := by decide
/-- the ring model accepts them: records and ring ends after the second local minimum (the clip triangle starts outside the subject
triangle's span: two rings under construction, the clip triangle's bounds are a front and a back edge) -/
example : (match runR ⟨.union, .nonZero⟩ RState.empty ropsTri with
    | .ok rs => some (rs.s.ael.map (fun x => (x.e.hot, x.orec.map (·.front))), rs.o.rings.map (fun g => (g.pts, g.stat == .live)))
    | .error _ => none) =
    some ([(true, some true), (true, some false), (true, some true), (true, some false)],
      [([⟨0, 40⟩], true), ([⟨-10, 33⟩], true)]) := by decide

end Clipper.Props.C01RegionRings

/-
C09 — RectClipLines returns exactly the parts of each polyline inside the rectangle.

Theorems about the model `ClipperVerif/Model/RectClipLines.lean` (bit-exact correspondence with the C++ is
checked by harness/C09.cpp on every run).  `GetLocation` is the definition *generated* from the C++ source.
The `double` arithmetic (`CrossProduct`, `GetSegmentIntersectPt`) is the parameter `A : Arith`; every theorem
holds for every `A` satisfying the stated hypotheses.

Proved here: the exact characterisation of `GetLocation`; termination and index safety of every loop
(`rectClipLines_total`); all output vertices lie in the rectangle (`lines_in_rect`, under the hypothesis
`NoLostCrossing`, which the unchanged C++ code violates — `lines_in_rect_needs_hyp` is the witness); the output is,
in order and direction, input vertices in the rectangle plus crossing points of the segment they are tagged with
(`lines_order`), with a new piece for exactly the entering crossings (`lines_pieces_count`).

Proved elsewhere: that the pieces are the parts of the polyline inside the rectangle, segment by segment, for
sign-exact arithmetic (`Props/C09Cover.lean`, `lines_cover`).  Not proved: the metric claims (distance 1.5, length).
-/
import ClipperVerif.Lemmas.RectEdge
namespace Clipper.Props.C09
open Clipper Clipper.Model.RC Clipper.Lemmas.RC

/-- `GetLocation` (generated from the C++ source) returns `false` exactly for the points of the rectangle
boundary, reporting the side (precedence left, right, top, bottom); otherwise it returns `true` and one of the nine
regions, the corner regions counting as left / right.  Holds for every rectangle, empty ones included. -/
theorem getLocation_spec (r : Rect) (p : Pt) (l0 : Location) :
    ((getLocation r p l0).1 = false ↔ OnBoundary r p) ∧
    ((getLocation r p l0).1 = false → (getLocation r p l0).2 = sideOf r p) ∧
    ((getLocation r p l0).1 = true → (getLocation r p l0).2 = region r p) :=
  ⟨getLocation_fst r p l0, getLocation_snd_false r p l0, getLocation_snd_true r p l0⟩

/-- Corollary: the answer `(true, inside)` means strictly inside. -/
theorem getLocation_inside_iff (r : Rect) (p : Pt) (l0 : Location) :
    getLocation r p l0 = (true, .inside) ↔
      (r.left < p.x ∧ p.x < r.right ∧ r.top < p.y ∧ p.y < r.bottom) := by
  refine ⟨fun e => (getLocation_snd_inside r p l0).mp (by rw [e]), fun hin => ?_⟩
  have hb : ¬ OnBoundary r p := by unfold OnBoundary; omega
  cases h1 : (getLocation r p l0).1
  · exact absurd ((getLocation_fst r p l0).mp h1) hb
  · exact Prod.ext h1 ((getLocation_snd_inside r p l0).mpr hin)

theorem emits_total (A : Arith) (r : Rect) (path : Path) : (emits A r path).isSome = true := by
  cases hne : r.isEmpty
  · obtain ⟨es, he, _⟩ := emits_spec A r path hne
    rw [he]; rfl
  · unfold emits; rw [hne]; rfl

theorem execute_total (A : Arith) (r : Rect) (ps : Paths) : (execute A r ps).isSome = true := by
  induction ps with
  | nil => rfl
  | cons p ps ih =>
    unfold execute
    split
    · rfl
    · split
      · exact ih
      · have h1 := emits_total A r p
        unfold executeInternal
        cases he : emits A r p with
        | none => rw [he] at h1; simp at h1
        | some es =>
          cases hx : execute A r ps with
          | none => rw [hx] at ih; simp at ih
          | some o => rfl

/-- **Termination and index safety (C10 obligations of this code).**  The model's loops run on fuel
`2 * path.length + 2` and read the path through the checked accessor `path[i]?`; a `none` result would mean that
the fuel ran out or that an index was out of range.  For every arithmetic, rectangle and input this never happens:
`GetNextLocation`'s scans stop at `highI`, `path[i]` / `path[i-1]` are only read for `1 ≤ i ≤ highI`, and the main
`while` loop of `ExecuteInternal` makes progress at least every second iteration. -/
theorem rectClipLines_total (A : Arith) (r : Rect) (lines : Paths) :
    (rectClipLines A r lines).isSome = true := by
  unfold rectClipLines
  split
  · rfl
  · exact execute_total A r lines

/-- The second `GetIntersection` call of a "passing right through" step — whose result the C++ ignores —
found the first crossing, for every such step of the run on `path`. -/
def NoLostCrossing (A : Arith) (r : Rect) (path : Path) : Prop :=
  ∀ es, emits A r path = some es → ∀ e ∈ es, e.kind ≠ .thru1 false

theorem good_inR {A : Arith} {r R : Rect} {path : Path} (hne : r.isEmpty = false) (hce : CrossZeroExact A)
    (hi : IsectIn A R) (hsub : Subrect r R) {e : Emit} (hg : Good A r path e) (hl : e.kind ≠ .thru1 false) :
    inRect R e.pt = true := by
  unfold Good at hg
  split at hg
  · exact inRect_mono hsub hg.2.2
  · obtain ⟨_, cur, prv, _, loc, h1, h2⟩ := hg
    rw [← h2]; exact getIntersection_inR hne hce hi hsub _ _ _ _ h1
  · obtain ⟨_, cur, prv, _, loc, h1, h2⟩ := hg
    rw [← h2]; exact getIntersection_inR hne hce hi hsub _ _ _ _ h1
  · obtain ⟨_, cur, prv, _, loc, h1, h2⟩ := hg
    rw [← h2]; exact getIntersection_inR hne hce hi hsub _ _ _ _ h1
  · rename_i f hk
    obtain ⟨_, cur, prv, _, loc, h1, h2⟩ := hg
    cases f with
    | false => exact absurd hk hl
    | true => rw [← h2]; exact getIntersection_inR hne hce hi hsub _ _ _ _ h1

theorem executeInternal_in_rect {A : Arith} {r R : Rect} {path : Path} (hne : r.isEmpty = false)
    (hce : CrossZeroExact A) (hi : IsectIn A R) (hsub : Subrect r R) (hnl : NoLostCrossing A r path)
    {out : Paths} (ho : executeInternal A r path = some out) :
    ∀ piece ∈ out, ∀ p ∈ piece, inRect R p = true := by
  obtain ⟨es, he, _, hgood⟩ := emits_spec A r path hne
  unfold executeInternal at ho
  rw [he] at ho
  simp only [Option.map_some, Option.some.injEq] at ho
  subst ho
  intro piece hp p hpp
  obtain ⟨e, hem, rfl⟩ := mem_assemble hp hpp
  exact good_inR hne hce hi hsub (hgood e hem) (hnl es he e hem)

theorem execute_mem {A : Arith} {r : Rect} {ps : Paths} {out : Paths} (h : execute A r ps = some out) :
    ∀ piece ∈ out, ∃ path ∈ ps, ∃ o, executeInternal A r path = some o ∧ piece ∈ o := by
  induction ps generalizing out with
  | nil => simp [execute] at h; subst h; simp
  | cons p ps ih =>
    unfold execute at h
    split at h
    · simp at h; subst h; simp
    · split at h
      · intro piece hp
        obtain ⟨path, hm, o, ho, hpo⟩ := ih h piece hp
        exact ⟨path, by simp [hm], o, ho, hpo⟩
      · cases h1 : executeInternal A r p with
        | none => rw [h1] at h; simp at h
        | some a =>
          cases h2 : execute A r ps with
          | none => rw [h1, h2] at h; simp at h
          | some b =>
            rw [h1, h2] at h
            simp only [Option.some.injEq] at h
            subst h
            intro piece hp
            rcases List.mem_append.mp hp with hp | hp
            · exact ⟨p, by simp, a, h1, hp⟩
            · obtain ⟨path, hm, o, ho, hpo⟩ := ih h2 piece hp
              exact ⟨path, by simp [hm], o, ho, hpo⟩

/-- **`lines_in_rect`.**  Every vertex returned by `RectClipLines(rect, lines)` lies in the closed rectangle `R`,
where `R ⊇ rect` is any rectangle into which `GetSegmentIntersectPt` delivers its points (`R = rect` for an exact
intersection routine, `rect` widened by one unit for the rounding of the real one), provided
* `CrossProduct(a, b, c) == 0` is decided exactly when `b c` is axis-parallel (`CrossZeroExact`), and
* no first crossing of a through-going segment is lost (`NoLostCrossing`).
The second hypothesis is not an artefact: see `lines_in_rect_needs_hyp`. -/
theorem lines_in_rect (A : Arith) (r R : Rect) (lines : Paths)
    (hce : CrossZeroExact A) (hi : IsectIn A R) (hsub : Subrect r R)
    (hnl : ∀ path ∈ lines, NoLostCrossing A r path)
    (out : Paths) (ho : rectClipLines A r lines = some out) :
    ∀ piece ∈ out, ∀ p ∈ piece, inRect R p = true := by
  unfold rectClipLines at ho
  split at ho
  · simp at ho; subst ho; simp
  · rename_i hcond
    have hne : r.isEmpty = false := by
      cases h : r.isEmpty
      · rfl
      · simp [h] at hcond
    intro piece hp p hpp
    obtain ⟨path, hm, o, hoi, hpo⟩ := execute_mem ho piece hp
    exact executeInternal_in_rect hne hce hi hsub (hnl path hm) hoi piece hpo p hpp

/-- exact integer arithmetic: sign of the exact cross product, intersection by the rectangle's own corner
(any point of the rectangle would do for this example) -/
def exampleArith (r : Rect) : Arith := ⟨fun a b c => Int.sign (crossZ a b c), fun _ _ _ _ => some r.c0⟩

/-- the hypotheses of `lines_in_rect` are satisfiable on a run that has a through-going segment -/
example : CrossZeroExact (exampleArith ⟨0, 0, 10, 10⟩) ∧ IsectIn (exampleArith ⟨0, 0, 10, 10⟩) ⟨0, 0, 10, 10⟩ ∧
    Subrect ⟨0, 0, 10, 10⟩ ⟨0, 0, 10, 10⟩ ∧
    NoLostCrossing (exampleArith ⟨0, 0, 10, 10⟩) ⟨0, 0, 10, 10⟩ [⟨-5, 5⟩, ⟨15, 7⟩, ⟨3, 3⟩] ∧
    (emits (exampleArith ⟨0, 0, 10, 10⟩) ⟨0, 0, 10, 10⟩ [⟨-5, 5⟩, ⟨15, 7⟩, ⟨3, 3⟩]).map (·.map (·.kind)) =
      some [.thru1 true, .thru2, .enter, .vertex] := by
  refine ⟨?_, ?_, by simp [Subrect], ?_, by decide⟩
  · intro a b c _; simp [exampleArith, Int.sign_eq_zero_iff_zero]
  · intro a b c d q h; simp [exampleArith] at h; subst h; decide
  · intro es he e hm
    have : emits (exampleArith ⟨0, 0, 10, 10⟩) ⟨0, 0, 10, 10⟩ [⟨-5, 5⟩, ⟨15, 7⟩, ⟨3, 3⟩] =
        some [⟨1, ⟨0, 0⟩, true, .thru1 true⟩, ⟨1, ⟨0, 0⟩, false, .thru2⟩, ⟨2, ⟨0, 0⟩, true, .enter⟩, ⟨2, ⟨3, 3⟩, false, .vertex⟩] := by
      decide
    rw [this] at he
    simp only [Option.some.injEq] at he
    subst he
    simp only [List.mem_cons, List.not_mem_nil, or_false] at hm
    rcases hm with rfl | rfl | rfl | rfl <;> simp

/- The hypothesis `NoLostCrossing` is necessary: witness of the defect in the C++ code.  Real input (harness label
`kf.lost_crossing`): `RectClipLines(Rect64(347, 434, 67109211, 67109298), {(-28115609, 29720495),
(95231410, -100663865)})` returns the piece `(0,0) → (347,434)`, although the segment
misses the rectangle (it crosses `x = 347` at `y = 433.99999999`).  Cause: in `double`,
`CrossProduct(c, b, a) = 0` but `CrossProduct(c, a, b) = 1` for the corner `c = (347, 434)`, so the first
`GetIntersection` call reports the corner and the second one — whose return value `ExecuteInternal` ignores —
finds nothing and leaves `ip2` at its default `(0,0)`, which is then added to the output.
`Float` is opaque to the kernel, so the witness below uses an arithmetic that is exact except for that one
rounded product; the bit-exact reproduction is the harness record. -/

def wA : Pt := ⟨-28115609, 29720495⟩
def wB : Pt := ⟨95231410, -100663865⟩
def wRect : Rect := ⟨347, 434, 67109211, 67109298⟩
/-- exact signs, except `CrossProduct(c0, b, a)`, rounded to zero as the C++ `double` computation does -/
def witnessArith : Arith :=
  ⟨fun a b c => if a = wRect.c0 ∧ b = wB ∧ c = wA then 0 else Int.sign (crossZ a b c), fun _ _ _ _ => none⟩

/-- `CrossZeroExact` holds for the witness arithmetic: the altered triple is not axis-parallel. -/
theorem witnessArith_crossZeroExact : CrossZeroExact witnessArith := by
  intro a b c hax
  simp only [witnessArith]
  split
  · rename_i h
    obtain ⟨_, rfl, rfl⟩ := h
    simp [wA, wB] at hax
  · exact Int.sign_eq_zero_iff_zero

/-- **Negation of `lines_in_rect` without `NoLostCrossing`.**  With an arithmetic satisfying the other two
hypotheses (no intersection point is ever computed, so `IsectIn` holds trivially) the model — like the C++ code on
this input — returns the vertex `(0,0)`, which is outside the rectangle `[347, 67109211] × [434, 67109298]`. -/
theorem lines_in_rect_needs_hyp :
    CrossZeroExact witnessArith ∧ IsectIn witnessArith wRect ∧
    rectClipLines witnessArith wRect [[wA, wB]] = some [[⟨0, 0⟩, ⟨347, 434⟩]] ∧
    inRect wRect ⟨0, 0⟩ = false := by
  refine ⟨witnessArith_crossZeroExact, ?_, by decide, by decide⟩
  intro a b c d q h; simp [witnessArith] at h

/-- **`lines_order`.**  For a non-empty rectangle the run of `ExecuteInternal` on `path` is described by a list
`es` of `Add` calls such that
* the result is `assemble es` (consecutive duplicates removed, a new piece at every `start_new`, single points dropped);
* the segment indices `k` of the calls are non-decreasing and `< path.length`: input order and direction;
* every call is `Good`: a `vertex` call adds `path[k]`, which lies in the closed rectangle, without `start_new`;
  an `enter` / `exit` / `thru2` call adds a point that a successful `GetIntersection` reported for the segment
  `path[k-1] path[k]` (so a point of `{path[k-1], path[k], a rectangle corner, isect …}`), `thru1` the point left in
  `ip2` by the second call; `start_new` is set exactly for `enter` and `thru1` (an entering crossing);
* the concatenated output is a subsequence of the added points. -/
theorem lines_order (A : Arith) (r : Rect) (path : Path) (hne : r.isEmpty = false) :
    ∃ es, emits A r path = some es ∧ executeInternal A r path = some (assemble es) ∧
      es.Pairwise (fun a b => a.k ≤ b.k) ∧
      (∀ e ∈ es, e.k < path.length ∧ Good A r path e) ∧
      ((assemble es).flatten).Sublist (es.map (·.pt)) := by
  obtain ⟨es, he, hseg, hgood⟩ := emits_spec A r path hne
  refine ⟨es, he, by simp [executeInternal, he], hseg.2, ?_, assemble_sublist es⟩
  intro e hm
  refine ⟨?_, hgood e hm⟩
  have hg := hgood e hm
  have hsome : ∀ {q : Pt}, path[e.k]? = some q → e.k < path.length :=
    fun hq => (List.getElem?_eq_some_iff.mp hq).1
  unfold Good at hg
  split at hg
  · exact hsome hg.2.1
  · obtain ⟨_, cur, prv, hs, _⟩ := hg; exact hsome hs.2.1
  · obtain ⟨_, cur, prv, hs, _⟩ := hg; exact hsome hs.2.1
  · obtain ⟨_, cur, prv, hs, _⟩ := hg; exact hsome hs.2.1
  · obtain ⟨_, cur, prv, hs, _⟩ := hg; exact hsome hs.2.1

/-- `start_new` marks exactly the entering crossings (`enter`, and the first point `thru1` of a through-going
segment). -/
theorem startNew_iff_entering {A : Arith} {r : Rect} {path : Path} {e : Emit} (hg : Good A r path e) :
    e.startNew = true ↔ (e.kind = .enter ∨ ∃ f, e.kind = .thru1 f) := by
  unfold Good at hg
  split at hg <;> rename_i hk
  · simp [hk, hg.1]
  · simp [hk, hg.1]
  · simp [hk, hg.1]
  · simp [hk, hg.1]
  · simp [hk, hg.1]

/-- **A new piece starts exactly at an entering crossing.**  The number of rings `Add` builds is one (for the
first point, whatever it is) plus the number of later `start_new` calls; by `startNew_iff_entering` these are the
entering crossings. -/
theorem lines_pieces_count (e : Emit) (es : List Emit) :
    (addAll ((e :: es).map (fun e => (e.pt, e.startNew)))).length = 1 + (es.filter (·.startNew)).length :=
  addAll_length e es

/-
Not proved: the metric claims of the property (within 1.5 units of the polyline, length within 2 units per crossing).
They are about the rounding of `GetSegmentIntersectPt` and are checked on the real code by the exact-rational judge
`LINESCHECK` (Driver/C09.lean).
-/

end Clipper.Props.C09

/-
C01 / C03, output ring assembly: theorems on `Model/AelRings.lean`, the model of how the Vatti sweep builds its `OutPt` rings
(`AddOutPt`, `AddLocalMinPoly`, `AddLocalMaxPoly`, `JoinOutrecPaths`, `SwapOutrecs`, `Split`, `CheckJoinLeft/Right`), layered on the side
bookkeeping model of C11 (`Model/AelSides.lean`) and tied to the real engine by replaying hook traces point for point
(`harness/aelrings.h`, `harness/C01rings.cpp`, driver command `AELRINGS`).

Proved here for **every** event list from the empty state (any number of edges and records, any points, any interleaving the side model
accepts), every clip type except `NoClip` and every fill rule:

* `erase_ring_step`, `erase_ring_run`  — forgetting the rings, a step / a run of this model *is* the step / run of the side model
  (`update` events are invisible there); hence `sinv_rings`, `recs_rings`, `run_never_faults`, `front_edge_unfilled_left`: every theorem of
  `Props/C11Sides.lean` and, through it, of `Props/C01.lean` holds in every state reachable here.
* `rings_conserve_points`  — conservation and provenance: the points in all rings (under construction, finished, emptied) are, as a multiset,
  exactly the points for which an `OutPt` was created = the points handed to `AddOutPt` / `AddLocalMinPoly` minus exactly those `AddOutPt`
  suppressed as duplicates of the end they were to extend; `AddOutPt` is never called on a missing or dead record; every point handed over is
  the point of an event.  `JoinOutrecPaths`, `SwapOutrecs`, ring closing and `Split` neither lose nor duplicate a point.
* `ring_points_from_events` — every vertex of every ring is the point of one of the events (a local minimum, a vertex passed by a hot edge,
  a maximum, an intersection point, a join / split point).
* `ring_ends_at_edges`     — the link between the AEL and the rings: there are exactly as many rings as records; every closed edge that owns a
  record owns a ring under construction with at least one point; and the front (back) point of every ring under construction is the last point
  handed to `AddOutPt` / `AddLocalMinPoly` — suppressed or not — for the edge that holds its front (back) end.
* `ring_segments_on_edges_partial` — every pair of neighbours of every ring (cyclically for finished rings) is in the segment log, i.e. arose in one
  of four enumerated ways: `extend` (two consecutive emissions at one end during one run = while one `Active` holds that end), `meet` (the
  end point of the other edge and the meeting point at a local maximum / a crossing treated as one), `joinMeet` (the same at a join), `joinSeam`
  (the two end points glued by `CheckJoinLeft/Right` without a new point).  *Partial*: that two consecutive emissions of one `Active`
  span a piece of one input edge (or of two consecutive edges of one bound, through an emitted vertex) is geometry and not proved.
* `run_follows_active`, `run_follows_active_run` — a run is the tenure of one `Active` at one ring end: following the edges through the AEL by
  position (`trackPos`: insertions shift, `SwapPositionsInAEL` exchanges, removals delete), every run id held after an event is new or was
  held before by the *same* edge (`JoinOutrecPaths` may have renamed its record); `runs_below_nrun`: new run ids are unused ones.  Together with `front_edge_unfilled_left`
  (front edge ⇔ region on its right) and C01 `contributing_iff_boundary` (an edge owns a record ⇔ it bounds the region) this is the
  combinatorial skeleton of "finished rings are made of boundary-edge pieces with the filled region on the correct side".

Trusted base of the tie (checked on every trace by `harness/C01rings.cpp`): the event list of a real sweep with the points read by
`harness/aelrings.h`; horizontal joins (`ConvertHorzSegsToJoins` / `ProcessHorzJoins`) are not modelled — a trace is followed up to the first such
join — and open-path records are not tracked.
-/
import ClipperVerif.Lemmas.AelRingsRuns
import ClipperVerif.Props.C11Sides
namespace Clipper.Props.C01Rings
open Clipper Clipper.Model

/-- Forgetting the rings, an accepted event is the same event of the side model `Model.stepS`; an `update` event
(`AddOutPt(e, e.top)` before `UpdateEdgeIntoAEL`) leaves the side state alone.  The rings change by `Model.outStep`, computed from the side state before the event. -/
theorem erase_ring_step (cfg : Cfg) (r r' : RState) (op : ROp) (h : stepR cfg r op = .ok r') :
    (match op.erase with
     | some sop => stepS cfg r.s sop = .ok r'.s
     | none => r'.s = r.s) ∧ r'.o = outStep cfg r.s r.o op := by
  unfold stepR at h
  cases he : op.erase with
  | some sop =>
    simp only [he] at h ⊢
    cases hs : stepS cfg r.s sop with
    | ok s' => simp only [hs] at h; cases h; exact ⟨rfl, rfl⟩
    | error e => simp [hs] at h
  | none =>
    simp only [he] at h ⊢
    cases op with
    | update i p =>
      simp only at h
      split at h
      · cases h; exact ⟨rfl, rfl⟩
      · cases h
    | base _ _ => simp [ROp.erase] at he
    | join _ _ => simp [ROp.erase] at he
    | split _ _ => simp [ROp.erase] at he

/-- A run of the ring model projects to a run of the side model on the erased event list. -/
theorem erase_ring_run (cfg : Cfg) (ops : List ROp) : ∀ (r r' : RState), runR cfg r ops = .ok r' →
    runS cfg r.s (ops.filterMap ROp.erase) = .ok r'.s := by
  induction ops with
  | nil => intro r r' h; simp only [runR] at h; cases h; rfl
  | cons op ops ih =>
    intro r r' h
    simp only [runR] at h
    cases hs : stepR cfg r op with
    | error e => simp [hs] at h
    | ok r1 =>
      simp only [hs] at h
      have h1 := (erase_ring_step cfg r r1 op hs).1
      have h2 := ih r1 r' h
      cases he : op.erase with
      | some sop =>
        simp only [he] at h1
        simp only [List.filterMap_cons, he, runS, h1]
        exact h2
      | none =>
        simp only [he] at h1
        simp only [List.filterMap_cons, he]
        rw [← h1]; exact h2

/-- the side invariant (wind counts, hot ⇔ contributing, alternation of front and back edges) holds in every state reachable in the ring model -/
theorem sinv_rings (cfg : Cfg) (hct : cfg.ct ≠ .noClip) (ops : List ROp) (r : RState) (hr : runR cfg RState.empty ops = .ok r) : SInv cfg r.s :=
  C11Sides.sinv_reachable cfg hct _ r.s (erase_ring_run cfg ops _ r hr)

theorem recs_rings (cfg : Cfg) (hct : cfg.ct ≠ .noClip) (ops : List ROp) (r : RState) (hr : runR cfg RState.empty ops = .ok r) : RecsOK r.s.next r.s.ael :=
  C11Sides.recs_reachable cfg hct _ r.s (erase_ring_run cfg ops _ r hr)

/-- a run of the ring model can be rejected (ill-formed event list), it never reaches one of the side model's faults -/
theorem run_never_faults (cfg : Cfg) (hct : cfg.ct ≠ .noClip) (ops : List ROp) (f : Fault) : runR cfg RState.empty ops ≠ .error (.fault f) := by
  suffices H : ∀ (ops : List ROp) (r : RState), SInv cfg r.s → runR cfg r ops ≠ .error (.fault f) from
    H ops RState.empty (C11Sides.sinv_empty cfg)
  intro ops
  induction ops with
  | nil => intro r _ h; simp [runR] at h
  | cons op ops ih =>
    intro r hS h
    simp only [runR] at h
    cases hs : stepR cfg r op with
    | ok r1 =>
      simp only [hs] at h
      have e := (erase_ring_step cfg r r1 op hs).1
      refine ih r1 ?_ h
      cases he : op.erase with
      | some sop => simp only [he] at e; exact C11Sides.sinv_step cfg hct r.s r1.s sop hS e
      | none => simp only [he] at e; rw [e]; exact hS
    | error e =>
      simp only [hs] at h
      cases h
      unfold stepR at hs
      cases he : op.erase with
      | some sop =>
        simp only [he] at hs
        cases hss : stepS cfg r.s sop with
        | ok s' => simp [hss] at hs
        | error e' =>
          simp only [hss] at hs
          cases hs
          exact C11Sides.step_never_faults cfg hct r.s sop hS f hss
      | none =>
        simp only [he] at hs
        cases op with
        | update i p => simp only at hs; split at hs <;> cases hs
        | base _ _ => simp [ROp.erase] at he
        | join _ _ => simp [ROp.erase] at he
        | split _ _ => simp [ROp.erase] at he

/-- C11 `front_iff_unfilled_left` in the ring model: in every reachable state a closed edge that owns a record —
hence a ring under construction, `ring_ends_at_edges` — holds the ring's *front* end iff the gap to its left is outside the result region. -/
theorem front_edge_unfilled_left (cfg : Cfg) (hct : cfg.ct ≠ .noClip) (ops : List ROp) (r : RState) (hr : runR cfg RState.empty ops = .ok r)
    (pre rest : List SEdge) (x : SEdge) (k : Rec) (hl : r.s.ael = pre ++ x :: rest) (hx : x.e.isOpen = false) (hk : x.orec = some k) :
    k.front = !inR cfg.ct cfg.fr (sumT .subject (erase pre)) (sumT .clip (erase pre)) :=
  C11Sides.front_iff_unfilled_left cfg hct _ r.s (erase_ring_run cfg ops _ r hr) pre rest x k hl hx hk

/-- the ring invariant: `OInv` (as many rings as records, hot edges own live rings, no point lost, neighbours logged), ring ends = last emissions,
conservation, provenance of the log -/
structure RInv (E : List Pt) (r : RState) : Prop where
  oinv : OInv r.s.next r.s.ael r.o
  ends : EndsOK r.o
  perm : PermOK r.o
  prov : ∀ e ∈ r.o.log, e.pt ∈ E
  runs : RunsBound r.o

/-- in the empty state there is no edge, no ring and no log entry: every clause holds of nothing -/
theorem rinv_empty : RInv [] RState.empty :=
  { oinv := { len := rfl, hot := fun _ hx => (nomatch hx), nolost := fun _ he => (nomatch he), segs := fun _ hg => (nomatch hg) }
    ends := fun _ hg => nomatch hg
    perm := List.Perm.nil
    prov := fun _ he => nomatch he
    runs := fun _ hg => nomatch hg }

/-- one event keeps `OInv` -/
theorem oinv_step (cfg : Cfg) (r r' : RState) (op : ROp) (hS : SInv cfg r.s) (hR : RecsOK r.s.next r.s.ael)
    (h : OInv r.s.next r.s.ael r.o) (hs : stepR cfg r op = .ok r') : OInv r'.s.next r'.s.ael r'.o :=
  (stage_step cfg r r' op hS hR h hs).oinv

theorem rinv_step (cfg : Cfg) (E : List Pt) (r r' : RState) (op : ROp) (hS : SInv cfg r.s) (hR : RecsOK r.s.next r.s.ael)
    (h : RInv E r) (hs : stepR cfg r op = .ok r') : RInv (op.pt :: E) r' := by
  -- `OInv` needs the side state; the other clauses are kept by every ring primitive, hence by `outStep`
  have h2 := (erase_ring_step cfg r r' op hs).2
  have hlog := pres_outStep cfg r.s r.o op (LogFrom r.o.log op.pt) (logFrom_prim r.o.log op.pt) (fun e he => Or.inl he)
  exact {
    oinv := oinv_step cfg r r' op hS hR h.oinv hs
    ends := h2 ▸ pres_outStep cfg r.s r.o op EndsOK (endsOK_prim op.pt) h.ends
    perm := h2 ▸ pres_outStep cfg r.s r.o op PermOK (permOK_prim op.pt) h.perm
    runs := h2 ▸ pres_outStep cfg r.s r.o op RunsBound (runsBound_prim op.pt) h.runs
    prov := fun e he => (hlog e (h2 ▸ he)).elim (fun h' => List.mem_cons_of_mem _ (h.prov e h'))
      (fun h' => h' ▸ List.mem_cons_self) }

/-- the points of an event list, most recent first -/
def eventPts (ops : List ROp) : List Pt := (ops.map ROp.pt).reverse

/-- runs are folds of a step function (`runR`, `runZ` are defined that way): an invariant indexed by the events done so far, most recent
first, goes through -/
theorem run_invariant {σ ι : Type} (step : σ → ι → Except Err σ) (run : σ → List ι → Except Err σ) (hnil : ∀ s, run s [] = .ok s)
    (hok : ∀ s op ops s', step s op = .ok s' → run s (op :: ops) = run s' ops)
    (herr : ∀ s op ops e, step s op = .error e → run s (op :: ops) = .error e)
    (I : List ι → σ → Prop) : ∀ (ops E : List ι) (s s' : σ),
      (∀ E s s' op, op ∈ ops → I E s → step s op = .ok s' → I (op :: E) s') → I E s → run s ops = .ok s' → I (ops.reverse ++ E) s' := by
  intro ops
  induction ops with
  | nil => intro E s s' _ h hr; rw [hnil] at hr; cases hr; exact h
  | cons op ops ih =>
    intro E s s' hstep h hr
    cases hs : step s op with
    | error e => rw [herr s op ops e hs] at hr; cases hr
    | ok s1 =>
      rw [hok s op ops s1 hs] at hr
      have := ih (op :: E) s1 s' (fun E s s' o ho => hstep E s s' o (List.mem_cons_of_mem _ ho)) (hstep E s s1 op List.mem_cons_self h hs) hr
      rw [List.reverse_cons, List.append_assoc]; exact this

/-- All ring invariants hold after every event list from the empty state. -/
theorem rinv_reachable (cfg : Cfg) (hct : cfg.ct ≠ .noClip) (ops : List ROp) (r : RState) (hr : runR cfg RState.empty ops = .ok r) :
    RInv (eventPts ops) r := by
  have := run_invariant (stepR cfg) (runR cfg) (fun _ => rfl) (fun _ _ _ _ h => by rw [runR, h]) (fun _ _ _ _ h => by rw [runR, h])
    (fun E r => SInv cfg r.s ∧ RecsOK r.s.next r.s.ael ∧ RInv (E.map ROp.pt) r) ops [] RState.empty r ?_
    ⟨C11Sides.sinv_empty cfg, by intro k; simp [RState.empty, SState.empty, cnt], rinv_empty⟩ hr
  · rw [List.append_nil, List.map_reverse] at this; exact this.2.2
  · intro E r r1 op _ ⟨hS, hR, h⟩ hs
    -- the side invariants go with the side model's step; an `update` leaves the side state alone
    have e := (erase_ring_step cfg r r1 op hs).1
    have hS1 : SInv cfg r1.s ∧ RecsOK r1.s.next r1.s.ael := by
      cases he : op.erase with
      | some sop =>
        rw [he] at e
        have := C11Sides.stepS_spec cfg hct r.s sop hS
        rw [e] at this
        exact ⟨this.1, this.2 hR⟩
      | none => rw [he] at e; rw [e]; exact ⟨hS, hR⟩
    exact ⟨hS1.1, hS1.2, rinv_step cfg _ r r1 op hS hR h hs⟩

/-- After every event list: (a) the points of all rings are, up to order, exactly the points for which an `OutPt` was created
(log entries `new`, `added`); (b) `AddOutPt` was never called on a missing or dead record, so the log entries that did *not* produce an `OutPt` are
exactly the duplicates `AddOutPt` suppressed (`pt == op_front->pt` when adding to the front, `pt == op_back->pt` when adding to the back);
(c) every point handed to the output is the point of one of the events.  In particular `JoinOutrecPaths`, `SwapOutrecs`, ring closing and `Split`
neither lose nor duplicate a point. -/
theorem rings_conserve_points (cfg : Cfg) (hct : cfg.ct ≠ .noClip) (ops : List ROp) (r : RState) (hr : runR cfg RState.empty ops = .ok r) :
    (allPts r.o.rings).Perm ((r.o.log.filter (fun e => e.kind != .dup)).map (·.pt)) ∧
    (∀ e ∈ r.o.log, e.kind ≠ .lost) ∧
    (∀ e ∈ r.o.log, e.pt ∈ ops.map ROp.pt) := by
  have h := rinv_reachable cfg hct ops r hr
  refine ⟨h.perm.not_dup h.oinv.nolost, h.oinv.nolost, ?_⟩
  · intro e he
    have := h.prov e he
    simpa [eventPts] using this

/-- Every vertex of every ring — under construction or finished — is the point carried by one of the events: the `bot` of a
local minimum, the `top` of an edge at a vertex or a maximum, an intersection point, or the point of a join / split (which in the engine are again
one of these). -/
theorem ring_points_from_events (cfg : Cfg) (hct : cfg.ct ≠ .noClip) (ops : List ROp) (r : RState) (hr : runR cfg RState.empty ops = .ok r)
    (g : Ring) (hg : g ∈ r.o.rings) (p : Pt) (hp : p ∈ g.pts) : p ∈ ops.map ROp.pt := by
  obtain ⟨e, he, rfl⟩ := (rinv_reachable cfg hct ops r hr).perm.mem_log hg hp
  exact (rings_conserve_points cfg hct ops r hr).2.2 e he

/-- The invariant linking the rings to the AEL, in every reachable state:
(a) there are exactly as many rings as closed output records created;
(b) every edge that owns a record `(id, side)` owns a ring under construction (`live`) with at least one point;
(c) for every ring under construction the front point `outrec->pts->pt` is the last point handed to `AddOutPt` / `AddLocalMinPoly` for the edge holding its
front end (`flast`: recorded at every call, suppressed or not, inherited through `JoinOutrecPaths` and `SwapOutrecs`), and the back point
`outrec->pts->next->pt` the last one handed over for the edge holding its back end.
So between two emissions on the edge that holds an end, nothing else is put at that end: each ring segment made by `AddOutPt` joins two
consecutive emissions of one edge (`ring_segments_on_edges_partial`). -/
theorem ring_ends_at_edges (cfg : Cfg) (hct : cfg.ct ≠ .noClip) (ops : List ROp) (r : RState) (hr : runR cfg RState.empty ops = .ok r) :
    r.o.rings.length = r.s.next ∧
    (∀ x ∈ r.s.ael, ∀ k, x.orec = some k → ∃ g, r.o.rings[k.id]? = some g ∧ g.stat = .live ∧ g.pts ≠ []) ∧
    (∀ g ∈ r.o.rings, g.stat = .live → g.pts.head? = some g.flast ∧ g.pts.getLast? = some g.blast) := by
  have h := rinv_reachable cfg hct ops r hr
  refine ⟨h.oinv.len, h.oinv.hot, ?_⟩
  intro g hg hl
  simpa [endPt] using h.ends g hg hl

/-- what `AddOutPt(e, pt)` guarantees about the end it was called for: afterwards the end point is `pt` (added, or already there) -/
theorem addOutPt_end (id : Nat) (f : Bool) (pt : Pt) (o : Out) (g : Ring) (hg : o.rings[id]? = some g) (hl : g.stat = .live) :
    ∃ g', (addOutPt id f pt o).rings[id]? = some g' ∧ endPt f g'.pts = some pt ∧ g'.stat = .live := by
  refine ⟨(addPt f pt g).1, ?_, ?_, (addPt_stat _ _ _).trans hl⟩
  · rw [addOutPt_live id f pt o g hg hl]; exact List.getElem?_set_self (lt_of_get hg)
  · rw [addPt_end f f pt g (absurd rfl), if_pos rfl]

/-- In every reachable state every pair of neighbours `(p, q)` of every ring — consecutive points of a ring under
construction, cyclically consecutive points of a finished ring — is recorded in the segment log `segs` (in one of the two orientations), i.e. arose in
one of the four ways the model enumerates (`SegKind`): two consecutive emissions at one ring end during one run (`extend`), the closing / joining stretch
of the second edge at a local maximum or a crossing handled as one (`meet`), the same at a join (`joinMeet`), or the seam of `CheckJoinLeft/Right`
between the end points of two rings (`joinSeam`).
Full statement wanted (C01/C03): "`p q` is the rounded image of a stretch of one input edge between two consecutive events on that edge, or a join seam".
Proved part: the enumeration above, and (`run_follows_active`) that a run is the tenure of one `Active` — identified by following its position through
the AEL — at one ring end.  Missing: the geometric step (consecutive emissions of one `Active` lie on one input edge or on two consecutive edges of its
bound through an emitted vertex; a join seam is within the join tolerance). -/
theorem ring_segments_on_edges_partial (cfg : Cfg) (hct : cfg.ct ≠ .noClip) (ops : List ROp) (r : RState) (hr : runR cfg RState.empty ops = .ok r) :
    (∀ g ∈ r.o.rings, ∀ pq ∈ (match g.stat with | .done => cycPairs g.pts | _ => linPairs g.pts),
      ∃ sg ∈ r.o.segs, (sg.p = pq.1 ∧ sg.q = pq.2) ∨ (sg.p = pq.2 ∧ sg.q = pq.1)) := by
  have h := rinv_reachable cfg hct ops r hr
  intro g hg pq hpq
  obtain ⟨sg, h1, h2⟩ := h.oinv.segs g hg pq hpq
  refine ⟨sg, h1, ?_⟩
  simpa [segMatches] using h2

/-- where the `Active` at position `p` is after a list of events -/
def trackRun : List ROp → Nat → Option Nat
  | [], p => some p
  | op :: ops, p => (trackPos op p).bind (trackRun ops)

/-- The ghost run ids — which `ring_segments_on_edges_partial` uses to say "two consecutive emissions at one ring end during
one run" — follow one `Active` through the AEL.  `trackPos op p` is where the edge at position `p` is after the event (insertions shift it,
`SwapPositionsInAEL` exchanges `i` and `i+1`, removals delete it).  For every event from a reachable state, every run id held afterwards by the edge
at a position `p'` (the run of the ring end `(outrec, IsFront)` that edge owns) is either a *new* run (`≥ nrun` before the event: the edge has just been
given a record by `AddLocalMinPoly` / `Split`, or has just taken a record over from the edge it crossed in `SwapOutrecs`), or it is the run the *same*
edge held before the event (possibly under another record index: `JoinOutrecPaths` renames the surviving ring's end).  So a run never passes from one
`Active` to another, and all emissions logged under one run id are emissions of one `Active` (one bound of one input path) while it continuously
owned that ring end. -/
theorem run_follows_active (cfg : Cfg) (hct : cfg.ct ≠ .noClip) (ops : List ROp) (r : RState) (hr : runR cfg RState.empty ops = .ok r)
    (op : ROp) (r' : RState) (hs : stepR cfg r op = .ok r') (p' ρ : Nat) (h : holderRun r'.s.ael r'.o.rings p' = some ρ) :
    r.o.nrun ≤ ρ ∨ ∃ p, trackPos op p = some p' ∧ holderRun r.s.ael r.o.rings p = some ρ :=
  (stage_step cfg r r' op (sinv_rings cfg hct ops r hr) (recs_rings cfg hct ops r hr) (rinv_reachable cfg hct ops r hr).oinv hs).follows p' ρ h

/-- run ids in use are below the counter `nrun`, so a run `≥ nrun` really is one that did not exist before the event -/
theorem runs_below_nrun (cfg : Cfg) (hct : cfg.ct ≠ .noClip) (ops : List ROp) (r : RState) (hr : runR cfg RState.empty ops = .ok r)
    (g : Ring) (hg : g ∈ r.o.rings) : g.frun < r.o.nrun ∧ g.brun < r.o.nrun :=
  (rinv_reachable cfg hct ops r hr).runs g hg

theorem nrun_step (cfg : Cfg) (r r' : RState) (op : ROp) (hs : stepR cfg r op = .ok r') : r.o.nrun ≤ r'.o.nrun := by
  rw [(erase_ring_step cfg r r' op hs).2]
  exact pres_outStep cfg r.s r.o op (fun o => r.o.nrun ≤ o.nrun) (nrun_prim r.o.nrun op.pt) (Nat.le_refl _)

theorem runR_append (cfg : Cfg) : ∀ (a b : List ROp) (x : RState),
    runR cfg x (a ++ b) = (match runR cfg x a with | .ok y => runR cfg y b | .error e => .error e) := by
  intro a
  induction a with
  | nil => intro b x; rfl
  | cons op a ih =>
    intro b x
    simp only [List.cons_append, runR]
    cases stepR cfg x op with
    | ok y => exact ih b y
    | error e => rfl

/-- The same over any further event list: a run held at the end that already existed at the start was held at the start by
the same `Active`. -/
theorem run_follows_active_run (cfg : Cfg) (hct : cfg.ct ≠ .noClip) (ops0 : List ROp) (r0 : RState) (hr0 : runR cfg RState.empty ops0 = .ok r0) :
    ∀ (ops : List ROp) (r : RState), runR cfg RState.empty (ops0 ++ ops) = .ok r →
      ∀ p' ρ, holderRun r.s.ael r.o.rings p' = some ρ →
        r0.o.nrun ≤ ρ ∨ ∃ p, trackRun ops p = some p' ∧ holderRun r0.s.ael r0.o.rings p = some ρ := by
  intro ops
  induction ops generalizing ops0 r0 with
  | nil =>
    intro r hr p' ρ h
    rw [List.append_nil, hr0] at hr; cases hr
    exact Or.inr ⟨p', rfl, h⟩
  | cons op ops ih =>
    intro r hr p' ρ h
    rw [runR_append, hr0] at hr
    simp only [runR] at hr
    cases hs : stepR cfg r0 op with
    | error e => simp [hs] at hr
    | ok r1 =>
      simp only [hs] at hr
      have hr1 : runR cfg RState.empty (ops0 ++ [op]) = .ok r1 := by
        rw [runR_append, hr0]; simp only [runR, hs]
      have hr' : runR cfg RState.empty ((ops0 ++ [op]) ++ ops) = .ok r := by
        rw [runR_append, hr1]; exact hr
      rcases ih (ops0 ++ [op]) r1 hr1 r hr' p' ρ h with h1 | ⟨p1, hp1, hh1⟩
      · left; exact Nat.le_trans (nrun_step cfg r0 r1 op hs) h1
      · rcases run_follows_active cfg hct ops0 r0 hr0 op r1 hs p1 ρ hh1 with h0 | ⟨p, hp, hh⟩
        · left; exact h0
        · right; exact ⟨p, by simp [trackRun, hp, hp1], hh⟩

/-- What the ghost log records, spelled out for the simplest emitting event: when the hot closed edge at position `i` — holding end
`k` of a ring under construction, under run `holderRun … i` — passes a vertex `pt` (`AddOutPt(e, e.top)`), afterwards that ring end is `pt`, and every segment
logged by the event is an `extend` segment of exactly that run from the previous end point to `pt` (none if `pt` was suppressed as a duplicate). -/
theorem update_emits_on_holder (cfg : Cfg) (r r' : RState) (i : Nat) (pt : Pt) (hs : stepR cfg r (.update i pt) = .ok r')
    (x : SEdge) (k : Rec) (hx : r.s.ael[i]? = some x) (hxo : x.e.isOpen = false) (hk : x.orec = some k)
    (g : Ring) (hg : r.o.rings[k.id]? = some g) (hl : g.stat = .live) :
    holderRun r.s.ael r.o.rings i = some (g.run k.front) ∧
    (∃ g', r'.o.rings[k.id]? = some g' ∧ endPt k.front g'.pts = some pt) ∧
    (∀ sg ∈ r'.o.segs, sg ∈ r.o.segs ∨ (sg.run = g.run k.front ∧ some sg.p = endPt k.front g.pts ∧ sg.q = pt ∧ sg.kind = .extend)) := by
  have ho : r'.o = addOutPt k.id k.front pt r.o := by
    rw [(erase_ring_step cfg r r' (.update i pt) hs).2]; simp only [outStep, updateOut, hx, hxo, hk, addOn]; rfl
  refine ⟨by simp only [holderRun, hx, hk, runOf, hg]; rfl, ?_, ?_⟩
  · obtain ⟨g', h1, h2, _⟩ := addOutPt_end k.id k.front pt r.o g hg hl
    exact ⟨g', by rw [ho]; exact h1, h2⟩
  · intro sg hsg
    rw [ho] at hsg
    rcases addOutPt_segs _ _ _ _ sg hsg with h1 | ⟨g', hg', _, h1⟩
    · exact Or.inl h1
    · rw [hg] at hg'; cases hg'; exact Or.inr h1

theorem checkOut_sound (r : RState) (h : checkOut r = true) :
    r.o.rings.length = r.s.next ∧ (∀ x ∈ r.s.ael, ∀ k, x.orec = some k → ∃ g, r.o.rings[k.id]? = some g ∧ g.stat = .live ∧ g.pts ≠ []) ∧
    (∀ e ∈ r.o.log, e.kind ≠ .lost) := by
  unfold checkOut at h
  simp only [Bool.and_eq_true, List.all_eq_true, beq_iff_eq] at h
  obtain ⟨⟨h1, h2⟩, h3⟩ := h
  refine ⟨h1, ?_, ?_⟩
  · intro x hx k hk
    have := h2 x hx
    simp only [hk] at this
    cases hg : r.o.rings[k.id]? with
    | none => simp [hg] at this
    | some g =>
      simp only [hg, Bool.and_eq_true, beq_iff_eq, Bool.not_eq_true'] at this
      exact ⟨g, rfl, this.1, by intro e; rw [e] at this; simp at this⟩
  · intro e he; have := h3 e he; simpa using this

def ringsOf (x : Except Err RState) : Option (List (RStat × List Pt)) := x.toOption.map (fun r => r.o.rings.map (fun g => (g.stat, g.pts)))

/-- subject triangle (0,0) (100,10) (40,90), clip triangle (50,-20) (130,60) (20,50), Union / NonZero: the events of the real sweep -/
def triangles : List ROp :=
  [ .base (.insertPair 0 .subject false (1)) ⟨40, 90⟩,
    .base (.insertPair 2 .clip false (1)) ⟨130, 60⟩,
    .base (.intersect 1) ⟨66, 54⟩,
    .base (.intersect 0) ⟨22, 50⟩,
    .update 0 ⟨20, 50⟩,
    .base (.intersect 0) ⟨21, 47⟩,
    .base (.intersect 2) ⟨91, 21⟩,
    .update 3 ⟨100, 10⟩,
    .base (.intersect 2) ⟨77, 7⟩,
    .base (.intersect 1) ⟨39, 3⟩,
    .base (.removePair 0) ⟨0, 0⟩,
    .base (.removePair 0) ⟨50, -20⟩ ]

/-- the union is one 12-gon: record 0 is finished with all twelve points in ring order (as the engine has them, before `CleanCollinear`); records 1 and 2
were emptied by `JoinOutrecPaths` -/
example : ringsOf (runR ⟨.union, .nonZero⟩ RState.empty triangles) =
    some [(.done, [⟨50, -20⟩, ⟨39, 3⟩, ⟨0, 0⟩, ⟨21, 47⟩, ⟨20, 50⟩, ⟨22, 50⟩, ⟨40, 90⟩, ⟨66, 54⟩, ⟨130, 60⟩, ⟨91, 21⟩, ⟨100, 10⟩, ⟨77, 7⟩]), (.gone, []), (.gone, [])] := by
  decide +kernel
/-- the intersection of the same triangles: one hexagon -/
example : ringsOf (runR ⟨.intersection, .evenOdd⟩ RState.empty triangles) =
    some [(.done, [⟨39, 3⟩, ⟨21, 47⟩, ⟨22, 50⟩, ⟨66, 54⟩, ⟨91, 21⟩, ⟨77, 7⟩])] := by
  decide +kernel
/-- half way (after the seventh event) the union has one ring under construction, front end first -/
example : ringsOf (runR ⟨.union, .nonZero⟩ RState.empty (triangles.take 7)) =
    some [(.live, [⟨21, 47⟩, ⟨20, 50⟩, ⟨22, 50⟩, ⟨40, 90⟩, ⟨66, 54⟩, ⟨130, 60⟩, ⟨91, 21⟩]), (.gone, [])] := by
  decide +kernel
example : (runR ⟨.union, .nonZero⟩ RState.empty triangles).toOption.map (fun r => checkOut r && checkSegs r.o) = some true := by decide +kernel
/-- `AddOutPt` suppressed no point in this run: 12 points handed over (most recent first), 12 `OutPt`s, 3 records started -/
example : (runR ⟨.union, .nonZero⟩ RState.empty triangles).toOption.map (fun r => r.o.log.map (·.kind)) =
    some [.added, .added, .new, .added, .added, .added, .added, .added, .added, .added, .new, .new] := by decide +kernel
/-- the twelve sides of the union, as logged: nine `extend` segments (e.g. run 4 = the clip triangle's left edge while it holds the front end:
(22,50) → (20,50) → (21,47)) and three `meet` segments, one per `AddLocalMaxPoly` -/
example : (runR ⟨.union, .nonZero⟩ RState.empty triangles).toOption.map (fun r => r.o.segs.map (fun sg => (sg.run, sg.p, sg.q, sg.kind))) =
    some [(7, ⟨77, 7⟩, ⟨50, -20⟩, .meet), (8, ⟨39, 3⟩, ⟨50, -20⟩, .extend), (9, ⟨39, 3⟩, ⟨0, 0⟩, .meet), (5, ⟨21, 47⟩, ⟨0, 0⟩, .extend),
      (6, ⟨100, 10⟩, ⟨77, 7⟩, .extend), (6, ⟨91, 21⟩, ⟨100, 10⟩, .extend), (3, ⟨130, 60⟩, ⟨91, 21⟩, .extend), (4, ⟨20, 50⟩, ⟨21, 47⟩, .extend),
      (4, ⟨22, 50⟩, ⟨20, 50⟩, .extend), (0, ⟨40, 90⟩, ⟨22, 50⟩, .extend), (2, ⟨130, 60⟩, ⟨66, 54⟩, .meet), (1, ⟨40, 90⟩, ⟨66, 54⟩, .extend)] := by decide +kernel

/-- runs in the triangles example (positions 0..3 of the AEL).  After the two insertions the four edges hold runs 0, 1 (record 0) and 2, 3 (record 1).
The crossing at (66,54) is an `AddLocalMaxPoly`: record 1 is joined into record 0 and the clip's right edge, still at position 3, keeps run 3 although its
ring end is now the back end of record 0.  The crossing at (22,50) is a `SwapOutrecs`: the front end of record 0 passes to the clip's left edge, which
starts the new run 4. -/
example : (List.range 5).map (fun n => (runR ⟨.union, .nonZero⟩ RState.empty (triangles.take n)).toOption.map
      (fun r => (List.range 4).map (holderRun r.s.ael r.o.rings))) =
    [some [none, none, none, none], some [some 0, some 1, none, none], some [some 0, some 1, some 2, some 3],
     some [some 0, none, none, some 3], some [some 4, none, none, some 3]] := by decide +kernel

/-- two parallelograms sharing a slanted edge, clipped by a third (Intersection / EvenOdd): the real sweep joins two edges (`join`), later splits them
(`split`); the finished ring carries the join seam `(14,12),(14,12)` that `JoinOutrecPaths` leaves when the joined ends share their coordinates -/
def sharedEdge : List ROp :=
  [ .base (.insertPair 0 .clip false (1)) ⟨19, 17⟩,
    .update 0 ⟨7, 15⟩,
    .base (.insertPair 2 .subject false (1)) ⟨24, 14⟩,
    .base (.intersect 1) ⟨18, 12⟩,
    .update 1 ⟨14, 12⟩,
    .base (.insertPair 1 .subject false (1)) ⟨14, 12⟩,
    .join 2 ⟨14, 12⟩,
    .base (.intersect 0) ⟨6, 10⟩,
    .update 0 ⟨4, 10⟩,
    .update 4 ⟨17, 7⟩,
    .split 3 ⟨11, 6⟩,
    .base (.intersect 3) ⟨11, 6⟩,
    .base (.intersect 2) ⟨11, 6⟩,
    .base (.removePair 1) ⟨5, 5⟩,
    .update 1 ⟨10, 2⟩,
    .update 3 ⟨20, 4⟩,
    .base (.removePair 2) ⟨10, 2⟩,
    .base (.removePair 0) ⟨0, 0⟩ ]

example : ringsOf (runR ⟨.intersection, .evenOdd⟩ RState.empty sharedEdge) =
    some [(.done, [⟨5, 5⟩, ⟨6, 10⟩, ⟨14, 12⟩, ⟨14, 12⟩, ⟨18, 12⟩, ⟨17, 7⟩, ⟨11, 6⟩]), (.gone, []), (.gone, [])] := by
  decide +kernel
/-- in that run `AddOutPt`'s duplicate rule fired (the point of the `split` had just been put there), and a `joinSeam` segment was logged -/
example : (runR ⟨.intersection, .evenOdd⟩ RState.empty sharedEdge).toOption.map
    (fun r => (r.o.log.any (fun e => e.kind == .dup), r.o.segs.any (fun sg => sg.kind == .joinSeam), checkOut r && checkSegs r.o)) = some (true, true, true) := by
  decide +kernel

/-- the invariants are not decoration: `AddOutPt` on a record that was never created is reported as a lost point and rejected by the checker -/
example : ((addOutPt 3 true ⟨1, 1⟩ Out.empty).log.map (·.kind), checkOut ⟨SState.empty, addOutPt 3 true ⟨1, 1⟩ Out.empty⟩) = ([.lost], false) := by decide
/-- an `update` for a position outside the AEL is rejected -/
example : (stepR ⟨.union, .nonZero⟩ RState.empty (.update 0 ⟨0, 0⟩)).toOption = none := by decide

end Clipper.Props.C01Rings

/-! The bookkeeping model `Model/Ael.lean` under the ring model: which of its events an event list of the ring model contains, and that
runs project (`Props/C01RegionRings` and `Lemmas/C01OutputSweep` compose the two models through these). -/
namespace Clipper.Props.C01RegionRings
open Clipper Clipper.Model

/-- the `Model.Op` of a side-model event (`join` / `split` are invisible in `Model/Ael.lean`) -/
def baseOf : SOp → Option Op
  | .base o => some o
  | _ => none

/-- the events of `Model/Ael.lean` in a ring-model event list -/
def baseOps (rops : List ROp) : List Op := (rops.filterMap ROp.erase).filterMap baseOf

/-- a run of the side model projects to a run of the bookkeeping model on the erased states -/
theorem erase_runS (cfg : Cfg) (hct : cfg.ct ≠ .noClip) : ∀ (ops : List SOp) (s s' : SState), SInv cfg s →
    runS cfg s ops = .ok s' → Model.run cfg (erase s.ael) (ops.filterMap baseOf) = some (erase s'.ael) := by
  intro ops
  induction ops with
  | nil => intro s s' _ h; simp only [runS] at h; cases h; rfl
  | cons op ops ih =>
    intro s s' hs h
    simp only [runS] at h
    cases h1 : stepS cfg s op with
    | error e => simp [h1] at h
    | ok s1 =>
      simp only [h1] at h
      have hs1 := C11Sides.sinv_step cfg hct s s1 op hs h1
      have he := C11Sides.erase_step cfg s s1 op hs h1
      have h2 := ih s1 s' hs1 h
      cases op with
      | base o =>
        simp only at he
        simp only [List.filterMap_cons, baseOf, Model.run, he]
        exact h2
      | join i | split i =>
        simp only at he
        simp only [List.filterMap_cons, baseOf]
        rw [← he]; exact h2

end Clipper.Props.C01RegionRings

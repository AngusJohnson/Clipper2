/-
C02 — axis-parallel inputs are clipped exactly.

The real engine's output on rectilinear input is judged by the executable checker `RectCheck.rectCheck`
(Model/RectCheck.lean), which looks at ONE probe point per grid cell.  The theorems here lift its verdict to
every point of the plane: winding numbers of rectilinear closed paths are constant on the cells of the grid
of vertex coordinates (`windR_cell_const`), hence a `true` verdict implies the pointwise specification of the
Boolean operation at every rational point (`rectCheck_sound`).

Points of the plane: a rational point `p / k` is represented as the integer point `p` against the paths
scaled by the positive integer `k` (`scalePaths k`).  `k = 1` gives lattice points, `k = 2` the cell centres.
Because the Spec's winding number uses a half-open rule, the statements hold even ON grid lines (a point on a
grid line behaves like the cell above / to the right of it), so no "off the grid lines" hypothesis is needed;
the off-grid form asked for in DESIGN.md is the special case `windR_cell_const_between`.
-/
import ClipperVerif.Lemmas.RectCheck
import ClipperVerif.Lemmas.RectArea
namespace Clipper.Props.C02
open Clipper Clipper.RectCheck

/-- `p` and `q` are on the same side of every grid line `x = g` (g ∈ xs) and `y = g` (g ∈ ys). -/
def SameCell (xs ys : List Int) (p q : Pt) : Prop :=
  (∀ g ∈ xs, (p.x < g ↔ q.x < g)) ∧ (∀ g ∈ ys, (p.y < g ↔ q.y < g))

instance (xs ys : List Int) (p q : Pt) : Decidable (SameCell xs ys p q) := by
  unfold SameCell; infer_instance

theorem scalePaths_one (ps : Paths) : scalePaths 1 ps = ps := WindSpec.mapPaths_scale_one ps

/-- **Winding numbers of rectilinear closed paths are constant on grid cells.**
If every path of `P` is closed and rectilinear, two points lying on the same side of every line through a
vertex coordinate have the same winding number: the crossing contribution of an axis-parallel edge depends
only on comparisons of the point with vertex coordinates. -/
theorem windR_cell_const {P : Paths} (hr : isRectilinear P = true) {p q : Pt}
    (h : SameCell (xsOf P) (ysOf P) p q) : wind P p = wind P q := by
  have := wind_scale_congr hr (k := 1) (k' := 1) (p := p) (p' := q)
    (fun g hg => by simp only [loc, Int.one_mul, decide_eq_decide]; exact h.1 g hg)
    (fun g hg => by simp only [loc, Int.one_mul, decide_eq_decide]; exact h.2 g hg)
  rwa [scalePaths_one] at this

/-- The form of DESIGN.md: two points strictly inside the same open grid cell `(x0,x1) × (y0,y1)` (no vertex
coordinate strictly between `x0` and `x1`, nor between `y0` and `y1`) have equal winding numbers. -/
theorem windR_cell_const_between {P : Paths} (hr : isRectilinear P = true) {p q : Pt} {x0 x1 y0 y1 : Int}
    (hx : ∀ g ∈ xsOf P, g ≤ x0 ∨ x1 ≤ g) (hy : ∀ g ∈ ysOf P, g ≤ y0 ∨ y1 ≤ g)
    (hp : x0 < p.x ∧ p.x < x1 ∧ y0 < p.y ∧ p.y < y1) (hq : x0 < q.x ∧ q.x < x1 ∧ y0 < q.y ∧ q.y < y1) :
    wind P p = wind P q := by
  apply windR_cell_const hr
  constructor
  · intro g hg; have := hx g hg; omega
  · intro g hg; have := hy g hg; omega

example : (∀ g ∈ xsOf [[⟨0,0⟩, ⟨4,0⟩, ⟨4,4⟩, ⟨0,4⟩]], g ≤ 0 ∨ 4 ≤ g) ∧
    wind [[⟨0,0⟩, ⟨4,0⟩, ⟨4,4⟩, ⟨0,4⟩]] ⟨1, 3⟩ = wind [[⟨0,0⟩, ⟨4,0⟩, ⟨4,4⟩, ⟨0,4⟩]] ⟨3, 1⟩ := by decide +kernel

/-- The unbounded cells are covered by `windR_cell_const` as well; an instance: left of all vertices only the
horizontal grid lines separate cells. -/
theorem windR_cell_const_left {P : Paths} (hr : isRectilinear P = true) {p q : Pt}
    (hp : ∀ g ∈ xsOf P, p.x < g) (hq : ∀ g ∈ xsOf P, q.x < g) (hy : ∀ g ∈ ysOf P, (p.y < g ↔ q.y < g)) :
    wind P p = wind P q := by
  apply windR_cell_const hr
  exact ⟨fun g hg => ⟨fun _ => hq g hg, fun _ => hp g hg⟩, hy⟩

example : isRectilinear [[⟨0,0⟩, ⟨4,0⟩, ⟨4,4⟩, ⟨2,4⟩, ⟨2,2⟩, ⟨0,2⟩]] = true ∧
    SameCell (xsOf [[⟨0,0⟩, ⟨4,0⟩, ⟨4,4⟩, ⟨2,4⟩, ⟨2,2⟩, ⟨0,2⟩]]) (ysOf [[⟨0,0⟩, ⟨4,0⟩, ⟨4,4⟩, ⟨2,4⟩, ⟨2,2⟩, ⟨0,2⟩]])
      ⟨3, 3⟩ ⟨2, 2⟩ := by decide +kernel

/-- **Discrete Green theorem for rectilinear closed paths.**  Twice the shoelace area of a rectilinear closed
path set equals the sum, over the bounded cells of any strictly increasing grid containing all vertex
coordinates, of (winding number at the cell centre) · 2 · width · height.  (`gaps` lists the doubled mid point
and the width of every bounded grid interval; centres are taken in doubled coordinates.) -/
theorem shoelace_cells {P : Paths} (hr : isRectilinear P = true) {xs ys : List Int}
    (hx : xs.Pairwise (· < ·)) (hy : ys.Pairwise (· < ·))
    (vx : ∀ g ∈ xsOf P, g ∈ xs) (vy : ∀ g ∈ ysOf P, g ∈ ys) :
    shoelace2s P = ((gaps xs).map (fun gx => ((gaps ys).map (fun gy =>
        wind (scalePaths 2 P) ⟨gx.1, gy.1⟩ * (2 * (gx.2 * gy.2)))).sum)).sum :=
  (cellSum_paths hx hy hr vx vy).symm

example : shoelace2s [[⟨0,0⟩, ⟨4,0⟩, ⟨4,4⟩, ⟨2,4⟩, ⟨2,2⟩, ⟨0,2⟩]] = 24 ∧
    ((gaps [0, 2, 4]).map (fun gx => ((gaps [0, 2, 4]).map (fun gy =>
      wind (scalePaths 2 [[⟨0,0⟩, ⟨4,0⟩, ⟨4,4⟩, ⟨2,4⟩, ⟨2,2⟩, ⟨0,2⟩]]) ⟨gx.1, gy.1⟩ * (2 * (gx.2 * gy.2)))).sum)).sum = 24 := by
  decide +kernel

-- the hypotheses of `shoelace_cells` on that input: rectilinear, strictly increasing grid, coordinates in it
example : isRectilinear [[⟨0,0⟩, ⟨4,0⟩, ⟨4,4⟩, ⟨2,4⟩, ⟨2,2⟩, ⟨0,2⟩]] = true ∧
    ([0, 2, 4] : List Int).Pairwise (· < ·) ∧
    (∀ g ∈ xsOf [[⟨0,0⟩, ⟨4,0⟩, ⟨4,4⟩, ⟨2,4⟩, ⟨2,2⟩, ⟨0,2⟩]], g ∈ ([0, 2, 4] : List Int)) ∧
    (∀ g ∈ ysOf [[⟨0,0⟩, ⟨4,0⟩, ⟨4,4⟩, ⟨2,4⟩, ⟨2,2⟩, ⟨0,2⟩]], g ∈ ([0, 2, 4] : List Int)) := by decide +kernel

-- a self-overlapping walk with a zero-width section: both sides are 8
example : shoelace2s [[⟨0,0⟩, ⟨2,0⟩, ⟨2,2⟩, ⟨4,2⟩, ⟨2,2⟩, ⟨0,2⟩]] = 8 ∧
    ((gaps [0, 2, 4]).map (fun gx => ((gaps [0, 2]).map (fun gy =>
      wind (scalePaths 2 [[⟨0,0⟩, ⟨2,0⟩, ⟨2,2⟩, ⟨4,2⟩, ⟨2,2⟩, ⟨0,2⟩]]) ⟨gx.1, gy.1⟩ * (2 * (gx.2 * gy.2)))).sum)).sum = 8 := by
  decide +kernel

/-- **The area clause is a consequence of the cell clause.**  If the solution is rectilinear and its winding
number at every probed cell centre is what the operation prescribes, then twice its shoelace area equals twice
the exact area of the selected cells — clause (d) of the checker follows from clauses (a) and (c) by
`shoelace_cells`; the checker still evaluates it (exact integers) as a cross-check. -/
theorem area_of_cells {ct : ClipType} {fr : FillRule} {rev : Bool} {subj clip sol : Paths}
    (ho : isRectilinear sol = true)
    (hcells : (cellCentres (gridXs subj clip sol) (gridYs subj clip sol)).all
      (cellOk ct fr rev (scalePaths 2 subj) (scalePaths 2 clip) (scalePaths 2 sol)) = true) :
    shoelace2s sol = selArea2 ct fr rev subj clip (gridXs subj clip sol) (gridYs subj clip sol) := by
  rw [shoelace_cells ho (sorted_sortU _) (sorted_sortU _) (xs := gridXs subj clip sol) (ys := gridYs subj clip sol)
      (fun _ hg => mem_gridXs.mpr (.inr (.inr hg))) (fun _ hg => mem_gridYs.mpr (.inr (.inr hg)))]
  unfold selArea2
  apply congrArg
  apply List.map_congr_left
  intro gx hgx
  apply congrArg
  apply List.map_congr_left
  intro gy hgy
  have hcell := List.all_eq_true.mp hcells ⟨gx.1, gy.1⟩
    (mem_cellCentres (mem_gaps_probes hgx) (mem_gaps_probes hgy))
  unfold cellOk at hcell
  rw [eq_of_beq hcell]

/-- **Soundness of the checker for all points of the plane.**
If `rectCheck ct fr rev subj clip sol` answers `true` then
(a) subject, clip and solution are closed rectilinear path sets,
(b) every solution vertex has an x that is the x of an input vertex and a y that is the y of an input vertex,
(c) at EVERY rational point `p / k` of the plane (not only the probed cell centres; `k = 1`: every lattice
    point) the solution's winding number is `±1` (sign by `rev`) if the Boolean operation selects the point
    from the subject / clip winding numbers, and `0` otherwise,
(d) twice the solution's shoelace area equals twice the exact area of the selected cells. -/
theorem rectCheck_sound {ct : ClipType} {fr : FillRule} {rev : Bool} {subj clip sol : Paths}
    (h : rectCheck ct fr rev subj clip sol = true) :
    isRectilinear subj = true ∧ isRectilinear clip = true ∧ isRectilinear sol = true ∧
    (∀ path ∈ sol, ∀ v ∈ path, v.x ∈ xsOf subj ++ xsOf clip ∧ v.y ∈ ysOf subj ++ ysOf clip) ∧
    (∀ k : Int, 0 < k → ∀ p : Pt,
      wind (scalePaths k sol) p =
        if inR ct fr (wind (scalePaths k subj) p) (wind (scalePaths k clip) p) then (if rev then -1 else 1) else 0) ∧
    shoelace2s sol = selArea2 ct fr rev subj clip (gridXs subj clip sol) (gridYs subj clip sol) := by
  unfold rectCheck at h
  simp only [Bool.and_eq_true] at h
  obtain ⟨⟨⟨⟨⟨hs, hc⟩, ho⟩, hprov⟩, hcells⟩, harea⟩ := h
  refine ⟨hs, hc, ho, ?_, ?_, ?_⟩
  · intro path hp v hv
    unfold provenance at hprov
    simp only [Bool.and_eq_true, List.all_eq_true, List.contains_iff_mem, mem_sortU] at hprov
    exact ⟨hprov.1 v.x (mem_xsOf.mpr ⟨path, hp, v, hv, rfl⟩), hprov.2 v.y (mem_ysOf.mpr ⟨path, hp, v, hv, rfl⟩)⟩
  · intro k hk p
    obtain ⟨cx, hcx, hx⟩ := exists_probe (l := gridXs subj clip sol) (mono_loc hk p.x) (sorted_sortU _)
    obtain ⟨cy, hcy, hy⟩ := exists_probe (l := gridYs subj clip sol) (mono_loc hk p.y) (sorted_sortU _)
    -- every point has the locators of the probe `(cx, cy)` of its cell
    have probe : ∀ {X : Paths}, isRectilinear X = true → (∀ g ∈ xsOf X, g ∈ gridXs subj clip sol) →
        (∀ g ∈ ysOf X, g ∈ gridYs subj clip sol) → wind (scalePaths k X) p = wind (scalePaths 2 X) ⟨cx, cy⟩ :=
      fun hr sx sy => wind_scale_congr hr (fun g hg => hx g (sx g hg)) (fun g hg => hy g (sy g hg))
    rw [probe ho (fun _ hg => mem_gridXs.mpr (.inr (.inr hg))) (fun _ hg => mem_gridYs.mpr (.inr (.inr hg))),
        probe hs (fun _ hg => mem_gridXs.mpr (.inl hg)) (fun _ hg => mem_gridYs.mpr (.inl hg)),
        probe hc (fun _ hg => mem_gridXs.mpr (.inr (.inl hg))) (fun _ hg => mem_gridYs.mpr (.inr (.inl hg)))]
    exact eq_of_beq (List.all_eq_true.mp hcells ⟨cx, cy⟩ (mem_cellCentres hcx hcy))
  · exact eq_of_beq harea

/-- `rectCheck_sound` at lattice points (`k = 1`). -/
theorem rectCheck_sound_lattice {ct : ClipType} {fr : FillRule} {rev : Bool} {subj clip sol : Paths}
    (h : rectCheck ct fr rev subj clip sol = true) (p : Pt) :
    wind sol p = if inR ct fr (wind subj p) (wind clip p) then (if rev then -1 else 1) else 0 := by
  have := (rectCheck_sound h).2.2.2.2.1 1 (by decide) p
  simpa only [scalePaths_one] using this

/-! Non-vacuity: the checker accepts a correct solution of two overlapping squares and rejects corrupted ones. -/
section Examples
def sqA : Paths := [[⟨0,0⟩, ⟨2,0⟩, ⟨2,2⟩, ⟨0,2⟩]]
def sqB : Paths := [[⟨1,1⟩, ⟨3,1⟩, ⟨3,3⟩, ⟨1,3⟩]]

example : rectCheck .intersection .evenOdd false sqA sqB [[⟨1,1⟩, ⟨2,1⟩, ⟨2,2⟩, ⟨1,2⟩]] = true := by decide +kernel
example : rectCheck .union .nonZero false sqA sqB
    [[⟨0,0⟩, ⟨2,0⟩, ⟨2,1⟩, ⟨3,1⟩, ⟨3,3⟩, ⟨1,3⟩, ⟨1,2⟩, ⟨0,2⟩]] = true := by decide +kernel
example : rectCheck .xor .nonZero true sqA sqB
    [[⟨0,2⟩, ⟨1,2⟩, ⟨1,1⟩, ⟨2,1⟩, ⟨2,0⟩, ⟨0,0⟩], [⟨1,3⟩, ⟨3,3⟩, ⟨3,1⟩, ⟨2,1⟩, ⟨2,2⟩, ⟨1,2⟩]] = true := by decide +kernel
-- wrong region (one cell too many)
example : rectCheck .intersection .evenOdd false sqA sqB [[⟨1,1⟩, ⟨2,1⟩, ⟨2,3⟩, ⟨1,3⟩]] = false := by decide +kernel
-- right region, wrong orientation
example : rectCheck .intersection .evenOdd false sqA sqB [[⟨1,2⟩, ⟨2,2⟩, ⟨2,1⟩, ⟨1,1⟩]] = false := by decide +kernel
-- right region traced twice (winding number 2)
example : rectCheck .intersection .evenOdd false sqA sqB
    [[⟨1,1⟩, ⟨2,1⟩, ⟨2,2⟩, ⟨1,2⟩], [⟨1,1⟩, ⟨2,1⟩, ⟨2,2⟩, ⟨1,2⟩]] = false := by decide +kernel
-- not rectilinear (a diagonal closing edge)
example : rectCheck .intersection .evenOdd false sqA sqB [[⟨1,1⟩, ⟨2,1⟩, ⟨2,2⟩]] = false := by decide +kernel
-- empty solution where a cell is selected
example : rectCheck .intersection .evenOdd false sqA sqB [] = false := by decide +kernel
end Examples

end Clipper.Props.C02

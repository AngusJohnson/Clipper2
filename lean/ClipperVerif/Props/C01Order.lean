/-
C01 (also C13, C10) — the GEOMETRIC ORDER of the active edge list.

`Props/C01.lean` proves the winding-number bookkeeping for op sequences in which the *position* of every inserted edge is an
input.  This file supplies the link from positions to geometry:

 (1) `aelOrder_bridge`            the definition regenerated from the C++ `IsValidAelOrder` equals the hand-readable spec;
 (2) `isValidAelOrder_spec_gp`    what that predicate means: the order of `curr_x` when they differ, otherwise (no collinearity)
                                  the sign of an exact cross product, which says exactly that the newcomer runs to the right of
                                  the resident immediately above the scanline (exact rational x, compared without division);
 (3) `rounding_preserves_order`   rounding to nearest cannot reverse two exact x-coordinates that differ by at least 1;
 (4) `insertLeft_shape/_sorted`, `insertRight_shape/_sorted`
                                  InsertLeftEdge / InsertRightEdge + settling loop never lose or reorder residents, and put the
                                  newcomer at the position given by any strict order that agrees with the predicate.

Coordinates are mathematical integers (`Int`); y grows downwards, the sweep runs from large y to small y, so `top.y ≤ bot.y`
and "above the scanline" means smaller y.
-/
import ClipperVerif.Lemmas.AelOrder
import ClipperVerif.Lemmas.SweepGeom
namespace Clipper.Props.C01Order
open Clipper Clipper.Model.AelOrder Clipper.Lemmas.AelOrder
open Clipper.Lemmas.SweepOrder (delta sigma delta_at_bot sigma_sign_of_through xLt_iff_G xGt_iff_G)

/-- **Bridge (Tie T).** `Gen.IsValidAelOrder` — regenerated from the current C++ source on every run — applied to the fields
of two edges equals the hand-readable `aelOrderSpec`, for all edges (all integers, all flag values).  A change of the C++
function changes the generated definition and breaks this proof. -/
theorem aelOrder_bridge (r n : OEdge) : isValidAelOrder r n = aelOrderSpec r n := by
  simp only [isValidAelOrder, Gen.IsValidAelOrder, aelOrderSpec, aelOrderSpecB, cps_eq, isCollinear_eq]
  generalize cross r.top n.bot n.top = c1
  generalize cross n.bot r.top r.nextVertexPt = c2
  generalize cross n.bot n.top n.nextVertexPt = c3
  generalize cross r.prevPrevVertexPt r.bot r.top = c4
  generalize cross r.prevPrevVertexPt n.bot n.prevPrevVertexPt = c5
  by_cases h0 : n.currX = r.currX
  · simp only [h0, ne_eq, not_true_eq_false, decide_false, if_false, Bool.false_eq_true]
    by_cases h1 : c1 = 0
    · subst h1
      simp only [Int.sign_zero, not_true_eq_false, decide_false, if_false, Bool.false_eq_true]
      simp only [Int.sign_nonpos_iff, Int.sign_nonneg_iff, Int.sign_pos_iff]
      by_cases a1 : r.isMaxima = false ∧ r.top.y > n.top.y
      · obtain ⟨a11, a12⟩ := a1; simp [a11, a12]
      · have a1' : (!r.isMaxima && decide (r.top.y > n.top.y)) = false := by
          cases hh : r.isMaxima <;> simp_all
        simp only [a1', a1, if_false, Bool.false_eq_true]
        by_cases a2 : n.isMaxima = false ∧ n.top.y > r.top.y
        · obtain ⟨a21, a22⟩ := a2; simp [a21, a22]
        · have a2' : (!n.isMaxima && decide (n.top.y > r.top.y)) = false := by
            cases hh : n.isMaxima <;> simp_all
          simp only [a2', a2, if_false, Bool.false_eq_true]
          by_cases a3 : ¬r.bot.y = n.bot.y ∨ ¬r.localMinY = n.bot.y
          · have a3' : (decide ¬r.bot.y = n.bot.y || decide ¬r.localMinY = n.bot.y) = true := by
              simpa using a3
            simp only [a3', a3, if_true]
          · have a3' : (decide ¬r.bot.y = n.bot.y || decide ¬r.localMinY = n.bot.y) = false := by
              rw [Bool.eq_false_iff]; simpa using a3
            simp only [a3', a3, if_false, Bool.false_eq_true]
            cases r.isLeftBound <;> cases n.isLeftBound <;> by_cases a4 : c4 = 0 <;> by_cases a5 : c5 > 0 <;> simp [a4, a5]
    · have : ¬ (Int.sign c1 = 0) := by simpa [Int.sign_eq_zero_iff_zero] using h1
      simp [this, h1, Int.sign_neg_iff]
  · simp [h0]

/-- When the two `curr_x` differ, the answer is their comparison. -/
theorem isValidAelOrder_of_currX_ne (r n : OEdge) (h : r.currX ≠ n.currX) :
    isValidAelOrder r n = decide (r.currX < n.currX) := by
  rw [aelOrder_bridge]; simp [aelOrderSpec, aelOrderSpecB, Ne.symm h]

/-- When the `curr_x` are equal and `resident.top, newcomer.bot, newcomer.top` are not collinear, the answer is the sign of
the exact cross product. -/
theorem isValidAelOrder_of_cross_ne (r n : OEdge) (hx : r.currX = n.currX) (hc : cross r.top n.bot n.top ≠ 0) :
    isValidAelOrder r n = decide (cross r.top n.bot n.top < 0) := by
  rw [aelOrder_bridge]; simp [aelOrderSpec, aelOrderSpecB, hx, hc]

/-- **Geometry of the cross-product test.**  Resident edge `rb → rt`, newcomer `nb → nt`, both running upwards from the
scanline `y = nb.y` (`rt.y < nb.y`, `nt.y < nb.y`, resident not horizontal), the newcomer's bottom point lying exactly on the
resident's line (`cross rb rt nb = 0`; in particular when both emanate from the same point, `rb = nb`, or when the resident
passes through `nb`: the two have the same exact x at the scanline).  Then for EVERY rational height `yn/yd` strictly above
the scanline the sign of `cross rt nb nt` decides on which side the newcomer runs:
`< 0` iff the resident is strictly left of the newcomer at that height, `> 0` iff strictly right (and hence `= 0` iff the two
lines coincide there).  x-coordinates are the exact fractions `xNum/xDen` (both denominators positive), compared by
cross-multiplication. -/
theorem cross_sign_right_above (rb rt nb nt : Pt) (yn yd : Int)
    (hr : rt.y < rb.y) (hrt : rt.y < nb.y) (hn : nt.y < nb.y) (hon : cross rb rt nb = 0)
    (hyd : 0 < yd) (hy : yn < nb.y * yd) :
    (cross rt nb nt < 0 ↔ xLt rb rt nb nt yn yd) ∧ (cross rt nb nt > 0 ↔ xLt nb nt rb rt yn yd) ∧
      0 < xDen rb rt yd ∧ 0 < xDen nb nt yd := by
  -- as sweep edges: the two have the same x at the height of `nb`, so above it the sign of the slope difference `sigma` decides
  -- (`xLt_iff_G`), and `sigma` has the sign of `-cross rt nb nt` (`sigma_sign_of_through`)
  have hd0 : delta nb.y ⟨0, rb, rt⟩ ⟨0, nb, nt⟩ = 0 :=
    (delta_at_bot ⟨0, rb, rt⟩ ⟨0, nb, nt⟩).trans ((congrArg _ hon).trans (Int.mul_zero _))
  have hs := sigma_sign_of_through (a := ⟨0, rb, rt⟩) (b := ⟨0, nb, nt⟩) hr hrt hon
  have g1 := xLt_iff_G nb.y ⟨0, rb, rt⟩ ⟨0, nb, nt⟩ yn yd hyd
  have g2 := xGt_iff_G nb.y ⟨0, rb, rt⟩ ⟨0, nb, nt⟩ yn yd hyd
  rw [hd0, Int.mul_zero, Int.zero_add] at g1 g2
  have k := Clipper.WindSpec.sign_mul (e := sigma ⟨0, rb, rt⟩ ⟨0, nb, nt⟩) (Int.sub_pos.2 hy)
  exact ⟨hs.1.symm.trans (k.1.symm.trans g1.symm), hs.2.symm.trans (k.2.symm.trans g2.symm),
    Int.mul_pos (Int.sub_pos.2 hr) hyd, Int.mul_pos (Int.sub_pos.2 hn) hyd⟩

/-- **isValidAelOrder_spec_gp.**  Characterisation of `IsValidAelOrder(resident, newcomer)` in exact arithmetic, away from the
collinear branches: if the `curr_x` differ the answer is their order; if they are equal and `resident.top, newcomer.bot,
newcomer.top` are not collinear the answer is `cross(resident.top, newcomer.bot, newcomer.top) < 0`, and — for a resident
whose line passes exactly through `newcomer.bot` (same point of departure, or same exact x at the scanline), both edges
continuing above the scanline — this is true iff the resident is strictly LEFT of the newcomer at every rational height
`yn/yd` strictly above the scanline, and false iff it is strictly RIGHT of it there. -/
theorem isValidAelOrder_spec_gp (r n : OEdge) :
    (r.currX ≠ n.currX → isValidAelOrder r n = decide (r.currX < n.currX)) ∧
    (r.currX = n.currX → cross r.top n.bot n.top ≠ 0 →
      isValidAelOrder r n = decide (cross r.top n.bot n.top < 0) ∧
      ∀ yn yd : Int, r.top.y < r.bot.y → r.top.y < n.bot.y → n.top.y < n.bot.y → cross r.bot r.top n.bot = 0 →
        0 < yd → yn < n.bot.y * yd →
          (isValidAelOrder r n = true ↔ xLt r.bot r.top n.bot n.top yn yd) ∧
          (isValidAelOrder r n = false ↔ xLt n.bot n.top r.bot r.top yn yd)) := by
  refine ⟨isValidAelOrder_of_currX_ne r n, fun hx hc => ⟨isValidAelOrder_of_cross_ne r n hx hc, ?_⟩⟩
  intro yn yd h1 h2 h3 h4 h5 h6
  obtain ⟨g1, g2, _, _⟩ := cross_sign_right_above r.bot r.top n.bot n.top yn yd h1 h2 h3 h4 h5 h6
  rw [isValidAelOrder_of_cross_ne r n hx hc]
  constructor
  · rw [decide_eq_true_iff]; exact g1
  · rw [decide_eq_false_iff_not, ← g2]; omega

/-- a resident through the origin going up-left, a newcomer from the origin going up-right: valid, and the resident is left
of the newcomer at height -1/2 -/
example :
    let r : OEdge := { currX := 0, bot := ⟨0, 0⟩, top := ⟨-3, -4⟩, isLeftBound := true, isMaxima := false,
                       nextVertexPt := ⟨0, -9⟩, prevPrevVertexPt := ⟨5, -5⟩, localMinY := 0, joinRight := false }
    let n : OEdge := { currX := 0, bot := ⟨0, 0⟩, top := ⟨2, -7⟩, isLeftBound := true, isMaxima := false,
                       nextVertexPt := ⟨0, -9⟩, prevPrevVertexPt := ⟨-5, -5⟩, localMinY := 0, joinRight := false }
    r.currX = n.currX ∧ cross r.top n.bot n.top ≠ 0 ∧ r.top.y < r.bot.y ∧ r.top.y < n.bot.y ∧ n.top.y < n.bot.y ∧
      cross r.bot r.top n.bot = 0 ∧ isValidAelOrder r n = true ∧ xLt r.bot r.top n.bot n.top (-1) 2 := by decide

/-- a resident from (10,5) through (4,-3) to (1,-7) — it passes through the newcomer's bottom point (4,-3) — and a newcomer
going up to the left of it: not valid, newcomer strictly left at height -7/2 -/
example :
    let r : OEdge := { currX := 4, bot := ⟨10, 5⟩, top := ⟨1, -7⟩, isLeftBound := false, isMaxima := true,
                       nextVertexPt := ⟨0, 0⟩, prevPrevVertexPt := ⟨0, 0⟩, localMinY := 5, joinRight := false }
    let n : OEdge := { currX := 4, bot := ⟨4, -3⟩, top := ⟨-2, -6⟩, isLeftBound := true, isMaxima := false,
                       nextVertexPt := ⟨0, -9⟩, prevPrevVertexPt := ⟨7, -9⟩, localMinY := -3, joinRight := false }
    cross r.bot r.top n.bot = 0 ∧ cross r.top n.bot n.top ≠ 0 ∧ isValidAelOrder r n = false ∧
      xLt n.bot n.top r.bot r.top (-7) 2 := by decide

/-- **rounding_preserves_order.**  Two exact x-coordinates `na/da` and `nb/db` (positive denominators) and two integers
`ca`, `cb` within 1/2 of them (as `TopX` produces by rounding to nearest; only `ca ≤ na/da + 1/2` and `nb/db - 1/2 ≤ cb` are
needed).  If the exact values differ by at least 1 (`na/da + 1 ≤ nb/db`) the rounded ones are not reversed (`ca ≤ cb`); if
by more than 1 they are strictly ordered. -/
theorem rounding_preserves_order (na da nb db ca cb : Int) (hda : 0 < da) (hdb : 0 < db)
    (ha1 : 2 * (ca * da - na) ≤ da) (hb2 : -db ≤ 2 * (cb * db - nb)) :
    (na * db + da * db ≤ nb * da → ca ≤ cb) ∧ (na * db + da * db < nb * da → ca < cb) := by
  have hP : 0 < da * db := Int.mul_pos hda hdb
  -- the two "within 1/2" facts, each multiplied by the other denominator: `2 ca P ≤ 2 na db + P` and `2 nb da - P ≤ 2 cb P`
  have e1 := Int.mul_le_mul_of_nonneg_right ha1 (Int.le_of_lt hdb)
  have e2 := Int.mul_le_mul_of_nonneg_right hb2 (Int.le_of_lt hda)
  rw [Int.mul_assoc, Int.sub_mul, Int.mul_assoc] at e1
  rw [Int.neg_mul, Int.mul_assoc 2, Int.sub_mul, Int.mul_assoc cb, Int.mul_comm db da] at e2
  exact ⟨fun h => Int.le_of_mul_le_mul_right (by omega) hP, fun h => Int.lt_of_mul_lt_mul_right (by omega) (Int.le_of_lt hP)⟩

/-- The same for a rounding FUNCTION on fractions `n/d` (the only assumptions on `round`: it is within 1/2 of the exact value
and monotone — `nearbyint` satisfies both, and so does any tie-breaking rule): exact values at least 1 apart are not
reversed, more than 1 apart stay strictly ordered, and two DIFFERENT rounded values are in the order of the exact ones. -/
theorem rounding_preserves_order_fn (round : Int → Int → Int)
    (hnear : ∀ n d, 0 < d → 2 * (round n d * d - n) ≤ d ∧ -d ≤ 2 * (round n d * d - n))
    (hmono : ∀ n d n' d', 0 < d → 0 < d' → n * d' ≤ n' * d → round n d ≤ round n' d')
    (na da nb db : Int) (hda : 0 < da) (hdb : 0 < db) :
    (na * db + da * db ≤ nb * da → round na da ≤ round nb db) ∧
    (na * db + da * db < nb * da → round na da < round nb db) ∧
    (round na da < round nb db → na * db < nb * da) := by
  obtain ⟨a1, a2⟩ := hnear na da hda
  obtain ⟨b1, b2⟩ := hnear nb db hdb
  obtain ⟨r1, r2⟩ := rounding_preserves_order na da nb db _ _ hda hdb a1 b2
  refine ⟨r1, r2, ?_⟩
  intro h
  apply Int.not_le.1
  intro hle
  have := hmono nb db na da hdb hda hle
  omega

/-- 7/2 and 9/2 are exactly 1 apart; rounding them to 4 and 4 (ties resolved towards each other) is allowed and not reversed -/
example : ((7 : Int) * 2 + 2 * 2 ≤ 9 * 2 → (4 : Int) ≤ 4) ∧ ((7 : Int) * 2 + 2 * 2 < 9 * 2 → (4 : Int) < 4) :=
  rounding_preserves_order 7 2 9 2 4 4 (by decide) (by decide) (by decide) (by decide)

section Lists
variable {E : Type} (valid : E → E → Bool) (joinRight : E → Bool)

/-- **insertLeft_shape** (no hypothesis on the predicate, every AEL).  `InsertLeftEdge` either links the new edge somewhere
into the list, all residents keeping their relative order (`l₁ ++ e :: l₂` with `l₁ ++ l₂ = l`), or — the C++ path
`if (!e2) return` — leaves the list unchanged WITHOUT the new edge; the latter only if the last edge of the AEL is marked
`JoinWith::Right` (a join partner is always its right neighbour, so this state is unreachable: `insertLeft_shape_linked`). -/
theorem insertLeft_shape (l : List E) (e : E) :
    (∃ l₁ l₂, l = l₁ ++ l₂ ∧ insertLeft valid joinRight l e = l₁ ++ e :: l₂ ∧
        insertLeftPos valid joinRight l e = some l₁.length) ∨
    (insertLeft valid joinRight l e = l ∧ insertLeftPos valid joinRight l e = none ∧
        ∃ x, l.getLast? = some x ∧ joinRight x = true) := by
  cases h : insertLeftPos valid joinRight l e with
  | none =>
    right
    obtain ⟨h1, h2⟩ := insertLeft_of_none valid joinRight l e h
    exact ⟨h1, rfl, h2⟩
  | some k =>
    left
    obtain ⟨h1, h2⟩ := insertLeft_of_pos valid joinRight l e k h
    refine ⟨l.take k, l.drop k, (List.take_append_drop k l).symm, h1, ?_⟩
    simp [List.length_take, Nat.min_eq_left h2]

/-- when the last edge of the AEL is not joined to the right (the engine's invariant: `Right` is always followed by its
`Left` partner) the new edge is always linked -/
theorem insertLeft_shape_linked (l : List E) (e : E) (hlast : ∀ x, l.getLast? = some x → joinRight x = false) :
    ∃ l₁ l₂, l = l₁ ++ l₂ ∧ insertLeft valid joinRight l e = l₁ ++ e :: l₂ ∧
      insertLeftPos valid joinRight l e = some l₁.length := by
  rcases insertLeft_shape valid joinRight l e with h | ⟨_, _, x, hx, hj⟩
  · exact h
  · rw [hlast x hx] at hj; cases hj

/-- **insertLeft_sorted.**  Let `lt` be transitive, the AEL `l` sorted by it, the newcomer comparable with every resident
(`¬ lt r e → lt e r`), and let `IsValidAelOrder(r, e)` agree with `lt r e` for every resident `r`.  Joined pairs are treated
as a unit by `InsertLeftEdge` (the newcomer is never put between an edge marked `JoinWith::Right` and its right neighbour),
so `lt` has to treat them as a unit too: if the left edge of a joined pair is below `e`, so is its partner; and the last
edge is not marked `Right`.  Then `InsertLeftEdge` puts `e` behind exactly the residents below it:
the result is `l₁ ++ e :: l₂` with `l₁ ++ l₂ = l`, every edge of `l₁` below `e`, `e` below every edge of `l₂`; it is sorted by
`lt`, a permutation of `e :: l`, and the index of `e` is the number of residents below `e`. -/
theorem insertLeft_sorted (lt : E → E → Prop) (l : List E) (e : E)
    (htrans : ∀ a b c, lt a b → lt b c → lt a c)
    (hsorted : l.Pairwise lt)
    (hagree : ∀ r ∈ l, valid r e = true ↔ lt r e)
    (htotal : ∀ r ∈ l, ¬ lt r e → lt e r)
    (hjoin : ∀ l₁ a b l₂, l = l₁ ++ a :: b :: l₂ → joinRight a = true → lt a e → lt b e)
    (hlast : ∀ x, l.getLast? = some x → joinRight x = false) :
    ∃ l₁ l₂, l = l₁ ++ l₂ ∧ insertLeft valid joinRight l e = l₁ ++ e :: l₂ ∧
      (∀ r ∈ l₁, lt r e) ∧ (∀ r ∈ l₂, lt e r) ∧
      (insertLeft valid joinRight l e).Pairwise lt ∧
      (insertLeft valid joinRight l e).Perm (e :: l) ∧
      insertLeftPos valid joinRight l e = some (l.countP (fun r => valid r e)) ∧
      l₁.length = l.countP (fun r => valid r e) := by
  obtain ⟨l₁, l₂, hl, hb1, hb2⟩ := sorted_split valid lt e htrans l hsorted hagree htotal
  -- the last edge below `e` is not joined to the right: its partner would be below `e` too
  have hnj : ∀ x, l₁.getLast? = some x → joinRight x = false := by
    intro x hx
    obtain ⟨l₀, rfl⟩ := List.getLast?_eq_some_iff.1 hx
    cases l₂ with
    | nil => exact hlast x (by rw [hl, List.append_nil, List.getLast?_concat])
    | cons b t =>
      refine Bool.eq_false_iff.2 (fun hjx => ?_)
      have hbe := hjoin l₀ x b t (by rw [hl, List.append_assoc]; rfl) hjx (hb1 x (List.mem_append_right _ (List.mem_singleton_self _))).2
      have := (hb2 b List.mem_cons_self).1
      rw [(hagree b (by rw [hl]; exact List.mem_append_right _ List.mem_cons_self)).2 hbe] at this
      cases this
  have hpos : insertLeftPos valid joinRight l e = some l₁.length :=
    hl ▸ insertLeftPos_split valid joinRight e l₁ l₂ (fun r hr => (hb1 r hr).1)
      (fun b hb => (hb2 b (List.mem_of_mem_head? hb)).1) hnj
  have hval : insertLeft valid joinRight l e = l₁ ++ e :: l₂ := by
    rw [(insertLeft_of_pos valid joinRight l e _ hpos).1, hl, List.take_left' rfl, List.drop_left' rfl]
  have hcount : l₁.length = l.countP (fun r => valid r e) := by
    rw [hl, List.countP_append, List.countP_eq_length.2 (fun r hr => (hb1 r hr).1),
      List.countP_eq_zero.2 (fun r hr => by rw [(hb2 r hr).1]; exact Bool.false_ne_true), Nat.add_zero]
  obtain ⟨hpw, hperm⟩ := sorted_insert hl hsorted (fun r hr => (hb1 r hr).2) (fun r hr => (hb2 r hr).2)
  exact ⟨l₁, l₂, hl, hval, fun r hr => (hb1 r hr).2, fun r hr => (hb2 r hr).2, hval ▸ hpw, hval ▸ hperm, hcount ▸ hpos, hcount⟩

/-- the common case without joined edges -/
theorem insertLeft_sorted_nojoin (lt : E → E → Prop) (l : List E) (e : E)
    (htrans : ∀ a b c, lt a b → lt b c → lt a c)
    (hsorted : l.Pairwise lt)
    (hagree : ∀ r ∈ l, valid r e = true ↔ lt r e)
    (htotal : ∀ r ∈ l, ¬ lt r e → lt e r)
    (hnojoin : ∀ r ∈ l, joinRight r = false) :
    (insertLeft valid joinRight l e).Pairwise lt ∧ (insertLeft valid joinRight l e).Perm (e :: l) ∧
      insertLeftPos valid joinRight l e = some (l.countP (fun r => valid r e)) := by
  obtain ⟨_, _, _, _, _, _, h1, h2, h3, _⟩ := insertLeft_sorted valid joinRight lt l e htrans hsorted hagree htotal
    (fun l₁ a b l₂ hl hj _ => by rw [hnojoin a (by simp [hl])] at hj; cases hj)
    (fun x hx => hnojoin x (List.mem_of_getLast? hx))
  exact ⟨h1, h2, h3⟩

/-- **insertRight_shape** (no hypothesis on the predicate).  `InsertRightEdge` + the settling loop link the right bound
somewhere behind the left bound (index `i`), all other edges keeping their order. -/
theorem insertRight_shape (l : List E) (i : Nat) (rb : E) :
    ∃ l₁ l₂, l = l₁ ++ l₂ ∧ insertRight valid l i rb = l₁ ++ rb :: l₂ ∧
      l₁.length = min (insertRightPos valid l i rb) l.length ∧
      insertRightPos valid l i rb ≥ i + 1 := by
  refine ⟨l.take (insertRightPos valid l i rb), l.drop (insertRightPos valid l i rb), (List.take_append_drop _ _).symm, ?_,
    List.length_take, Nat.le_add_right _ _⟩
  unfold insertRight insertRightPos
  rw [(bubble_shape valid rb _).1, ← List.append_assoc, ← List.take_add, List.drop_drop]

/-- `insertRight` is `InsertRightEdge` followed by the settling loop run on the list -/
theorem insertRight_eq_settle (l : List E) (i : Nat) (rb : E) (hi : i < l.length) :
    insertRight valid l i rb = settleRight valid (insertRightEdge l i rb) (i + 1) := by
  have hlen : (l.take (i + 1)).length = i + 1 := by simp [List.length_take]; omega
  have hd : (insertRightEdge l i rb).drop (i + 1) = rb :: l.drop (i + 1) := by
    simp only [insertRightEdge]
    rw [List.drop_append_of_le_length (by omega)]
    simp [List.drop_eq_nil_of_le (Nat.le_of_eq hlen)]
  have ht : (insertRightEdge l i rb).take (i + 1) = l.take (i + 1) := by
    simp only [insertRightEdge]
    rw [List.take_append_of_le_length (by omega)]
    exact List.take_of_length_le (Nat.le_of_eq hlen)
  simp only [settleRight, hd, ht, insertRight]

/-- **insertRight_sorted.**  The AEL `l` (the left bound already at index `i`) is sorted by a transitive `lt`, the right
bound `rb` is above the left bound (`lt l[i] rb`), comparable with the residents behind the left bound, and
`IsValidAelOrder(r, rb)` agrees with `lt r rb` for those residents.  Then after `InsertRightEdge` and the settling loop the
list is sorted, a permutation of `rb :: l`, and the right bound sits at the index = number of edges below it. -/
theorem insertRight_sorted (lt : E → E → Prop) (l : List E) (i : Nat) (rb : E)
    (htrans : ∀ a b c, lt a b → lt b c → lt a c)
    (hsorted : l.Pairwise lt)
    (hi : i < l.length)
    (hleft : lt l[i] rb)
    (hagree : ∀ r ∈ l.drop (i + 1), valid r rb = true ↔ lt r rb)
    (htotal : ∀ r ∈ l.drop (i + 1), ¬ lt r rb → lt rb r) :
    ∃ l₁ l₂, l = l₁ ++ l₂ ∧ insertRight valid l i rb = l₁ ++ rb :: l₂ ∧
      (∀ r ∈ l₁, lt r rb) ∧ (∀ r ∈ l₂, lt rb r) ∧
      (insertRight valid l i rb).Pairwise lt ∧ (insertRight valid l i rb).Perm (rb :: l) ∧
      insertRightPos valid l i rb = l₁.length := by
  have hs := hsorted
  rw [← List.take_append_drop (i + 1) l, List.take_succ_eq_append_getElem hi, List.pairwise_append] at hs
  obtain ⟨m₁, m₂, hm, hb1, hb2⟩ := sorted_split valid lt rb htrans _ hs.2.1 hagree htotal
  obtain ⟨hbub, hcnt⟩ := bubble_split valid rb m₁ m₂ (fun r hr => (hb1 r hr).1)
    (fun b hb => (hb2 b (List.mem_of_mem_head? hb)).1)
  -- every edge up to the left bound is below `rb`
  have htake : ∀ r ∈ l.take (i + 1) ++ m₁, lt r rb := by
    intro r hr
    rw [List.take_succ_eq_append_getElem hi] at hr
    rcases List.mem_append.1 hr with hr | hr
    · rcases List.mem_append.1 hr with hr | hr
      · exact htrans _ _ _ ((List.pairwise_append.1 hs.1).2.2 r hr _ (List.mem_singleton_self _)) hleft
      · rw [List.mem_singleton.1 hr]; exact hleft
    · exact (hb1 r hr).2
  have hl : l = (l.take (i + 1) ++ m₁) ++ m₂ := by rw [List.append_assoc, ← hm, List.take_append_drop]
  have hval : insertRight valid l i rb = (l.take (i + 1) ++ m₁) ++ rb :: m₂ := by
    unfold insertRight; rw [hm, hbub, List.append_assoc]
  obtain ⟨hpw, hperm⟩ := sorted_insert hl hsorted htake (fun r hr => (hb2 r hr).2)
  refine ⟨_, _, hl, hval, htake, fun r hr => (hb2 r hr).2, hval ▸ hpw, hval ▸ hperm, ?_⟩
  unfold insertRightPos
  rw [hm, hcnt, List.length_append, List.length_take_of_le hi]

end Lists

private def mk (x : Int) (j : Bool := false) : OEdge :=
  { currX := x, bot := ⟨x, 10⟩, top := ⟨x, 0⟩, isLeftBound := true, isMaxima := false, nextVertexPt := ⟨x, -5⟩,
    prevPrevVertexPt := ⟨x + 1, 0⟩, localMinY := 10, joinRight := j }

/-- the hypotheses of `insertLeft_sorted` hold for the order "smaller curr_x" on an AEL with distinct curr_x, and the model
puts the newcomer at index 2 -/
example :
    let l := [mk 1, mk 4, mk 9, mk 12]
    let e := mk 7
    l.Pairwise (fun a b => a.currX < b.currX) ∧
    (∀ r ∈ l, isValidAelOrder r e = true ↔ r.currX < e.currX) ∧
    (∀ r ∈ l, ¬ r.currX < e.currX → e.currX < r.currX) ∧
    (∀ r ∈ l, r.joinRight = false) ∧
    insertLeft isValidAelOrder OEdge.joinRight l e = [mk 1, mk 4, mk 7, mk 9, mk 12] ∧
    insertLeftPos isValidAelOrder OEdge.joinRight l e = some 2 := by decide

/-- a joined pair (4 marked `Right`, 5 its partner) is not split: the newcomer 5' with the same x as the partner and pointing
left of it would go between them by the predicate alone, and lands behind the pair -/
example :
    let l := [mk 1, mk 4 true, { mk 4 with top := ⟨5, 0⟩ }, mk 12]
    let e := { mk 4 with top := ⟨4, 1⟩ }
    isValidAelOrder (mk 4 true) e = true ∧ isValidAelOrder { mk 4 with top := ⟨5, 0⟩ } e = false ∧
    insertLeftPos isValidAelOrder OEdge.joinRight l e = some 3 := by decide

/-- the order "smaller curr_x, then smaller top.x" -/
private def lt2 (a b : OEdge) : Prop := a.currX < b.currX ∨ (a.currX = b.currX ∧ a.top.x < b.top.x)
private instance (a b : OEdge) : Decidable (lt2 a b) := by unfold lt2; infer_instance

/-- the hypotheses of `insertLeft_sorted` (the version with joined edges) hold on an AEL that contains a joined pair -/
example :
    let l := [mk 1, mk 4 true, { mk 4 with top := ⟨5, 0⟩ }, mk 12]
    let e := mk 7
    l.Pairwise lt2 ∧ (∀ r ∈ l, isValidAelOrder r e = true ↔ lt2 r e) ∧ (∀ r ∈ l, ¬ lt2 r e → lt2 e r) ∧
    (∀ l₁ a b l₂, l = l₁ ++ a :: b :: l₂ → a.joinRight = true → lt2 a e → lt2 b e) ∧
    (∀ x, l.getLast? = some x → x.joinRight = false) := by
  refine ⟨by decide, by decide, by decide, ?_, by decide⟩
  intro l₁ a b l₂ h hj _
  rcases l₁ with _ | ⟨x, _ | ⟨y, _ | ⟨z, _ | ⟨w, l₁⟩⟩⟩⟩ <;> simp at h
  · obtain ⟨rfl, rfl, _⟩ := h; revert hj; decide
  · obtain ⟨_, rfl, rfl, _⟩ := h; decide
  · obtain ⟨_, _, rfl, rfl, _⟩ := h; revert hj; decide

/-- the `if (!e2) return` path exists in the model: last edge marked `Right` (not a reachable engine state) -/
example : insertLeft isValidAelOrder OEdge.joinRight [mk 1, mk 4 true] (mk 7) = [mk 1, mk 4 true] ∧
    insertLeftPos isValidAelOrder OEdge.joinRight [mk 1, mk 4 true] (mk 7) = none := by decide

/-- right bound: left bound at index 1; the right bound (x = 9) moves past the resident with x = 6 -/
example :
    let l := [mk 1, mk 4, mk 6, mk 12]
    insertRight isValidAelOrder l 1 (mk 9) = [mk 1, mk 4, mk 6, mk 9, mk 12] ∧
    insertRightPos isValidAelOrder l 1 (mk 9) = 3 ∧
    l.Pairwise (fun a b => a.currX < b.currX) ∧ (mk 4).currX < (mk 9).currX ∧
    (∀ r ∈ l.drop 2, isValidAelOrder r (mk 9) = true ↔ r.currX < (mk 9).currX) ∧
    (∀ r ∈ l.drop 2, ¬ r.currX < (mk 9).currX → (mk 9).currX < r.currX) := by decide

end Clipper.Props.C01Order

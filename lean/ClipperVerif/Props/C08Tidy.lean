/-
Property C08, second half of `RectClip64`: theorems about `CheckEdges`, `TidyEdges`, `GetPath` and the whole per-path body of
`RectClip64::Execute`, on the pointer-level model `Model/RectClipTidy.lean` (tied to the compiled code bit for bit, stage by
stage, by the `RCTIDY` records of harness/C08tidy.cpp).

Well-formedness.  `RingsWF h ring` (Lemmas/RectClipTidyWF.lean): `ring s` lists, in `next` order, the nodes of the ring that
`results_[s]` points into (`[]` for a null slot); rings are doubly linked cycles without repetition, a slot points into its own
ring, every node of ring `s` has `owner_idx = s` — hence no two slots point into the same ring — and all ring nodes are nodes of
`op_container_`.  `TInv h ring` adds: every non-null entry of every edge list `edges_[e]` is a node of a live ring.
(The *back pointer* `op->edge` of an entry does NOT always point to the list that holds it once `TidyEdges` has run: `cw[i] = op`
moves a node between the two lists of a side without touching `op->edge`; the model and the code agree on that, see the
correspondence harness, and nothing below depends on it.)

What is proved here: the heap `ExecuteInternal` leaves is well-formed (`rawHeap_wf`); `CheckEdges` (`checkEdges_points`),
every `TidyEdges` call (`tidyEdges_points`, `tidyEdges_results_invariant`) and every `GetPath` call (`getPath_shape`) keep it
well-formed, create or move no point, and what they do to the rings; the only fault any of them can raise on a well-formed heap
is running out of loop fuel (`*_no_fault`); and they do not: `checkEdges_terminates`, `getPath_terminates`,
`tidyEdges_terminates` (with the measures; the invariant `EdgesOK` of the edge lists that the measure of `TidyEdges` needs is
established by `CheckEdges`: `checkEdges_establishes_edgesOK`); composition with the automaton theorems:
`rectClip_points_in_rect`, `rectClipFull_total`, `rectClip_final`.
-/
import ClipperVerif.Lemmas.RectClipTidyEstab
import ClipperVerif.Lemmas.RectClipTidyTerm
import ClipperVerif.Lemmas.RectClipTidyWind
import ClipperVerif.Props.C08Complete
namespace Clipper.Props.C08Tidy
open Clipper Clipper.Model.RC Clipper.Model.RCT Clipper.Lemmas.RCT Clipper.Lemmas.RC Clipper.Lemmas.RCA Clipper.Lemmas.RCE Clipper.Lemmas.RCC Clipper.Props.C08

/-- **Well-formed heap**: some assignment of ring lists to the slots of `results_` satisfies `TInv` -/
def WF (h : Heap) : Prop := ∃ ring, TInv h ring

/-- the pre-existing edge-list entries (the four corner nodes of the "path encloses the rectangle" case) are not touched by the
collinear pass of `CheckEdges`: there are none, or the ring has no collinear node -/
def RawClean (h : Heap) : Prop :=
  (∀ e k, some k ∉ h.edges e) ∨ (∀ x, x < h.n → h.collinearAt x = false)

/-- For every result of the automaton model, `rawHeap` returns (no fault) a well-formed heap with at most
one slot: one ring with all nodes `0 … n-1` in creation order, all `owner_idx = 0`, `results_ = {last node}`; every edge-list
entry is a node; every node carries a point that was passed to `Add`; and unless the path encloses the rectangle all edge lists
are empty. -/
theorem rawHeap_wf (pip : Pt → Path → Option PipResult) (r : Rect) (path : Path) (res : AResult) :
    ∃ h, rawHeap pip r path res = .ok h ∧ RingsWF h (rawRing h) ∧ h.results.length ≤ 1 ∧
      (∀ e k, some k ∈ h.edges e → k ∈ rawRing h 0) ∧ (∀ k, k < h.n → ∃ e ∈ res.es, e.pt = h.pt k) ∧
      (enclosing pip r path res = false → ∀ e k, some k ∉ h.edges e) := by
  obtain ⟨h, e, inv, hp, hc⟩ := rawHeap_inv pip r path res
  refine ⟨h, e, inv.wf, inv.results_len, ?_, hp, hc⟩
  · intro e' k hk
    simp only [rawRing, if_true, List.mem_range]
    exact inv.entries e' k hk

/-- On the heap `ExecuteInternal` leaves (well-formed, at most one slot; `hclean`: no edge-list entries yet, or no collinear node in
the ring),
`CheckEdges` — if it returns — creates no node and moves no point; the ring of slot 0 afterwards is a *subsequence* `L` of the
ring before (nodes are only unlinked; a node is unlinked only when `IsCollinear(prev, it, next)` held for its neighbours at
that moment; when the last node would go — `UnlinkOpBack` finds `op->next == op` — the slot is set to `nullptr` and `L = []`),
the heap is well-formed again and every edge-list entry is a node of the surviving ring.  The only possible fault is loop
fuel. -/
theorem checkEdges_points (r : Rect) (h : Heap) (ring : Nat → List Nat) (w : RingsWF h ring) (hlen : h.results.length ≤ 1)
    (hel : ∀ e k, some k ∈ h.edges e → k ∈ ring 0)
    (hclean : (∀ e k, some k ∉ h.edges e) ∨ (∀ x ∈ ring 0, h.collinearAt x = false)) :
    (∀ h', checkEdges r h = .ok h' → h'.n = h.n ∧ h'.pt = h.pt ∧ ∃ L, L.Sublist (ring 0) ∧ TInv h' (upd ring 0 L)) ∧
    (∀ f, checkEdges r h = .error f → f = .fuel) := by
  obtain ⟨h', e, run⟩ := checkEdges_run r h ring w hlen
  rw [e]
  refine ⟨fun h'' e' => ?_, fun f e' => nomatch e'⟩
  cases e'
  rcases run with ⟨_, rfl⟩ | ⟨h1, fr, ⟨wn, hnc, rfl⟩ | ⟨op1, L, hL, _, wL, hLe, _, sr, sub⟩⟩
  · exact ⟨rfl, rfl, ring 0, List.Sublist.refl _, by rw [upd_self_eq]; exact ⟨w, fun e k hk => ⟨0, hel e k hk⟩⟩⟩
  · refine ⟨fr.n, fr.pt, [], List.nil_sublist _, wn, fun e k hk => ?_⟩
    have hk' : some k ∈ h.edges e := by rw [← fr.edges]; exact hk
    exact hclean.elim (fun hcl => absurd hk' (hcl e k)) (fun hcl => absurd hcl hnc)
  · refine ⟨sr.1.trans fr.n, sr.2.1.trans fr.pt, L, hL, wL.of_sameRings sr, fun e k hk => ⟨0, ?_⟩⟩
    rw [upd_same]
    rcases sub e k hk with m | m
    · rw [fr.edges] at m
      exact hclean.elim (fun hcl => absurd m (hcl e k)) (fun hcl => hLe hcl ▸ hel e k m)
    · exact m

/-- On a well-formed heap, `TidyEdges(idx, …)` — if it returns — creates no node and moves no point
(`op_container_` and every `pt` are unchanged), the heap is well-formed again (every live ring is a doubly linked cycle with at
least one node, edge-list entries are live), and the set of nodes that are in live rings is **exactly** the same as before:
a split distributes the nodes of one ring over two, a rejoin merges two rings into one, no node is dropped or duplicated.
(Rings of one or two nodes are not dropped here: `GetPath` discards them.) -/
theorem tidyEdges_points (idx : Nat) (h : Heap) (ring : Nat → List Nat) (inv : TInv h ring) (h' : Heap)
    (hrun : tidyEdges idx h = .ok h') :
    h'.n = h.n ∧ h'.pt = h.pt ∧ ∃ ring', TInv h' ring' ∧ (∀ k, (∃ t, k ∈ ring' t) ↔ ∃ t, k ∈ ring t) := by
  obtain ⟨ring', inv', e1, e2, lv⟩ := (tidyEdges_inv idx h ring inv).1 h' hrun
  exact ⟨e1, e2, ring', inv', lv⟩

/-- On a well-formed heap `TidyEdges` dereferences no null pointer and indexes `results_`, `cw`, `ccw`
only in range; the only fault the model can report is exhausted loop fuel (excluded by `tidyEdges_terminates`). -/
theorem tidyEdges_no_fault (idx : Nat) (h : Heap) (hw : WF h) (f : TFault) (hrun : tidyEdges idx h = .error f) : f = .fuel := by
  obtain ⟨ring, inv⟩ := hw
  exact (tidyEdges_inv idx h ring inv).2 f hrun

/-- What seeded change C08b-m2 broke.  In a well-formed heap — in particular after every
`TidyEdges` call — (a) a slot of `results_` points to a node whose `owner_idx` is that slot, (b) following `next` from that node
stays among nodes with that `owner_idx` and comes back (the slot's ring is a cycle containing it), hence (c) no two slots point
into the same ring, and (d) every node of a live ring is reachable from exactly one slot, the one its `owner_idx` names. -/
theorem tidyEdges_results_invariant (h : Heap) (ring : Nat → List Nat) (w : RingsWF h ring) :
    (∀ s k, h.results[s]? = some (some k) → h.owner k = s ∧ k ∈ ring s ∧ Cyc h.next h.prev (ring s)) ∧
    (∀ s t k k', h.results[s]? = some (some k) → h.results[t]? = some (some k') → k' ∈ ring s → s = t) ∧
    (∀ s k, k ∈ ring s → ∃ r, h.results[s]? = some (some r) ∧ r ∈ ring s ∧ h.owner k = s) := by
  refine ⟨?_, ?_, ?_⟩
  · intro s k hk
    have hm := w.slot_some s k hk
    exact ⟨w.owner s k hm, hm, w.cyc s (List.ne_nil_of_mem hm)⟩
  · intro s t k k' _ hk' hm
    exact w.disjoint hm (w.slot_some t k' hk')
  · intro s k hk
    obtain ⟨r, hr⟩ := w.slot_exists hk
    exact ⟨r, hr, w.slot_some s r hr, w.owner s k hk⟩

/-- `GetPath(results_[i])` on a well-formed heap — if it returns — creates no node, moves no point, leaves
the heap well-formed with the ring of slot `i` replaced by a subsequence `L` of it (only collinear nodes are unlinked), and
the returned path is either empty or exactly the points of `L` in ring order, starting at the node the slot points to
afterwards (`L = X ++ o :: Y`, path = points of `o :: Y ++ X`).
NOT guaranteed (and false for the real code, see `getPath_short_witness`): that a non-empty path has at least 3 points — the
size test `op->next == op->prev` is made before the collinear removal only. -/
theorem getPath_shape (h : Heap) (i : Nat) (ring : Nat → List Nat) (w : RingsWF h ring) (hi : i < h.results.length)
    (p : Path) (h2 : Heap) (hrun : getPath h i = .ok (p, h2)) :
    h2.n = h.n ∧ h2.pt = h.pt ∧ ∃ L, L.Sublist (ring i) ∧ RingsWF h2 (upd ring i L) ∧
      (p = [] ∨ ∃ X o Y, L = X ++ o :: Y ∧ p = (o :: (Y ++ X)).map h.pt) := by
  obtain ⟨p', h2', e, ⟨f1, f2, _⟩, L, hL, wL, hp⟩ := getPath_run h i ring w hi
  rw [e] at hrun
  cases hrun
  exact ⟨f1, f2, L, hL, wL, hp⟩

/-- the only fault `GetPath` can report on a well-formed heap is exhausted loop fuel -/
theorem getPath_no_fault (h : Heap) (i : Nat) (ring : Nat → List Nat) (w : RingsWF h ring) (hi : i < h.results.length)
    (f : TFault) (hrun : getPath h i = .error f) : f = .fuel := by
  obtain ⟨p, h2, e, _⟩ := getPath_run h i ring w hi
  rw [e] at hrun
  cases hrun

/-- the four `TidyEdges` calls of `Execute` together keep what each keeps (`tidyEdges_points`, `tidyEdges_no_fault`) -/
theorem tidyAll_inv (h : Heap) (ring : Nat → List Nat) (inv : TInv h ring) :
    (∀ h', tidyAll h = .ok h' → h'.n = h.n ∧ h'.pt = h.pt ∧
      ∃ ring', TInv h' ring' ∧ SameNodes ring' ring) ∧
    (∀ f, tidyAll h = .error f → f = .fuel) := by
  unfold tidyAll
  have t0 := tidyEdges_inv 0 h ring inv
  cases h0 : tidyEdges 0 h with
  | error f => exact ⟨fun _ e => (nomatch e), fun f' e => (by cases e; exact t0.2 f h0)⟩
  | ok a =>
    obtain ⟨r0, i0, n0, p0, l0⟩ := t0.1 a h0
    have t1 := tidyEdges_inv 1 a r0 i0
    dsimp only
    cases h1 : tidyEdges 1 a with
    | error f => exact ⟨fun _ e => (nomatch e), fun f' e => (by cases e; exact t1.2 f h1)⟩
    | ok b =>
      obtain ⟨r1, i1, n1, p1, l1⟩ := t1.1 b h1
      have t2 := tidyEdges_inv 2 b r1 i1
      dsimp only
      cases h2 : tidyEdges 2 b with
      | error f => exact ⟨fun _ e => (nomatch e), fun f' e => (by cases e; exact t2.2 f h2)⟩
      | ok c =>
        obtain ⟨r2, i2, n2, p2, l2⟩ := t2.1 c h2
        have t3 := tidyEdges_inv 3 c r2 i2
        refine ⟨fun h' e => ?_, t3.2⟩
        obtain ⟨r3, i3, n3, p3, l3⟩ := t3.1 h' e
        exact ⟨by rw [n3, n2, n1, n0], by rw [p3, p2, p1, p0], r3, i3,
          l3.trans (l2.trans (l1.trans l0))⟩

/-- `CheckEdges(); TidyEdges × 4; GetPath × results_.size()` on the heap `ExecuteInternal` leaves: every
vertex of every returned path is the point of a node of the raw ring; the only possible fault is loop fuel. -/
theorem finishPath_points (r : Rect) (h : Heap) (ring : Nat → List Nat) (w : RingsWF h ring) (hlen : h.results.length ≤ 1)
    (hel : ∀ e k, some k ∈ h.edges e → k ∈ ring 0)
    (hclean : (∀ e k, some k ∉ h.edges e) ∨ (∀ x ∈ ring 0, h.collinearAt x = false)) :
    (∀ ps, finishPath r h = .ok ps → ∀ p ∈ ps, p ≠ [] ∧ ∀ v ∈ p, ∃ t k, k ∈ ring t ∧ v = h.pt k) ∧
    (∀ f, finishPath r h = .error f → f = .fuel) := by
  unfold finishPath
  obtain ⟨h1, hc, _⟩ := checkEdges_run r h ring w hlen
  obtain ⟨n1, p1, L, hL, inv1⟩ := (checkEdges_points r h ring w hlen hel hclean).1 h1 hc
  rw [hc]
  have t := tidyAll_inv h1 _ inv1
  simp only
  cases ht : tidyAll h1 with
  | error f => exact ⟨fun _ e => (nomatch e), fun f' e => (by cases e; exact t.2 f ht)⟩
  | ok h2 =>
    obtain ⟨n2, p2, ring2, inv2, lv⟩ := t.1 h2 ht
    obtain ⟨ps', h3, hg, _, _, gg, hgg, eps⟩ := getPaths_run h2.results.length 0 h2 ring2 inv2.w (by omega)
    simp only [hg, Except.map]
    refine ⟨fun ps e => ?_, fun f e => nomatch e⟩
    cases e
    intro p hp
    rw [eps] at hp
    obtain ⟨hp1, hp2⟩ := List.mem_filter.mp hp
    obtain ⟨s, _, rfl⟩ := List.mem_map.mp hp1
    have hne : gg s ≠ [] := by
      intro e; rw [e] at hp2; simp at hp2
    refine ⟨hne, ?_⟩
    rcases hgg s with e | ⟨L', X, o, Y, hL', eL, ep⟩
    · exact absurd e hne
    · intro v hv
      rw [ep] at hv
      obtain ⟨k, hk, rfl⟩ := List.mem_map.mp hv
      have hkL : k ∈ L' := by
        rw [eL]
        simp only [List.mem_cons, List.mem_append] at hk ⊢
        rcases hk with hk | hk | hk
        · exact Or.inr (Or.inl hk)
        · exact Or.inr (Or.inr hk)
        · exact Or.inl hk
      obtain ⟨t', ht'⟩ := (lv k).mp ⟨s, hL'.subset hkL⟩
      have : ∃ t'', k ∈ ring t'' := by
        by_cases e0 : t' = 0
        · subst e0
          simp only [upd_same] at ht'
          exact ⟨0, hL.subset ht'⟩
        · rw [upd_ne _ _ e0] at ht'; exact ⟨t', ht'⟩
      obtain ⟨t'', ht''⟩ := this
      exact ⟨t'', k, ht'', by rw [p2, p1]⟩

/-- On the well-formed heap `ExecuteInternal` leaves (at most one slot) `CheckEdges` returns: its
collinear pass needs at most `n (n + 1) + n` iterations for a ring of `n` nodes (measure `phi`, Lemmas/RectClipTidyTerm.lean:
ring size first, then the distance still to walk in the current round) and its classification pass walks the ring once. -/
theorem checkEdges_terminates (r : Rect) (h : Heap) (ring : Nat → List Nat) (w : RingsWF h ring) (hlen : h.results.length ≤ 1) :
    ∃ h', checkEdges r h = .ok h' :=
  (checkEdges_run r h ring w hlen).imp fun _ e => e.1

/-- On a well-formed heap `GetPath(results_[i])` returns (same measure as `checkEdges_terminates`
for its collinear pass; the copy loop walks the ring once). -/
theorem getPath_terminates (h : Heap) (i : Nat) (ring : Nat → List Nat) (w : RingsWF h ring) (hi : i < h.results.length) :
    ∃ p h2, getPath h i = .ok (p, h2) := by
  obtain ⟨p, h2, e, _⟩ := getPath_run h i ring w hi
  exact ⟨p, h2, e⟩

/-- One iteration of the `while (i < cw.size())` loop of `TidyEdges(idx, …)` on a well-formed
heap whose two lists of side `idx` satisfy `SideInv` (entries on the side's line, `cw` entries heading weakly clockwise, `ccw`
entries weakly counter-clockwise, no node twice): the iteration ends the loop or strictly decreases
`μ = P (M+1)² + (|cw| - i)(M+1) + (|ccw| - j)`, `P` = total length of all links along the side's axis + number of zero-length
entries, `M = P + |cw| + |ccw|`, and re-establishes `SideInv`.  (A split/rejoin of two edges of positive length shortens the
total length by twice the overlap and creates at most one zero-length entry; one involving a zero-length entry keeps the
length and consumes that entry; `|cw| + |ccw|` grows by at most one and only then.) -/
theorem tidyEdges_measure_decreases (idx : Nat) (s : TState) (ring : Nat → List Nat) (inv : TInv s.h ring)
    (si : SideInv idx s.h) (hj : s.j ≤ (s.h.edges (idx * 2 + 1)).length) :
    tidyStep idx s = .done ∨ ∃ b s', tidyStep idx s = .next b s' ∧ SideInv idx s'.h ∧
      tidyMeasure idx s' < tidyMeasure idx s := by
  rcases tidyStep_measure idx s ring inv si hj with h | ⟨b, s', h1, h2, h3, _⟩
  · exact Or.inl h
  · exact Or.inr ⟨b, s', h1, h2, h3⟩

/-- `TidyEdges(idx, …)` returns — no fault; in particular the fuel `μ + 1` the model grants
suffices — on every well-formed heap whose eight edge lists satisfy `EdgesOK` (`SideInv` for each of the four sides and no node
registered on two sides), and `EdgesOK` holds again afterwards (so the next call terminates too). -/
theorem tidyEdges_terminates (idx : Nat) (hidx : idx < 4) (h : Heap) (ring : Nat → List Nat) (inv : TInv h ring)
    (ok : EdgesOK h) : ∃ h', tidyEdges idx h = .ok h' ∧ EdgesOK h' :=
  tidyEdges_global idx hidx h ring inv ok

/-- Started with empty edge lists (every case but "the path encloses the rectangle") on
the heap `ExecuteInternal` leaves, `CheckEdges` establishes `EdgesOK`: every entry it makes into `edges_[2 j]` / `edges_[2 j + 1]`
is a node whose link `prev → node` lies on the line of side `j` (bits of `GetEdgesForPt`) and heads clockwise resp. not
clockwise (`IsHeadingClockwise`), and `AddToEdge`'s test of `op->edge` registers every node at most once. -/
theorem checkEdges_establishes_edgesOK (r : Rect) (h : Heap) (ring : Nat → List Nat) (w : RingsWF h ring)
    (hlen : h.results.length ≤ 1) (he : ∀ e k, some k ∉ h.edges e) (h' : Heap) (hrun : checkEdges r h = .ok h') : EdgesOK h' :=
  checkEdges_estab r h ring w hlen he h' hrun

/-- the two kinds of heap `ExecuteInternal` leaves: no edge-list entries at all; or, when the path encloses the rectangle, the ring
of the four corners — no collinear node, every node registered, all `ccw` lists empty (`rawHeap_enclosing`) -/
theorem rawHeap_kinds (A : Arith) (pip : Pt → Path → Option PipResult) (r : Rect) (hne : r.isEmpty = false) (path : Path)
    (res : AResult) (hex : executeInternalA A pip r path = .ok res) (h : Heap) (eh : rawHeap pip r path res = .ok h) :
    (∀ e k, some k ∉ h.edges e) ∨
      ((∀ x ∈ rawRing h 0, h.collinearAt x = false) ∧ (∀ k ∈ rawRing h 0, h.edge k ≠ none) ∧ ∀ m, h.edges (m * 2 + 1) = []) := by
  cases henc : enclosing pip r path res with
  | false =>
    obtain ⟨h', eh', _, _, _, _, hcl⟩ := rawHeap_wf pip r path res
    rw [eh] at eh'
    cases eh'
    exact Or.inl (hcl henc)
  | true =>
    obtain ⟨h', eh', nc, g, l⟩ := rawHeap_enclosing A pip r hne path res hex henc
    rw [eh] at eh'
    cases eh'
    have mem : ∀ x ∈ rawRing h 0, x < h.n := fun x hx => by simpa only [rawRing, if_true, List.mem_range] using hx
    exact Or.inr ⟨fun x hx => nc x (mem x hx), fun k hk => g k (mem k hk), l⟩

/-- For every arithmetic, every `PointInPolygon`, every non-empty rectangle and every path: if
the full model of the general algorithm (`ExecuteInternal; CheckEdges; TidyEdges × 4; GetPath × n`) returns, then every returned
path is non-empty and each of its vertices is a point that `ExecuteInternal` passed to `Add`; and the part after
`ExecuteInternal` can fault only by exhausting loop fuel.  No hypothesis on the heap: well-formedness is *established* by
`rawHeap_wf`, and the pre-registered corner entries of the "path encloses the rectangle" case are never unlinked because in
that case the ring consists of the four corners only (`rawHeap_enclosing`). -/
theorem rectClipGeneral_points (A : Arith) (pip : Pt → Path → Option PipResult) (r : Rect) (hne : r.isEmpty = false)
    (path : Path) :
    (∀ out, rectClipGeneral A pip r path = .ok out → ∃ res, executeInternalA A pip r path = .ok res ∧
      ∀ p ∈ out, p ≠ [] ∧ ∀ v ∈ p, ∃ e ∈ res.es, e.pt = v) ∧
    (∀ f, rectClipGeneral A pip r path = .error (.tidy f) → f = .fuel) := by
  unfold rectClipGeneral
  cases hex : executeInternalA A pip r path with
  | error f => exact ⟨fun _ e => (nomatch e), fun _ e => (nomatch e)⟩
  | ok res =>
    obtain ⟨h, eh, w, hlen, hel, hpts, hcl⟩ := rawHeap_wf pip r path res
    have hclean : (∀ e k, some k ∉ h.edges e) ∨ (∀ x ∈ rawRing h 0, h.collinearAt x = false) :=
      (rawHeap_kinds A pip r hne path res hex h eh).imp id (fun x => x.1)
    have fp := finishPath_points r h (rawRing h) w hlen hel hclean
    simp only [eh]
    cases hf : finishPath r h with
    | error f =>
      refine ⟨?_, ?_⟩
      · intro out e; cases e
      · intro f' e; simp only [Except.error.injEq, XFault.tidy.injEq] at e; subst e; exact fp.2 f hf
    | ok ps =>
      refine ⟨?_, ?_⟩
      · intro out e
        simp only [Except.ok.injEq] at e
        subst e
        refine ⟨res, rfl, ?_⟩
        intro p hp
        obtain ⟨hne', hv⟩ := fp.1 ps hf p hp
        refine ⟨hne', ?_⟩
        intro v hvm
        obtain ⟨t, k, hk, rfl⟩ := hv v hvm
        have hkn : k < h.n := w.lt t k hk
        exact hpts k hkn
      · intro f e; cases e

/-- The in-rectangle / provenance statement of C08 for the FINAL output of the full model
(`rectClipFull rect path` = the loop body of `RectClip64::Execute` for one path), not just the raw ring.  For a sign-exact
arithmetic whose intersection points lie on the boundary of the rectangle and in `R ⊇ rect`, a total `PointInPolygon`, a
non-empty rectangle and every path with `int64` coordinates: every vertex of every returned path lies in `R` and is an
input vertex or a point of the rectangle's boundary (a corner or a crossing point); the automaton part does not fault at all
and the rest can fault only by exhausting loop fuel (see `tidyEdges_terminates`). -/
theorem rectClip_points_in_rect (A : Arith) (hA : SignExact A) (ht : IsectTotal A)
    (pip : Pt → Path → Option PipResult) (hpip : ∀ q poly, (pip q poly).isSome = true) (r R : Rect)
    (hne : r.isEmpty = false) (hi : IsectIn A R) (hsub : Subrect r R) (hQ : EdgeSat A r (OnBoundary r))
    (path : Path) (hr : ∀ p ∈ path, I64 p.x ∧ I64 p.y) :
    (∀ out, rectClipFull A pip r path = .ok out →
      ∀ p ∈ out, p ≠ [] ∧ ∀ v ∈ p, inRect R v = true ∧ (v ∈ path ∨ OnBoundary r v)) ∧
    (∀ f, rectClipFull A pip r path = .error f → f = .tidy .fuel) := by
  unfold rectClipFull
  cases hs : executeShortcut r path with
  | some ps =>
    simp only
    refine ⟨?_, by intro f e; cases e⟩
    intro out e
    simp only [Except.ok.injEq] at e
    subst e
    by_cases hlen : 3 ≤ path.length
    · rcases shortcut_sound r path hne hlen hr ps hs with ⟨rfl, hin⟩ | ⟨rfl, _⟩
      · intro p hp
        simp only [List.mem_singleton] at hp
        subst hp
        refine ⟨by intro e; rw [e] at hlen; simp at hlen, ?_⟩
        intro v hv
        exact ⟨inRect_mono hsub (hin v hv), Or.inl hv⟩
      · intro p hp; cases hp
    · have := shortcut_small r path (by omega)
      rw [this] at hs
      simp only [Option.some.injEq] at hs
      subst hs
      intro p hp; cases hp
  | none =>
    simp only
    have g := rectClipGeneral_points A pip r hne path
    obtain ⟨res0, hres0, _⟩ := executeInternal_total_exact A hA ht pip hpip r hne path
    refine ⟨?_, ?_⟩
    · intro out e
      obtain ⟨res, hres, hp⟩ := g.1 out e
      intro p hpm
      obtain ⟨hne', hv⟩ := hp p hpm
      refine ⟨hne', ?_⟩
      intro v hvm
      obtain ⟨em, hem, rfl⟩ := hv v hvm
      exact ⟨added_points_in_rect A pip r R path hne (crossZeroExact_of_signExact hA) hi hsub
          (noLostCrossing_exact A hA ht pip r hne path) res hres em hem,
        new_vertices_on_boundary A pip r path _ hne hQ (noLostCrossing_exact A hA ht pip r hne path) res hres em hem⟩
    · intro f e
      cases f with
      | auto fa =>
        exfalso
        unfold rectClipGeneral at e
        rw [hres0] at e
        simp only at e
        split at e
        · cases e
        · split at e <;> cases e
      | tidy ft => rw [g.2 ft e]

/-- Whenever the automaton model returns (non-empty rectangle), the rest of the per-path body
of `Execute` — `CheckEdges`, the four `TidyEdges` calls, every `GetPath` — returns as well: no null pointer is dereferenced, no
index is out of range, and every loop ends within the fuel derived from its measure. -/
theorem rectClipGeneral_total (A : Arith) (pip : Pt → Path → Option PipResult) (r : Rect) (hne : r.isEmpty = false)
    (path : Path) (res : AResult) (hex : executeInternalA A pip r path = .ok res) :
    ∃ out, rectClipGeneral A pip r path = .ok out := by
  obtain ⟨h, eh, w, hlen, hel, _, hcl⟩ := rawHeap_wf pip r path res
  obtain ⟨h1, e1⟩ := checkEdges_terminates r h (rawRing h) w hlen
  have henc_facts := rawHeap_kinds A pip r hne path res hex h eh
  have hclean : (∀ e k, some k ∉ h.edges e) ∨ (∀ x ∈ rawRing h 0, h.collinearAt x = false) :=
    henc_facts.imp id (fun x => x.1)
  obtain ⟨_, _, L, _, inv1⟩ := (checkEdges_points r h (rawRing h) w hlen hel hclean).1 h1 e1
  -- the four `TidyEdges` calls return: by `EdgesOK`, or because there is nothing to do
  have ht : ∃ h2, tidyAll h1 = .ok h2 := by
    rcases henc_facts with he | ⟨nc, g, l⟩
    · exact tidyAll_total h1 _ inv1 (checkEdges_estab r h (rawRing h) w hlen he h1 e1)
    · have := checkEdges_lists_unchanged r h (rawRing h) w hlen g nc h1 e1
      exact ⟨h1, tidyAll_trivial h1 (fun idx _ => by rw [this]; exact l idx)⟩
  obtain ⟨h2, e2⟩ := ht
  obtain ⟨_, _, ring2, inv2, _⟩ := (tidyAll_inv h1 _ inv1).1 h2 e2
  obtain ⟨ps, h3, e3, _⟩ := getPaths_run h2.results.length 0 h2 ring2 inv2.w (by omega)
  exact ⟨ps, by simp [rectClipGeneral, hex, eh, finishPath, e1, e2, e3, Except.map]⟩

/-- For a sign-exact arithmetic, a total `PointInPolygon`, a non-empty rectangle and EVERY path,
the full model of the loop body of `RectClip64::Execute` returns: automaton, `CheckEdges`, `TidyEdges`, `GetPath` — no fault of
any kind, every loop terminates.  (Together with `rectClip_points_in_rect`: it returns paths all of whose vertices are in the
rectangle and are input vertices, corners or crossing points.) -/
theorem rectClipFull_total (A : Arith) (hA : SignExact A) (ht : IsectTotal A)
    (pip : Pt → Path → Option PipResult) (hpip : ∀ q poly, (pip q poly).isSome = true) (r : Rect)
    (hne : r.isEmpty = false) (path : Path) : ∃ out, rectClipFull A pip r path = .ok out := by
  unfold rectClipFull
  cases hs : executeShortcut r path with
  | some ps => exact ⟨ps, rfl⟩
  | none =>
    obtain ⟨res, hres, _⟩ := executeInternal_total_exact A hA ht pip hpip r hne path
    exact rectClipGeneral_total A pip r hne path res hres

/-- Totality and the vertex statement in one: for a sign-exact arithmetic whose intersection points lie on
the boundary of the rectangle and in `R ⊇ rect`, the full model returns for every path with `int64` coordinates, and every
vertex of every returned path lies in `R` and is an input vertex or a point of the rectangle's boundary. -/
theorem rectClip_final (A : Arith) (hA : SignExact A) (ht : IsectTotal A)
    (pip : Pt → Path → Option PipResult) (hpip : ∀ q poly, (pip q poly).isSome = true) (r R : Rect)
    (hne : r.isEmpty = false) (hi : IsectIn A R) (hsub : Subrect r R) (hQ : EdgeSat A r (OnBoundary r))
    (path : Path) (hr : ∀ p ∈ path, I64 p.x ∧ I64 p.y) :
    ∃ out, rectClipFull A pip r path = .ok out ∧
      ∀ p ∈ out, p ≠ [] ∧ ∀ v ∈ p, inRect R v = true ∧ (v ∈ path ∨ OnBoundary r v) := by
  obtain ⟨out, e⟩ := rectClipFull_total A hA ht pip hpip r hne path
  exact ⟨out, e, (rectClip_points_in_rect A hA ht pip hpip r R hne hi hsub hQ path hr).1 out e⟩

/-- the exact-sign arithmetic of `Props.C09` satisfies the hypotheses with `R = rect` (see the example after
`raw_ring_in_rect_exact`), so `rectClip_final` is not vacuous -/
example : let A := Props.C09.exampleArith ⟨0, 0, 10, 10⟩
    IsectIn A ⟨0, 0, 10, 10⟩ ∧ Subrect ⟨0, 0, 10, 10⟩ ⟨0, 0, 10, 10⟩ ∧
    EdgeSat A ⟨0, 0, 10, 10⟩ (OnBoundary ⟨0, 0, 10, 10⟩) := by
  refine ⟨?_, by simp [Subrect], ⟨?_, ?_⟩⟩
  · intro a b c d q h; simp [Props.C09.exampleArith] at h; subst h; decide
  · intro c hc
    simp only [Rect.asPath, List.mem_cons, List.not_mem_nil, or_false] at hc
    rcases hc with rfl | rfl | rfl | rfl <;> simp [OnBoundary, Rect.c0, Rect.c1, Rect.c2, Rect.c3]
  · intro a b c d q _ h; simp [Props.C09.exampleArith] at h; subst h; simp [OnBoundary, Rect.c0]

/-- The winding number (`Spec.windPath`) of the polygon of a ring around `q` is the sum, over the nodes
`k` of the ring, of the contributions (`Spec.crossing`) of the links `prev k → k`. -/
theorem windPath_of_ring (h : Heap) (q : Pt) (c : List Nat) (hc : Cyc h.next h.prev c) :
    windPath (c.map h.pt) q = ringWind h q c :=
  windPath_ring h q c hc

/-- A split or rejoin of `TidyEdges(idx)` (the pointer writes between "to get here we're either
splitting or rejoining" and the relisting) on a well-formed heap with `SideInv idx`: for every probe point `q` that is not on
the line of the side (in particular every point strictly inside the rectangle) the sum of the winding contributions of the
links `prev k → k` over any duplicate-free list `L` of nodes containing `cw[i]` and `ccw[j]` — e.g. the list of all nodes of all
live rings, whose polygons' winding numbers add up to exactly this sum by `windPath_of_ring` — is unchanged: the two cut edges
and the two new ones lie on the side's line, where the contributions telescope (`splice_crossing_identity`).
Full statement intended: `Spec.wind (paths returned by GetPath) q` is the same with and without the `TidyEdges` calls, for `q`
strictly inside the rectangle.  Missing: the bookkeeping that the node lists of the rings before and after are permutations of
each other as *lists* (proved here as sets: `tidyEdges_points`), and the (easy but unproved) fact that `GetPath`'s collinear
removal and its dropping of 1- and 2-node rings change no winding number off the removed segments. -/
theorem tidySplice_wind_partial (idx : Nat) (h : Heap) (ring : Nat → List Nat) (w : RingsWF h ring) (si : SideInv idx h)
    (cwI ccwJ sc sj : Nat) (hcm : some cwI ∈ h.edges (idx * 2)) (hjm : some ccwJ ∈ h.edges (idx * 2 + 1))
    (hc : cwI ∈ ring sc) (hj : ccwJ ∈ ring sj)
    (hne : (if (idx == 1 || idx == 2) then h.prev cwI else cwI) ≠ (if (idx == 1 || idx == 2) then h.prev ccwJ else ccwJ))
    (q : Pt) (hq : othOf idx q ≠ othOf idx (h.pt cwI)) :
    ∃ h5 op op2 rj, tidySplice (idx == 1 || idx == 2) h cwI ccwJ
        (if (idx == 1 || idx == 2) then h.prev cwI else cwI) (if (idx == 1 || idx == 2) then cwI else h.prev cwI)
        (if (idx == 1 || idx == 2) then ccwJ else h.prev ccwJ) (if (idx == 1 || idx == 2) then h.prev ccwJ else ccwJ) =
          .ok (h5, op, op2, rj) ∧
      ∀ L : List Nat, L.Nodup → cwI ∈ L → ccwJ ∈ L → ringWind h5 q L = ringWind h q L := by
  obtain ⟨c, hcl⟩ := si.line
  have l1 := hcl cwI (Or.inl hcm)
  have l2 := hcl ccwJ (Or.inr hjm)
  have hneq : cwI ≠ ccwJ := si.ne hcm hjm
  -- the four points lie on one line
  have hline : ((h.pt (h.prev cwI)).y = (h.pt cwI).y ∧ (h.pt cwI).y = (h.pt ccwJ).y ∧ (h.pt ccwJ).y = (h.pt (h.prev ccwJ)).y) ∨
      ((h.pt (h.prev cwI)).x = (h.pt cwI).x ∧ (h.pt cwI).x = (h.pt ccwJ).x ∧ (h.pt ccwJ).x = (h.pt (h.prev ccwJ)).x) := by
    unfold othOf at l1 l2
    cases hH : (idx == 1 || idx == 3) with
    | true =>
      simp only [hH, if_true] at l1 l2
      exact Or.inl (by omega)
    | false =>
      simp only [hH, Bool.false_eq_true, if_false] at l1 l2
      exact Or.inr (by omega)
  obtain ⟨h5, rj, ring', e5, -, fr, -⟩ := tidySplice_wf (idx == 1 || idx == 2) h ring w cwI ccwJ sc sj hc hj hneq
  exact ⟨h5, _, _, rj, e5, fun L hnd hx hy => ringWind_swap h h5 q fr.pt cwI ccwJ hneq fr.prev L hnd hx hy hline⟩

/-! Concrete runs.  The raw rings below are the ones `ExecuteInternal` builds for the inputs named (taken from the `RCTIDY` records of the
correspondence harness, where the real object produces exactly these heaps). -/

/-- the heap `ExecuteInternal` leaves for a list of added points (no enclosing case) -/
def heapOfPts (ps : List Pt) : Heap := match Heap.empty.addAll ps with | .ok h => h | .error _ => Heap.empty

/-- rectangle (0,0,40,20), path (100,-80) (-160,-80) (-160,160) (60,160) (0,20) (100,160) (160,160) (60,20) (0,-20) (100,20)
(seeded/C08b-m2/demo.cpp, case 1): the raw ring -/
def rawDemo1 : List Pt :=
  [⟨0,20⟩,⟨0,0⟩,⟨0,20⟩,⟨40,20⟩,⟨40,6⟩,⟨30,0⟩,⟨40,0⟩,⟨40,20⟩,⟨40,0⟩,⟨0,0⟩,⟨0,20⟩,⟨40,20⟩]

/-- rectangle (0,0,12,7), path (0,10) (5,7) (0,1) (8,10) (-3,1): the raw ring -/
def rawShort : List Pt := [⟨5,7⟩,⟨0,7⟩,⟨5,7⟩,⟨0,1⟩,⟨5,7⟩,⟨4,7⟩,⟨0,3⟩,⟨0,7⟩]

/-- the branches the four `TidyEdges` calls take after `CheckEdges` -/
def branchesOf (r : Rect) (ps : List Pt) : Except TFault (List (List Branch)) :=
  match checkEdges r (heapOfPts ps) with
  | .error f => .error f
  | .ok h1 => match tidyEdgesB 0 h1 with
    | .error f => .error f
    | .ok (h2, b0) => match tidyEdgesB 1 h2 with
      | .error f => .error f
      | .ok (h3, b1) => match tidyEdgesB 2 h3 with
        | .error f => .error f
        | .ok (h4, b2) => match tidyEdgesB 3 h4 with
          | .error f => .error f
          | .ok (_, b3) => .ok [b0, b1, b2, b3]

/-- **A run in which `TidyEdges` splits three times and rejoins once** (`splice true …` = `isRejoining`): left side one split,
top side one split, right side one rejoin followed by one split; the four rings are merged back into one. -/
example : branchesOf ⟨0, 0, 40, 20⟩ rawDemo1 =
    .ok [[.splice false 0 true, .skipCw], [.splice false 1 false], [.splice true 1 true, .splice false 0 false], []] := by rfl

example : finishPath ⟨0, 0, 40, 20⟩ (heapOfPts rawDemo1) = .ok [[⟨0,20⟩,⟨40,20⟩,⟨40,6⟩,⟨30,0⟩,⟨0,0⟩]] := by rfl

/-- `GetPath` can return a path of ONE point: for the rectangle (0,0,12,7) and the 5-gon
(0,10) (5,7) (0,1) (8,10) (-3,1) `TidyEdges` splits the raw ring on the bottom side, one of the two rings consists of nodes on the line `y = 7` only and is
reduced by the collinear removal of `GetPath` to the single node (5,7); since the size test `op->next == op->prev` is made
*before* that removal the path `{(5,7)}` is emitted — the real `RectClip` returns `{(0,3),(0,7),(4,7)}, {(5,7)}` for this input (harness/C08tidy.cpp
counts such outputs: `tidy.getpath_returned_1_or_2_points`).  So "a returned path has at least 3 points" is NOT a theorem. -/
theorem getPath_short_witness :
    finishPath ⟨0, 0, 12, 7⟩ (heapOfPts rawShort) = .ok [[⟨0,3⟩,⟨0,7⟩,⟨4,7⟩], [⟨5,7⟩]] := by rfl

/-- the hypotheses of `checkEdges_points`, `tidyEdges_points`, `getPath_shape` are satisfiable: the heap of `rawDemo1` is
well-formed before `CheckEdges`, `CheckEdges` returns, and the heap is well-formed (`WF`) afterwards -/
example : ∃ h1, checkEdges ⟨0, 0, 40, 20⟩ (heapOfPts rawDemo1) = .ok h1 ∧ WF h1 := by
  obtain ⟨h0, e0, inv0, ed0, _⟩ := addAll_rawInv rawDemo1 Heap.empty rawInv_empty
  have eh : heapOfPts rawDemo1 = h0 := by unfold heapOfPts; rw [e0]
  rw [eh]
  have hlen := inv0.results_len
  obtain ⟨h1, e1⟩ := checkEdges_terminates ⟨0, 0, 40, 20⟩ h0 (rawRing h0) inv0.wf hlen
  have hno : ∀ e k, some k ∉ h0.edges e := by intro e k; rw [ed0]; simp [Heap.empty]
  obtain ⟨_, _, L, _, inv1⟩ := (checkEdges_points ⟨0, 0, 40, 20⟩ h0 (rawRing h0) inv0.wf hlen
    (fun e k hk => absurd hk (hno e k)) (Or.inl hno)).1 h1 e1
  exact ⟨h1, e1, _, inv1⟩

/-- … and its eight edge lists satisfy `EdgesOK`, the hypothesis of `tidyEdges_terminates` (the lists are not empty: this is
the run above that splits three times and rejoins once) -/
example : ∃ h1, checkEdges ⟨0, 0, 40, 20⟩ (heapOfPts rawDemo1) = .ok h1 ∧ EdgesOK h1 := by
  obtain ⟨h0, e0, inv0, ed0, _⟩ := addAll_rawInv rawDemo1 Heap.empty rawInv_empty
  have eh : heapOfPts rawDemo1 = h0 := by unfold heapOfPts; rw [e0]
  rw [eh]
  have hlen := inv0.results_len
  obtain ⟨h1, e1⟩ := checkEdges_terminates ⟨0, 0, 40, 20⟩ h0 (rawRing h0) inv0.wf hlen
  have hno : ∀ e k, some k ∉ h0.edges e := by intro e k; rw [ed0]; simp [Heap.empty]
  exact ⟨h1, e1, checkEdges_establishes_edgesOK _ h0 _ inv0.wf hlen hno h1 e1⟩

end Clipper.Props.C08Tidy

/-
C11, export clause: "an out-of-range clip type, fill rule or precision at the C boundary is rejected with a negative
return value; they are never silently accepted".

The validation prefixes below are *generated from the source on every run* (tools/extract_calls.py →
Generated/ExportCalls.lean): the leading `if (cond) return <constant>;` statements of each exported function, which
by construction precede every call and every assignment to an output parameter recorded in the same value.
The theorems quantify over all argument values (`Int`, hence every `uint8_t` / `int` value).
-/
import ClipperVerif.Model.ExportCalls
import ClipperVerif.Generated.ExportCalls
set_option linter.unusedSimpArgs false
namespace Clipper.Props.C11Export
open Clipper.Model.ExportCalls Clipper.Gen.Export

/-- `evalGuards`/`evalAny` one constructor at a time, and `Atom.eval` on the atoms the validation prefixes use (each equation
of `Atom.eval` costs the string comparisons of its `match`, so they are stated once).  As a `simp` set they turn
`evalGuards a table` into `if tests of guard 1 then some code 1 else if … else none`, a test being a Boolean disjunction. -/
theorem eval_eqs (a : VArgs) :
    evalGuards a [] = none ∧
    (∀ g gs, evalGuards a (g :: gs) = match evalAny a g.any with
      | none => some "not-understood"
      | some b => if b then some g.ret else evalGuards a gs) ∧
    evalAny a [] = some false ∧
    (∀ x xs, evalAny a (x :: xs) = match x.eval a with
      | none => none
      | some b => if b then some true else evalAny a xs) ∧
    (∀ n, Atom.eval a (.gt "cliptype" n) = some (decide (a.cliptype > n))) ∧
    (∀ n, Atom.eval a (.gt "fillrule" n) = some (decide (a.fillrule > n))) ∧
    (∀ n, Atom.eval a (.gt "precision" n) = some (decide (a.precision > n))) ∧
    (∀ n, Atom.eval a (.lt "precision" n) = some (decide (a.precision < n))) ∧
    Atom.eval a (.isNull "paths") = some a.pathsNull ∧ Atom.eval a (.isNull "path") = some a.pathsNull ∧
    Atom.eval a (.rectEmpty "rect") = some a.rectEmpty := by
  refine ⟨rfl, fun g gs => ?_, rfl, fun x xs => ?_, ?_⟩
  · rw [evalGuards]; rcases evalAny a g.any with _ | _ | _ <;> rfl
  · rw [evalAny]; rcases x.eval a with _ | _ | _ <;> rfl
  · simp only [Atom.eval, implies_true, and_self]

theorem ite_some_true (b c : Bool) : (if b then some true else some c) = some (b || c) := by cases b <;> rfl

/-- consecutive guards with the same return value test the disjunction -/
theorem ite_ite_same {α : Type} (b c : Bool) (x y : α) : (if b then x else if c then x else y) = if (b || c) then x else y := by
  cases b <;> rfl

/-- the documented behaviour of the four `BooleanOp*` exports: -5 for a precision outside ±8 (double variants only),
-4 for a clip type above `Xor` (4), -3 for a fill rule above `Negative` (3), otherwise the call proceeds -/
def documentedCode (hasPrecision : Bool) (a : VArgs) : Option String :=
  if hasPrecision && (decide (a.precision < -8) || decide (a.precision > 8)) then some "-5"
  else if a.cliptype > 4 then some "-4"
  else if a.fillrule > 3 then some "-3"
  else none

theorem documentedCode_bool (hp : Bool) (a : VArgs) : documentedCode hp a =
    if hp && (decide (a.precision < -8) || decide (a.precision > 8)) then some "-5"
    else if decide (a.cliptype > 4) then some "-4" else if decide (a.fillrule > 3) then some "-3" else none := by
  simp only [documentedCode, decide_eq_true_eq]

/-! Each table evaluates to the chain the documentation states, up to the order of the comparisons within a test. -/

/-- `BooleanOp64` returns exactly the documented code for every argument tuple. -/
theorem export_rejects_BooleanOp64 (a : VArgs) :
    evalGuards a fn_BooleanOp64.validation = documentedCode false a := by
  simp only [fn_BooleanOp64, eval_eqs, ite_some_true, documentedCode_bool, Bool.or_false, Bool.false_and, Bool.false_eq_true, if_false]

theorem export_rejects_BooleanOp_PolyTree64 (a : VArgs) :
    evalGuards a fn_BooleanOp_PolyTree64.validation = documentedCode false a := by
  simp only [fn_BooleanOp_PolyTree64, eval_eqs, ite_some_true, documentedCode_bool, Bool.or_false, Bool.false_and, Bool.false_eq_true, if_false]

theorem export_rejects_BooleanOpD (a : VArgs) :
    evalGuards a fn_BooleanOpD.validation = documentedCode true a := by
  simp only [fn_BooleanOpD, eval_eqs, ite_some_true, documentedCode_bool, Bool.false_or, Bool.true_and, Bool.or_assoc, Bool.or_comm,
    Bool.or_left_comm]

theorem export_rejects_BooleanOp_PolyTreeD (a : VArgs) :
    evalGuards a fn_BooleanOp_PolyTreeD.validation = documentedCode true a := by
  simp only [fn_BooleanOp_PolyTreeD, eval_eqs, ite_some_true, documentedCode_bool, Bool.false_or, Bool.true_and, Bool.or_assoc, Bool.or_comm,
    Bool.or_left_comm]

theorem documentedCode_isSome (hp : Bool) (a : VArgs) : (documentedCode hp a).isSome = true ↔
    (hp = true ∧ (a.precision < -8 ∨ a.precision > 8)) ∨ a.cliptype > 4 ∨ a.fillrule > 3 := by
  unfold documentedCode
  by_cases h0 : hp = true ∧ (a.precision < -8 ∨ a.precision > 8)
  · rw [if_pos (by simpa using h0)]; simp [h0]
  · rw [if_neg (by simpa using h0)]
    by_cases h1 : a.cliptype > 4
    · simp [h1]
    · by_cases h2 : a.fillrule > 3 <;> simp [h0, h1, h2]

/-- Consequence in the words of the property: a bad argument is never silently accepted, and a good tuple is never rejected. -/
theorem export_rejects (a : VArgs) :
    ((a.cliptype > 4 ∨ a.fillrule > 3) → (evalGuards a fn_BooleanOp64.validation).isSome ∧ (evalGuards a fn_BooleanOp_PolyTree64.validation).isSome)
    ∧ ((a.cliptype > 4 ∨ a.fillrule > 3 ∨ a.precision < -8 ∨ a.precision > 8) →
        (evalGuards a fn_BooleanOpD.validation).isSome ∧ (evalGuards a fn_BooleanOp_PolyTreeD.validation).isSome)
    ∧ ((0 ≤ a.cliptype ∧ a.cliptype ≤ 4 ∧ 0 ≤ a.fillrule ∧ a.fillrule ≤ 3 ∧ -8 ≤ a.precision ∧ a.precision ≤ 8) →
        evalGuards a fn_BooleanOp64.validation = none ∧ evalGuards a fn_BooleanOpD.validation = none
        ∧ evalGuards a fn_BooleanOp_PolyTree64.validation = none ∧ evalGuards a fn_BooleanOp_PolyTreeD.validation = none) := by
  rw [export_rejects_BooleanOp64, export_rejects_BooleanOp_PolyTree64, export_rejects_BooleanOpD, export_rejects_BooleanOp_PolyTreeD]
  refine ⟨fun h => ?_, fun h => ?_, fun ⟨_, h1, _, h2, h3, h4⟩ => ?_⟩
  · exact ⟨(documentedCode_isSome false a).mpr (Or.inr h), (documentedCode_isSome false a).mpr (Or.inr h)⟩
  · have : (documentedCode true a).isSome = true := (documentedCode_isSome true a).mpr (by simp only [true_and]; omega)
    exact ⟨this, this⟩
  · have hn : ∀ hp, documentedCode hp a = none := fun hp => by
      rw [← Option.not_isSome_iff_eq_none, documentedCode_isSome]; omega
    exact ⟨hn _, hn _, hn _, hn _⟩

example : evalGuards ⟨5, 0, 2, false, false⟩ fn_BooleanOpD.validation = some "-4" := by decide +kernel
example : evalGuards ⟨1, 200, 2, false, false⟩ fn_BooleanOp64.validation = some "-3" := by decide +kernel
example : evalGuards ⟨1, 1, 9, false, false⟩ fn_BooleanOp_PolyTreeD.validation = some "-5" := by decide +kernel
example : evalGuards ⟨4, 3, -8, false, false⟩ fn_BooleanOpD.validation = none := by decide +kernel

/-- the pointer-returning double exports: `nullptr` for a precision outside ±8 or a null input … -/
def documentedNull (a : VArgs) : Option String :=
  if decide (a.precision < -8) || decide (a.precision > 8) || a.pathsNull then some "nullptr" else none

theorem export_rejects_InflatePathsD (a : VArgs) :
    evalGuards a fn_InflatePathsD.validation = documentedNull a := by
  simp only [fn_InflatePathsD, eval_eqs, ite_some_true, documentedNull, Bool.false_or, Bool.or_assoc, Bool.or_comm, Bool.or_left_comm]

theorem export_rejects_InflatePathD (a : VArgs) :
    evalGuards a fn_InflatePathD.validation = documentedNull a := by
  simp only [fn_InflatePathD, eval_eqs, ite_some_true, documentedNull, Bool.false_or, Bool.or_assoc, Bool.or_comm, Bool.or_left_comm]

/-- … and `RectClipD` / `RectClipLinesD` additionally for an empty rectangle -/
def documentedNullRect (hasPrecision : Bool) (a : VArgs) : Option String :=
  if a.rectEmpty || a.pathsNull || (hasPrecision && (decide (a.precision < -8) || decide (a.precision > 8))) then some "nullptr" else none

theorem export_rejects_RectClipD (a : VArgs) :
    evalGuards a fn_RectClipD.validation = documentedNullRect true a := by
  simp only [fn_RectClipD, eval_eqs, ite_some_true, documentedNullRect, ite_ite_same, Bool.false_or, Bool.true_and, Bool.or_assoc, Bool.or_comm,
    Bool.or_left_comm]

theorem export_rejects_RectClipLinesD (a : VArgs) :
    evalGuards a fn_RectClipLinesD.validation = documentedNullRect true a := by
  simp only [fn_RectClipLinesD, eval_eqs, ite_some_true, documentedNullRect, ite_ite_same, Bool.false_or, Bool.true_and, Bool.or_assoc, Bool.or_comm,
    Bool.or_left_comm]

theorem export_rejects_RectClip64 (a : VArgs) :
    evalGuards a fn_RectClip64.validation = documentedNullRect false a := by
  simp only [fn_RectClip64, eval_eqs, ite_some_true, documentedNullRect, Bool.false_or, Bool.false_and, Bool.or_assoc, Bool.or_comm,
    Bool.or_left_comm]

theorem export_rejects_RectClipLines64 (a : VArgs) :
    evalGuards a fn_RectClipLines64.validation = documentedNullRect false a := by
  simp only [fn_RectClipLines64, eval_eqs, ite_some_true, documentedNullRect, Bool.false_or, Bool.false_and, Bool.or_assoc, Bool.or_comm,
    Bool.or_left_comm]

end Clipper.Props.C11Export

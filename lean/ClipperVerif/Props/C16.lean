/-
C16 — The floating-point API is the integer API on scaled coordinates (`Model/Scale.lean`).

Numbers: the `ilogb` model is the floor of the binary logarithm of every positive fraction, so for every precision the
ClipperD scale `2^(ilogb(10^p)+1)` is the least power of two strictly above `10^p`; for each precision −8…8 with a relative
margin of 2^-50 (that quantifier is a finite table, so `decide` is a proof), so that `ilogb` of the *rounded* double
`pow(10,p)` is `ilogb` of the exact power; the `std::round` model returns a nearest integer, ties away from zero.
Wrappers: every PathsD entry point is `descale ∘ op64 ∘ scale` with `delta` and `arc_tolerance` multiplied by the same
scale (`miter_limit`, a ratio, is passed unchanged), for every value of the abstract arithmetic and 64-bit operations.
Two deviations of the code from the property text are theorems on the faithful model, with concrete witnesses:
`delta == 0` returns the *unrounded* input (`inflatePathsD_delta0`); ClipperD's open solution is the descaled 64-bit one
*minus* the paths `BuildPathD` rejects (3 points, two of them closer than 2 units), which `BuildPath64` keeps
(`clipperD_open_filtered`).
Trusted: that `Model/Scale.lean` Part 2 mirrors the C++ wrappers (hand model; the harness checks the real
wrappers against the real 64-bit operations on inputs scaled by this rule), IEEE/libm facts listed in propconf.
-/
import ClipperVerif.Model.Scale
namespace Clipper.Props.C16
open Clipper Clipper.Model.Scale

theorem mem_precisions (p : Int) : p ∈ precisions ↔ -8 ≤ p ∧ p ≤ 8 := by
  have e : precisions = (List.range 17).map (fun i : Nat => (i : Int) - 8) := by decide
  rw [e, List.mem_map]
  constructor
  · rintro ⟨i, hi, rfl⟩
    rw [List.mem_range] at hi; omega
  · intro h
    exact ⟨(p + 8).toNat, List.mem_range.mpr (by omega), by omega⟩

theorem pow2Frac_natCast (k : Nat) : pow2Frac (k : Int) = (2 ^ k, 1) := by
  simp only [pow2Frac, Int.natCast_nonneg, if_true, Int.toNat_natCast]

/-- also for `j = 0`, where `pow2Frac` takes its other branch: `(2^0, 1) = (1, 2^0)` -/
theorem pow2Frac_neg (j : Nat) : pow2Frac (-(j : Int)) = (1, 2 ^ j) := by
  cases j with
  | zero => rfl
  | succ j =>
    have : ¬ (0 : Int) ≤ -((j + 1 : Nat) : Int) := by omega
    simp only [pow2Frac, this, if_false, Int.neg_neg, Int.toNat_natCast]

theorem clog2_spec (c : Nat) (hc : 2 ≤ c) : c ≤ 2 ^ clog2 c ∧ 2 ^ (clog2 c - 1) ≤ c - 1 := by
  unfold clog2
  have h1 : ¬ c ≤ 1 := by omega
  simp only [h1, if_false, Nat.add_sub_cancel]
  have hne : c - 1 ≠ 0 := by omega
  exact ⟨by have := @Nat.lt_log2_self (c - 1); omega, Nat.log2_self_le hne⟩

/-- `ilogbFrac n d` is the floor of the binary logarithm of `n/d`: `2^k ≤ n/d < 2^(k+1)`. -/
theorem ilogbFrac_spec (n d : Nat) (hn : 0 < n) (hd : 0 < d) :
    fracLe (pow2Frac (ilogbFrac n d)) (n, d) ∧ fracLt (n, d) (pow2Frac (ilogbFrac n d + 1)) := by
  unfold ilogbFrac
  by_cases h : d ≤ n
  · -- `2^k ≤ n / d < 2^(k+1)` for `k = log2 (n / d)`
    have hq : n / d ≠ 0 := Nat.ne_of_gt ((Nat.le_div_iff_mul_le hd).2 (by omega))
    have h1 := (Nat.le_div_iff_mul_le hd).mp (Nat.log2_self_le hq)
    have h2 := (Nat.div_lt_iff_lt_mul hd).mp (Nat.lt_log2_self (n := n / d))
    rw [if_pos h, pow2Frac_natCast, ← Int.natCast_succ, pow2Frac_natCast]
    simp only [fracLe, fracLt, Nat.mul_one]
    exact ⟨h1, h2⟩
  · -- `n / d < 1`: with `c = ⌈d / n⌉ ≥ 2` and `2^(j-1) < c ≤ 2^j`, `2^(-j) ≤ n / d < 2^(-j+1)`
    have hc2 : 2 ≤ (d + n - 1) / n := (Nat.le_div_iff_mul_le hn).2 (by omega)
    have hup : d ≤ (d + n - 1) / n * n := by
      have := Nat.lt_div_mul_add (a := d + n - 1) hn
      omega
    have hlo : ((d + n - 1) / n - 1) * n < d := by
      have := Nat.div_mul_le_self (d + n - 1) n
      rw [Nat.sub_mul, Nat.one_mul]
      omega
    obtain ⟨s1, s2⟩ := clog2_spec _ hc2
    have hj : 1 ≤ clog2 ((d + n - 1) / n) := by
      unfold clog2; split <;> omega
    generalize (d + n - 1) / n = c at *
    generalize clog2 c = j at *
    have e : -(j : Int) + 1 = -((j - 1 : Nat) : Int) := by omega
    rw [if_neg h, e, pow2Frac_neg, pow2Frac_neg]
    simp only [fracLe, fracLt, Nat.one_mul]
    exact ⟨Nat.le_trans hup (Nat.mul_comm c n ▸ Nat.mul_le_mul_left n s1),
      Nat.lt_of_le_of_lt (Nat.mul_comm (c - 1) n ▸ Nat.mul_le_mul_left n s2) hlo⟩

example : ilogbFrac 100 1 = 6 ∧ ilogbFrac 1 1000 = -10 ∧ ilogbFrac 1 1 = 0 ∧ ilogbFrac 3 2 = 0 ∧ ilogbFrac 1 4 = -2 := by
  decide

theorem pow2Frac_pos (k : Int) : 0 < (pow2Frac k).1 ∧ 0 < (pow2Frac k).2 := by
  unfold pow2Frac; split <;> exact ⟨by simp [Nat.pow_pos], by simp [Nat.pow_pos]⟩

theorem pow10Frac_pos (p : Int) : 0 < (pow10Frac p).1 ∧ 0 < (pow10Frac p).2 := by
  unfold pow10Frac; split <;> exact ⟨by simp [Nat.pow_pos], by simp [Nat.pow_pos]⟩

/-- For every integer precision: `2^(k-1) ≤ 10^p < 2^k` where `2^k` is the ClipperD scale `2^(ilogb(10^p)+1)`. -/
theorem clipperD_scale_sandwich (p : Int) :
    fracLt (pow10Frac p) (clipperDScale p) ∧ fracLe (pow2Frac (clipperDExp p - 1)) (pow10Frac p) := by
  obtain ⟨h1, h2⟩ := ilogbFrac_spec _ _ (pow10Frac_pos p).1 (pow10Frac_pos p).2
  exact ⟨h2, by rw [clipperDExp, Int.add_sub_cancel]; exact h1⟩

/-- For each precision in −8…8: `2^(k-1) ≤ 10^p < 2^k` where `2^k` is the ClipperD scale
`2^(ilogb(10^p)+1)`: the scale is the least power of two strictly above `10^p`. -/
theorem clipperD_scale_pow2 : ∀ p ∈ precisions,
    fracLt (pow10Frac p) (clipperDScale p) ∧ fracLe (pow2Frac (clipperDExp p - 1)) (pow10Frac p) :=
  fun p _ => clipperD_scale_sandwich p

theorem clipperD_exp_table :
    precisions.map clipperDExp = [-26, -23, -19, -16, -13, -9, -6, -3, 1, 4, 7, 10, 14, 17, 20, 24, 27] := by
  decide

theorem pow2Frac_mono {a b : Int} (h : a ≤ b) : fracLe (pow2Frac a) (pow2Frac b) := by
  unfold fracLe pow2Frac
  by_cases ha : 0 ≤ a <;> by_cases hb : 0 ≤ b <;> simp only [ha, hb, if_true, if_false, Nat.mul_one, Nat.one_mul]
  · exact Nat.pow_le_pow_right (by decide) (by omega)
  · omega
  · have h1 : 1 ≤ 2 ^ b.toNat := Nat.one_le_two_pow
    have h2 : 1 ≤ 2 ^ (-a).toNat := Nat.one_le_two_pow
    have h3 := Nat.mul_le_mul h1 h2
    simpa using h3
  · exact Nat.pow_le_pow_right (by decide) (by omega)

/-- Minimality: a power of two `2^j` strictly above `x`, where `2^(k-1) ≤ x`, has `j ≥ k`. -/
theorem scale_is_least (x : Nat × Nat) (hx : 0 < x.2) (k j : Int)
    (hlow : fracLe (pow2Frac (k - 1)) x) (habove : fracLt x (pow2Frac j)) : k ≤ j := by
  by_cases h : k ≤ j
  · exact h
  · exfalso
    have hm : fracLe (pow2Frac j) (pow2Frac (k - 1)) := pow2Frac_mono (by omega)
    unfold fracLe at hlow hm
    unfold fracLt at habove
    -- j ≤ k-1:  2^j ≤ 2^(k-1) ≤ x < 2^j
    have p1 := (pow2Frac_pos j)
    have p2 := (pow2Frac_pos (k - 1))
    generalize pow2Frac j = J at *
    generalize pow2Frac (k - 1) = K at *
    obtain ⟨jn, jd⟩ := J
    obtain ⟨kn, kd⟩ := K
    obtain ⟨xn, xd⟩ := x
    simp only at *
    -- jn*kd ≤ kn*jd ; kn*xd ≤ xn*kd ; xn*jd < jn*xd.  Multiply out.
    have a1 : jn * kd * xd ≤ kn * jd * xd := Nat.mul_le_mul_right _ hm
    have a2 : kn * xd * jd ≤ xn * kd * jd := Nat.mul_le_mul_right _ hlow
    have a3 : xn * jd * kd < jn * xd * kd := Nat.mul_lt_mul_of_pos_right habove p2.2
    have e1 := Nat.mul_right_comm kn jd xd
    have e2 := Nat.mul_right_comm xn kd jd
    have e3 := Nat.mul_right_comm jn xd kd
    omega

/-- The ClipperD scale is the least power of two strictly above `10^p`, among *all* powers of two. -/
theorem clipperD_scale_least (p : Int) (hp : p ∈ precisions) (j : Int)
    (habove : fracLt (pow10Frac p) (pow2Frac j)) : clipperDExp p ≤ j := by
  exact scale_is_least _ (pow10Frac_pos p).2 _ _ (clipperD_scale_pow2 p hp).2 habove

/-- The sandwich holds with relative margin 2^-50 on both sides (except at `10^0 = 2^0`, which is an exact
double): `std::ilogb` applied to the rounded double `std::pow(10,p)` (relative error ≤ 2^-52) returns the
`ilogb` of the exact power. -/
theorem clipperD_scale_robust : ∀ p ∈ precisions, p ≠ 0 →
    let x := pow10Frac p
    let lo := pow2Frac (clipperDExp p - 1)
    let hi := clipperDScale p
    fracLe (lo.1 * (2 ^ 50 + 1), lo.2 * 2 ^ 50) x ∧ fracLe x (hi.1 * (2 ^ 50 - 1), hi.2 * 2 ^ 50) := by
  decide

example : clipperDScale 2 = (128, 1) ∧ clipperDScale (-3) = (1, 512) ∧ clipperDScale 0 = (2, 1) := by decide

/-- `std::round` is odd -/
theorem roundHalfAway_neg (n : Int) (d : Nat) (hd : 0 < d) : roundHalfAway (-n) d = -roundHalfAway n d := by
  rcases Int.lt_trichotomy n 0 with h | h | h
  · have h1 : ¬ -n < 0 := by omega
    simp only [roundHalfAway, Int.natAbs_neg, h, h1, if_true, if_false, Int.neg_neg]
  · subst h
    have : ¬ d ≤ 0 := by omega
    simp [roundHalfAway, this]
  · have h1 : -n < 0 := by omega
    have h2 : ¬ n < 0 := by omega
    simp only [roundHalfAway, Int.natAbs_neg, h1, h2, if_true, if_false]

/-- on a natural number `k = q d + r`, `r < d`: `q + 1` if `d ≤ 2 r`, else `q` -/
theorem roundHalfAway_natCast (k d : Nat) (hd : 0 < d) :
    ∃ q r : Nat, k = q * d + r ∧ r < d ∧ roundHalfAway k d = ((if d ≤ 2 * r then q + 1 else q : Nat) : Int) := by
  refine ⟨k / d, k % d, ?_, Nat.mod_lt _ hd, ?_⟩
  · rw [Nat.mul_comm]; exact (Nat.div_add_mod k d).symm
  · have : ¬ (k : Int) < 0 := by omega
    simp only [roundHalfAway, Int.natAbs_natCast, this, if_false]

/-- a statement about `n` and `round n` that is invariant under `n ↦ −n`, `round n ↦ −round n` need only be proved
for natural numbers -/
theorem round_induction {motive : Int → Int → Prop} (d : Nat) (hd : 0 < d)
    (nat : ∀ k : Nat, motive k (roundHalfAway k d)) (neg : ∀ n r, motive n r → motive (-n) (-r)) :
    ∀ n, motive n (roundHalfAway n d) := by
  intro n
  obtain ⟨k, rfl | rfl⟩ := Int.eq_nat_or_neg n
  · exact nat k
  · rw [roundHalfAway_neg _ _ hd]; exact neg _ _ (nat k)

/-- `roundHalfAway n d` is within one half of `n/d`: `|round·d − n| ≤ d/2`. -/
theorem round_nearest (n : Int) (d : Nat) (hd : 0 < d) :
    2 * (roundHalfAway n d * d - n) ≤ d ∧ -(d : Int) ≤ 2 * (roundHalfAway n d * d - n) := by
  refine round_induction (motive := fun n r => 2 * (r * d - n) ≤ d ∧ -(d : Int) ≤ 2 * (r * d - n)) d hd ?_ ?_ n
  · intro k
    obtain ⟨q, r, hk, hr, he⟩ := roundHalfAway_natCast k d hd
    rw [he, hk]
    split <;> simp only [Int.natCast_add, Int.natCast_mul, Int.add_mul, Int.natCast_one, Int.one_mul] <;> omega
  · intro n r h
    rw [Int.neg_mul]; omega

/-- ties go away from zero: if `n/d` is exactly half-way then `|round| · d > |n|`. -/
theorem round_ties_away (n : Int) (d : Nat) (hd : 0 < d)
    (htie : 2 * (roundHalfAway n d * d - n) = d ∨ 2 * (roundHalfAway n d * d - n) = -(d : Int)) :
    (n.natAbs : Int) < (roundHalfAway n d).natAbs * d := by
  revert htie
  refine round_induction (motive := fun n r => (2 * (r * d - n) = d ∨ 2 * (r * d - n) = -(d : Int)) →
    (n.natAbs : Int) < r.natAbs * d) d hd ?_ ?_ n
  · intro k
    obtain ⟨q, r, hk, hr, he⟩ := roundHalfAway_natCast k d hd
    rw [he, hk, Int.natAbs_natCast, Int.natAbs_natCast]
    split <;> simp only [Int.natCast_add, Int.natCast_mul, Int.add_mul, Int.natCast_one, Int.one_mul] <;> omega
  · intro n r h
    rw [Int.neg_mul, Int.natAbs_neg, Int.natAbs_neg]
    intro ht; exact h (by omega)

theorem round_nearest_among_integers (n : Int) (d : Nat) (hd : 0 < d) (z : Int) :
    (roundHalfAway n d * d - n).natAbs ≤ (z * d - n).natAbs := by
  obtain ⟨h1, h2⟩ := round_nearest n d hd
  generalize roundHalfAway n d = r at *
  -- z = r + j
  obtain ⟨j, rfl⟩ : ∃ j, z = r + j := ⟨z - r, by omega⟩
  rw [Int.add_mul]
  by_cases hj : j = 0
  · subst hj; simp
  · have hjd : (d : Int) ≤ j * d ∨ j * d ≤ -(d : Int) := by
      by_cases hp : 0 < j
      · left
        have : 0 ≤ (j - 1) * (d : Int) := Int.mul_nonneg (by omega) (by omega)
        rw [Int.sub_mul, Int.one_mul] at this; omega
      · right
        have : 0 ≤ (-j - 1) * (d : Int) := Int.mul_nonneg (by omega) (by omega)
        rw [Int.sub_mul, Int.neg_mul, Int.one_mul] at this; omega
    generalize j * (d : Int) = Y at *
    generalize r * (d : Int) = X at *
    omega

theorem round_of_int (n : Int) : roundHalfAway n 1 = n := by
  unfold roundHalfAway
  simp only [Nat.div_one, Nat.mod_one, Nat.mul_zero]
  have : ¬ 1 ≤ 0 := by omega
  simp only [this, if_false]
  split <;> omega

/-- the model on doubles given by bit pattern: 0.5 → 1, −0.5 → −1, 2.5 → 3, −2.5 → −3,
0.49999999999999994 → 0, 1.5 → 2, 2^52+1 → itself, +∞ → none -/
example :
    roundDouble 0x3FE0000000000000 = some 1 ∧ roundDouble 0xBFE0000000000000 = some (-1) ∧
    roundDouble 0x4004000000000000 = some 3 ∧ roundDouble 0xC004000000000000 = some (-3) ∧
    roundDouble 0x3FDFFFFFFFFFFFFF = some 0 ∧ roundDouble 0x3FF8000000000000 = some 2 ∧
    roundDouble 0x4330000000000001 = some (2 ^ 52 + 1) ∧
    roundDouble 0x7FF0000000000000 = none := by decide

variable {R : Type} (N : Num R) (O : Ops64 R)

/-- `BooleanOp(PathsD)` / `ClipperD` closed solution: scale `2^(ilogb(10^p)+1)`, range-checked `ScalePaths`,
descale by `invScale_ = 1/scale`. -/
theorem booleanOpD_is_64 (ct : ClipType) (fr : FillRule) (subj clp : PathsD R) (prec : Int)
    (hp : precisionOk prec = true)
    (hs : O.inRange subj (N.pow2scale prec) = true) (hc : O.inRange clp (N.pow2scale prec) = true) :
    booleanOpD N O ct fr subj clp prec
      = descalePaths N (N.inv (N.pow2scale prec))
          (O.clip ct fr (scalePaths N (N.pow2scale prec) subj) [] (scalePaths N (N.pow2scale prec) clp)).1 := by
  simp [booleanOpD, hp, clipperDExec, addD, scalePathsChecked, hs, hc]

/-- `ClipperD` with open subjects: the closed solution is the descaled 64-bit closed solution; the open solution
is the descaled 64-bit open solution **after removing the paths `BuildPathD` rejects**. -/
theorem clipperD_open_filtered (ct : ClipType) (fr : FillRule) (subj opn clp : PathsD R) (prec : Int)
    (hs : O.inRange subj (N.pow2scale prec) = true) (ho : O.inRange opn (N.pow2scale prec) = true)
    (hc : O.inRange clp (N.pow2scale prec) = true) :
    let s := N.pow2scale prec
    let r64 := O.clip ct fr (scalePaths N s subj) (scalePaths N s opn) (scalePaths N s clp)
    clipperD N O prec ct fr subj opn clp
      = (descalePaths N (N.inv s) r64.1, descalePaths N (N.inv s) (r64.2.filter O.keepOpenD)) := by
  simp [clipperD, clipperDExec, addD, scalePathsChecked, hs, ho, hc]

/-- If `BuildPathD` kept every open path (as `BuildPath64` does) ClipperD would be `descale ∘ Clipper64 ∘ scale`. -/
theorem clipperD_is_64_if_open_kept (ct : ClipType) (fr : FillRule) (subj opn clp : PathsD R) (prec : Int)
    (hs : O.inRange subj (N.pow2scale prec) = true) (ho : O.inRange opn (N.pow2scale prec) = true)
    (hc : O.inRange clp (N.pow2scale prec) = true) (hk : ∀ p, O.keepOpenD p = true) :
    let s := N.pow2scale prec
    let r64 := O.clip ct fr (scalePaths N s subj) (scalePaths N s opn) (scalePaths N s clp)
    clipperD N O prec ct fr subj opn clp = (descalePaths N (N.inv s) r64.1, descalePaths N (N.inv s) r64.2) := by
  have : ∀ l : Paths, l.filter O.keepOpenD = l := by
    intro l; exact List.filter_eq_self.2 (fun p _ => hk p)
  simp [clipperD, clipperDExec, addD, scalePathsChecked, hs, ho, hc, this]

theorem Tree.shape_map {α β : Type} (f : α → β) (t : Tree α) : (t.map f).shape = t.shape := by
  unfold Tree.shape
  refine Tree.rec (motive_1 := fun t => (t.map f).map (fun _ => ()) = t.map (fun _ => ()))
    (motive_2 := fun cs => Tree.map.mapList (fun _ => ()) (Tree.map.mapList f cs) = Tree.map.mapList (fun _ => ()) cs)
    ?_ ?_ ?_ t
  · intro a cs ih; simp [Tree.map, ih]
  · simp [Tree.map.mapList]
  · intro c cs ih1 ih2; simp [Tree.map.mapList, ih1, ih2]

/-- number of children of the root, and recursively: the shape determines every child count -/
def Tree.childCount : Tree α → Nat
  | .node _ cs => cs.length

/-- PolyTreeD has the shape of the PolyTree64 of the scaled input, node for node, and every polygon is the
descaled polygon of the corresponding node. -/
theorem polyTreeD_same_shape (ct : ClipType) (fr : FillRule) (subj clp : PathsD R) (prec : Int)
    (hp : precisionOk prec = true)
    (hs : O.inRange subj (N.pow2scale prec) = true) (hc : O.inRange clp (N.pow2scale prec) = true) :
    let s := N.pow2scale prec
    let t64 := (O.clipTree ct fr (scalePaths N s subj) [] (scalePaths N s clp)).1
    booleanOpTreeD N O ct fr subj clp prec = some (t64.map (descalePath N (N.inv s))) ∧
    (t64.map (descalePath N (N.inv s))).shape = t64.shape := by
  refine ⟨?_, Tree.shape_map _ _⟩
  simp [booleanOpTreeD, hp, clipperDExecTree, addD, scalePathsChecked, hs, hc]

/-- `InflatePaths(PathsD)`: scale `10^precision`; **`delta` and `arc_tolerance` are multiplied by the scale,
`miter_limit` is not**; descale by `1/scale`.  Holds when `delta ≠ 0`. -/
theorem inflatePathsD_is_64 (paths : PathsD R) (delta : R) (jt : JoinType) (et : EndType) (ml : R) (prec : Int) (arc : R)
    (hp : precisionOk prec = true) (hd : N.isZero delta = false) (hr : O.inRange paths (N.pow10 prec) = true) :
    let s := N.pow10 prec
    inflatePathsD N O paths delta jt et ml prec arc
      = descalePaths N (N.inv s) (O.inflate (scalePaths N s paths) (N.mul delta s) jt et ml (N.mul arc s)) := by
  simp [inflatePathsD, hp, hd, scalePathsChecked, hr]

/-- Deviation: with `delta == 0` the D wrapper returns its argument untouched (not scaled, rounded and descaled). -/
theorem inflatePathsD_delta0 (paths : PathsD R) (delta : R) (jt : JoinType) (et : EndType) (ml : R) (prec : Int) (arc : R)
    (hd : N.isZero delta = true) : inflatePathsD N O paths delta jt et ml prec arc = paths := by
  simp [inflatePathsD, hd]

/-- `RectClip(RectD, PathsD)`: scale `10^precision` for the rectangle (`ScaleRect`, rounded) and the paths. -/
theorem rectClipD_is_64 (rect : RectOf R) (paths : PathsD R) (prec : Int)
    (hne : paths ≠ []) (hp : precisionOk prec = true) (hr : O.inRange paths (N.pow10 prec) = true) :
    let s := N.pow10 prec
    rectClipD N O false rect paths prec
      = descalePaths N (N.inv s) (O.rectClip (scaleRect N s rect) (scalePaths N s paths)) := by
  have : paths.isEmpty = false := by cases paths <;> simp_all
  simp [rectClipD, hp, scalePathsChecked, hr, this]

theorem rectClipLinesD_is_64 (rect : RectOf R) (lines : PathsD R) (prec : Int)
    (hne : lines ≠ []) (hp : precisionOk prec = true) (hr : O.inRange lines (N.pow10 prec) = true) :
    let s := N.pow10 prec
    rectClipLinesD N O false rect lines prec
      = descalePaths N (N.inv s) (O.rectClipLines (scaleRect N s rect) (scalePaths N s lines)) := by
  have : lines.isEmpty = false := by cases lines <;> simp_all
  simp [rectClipLinesD, hp, scalePathsChecked, hr, this]

/-- `MinkowskiSum/Diff(PathD)`: scale `10^decimalPlaces`, no precision check and no range check. -/
theorem minkowskiD_is_64 (isSum : Bool) (pattern path : PathD R) (isClosed : Bool) (prec : Int) :
    let s := N.pow10 prec
    minkowskiD N O isSum pattern path isClosed prec
      = descalePaths N (N.inv s) (O.minkowski (scalePath N s pattern) (scalePath N s path) isSum isClosed) := rfl

/-- `TrimCollinear(PathD)`: scale `10^precision`, precision check, no range check. -/
theorem trimCollinearD_is_64 (path : PathD R) (prec : Int) (isOpen : Bool) (hp : precisionOk prec = true) :
    let s := N.pow10 prec
    trimCollinearD N O path prec isOpen = descalePath N (N.inv s) (O.trimCollinear (scalePath N s path) isOpen) := by
  simp [trimCollinearD, hp]

/-- Scaling is pointwise `round(x·s)`, descaling pointwise `x·inv`: the two maps every wrapper composes with. -/
theorem scale_descale_pointwise (s inv : R) (p : PathD R) (q : Path) :
    scalePath N s p = p.map (fun v => (⟨N.round (N.mul v.1 s), N.round (N.mul v.2 s)⟩ : Pt)) ∧
    descalePath N inv q = q.map (fun v => (N.mul (N.ofInt v.x) inv, N.mul (N.ofInt v.y) inv)) := ⟨rfl, rfl⟩

/-- Summary (the property's algebraic clause): for valid precision and in-range input every PathsD entry point is
`descale ∘ op64 ∘ scale`; ClipperD/BooleanOp/PolyTreeD use the power-of-two scale, the others `10^precision`;
`delta` and `arc_tolerance` are scaled, `miter_limit` is not.  Exceptions (both are the code's behaviour, see
the two deviation theorems): `InflatePaths` with `delta = 0`, open solution paths of ClipperD. -/
theorem d_api_is_64_api (prec : Int) (hp : precisionOk prec = true) :
    (∀ ct fr subj clp, O.inRange subj (N.pow2scale prec) = true → O.inRange clp (N.pow2scale prec) = true →
      booleanOpD N O ct fr subj clp prec
        = descalePaths N (N.inv (N.pow2scale prec))
            (O.clip ct fr (scalePaths N (N.pow2scale prec) subj) [] (scalePaths N (N.pow2scale prec) clp)).1) ∧
    (∀ paths delta jt et ml arc, N.isZero delta = false → O.inRange paths (N.pow10 prec) = true →
      inflatePathsD N O paths delta jt et ml prec arc
        = descalePaths N (N.inv (N.pow10 prec))
            (O.inflate (scalePaths N (N.pow10 prec) paths) (N.mul delta (N.pow10 prec)) jt et ml (N.mul arc (N.pow10 prec)))) ∧
    (∀ rect paths, paths ≠ [] → O.inRange paths (N.pow10 prec) = true →
      rectClipD N O false rect paths prec
        = descalePaths N (N.inv (N.pow10 prec)) (O.rectClip (scaleRect N (N.pow10 prec) rect) (scalePaths N (N.pow10 prec) paths))) ∧
    (∀ rect lines, lines ≠ [] → O.inRange lines (N.pow10 prec) = true →
      rectClipLinesD N O false rect lines prec
        = descalePaths N (N.inv (N.pow10 prec)) (O.rectClipLines (scaleRect N (N.pow10 prec) rect) (scalePaths N (N.pow10 prec) lines))) ∧
    (∀ isSum pattern path isClosed,
      minkowskiD N O isSum pattern path isClosed prec
        = descalePaths N (N.inv (N.pow10 prec)) (O.minkowski (scalePath N (N.pow10 prec) pattern) (scalePath N (N.pow10 prec) path) isSum isClosed)) ∧
    (∀ path isOpen,
      trimCollinearD N O path prec isOpen
        = descalePath N (N.inv (N.pow10 prec)) (O.trimCollinear (scalePath N (N.pow10 prec) path) isOpen)) :=
  ⟨fun ct fr subj clp hs hc => booleanOpD_is_64 N O ct fr subj clp prec hp hs hc,
   fun paths delta jt et ml arc hd hr => inflatePathsD_is_64 N O paths delta jt et ml prec arc hp hd hr,
   fun rect paths hne hr => rectClipD_is_64 N O rect paths prec hne hp hr,
   fun rect lines hne hr => rectClipLinesD_is_64 N O rect lines prec hne hp hr,
   fun isSum pattern path isClosed => minkowskiD_is_64 N O isSum pattern path isClosed prec,
   fun path isOpen => trimCollinearD_is_64 N O path prec isOpen hp⟩

/-! Concrete witnesses for the two deviations, in a small exact number system: a value `v : Int` stands for `v / 1000`
(three decimals), enough to replay the harness's `kf.` inputs inside the model. -/

/-- thousandths -/
def milli : Num Int where
  mul a b := a * b / 1000
  inv a := 1000000 / a
  ofInt z := 1000 * z
  round v := roundHalfAway v 1000
  pow10 p := if 0 ≤ p then 1000 * 10 ^ p.toNat else 1000 / 10 ^ (-p).toNat
  pow2scale p := 1000 * 2 ^ (clipperDExp p).toNat
  isZero v := v == 0

/-- 64-bit operations that matter for the witnesses: `InflatePaths(Paths64)` starts with
`if (!delta) return paths;`, Clipper64 returns an open subject that nothing clips unchanged; `BuildPathD`'s test. -/
def ops0 : Ops64 Int where
  clip _ _ _ opn _ := ([], opn)
  clipTree _ _ _ opn _ := (.node [] [], opn)
  inflate ps delta _ _ _ _ := if delta = 0 then ps else []
  rectClip _ ps := ps
  rectClipLines _ ps := ps
  minkowski _ _ _ _ := []
  trimCollinear p _ := p
  inRange _ _ := true
  keepOpenD p := match p with
    | [a, b, c] => !((decide ((a.x - b.x).natAbs < 2) && decide ((a.y - b.y).natAbs < 2)) ||
                     (decide ((b.x - c.x).natAbs < 2) && decide ((b.y - c.y).natAbs < 2)) ||
                     (decide ((a.x - c.x).natAbs < 2) && decide ((a.y - c.y).natAbs < 2)))
    | _ => true

/-- The property's equation fails for `InflatePaths(PathsD, delta = 0)` on `{(0.123, 0.456), (10.789, 0.2), (5.5, 9.99)}`
at precision 2: the wrapper returns the input, the 64-bit route returns `{(0.12,0.46),(10.79,0.2),(5.5,9.99)}`. -/
theorem inflatePathsD_delta0_not_64 :
    let paths : PathsD Int := [[(123, 456), (10789, 200), (5500, 9990)]]
    let s := milli.pow10 2
    inflatePathsD milli ops0 paths 0 .miter .polygon 2000 2 0 = paths ∧
    descalePaths milli (milli.inv s) (ops0.inflate (scalePaths milli s paths) (milli.mul 0 s) .miter .polygon 2000 (milli.mul 0 s))
      = [[(120, 460), (10790, 200), (5500, 9990)]] := by
  decide

/-- The property's equation fails for ClipperD's open solution on the open subject `{(0,0),(0.008,0),(10,10)}` at
precision 2 (scale 128): Clipper64 on the scaled input returns the path, ClipperD returns nothing. -/
theorem clipperD_open_not_64 :
    let opn : PathsD Int := [[(0, 0), (8, 0), (10000, 10000)]]
    let s := milli.pow2scale 2
    scalePaths milli s opn = [[⟨0, 0⟩, ⟨1, 0⟩, ⟨1280, 1280⟩]] ∧
    (ops0.clip .union .nonZero [] (scalePaths milli s opn) []).2 = [[⟨0, 0⟩, ⟨1, 0⟩, ⟨1280, 1280⟩]] ∧
    (clipperD milli ops0 2 .union .nonZero [] opn []).2 = [] := by
  decide

end Clipper.Props.C16

/-
C08, completeness of the location / corner automaton `RectClip64::ExecuteInternal` for sign-exact arithmetic
(model `Model/RectClipAuto.lean`; first part in `Props/C08.lean`).

1. `RunFine` removal.  For an arithmetic that reports the exact sign of every cross product (`SignExact`) and always
   delivers an intersection point (`IsectTotal`), and a non-empty rectangle, the run hypothesis `RunFine` of
   `Props.C08.executeInternal_total` holds for **every** path (`runFine_exact`): no crossing is missed — neither an
   entering one (`Props.C08.entering_crossing_found_exact`) nor an exiting one (`exit_crossing_found_exact`) — and the
   location a successful `GetIntersection` call reports always consumes the current vertex, except in the `ip == ip2`
   case which the code handles by `GetLocation` (`crossing_location_ready_exact`).  Hence `ExecuteInternal` terminates
   within `2n+2` iterations without any fault for every path (`executeInternal_total_exact`,
   `executeInternal_no_fault_exact`).  Moreover the second `GetIntersection` call of a passing-right-through step,
   whose result the C++ ignores, always succeeds (`through_crossing_found_exact`), so the hypothesis `NoLostCrossingA`
   of `added_points_in_rect` / `raw_ring_in_rect` holds for every path too (`noLostCrossing_exact`,
   `raw_ring_in_rect_exact`).
2. Completeness before `CheckEdges`.  Every input vertex strictly inside the rectangle is passed to `Add`, tagged with
   its index (`inside_vertices_kept_exact`), hence is on the raw ring (`inside_vertices_in_ring_exact`); the `Add` calls
   come in the order of the path — the main loop runs `i` from `0` to `highI` once, there is no wrap-around, the cyclic
   start only fixes the initial location, and the closing corners come last — (`emits_in_path_order`, for every
   arithmetic); the strictly-inside vertices in input order are a sublist of the points passed to `Add`
   (`inside_vertices_sublist_exact`), and `Add` drops a point only when it equals its predecessor (`raw_ring_order`);
   between two consecutive kept vertices only rectangle corners and results of successful `GetIntersection` calls on the
   segments in between are added (`between_kept_vertices_exact`; for an arbitrary arithmetic
   `between_kept_vertices_provenance` and, under `NoLostCrossingA`, `between_kept_vertices`).
   Summary: `raw_ring_complete_exact`.
Everything here is fully proved (no `_partial` theorem); the hypotheses are exactness of the arithmetic, totality of
`PointInPolygon` where the closing logic is involved, and a non-empty rectangle (which `Execute` guarantees).
-/
import ClipperVerif.Props.C08
import ClipperVerif.Lemmas.RectClipComplete
namespace Clipper.Props.C08
open Clipper Clipper.Model.RC Clipper.Lemmas.RC Clipper.Lemmas.RCA Clipper.Lemmas.RCE Clipper.Lemmas.RCG
  Clipper.Lemmas.RCC

/-- **`exit_crossing_found_exact`: an exiting crossing cannot be missed with exact signs.**  For a sign-exact
arithmetic, a non-empty rectangle, a point `prv` of the closed rectangle and a point `cur` strictly outside it which
the `Inside` case of `GetNextLocation` classifies as `L` (`outsideLoc`): `GetIntersection(cur, prv, L)` succeeds, i.e.
the three arms the code tries for `L` (the edge `L`, the guarded neighbour, the other neighbour) are complete.
Counterpart of `entering_crossing_found_exact`. -/
theorem exit_crossing_found_exact (A : Arith) (hA : SignExact A) (ht : IsectTotal A) (r : Rect)
    (hne : r.isEmpty = false) (cur prv : Pt) (L : Location) (hout : outsideLoc r cur = some L)
    (hin : inRect r prv = true) (ip : Pt) : (getIntersection A r cur prv L ip).1 = true :=
  Lemmas.RLG.exit_found hA ht (nonempty_dims hne).1 (nonempty_dims hne).2 hout hin ip

/-- the exact-sign arithmetic of `Props.C09` satisfies the hypotheses; `(−3, 4)` is classified `left`, `(10, 10)` is a
corner of the rectangle -/
example : SignExact (Props.C09.exampleArith ⟨0, 0, 10, 10⟩) ∧ IsectTotal (Props.C09.exampleArith ⟨0, 0, 10, 10⟩) ∧
    (⟨0, 0, 10, 10⟩ : Rect).isEmpty = false ∧ outsideLoc ⟨0, 0, 10, 10⟩ ⟨-3, 4⟩ = some .left ∧
    inRect ⟨0, 0, 10, 10⟩ ⟨10, 10⟩ = true := by
  refine ⟨fun a b c => ⟨by simp [Props.C09.exampleArith, Int.sign_eq_zero_iff_zero], ?_⟩, fun a b c d => rfl,
    by decide, by decide, by decide⟩
  simp only [Props.C09.exampleArith, gt_iff_lt]
  exact Int.sign_pos_iff

/-- **`crossing_location_ready_exact`: the location reported by a successful `GetIntersection` consumes the vertex.**
`cur` is a vertex that `GetNextLocation` would consume from the side `L` (`Ready r L cur`: it lies at or beyond the
line of the edge `L`) and `GetIntersection(cur, prv, L)` succeeds reporting the side `L'`.  Then `cur` is consumed from
`L'` as well, so that the next iteration advances — except in one configuration (`Special`): `cur` lies on the edge
`L`, `prv` on the same line at or beyond the far end of that edge; there the third arm answers with the far corner,
the automaton necessarily comes from the side `specialFrom L`, and the reversed call `GetIntersection(prv, cur,
specialFrom L)` reports the same corner — this is exactly the `ip == ip2` case of the passing-right-through branch,
which re-classifies `cur` by `GetLocation`. -/
theorem crossing_location_ready_exact (A : Arith) (hA : SignExact A) (ht : IsectTotal A) (r : Rect)
    (hne : r.isEmpty = false) (L : Location) (hL : L ≠ .inside) (cur prv ip : Pt)
    (hx : (getIntersection A r cur prv L ip).1 = true) (hr : Ready r L cur) :
    Ready r (getIntersection A r cur prv L ip).2.1 cur ∨
    (Special r L cur prv ∧ ∀ ip', (getIntersection A r cur prv L ip).2.2 =
      (getIntersection A r prv cur (specialFrom L) ip').2.2) :=
  getIntersection_ready_exact hA ht r (nonempty_dims hne).1 (nonempty_dims hne).2 L hL cur prv ip hx hr

/-- the special configuration occurs: `cur = (0, 5)` on the left edge, `prv = (0, 12)` below the rectangle on the same
line; `GetIntersection(cur, prv, left)` answers `bottom` with the corner `(0, 10)` although `cur` is not below the
rectangle, and the reversed call from `bottom` reports the same corner -/
example : let A := Props.C09.exampleArith ⟨0, 0, 10, 10⟩
    getIntersection A ⟨0, 0, 10, 10⟩ ⟨0, 5⟩ ⟨0, 12⟩ .left ⟨0, 0⟩ = (true, .bottom, ⟨0, 10⟩) ∧
    Ready ⟨0, 0, 10, 10⟩ .left ⟨0, 5⟩ ∧ ¬ Ready ⟨0, 0, 10, 10⟩ .bottom ⟨0, 5⟩ ∧
    Special ⟨0, 0, 10, 10⟩ .left ⟨0, 5⟩ ⟨0, 12⟩ ∧
    (getIntersection A ⟨0, 0, 10, 10⟩ ⟨0, 12⟩ ⟨0, 5⟩ .bottom ⟨0, 0⟩).2.2 = ⟨0, 10⟩ := by
  refine ⟨by decide, by simp [Ready], by simp [Ready], by simp [Special], by decide⟩

/-- **`runFine_exact`: the run hypothesis of `executeInternal_total` holds for every path.**  For a sign-exact arithmetic
and a non-empty rectangle, `StepFine` (no missed crossing; a crossing found on an iteration that does not advance `i`
leaves a location from which the next iteration advances) holds in every control state the main loop of
`ExecuteInternal` goes through, whatever the path.  (Loop invariant `Lemmas.RCC.InvC`: the vertex at `i` is consumed
from `loc`, or the vertex before it would have been; the geometric content is `entering_crossing_found_exact`,
`exit_crossing_found_exact` and `crossing_location_ready_exact`.) -/
theorem runFine_exact (A : Arith) (hA : SignExact A) (ht : IsectTotal A) (r : Rect) (hne : r.isEmpty = false)
    (path : Path) : RunFine A r path :=
  fun last loc0 hl hs c hr _ => Clipper.Lemmas.RCC.runFine_exact hA ht r hne path last loc0 hl hs c hr

/-- **`executeInternal_total_exact`.**  With exact signs, a non-empty rectangle and a total `PointInPolygon`,
`ExecuteInternal` returns for **every** path: the main loop ends within `2 * path.size() + 2` iterations, every
`do { … } while (prev != loc)` corner loop ends within 4 iterations, no `rect_as_path_[…]` or `path[…]` index is out of
range, and `start_locs_` never contains `Inside`.  (`executeInternal_total` without its run hypothesis.) -/
theorem executeInternal_total_exact (A : Arith) (hA : SignExact A) (ht : IsectTotal A)
    (pip : Pt → Path → Option PipResult) (hpip : ∀ q poly, (pip q poly).isSome = true) (r : Rect)
    (hne : r.isEmpty = false) (path : Path) :
    ∃ res, executeInternalA A pip r path = .ok res ∧ ∀ l ∈ res.startLocs, l ≠ .inside :=
  executeInternal_total A pip r path (runFine_exact A hA ht r hne path) hpip

/-- **`executeInternal_no_fault_exact`.**  Same hypotheses: the model raises no fault of any kind (no index out of
range, no endless corner loop, no exhausted fuel), for every path. -/
theorem executeInternal_no_fault_exact (A : Arith) (hA : SignExact A) (ht : IsectTotal A)
    (pip : Pt → Path → Option PipResult) (hpip : ∀ q poly, (pip q poly).isSome = true) (r : Rect)
    (hne : r.isEmpty = false) (path : Path) : faultOf (executeInternalA A pip r path) = none := by
  obtain ⟨res, h, _⟩ := executeInternal_total_exact A hA ht pip hpip r hne path
  rw [h]; rfl

/-- the exact `PointInPolygon` of property C18 and the `double` one used by the correspondence are total -/
example : (∀ q poly, (pipX q poly).isSome = true) ∧ (∀ q poly, (pipFloat q poly).isSome = true) :=
  ⟨fun q poly => pipG_total _ q poly, fun q poly => pipG_total _ q poly⟩

/-- **`through_crossing_found_exact`: the first crossing of a through-going segment is never lost with exact signs.**
`prv` is a vertex consumed from the side `L0` (it lies at or beyond the line of that edge), `cur` is not, and some
`GetIntersection` call for the segment in the direction `cur → prv`, from any location, succeeds.  Then the call
`GetIntersection(prv, cur, L0)` — the second call of the passing-right-through branch, whose result the C++ ignores —
succeeds as well: the three arms tried for `L0` are complete for a segment that meets the rectangle at all. -/
theorem through_crossing_found_exact (A : Arith) (hA : SignExact A) (ht : IsectTotal A) (r : Rect)
    (hne : r.isEmpty = false) (L0 : Location) (h0 : L0 ≠ .inside) (cur prv : Pt) (hp : Ready r L0 prv)
    (hc : ¬ Ready r L0 cur) (L : Location) (ip ip' : Pt) (hx : (getIntersection A r cur prv L ip).1 = true) :
    (getIntersection A r prv cur L0 ip').1 = true :=
  Lemmas.RLG.through_found hA ht (nonempty_dims hne).1 (nonempty_dims hne).2 h0 hp hc hx ip'

/-- a through-going segment from the left region to the right region: both calls succeed -/
example : let A := Props.C09.exampleArith ⟨0, 0, 10, 10⟩
    Ready ⟨0, 0, 10, 10⟩ .left ⟨-5, 5⟩ ∧ ¬ Ready ⟨0, 0, 10, 10⟩ .left ⟨15, 7⟩ ∧
    (getIntersection A ⟨0, 0, 10, 10⟩ ⟨15, 7⟩ ⟨-5, 5⟩ .right ⟨0, 0⟩).1 = true ∧
    (getIntersection A ⟨0, 0, 10, 10⟩ ⟨-5, 5⟩ ⟨15, 7⟩ .left ⟨0, 0⟩).1 = true := by
  refine ⟨by simp [Ready], by simp [Ready], by decide, by decide⟩

/-- **`noLostCrossing_exact`.**  With exact signs and a non-empty rectangle the hypothesis `NoLostCrossingA` of
`added_points_in_rect`, `new_vertices_on_boundary` and `raw_ring_in_rect` holds for **every** path: no `Add` call of
`ExecuteInternal` passes the point left behind by a failed `GetIntersection` call.  (The finding kf.lost_crossing,
`raw_ring_needs_hyp`, needs a cross product whose sign the `double` computation rounds to zero.) -/
theorem noLostCrossing_exact (A : Arith) (hA : SignExact A) (ht : IsectTotal A)
    (pip : Pt → Path → Option PipResult) (r : Rect) (hne : r.isEmpty = false) (path : Path) :
    NoLostCrossingA A pip r path :=
  fun _ h e he => exec_no_lost hA ht hne h e he

/-- **`raw_ring_in_rect_exact`.**  `raw_ring_in_rect` without its run hypotheses: for a sign-exact arithmetic whose
intersection points lie on the boundary of the rectangle (`EdgeSat … OnBoundary`) and in `R ⊇ rect`, a total
`PointInPolygon`, a non-empty rectangle and **every** path, `ExecuteInternal` returns, and every vertex of the raw
result ring lies in `R` and is an input vertex or a point of the rectangle's boundary. -/
theorem raw_ring_in_rect_exact (A : Arith) (hA : SignExact A) (ht : IsectTotal A)
    (pip : Pt → Path → Option PipResult) (hpip : ∀ q poly, (pip q poly).isSome = true) (r R : Rect)
    (hne : r.isEmpty = false) (hi : IsectIn A R) (hsub : Subrect r R) (hQ : EdgeSat A r (OnBoundary r))
    (path : Path) :
    ∃ res, executeInternalA A pip r path = .ok res ∧
      ∀ p ∈ ringOf res.es, inRect R p = true ∧ (p ∈ path ∨ OnBoundary r p) := by
  obtain ⟨res, h, _⟩ := executeInternal_total_exact A hA ht pip hpip r hne path
  exact ⟨res, h, raw_ring_in_rect A pip r R path hne (crossZeroExact_of_signExact hA) hi hsub hQ
    (noLostCrossing_exact A hA ht pip r hne path) res h⟩

/-- the exact-sign arithmetic of `Props.C09` (every intersection "computed" as the corner `c0`) satisfies the
hypotheses with `R = rect` -/
example : let A := Props.C09.exampleArith ⟨0, 0, 10, 10⟩
    IsectIn A ⟨0, 0, 10, 10⟩ ∧ Subrect ⟨0, 0, 10, 10⟩ ⟨0, 0, 10, 10⟩ ∧
    EdgeSat A ⟨0, 0, 10, 10⟩ (OnBoundary ⟨0, 0, 10, 10⟩) := by
  refine ⟨?_, by simp [Subrect], ⟨?_, ?_⟩⟩
  · intro a b c d q h; simp [Props.C09.exampleArith] at h; subst h; decide
  · intro c hc
    simp only [Rect.asPath, List.mem_cons, List.not_mem_nil, or_false] at hc
    rcases hc with rfl | rfl | rfl | rfl <;> simp [OnBoundary, Rect.c0, Rect.c1, Rect.c2, Rect.c3]
  · intro a b c d q _ h; simp [Props.C09.exampleArith] at h; subst h; simp [OnBoundary, Rect.c0]

/-- **`inside_vertices_kept_exact`.**  With exact signs and a non-empty rectangle, every input vertex strictly inside
the rectangle is passed to `Add` as an input vertex, tagged with its own index: `⟨k, path[k], vertex⟩` is among the
recorded `Add` calls.  (From an outside location `GetNextLocation` stops at the first vertex that is not beyond the
current side; if that vertex is strictly inside, the entering crossing is found — `entering_crossing_found_exact` —, the
automaton switches to `Inside` without advancing `i`, and the `Inside` case of `GetNextLocation` adds the vertex.) -/
theorem inside_vertices_kept_exact (A : Arith) (hA : SignExact A) (ht : IsectTotal A)
    (pip : Pt → Path → Option PipResult) (r : Rect) (hne : r.isEmpty = false) (path : Path) (res : AResult)
    (h : executeInternalA A pip r path = .ok res) (k : Nat) (q : Pt) (hq : path[k]? = some q) (hsi : SI r q) :
    (⟨k, q, .vertex⟩ : AEmit) ∈ res.es := by
  rcases exec_cases h with ⟨hl, _⟩ | ⟨last, es, hl, hs, rfl⟩ | ⟨last, loc0, o, fin, hl, hs, hlo, _, rfl⟩
  · rw [List.getLast?_eq_none_iff] at hl
    rw [hl] at hq; simp at hq
  · obtain ⟨rfl, _⟩ := startLoc_inl hl hs
    have := indexFrom_mem 0 path k q hq
    rw [Nat.zero_add] at this
    exact List.mem_map.mpr ⟨(k, q), this, rfl⟩
  · apply List.mem_append_left
    exact aloop_keeps hA ht (nonempty_dims hne).1 (nonempty_dims hne).2 _ _ o (invC_init hne hl hs) hlo k q
      (Nat.zero_le _) hq hsi

/-- a run (exact signs) on a pentagon with the vertices `(3,3)` and `(5,6)` strictly inside: both are kept -/
example : (executeInternalA (Props.C09.exampleArith ⟨0, 0, 10, 10⟩) pipX ⟨0, 0, 10, 10⟩
      [⟨-5, 5⟩, ⟨3, 3⟩, ⟨15, 7⟩, ⟨5, 6⟩, ⟨-7, 30⟩]).toOption.map
        (fun res => (res.es.map (fun e => (e.k, e.kind)))) =
      some [(1, .cross), (1, .vertex), (2, .cross), (3, .cross), (3, .vertex), (4, .cross), (5, .corner)] ∧
    SI ⟨0, 0, 10, 10⟩ ⟨3, 3⟩ ∧ SI ⟨0, 0, 10, 10⟩ ⟨5, 6⟩ := by
  refine ⟨by decide, by simp [SI], by simp [SI]⟩

/-- **`emits_in_path_order`.**  For **every** arithmetic: the recorded `Add` calls of `ExecuteInternal` come in the order
of the path (`EOrd`): along the list of calls the index `k` never decreases, and an input vertex `path[k]` is followed
only by calls with a strictly larger index (so every vertex is added at most once, vertices are added in input order,
and whatever is added after `path[k]` belongs to a later segment).  A crossing carries the index of the vertex its
segment ends in, the corners added together with it carry the same index, the corners added by the closing logic carry
the index `path.size()`.  There is no cyclic shift: the main loop runs `i` once from `0` to `highI`; the backward scan
at the start (`startLoc`) only chooses the initial location, and `first_cross_` / `start_locs_` only produce the
closing corners, which come last. -/
theorem emits_in_path_order (A : Arith) (pip : Pt → Path → Option PipResult) (r : Rect) (path : Path) (res : AResult)
    (h : executeInternalA A pip r path = .ok res) :
    res.es.Pairwise EOrd ∧ ∀ e ∈ res.es, e.k ≤ path.length ∧ (e.kind = .vertex → e.k < path.length) := by
  rcases exec_cases h with ⟨_, rfl⟩ | ⟨last, es, hl, hs, rfl⟩ | ⟨last, loc0, o, fin, hl, hs, hlo, hfin, rfl⟩
  · simp
  · obtain ⟨rfl, _⟩ := startLoc_inl hl hs
    refine ⟨vtxEmits_sorted (indexFrom_pairwise 0 path), ?_⟩
    intro e he
    simp only [vtxEmits, List.mem_map] at he
    obtain ⟨⟨k, q⟩, hm, rfl⟩ := he
    have := mem_indexFrom 0 path k q hm
    exact ⟨by simp only; omega, fun _ => by simp only; omega⟩
  · obtain ⟨hb, hs'⟩ := aloop_sorted A r path _ _ o (Nat.zero_le _) hlo
    have hf := afinish_shape pip r path loc0 o fin hfin
    refine ⟨?_, ?_⟩
    · rw [List.pairwise_append]
      refine ⟨hs', ?_, ?_⟩
      · apply List.pairwise_of_forall_mem_list
        intro a ha b hb2
        have h1 := hf a ha
        have h2 := hf b hb2
        exact ⟨by omega, fun hk => absurd hk h1.2⟩
      · intro a ha b hb2
        have h1 := hb a ha
        have h2 := hf b hb2
        exact ⟨by omega, fun hk => by have := h1.2.2 hk; omega⟩
    · intro e he
      rcases List.mem_append.mp he with he | he
      · have := hb e he; exact ⟨this.2.1, this.2.2⟩
      · have := hf e he; exact ⟨by omega, fun hk => absurd hk this.2⟩

/-- **`raw_ring_order`.**  The raw result ring (`results_[0]` when `ExecuteInternal` returns) lists the points passed to
`Add` in the order of the calls: `Add` only drops a point equal to the one added just before it. -/
theorem raw_ring_order (es : List AEmit) : (ringOf es).Sublist (es.map (·.pt)) := ringOf_sublist es

/-- **`inside_vertices_in_ring_exact`.**  With exact signs every input vertex strictly inside the rectangle is a
vertex of the raw result ring. -/
theorem inside_vertices_in_ring_exact (A : Arith) (hA : SignExact A) (ht : IsectTotal A)
    (pip : Pt → Path → Option PipResult) (r : Rect) (hne : r.isEmpty = false) (path : Path) (res : AResult)
    (h : executeInternalA A pip r path = .ok res) (q : Pt) (hq : q ∈ path) (hsi : SI r q) : q ∈ ringOf res.es := by
  obtain ⟨k, hk, hkq⟩ := List.getElem_of_mem hq
  have := inside_vertices_kept_exact A hA ht pip r hne path res h k q
    (by rw [List.getElem?_eq_getElem hk, hkq]) hsi
  exact mem_ringOf_of_mem this

/-- **`between_kept_vertices_provenance`.**  For **every** arithmetic: split the list of `Add` calls at two input
vertices `v1` (earlier) and `v2`: `res.es = pre ++ v1 :: mid ++ v2 :: post`.  Then every call `e` in between has an index
with `v1.k < e.k ≤ v2.k` (`< v2.k` if `e` is itself an input vertex) and is (`AGood`) an input vertex of the closed
rectangle, a rectangle corner, the point a **successful** `GetIntersection` call reported for the segment ending in
`path[e.k]` (`cross`), or the point the second `GetIntersection` call of a passing-right-through step for that segment
left in `ip2` (`thru1 f`, `f` the result of that call, which the C++ ignores).  For an arbitrary arithmetic `f` may be
`false` (finding kf.lost_crossing, `raw_ring_needs_hyp`); under `NoLostCrossingA` it is not (`between_kept_vertices`),
and for sign-exact arithmetic it never is (`between_kept_vertices_exact`). -/
theorem between_kept_vertices_provenance (A : Arith) (pip : Pt → Path → Option PipResult) (r : Rect) (path : Path)
    (hne : r.isEmpty = false) (res : AResult) (h : executeInternalA A pip r path = .ok res)
    (pre mid post : List AEmit) (v1 v2 : AEmit) (hv1 : v1.kind = .vertex)
    (hsplit : res.es = pre ++ v1 :: (mid ++ v2 :: post)) :
    ∀ e ∈ mid, v1.k < e.k ∧ e.k ≤ v2.k ∧ (e.kind = .vertex → e.k < v2.k) ∧ AGood A r path e := by
  have hord := (emits_in_path_order A pip r path res h).1
  have hgood := added_points_provenance A pip r path hne res h
  rw [hsplit] at hord hgood
  obtain ⟨_, h2, _⟩ := List.pairwise_append.mp hord
  obtain ⟨h3, h4⟩ := List.pairwise_cons.mp h2
  obtain ⟨h5, _, h6⟩ := List.pairwise_append.mp h4
  intro e he
  have a1 := h3 e (List.mem_append_left _ he)
  have a2 := h6 e he v2 (List.mem_cons_self ..)
  exact ⟨a1.2 hv1, a2.1, a2.2,
    hgood e (List.mem_append_right _ (List.mem_cons_of_mem _ (List.mem_append_left _ he)))⟩

/-- **`between_kept_vertices`.**  If no first crossing of a through-going segment is lost (`NoLostCrossingA`), then
between two *consecutive* kept input vertices `v1`, `v2` (no input vertex is added in between) only rectangle corners
and results of successful `GetIntersection` calls on the segments `path[k-1] path[k]`, `v1.k < k ≤ v2.k`, are added. -/
theorem between_kept_vertices (A : Arith) (pip : Pt → Path → Option PipResult) (r : Rect) (path : Path)
    (hne : r.isEmpty = false) (hnl : NoLostCrossingA A pip r path) (res : AResult)
    (h : executeInternalA A pip r path = .ok res)
    (pre mid post : List AEmit) (v1 v2 : AEmit) (hv1 : v1.kind = .vertex)
    (hsplit : res.es = pre ++ v1 :: (mid ++ v2 :: post)) (hmid : ∀ e ∈ mid, e.kind ≠ .vertex) :
    ∀ e ∈ mid, v1.k < e.k ∧ e.k ≤ v2.k ∧ CornerOrCrossing A r path e := by
  intro e he
  obtain ⟨a1, a2, _, hg⟩ := between_kept_vertices_provenance A pip r path hne res h pre mid post v1 v2 hv1 hsplit e he
  refine ⟨a1, a2, ?_⟩
  have hmem : e ∈ res.es := by
    rw [hsplit]
    exact List.mem_append_right _ (List.mem_cons_of_mem _ (List.mem_append_left _ he))
  rcases agood_not_lost hg (hnl res h e hmem) with ⟨hk, _⟩ | hc
  · exact absurd hk (hmid e he)
  · exact hc

/-- the hypotheses of `between_kept_vertices` on the pentagon of the example above: `v1 = path[1]`, `v2 = path[3]`, in
between the exiting crossing of segment 2 and the entering crossing of segment 3 -/
example : let A := Props.C09.exampleArith ⟨0, 0, 10, 10⟩
    let path : Path := [⟨-5, 5⟩, ⟨3, 3⟩, ⟨15, 7⟩, ⟨5, 6⟩, ⟨-7, 30⟩]
    (executeInternalA A pipX ⟨0, 0, 10, 10⟩ path).toOption.map (·.es) =
      some ([⟨1, ⟨0, 0⟩, .cross⟩] ++ ⟨1, ⟨3, 3⟩, .vertex⟩ ::
        ([⟨2, ⟨0, 0⟩, .cross⟩, ⟨3, ⟨0, 0⟩, .cross⟩] ++ ⟨3, ⟨5, 6⟩, .vertex⟩ ::
          [⟨4, ⟨0, 0⟩, .cross⟩, ⟨5, ⟨0, 10⟩, .corner⟩])) ∧
    NoLostCrossingA A pipX ⟨0, 0, 10, 10⟩ path := by
  refine ⟨by decide, ?_⟩
  intro res hres e he
  have : (executeInternalA (Props.C09.exampleArith ⟨0, 0, 10, 10⟩) pipX ⟨0, 0, 10, 10⟩
      [⟨-5, 5⟩, ⟨3, 3⟩, ⟨15, 7⟩, ⟨5, 6⟩, ⟨-7, 30⟩]).toOption.map
      (·.es.all (fun e => e.kind != .thru1 false)) = some true := by decide
  rw [hres] at this
  simp only [Except.toOption, Option.map_some, Option.some.injEq, List.all_eq_true, bne_iff_ne] at this
  exact this e he

/-- **`between_kept_vertices_exact`.**  With exact signs and a non-empty rectangle, for every path: between two
*consecutive* kept input vertices `v1`, `v2` only rectangle corners and results of successful `GetIntersection` calls on
the segments `path[k-1] path[k]`, `v1.k < k ≤ v2.k`, are passed to `Add`. -/
theorem between_kept_vertices_exact (A : Arith) (hA : SignExact A) (ht : IsectTotal A)
    (pip : Pt → Path → Option PipResult) (r : Rect) (hne : r.isEmpty = false) (path : Path) (res : AResult)
    (h : executeInternalA A pip r path = .ok res)
    (pre mid post : List AEmit) (v1 v2 : AEmit) (hv1 : v1.kind = .vertex)
    (hsplit : res.es = pre ++ v1 :: (mid ++ v2 :: post)) (hmid : ∀ e ∈ mid, e.kind ≠ .vertex) :
    ∀ e ∈ mid, v1.k < e.k ∧ e.k ≤ v2.k ∧ CornerOrCrossing A r path e :=
  between_kept_vertices A pip r path hne (noLostCrossing_exact A hA ht pip r hne path) res h pre mid post v1 v2 hv1
    hsplit hmid

/-- **`inside_vertices_sublist_exact`.**  With exact signs: the input vertices strictly inside the rectangle, in input
order (with repetitions, if the path repeats a vertex), form a sublist of the sequence of points passed to `Add`.
Together with `raw_ring_order` (the raw ring is that sequence with every point equal to its predecessor dropped) this
is the order statement at ring level. -/
theorem inside_vertices_sublist_exact (A : Arith) (hA : SignExact A) (ht : IsectTotal A)
    (pip : Pt → Path → Option PipResult) (r : Rect) (hne : r.isEmpty = false) (path : Path) (res : AResult)
    (h : executeInternalA A pip r path = .ok res) :
    (path.filter (fun q => decide (SI r q))).Sublist (res.es.map (·.pt)) :=
  kept_sublist (fun k q hq hsi => inside_vertices_kept_exact A hA ht pip r hne path res h k q hq hsi)
    (emits_in_path_order A pip r path res h).1

/-- on the pentagon: the strictly-inside vertices `(3,3)`, `(5,6)` inside the sequence of added points -/
example : ([⟨-5, 5⟩, ⟨3, 3⟩, ⟨15, 7⟩, ⟨5, 6⟩, ⟨-7, 30⟩] : Path).filter (fun q => decide (SI ⟨0, 0, 10, 10⟩ q)) =
    [⟨3, 3⟩, ⟨5, 6⟩] := by decide

/-- **`raw_ring_complete_exact`: nothing is lost before `CheckEdges`** (summary).  For sign-exact arithmetic, a total
`PointInPolygon`, a non-empty rectangle and **every** path, `ExecuteInternal` returns a result `res` such that
* every input vertex strictly inside the rectangle is passed to `Add` with its own index, and is a vertex of the raw
  result ring;
* the `Add` calls come in the order of the path (`EOrd`: non-decreasing indices, input vertices strictly increasing),
  the strictly-inside vertices in input order are a sublist of the points added, and the raw ring lists the points added
  in the order of the calls;
* every `Add` call is an input vertex `path[k]` of the closed rectangle, a rectangle corner, or the point a **successful**
  `GetIntersection` call reported for the segment ending in `path[k]`. -/
theorem raw_ring_complete_exact (A : Arith) (hA : SignExact A) (ht : IsectTotal A)
    (pip : Pt → Path → Option PipResult) (hpip : ∀ q poly, (pip q poly).isSome = true) (r : Rect)
    (hne : r.isEmpty = false) (path : Path) :
    ∃ res, executeInternalA A pip r path = .ok res ∧
      (∀ k q, path[k]? = some q → SI r q → (⟨k, q, .vertex⟩ : AEmit) ∈ res.es ∧ q ∈ ringOf res.es) ∧
      res.es.Pairwise EOrd ∧
      (path.filter (fun q => decide (SI r q))).Sublist (res.es.map (·.pt)) ∧
      (ringOf res.es).Sublist (res.es.map (·.pt)) ∧
      ∀ e ∈ res.es, VertexCornerOrCrossing A r path e := by
  obtain ⟨res, h, _⟩ := executeInternal_total_exact A hA ht pip hpip r hne path
  refine ⟨res, h, ?_, (emits_in_path_order A pip r path res h).1,
    inside_vertices_sublist_exact A hA ht pip r hne path res h, raw_ring_order _, ?_⟩
  · intro k q hq hsi
    have := inside_vertices_kept_exact A hA ht pip r hne path res h k q hq hsi
    exact ⟨this, mem_ringOf_of_mem this⟩
  · intro e he
    exact agood_not_lost (added_points_provenance A pip r path hne res h e he)
      (noLostCrossing_exact A hA ht pip r hne path res h e he)

end Clipper.Props.C08

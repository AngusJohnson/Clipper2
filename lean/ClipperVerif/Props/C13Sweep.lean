/-
C13 — REPRESENTATION INDEPENDENCE AND SET ALGEBRA OF THE MODEL SWEEP  (corollaries of `Props/C01Region.scanline_region`).

`Props/C13.lean`, `Props/C13Spec.lean` prove C13's invariances for the SPEC (`wind_perm`, `wind_rotate`, `wind_dup`, `wind_closing`,
`wind_reverse`, `wind_translate`, `inR_symm`, `inR_neg`, `xor_eq_union_minus_inter`, `diff_inter_partition`).  `Props/C01Region.lean`
proves that the model sweep (`Model/SweepOrder.lean`, `Model/SweepEvents.lean`: scanbeams, `InsertLocalMinimaIntoAEL`, `DoIntersections`,
`DoTopOfScanbeam` driving the bookkeeping model of `Model/Ael.lean`) marks as hot, on every scanline strictly inside a scanbeam,
exactly the edges that bound the region `inR ct fr (wind subj p) (wind clip p)`.  This file puts the two together: the hot intervals of
the MODEL SWEEP have C13's invariances.

A scanline of a sweep is packaged as `Scan subj clip yn yd`: the decidable hypotheses of `scanline_region` for the input
(`Built.Hyp`, `Built.HypR`, `Near cx`), a scanbeam of the derived run and a rational height `yn/yd` strictly inside it.
`s.Inside cfg xn`: the bookkeeping model accepts the derived event list up to that scanline and an ODD number of its hot edges is
strictly left of `(xn/yd, yn/yd)` — by `Scan.inside_iff_interval` the point lies between the `(2j+1)`-th and the `(2j+2)`-th hot edge.

EVERY theorem below takes a `Scan` for EACH of the two presentations / inputs as a hypothesis (both must satisfy the hypotheses of
`scanline_region`; that these hypotheses are themselves invariant under the transformation is NOT proved here) and a point that lies
on no edge of either scanline.

 1. `sweep_same_winding` / `sweep_presentation_independent`  path order, start rotation, duplicate vertex, closing vertex (and their
     compositions and inverses: the relation `SamePresentation`);  `sweep_path_order`, `sweep_start_rotation`, `sweep_duplicate_vertex`,
     `sweep_closing_vertex` are the four instances;
 2. `sweep_subject_clip_swap`  Intersection, Union, Xor; Difference is not symmetric (`example`);
 3. `sweep_reversal`           reversing every path: EvenOdd and NonZero unchanged, Positive and Negative exchanged;
 4. `sweep_set_algebra`        Xor = Union minus Intersection; Difference and Intersection partition the subject region
                               (`sweep_diff_inter_is_subject`: the subject region as the Union sweep of the subject alone);
 5. `sweep_translation`, `sweep_scaling`  the translated (integer-scaled) input's sweep at the translated (scaled) point;
 6. `sweep_after_addPaths`, `sweep_rings_region`  (1) for the pipeline "model of `AddPaths_` (`Model/AddPathsRings.addPath`), then model
     sweep of the rings it builds": `build` expects rings without consecutive duplicates, so a `Scan` of a path that still HAS a duplicate
     or closing vertex does not exist (`example`) and the instances `sweep_duplicate_vertex` / `sweep_closing_vertex` of (1) are vacuous
     for the present `build`; through `AddPaths_` they are not (`windPath_ring`: the ring winds as the path does).
NOT here: mirroring and transposition (the transposed sweep runs along the other axis: its scanlines are the columns of the
original; `Props/C13Spec.wind_transpose` is the Spec statement), and everything `scanline_region` does not cover (horizontal edges,
rounding of crossings, the output polygons — see the head of `Props/C01Region.lean`).
-/
import ClipperVerif.Props.C01Region
import ClipperVerif.Props.C13
import ClipperVerif.Props.C13Spec
import ClipperVerif.Props.C13AddPaths
namespace Clipper.Props.C13Sweep
open Clipper Clipper.Model Clipper.Model.AelOrder Clipper.Model.SweepOrder Clipper.Model.SweepEvents
open Clipper.Lemmas.SweepOrder Clipper.WindSpec Clipper.Props.C01Region

/-- `Scan.Inside`, `Scan.Outside` and the like speak of "the" state after the events: any witness will do -/
theorem exists_eq_some_and_iff {α : Type} {o : Option α} {a : α} (h : o = some a) (P : α → Prop) :
    (∃ b, o = some b ∧ P b) ↔ P a :=
  ⟨fun ⟨_, hb, hp⟩ => Option.some.inj (hb.symm.trans h) ▸ hp, fun hp => ⟨a, h, hp⟩⟩

/-- **A scanline of the model sweep of `(subj, clip)` at the rational height `yn/yd`**: everything `scanline_region` assumes.
`cx` (`TopX`) within 1/2 of the exact x; the decidable hypotheses `Built.Hyp` (no horizontal edge, general position at every scanline)
and `Built.HypR` (structural facts of the event data) for `build (subj ++ clip)`; `r` a scanbeam of the derived run
(`pre`, `post`: the scanbeams before and after it); `yd > 0` and `yn/yd` STRICTLY inside the scanbeam `[r.snap.y1, r.snap.y0]`.
The clip type and fill rule are not part of it: one `Scan` serves every `Cfg`. -/
structure Scan (subj clip : Paths) (yn yd : Int) where
  cx : SEdge → Int → Int
  info : SEdge → OInfo
  near : Near cx
  hyp : (build (subj ++ clip)).Hyp (validGen cx info)
  hypR : Built.HypR (build (subj ++ clip)) (labOf subj clip)
  pre : List BeamRun
  r : BeamRun
  post : List BeamRun
  runs : beamRuns (validGen cx info) cx (build (subj ++ clip)).next (build (subj ++ clip)).mins (labOf subj clip) []
      (build (subj ++ clip)).ys = pre ++ r :: post
  hd : 0 < yd
  lo : r.snap.y1 * yd < yn
  hi : yn < r.snap.y0 * yd

namespace Scan
variable {subj clip : Paths} {yn yd : Int}

/-- the derived event list up to the scanline: all scanbeams before `r`, the insertions of `r`, the virtual `DoIntersections` at the
height `yn/yd` (as in `scanline_region`) -/
def events (s : Scan subj clip yn yd) : List Op :=
  s.pre.flatMap BeamRun.events ++ s.r.evIns ++ heightSwaps yn yd s.r.snap.inserted

/-- the edges that cross the scanline, left to right -/
def order (s : Scan subj clip yn yd) : List SEdge := sortedAt yn yd s.r.snap.inserted

/-- the point `(xn/yd, yn/yd)` lies on no edge that crosses the scanline -/
def Off (s : Scan subj clip yn yd) (xn : Int) : Prop := ∀ e ∈ s.r.snap.inserted, ¬ onEdgeLine e xn yn yd
instance (s : Scan subj clip yn yd) (xn : Int) : Decidable (s.Off xn) := by unfold Off; infer_instance

/-- the bookkeeping model accepts the events up to the scanline and an ODD number of hot edges of the resulting state is strictly
left of `(xn/yd, yn/yd)`: the point is inside the hot intervals of the scanline (`inside_iff_interval`) -/
def Inside (s : Scan subj clip yn yd) (cfg : Cfg) (xn : Int) : Prop :=
  ∃ lY, Model.run cfg [] s.events = some lY ∧ insideHot (hotEdges lY s.order) xn yn yd = true

/-- … accepts the events and an EVEN number of hot edges is strictly left of the point -/
def Outside (s : Scan subj clip yn yd) (cfg : Cfg) (xn : Int) : Prop :=
  ∃ lY, Model.run cfg [] s.events = some lY ∧ insideHot (hotEdges lY s.order) xn yn yd = false

/-- the events up to the scanline are accepted (so `Inside` is never false for want of a state: `not_inside_iff`) -/
theorem accepted (s : Scan subj clip yn yd) (cfg : Cfg) (hct : cfg.ct ≠ .noClip) :
    ∃ lY, Model.run cfg [] s.events = some lY ∧ Inv cfg lY ∧ Tracks (labOf subj clip) lY s.order := by
  obtain ⟨lY, h1, h2, h3, _⟩ := scanline_region subj clip cfg hct s.cx s.near s.info s.hyp s.hypR s.pre s.r s.post s.runs
    yn yd s.hd s.lo s.hi
  exact ⟨lY, h1, h3, h2⟩

theorem not_inside_iff (s : Scan subj clip yn yd) (cfg : Cfg) (hct : cfg.ct ≠ .noClip) (xn : Int) :
    ¬ s.Inside cfg xn ↔ s.Outside cfg xn := by
  obtain ⟨lY, h1, _⟩ := s.accepted cfg hct
  exact (not_congr (exists_eq_some_and_iff h1 _)).trans (Bool.eq_false_iff.symm.trans
    (exists_eq_some_and_iff h1 fun l => insideHot (hotEdges l s.order) xn yn yd = false).symm)

/-- **`scanline_region` in these words**: the point is inside the hot intervals iff it is in the region C01 defines -/
theorem inside_iff (s : Scan subj clip yn yd) (cfg : Cfg) (hct : cfg.ct ≠ .noClip) (xn : Int) (hoff : s.Off xn) :
    s.Inside cfg xn ↔ inR cfg.ct cfg.fr (windQ subj xn yn yd) (windQ clip xn yn yd) = true := by
  obtain ⟨lY, h1, _, _, _, _, _, h7⟩ := scanline_region subj clip cfg hct s.cx s.near s.info s.hyp s.hypR s.pre s.r s.post s.runs
    yn yd s.hd s.lo s.hi
  exact (exists_eq_some_and_iff h1 _).trans (iff_of_eq (congrArg (· = true) (h7 xn hoff)))

/-- `Inside` in the words of the property (`scanline_region_intervals`): the hot edges of the scanline are even in number and the
point lies strictly right of the `(2j+1)`-th and not right of the `(2j+2)`-th for some `j` -/
theorem inside_iff_interval (s : Scan subj clip yn yd) (cfg : Cfg) (hct : cfg.ct ≠ .noClip) (xn : Int) (hoff : s.Off xn) :
    s.Inside cfg xn ↔
      ∃ lY, Model.run cfg [] s.events = some lY ∧ (hotEdges lY s.order).length % 2 = 0 ∧
        ∃ j, ∃ (hj : 2 * j + 1 < (hotEdges lY s.order).length),
          leftOfPt (hotEdges lY s.order)[2 * j] xn yn yd ∧ ¬ leftOfPt (hotEdges lY s.order)[2 * j + 1] xn yn yd := by
  obtain ⟨lY, h1, _, hev, h4⟩ := scanline_region_intervals subj clip cfg hct s.cx s.near s.info s.hyp s.hypR s.pre s.r s.post s.runs
    yn yd s.hd s.lo s.hi
  exact (s.inside_iff cfg hct xn hoff).trans
    ((h4 xn hoff).symm.trans ((exists_eq_some_and_iff h1 _).trans (and_iff_right hev)).symm)

/-- two scanlines, of any two sweeps, agree at two points wherever the regions the Spec defines there agree: every invariance below is
this, with the matching invariance of `inR` / `windQ` -/
theorem inside_congr {subj' clip' : Paths} {yn' yd' : Int} (s : Scan subj clip yn yd) (s' : Scan subj' clip' yn' yd')
    {cfg cfg' : Cfg} (hct : cfg.ct ≠ .noClip) (hct' : cfg'.ct ≠ .noClip) {xn xn' : Int} (hoff : s.Off xn) (hoff' : s'.Off xn')
    (h : inR cfg.ct cfg.fr (windQ subj xn yn yd) (windQ clip xn yn yd) =
      inR cfg'.ct cfg'.fr (windQ subj' xn' yn' yd') (windQ clip' xn' yn' yd')) :
    s.Inside cfg xn ↔ s'.Inside cfg' xn' := by
  rw [s.inside_iff cfg hct xn hoff, s'.inside_iff cfg' hct' xn' hoff', h]

/-- `Inside` as a computation (used by the `example`s to evaluate both sides) -/
def insideB (s : Scan subj clip yn yd) (cfg : Cfg) (xn : Int) : Bool :=
  match Model.run cfg [] s.events with
  | some lY => insideHot (hotEdges lY s.order) xn yn yd
  | none => false

theorem insideB_iff (s : Scan subj clip yn yd) (cfg : Cfg) (xn : Int) : s.insideB cfg xn = true ↔ s.Inside cfg xn := by
  unfold insideB Inside
  cases Model.run cfg [] s.events with
  | none => simp
  | some l => simp

instance (s : Scan subj clip yn yd) (cfg : Cfg) (xn : Int) : Decidable (s.Inside cfg xn) :=
  decidable_of_iff _ (s.insideB_iff cfg xn)

/-- the sweep with `TopX` = exact x rounded half to even (`rhe`) and the default `OInfo`: the scanline at `yn/yd` in the `i`-th scanbeam -/
def ofIndex (subj clip : Paths) (yn yd : Int) (i : Nat)
    (h : (build (subj ++ clip)).Hyp (validGen rhe default)) (hR : Built.HypR (build (subj ++ clip)) (labOf subj clip))
    (hi : i < (beamRuns (validGen rhe default) rhe (build (subj ++ clip)).next (build (subj ++ clip)).mins (labOf subj clip) []
      (build (subj ++ clip)).ys).length) (hd : 0 < yd)
    (lo : ((beamRuns (validGen rhe default) rhe (build (subj ++ clip)).next (build (subj ++ clip)).mins (labOf subj clip) []
      (build (subj ++ clip)).ys).getD i default).snap.y1 * yd < yn)
    (hi' : yn < ((beamRuns (validGen rhe default) rhe (build (subj ++ clip)).next (build (subj ++ clip)).mins (labOf subj clip) []
      (build (subj ++ clip)).ys).getD i default).snap.y0 * yd) : Scan subj clip yn yd :=
  ⟨rhe, default, rhe_near, h, hR, _, _, _, split_at _ i hi, hd, lo, hi'⟩

end Scan

/-- the two path sets wind equally often around every RATIONAL point: around every integer point after scaling both by any `k`
(`windQ ps xn yn k` is `wind (mapPaths (Pt.scale k) ps) ⟨xn, yn⟩`); `k = 1`: every integer point (`SameWinding.int`) -/
def SameWinding (ps qs : Paths) : Prop := ∀ (k : Int) (p : Pt), wind (mapPaths (Pt.scale k) ps) p = wind (mapPaths (Pt.scale k) qs) p

theorem SameWinding.refl (ps : Paths) : SameWinding ps ps := fun _ _ => rfl
theorem SameWinding.symm {ps qs : Paths} (h : SameWinding ps qs) : SameWinding qs ps := fun k p => (h k p).symm
theorem SameWinding.trans {ps qs rs : Paths} (h : SameWinding ps qs) (h' : SameWinding qs rs) : SameWinding ps rs :=
  fun k p => (h k p).trans (h' k p)

theorem SameWinding.int {ps qs : Paths} (h : SameWinding ps qs) (p : Pt) : wind ps p = wind qs p := by
  have := h 1 p
  rwa [mapPaths_scale_one, mapPaths_scale_one] at this

theorem SameWinding.windQ {ps qs : Paths} (h : SameWinding ps qs) (xn yn yd : Int) : windQ ps xn yn yd = windQ qs xn yn yd :=
  h yd ⟨xn, yn⟩

theorem sameWinding_perm {ps qs : Paths} (h : ps.Perm qs) : SameWinding ps qs :=
  fun _ p => C13Spec.wind_perm (h.map _) p

theorem sameWinding_replace (ps₁ ps₂ : Paths) {q q' : Path}
    (h : ∀ (f : Pt → Pt) (p : Pt), windPath (q.map f) p = windPath (q'.map f) p) :
    SameWinding (ps₁ ++ q :: ps₂) (ps₁ ++ q' :: ps₂) := fun k p => by
  simp only [mapPaths, List.map_append, List.map_cons]
  exact C13Spec.wind_replace _ _ (h _ p)

theorem sameWinding_rotate (ps₁ ps₂ : Paths) (l₁ l₂ : List Pt) : SameWinding (ps₁ ++ (l₂ ++ l₁) :: ps₂) (ps₁ ++ (l₁ ++ l₂) :: ps₂) :=
  sameWinding_replace ps₁ ps₂ fun f p => by
    rw [List.map_append, List.map_append]
    exact C13Spec.windPath_rotate _ _ p

theorem sameWinding_dup (ps₁ ps₂ : Paths) (l₁ l₂ : List Pt) (a : Pt) :
    SameWinding (ps₁ ++ (l₁ ++ a :: a :: l₂) :: ps₂) (ps₁ ++ (l₁ ++ a :: l₂) :: ps₂) :=
  sameWinding_replace ps₁ ps₂ fun f p => by
    simp only [List.map_append, List.map_cons]
    exact C13Spec.windPath_dup _ _ _ p

theorem sameWinding_closing (ps₁ ps₂ : Paths) (a : Pt) (rest : List Pt) :
    SameWinding (ps₁ ++ (a :: rest ++ [a]) :: ps₂) (ps₁ ++ (a :: rest) :: ps₂) :=
  sameWinding_replace ps₁ ps₂ fun f p => by
    simp only [List.map_append, List.map_cons, List.cons_append, List.map_nil]
    exact C13Spec.windPath_closing _ _ p

/-- **the changes of presentation C13 lists** (exactly those with a `wind_…` lemma in `Props/C13Spec.lean`), closed under
composition and inverse: path order, start vertex of a path, a vertex repeated in place, an explicit closing vertex -/
inductive SamePresentation : Paths → Paths → Prop
  | order {ps qs : Paths} : ps.Perm qs → SamePresentation ps qs
  | start (ps₁ ps₂ : Paths) (l₁ l₂ : List Pt) : SamePresentation (ps₁ ++ (l₂ ++ l₁) :: ps₂) (ps₁ ++ (l₁ ++ l₂) :: ps₂)
  | dup (ps₁ ps₂ : Paths) (l₁ l₂ : List Pt) (a : Pt) : SamePresentation (ps₁ ++ (l₁ ++ a :: a :: l₂) :: ps₂) (ps₁ ++ (l₁ ++ a :: l₂) :: ps₂)
  | closing (ps₁ ps₂ : Paths) (a : Pt) (rest : List Pt) : SamePresentation (ps₁ ++ (a :: rest ++ [a]) :: ps₂) (ps₁ ++ (a :: rest) :: ps₂)
  | symm {ps qs : Paths} : SamePresentation ps qs → SamePresentation qs ps
  | trans {ps qs rs : Paths} : SamePresentation ps qs → SamePresentation qs rs → SamePresentation ps rs

theorem SamePresentation.refl (ps : Paths) : SamePresentation ps ps := .order (List.Perm.refl ps)

theorem SamePresentation.sameWinding {ps qs : Paths} (h : SamePresentation ps qs) : SameWinding ps qs := by
  induction h with
  | order h => exact sameWinding_perm h
  | start ps₁ ps₂ l₁ l₂ => exact sameWinding_rotate ps₁ ps₂ l₁ l₂
  | dup ps₁ ps₂ l₁ l₂ a => exact sameWinding_dup ps₁ ps₂ l₁ l₂ a
  | closing ps₁ ps₂ a rest => exact sameWinding_closing ps₁ ps₂ a rest
  | symm _ ih => exact ih.symm
  | trans _ _ ih₁ ih₂ => exact ih₁.trans ih₂

/-- **sweep_same_winding** (the general form of representation independence).  `(subj, clip)` and `(subj', clip')`: two inputs whose
subjects wind equally often around every rational point, and whose clips do.  `s`, `s'`: a scanline of the model sweep of each at the
SAME height `yn/yd` (strictly inside a scanbeam of BOTH sweeps; both inputs satisfy the hypotheses of `scanline_region`).  Then for
every clip type but NoClip, every fill rule and every `xn` with `(xn/yd, yn/yd)` on no edge of either: the point is inside the hot
intervals of the first sweep IFF it is inside those of the second.  (The two sweeps need not have the same edges, the same scanbeams,
the same `TopX` or the same event lists.) -/
theorem sweep_same_winding {subj clip subj' clip' : Paths} {yn yd : Int} (s : Scan subj clip yn yd) (s' : Scan subj' clip' yn yd)
    (hS : SameWinding subj subj') (hC : SameWinding clip clip') (cfg : Cfg) (hct : cfg.ct ≠ .noClip)
    (xn : Int) (hoff : s.Off xn) (hoff' : s'.Off xn) :
    s.Inside cfg xn ↔ s'.Inside cfg xn :=
  s.inside_congr s' hct hct hoff hoff' (by rw [hS.windQ, hC.windQ])

/-- **sweep_presentation_independent** — C13: "the set of solution paths is identical when the order of paths is changed, a path's
start vertex is rotated, duplicate or closing vertices are inserted", at the level of the MODEL SWEEP and of the region its hot edges
bound: if `subj'` is obtained from `subj`, and `clip'` from `clip`, by any sequence of these changes (or their inverses), then on every
common scanline (hypotheses of `scanline_region` for both presentations) and every point on no edge of either, the point is inside the
hot intervals of the one sweep iff it is inside those of the other. -/
theorem sweep_presentation_independent {subj clip subj' clip' : Paths} {yn yd : Int} (s : Scan subj clip yn yd)
    (s' : Scan subj' clip' yn yd) (hS : SamePresentation subj subj') (hC : SamePresentation clip clip') (cfg : Cfg)
    (hct : cfg.ct ≠ .noClip) (xn : Int) (hoff : s.Off xn) (hoff' : s'.Off xn) :
    s.Inside cfg xn ↔ s'.Inside cfg xn :=
  sweep_same_winding s s' hS.sameWinding hC.sameWinding cfg hct xn hoff hoff'

/-- **path order** (`wind_perm`): the subject paths and the clip paths each listed in another order -/
theorem sweep_path_order {subj clip subj' clip' : Paths} {yn yd : Int} (s : Scan subj clip yn yd) (s' : Scan subj' clip' yn yd)
    (hS : subj.Perm subj') (hC : clip.Perm clip') (cfg : Cfg) (hct : cfg.ct ≠ .noClip) (xn : Int) (hoff : s.Off xn)
    (hoff' : s'.Off xn) : s.Inside cfg xn ↔ s'.Inside cfg xn :=
  sweep_presentation_independent s s' (.order hS) (.order hC) cfg hct xn hoff hoff'

/-- **start vertex** (`wind_rotate`): one subject path listed from another start vertex (for a clip path: `sweep_presentation_independent`
with `.refl` for the subject) -/
theorem sweep_start_rotation {ps₁ ps₂ clip : Paths} {l₁ l₂ : List Pt} {yn yd : Int}
    (s : Scan (ps₁ ++ (l₂ ++ l₁) :: ps₂) clip yn yd) (s' : Scan (ps₁ ++ (l₁ ++ l₂) :: ps₂) clip yn yd) (cfg : Cfg)
    (hct : cfg.ct ≠ .noClip) (xn : Int) (hoff : s.Off xn) (hoff' : s'.Off xn) : s.Inside cfg xn ↔ s'.Inside cfg xn :=
  sweep_presentation_independent s s' (.start ps₁ ps₂ l₁ l₂) (.refl clip) cfg hct xn hoff hoff'

/-- **duplicate vertex** (`wind_dup`).  NOTE: `build` takes the vertex rings as `AddPaths_` leaves them, i.e. WITHOUT consecutive
duplicates (`Props/C13AddPaths.addPath_dup`: the ring is the same with and without the duplicate); fed a path that still has one it
makes a zero-length edge and `Built.Hyp` fails (`example` below), so no `Scan` of the first kind exists for the present `build`: this
instance is VACUOUS as it stands; the non-vacuous form is `sweep_after_addPaths` (section 6). -/
theorem sweep_duplicate_vertex {ps₁ ps₂ clip : Paths} {l₁ l₂ : List Pt} {a : Pt} {yn yd : Int}
    (s : Scan (ps₁ ++ (l₁ ++ a :: a :: l₂) :: ps₂) clip yn yd) (s' : Scan (ps₁ ++ (l₁ ++ a :: l₂) :: ps₂) clip yn yd) (cfg : Cfg)
    (hct : cfg.ct ≠ .noClip) (xn : Int) (hoff : s.Off xn) (hoff' : s'.Off xn) : s.Inside cfg xn ↔ s'.Inside cfg xn :=
  sweep_presentation_independent s s' (.dup ps₁ ps₂ l₁ l₂ a) (.refl clip) cfg hct xn hoff hoff'

/-- **closing vertex** (`wind_closing`).  The same NOTE applies (`Props/C13AddPaths.addPath_closing`): vacuous for the present
`build`; non-vacuous form `sweep_after_addPaths`. -/
theorem sweep_closing_vertex {ps₁ ps₂ clip : Paths} {a : Pt} {rest : List Pt} {yn yd : Int}
    (s : Scan (ps₁ ++ (a :: rest ++ [a]) :: ps₂) clip yn yd) (s' : Scan (ps₁ ++ (a :: rest) :: ps₂) clip yn yd) (cfg : Cfg)
    (hct : cfg.ct ≠ .noClip) (xn : Int) (hoff : s.Off xn) (hoff' : s'.Off xn) : s.Inside cfg xn ↔ s'.Inside cfg xn :=
  sweep_presentation_independent s s' (.closing ps₁ ps₂ a rest) (.refl clip) cfg hct xn hoff hoff'

/-- **sweep_subject_clip_swap** — C13: "… or subject and clip are swapped for Intersection, Union and Xor".  `s`: a scanline of the
sweep of `(subj, clip)`; `s'`: a scanline at the same height of the sweep of `(clip, subj)` (the same paths with the path types
exchanged; hypotheses of `scanline_region` for both).  For Intersection, Union and Xor, every fill rule and every point of the
scanline on no edge of either: inside the hot intervals of the one iff inside those of the other (`inR_symm`). -/
theorem sweep_subject_clip_swap {subj clip : Paths} {yn yd : Int} (s : Scan subj clip yn yd) (s' : Scan clip subj yn yd) (cfg : Cfg)
    (hct : cfg.ct ≠ .noClip) (hdf : cfg.ct ≠ .difference) (xn : Int) (hoff : s.Off xn) (hoff' : s'.Off xn) :
    s.Inside cfg xn ↔ s'.Inside cfg xn :=
  s.inside_congr s' hct hct hoff hoff' (C13.inR_symm cfg.ct hdf cfg.fr _ _)

theorem windQ_reverse (ps : Paths) (xn yn yd : Int) : windQ (ps.map List.reverse) xn yn yd = -windQ ps xn yn yd := by
  have : (ps.map List.reverse).map (fun p => p.map (Pt.scale yd)) = (ps.map (fun p => p.map (Pt.scale yd))).map List.reverse := by
    simp only [List.map_map, Function.comp_def, List.map_reverse]
  exact (congrArg (wind · _) this).trans (C13Spec.wind_reverse _ _)

/-- **sweep_reversal** — C13: "reversing all paths does not change EvenOdd/NonZero results and swaps Positive with Negative".
`s`: a scanline of the sweep of `(subj, clip)`; `s'`: a scanline at the same height of the sweep of the input with EVERY path
reversed.  For every clip type but NoClip, every fill rule `fr` and every point on no edge of either: inside the hot intervals of the
first sweep under `fr` iff inside those of the reversed sweep under `flipFr fr` (`flipFr` fixes EvenOdd and NonZero and exchanges
Positive and Negative; `wind_reverse`, `inR_neg`). -/
theorem sweep_reversal {subj clip : Paths} {yn yd : Int} (s : Scan subj clip yn yd)
    (s' : Scan (subj.map List.reverse) (clip.map List.reverse) yn yd) (ct : ClipType) (hct : ct ≠ .noClip) (fr : FillRule)
    (xn : Int) (hoff : s.Off xn) (hoff' : s'.Off xn) :
    s.Inside ⟨ct, fr⟩ xn ↔ s'.Inside ⟨ct, flipFr fr⟩ xn :=
  s.inside_congr s' (cfg := ⟨ct, fr⟩) (cfg' := ⟨ct, flipFr fr⟩) hct hct hoff hoff'
    (by rw [windQ_reverse, windQ_reverse]; exact (C13.inR_neg ct fr _ _).symm)

/-- the four fill rules spelled out: EvenOdd and NonZero intervals unchanged, Positive and Negative exchanged -/
theorem sweep_reversal_rules {subj clip : Paths} {yn yd : Int} (s : Scan subj clip yn yd)
    (s' : Scan (subj.map List.reverse) (clip.map List.reverse) yn yd) (ct : ClipType) (hct : ct ≠ .noClip)
    (xn : Int) (hoff : s.Off xn) (hoff' : s'.Off xn) :
    (s.Inside ⟨ct, .evenOdd⟩ xn ↔ s'.Inside ⟨ct, .evenOdd⟩ xn) ∧ (s.Inside ⟨ct, .nonZero⟩ xn ↔ s'.Inside ⟨ct, .nonZero⟩ xn) ∧
    (s.Inside ⟨ct, .positive⟩ xn ↔ s'.Inside ⟨ct, .negative⟩ xn) ∧ (s.Inside ⟨ct, .negative⟩ xn ↔ s'.Inside ⟨ct, .positive⟩ xn) :=
  ⟨sweep_reversal s s' ct hct .evenOdd xn hoff hoff', sweep_reversal s s' ct hct .nonZero xn hoff hoff',
   sweep_reversal s s' ct hct .positive xn hoff hoff', sweep_reversal s s' ct hct .negative xn hoff hoff'⟩

/-- **sweep_set_algebra** — C13: "Xor equals Union minus Intersection, Difference and Intersection partition the subject".  ONE input,
one scanline `s` of its model sweep (the scanbeams, edges and their order do not depend on the clip type; the hot flags do), one point
on no edge; the bookkeeping model run under the four clip types with one fill rule:
 * inside the Xor intervals  ⟺  inside the Union intervals and not inside the Intersection intervals;
 * inside the Difference intervals or inside the Intersection intervals  ⟺  the point is in the subject region
   (`inFill fr (wind subj p)`; as a sweep of the subject alone: `sweep_diff_inter_is_subject`);
 * never inside both the Difference and the Intersection intervals. -/
theorem sweep_set_algebra {subj clip : Paths} {yn yd : Int} (s : Scan subj clip yn yd) (fr : FillRule) (xn : Int) (hoff : s.Off xn) :
    (s.Inside ⟨.xor, fr⟩ xn ↔ s.Inside ⟨.union, fr⟩ xn ∧ ¬ s.Inside ⟨.intersection, fr⟩ xn) ∧
    (s.Inside ⟨.difference, fr⟩ xn ∨ s.Inside ⟨.intersection, fr⟩ xn ↔ inFill fr (windQ subj xn yn yd) = true) ∧
    ¬ (s.Inside ⟨.difference, fr⟩ xn ∧ s.Inside ⟨.intersection, fr⟩ xn) := by
  have key (ct : ClipType) (h : ct ≠ .noClip) := s.inside_iff ⟨ct, fr⟩ h xn hoff
  rw [key .xor nofun, key .union nofun, key .intersection nofun, key .difference nofun]
  obtain ⟨hp, hq⟩ := C13.diff_inter_partition fr (windQ subj xn yn yd) (windQ clip xn yn yd)
  refine ⟨?_, ?_, ?_⟩
  · rw [C13.xor_eq_union_minus_inter, Bool.and_eq_true, Bool.not_eq_true', Bool.not_eq_true]
  · rw [← hp, Bool.or_eq_true]
  · rw [← Bool.and_eq_true, hq]
    exact Bool.false_ne_true

theorem inFill_zero (fr : FillRule) : inFill fr 0 = false := by cases fr <;> rfl

/-- **sweep_diff_inter_is_subject** — "Difference and Intersection partition the subject", with the subject region itself read off a
sweep: `s` a scanline of the sweep of `(subj, clip)`, `s₀` a scanline at the same height of the sweep of the subject ALONE (no clip
paths) under Union.  For every point on no edge of either: inside the Difference intervals or inside the Intersection intervals of
the first  ⟺  inside the Union intervals of the second; and the first two exclude each other. -/
theorem sweep_diff_inter_is_subject {subj clip : Paths} {yn yd : Int} (s : Scan subj clip yn yd) (s₀ : Scan subj [] yn yd)
    (fr : FillRule) (xn : Int) (hoff : s.Off xn) (hoff₀ : s₀.Off xn) :
    (s.Inside ⟨.difference, fr⟩ xn ∨ s.Inside ⟨.intersection, fr⟩ xn ↔ s₀.Inside ⟨.union, fr⟩ xn) ∧
    ¬ (s.Inside ⟨.difference, fr⟩ xn ∧ s.Inside ⟨.intersection, fr⟩ xn) := by
  obtain ⟨_, h2, h3⟩ := sweep_set_algebra s fr xn hoff
  refine ⟨?_, h3⟩
  rw [h2, s₀.inside_iff ⟨.union, fr⟩ nofun xn hoff₀]
  have : windQ [] xn yn yd = 0 := rfl
  simp only [this, inR, inFill_zero, Bool.or_false]

theorem scale_add (k : Int) (a d : Pt) : Pt.scale k (a.add d) = (Pt.scale k a).add (Pt.scale k d) := by
  simp only [Pt.scale, Pt.add, Int.mul_add]

theorem windQ_translate (d : Pt) (ps : Paths) (xn yn yd : Int) :
    windQ (C13Spec.translate d ps) (xn + yd * d.x) (yn + yd * d.y) yd = windQ ps xn yn yd :=
  (congrArg (wind · _) (mapPaths_comm (fun a => scale_add yd a d) ps)).trans
    (C13Spec.wind_translate (Pt.scale yd d) _ ⟨xn, yn⟩)

/-- **sweep_translation** — C13: "translating … the input transforms the result accordingly".  `s`: a scanline at the height `yn/yd`
of the sweep of `(subj, clip)`; `s'`: a scanline at the height `yn/yd + d.y` of the sweep of the input translated by the integer
vector `d`.  For every clip type but NoClip, every fill rule and every point on no edge: `(xn/yd, yn/yd)` is inside the hot intervals
of the first iff `(xn/yd + d.x, yn/yd + d.y)` is inside those of the second (`wind_translate`). -/
theorem sweep_translation {subj clip : Paths} {yn yd : Int} (d : Pt) (s : Scan subj clip yn yd)
    (s' : Scan (C13Spec.translate d subj) (C13Spec.translate d clip) (yn + yd * d.y) yd) (cfg : Cfg) (hct : cfg.ct ≠ .noClip)
    (xn : Int) (hoff : s.Off xn) (hoff' : s'.Off (xn + yd * d.x)) :
    s.Inside cfg xn ↔ s'.Inside cfg (xn + yd * d.x) :=
  s.inside_congr s' hct hct hoff hoff' (by rw [windQ_translate, windQ_translate])

theorem scale_scale (k m : Int) (a : Pt) : Pt.scale m (Pt.scale k a) = Pt.scale k (Pt.scale m a) := by
  simp only [Pt.scale, Pt.mk.injEq]
  constructor <;> rw [← Int.mul_assoc, ← Int.mul_assoc, Int.mul_comm m k]

theorem windQ_scale {k : Int} (hk : 0 < k) (ps : Paths) (xn yn yd : Int) :
    windQ (C13Spec.scale k ps) (k * xn) (k * yn) yd = windQ ps xn yn yd :=
  (congrArg (wind · _) (mapPaths_comm (scale_scale k yd) ps)).trans (C13Spec.wind_scale hk _ ⟨xn, yn⟩)

/-- **sweep_scaling** — C13: "integer-scaling the input transforms the result accordingly".  `s`: a scanline at the height `yn/yd` of
the sweep of `(subj, clip)`; `s'`: a scanline at the height `k·yn/yd` of the sweep of the input scaled by the integer `k > 0`.  The
point `(xn/yd, yn/yd)` is inside the hot intervals of the first iff `(k·xn/yd, k·yn/yd)` is inside those of the second. -/
theorem sweep_scaling {subj clip : Paths} {yn yd : Int} {k : Int} (hk : 0 < k) (s : Scan subj clip yn yd)
    (s' : Scan (C13Spec.scale k subj) (C13Spec.scale k clip) (k * yn) yd) (cfg : Cfg) (hct : cfg.ct ≠ .noClip)
    (xn : Int) (hoff : s.Off xn) (hoff' : s'.Off (k * xn)) :
    s.Inside cfg xn ↔ s'.Inside cfg (k * xn) :=
  s.inside_congr s' hct hct hoff hoff' (by rw [windQ_scale hk, windQ_scale hk])

/-! ## (6) duplicate and closing vertices through the model of `AddPaths_`

`build` expects the vertex rings as `AddPaths_` leaves them.  `Model/AddPathsRings.addPath false path` is the model of what `AddPaths_`
does with one closed path (`Props/C13AddPaths.addPath_ring`: consecutive duplicates skipped, a closing vertex dropped, nothing linked
for fewer than two distinct vertices); `ringsOf` applies it to every path.  The pipeline "`AddPaths_` model, then model sweep" accepts
paths WITH duplicate and closing vertices, and for it the duplicate / closing-vertex clauses of C13 are not vacuous. -/
open Clipper.Model.AddPathsRings Clipper.Lemmas.AddPathsRings in
/-- the vertex rings the model of `AddPaths_` builds from closed paths -/
def ringsOf (ps : Paths) : Paths := ps.map (fun p => (addPath false p).pts)

section rings
open Clipper.Model.AddPathsRings Clipper.Lemmas.AddPathsRings

theorem stutter_map (f : Pt → Pt) {r l : List Pt} (h : Stutter r l) : Stutter (r.map f) (l.map f) := by
  induction h with
  | nil => exact .nil
  | cons a _ ih => exact .cons _ ih
  | dup a _ ih => exact .dup _ ih

/-- every repeated vertex goes by `windPath_dup`; the vertices already passed are carried along as `pre` -/
theorem windPath_append_stutter (p : Pt) {r l : List Pt} (h : Stutter r l) (pre : List Pt) :
    windPath (pre ++ l) p = windPath (pre ++ r) p := by
  induction h generalizing pre with
  | nil => rfl
  | cons a _ ih => simpa only [List.append_assoc, List.singleton_append] using ih (pre ++ [a])
  | dup a _ ih => rw [C13Spec.windPath_dup, ih]

theorem windPath_stutter (p : Pt) {r l : List Pt} (h : Stutter r l) : windPath l p = windPath r p :=
  windPath_append_stutter p h []

theorem windPath_ring (f : Pt → Pt) (path : Path) (p : Pt) :
    windPath ((addPath false path).pts.map f) p = windPath (path.map f) p := by
  have hr := C13AddPaths.addPath_ring false path
  simp only at hr
  obtain ⟨_, _, _, hsmall, hbig⟩ := hr
  rw [windPath_stutter p (stutter_map f (pushPts_stutter path))]
  by_cases hlen : (pushPts none path).length < 2
  · rw [(hsmall hlen).1]
    match pushPts none path, hlen with
    | [], _ => rfl
    | [a], _ => exact (C13Spec.windPath_singleton (f a) p).symm
    | _ :: _ :: _, h => exact absurd h (Nat.not_lt.mpr (Nat.le_add_left 2 _))
  · rw [(hbig (Nat.le_of_not_lt hlen)).1]
    split
    · rename_i hc
      rw [List.map_dropLast]
      exact C13Spec.windPath_dropLast (by rw [List.getLast?_map, List.head?_map, hc.2]) p
    · rfl

theorem sameWinding_rings (ps : Paths) : SameWinding (ringsOf ps) ps := by
  intro k p
  simp only [wind, mapPaths, ringsOf, List.map_map, Function.comp_def, windPath_ring]

/-- **sweep_rings_region** — `scanline_region` for the pipeline `AddPaths_` model + model sweep, in terms of the paths AS GIVEN
(duplicates, closing vertices and all): on a scanline of the sweep of the rings, a point on no edge is inside the hot intervals iff
`inR ct fr (wind subj p) (wind clip p)` for the ORIGINAL paths. -/
theorem sweep_rings_region {subj clip : Paths} {yn yd : Int} (s : Scan (ringsOf subj) (ringsOf clip) yn yd) (cfg : Cfg)
    (hct : cfg.ct ≠ .noClip) (xn : Int) (hoff : s.Off xn) :
    s.Inside cfg xn ↔ inR cfg.ct cfg.fr (windQ subj xn yn yd) (windQ clip xn yn yd) = true := by
  rw [s.inside_iff cfg hct xn hoff, (sameWinding_rings subj).windQ, (sameWinding_rings clip).windQ]

/-- **sweep_after_addPaths** — C13's presentation clause for the pipeline `AddPaths_` model + model sweep: `subj'` from `subj` and `clip'`
from `clip` by path order, start rotation, duplicate vertices, closing vertices (any sequence, either direction).  `s`, `s'`: a scanline
at the same height of the model sweep of the rings `AddPaths_` builds from each presentation (hypotheses of `scanline_region` for both
ring sets).  A point on no edge of either is inside the hot intervals of the one iff inside those of the other. -/
theorem sweep_after_addPaths {subj clip subj' clip' : Paths} {yn yd : Int} (s : Scan (ringsOf subj) (ringsOf clip) yn yd)
    (s' : Scan (ringsOf subj') (ringsOf clip') yn yd) (hS : SamePresentation subj subj') (hC : SamePresentation clip clip')
    (cfg : Cfg) (hct : cfg.ct ≠ .noClip) (xn : Int) (hoff : s.Off xn) (hoff' : s'.Off xn) :
    s.Inside cfg xn ↔ s'.Inside cfg xn :=
  sweep_same_winding s s' ((sameWinding_rings subj).trans (hS.sameWinding.trans (sameWinding_rings subj').symm))
    ((sameWinding_rings clip).trans (hC.sameWinding.trans (sameWinding_rings clip').symm)) cfg hct xn hoff hoff'

end rings

/-! ## non-vacuity: the two crossing triangles of `Props/C01Region.lean` in several presentations

`A = (0,40) (30,3) (-30,11)`, `B = (-10,33) (-31,0) (34,20)`; the scanline `y = 59/2` lies strictly inside the second scanbeam `[20, 33]`,
between its three crossings.  On it `A` covers `-10.86 < x < 8.51` and `B` covers `-12.23 < x < 1.85`.  The hypotheses of
`scanline_region` are decided for every presentation (`decide +kernel`), so each theorem above is applied to real `Scan`s; the
sampled points are `x = xn/2`. -/

private def triA : Path := [⟨0, 40⟩, ⟨30, 3⟩, ⟨-30, 11⟩]
private def triB : Path := [⟨-10, 33⟩, ⟨-31, 0⟩, ⟨34, 20⟩]
/-- the same triangles listed from other start vertices -/
private def triA' : Path := [⟨30, 3⟩, ⟨-30, 11⟩, ⟨0, 40⟩]
private def triB' : Path := [⟨34, 20⟩, ⟨-10, 33⟩, ⟨-31, 0⟩]

/-- `(A, B)`, second scanbeam, `y = 59/2` -/
private def sAB : Scan [triA] [triB] 59 2 :=
  .ofIndex _ _ 59 2 1 (by decide +kernel) (by decide +kernel) (by decide +kernel) (by decide) (by decide +kernel) (by decide +kernel)
/-- both triangles rotated -/
private def sRot : Scan [triA'] [triB'] 59 2 :=
  .ofIndex _ _ 59 2 1 (by decide +kernel) (by decide +kernel) (by decide +kernel) (by decide) (by decide +kernel) (by decide +kernel)
/-- only `A` rotated -/
private def sRotA : Scan [triA'] [triB] 59 2 :=
  .ofIndex _ _ 59 2 1 (by decide +kernel) (by decide +kernel) (by decide +kernel) (by decide) (by decide +kernel) (by decide +kernel)
/-- subject and clip exchanged -/
private def sBA : Scan [triB] [triA] 59 2 :=
  .ofIndex _ _ 59 2 1 (by decide +kernel) (by decide +kernel) (by decide +kernel) (by decide) (by decide +kernel) (by decide +kernel)
/-- both triangles as subject paths, in the two orders -/
private def sAB0 : Scan [triA, triB] [] 59 2 :=
  .ofIndex _ _ 59 2 1 (by decide +kernel) (by decide +kernel) (by decide +kernel) (by decide) (by decide +kernel) (by decide +kernel)
private def sBA0 : Scan [triB, triA] [] 59 2 :=
  .ofIndex _ _ 59 2 1 (by decide +kernel) (by decide +kernel) (by decide +kernel) (by decide) (by decide +kernel) (by decide +kernel)
/-- every path reversed -/
private def sRev : Scan ([triA].map List.reverse) ([triB].map List.reverse) 59 2 :=
  .ofIndex _ _ 59 2 1 (by decide +kernel) (by decide +kernel) (by decide +kernel) (by decide) (by decide +kernel) (by decide +kernel)
/-- the subject alone: `y = 59/2` lies in its first scanbeam `[11, 40]` -/
private def sA : Scan [triA] [] 59 2 :=
  .ofIndex _ _ 59 2 0 (by decide +kernel) (by decide +kernel) (by decide +kernel) (by decide) (by decide +kernel) (by decide +kernel)
/-- translated by `(5, -7)`: the scanline `y = 59/2 - 7 = 45/2` -/
private def sTr : Scan (C13Spec.translate ⟨5, -7⟩ [triA]) (C13Spec.translate ⟨5, -7⟩ [triB]) (59 + 2 * (-7)) 2 :=
  .ofIndex _ _ _ 2 1 (by decide +kernel) (by decide +kernel) (by decide +kernel) (by decide) (by decide +kernel) (by decide +kernel)
/-- scaled by 3: the scanline `y = 3 · 59/2` -/
private def sSc : Scan (C13Spec.scale 3 [triA]) (C13Spec.scale 3 [triB]) (3 * 59) 2 :=
  .ofIndex _ _ _ 2 1 (by decide +kernel) (by decide +kernel) (by decide +kernel) (by decide) (by decide +kernel) (by decide +kernel)

/-- the 12 sample points `x = (4 i − 27)/2`, `i < 12`, i.e. `x = −13.5, −11.5, …, 8.5`: none on an edge of any of the presentations -/
private def samples : List Int := (List.range 12).map (fun (i : Nat) => 4 * (i : Int) - 27)
example : ∀ xn ∈ samples, sAB.Off xn ∧ sRot.Off xn ∧ sRotA.Off xn ∧ sBA.Off xn ∧ sAB0.Off xn ∧ sBA0.Off xn ∧ sRev.Off xn ∧ sA.Off xn := by
  decide +kernel

example : ∀ xn ∈ samples, sTr.Off (xn + 2 * 5) ∧ sSc.Off (3 * xn) := by decide +kernel

/-- the edge identities along the scanline differ between the presentations (the sweeps are not literally the same objects) -/
example : idsOf sAB.order = [3, 2, 5, 0] ∧ idsOf sRot.order = [4, 1, 3, 2] ∧ idsOf sBA.order = [0, 5, 2, 3] ∧
    idsOf sRev.order = [4, 2, 5, 1] := by decide +kernel

/-- (1) `sweep_start_rotation`, `sweep_presentation_independent` and `sweep_path_order` applied -/
example (cfg : Cfg) (hct : cfg.ct ≠ .noClip) (xn : Int) (h : sRotA.Off xn) (h' : sAB.Off xn) :
    sRotA.Inside cfg xn ↔ sAB.Inside cfg xn :=
  sweep_start_rotation (ps₁ := []) (ps₂ := []) (l₁ := [⟨0, 40⟩]) (l₂ := [⟨30, 3⟩, ⟨-30, 11⟩]) sRotA sAB cfg hct xn h h'
example (cfg : Cfg) (hct : cfg.ct ≠ .noClip) (xn : Int) (h : sRot.Off xn) (h' : sAB.Off xn) :
    sRot.Inside cfg xn ↔ sAB.Inside cfg xn :=
  sweep_presentation_independent sRot sAB (.start [] [] [⟨0, 40⟩] [⟨30, 3⟩, ⟨-30, 11⟩])
    (.symm (.start [] [] [⟨34, 20⟩] [⟨-10, 33⟩, ⟨-31, 0⟩])) cfg hct xn h h'
example (cfg : Cfg) (hct : cfg.ct ≠ .noClip) (xn : Int) (h : sAB0.Off xn) (h' : sBA0.Off xn) :
    sAB0.Inside cfg xn ↔ sBA0.Inside cfg xn :=
  sweep_path_order sAB0 sBA0 (List.Perm.swap _ _ _) (List.Perm.refl _) cfg hct xn h h'
/-- … and both sides evaluated: Union/NonZero of `(A, B)` and of the rotated presentation; EvenOdd self-union of `[A, B]`, `[B, A]` -/
example : samples.map (fun xn => decide (sAB.Inside ⟨.union, .nonZero⟩ xn)) = false :: List.replicate 11 true ∧
    samples.map (fun xn => decide (sRot.Inside ⟨.union, .nonZero⟩ xn)) = false :: List.replicate 11 true ∧
    samples.map (fun xn => decide (sAB0.Inside ⟨.union, .evenOdd⟩ xn)) = [false, true] ++ List.replicate 6 false ++ List.replicate 4 true ∧
    samples.map (fun xn => decide (sBA0.Inside ⟨.union, .evenOdd⟩ xn)) = [false, true] ++ List.replicate 6 false ++ List.replicate 4 true := by
  decide +kernel

/-- a path that still has a duplicate (or closing) vertex is outside the hypotheses of `scanline_region`: `build` models the rings
after `AddPaths_` removed them (NOTE at `sweep_duplicate_vertex`) -/
example : ¬ (build ([[⟨0, 40⟩, ⟨0, 40⟩, ⟨30, 3⟩, ⟨-30, 11⟩]] ++ [triB])).Hyp (validGen rhe default) := by decide +kernel
example : ¬ (build ([triA ++ [⟨0, 40⟩]] ++ [triB])).Hyp (validGen rhe default) := by decide +kernel

/-- (2) `sweep_subject_clip_swap` applied -/
example (cfg : Cfg) (hct : cfg.ct ≠ .noClip) (hdf : cfg.ct ≠ .difference) (xn : Int) (h : sAB.Off xn) (h' : sBA.Off xn) :
    sAB.Inside cfg xn ↔ sBA.Inside cfg xn := sweep_subject_clip_swap sAB sBA cfg hct hdf xn h h'
example : samples.map (fun xn => decide (sAB.Inside ⟨.xor, .nonZero⟩ xn)) = [false, true] ++ List.replicate 6 false ++ List.replicate 4 true ∧
    samples.map (fun xn => decide (sBA.Inside ⟨.xor, .nonZero⟩ xn)) = [false, true] ++ List.replicate 6 false ++ List.replicate 4 true := by
  decide +kernel
/-- **Difference is not symmetric**: the point `(5, 59/2)` (in `A`, not in `B`) is inside the Difference intervals of the sweep of
`(A, B)` and outside those of the sweep of `(B, A)`; `(−23/2, 59/2)` the other way round -/
example : sAB.Off 10 ∧ sBA.Off 10 ∧ sAB.Inside ⟨.difference, .nonZero⟩ 10 ∧ ¬ sBA.Inside ⟨.difference, .nonZero⟩ 10 ∧
    sAB.Off (-23) ∧ sBA.Off (-23) ∧ ¬ sAB.Inside ⟨.difference, .nonZero⟩ (-23) ∧ sBA.Inside ⟨.difference, .nonZero⟩ (-23) := by
  decide +kernel

/-- (3) `sweep_reversal` applied -/
example (ct : ClipType) (hct : ct ≠ .noClip) (fr : FillRule) (xn : Int) (h : sAB.Off xn) (h' : sRev.Off xn) :
    sAB.Inside ⟨ct, fr⟩ xn ↔ sRev.Inside ⟨ct, flipFr fr⟩ xn := sweep_reversal sAB sRev ct hct fr xn h h'
/-- `A` is positively, `B` negatively oriented here: Union/Positive is `A`, Union/Negative is `B`; for the reversed input the other
way round (so the exchange of the two fill rules is necessary, not only sufficient) -/
example : samples.map (fun xn => decide (sAB.Inside ⟨.union, .positive⟩ xn)) = false :: List.replicate 7 true ++ List.replicate 4 false ∧
    samples.map (fun xn => decide (sRev.Inside ⟨.union, .negative⟩ xn)) = false :: List.replicate 7 true ++ List.replicate 4 false ∧
    samples.map (fun xn => decide (sAB.Inside ⟨.union, .negative⟩ xn)) = [false, false] ++ List.replicate 10 true ∧
    samples.map (fun xn => decide (sRev.Inside ⟨.union, .positive⟩ xn)) = [false, false] ++ List.replicate 10 true := by
  decide +kernel

/-- (4) `sweep_set_algebra`, `sweep_diff_inter_is_subject` applied, and the five sweeps evaluated -/
example (fr : FillRule) (xn : Int) (h : sAB.Off xn) (h₀ : sA.Off xn) :
    (sAB.Inside ⟨.xor, fr⟩ xn ↔ sAB.Inside ⟨.union, fr⟩ xn ∧ ¬ sAB.Inside ⟨.intersection, fr⟩ xn) ∧
    (sAB.Inside ⟨.difference, fr⟩ xn ∨ sAB.Inside ⟨.intersection, fr⟩ xn ↔ sA.Inside ⟨.union, fr⟩ xn) ∧
    ¬ (sAB.Inside ⟨.difference, fr⟩ xn ∧ sAB.Inside ⟨.intersection, fr⟩ xn) :=
  ⟨(sweep_set_algebra sAB fr xn h).1, (sweep_diff_inter_is_subject sAB sA fr xn h h₀).1, (sweep_set_algebra sAB fr xn h).2.2⟩
example : samples.map (fun xn => decide (sAB.Inside ⟨.intersection, .nonZero⟩ xn)) = [false, false] ++ List.replicate 6 true ++ List.replicate 4 false ∧
    samples.map (fun xn => decide (sAB.Inside ⟨.difference, .nonZero⟩ xn)) = List.replicate 8 false ++ List.replicate 4 true ∧
    samples.map (fun xn => decide (sA.Inside ⟨.union, .nonZero⟩ xn)) = [false, false] ++ List.replicate 10 true := by
  decide +kernel

/-- (5) `sweep_translation`, `sweep_scaling` applied and evaluated (Xor/NonZero at the translated / scaled sample points) -/
example (cfg : Cfg) (hct : cfg.ct ≠ .noClip) (xn : Int) (h : sAB.Off xn) (h' : sTr.Off (xn + 2 * 5)) :
    sAB.Inside cfg xn ↔ sTr.Inside cfg (xn + 2 * 5) := sweep_translation ⟨5, -7⟩ sAB sTr cfg hct xn h h'
example (cfg : Cfg) (hct : cfg.ct ≠ .noClip) (xn : Int) (h : sAB.Off xn) (h' : sSc.Off (3 * xn)) :
    sAB.Inside cfg xn ↔ sSc.Inside cfg (3 * xn) := sweep_scaling (by decide) sAB sSc cfg hct xn h h'
example : samples.map (fun xn => decide (sTr.Inside ⟨.xor, .nonZero⟩ (xn + 2 * 5))) = [false, true] ++ List.replicate 6 false ++ List.replicate 4 true ∧
    samples.map (fun xn => decide (sSc.Inside ⟨.xor, .nonZero⟩ (3 * xn))) = [false, true] ++ List.replicate 6 false ++ List.replicate 4 true := by
  decide +kernel

/-- (6) `A` with a vertex repeated twice and the start vertex repeated at the end, `B` with an explicit closing vertex: what the model of
`AddPaths_` makes of them is accepted by the sweep model … -/
private def triAd : Path := [⟨0, 40⟩, ⟨30, 3⟩, ⟨30, 3⟩, ⟨30, 3⟩, ⟨-30, 11⟩, ⟨0, 40⟩]
private def triBc : Path := [⟨-10, 33⟩, ⟨-31, 0⟩, ⟨34, 20⟩, ⟨-10, 33⟩]
example : ringsOf [triAd] = [triA] ∧ ringsOf [triBc] = [triB] := by decide +kernel
private def sRing : Scan (ringsOf [triAd]) (ringsOf [triBc]) 59 2 :=
  .ofIndex _ _ 59 2 1 (by decide +kernel) (by decide +kernel) (by decide +kernel) (by decide) (by decide +kernel) (by decide +kernel)
private def sRing0 : Scan (ringsOf [triA']) (ringsOf [triB]) 59 2 :=
  .ofIndex _ _ 59 2 1 (by decide +kernel) (by decide +kernel) (by decide +kernel) (by decide) (by decide +kernel) (by decide +kernel)
/-- … and `sweep_after_addPaths` applies: duplicates `(30,3)` twice, closing vertices, `A` rotated -/
example (cfg : Cfg) (hct : cfg.ct ≠ .noClip) (xn : Int) (h : sRing.Off xn) (h' : sRing0.Off xn) :
    sRing.Inside cfg xn ↔ sRing0.Inside cfg xn :=
  sweep_after_addPaths sRing sRing0
    (.trans (.closing [] [] ⟨0, 40⟩ [⟨30, 3⟩, ⟨30, 3⟩, ⟨30, 3⟩, ⟨-30, 11⟩])
      (.trans (.dup [] [] [⟨0, 40⟩] [⟨30, 3⟩, ⟨-30, 11⟩] ⟨30, 3⟩)
        (.trans (.dup [] [] [⟨0, 40⟩] [⟨-30, 11⟩] ⟨30, 3⟩) (.symm (.start [] [] [⟨0, 40⟩] [⟨30, 3⟩, ⟨-30, 11⟩])))))
    (.closing [] [] ⟨-10, 33⟩ [⟨-31, 0⟩, ⟨34, 20⟩]) cfg hct xn h h'
example : (∀ xn ∈ samples, sRing.Off xn ∧ sRing0.Off xn) ∧
    samples.map (fun xn => decide (sRing.Inside ⟨.intersection, .nonZero⟩ xn)) = [false, false] ++ List.replicate 6 true ++ List.replicate 4 false ∧
    samples.map (fun xn => decide (sRing0.Inside ⟨.intersection, .nonZero⟩ xn)) = [false, false] ++ List.replicate 6 true ++ List.replicate 4 false := by
  decide +kernel

end Clipper.Props.C13Sweep

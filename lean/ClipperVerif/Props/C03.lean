/-
C03 — closed solution paths are well formed: the structural part, proved for the model
`ClipperVerif/Model/CleanUp.lean` of `IsValidClosedPath`, `CleanCollinear` and `BuildPath64`
(clipper.engine.cpp:436-453, 1525-1560, 2892-2928), with `FixSelfIntersects` as a parameter `fix`
(instantiated and discharged in `Props/C03Split.lean`).

Vocabulary (neighbour predicates from `Lemmas/Neighbours.lean`, the rest from `Lemmas/CleanUp.lean`):
* `LinPairs Q l`, `LinTriples P l`: `Q` / `P` holds for all linearly consecutive pairs / triples of `l`
  (index readings: `linPairs_iff_getElem`, `linTriples_iff_getElem`);
* `CycNoDup r`: no node of the ring equals its cyclic successor, last/first included
  (index reading `cycNoDup_index`: `∀ i < n, r[i] ≠ r[(i+1) % n]`);
* `CycTriples P r`: `P prev cur next` for every node of the ring with its two cyclic neighbours
  (index reading `cycTriples_index`: `∀ i < n, P r[(i+n-1) % n] r[i] r[(i+1) % n]`);
* `Kept pc a b c := removable pc a b c = false`: node `b` survives the removal test of `CleanCollinear`;
* `builtPath ring rev`: `rotl ring 1` (forward) resp. `head :: tail.reverse` (reverse);
* `FixOk fix`: `fix` applied to a ring of ≥ 3 nodes without equal cyclic neighbours returns (if anything of
  ≥ 3 nodes) a ring without equal cyclic neighbours.
-/
import ClipperVerif.Lemmas.CleanUp
namespace Clipper.Props.C03
open Clipper Clipper.Model.CleanUp Clipper.Lemmas.CleanUp

/-- `CycNoDup r` says exactly: `r[i] ≠ r[(i+1) mod n]` for every index `i`. -/
theorem cycNoDup_index (r : List Pt) :
    CycNoDup r ↔ ∀ i (h : i < r.length), r[i] ≠ r[(i + 1) % r.length]'(Nat.mod_lt _ (by omega)) :=
  cycNoDup_iff_getElem r

/-- `CycTriples P r` says exactly: `P r[(i-1) mod n] r[i] r[(i+1) mod n]` for every index `i`. -/
theorem cycTriples_index (P : Pt → Pt → Pt → Prop) (r : List Pt) :
    CycTriples P r ↔ ∀ i (h : i < r.length),
      P (r[(i + r.length - 1) % r.length]'(Nat.mod_lt _ (by omega))) r[i]
        (r[(i + 1) % r.length]'(Nat.mod_lt _ (by omega))) :=
  cycTriples_iff_getElem P r

/-- `LinPairs Q p` says exactly: `Q p[i] p[i+1]` whenever `i + 1 < p.length`. -/
theorem linPairs_index (Q : Pt → Pt → Prop) (p : List Pt) :
    LinPairs Q p ↔ ∀ i (h : i + 1 < p.length), Q (p[i]'(by omega)) (p[i + 1]'h) :=
  linPairs_iff_getElem Q p

/-- The generated `IsCollinear(a, b, c)` (shared point in the middle) is the vanishing of the Spec-level
cross product. -/
theorem isCollinear_iff_cross (a b c : Pt) : isCollinear a b c = true ↔ cross a b c = 0 :=
  Lemmas.CleanUp.isCollinear_iff_cross a b c

/-- The loop of `CleanCollinear` ends within `n*n + |todo| + 1` iterations, `n` the current ring size
(an advance shortens `todo`; a removal shrinks the ring and resets `todo` to the whole ring). -/
theorem cleanLoop_fuel (pc : Bool) (fuel : Nat) (done todo : List Pt) (pts : Nat)
    (h : fuel ≥ (done.length + todo.length) * (done.length + todo.length) + todo.length + 1) :
    cleanLoop pc fuel done todo pts ≠ none := by
  induction fuel generalizing done todo pts with
  | zero => omega
  | succ fuel ih =>
    cases todo with
    | nil => exact nofun
    | cons cur rest =>
      rw [cleanLoop_cons]
      split
      · split
        · exact nofun
        · apply ih
          -- the ring has one node less, `m` nodes, and is visited afresh: `(m+1)² = m² + 2m + 1`
          have e : done.length + (rest.length + 1) = (rest.length + done.length) + 1 := by omega
          simp only [List.length_nil, List.length_append, List.length_reverse, List.length_cons, Nat.zero_add] at h ⊢
          rw [e, Nat.add_one_mul, Nat.mul_add_one] at h
          omega
      · apply ih
        have e : done.length + 1 + rest.length = done.length + (rest.length + 1) := by omega
        simp only [List.length_cons] at h ⊢
        rw [e]; omega

example : cleanFuel 5 ≥ (([] : List Pt).length + 5) * (([] : List Pt).length + 5) + 5 + 1 := by decide
/-- the bound is not vacuous: too little fuel does run out -/
example : cleanLoop true 3 [] [⟨0,0⟩,⟨5,0⟩,⟨10,0⟩,⟨10,10⟩,⟨0,10⟩] 0 = none := by decide

/-- `cleanCollinear` never runs out of fuel: `cleanFuel` suffices for every ring, every `fix`. -/
theorem cleanCollinear_terminates (pc : Bool) (fix : Ring → Option Ring) (ring : Ring) :
    cleanCollinear pc fix ring ≠ none := by
  unfold cleanCollinear
  split
  · simp
  · have := cleanLoop_fuel pc (cleanFuel ring.length) [] ring 0 (by simp [cleanFuel])
    split <;> simp_all

/-- If the loop of `CleanCollinear` leaves normally with ring `r` (started on a valid closed path `ring`), then
`r` is a valid closed path (≥ 3 nodes, not a very small triangle), it has at most as many nodes as `ring`, every
point occurs in `r` at most as often as in `ring` (so `r ⊆ ring`), and **every** node of `r` survives the removal
test with respect to its two cyclic neighbours. -/
theorem cleanLoop_shape (pc : Bool) (fuel : Nat) (ring r : Ring)
    (hv : isValidClosedPath ring = true) (h : cleanLoop pc fuel [] ring 0 = some (some r)) :
    r.length ≥ 3 ∧ isValidClosedPath r = true ∧ r.length ≤ ring.length ∧
    (∀ x, r.count x ≤ ring.count x) ∧ (∀ x, x ∈ r → x ∈ ring) ∧
    CycTriples (fun a b c => removable pc a b c = false) r := by
  obtain ⟨h1, h2, l, hp, hs⟩ := cleanLoop_inv pc fuel [] ring 0 r hv (inv_nil pc ring) h
  exact ⟨isValid_length h1, h1, hp.length_eq ▸ hs.length_le, fun x => hp.count_eq x ▸ hs.count_le x,
    fun x hx => hs.subset (hp.mem_iff.mpr hx), h2⟩

example : isValidClosedPath [⟨0,0⟩,⟨5,0⟩,⟨10,0⟩,⟨10,10⟩,⟨0,10⟩] = true ∧
    cleanLoop false (cleanFuel 5) [] [⟨0,0⟩,⟨5,0⟩,⟨10,0⟩,⟨10,10⟩,⟨0,10⟩] 0
      = some (some [⟨0,0⟩,⟨10,0⟩,⟨10,10⟩,⟨0,10⟩]) := by decide
example : isValidClosedPath [⟨0,0⟩,⟨5,0⟩,⟨10,0⟩,⟨7,0⟩,⟨10,10⟩,⟨0,10⟩] = true ∧
    cleanLoop true (cleanFuel 6) [] [⟨0,0⟩,⟨5,0⟩,⟨10,0⟩,⟨7,0⟩,⟨10,10⟩,⟨0,10⟩] 0
      = some (some [⟨0,0⟩,⟨5,0⟩,⟨7,0⟩,⟨10,10⟩,⟨0,10⟩]) := by decide

/-- A node that survives the removal test differs from both its neighbours
(`IsCollinear(a, a, c)` and `IsCollinear(a, c, c)` are true). -/
theorem clean_noAdjDup (pc : Bool) (a b c : Pt) (h : removable pc a b c = false) : b ≠ a ∧ b ≠ c :=
  removable_false_ne h

example : removable true ⟨0,0⟩ ⟨5,0⟩ ⟨10,0⟩ = false := by decide

/-- Hence a ring all of whose nodes survive the removal test has no two cyclically adjacent equal nodes. -/
theorem clean_cycNoDup (pc : Bool) (r : Ring)
    (h : CycTriples (fun a b c => removable pc a b c = false) r) : CycNoDup r :=
  cycNoDup_of_kept pc r h

example : CycTriples (fun a b c => removable true a b c = false)
    [⟨0,0⟩,⟨5,0⟩,⟨10,0⟩,⟨10,10⟩,⟨0,10⟩] := by decide

/-- With `preserveCollinear = false`, no cyclic triple of a cleaned ring is collinear: the cross product of
every node with its two neighbours is non-zero. -/
theorem clean_noCollinear (r : Ring) (h : CycTriples (fun a b c => removable false a b c = false) r) :
    CycTriples (fun a b c => isCollinear a b c = false) r ∧ CycTriples (fun a b c => cross a b c ≠ 0) r :=
  ⟨cycTriples_mono (fun _ _ _ hk => removable_false_pcFalse hk) r h,
   cycTriples_mono (fun a b c hk => (isCollinear_false_iff_cross a b c).mp (removable_false_pcFalse hk)) r h⟩

example : CycTriples (fun a b c => removable false a b c = false)
    [⟨0,0⟩,⟨10,0⟩,⟨10,10⟩,⟨0,10⟩] := by decide

/-- With `preserveCollinear = true`, no cyclic triple of a cleaned ring is a 180-degree spike or contains equal
neighbours: whenever a node is collinear with its neighbours, the dot product is strictly positive
(the node lies strictly between them). -/
theorem clean_noSpike (r : Ring) (h : CycTriples (fun a b c => removable true a b c = false) r) :
    CycTriples (fun a b c => cross a b c = 0 → dot a b c > 0) r :=
  cycTriples_mono
    (fun a b c hk hc => removable_false_pcTrue hk ((Lemmas.CleanUp.isCollinear_iff_cross a b c).mpr hc)) r h

example : CycTriples (fun a b c => removable true a b c = false)
    [⟨0,0⟩,⟨5,0⟩,⟨7,0⟩,⟨10,10⟩,⟨0,10⟩] := by decide
/-- the hypothesis excludes spikes: here (10,0) is a spike between (5,0) and (7,0) -/
example : ¬ CycTriples (fun a b c => removable true a b c = false)
    [⟨0,0⟩,⟨5,0⟩,⟨10,0⟩,⟨7,0⟩,⟨10,10⟩,⟨0,10⟩] := by decide

/-- The part of `CleanCollinear` before `FixSelfIntersects`: if `cleanCollinear` returns a ring `r'`, then
`r' = fix r` for a ring `r` with all the guarantees of `cleanLoop_shape`. -/
theorem cleanCollinear_shape (pc : Bool) (fix : Ring → Option Ring) (ring r' : Ring)
    (h : cleanCollinear pc fix ring = some (some r')) :
    ∃ r, cleanLoop pc (cleanFuel ring.length) [] ring 0 = some (some r) ∧ fix r = some r' ∧
      r.length ≥ 3 ∧ isValidClosedPath r = true ∧ r.length ≤ ring.length ∧
      (∀ x, r.count x ≤ ring.count x) ∧ (∀ x, x ∈ r → x ∈ ring) ∧
      CycTriples (fun a b c => removable pc a b c = false) r := by
  unfold cleanCollinear at h
  split at h
  · simp at h
  · rename_i hv
    have hv' : isValidClosedPath ring = true := by simpa using hv
    split at h
    · simp at h
    · simp at h
    · rename_i r hr
      exact ⟨r, hr, by simpa using h, cleanLoop_shape pc _ ring r hv' hr⟩

example : cleanCollinear false some [⟨0,0⟩,⟨5,0⟩,⟨10,0⟩,⟨10,10⟩,⟨0,10⟩]
    = some (some [⟨0,0⟩,⟨10,0⟩,⟨10,10⟩,⟨0,10⟩]) := by decide

/-- The exact guarantee of `BuildPath64` on an arbitrary ring: a returned path is non-empty, consists of points
of the ring, is no longer than the ring, and no two *linearly* consecutive points are equal; the ring had ≥ 2
nodes, and ≥ 3 nodes if the path is closed.  (Nothing is said about last/first: see
`buildPath_wraparound_not_checked`.) -/
theorem buildPath_shape (ring : Ring) (rev isOpen : Bool) (p : Path)
    (h : buildPath64 ring rev isOpen = some p) :
    p ≠ [] ∧ (∀ x, x ∈ p → x ∈ ring) ∧ LinPairs (fun a b => a ≠ b) p ∧
    (∀ i (h : i + 1 < p.length), p[i]'(by omega) ≠ p[i + 1]'h) ∧
    p.length ≤ ring.length ∧ ring.length ≥ 2 ∧ (isOpen = false → ring.length ≥ 3) := by
  obtain ⟨s, ss, hb, rfl, _, h2, h3⟩ := buildPath_some h
  have hsub : (s :: pushDedup s ss).Sublist (builtPath ring rev) := hb ▸ (pushDedup_sublist ss s).cons_cons s
  have hl := linPairs_pushDedup ss s
  exact ⟨List.cons_ne_nil _ _, fun x hx => (mem_builtPath ring rev x).mp (hsub.subset hx), hl,
    (linPairs_iff_getElem _ _).mp hl, length_builtPath ring rev ▸ hsub.length_le, h2, h3⟩

example : buildPath64 [⟨0,0⟩,⟨0,0⟩,⟨10,0⟩,⟨10,0⟩,⟨10,10⟩,⟨0,10⟩] true false
    = some [⟨0,0⟩,⟨0,10⟩,⟨10,10⟩,⟨10,0⟩,⟨0,0⟩] := by decide

/-- `BuildPath64` does not compare the last emitted point with the first: on the ring A,A,B,C it returns the
closed path A,B,C,A whose last and first vertices are equal.  (In `BuildPaths64` the ring comes out of
`CleanCollinear`, which excludes this: `solutionPath_shape_partial`.) -/
theorem buildPath_wraparound_not_checked :
    buildPath64 [⟨0,0⟩,⟨0,0⟩,⟨5,0⟩,⟨5,5⟩] false false = some [⟨0,0⟩,⟨5,0⟩,⟨5,5⟩,⟨0,0⟩] := by decide

/-- `BuildPath64` can return a closed path of two points as a success: ring A,B,B,B gives B,A. -/
theorem buildPath_short_possible :
    buildPath64 [⟨0,0⟩,⟨5,0⟩,⟨5,0⟩,⟨5,0⟩] false false = some [⟨5,0⟩,⟨0,0⟩] := by decide

/-- On a ring of ≥ 3 nodes without equal cyclic neighbours, `BuildPath64` (closed) fails exactly for very small
triangles and otherwise returns all nodes: the ring rotated by one (forward) resp. head followed by the
reversed tail (reverse). -/
theorem buildPath_of_clean (ring : Ring) (rev : Bool) (h3 : ring.length ≥ 3) (hc : CycNoDup ring) :
    buildPath64 ring rev false =
      if ring.length = 3 ∧ isVerySmallTriangle ring = true then none else some (builtPath ring rev) := by
  match ring, h3 with
  | op :: a :: b :: rest, _ =>
    -- nothing is dropped: consecutive nodes differ, in the order of `builtPath` as well
    have hp : ∀ s ss, builtPath (op :: a :: b :: rest) rev = s :: ss → pushDedup s ss = ss := fun s ss e =>
      pushDedup_eq_self ss s (linPairs_append_left _ [s] _ (e ▸ cycNoDup_builtPath _ rev hc : CycNoDup (s :: ss)))
    rw [buildPath_unfold]
    cases rev with
    | false =>
      have e := builtPath_cons op a (b :: rest) false
      simp only [Bool.false_eq_true, if_false, List.cons_append] at e ⊢
      rw [hp _ _ e, e]
      cases rest with
      | nil => simp [isVST_rot3 op a b]
      | cons c rest' => simp
    | true =>
      have e := builtPath_cons op a (b :: rest) true
      simp only [if_true] at e ⊢
      rw [hp _ _ e, e]
      cases rest <;> simp

example : ([⟨0,0⟩,⟨5,0⟩,⟨10,0⟩,⟨10,10⟩,⟨0,10⟩] : Ring).length ≥ 3 ∧
    CycNoDup [⟨0,0⟩,⟨5,0⟩,⟨10,0⟩,⟨10,10⟩,⟨0,10⟩] := by decide
example : buildPath64 [⟨0,0⟩,⟨1,0⟩,⟨1,1⟩] true false = none ∧ CycNoDup [⟨0,0⟩,⟨1,0⟩,⟨1,1⟩] := by decide

/-- what `builtPath` is -/
theorem builtPath_eq (ring : Ring) :
    builtPath ring false = rotl ring 1 ∧
    (∀ op rest, ring = op :: rest → builtPath ring true = op :: rest.reverse) := by
  refine ⟨rfl, ?_⟩
  intro op rest e; subst e; rfl

/-- `builtPath ring rev` has the nodes of `ring` (a permutation), and cyclic properties transfer: `CycNoDup`,
and `CycTriples P` (forward) resp. `CycTriples` of the mirrored predicate (reverse). -/
theorem builtPath_props (ring : Ring) (rev : Bool) :
    (builtPath ring rev).length = ring.length ∧ (builtPath ring rev).Perm ring ∧
    (CycNoDup ring → CycNoDup (builtPath ring rev)) ∧
    (∀ P : Pt → Pt → Pt → Prop, CycTriples P ring → CycTriples P (builtPath ring false)) ∧
    (∀ P : Pt → Pt → Pt → Prop, CycTriples P ring →
      CycTriples (fun a b c => P c b a) (builtPath ring true)) :=
  ⟨length_builtPath ring rev, builtPath_perm ring rev, cycNoDup_builtPath ring rev,
   fun P => cycTriples_builtPath_fwd P ring, fun P => cycTriples_builtPath_rev P ring⟩

/-- `solutionPath` never runs out of fuel. -/
theorem solutionPath_terminates (pc rev : Bool) (fix : Ring → Option Ring) (ring : Ring) :
    solutionPath pc rev fix ring ≠ none := by
  unfold solutionPath
  have := cleanCollinear_terminates pc fix ring
  split <;> simp_all

/-- Rings of fewer than three nodes are rejected by `BuildPath64` itself (closed paths). -/
theorem buildPath_rejects_short (ring : Ring) (rev : Bool) (h : ring.length < 3) :
    buildPath64 ring rev false = none := by
  cases hb : buildPath64 ring rev false with
  | none => rfl
  | some p => have := (buildPath_shape ring rev false p hb).2.2.2.2.2.2 rfl; omega

example : buildPath64 [⟨0,0⟩,⟨5,0⟩] true false = none := by decide

/-- Structural part of C03 relative to `fix`: if `FixSelfIntersects` does not create equal cyclic neighbours
(`FixOk`), every closed path that `BuildPaths64` emits for an outrec has at least three vertices, no two
consecutive vertices equal (last/first included), consists of points of the outrec's ring, and is exactly
`builtPath r' rev` for the ring `r'` that `FixSelfIntersects` left.  `FixOk` holds for the model of
`FixSelfIntersects` (`C03Split.fixOk_fixMain`), which gives `C03Split.solutionPath_shape` without the hypothesis. -/
theorem solutionPath_shape_partial (pc rev : Bool) (fix : Ring → Option Ring) (ring : Ring) (p : Path)
    (hfix : FixOk fix) (h : solutionPath pc rev fix ring = some (some p)) :
    p.length ≥ 3 ∧ CycNoDup p ∧
    ∃ r r', cleanLoop pc (cleanFuel ring.length) [] ring 0 = some (some r) ∧ fix r = some r' ∧
      p = builtPath r' rev := by
  unfold solutionPath at h
  split at h
  · simp at h
  · simp at h
  · rename_i r' hcc
    simp only [Option.some.injEq] at h
    obtain ⟨r, hcl, hfr, hr3, _, _, _, _, hk⟩ := cleanCollinear_shape pc fix ring r' hcc
    have hr'3 : r'.length ≥ 3 := (buildPath_shape r' rev false p h).2.2.2.2.2.2 rfl
    have hnd : CycNoDup r' := hfix r r' hr3 (clean_cycNoDup pc r hk) hfr hr'3
    rw [buildPath_of_clean r' rev hr'3 hnd] at h
    split at h
    · simp at h
    · simp only [Option.some.injEq] at h
      subst h
      exact ⟨by rw [length_builtPath]; exact hr'3, cycNoDup_builtPath r' rev hnd, r, r', hcl, hfr, rfl⟩

example : FixOk some := fixOk_some
example : solutionPath false true some [⟨0,0⟩,⟨5,0⟩,⟨10,0⟩,⟨10,10⟩,⟨0,10⟩]
    = some (some [⟨0,0⟩,⟨0,10⟩,⟨10,10⟩,⟨10,0⟩]) := by decide

/-- When `FixSelfIntersects` has nothing to repair (`fix = some`): every vertex of the emitted path survives the
removal test with respect to its cyclic neighbours, so the path additionally has, with
`preserveCollinear = false`, no collinear cyclic triple (cross product ≠ 0 at every vertex), and with
`preserveCollinear = true`, no spike: every collinear cyclic triple has a strictly positive dot product.
Also every vertex of `p` is a node of `ring` and `p` has at most as many vertices. -/
theorem solutionPath_shape_nofix (pc rev : Bool) (ring : Ring) (p : Path)
    (h : solutionPath pc rev some ring = some (some p)) :
    p.length ≥ 3 ∧ CycNoDup p ∧ p.length ≤ ring.length ∧ (∀ x, x ∈ p → x ∈ ring) ∧
    CycTriples (fun a b c => removable pc a b c = false) p ∧
    (pc = false → CycTriples (fun a b c => cross a b c ≠ 0) p) ∧
    (pc = true → CycTriples (fun a b c => cross a b c = 0 → dot a b c > 0) p) := by
  obtain ⟨h3, hnd, r, r', hcl, hfr, hp⟩ := solutionPath_shape_partial pc rev some ring p fixOk_some h
  cases hfr
  have hv : isValidClosedPath ring = true := by
    cases hvv : isValidClosedPath ring with
    | true => rfl
    | false => simp [solutionPath, cleanCollinear, hvv] at h
  obtain ⟨_, _, hle, _, hmem, hk⟩ := cleanLoop_shape pc _ ring r hv hcl
  have hkp : CycTriples (fun a b c => removable pc a b c = false) p := by
    rw [hp]; exact cycTriples_kept_builtPath pc r rev hk
  refine ⟨h3, hnd, ?_, ?_, hkp, ?_, ?_⟩
  · rw [hp, length_builtPath]; exact hle
  · intro x hx; rw [hp, mem_builtPath] at hx; exact hmem x hx
  · intro e; subst e; exact (clean_noCollinear p hkp).2
  · intro e; subst e; exact clean_noSpike p hkp

example : solutionPath true true some [⟨0,0⟩,⟨5,0⟩,⟨10,0⟩,⟨7,0⟩,⟨10,10⟩,⟨0,10⟩]
    = some (some [⟨0,0⟩,⟨0,10⟩,⟨10,10⟩,⟨7,0⟩,⟨5,0⟩]) := by decide

/-- A ring of ≥ 3 nodes all of which survive the removal test is contained neither in a horizontal nor in a
vertical line (the node of maximal `x` resp. `y` would be a spike or a duplicate): its bounding box has
positive width and positive height. -/
theorem clean_bounds_nonempty (pc : Bool) (r : Ring) (h3 : r.length ≥ 3)
    (hk : CycTriples (fun a b c => removable pc a b c = false) r) :
    (¬ ∃ y0, ∀ p, p ∈ r → p.y = y0) ∧ (¬ ∃ x0, ∀ p, p ∈ r → p.x = x0) := by
  have hne : r ≠ [] := by intro e; subst e; simp at h3
  exact ⟨fun ⟨y0, h⟩ => kept_not_all_y pc r hne hk y0 h, fun ⟨x0, h⟩ => kept_not_all_x pc r hne hk x0 h⟩

example : ([⟨0,0⟩,⟨5,0⟩,⟨10,0⟩,⟨10,10⟩,⟨0,10⟩] : Ring).length ≥ 3 ∧
    CycTriples (fun a b c => removable true a b c = false)
      [⟨0,0⟩,⟨5,0⟩,⟨10,0⟩,⟨10,10⟩,⟨0,10⟩] := by decide

end Clipper.Props.C03

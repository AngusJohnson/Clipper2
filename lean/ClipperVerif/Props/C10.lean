/-
C10 — no input can crash, hang or corrupt memory.

This property is partial by nature.  What can be a theorem is proved here for *modelled* code:
  (i)   the unbounded scan of `ProcessIntersectList` always finds a node inside the list, and the loop ends
        after as many swaps as there are inversions (combinatorial model of AEL order vs. intersect nodes; that the
        node list is the set of inversions is proved of `BuildIntersectList` in `Props/C10Isect.lean`);
  (ii)  freedom from signed overflow for |coordinate| ≤ 2^29 of every `int64_t` intermediate of the generated integer
        functions, the exact condition under which `TopX`'s product fits (and that it does not in general: known finding);
  (iii) `AddPaths_` never writes beyond the vertex array it allocates;
  (iv)  an index of the fault-freedom / termination theorems proved in the other slices (see `Audit/C10.lean`).
Heap discipline of the compiled code, real time/memory bounds and the allocation-failure clause are exercised at run
time by `harness/C10.cpp` under ASan/UBSan/LSan; no Lean model can exhibit them.
Helper lemmas: `Lemmas/Inversions.lean`, `Lemmas/IntersectList.lean`; models: `Model/IntersectList.lean`, `Model/AddPaths.lean`.
-/
import ClipperVerif.Lemmas.Inversions
import ClipperVerif.Lemmas.IntersectList
import ClipperVerif.Model.AddPaths
import ClipperVerif.Model.Geom
import ClipperVerif.Generated.Core
import ClipperVerif.Generated.Portable
import ClipperVerif.Generated.Engine
import ClipperVerif.Generated.RectClip
namespace Clipper.Props.C10
open Clipper Clipper.Lemmas.Inversions

/-- If the set `N` of inversions of `π` is not empty (equivalently `π` is not yet in
target order), then some pair of `N` is adjacent in `π`; and exchanging an adjacent inverted pair `a, b` yields a list
whose inversions are those of `π` minus exactly that pair: as multisets `N = (a,b) :: N'`, the count drops by one,
and (distinct keys) `(a,b)` itself is no longer an inversion. -/
theorem adjacent_inversion_exists (π : List Nat) (hN : invPairs π ≠ []) :
    ∃ l₁ a b l₂, π = l₁ ++ a :: b :: l₂ ∧ b < a ∧ (a, b) ∈ invPairs π ∧
      (invPairs π).Perm ((a, b) :: invPairs (l₁ ++ b :: a :: l₂)) ∧
      invCount π = invCount (l₁ ++ b :: a :: l₂) + 1 ∧
      (π.Nodup → (a, b) ∉ invPairs (l₁ ++ b :: a :: l₂)) := by
  obtain ⟨l₁, a, b, l₂, he, hlt⟩ := exists_adjacent_inversion π hN
  subst he
  have hp := invPairs_swap_perm l₁ l₂ a b hlt
  exact ⟨l₁, a, b, l₂, rfl, hlt, hp.symm.subset (List.mem_cons_self ..), hp, invCount_swap l₁ l₂ a b hlt,
    swapped_pair_gone l₁ l₂ a b⟩

/-- `N ≠ ∅` in terms of `List.Pairwise`: there is an inversion iff the list is not sorted. -/
theorem has_inversion_iff_not_sorted (π : List Nat) : invPairs π ≠ [] ↔ ¬ π.Pairwise (· ≤ ·) :=
  not_congr (invPairs_eq_nil_iff π)

/-- an inversion is exactly a pair in the wrong order: `x` before `y` in `π` with `y < x` -/
theorem inversion_iff (π : List Nat) (x y : Nat) : (x, y) ∈ invPairs π ↔ (y < x ∧ [x, y].Sublist π) :=
  mem_invPairs π x y

/-- **The scan stays inside the list.**  Whenever the remaining node list is (a permutation of) the inversions of the
current order and is not empty, it contains a node whose edges are adjacent — so the unbounded
`while (!EdgesAdjacentInAEL(*node_iter2)) ++node_iter2` stops at an element of `intersect_nodes_`. -/
theorem scan_finds_node (π : List Nat) (nodes : List (Nat × Nat)) (hinv : nodes.Perm (invPairs π)) (hne : nodes ≠ []) :
    ∃ n ∈ nodes, ∃ l₁ l₂, π = l₁ ++ n.1 :: n.2 :: l₂ ∧ n.2 < n.1 := by
  have hN : invPairs π ≠ [] := fun h => hne (List.Perm.eq_nil (h ▸ hinv))
  obtain ⟨l₁, a, b, l₂, he, hlt, hm, _⟩ := adjacent_inversion_exists π hN
  exact ⟨(a, b), hinv.symm.subset hm, l₁, l₂, he, hlt⟩

/-- **The loop invariant is kept.**  Processing an adjacent node (exchanging its two edges in the AEL) leaves exactly the
inversions of the new order in the remaining node list, which is one shorter (so after `invCount π` such steps no node is
left, and then the order is the target order: `done_iff_sorted`). -/
theorem step_preserves_invariant (l₁ l₂ : List Nat) (a b : Nat) (nodes : List (Nat × Nat)) (hlt : b < a)
    (hinv : nodes.Perm (invPairs (l₁ ++ a :: b :: l₂))) :
    (nodes.erase (a, b)).Perm (invPairs (l₁ ++ b :: a :: l₂)) ∧ (nodes.erase (a, b)).length + 1 = nodes.length := by
  have hp := hinv.trans (invPairs_swap_perm l₁ l₂ a b hlt)
  have hm : (a, b) ∈ nodes := hp.symm.subset (List.mem_cons_self ..)
  refine ⟨?_, ?_⟩
  · have := (List.perm_cons_erase hm).symm.trans hp
    exact List.Perm.cons_inv this
  · rw [List.length_erase_of_mem hm]
    have : 0 < nodes.length := List.length_pos_of_mem hm
    omega

/-- no inversions left ⇒ the edges are in target order (`List.Pairwise (· ≤ ·)`) -/
theorem done_iff_sorted (π : List Nat) : invCount π = 0 ↔ π.Pairwise (· ≤ ·) := by
  rw [invCount_eq_length, List.length_eq_zero_iff, invPairs_eq_nil_iff]

/-- **The modelled loop of `ProcessIntersectList` commits no out-of-range read and terminates.**  `process` is the
executable model (`Model/IntersectList.lean`: the `for` loop, the unbounded inner `while` as `scanSwap`, which returns
`none` when the iterator would pass `end()`, `std::swap` of the two nodes, `SwapPositionsInAEL`).  Started on distinct
keys with a node list that is any permutation (any processing order `std::sort` may produce) of the inversions of the
AEL order, it returns `.ok π'` — never `.error scanPastEnd` — and `π'` is the same edges in target order.
The premise, that `BuildIntersectList` produces exactly the inversions, is proved of the model of that function in
`Props/C10Isect.lean` (`processIntersectList_no_fault_built`). -/
theorem processIntersectList_no_fault (π : List Nat) (nodes : List (Nat × Nat)) (hnd : π.Nodup)
    (hinv : nodes.Perm (invPairs π)) :
    ∃ π', Clipper.Model.IntersectList.process nodes.length π nodes = .ok π' ∧ π'.Pairwise (· ≤ ·) ∧ π'.Perm π := by
  obtain ⟨π', h1, h2, h3⟩ := Clipper.Lemmas.IntersectList.process_ok (fun b a => decide (b < a)) (key_inorder_trans id)
    (key_lt_asymm id) nodes.length π nodes rfl hnd (invPairs_eq π ▸ hinv)
  exact ⟨π', h1, h2.imp (fun h => Nat.not_lt.1 (of_decide_eq_false h)), h3⟩

/-- non-vacuity of the hypotheses, and the model does fault when the premise is violated (a node that is not an
inversion and never becomes adjacent): -/
example : [2, 0, 1].Nodup ∧ [(2, 1), (2, 0)].Perm (invPairs [2, 0, 1]) ∧
    Clipper.Model.IntersectList.process 2 [2, 0, 1] [(2, 1), (2, 0)] = .ok [0, 1, 2] ∧
    Clipper.Model.IntersectList.process 1 [0, 1, 2] [(0, 2)] = .error .scanPastEnd :=
  ⟨by decide, by decide, rfl, rfl⟩

/-- non-vacuity: the order `[2, 0, 1]` has the inversions `(2,0), (2,1)`; `(2,0)` is adjacent, `(2,1)` is not, and after
exchanging `2, 0` the only inversion left is `(2,1)`, which now is adjacent. -/
example : invPairs [2, 0, 1] = [(2, 0), (2, 1)] ∧ invPairs [0, 2, 1] = [(2, 1)] ∧ invCount [2, 0, 1] = 2 := by decide

/-- the value is representable in `int64_t` -/
def inI64 (v : Int) : Prop := -9223372036854775808 ≤ v ∧ v ≤ 9223372036854775807

/-- a coordinate within the stated range -/
def C29 (v : Int) : Prop := -536870912 ≤ v ∧ v ≤ 536870912

theorem diff_bound {a b : Int} (ha : C29 a) (hb : C29 b) : -1073741824 ≤ a - b ∧ a - b ≤ 1073741824 := by
  unfold C29 at ha hb; omega

theorem sum_bound {a b : Int} (ha : C29 a) (hb : C29 b) : -1073741824 ≤ a + b ∧ a + b ≤ 1073741824 := by
  unfold C29 at ha hb; omega

/-- magnitudes multiply -/
theorem natAbs_mul_le {a b : Int} {m n : Nat} (ha : a.natAbs ≤ m) (hb : b.natAbs ≤ n) : (a * b).natAbs ≤ m * n :=
  Int.natAbs_mul a b ▸ Nat.mul_le_mul ha hb

theorem natAbs_le_of_abs_le {v : Int} {k : Nat} (h : -(k : Int) ≤ v ∧ v ≤ k) : v.natAbs ≤ k := by omega

theorem abs_le_of_natAbs_le {v : Int} {k : Nat} (h : v.natAbs ≤ k) : -(k : Int) ≤ v ∧ v ≤ k :=
  ⟨Int.neg_le_of_neg_le (Int.le_trans (Int.natAbs_neg v ▸ Int.le_natAbs (a := -v)) (Int.ofNat_le.2 h)),
    Int.le_trans Int.le_natAbs (Int.ofNat_le.2 h)⟩

/-- product of two values of magnitude ≤ 2^30 has magnitude ≤ 2^60 -/
theorem mul_bound {a b : Int} (ha : -1073741824 ≤ a ∧ a ≤ 1073741824) (hb : -1073741824 ≤ b ∧ b ≤ 1073741824) :
    -1152921504606846976 ≤ a * b ∧ a * b ≤ 1152921504606846976 :=
  abs_le_of_natAbs_le (k := 1152921504606846976)
    (natAbs_mul_le (m := 1073741824) (n := 1073741824) (natAbs_le_of_abs_le ha) (natAbs_le_of_abs_le hb))

theorem inI64_of_2p60 {v : Int} (h : -1152921504606846976 ≤ v ∧ v ≤ 1152921504606846976) : inI64 v :=
  ⟨Int.le_trans (by decide) h.1, Int.le_trans h.2 (by decide)⟩

theorem inI64_of_2p30 {v : Int} (h : -1073741824 ≤ v ∧ v ≤ 1073741824) : inI64 v :=
  ⟨Int.le_trans (by decide) h.1, Int.le_trans h.2 (by decide)⟩

/-- `std::abs` of a value of magnitude ≤ 2^30: the argument is not `INT64_MIN`, the result has magnitude ≤ 2^30 again -/
theorem iabs_2p30 {v : Int} (h : -1073741824 ≤ v ∧ v ≤ 1073741824) :
    v ≠ -9223372036854775808 ∧ (-1073741824 ≤ Clipper.Gen.iabs v ∧ Clipper.Gen.iabs v ≤ 1073741824) := by
  unfold Clipper.Gen.iabs; split <;> omega

/-- **`CrossProductSign` / `IsCollinear` (128-bit build).**  The four `int64_t` differences have magnitude ≤ 2^30 and the
two products (computed in `__int128` there) have magnitude ≤ 2^60: they would even fit `int64_t`. -/
theorem crossProductSign_intermediates (x1 y1 x2 y2 x3 y3 : Int)
    (h : C29 x1 ∧ C29 y1 ∧ C29 x2 ∧ C29 y2 ∧ C29 x3 ∧ C29 y3) :
    inI64 (x2 - x1) ∧ inI64 (y3 - y2) ∧ inI64 (y2 - y1) ∧ inI64 (x3 - x2) ∧
    inI64 ((x2 - x1) * (y3 - y2)) ∧ inI64 ((y2 - y1) * (x3 - x2)) := by
  obtain ⟨h1, h2, h3, h4, h5, h6⟩ := h
  have a := diff_bound h3 h1; have b := diff_bound h6 h4; have c := diff_bound h4 h2; have d := diff_bound h5 h3
  exact ⟨inI64_of_2p30 a, inI64_of_2p30 b, inI64_of_2p30 c, inI64_of_2p30 d, inI64_of_2p60 (mul_bound a b),
    inI64_of_2p60 (mul_bound c d)⟩

/-- the generated `CrossProductSign` is the sign of the difference of exactly those two products, so under the bound its
value is decided by `int64_t`-representable quantities -/
theorem crossProductSign_spec (x1 y1 x2 y2 x3 y3 : Int) :
    Clipper.Gen.CrossProductSign x1 y1 x2 y2 x3 y3 =
      (if (x2 - x1) * (y3 - y2) > (y2 - y1) * (x3 - x2) then 1 else if (x2 - x1) * (y3 - y2) < (y2 - y1) * (x3 - x2) then -1 else 0) := by
  simp [Clipper.Gen.CrossProductSign]

/-- **portable branch** (`std::abs`, then `Multiply` on `uint64_t`): `std::abs` is applied to values of magnitude ≤ 2^30
(never `INT64_MIN`, for which it is undefined), its result is representable, and the products of the absolute values
are below 2^61 (so the high word of `Multiply` is 0 and nothing wraps). -/
theorem portable_abs_intermediates (x1 y1 x2 y2 x3 y3 : Int)
    (h : C29 x1 ∧ C29 y1 ∧ C29 x2 ∧ C29 y2 ∧ C29 x3 ∧ C29 y3) :
    let a := x2 - x1; let b := y3 - y2; let c := y2 - y1; let d := x3 - x2
    a ≠ -9223372036854775808 ∧ b ≠ -9223372036854775808 ∧ c ≠ -9223372036854775808 ∧ d ≠ -9223372036854775808 ∧
    inI64 (Clipper.Gen.iabs a) ∧ inI64 (Clipper.Gen.iabs b) ∧ inI64 (Clipper.Gen.iabs c) ∧ inI64 (Clipper.Gen.iabs d) ∧
    Clipper.Gen.iabs a * Clipper.Gen.iabs b < 2305843009213693952 ∧ Clipper.Gen.iabs c * Clipper.Gen.iabs d < 2305843009213693952 := by
  obtain ⟨h1, h2, h3, h4, h5, h6⟩ := h
  have ia := iabs_2p30 (diff_bound h3 h1); have ib := iabs_2p30 (diff_bound h6 h4)
  have ic := iabs_2p30 (diff_bound h4 h2); have id := iabs_2p30 (diff_bound h5 h3)
  exact ⟨ia.1, ib.1, ic.1, id.1, inI64_of_2p30 ia.2, inI64_of_2p30 ib.2, inI64_of_2p30 ic.2, inI64_of_2p30 id.2,
    Int.lt_of_le_of_lt (mul_bound ia.2 ib.2).2 (by decide), Int.lt_of_le_of_lt (mul_bound ic.2 id.2).2 (by decide)⟩

/-- **`PtsReallyClose`**: the two differences fed to `std::abs` have magnitude ≤ 2^30 -/
theorem ptsReallyClose_intermediates (x1 y1 x2 y2 : Int) (h : C29 x1 ∧ C29 y1 ∧ C29 x2 ∧ C29 y2) :
    inI64 (x1 - x2) ∧ inI64 (y1 - y2) ∧ x1 - x2 ≠ -9223372036854775808 ∧ y1 - y2 ≠ -9223372036854775808 ∧
    inI64 (Clipper.Gen.iabs (x1 - x2)) ∧ inI64 (Clipper.Gen.iabs (y1 - y2)) := by
  obtain ⟨h1, h2, h3, h4⟩ := h
  have a := diff_bound h1 h3; have b := diff_bound h2 h4
  exact ⟨inI64_of_2p30 a, inI64_of_2p30 b, (iabs_2p30 a).1, (iabs_2p30 b).1, inI64_of_2p30 (iabs_2p30 a).2,
    inI64_of_2p30 (iabs_2p30 b).2⟩

/-- **`Area`**: for each shoelace term `(it2->y + it1->y) * (it2->x - it1->x)` the sum and the difference (the `int64_t`
operations) have magnitude ≤ 2^30, and the term itself (a `double` product in C++) has magnitude ≤ 2^60 < 2^61. -/
theorem areaTerm_intermediates (p2 p1 : Pt) (h : C29 p2.x ∧ C29 p2.y ∧ C29 p1.x ∧ C29 p1.y) :
    inI64 (p2.y + p1.y) ∧ inI64 (p2.x - p1.x) ∧
    -2305843009213693952 < Clipper.Model.areaTerm p2 p1 ∧ Clipper.Model.areaTerm p2 p1 < 2305843009213693952 := by
  obtain ⟨h1, h2, h3, h4⟩ := h
  have s := sum_bound h2 h4; have d := diff_bound h1 h3
  have m := mul_bound s d
  exact ⟨inI64_of_2p30 s, inI64_of_2p30 d, Int.lt_of_lt_of_le (by decide) m.1, Int.lt_of_le_of_lt m.2 (by decide)⟩

/-- The remaining generated integer functions perform no arithmetic on coordinates: `GetLocation`, `GetEdgesForPt`,
`IsHeadingClockwise`, `HasHorzOverlap`, `HasVertOverlap`, `IsContributingClosed/Open` only compare; the location helpers
compute on enum values 0..4: `(loc + delta) % 4` with `delta ∈ {1, 3}` stays within `0..7` before the remainder. -/
theorem location_arith_small (loc : Nat) (hl : loc ≤ 4) (delta : Nat) (hd : delta = 1 ∨ delta = 3) :
    loc + delta ≤ 7 ∧ (loc + delta) % 4 < 4 := by omega

/-- The clauses above collected: with every coordinate in [-2^29, 2^29] each `int64_t`
intermediate of `CrossProductSign`/`IsCollinear` (both code paths), `PtsReallyClose` and `Area` is representable. -/
theorem no_overflow_2p29 (x1 y1 x2 y2 x3 y3 : Int) (h : C29 x1 ∧ C29 y1 ∧ C29 x2 ∧ C29 y2 ∧ C29 x3 ∧ C29 y3) :
    (inI64 (x2 - x1) ∧ inI64 (y3 - y2) ∧ inI64 (y2 - y1) ∧ inI64 (x3 - x2) ∧
      inI64 ((x2 - x1) * (y3 - y2)) ∧ inI64 ((y2 - y1) * (x3 - x2))) ∧
    (inI64 (x1 - x2) ∧ inI64 (y1 - y2)) ∧
    (inI64 (y2 + y1) ∧ inI64 (x2 - x1) ∧ inI64 (Clipper.Model.areaTerm ⟨x2, y2⟩ ⟨x1, y1⟩)) := by
  have hc := crossProductSign_intermediates x1 y1 x2 y2 x3 y3 h
  obtain ⟨h1, h2, h3, h4, h5, h6⟩ := h
  have hp := ptsReallyClose_intermediates x1 y1 x2 y2 ⟨h1, h2, h3, h4⟩
  have ha := areaTerm_intermediates ⟨x2, y2⟩ ⟨x1, y1⟩ ⟨h3, h4, h1, h2⟩
  refine ⟨hc, ⟨hp.1, hp.2.1⟩, ha.1, ha.2.1, ?_⟩
  unfold inI64; omega

example : C29 536870912 ∧ C29 (-536870912) ∧ C29 0 := by unfold C29; omega

/-! `TopX`: `bot.x + static_cast<int64_t>(nearbyint(dx * (currentY - bot.y)))`, `dx = (top.x - bot.x) / (top.y - bot.y)`.
A statement "the cast is in range for |coordinate| ≤ 2^62" is **not provable — it is false** (known finding
`kf.ub.topx_overflow*`).  What holds: the exact value of the product is `Δx·Δy / ΔyE` (`Δx = top.x − bot.x`,
`ΔyE = top.y − bot.y ≠ 0`, `Δy = currentY − bot.y`), it fits `int64_t` iff `|Δx·Δy| < 2^63·|ΔyE|`; this is guaranteed
while `currentY` lies within the edge's own y-range, and for arbitrary `currentY` when coordinates are ≤ 2^30. -/

/-- the precise condition, as a definition over the exact rational value -/
def TopXFits (dX dYE dY : Int) : Prop := (dX * dY).natAbs < 9223372036854775808 * dYE.natAbs

/-- inside the edge's own y-range (`|Δy| ≤ |ΔyE|`) the product is at most `|Δx|`: fits whenever `Δx` itself does -/
theorem topX_fits_inside_edge (dX dYE dY : Int) (hE : dYE ≠ 0) (hin : dY.natAbs ≤ dYE.natAbs)
    (hx : dX.natAbs < 9223372036854775808) : TopXFits dX dYE dY := by
  unfold TopXFits
  rw [Int.natAbs_mul]
  have hpos : 0 < dYE.natAbs := Int.natAbs_pos.mpr hE
  calc dX.natAbs * dY.natAbs ≤ dX.natAbs * dYE.natAbs := Nat.mul_le_mul_left _ hin
    _ < 9223372036854775808 * dYE.natAbs := Nat.mul_lt_mul_of_pos_right hx hpos

/-- for coordinates of magnitude ≤ 2^30 (differences ≤ 2^31) the product fits for **every** `currentY`, also outside the
edge's y-range (this is the bound the harness uses for general random input) -/
theorem topX_fits_2p30 (dX dYE dY : Int) (hE : dYE ≠ 0) (hx : dX.natAbs ≤ 2147483648) (hy : dY.natAbs ≤ 2147483648) :
    TopXFits dX dYE dY := by
  exact Nat.lt_of_le_of_lt (natAbs_mul_le hx hy)
    (Nat.lt_of_lt_of_le (by decide) (Nat.le_mul_of_pos_right _ (Int.natAbs_pos.2 hE)))

/-- **the condition fails inside the documented range**: an edge with `Δx = 2^35`, `ΔyE = 1`, asked for its x at
`Δy = 2^35` (cf. the harness witness `kf.ub.topx_overflow.2p35`: coordinates ≤ 2^35) -/
theorem topX_does_not_fit_witness : ¬ TopXFits 34359738368 1 34359738368 := by
  unfold TopXFits; decide

section AddPaths
open Clipper.Model.AddPaths

theorem changes_le (prev : Pt) (l : List Pt) : changes prev l ≤ l.length := by
  induction l generalizing prev with
  | nil => simp [changes]
  | cons b t ih =>
    simp only [changes, List.length_cons]
    split
    · have := ih prev; omega
    · have := ih b; omega

/-- a path never occupies more cells than it has points -/
theorem written_le (p : List Pt) : written p ≤ p.length := by
  cases p with
  | nil => simp [written]
  | cons a t => have := changes_le a t; simp [written]; omega

/-- one path moves the cursor, and the highest cell written, by at most its number of points -/
theorem stepPath_bound (c : Cur) (p : List Pt) (n : Nat) (hv : c.v ≤ n) (hh : c.hi ≤ n) :
    (stepPath c p).v ≤ n + p.length ∧ (stepPath c p).hi ≤ n + p.length := by
  have hw := written_le p
  simp only [stepPath]
  constructor <;> split <;> omega

theorem cursor_bound (paths : List (List Pt)) (c : Cur) (n : Nat) (hv : c.v ≤ n) (hh : c.hi ≤ n) :
    (paths.foldl stepPath c).v ≤ n + total paths ∧ (paths.foldl stepPath c).hi ≤ n + total paths := by
  induction paths generalizing c n with
  | nil => exact ⟨hv, hh⟩
  | cons p ps ih =>
    obtain ⟨h1, h2⟩ := stepPath_bound c p n hv hh
    have h := ih (stepPath c p) (n + p.length) h1 h2
    rwa [Nat.add_assoc] at h

/-- `AddPaths_` writes only inside `new Vertex[total_vertex_count]`: for every list of paths (empty paths, single points, runs of duplicates, paths that
are skipped without advancing the cursor included) every cell written lies below `total_vertex_count`, the size of
the array allocated; the cursor itself also never passes it. -/
theorem addPaths_vertex_count (paths : List (List Pt)) :
    (cursor paths).hi ≤ total paths ∧ (cursor paths).v ≤ total paths := by
  have := cursor_bound paths ⟨0, 0⟩ 0 (Nat.le_refl 0) (Nat.le_refl 0)
  simp only [Nat.zero_add] at this
  exact ⟨this.2, this.1⟩

/-- the early return `if (total_vertex_count == 0) return;` is taken exactly when nothing would be written -/
theorem addPaths_nothing_written_of_total_zero (paths : List (List Pt)) (h : total paths = 0) : (cursor paths).hi = 0 := by
  have := (addPaths_vertex_count paths).1; omega

/-- non-vacuity: an all-equal path (skipped, cursor not advanced) followed by a triangle with a duplicate -/
example : cursor [[⟨1, 1⟩, ⟨1, 1⟩], [⟨0, 0⟩, ⟨0, 0⟩, ⟨5, 0⟩, ⟨0, 5⟩]] = ⟨3, 3⟩ ∧
    total [[⟨1, 1⟩, ⟨1, 1⟩], [⟨0, 0⟩, ⟨0, 0⟩, ⟨5, 0⟩, ⟨0, 5⟩]] = 6 := by decide
end AddPaths

end Clipper.Props.C10

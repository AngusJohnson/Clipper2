/-
C15, Z accounting for OPEN paths: theorems on `Model/AelOpenRingsZ.lean`, the Z layer of the open-path assembly model (`Model/AelOpenRings.lean`, C05), tied to a
USINGZ build of the real engine by replaying hook traces with every open output record compared triple for triple, the real `solution_open` with z, and the callback
log (`harness/aelopenringsz.h`, `harness/C15openrings.cpp`, driver command `AELOPENRINGSZ`).

Proved for **every** event list from the empty state, every callback family, every `DefaultZ`, every clip type and fill rule:
forgetting z gives the open model, every triple of an open record and of the returned open solution is accounted for (`open_record_z_provenance`,
`open_solution_accounting`), triples are conserved, one callback counter runs through closed and open emissions; each theorem says below what it stands for.

Not covered: `BuildPathD`'s extra test is modelled as it is (recorded finding kf.d-api.ClipperD.open-3pt: `ClipperD` drops open 3-`OutPt` records with two points closer than 2
scaled units), no theorem is claimed about it; `PolyTree` output uses the same `BuildPath64`.
-/
import ClipperVerif.Lemmas.AelOpenRingsZ
import ClipperVerif.Props.C15Rings
import ClipperVerif.Props.C05Rings
namespace Clipper.Props.C15OpenRings
open Clipper Clipper.Model Clipper.Model.ZFill

/-- **eraseOZ_step.** Forgetting the Z parts, an accepted event is the same event (z forgotten) of the open model `Model.stepO`; the closed Z rings change by `Model.outStepZ`,
the open Z records by `Model.openStepZ`, both computed from the state before the event, the callback counter running through both. -/
theorem eraseOZ_step (cfg : Cfg) (zc : ZCfg) (st st' : ZOState) (op : ZOOp) (h : stepOZ cfg zc st op = .ok st') :
    stepO cfg st.o op.erase = .ok st'.o ∧
    st'.zo = openStepZ cfg zc st.o.x (st.zo.withCounter (outStepZ cfg zc st.o.r.s st.z op.toZOp)) op ∧
    st'.z = (outStepZ cfg zc st.o.r.s st.z op.toZOp).withCounter st'.zo := by
  unfold stepOZ at h
  cases hs : stepO cfg st.o op.erase with
  | ok o' => simp only [hs] at h; cases h; exact ⟨rfl, rfl, rfl⟩
  | error e => simp [hs] at h

/-- **eraseOZ_run.** A run of the Z model projects to a run of the open model on the events with z forgotten. -/
theorem eraseOZ_run (cfg : Cfg) (zc : ZCfg) (ops : List ZOOp) : ∀ (st st' : ZOState), runOZ cfg zc st ops = .ok st' →
    runO cfg st.o (ops.map ZOOp.erase) = .ok st'.o := by
  induction ops with
  | nil => intro st st' h; cases h; rfl
  | cons op ops ih =>
    intro st st' h
    obtain ⟨st1, hs, hr⟩ := runOZ_cons h
    simp only [List.map_cons, runO, (eraseOZ_step cfg zc st st1 op hs).1]
    exact ih st1 st' hr

/-- how an open-layer log entry arose: `Model.EmitFrom` with `S = false` (the open layer never starts a record by value inside `IntersectEdges`), `SetZ` having been called with the
open edge first: with the event's end points as they stand or exchanged -/
def FromOpenEvents (zc : ZCfg) (E : List ZOOp) (e : ZEmit) : Prop :=
  ∃ op ∈ E, EmitFrom zc op.isX false (fun o => o = op.ends ∨ o = op.ends.swap) op.ptz e

structure ZOInv (zc : ZCfg) (E : List ZOOp) (st : ZOState) : Prop where
  agreeC : Agree st.z st.o.r.o
  agreeO : Agree st.zo st.o.x.oo
  sync : st.z.ncb = st.zo.ncb ∧ st.z.calls = st.zo.calls
  permO : PermZOK st.zo
  calls : CallsOK zc st.zo
  callsC : ∀ e ∈ st.z.log, ∀ k, e.src = .setz k → k < st.z.ncb
  fromO : ∀ e ∈ st.zo.log, FromOpenEvents zc E e

theorem zoinv_empty (zc : ZCfg) : ZOInv zc [] ZOState.empty :=
  { agreeC := ⟨rfl, rfl⟩, agreeO := ⟨rfl, rfl⟩, sync := ⟨rfl, rfl⟩, permO := List.Perm.nil,
    calls := ⟨rfl, fun _ hc => (by cases hc), fun _ he => (by cases he)⟩, callsC := fun _ he => (by cases he), fromO := fun _ he => (by cases he) }

theorem zoinv_step (cfg : Cfg) (zc : ZCfg) (E : List ZOOp) (st st' : ZOState) (op : ZOOp) (h : ZOInv zc E st) (hs : stepOZ cfg zc st op = .ok st') :
    ZOInv zc (op :: E) st' := by
  obtain ⟨h1, h2, h3⟩ := eraseOZ_step cfg zc st st' op hs
  obtain ⟨hR, hX⟩ := C05Rings.erase_open_rings_step cfg st.o st'.o op.erase h1
  have ho : st'.o.r.o = outStep cfg st.o.r.s st.o.r.o op.toZOp.erase := by
    rw [← outStep_erase_eq]; exact (C01Rings.erase_ring_step cfg st.o.r st'.o.r op.erase.erase hR).2
  have hz1 := fun R hp => rel_outStepZ cfg zc st.o.r.s st.z st.o.r.o op.toZOp true R hp (Or.inl rfl)
  have monoC : st.z.ncb ≤ (outStepZ cfg zc st.o.r.s st.z op.toZOp).ncb :=
    hz1 _ (ncbMono_prim st.z.ncb zc _ _ _ _) (Nat.le_refl _)
  have callsC1 : CallsOK zc (outStepZ cfg zc st.o.r.s st.z op.toZOp) := by
    have hc : CallsOK zc st.z := ⟨by rw [h.sync.1, h.sync.2]; exact h.calls.1, by rw [h.sync.2]; exact h.calls.2.1, h.callsC⟩
    exact hz1 _ (callsOK_prim zc _ _ _ _) hc
  -- the open layer starts from the closed layer's counter
  have calls0 : CallsOK zc (st.zo.withCounter (outStepZ cfg zc st.o.r.s st.z op.toZOp)) :=
    callsOK_withCounter zc _ _ callsC1 (fun e he k hk => Nat.lt_of_lt_of_le (h.calls.2.2 e he k hk) (by rw [← h.sync.1]; exact monoC))
  have lift : ∀ (S : Bool) (R : ZOut → Out → Prop), PrimRel zc op.isX S op.ends op.ptz R → PrimRel zc op.isX S op.ends.swap op.ptz R →
      R (st.zo.withCounter (outStepZ cfg zc st.o.r.s st.z op.toZOp)) st.o.x.oo → R st'.zo st'.o.x.oo := by
    intro S R p1 p2 hr
    rw [h2]; exact rel_openStepZ cfg zc S st.o.x st'.o.x _ op R p1 p2 (openStep_spec hX) hr
  have monoO : (outStepZ cfg zc st.o.r.s st.z op.toZOp).ncb ≤ st'.zo.ncb :=
    lift true _ (ncbMono_prim _ zc _ _ _ _) (ncbMono_prim _ zc _ _ _ _) (Nat.le_refl _)
  refine { agreeC := ?_, agreeO := lift true Agree (agree_prim zc _ _ _ _) (agree_prim zc _ _ _ _) h.agreeO, sync := by rw [h3]; exact ⟨rfl, rfl⟩,
           permO := lift true _ (permZOK_prim zc _ _ _ _) (permZOK_prim zc _ _ _ _) h.permO,
           calls := lift true _ (callsOK_prim zc _ _ _ _) (callsOK_prim zc _ _ _ _) calls0, callsC := ?_, fromO := ?_ }
  · rw [h3]
    have := hz1 Agree (by rw [isX_toZOp, ends_toZOp]; exact agree_prim zc _ _ _ _) h.agreeC
    rw [ho]; exact this
  · intro e he k hk
    rw [h3] at he ⊢
    exact Nat.lt_of_lt_of_le (callsC1.2.2 e he k hk) monoO
  · have p := fun ends hE => logFrom_primRel (· ∈ st.zo.log) zc op.isX false (fun o => o = op.ends ∨ o = op.ends.swap) ends hE op.ptz
    have := lift false _ (p _ (Or.inl rfl)) (p _ (Or.inr rfl)) (fun e he => Or.inl he)
    intro e he
    rcases this e he with h' | h'
    · obtain ⟨op', hop', hf⟩ := h.fromO e h'
      exact ⟨op', List.mem_cons_of_mem _ hop', hf⟩
    · exact ⟨op, List.mem_cons_self, h'⟩

theorem zoinv_reachable (cfg : Cfg) (zc : ZCfg) (ops : List ZOOp) (st : ZOState) (hr : runOZ cfg zc ZOState.empty ops = .ok st) : ZOInv zc ops.reverse st := by
  have := C01Rings.run_invariant (stepOZ cfg zc) (runOZ cfg zc) (fun _ => rfl) (fun _ _ _ _ h => by rw [runOZ, h]) (fun _ _ _ _ h => by rw [runOZ, h])
    (ZOInv zc) ops [] _ st (fun E s s' op _ h hs => zoinv_step cfg zc E s s' op h hs) (zoinv_empty zc) hr
  rwa [List.append_nil] at this

/-- **zo_records_agree.** In every reachable state, forgetting the z of every point: the open Z records are the open records of the open model (same records, same state, same points
in the same order) with its emission log; the closed Z rings are the rings of the ring model with its log — also in sweeps with open paths. -/
theorem zo_records_agree (cfg : Cfg) (zc : ZCfg) (ops : List ZOOp) (st : ZOState) (hr : runOZ cfg zc ZOState.empty ops = .ok st) :
    (st.zo.rings.map ZRing.erase = st.o.x.oo.rings.map Ring.core ∧ st.zo.log.map ZEmit.erase = st.o.x.oo.log) ∧
    (st.z.rings.map ZRing.erase = st.o.r.o.rings.map Ring.core ∧ st.z.log.map ZEmit.erase = st.o.r.o.log) :=
  ⟨(zoinv_reachable cfg zc ops st hr).agreeO, (zoinv_reachable cfg zc ops st hr).agreeC⟩

/-- **open_record_z_provenance.** Every triple `q` of every open output record is the triple of a log entry that stored it, made by one of the events `op`:
* by value: `q = op.ptz`, the triple the event was handed, z included (path ends, local minima / maxima inside the path, passed vertices: input vertices with the input's z;
  an `IntersectEdges` event only if no callback is installed);
* through `SetZ`: `op` is an `IntersectEdges` event (`intersect` or `locMinX`) with point `pt` and edge end points `ends`, a callback family `F` is installed, and
  `q = setZ (some (F k)) subj o.e1bot o.e1top o.e2bot o.e2top pt DefaultZ` where `o = ends` or `o = ends.swap`: `SetZ(*edge_o, *edge_c, …)` passes the open edge as `e1`. -/
theorem open_record_z_provenance (cfg : Cfg) (zc : ZCfg) (ops : List ZOOp) (st : ZOState) (hr : runOZ cfg zc ZOState.empty ops = .ok st)
    (g : ZRing) (hg : g ∈ st.zo.rings) (q : PtZ) (hq : q ∈ g.pts) :
    ∃ op ∈ ops,
      (q = op.ptz ∧ (op.isX = true → zc.cb = none)) ∨
      (op.isX = true ∧ ∃ F k subj o, zc.cb = some F ∧ (o = op.ends ∨ o = op.ends.swap) ∧
        q = setZ (some (F k)) subj o.e1bot o.e1top o.e2bot o.e2top op.ptz zc.defaultZ) := by
  have h := zoinv_reachable cfg zc ops st hr
  obtain ⟨e, he, _, h2⟩ := provOK_of_perm _ h.permO g hg q hq
  obtain ⟨op, hop, hf⟩ := h.fromO e he
  refine ⟨op, by simpa using hop, ?_⟩
  rcases hf.unj with ⟨_, f2, f3⟩ | ⟨hX, F, k, subj, o, ho, hF, _, f3⟩
  · exact Or.inl ⟨by rw [← h2, f2], f3⟩
  · exact Or.inr ⟨hX, F, k, subj, o, hF, ho, by rw [← h2, f3]⟩

/-- **open_solution_z_provenance.** Every vertex `q` of every path of the open solution (`BuildPath64` / `BuildPathD` on the open records, either orientation) is a triple of an open
record — `BuildPath64` copies `pt` with its z and only skips points; open paths are not cleaned up — and therefore accounted for as in `open_record_z_provenance`:
the triple an event handed over by value (with no callback also the `pt` of an `IntersectEdges`), or `setZ` of an `IntersectEdges` event's point, open edge first. -/
theorem open_solution_z_provenance (cfg : Cfg) (zc : ZCfg) (ops : List ZOOp) (st : ZOState) (hr : runOZ cfg zc ZOState.empty ops = .ok st)
    (rev dApi : Bool) (path : List PtZ) (hp : path ∈ openSolutionZ rev dApi st.zo.rings) (q : PtZ) (hq : q ∈ path) :
    ∃ op ∈ ops,
      (q = op.ptz ∧ (op.isX = true → zc.cb = none)) ∨
      (op.isX = true ∧ ∃ F k subj o, zc.cb = some F ∧ (o = op.ends ∨ o = op.ends.swap) ∧
        q = setZ (some (F k)) subj o.e1bot o.e1top o.e2bot o.e2top op.ptz zc.defaultZ) := by
  unfold openSolutionZ at hp
  obtain ⟨g, hg, hb⟩ := List.mem_filterMap.mp hp
  exact open_record_z_provenance cfg zc ops st hr g hg q (buildOpenPathZ_mem rev dApi g.pts path hb q hq)

/-- **open_solution_accounting** — the Z clause of C15 for the open solution, with a callback `F` installed: every vertex of every returned open path either is, z included, the
triple a vertex event supplied (an input vertex of an open path with its z), or was passed to the callback by an `IntersectEdges` event and carries its answer: the callback's
`k`-th call received `(sb, st, cb, ct)` = the end points of the two edges, **the open (subject) edge first** unless `subj` is false, and the point `seen` with the x, y of the
crossing and the z of the first of them the crossing coincides with, else `DefaultZ`. -/
theorem open_solution_accounting (cfg : Cfg) (zc : ZCfg) (F : Nat → Callback) (hF : zc.cb = some F) (ops : List ZOOp) (st : ZOState)
    (hr : runOZ cfg zc ZOState.empty ops = .ok st) (rev dApi : Bool) (path : List PtZ) (hp : path ∈ openSolutionZ rev dApi st.zo.rings) (q : PtZ) (hq : q ∈ path) :
    ∃ op ∈ ops,
      (op.isX = false ∧ q = op.ptz) ∨
      (op.isX = true ∧ ∃ k sb st' cb ct seen,
        ((sb, st', cb, ct) = (op.ends.e1bot, op.ends.e1top, op.ends.e2bot, op.ends.e2top) ∨ (sb, st', cb, ct) = (op.ends.e2bot, op.ends.e2top, op.ends.e1bot, op.ends.e1top)) ∧
        C15Rings.Shown zc.defaultZ sb st' cb ct op.ptz seen ∧ q.x = op.ptz.x ∧ q.y = op.ptz.y ∧ q.z = F k sb st' cb ct seen) := by
  obtain ⟨op, hop, h⟩ := open_solution_z_provenance cfg zc ops st hr rev dApi path hp q hq
  refine ⟨op, hop, ?_⟩
  rcases h with ⟨h1, h2⟩ | ⟨hX, F', k, subj, o, hF', ho, h3⟩
  · left
    refine ⟨?_, h1⟩
    cases hX : op.isX with
    | false => rfl
    | true => rw [h2 hX] at hF; cases hF
  · right
    rw [hF] at hF'; cases hF'
    obtain ⟨sb, st', cb, ct, seen, h4, h5, h6⟩ := C15Rings.setZ_accounting F k subj o op.ptz zc.defaultZ
    rw [← h3] at h6
    refine ⟨hX, k, sb, st', cb, ct, seen, ?_, h5, by rw [h6], by rw [h6], by rw [h6]⟩
    -- exchanging the edges exchanges the two orders
    rcases ho with rfl | rfl
    · exact h4
    · exact h4.symm

/-- **open_solution_erase.** Forgetting z, the open solution built from the Z records by `BuildPath64` is the open solution the open model builds (`Model.openSolution`, which
`Props/C05Rings.lean` characterises and `AELOPENRINGS` compares with the real one). -/
theorem open_solution_erase (cfg : Cfg) (zc : ZCfg) (ops : List ZOOp) (st : ZOState) (hr : runOZ cfg zc ZOState.empty ops = .ok st) (rev : Bool) :
    (openSolutionZ rev false st.zo.rings).map (·.map xy) = openSolution rev st.o.x.oo.rings := by
  -- both solutions are `filterMap (buildOpenPath rev)` of the lists of x, y points of the records, which agree
  have ha := congrArg (List.map Prod.snd) (zo_records_agree cfg zc ops st hr).1.1
  simp only [List.map_map] at ha
  have e1 : (openSolutionZ rev false st.zo.rings).map (·.map xy) = (st.zo.rings.map (Prod.snd ∘ ZRing.erase)).filterMap (buildOpenPath rev) := by
    rw [openSolutionZ, List.map_filterMap, List.filterMap_map]
    exact congrArg (fun f => List.filterMap f _) (funext fun g => buildOpenPathZ_erase rev g.pts)
  rw [e1, ha, openSolution, List.filterMap_map]; rfl

/-- **open_records_conserve_triples.** Conservation of `(x, y, z)` triples for the open records: the triples in all open records together with those `SetZ` overwrote are, as a multiset,
exactly the triples stored; `JoinOutrecPaths` on open records, `SetSides` and the release of record ends write no z. -/
theorem open_records_conserve_triples (cfg : Cfg) (zc : ZCfg) (ops : List ZOOp) (st : ZOState) (hr : runOZ cfg zc ZOState.empty ops = .ok st) :
    (allPtsZ st.zo.rings ++ (st.zo.log.filter (fun e => e.kind == .over)).map (·.old)).Perm ((st.zo.log.filter ZEmit.stored).map (·.ptz)) :=
  (zoinv_reachable cfg zc ops st hr).permO

/-- **callback_log_sound_open.** One callback counter runs through the closed and the open emissions: in every reachable state both Z outputs carry the same counter and log, the
calls are numbered `ncb-1, …, 0`, every recorded answer is the family's answer to the recorded arguments, and every `setz k` entry of either log refers to a call made. -/
theorem callback_log_sound_open (cfg : Cfg) (zc : ZCfg) (ops : List ZOOp) (st : ZOState) (hr : runOZ cfg zc ZOState.empty ops = .ok st) :
    st.z.ncb = st.zo.ncb ∧ st.z.calls = st.zo.calls ∧
    st.zo.calls.map (·.k) = (List.range st.zo.ncb).reverse ∧
    (∀ c ∈ st.zo.calls, ∃ F, zc.cb = some F ∧ c.ret = F c.k c.a c.b c.c c.d c.seen) ∧
    (∀ e ∈ st.zo.log ++ st.z.log, ∀ k, e.src = .setz k → k < st.zo.ncb) := by
  have h := zoinv_reachable cfg zc ops st hr
  refine ⟨h.sync.1, h.sync.2, h.calls.1, h.calls.2.1, ?_⟩
  intro e he k hk
  rcases List.mem_append.mp he with he | he
  · exact h.calls.2.2 e he k hk
  · rw [← h.sync.1]; exact h.callsC e he k hk

theorem checkAgreeO_sound (st : ZOState) (h : checkAgreeO st = true) : Agree st.zo st.o.x.oo ∧ Agree st.z st.o.r.o ∧ st.z.ncb = st.zo.ncb := by
  unfold checkAgreeO at h
  simp only [Bool.and_eq_true, beq_iff_eq] at h
  exact ⟨⟨h.1.1.1.1, h.1.1.1.2⟩, ⟨h.1.1.2, h.1.2⟩, h.2⟩

/-- non-vacuity, the event list of a real trace (`harness/C15openrings.cpp`, corpus.segment-through-square) with z labels: clip quadrilateral (0,0,z=3) (100,3,6) (103,101,9) (2,98,12), open subject segment (-50,40,z=21) → (160,61,24): the events of the real sweep -/
def segmentThroughSquare : List ZOOp :=
  [ .ev (.insertPair 0 .clip false 1 ⟨103, 101, 9⟩),
    .ev (.update 0 ⟨2, 98, 12⟩),
    .insertOne 2 .subject (-1) ⟨160, 61, 24⟩,
    .ev (.intersect 1 ⟨101, 55, 0⟩ ⟨⟨103, 101, 9⟩, ⟨100, 3, 6⟩, ⟨160, 61, 24⟩, ⟨-50, 40, 21⟩⟩),
    .ev (.intersect 0 ⟨0, 45, 0⟩ ⟨⟨2, 98, 12⟩, ⟨0, 0, 3⟩, ⟨160, 61, 24⟩, ⟨-50, 40, 21⟩⟩),
    .removeOne 0 ⟨-50, 40, 21⟩,
    .ev (.update 1 ⟨100, 3, 6⟩),
    .ev (.removePair 0 ⟨0, 0, 3⟩) ]

def solutionOf (zc : ZCfg) (ct : ClipType) (rev : Bool) : Option (List (List PtZ)) :=
  (runOZ ⟨ct, .nonZero⟩ zc ZOState.empty segmentThroughSquare).toOption.map (fun st => openSolutionZ rev false st.zo.rings)

/-- Intersection with the counting callback: the inside piece, both ends made by the callback (calls 0 and 1); the callback was shown the open edge's end points first although
the open edge is the *right* one of the two at both crossings -/
example : solutionOf C15Rings.fresh .intersection false = some [[⟨0, 45, 1001⟩, ⟨101, 55, 1000⟩]] := by decide +kernel
example : (runOZ ⟨.intersection, .nonZero⟩ C15Rings.fresh ZOState.empty segmentThroughSquare).toOption.map (fun st => st.zo.calls.map (fun c => (c.k, c.a, c.b, c.c, c.d))) =
    some [(1, ⟨160, 61, 24⟩, ⟨-50, 40, 21⟩, ⟨2, 98, 12⟩, ⟨0, 0, 3⟩), (0, ⟨160, 61, 24⟩, ⟨-50, 40, 21⟩, ⟨103, 101, 9⟩, ⟨100, 3, 6⟩)] := by decide +kernel
/-- Difference: the two outside pieces; their outer ends are the input's end vertices with the input's z -/
example : solutionOf C15Rings.fresh .difference false = some [[⟨101, 55, 1000⟩, ⟨160, 61, 24⟩], [⟨-50, 40, 21⟩, ⟨0, 45, 1001⟩]] := by decide +kernel
/-- without a callback the crossings keep z = 0; `ReverseSolution` reverses the path, triples intact -/
example : solutionOf C15Rings.nocb .intersection true = some [[⟨101, 55, 0⟩, ⟨0, 45, 0⟩]] := by decide +kernel
/-- `BuildPath64` drops a point equal in x, y to the one just copied and keeps the first one's z; `BuildPathD` also drops a three-`OutPt` record with two points less than 2 apart -/
example : buildOpenPathZ true false [⟨0, 0, 1⟩, ⟨0, 0, 2⟩, ⟨5, 5, 3⟩] = some [⟨0, 0, 1⟩, ⟨5, 5, 3⟩] := by decide +kernel
example : (buildOpenPathZ false false [⟨10, 9, 1⟩, ⟨8, 12, 2⟩, ⟨11, 9, 3⟩], buildOpenPathZ false true [⟨10, 9, 1⟩, ⟨8, 12, 2⟩, ⟨11, 9, 3⟩]) =
    (some [⟨11, 9, 3⟩, ⟨8, 12, 2⟩, ⟨10, 9, 1⟩], none) := by decide +kernel

end Clipper.Props.C15OpenRings

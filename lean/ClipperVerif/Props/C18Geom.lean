/-
C18 — geometric predicates are exact and measurements accurate (part 2: PointInPolygon, Area,
GetSegmentIntersectPt).  Theorems about the hand-written models of `Model/Geom.lean`, which the harness
`harness/C18.cpp` + `harness/C18_geom.inc` ties to the compiled code (output-level correspondence) on every run.
Helper lemmas: `Lemmas/GeomBasic.lean`, `Lemmas/PipScan.lean`, `Lemmas/PipRefine.lean`.
-/
import ClipperVerif.Lemmas.PipRefine
namespace Clipper.Props.C18Geom
open Clipper Clipper.Model Clipper.Lemmas.Geom

/-- the two early exits: fewer than three vertices, or no vertex off the horizontal line through the point -/
theorem pointInPolygonG_early {cp} {p : Pt} {poly : Path} (h : poly.length < 3 ∨ findFirst p.y poly = poly.length) :
    pointInPolygonG cp p poly = some .isOutside := by
  unfold pointInPolygonG
  by_cases hn : poly.length < 3
  · rw [if_pos hn]
  · rw [if_neg hn]; simp only [h.resolve_left hn, if_true]

/-- **Termination and memory safety of `PointInPolygon`.**  For every point and every vertex list the model
returns a result: the outer `while (true)` loop ends within the `2·n + 4` iterations of fuel it is given, the two
inner loops end, and no iterator is dereferenced outside the vector (`none` would be such a fault). -/
theorem pip_total (p : Pt) (poly : Path) : ∃ r, pointInPolygonX p poly = some r := by
  by_cases h : poly.length < 3 ∨ findFirst p.y poly = poly.length
  · exact ⟨_, pointInPolygonG_early h⟩
  · have hlt : findFirst p.y poly < poly.length := by have := findFirst_le p.y poly; omega
    exact ⟨_, pointInPolygonG_eq_cyc crossProduct p poly _ (by omega) (List.getElem?_eq_getElem hlt)⟩

/-- the total wrapper returns exactly what the fault-aware model returns -/
theorem pointInPolygon_eq (p : Pt) (poly : Path) : pointInPolygonX p poly = some (pointInPolygon p poly) := by
  obtain ⟨r, hr⟩ := pip_total p poly
  simp [pointInPolygon, hr]

theorem pointInPolygonG_exact {cp} (hcp : SignCorrect cp) (p : Pt) (poly : Path) (hn : 3 ≤ poly.length)
    (hoff : ∃ v ∈ poly, v.y ≠ p.y) : (pointInPolygonG cp p poly).map pipCode = some (pipEvenOdd poly p) := by
  have hle := findFirst_le p.y poly
  have hlt : findFirst p.y poly < poly.length := Nat.lt_of_le_of_ne hle fun h => by
    obtain ⟨v, hv, hvy⟩ := hoff
    exact hvy (findFirst_eq_length h v hv)
  have hf := List.getElem?_eq_getElem hlt
  rw [pointInPolygonG_eq_cyc cp p poly _ hn hf, Option.map_some, pipCyc_rot hcp _ _ (findFirst_at p.y poly _ hf),
    ← seg_cons hlt hf, ← seg_split poly (Nat.zero_le _) hle (Nat.le_refl _), seg_full]

/-- **`PointInPolygon` is the even-odd rule, exactly.**  For every polygon with at least three vertices that has a
vertex off the horizontal line through the point (in particular: every polygon not contained in a single horizontal
line), the result code (0 = IsOn, 1 = IsInside, 2 = IsOutside) is `Spec.pipEvenOdd`: IsOn iff the point lies on a
closed edge, otherwise IsInside iff the number of half-open crossings of the ray towards +x is odd.
Coordinates are unbounded integers here; the C++ evaluates `CrossProduct` in doubles, which is exact for
|coordinates| ≤ 2^25 (`crossProduct_fits_double`, trusted IEEE fact) — that is where the 2^25 of the property enters. -/
theorem pointInPolygon_exact (p : Pt) (poly : Path) (hn : 3 ≤ poly.length) (hoff : ∃ v ∈ poly, v.y ≠ p.y) :
    pipCode (pointInPolygon p poly) = pipEvenOdd poly p := by
  have h := pointInPolygonG_exact signCorrect_crossProduct p poly hn hoff
  rw [show pointInPolygonG crossProduct p poly = _ from pointInPolygon_eq p poly] at h
  exact Option.some.inj h

/-- IsOn iff the point lies on a closed edge of the polygon -/
theorem pointInPolygon_on_iff (p : Pt) (poly : Path) (hn : 3 ≤ poly.length) (hoff : ∃ v ∈ poly, v.y ≠ p.y) :
    pointInPolygon p poly = .isOn ↔ onBoundary poly p = true := by
  have h := pointInPolygon_exact p poly hn hoff
  rw [pipEvenOdd] at h
  constructor
  · intro hr
    rw [hr] at h
    by_cases hb : onBoundary poly p = true
    · exact hb
    · -- off the boundary the code is 1 or 2, not `pipCode .isOn = 0`
      rw [if_neg hb] at h
      split at h <;> cases h
  · intro hb
    rw [if_pos hb] at h
    exact pipCode_inj h

/-- off the boundary: IsInside iff the crossing number of the ray is odd -/
theorem pointInPolygon_inside_iff (p : Pt) (poly : Path) (hn : 3 ≤ poly.length) (hoff : ∃ v ∈ poly, v.y ≠ p.y)
    (hb : onBoundary poly p = false) :
    pointInPolygon p poly = .isInside ↔ windPath poly p % 2 ≠ 0 := by
  have h := pointInPolygon_exact p poly hn hoff
  rw [pipEvenOdd, hb, if_neg Bool.false_ne_true] at h
  constructor
  · intro hr
    rw [hr] at h
    by_cases hodd : windPath poly p % 2 ≠ 0
    · exact hodd
    · rw [if_neg hodd] at h; cases h
  · intro hodd
    rw [if_pos hodd] at h
    exact pipCode_inj h

/-- the inputs the property excludes: fewer than three vertices, or every vertex on the horizontal line through the
point — the code answers IsOutside whatever the geometry (so a point *on* a degenerate horizontal polygon is
reported outside; this is why the property excludes them) -/
theorem pointInPolygon_degenerate (p : Pt) (poly : Path) (h : poly.length < 3 ∨ ∀ v ∈ poly, v.y = p.y) :
    pointInPolygon p poly = .isOutside := by
  have he := pointInPolygon_eq p poly
  rw [pointInPolygonX, pointInPolygonG_early (h.imp_right fun hall => ?_)] at he
  · exact (Option.some.inj he).symm
  · refine Nat.le_antisymm (findFirst_le p.y poly) (Nat.not_lt.mp fun hlt => ?_)
    exact findFirst_at p.y poly _ (List.getElem?_eq_getElem hlt) (hall _ (List.getElem_mem hlt))

-- non-vacuity of `pointInPolygon_degenerate`: a "polygon" on one horizontal line with the point on it
example : ∀ v ∈ ([⟨0,3⟩, ⟨5,3⟩, ⟨9,3⟩] : Path), v.y = (⟨2,3⟩ : Pt).y := by decide

-- non-vacuity: a concave hexagon with two vertices and a horizontal edge on the line through the query points;
-- the hypotheses hold and the three possible answers all occur
example : let poly : Path := [⟨0,0⟩, ⟨4,0⟩, ⟨4,2⟩, ⟨2,2⟩, ⟨2,4⟩, ⟨0,4⟩]
    3 ≤ poly.length ∧ (∃ v ∈ poly, v.y ≠ (2 : Int)) ∧ pipCode (pointInPolygon ⟨1,2⟩ poly) = 1 ∧
    pipCode (pointInPolygon ⟨3,2⟩ poly) = 0 ∧ pipCode (pointInPolygon ⟨5,2⟩ poly) = 2 := by
  intro poly
  have h1 : 3 ≤ poly.length := by decide
  have h2 : ∃ v ∈ poly, v.y ≠ (2 : Int) := by decide
  refine ⟨h1, h2, ?_, ?_, ?_⟩
  · rw [pointInPolygon_exact ⟨1,2⟩ poly h1 h2]; decide
  · rw [pointInPolygon_exact ⟨3,2⟩ poly h1 h2]; decide
  · rw [pointInPolygon_exact ⟨5,2⟩ poly h1 h2]; decide

-- the extra hypothesis of `pointInPolygon_inside_iff` (off the boundary) holds for the inside point above
example : onBoundary [⟨0,0⟩, ⟨4,0⟩, ⟨4,2⟩, ⟨2,2⟩, ⟨2,4⟩, ⟨0,4⟩] ⟨1,2⟩ = false := by decide

/-- In the range of the property (|coordinates| ≤ 2^25) every intermediate of `CrossProduct(pt1,pt2,pt3)` is an integer
of magnitude ≤ 2^53: the four differences ≤ 2^26, the two products ≤ 2^52, the result ≤ 2^53.  All of these are
exactly representable doubles, so (trusted IEEE-754 fact) the double computation returns the integer value
`crossProduct` and the tests `d == 0`, `d < 0` are exact. -/
theorem crossProduct_fits_double (a b c : Pt)
    (ha : a.x.natAbs ≤ 2^25 ∧ a.y.natAbs ≤ 2^25) (hb : b.x.natAbs ≤ 2^25 ∧ b.y.natAbs ≤ 2^25)
    (hc : c.x.natAbs ≤ 2^25 ∧ c.y.natAbs ≤ 2^25) :
    (b.x - a.x).natAbs ≤ 2^26 ∧ (c.y - b.y).natAbs ≤ 2^26 ∧ (b.y - a.y).natAbs ≤ 2^26 ∧ (c.x - b.x).natAbs ≤ 2^26 ∧
    ((b.x - a.x) * (c.y - b.y)).natAbs ≤ 2^52 ∧ ((b.y - a.y) * (c.x - b.x)).natAbs ≤ 2^52 ∧
    (crossProduct a b c).natAbs ≤ 2^53 := by
  have d1 : (b.x - a.x).natAbs ≤ 2^26 := diff26 hb.1 ha.1
  have d2 : (c.y - b.y).natAbs ≤ 2^26 := diff26 hc.2 hb.2
  have d3 : (b.y - a.y).natAbs ≤ 2^26 := diff26 hb.2 ha.2
  have d4 : (c.x - b.x).natAbs ≤ 2^26 := diff26 hc.1 hb.1
  have p1 : ((b.x - a.x) * (c.y - b.y)).natAbs ≤ 2^52 := mul26 d1 d2
  have p2 : ((b.y - a.y) * (c.x - b.x)).natAbs ≤ 2^52 := mul26 d3 d4
  refine ⟨d1, d2, d3, d4, p1, p2, ?_⟩
  simp only [crossProduct]
  exact sub53 p1 p2

example : ∃ a b c : Pt, (a.x.natAbs ≤ 2^25 ∧ a.y.natAbs ≤ 2^25) ∧ (b.x.natAbs ≤ 2^25 ∧ b.y.natAbs ≤ 2^25) ∧
    (c.x.natAbs ≤ 2^25 ∧ c.y.natAbs ≤ 2^25) ∧ (crossProduct a b c).natAbs = 2^52 :=
  ⟨⟨-2^25, -2^25⟩, ⟨2^25, 2^25⟩, ⟨-2^25, 2^25⟩, by decide⟩

/-- **`Area` equals the shoelace sum, for every length and parity.**  The two-at-a-time iterator loop of
`Area(const Path64&)` (with its `stop` adjustment for even counts and the trailing term for odd counts) never runs
an iterator out of range (`some`), and the value of `a` before the final `* 0.5` is exactly
`Spec.shoelace2 path = Σ (x_i·y_{i+1} − x_{i+1}·y_i)` — positive for counter-clockwise paths in a y-up frame —
and 0 for fewer than three points.  Over the integers; the compiled code evaluates the same sum in doubles, so it
agrees "to double rounding" (checked per run by `SPEC_AREA` with the standard forward error bound). -/
theorem area_eq_shoelace (path : Path) :
    area2X path = some (if path.length < 3 then 0 else shoelace2 path) := by
  unfold area2X
  split
  · rfl
  · cases path with
    | nil => simp at *
    | cons a rest =>
      rw [getLast?_cons_eq_lastOf]
      simp only
      rw [areaGo_eq _ _ _ _ rfl, areaSum_eq, shoelace2_eq_shoeSum]
      have : lastOf (lastOf a rest) (a :: rest) = lastOf a rest := by simp
      rw [this]; simp

/-- **Parallelism is reported exactly** (idealised model): `false` is returned iff the two direction vectors are
parallel, i.e. their cross product vanishes (this includes zero-length segments). -/
theorem gsip_parallel_exact (a b c d : Pt) :
    gsipIdeal a b c d = none ↔ (b.x - a.x) * (d.y - c.y) = (b.y - a.y) * (d.x - c.x) := by
  have hdet : gsipDet a b c d = 0 ↔ (b.x - a.x) * (d.y - c.y) = (b.y - a.y) * (d.x - c.x) := by
    have : (d.y - c.y) * (b.x - a.x) = (b.x - a.x) * (d.y - c.y) := Int.mul_comm _ _
    simp only [gsipDet]; omega
  rw [← hdet]
  unfold gsipIdeal
  by_cases hd : gsipDet a b c d = 0
  · simp [hd]
  · simp only [hd, if_false]
    constructor
    · intro h; split at h
      · cases h
      · split at h <;> cases h
    · intro h; exact absurd h (by simp)

/-- In the range |coordinates| ≤ 2^25 the determinant and the numerator of `t` are integers of magnitude ≤ 2^53
whose sub-products are ≤ 2^52: the double computation of `det` and of the numerator is exact (trusted IEEE fact), so
the compiled `det == 0.0` test *is* the exact parallelism test of `gsip_parallel_exact`. -/
theorem gsip_fits_double (a b c d : Pt)
    (ha : a.x.natAbs ≤ 2^25 ∧ a.y.natAbs ≤ 2^25) (hb : b.x.natAbs ≤ 2^25 ∧ b.y.natAbs ≤ 2^25)
    (hc : c.x.natAbs ≤ 2^25 ∧ c.y.natAbs ≤ 2^25) (hd : d.x.natAbs ≤ 2^25 ∧ d.y.natAbs ≤ 2^25) :
    (gsipDet a b c d).natAbs ≤ 2^53 ∧ (gsipNum a b c d).natAbs ≤ 2^53 := by
  have p1 : ((b.y - a.y) * (d.x - c.x)).natAbs ≤ 2^52 := mul26 (diff26 hb.2 ha.2) (diff26 hd.1 hc.1)
  have p2 : ((d.y - c.y) * (b.x - a.x)).natAbs ≤ 2^52 := mul26 (diff26 hd.2 hc.2) (diff26 hb.1 ha.1)
  have p3 : ((a.x - c.x) * (d.y - c.y)).natAbs ≤ 2^52 := mul26 (diff26 ha.1 hc.1) (diff26 hd.2 hc.2)
  have p4 : ((a.y - c.y) * (d.x - c.x)).natAbs ≤ 2^52 := mul26 (diff26 ha.2 hc.2) (diff26 hd.1 hc.1)
  simp only [gsipDet, gsipNum]
  exact ⟨sub53 p1 p2, sub53 p3 p4⟩

example : ∃ a b c d : Pt, (a.x.natAbs ≤ 2^25 ∧ a.y.natAbs ≤ 2^25) ∧ (b.x.natAbs ≤ 2^25 ∧ b.y.natAbs ≤ 2^25) ∧
    (c.x.natAbs ≤ 2^25 ∧ c.y.natAbs ≤ 2^25) ∧ (d.x.natAbs ≤ 2^25 ∧ d.y.natAbs ≤ 2^25) ∧
    (gsipDet a b c d).natAbs = 2^53 :=
  ⟨⟨-2^25, -2^25⟩, ⟨2^25, 2^25⟩, ⟨-2^25, 2^25⟩, ⟨2^25, -2^25⟩, by decide⟩

/-- The exact crossing point `P = a + t·(b − a)`, `t = num/det`, written without division as `det·P`:
it lies on the line through `c d` (and on the line through `a b` by construction). -/
theorem gsip_ideal_point_on_both_lines (a b c d : Pt) :
    let det := gsipDet a b c d
    let num := gsipNum a b c d
    let px := det * a.x + num * (b.x - a.x)      -- det · P.x
    let py := det * a.y + num * (b.y - a.y)      -- det · P.y
    (d.x - c.x) * (py - det * c.y) - (d.y - c.y) * (px - det * c.x) = 0 ∧
    (b.x - a.x) * (py - det * a.y) - (b.y - a.y) * (px - det * a.x) = 0 := by
  intro det num px py
  constructor
  · simp only [px, py, det, num, gsipDet, gsipNum]; grind
  · -- `P - a = t·(b - a)`, whatever `det` and `num` are
    simp only [px, py]
    generalize det = D
    generalize num = N
    grind

/-- **The returned point** (idealised model; `det`, `num` are the exact determinant and numerator of `t`).
Whenever an intersection is reported, the result `ip` is
* the end point `a` if `t ≤ 0`, the end point `b` if `t ≥ 1` (both on segment 1), and otherwise
* the truncation of the exact crossing point `P` (`det·P = (px, py)` of `gsip_ideal_point_on_both_lines`, which
  lies on both lines, with `0 < t < 1`, i.e. on segment 1): `|ip.x − P.x| < 1`, `|ip.y − P.y| < 1` (stated times
  `|det|`), and `ip` stays inside the bounding box of segment 1. -/
theorem gsip_on_segment (a b c d ip : Pt) (h : gsipIdeal a b c d = some ip)
    (det num : Int) (hdet : det = gsipDet a b c d) (hnum : num = gsipNum a b c d) :
    (num * det ≤ 0 ∧ ip = a) ∨ (det * det ≤ num * det ∧ ip = b) ∨
    (0 < num * det ∧ num * det < det * det ∧
      (det * ip.x - (det * a.x + num * (b.x - a.x))).natAbs < det.natAbs ∧
      (det * ip.y - (det * a.y + num * (b.y - a.y))).natAbs < det.natAbs ∧
      min a.x b.x ≤ ip.x ∧ ip.x ≤ max a.x b.x ∧ min a.y b.y ≤ ip.y ∧ ip.y ≤ max a.y b.y) := by
  simp only [gsipIdeal, ← hdet, ← hnum] at h
  by_cases hd0 : det = 0
  · rw [if_pos hd0] at h; cases h
  · rw [if_neg hd0] at h
    by_cases h1 : num * det ≤ 0
    · rw [if_pos h1] at h; exact Or.inl ⟨h1, (Option.some.inj h).symm⟩
    · rw [if_neg h1] at h
      by_cases h2 : num * det ≥ det * det
      · rw [if_pos h2] at h; exact Or.inr (Or.inl ⟨h2, (Option.some.inj h).symm⟩)
      · rw [if_neg h2] at h
        have hip := (Option.some.inj h).symm
        subst hip
        have hpos : 0 < num * det := by omega
        have hlt : num * det < det * det := by omega
        have kx := tdiv_between hpos hlt a.x (b.x - a.x)
        have ky := tdiv_between hpos hlt a.y (b.y - a.y)
        rw [show a.x + (b.x - a.x) = b.x by omega] at kx
        rw [show a.y + (b.y - a.y) = b.y by omega] at ky
        exact Or.inr (Or.inr ⟨hpos, hlt, kx.1, ky.1, kx.2.1, kx.2.2, ky.2.1, ky.2.2⟩)

-- non-vacuity: a proper crossing whose exact point (10/3, 10/3) is not a lattice point, and a parallel pair
example : gsipIdeal ⟨0,0⟩ ⟨10,10⟩ ⟨0,5⟩ ⟨10,0⟩ = some ⟨3,3⟩ ∧ gsipIdeal ⟨0,0⟩ ⟨4,2⟩ ⟨1,1⟩ ⟨7,4⟩ = none := by decide

end Clipper.Props.C18Geom

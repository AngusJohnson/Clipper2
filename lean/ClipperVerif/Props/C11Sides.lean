/-
C11, success clause: "`Execute` returns true for every set of paths and every clip type and fill rule".

In `clipper.engine.cpp` the *only* assignment `succeeded_ = false` during a sweep is in `AddLocalMaxPoly`: two closed hot edges that meet at a
local maximum (or at a crossing treated as one, or at a join) are both the front edge or both the back edge of their output records.
`Model/AelSides.lean` models the bookkeeping that decides this (`outrec`, front/back, `join_with`, on top of the winding/hotness model of
C01) with that event as a *fault value*; two more fault values stand for the neighbouring ways the same code could misbehave
(`IsFront` on a null `outrec`; `JoinOutrecPaths` called by `CheckJoinLeft/Right` on two edges of the same side).

Proved here, for **every** event list from the empty AEL (any number of edges, any positions, any interleaving of closed subject / clip
and open edges, joins and splits anywhere the model accepts them), every clip type except `NoClip` (which never sweeps) and every fill rule:

* `sinv_step`, `sinv_reachable`  — the side invariant `SInv` holds after every accepted event: the C01 invariant on the erased list; a closed
  edge is (logically) hot iff it owns a record or is joined, never both; joined edges are adjacent (`Right`,`Left`) pairs; and
  **reading the closed edges that own a record from left to right, `IsFront` is true, false, true, false, …** (the `k`-th hot edge is a
  front edge iff `k` is even: an outer contour's left edge and a hole's right edge are front edges);
* `execute_never_fails`          — no event list reaches a fault: `AddLocalMaxPoly` never sees two fronts or two backs, so `succeeded_` stays true;
* `erase_step`                   — forgetting the new fields turns each step of this model into the step of the C01 model (`Model.step`),
  so nothing proved about the C01 model is lost and its trace tie `AELVERIFY` is a projection of `AELSIDES`;
* `adjacent_hot_sides_differ`    — the classical statement: two adjacent closed edges that own records are never on the same side.

What the theorems do **not** cover (trusted base of the tie, checked on every trace by `harness/C11sides.cpp`):
the event list of a real sweep is one the model accepts (positions in range, maxima pairs adjacent, no local minimum inserted between the
two edges of a joined pair), and the pointer structure `outrec->front_edge/back_edge` is consistent with the edge-centric `(id, front)`
representation (`checkRecs`, and the C++-side pointer check in `harness/aelsides.h`).
-/
import ClipperVerif.Lemmas.AelSides
namespace Clipper.Props.C11Sides
open Clipper Clipper.Model

/-- `Model.checkSInv` (run by the driver after every replayed event of a real sweep) decides `SInv` -/
theorem checkSInv_iff (cfg : Cfg) (s : SState) : checkSInv cfg s = true ↔ SInv cfg s := by
  unfold checkSInv SInv
  simp only [Bool.and_eq_true, C01.checkInv_iff]
  constructor
  · intro ⟨⟨⟨h1, h2⟩, h3⟩, h4⟩; exact ⟨h1, h2, h3, h4⟩
  · intro ⟨h1, h2, h3, h4⟩; exact ⟨⟨⟨h1, h2⟩, h3⟩, h4⟩

/-- what an event does to the erased list: the event of the C01 model, or nothing -/
def EraseSim (cfg : Cfg) (s s' : SState) : SOp → Prop
  | .base o => step cfg (erase s.ael) o = some (erase s'.ael)
  | _ => erase s'.ael = erase s.ael

/-- one event: it is never a fault; accepted ⇒ the side part of the invariant holds again, the erased list makes the step of
the C01 model, and the representation invariant `RecsOK` is carried along -/
theorem stepS_sim (cfg : Cfg) (s : SState) (op : SOp) (h : SInv cfg s) :
    StepOK (stepS cfg s op) (fun s' => Side s'.ael ∧ EraseSim cfg s s' op ∧ Recs s s') := by
  obtain ⟨hinv, hside⟩ := h
  cases op with
  | base o =>
    cases o with
    | insertPair pos pt isOpen dxLeft => exact insertPairS_spec cfg pos pt isOpen dxLeft s hside
    | insertOne pos pt dx => exact insertOneS_spec cfg pos pt dx s hside
    | intersect i => exact intersectS_spec cfg i s hside
    | removePair i => exact removePairS_spec cfg i s hside hinv
    | removeOne i => exact removeOneS_spec i s hside
  | join i => exact joinS_spec i s hside
  | split i => exact splitS_spec i s hside

theorem stepS_spec (cfg : Cfg) (hct : cfg.ct ≠ .noClip) (s : SState) (op : SOp) (h : SInv cfg s) :
    StepOK (stepS cfg s op) (fun s' => SInv cfg s' ∧ Recs s s') := by
  refine stepOK_mono _ _ _ (stepS_sim cfg s op h) fun s' ⟨h1, h2, h3⟩ => ⟨⟨?_, h1⟩, h3⟩
  cases op with
  | base o => exact C01.inv_step cfg hct _ _ o h.inv h2
  | join i => exact h2 ▸ h.inv
  | split i => exact h2 ▸ h.inv

/-- **sinv_step.** Every accepted event preserves the side invariant. -/
theorem sinv_step (cfg : Cfg) (hct : cfg.ct ≠ .noClip) (s s' : SState) (op : SOp)
    (h : SInv cfg s) (hs : stepS cfg s op = .ok s') : SInv cfg s' := by
  have := stepS_spec cfg hct s op h
  rw [hs] at this; exact this.1

/-- **step_never_faults.** From a state satisfying the invariant no event makes `AddLocalMaxPoly` see two front edges or two back edges
(`sidesEqual`, the only way `Execute` returns false), makes `IsFront`/`Split` dereference a null pointer (`nullDeref`), or makes
`CheckJoinLeft/Right` join two edges of the same side (`joinSameSide`). -/
theorem step_never_faults (cfg : Cfg) (hct : cfg.ct ≠ .noClip) (s : SState) (op : SOp) (h : SInv cfg s) (f : Fault) :
    stepS cfg s op ≠ .error (.fault f) := by
  intro hs
  have := stepS_spec cfg hct s op h
  rw [hs] at this; exact this

theorem runS_spec (cfg : Cfg) (hct : cfg.ct ≠ .noClip) (ops : List SOp) : ∀ (s : SState), SInv cfg s →
    StepOK (runS cfg s ops) (fun s' => SInv cfg s' ∧ Recs s s') := by
  induction ops with
  | nil => intro s h; exact ⟨h, fun hr => hr⟩
  | cons op ops ih =>
    intro s h
    have h1 := stepS_spec cfg hct s op h
    simp only [runS]
    cases hs : stepS cfg s op with
    | ok s1 =>
      rw [hs] at h1
      exact stepOK_mono _ _ _ (ih s1 h1.1) (fun s' ⟨k1, k2⟩ => ⟨k1, fun hr => k2 (h1.2 hr)⟩)
    | error e =>
      rw [hs] at h1
      cases e with
      | reject => trivial
      | fault f => exact h1.elim

theorem sinv_empty (cfg : Cfg) : SInv cfg SState.empty :=
  ⟨by simp [SState.empty, erase, Model.Inv, InvFrom], by simp [SState.empty, Side, joinOKFrom, altFrom]⟩

/-- **sinv_reachable.** After every sequence of events from the empty AEL the side invariant holds; in particular the hot closed edges,
read from left to right, are alternately front and back edges of their output records, starting with a front edge. -/
theorem sinv_reachable (cfg : Cfg) (hct : cfg.ct ≠ .noClip) (ops : List SOp) (s : SState)
    (hr : runS cfg SState.empty ops = .ok s) : SInv cfg s := by
  have := runS_spec cfg hct ops SState.empty (sinv_empty cfg)
  rw [hr] at this; exact this.1

/-- **recs_reachable.** The edge-centric representation stays faithful: in every reachable state all record indices in use are below the
number of records created, and no two edges claim the same side (front / back) of the same record — i.e. `outrec->front_edge` and
`outrec->back_edge` are well-defined single edges, which is what the C++ pointer structure provides by construction. -/
theorem recs_reachable (cfg : Cfg) (hct : cfg.ct ≠ .noClip) (ops : List SOp) (s : SState)
    (hr : runS cfg SState.empty ops = .ok s) : RecsOK s.next s.ael := by
  have := runS_spec cfg hct ops SState.empty (sinv_empty cfg)
  rw [hr] at this
  exact this.2 (by intro k; simp [SState.empty, cnt])

/-- `Model.checkRecs` (run by the driver after every replayed event) decides `RecsOK` -/
theorem checkRecs_decides (s : SState) : checkRecs s = true ↔ RecsOK s.next s.ael := checkRecs_iff s

/-- **execute_never_fails.** No sequence of events from the empty AEL — any length, any positions, any clip type other than `NoClip`,
any fill rule — reaches the state in which `AddLocalMaxPoly` sets `succeeded_ = false` (nor one of the two neighbouring faults):
a sweep can be rejected by the model as ill-formed, it can never fail. -/
theorem execute_never_fails (cfg : Cfg) (hct : cfg.ct ≠ .noClip) (ops : List SOp) (f : Fault) :
    runS cfg SState.empty ops ≠ .error (.fault f) := by
  intro hr
  have := runS_spec cfg hct ops SState.empty (sinv_empty cfg)
  rw [hr] at this; exact this

/-- **erase_step.** Forgetting `join_with` and the output records, an accepted event of this model is the same event of `Model.step`
(and `join` / `split` are invisible there). -/
theorem erase_step (cfg : Cfg) (s s' : SState) (op : SOp) (h : SInv cfg s) (hs : stepS cfg s op = .ok s') :
    match op with
    | .base o => step cfg (erase s.ael) o = some (erase s'.ael)
    | .join _ => erase s'.ael = erase s.ael
    | .split _ => erase s'.ael = erase s.ael := by
  have := stepS_sim cfg s op h
  rw [hs] at this
  cases op <;> exact this.2.1

/-- **adjacent_hot_sides_differ.** In every reachable state two adjacent closed edges that both own an output record are a front edge and a
back edge — the pair `AddLocalMaxPoly`, `CheckJoinLeft/Right` and `SwapOutrecs` may be handed. -/
theorem adjacent_hot_sides_differ (cfg : Cfg) (hct : cfg.ct ≠ .noClip) (ops : List SOp) (s : SState)
    (hr : runS cfg SState.empty ops = .ok s) (pre rest : List SEdge) (a b : SEdge) (ra rb : Rec)
    (hl : s.ael = pre ++ a :: b :: rest) (ha : a.e.isOpen = false) (hb : b.e.isOpen = false)
    (hra : a.orec = some ra) (hrb : b.orec = some rb) : ra.front ≠ rb.front := by
  have hs := (sinv_reachable cfg hct ops s hr).side
  rw [hl] at hs
  obtain ⟨p, q, p2, q2, -, -, hq2, -⟩ := (side_ctx pre [a, b] rest).mp hs
  rw [altRun_two, tracked_closed a ha, tracked_closed b hb, hra, hrb] at hq2
  exact (alt2_some_some hq2).2.2.2

/-- **front_iff_unfilled_left.** The geometric meaning of the two sides.  In every reachable state, for a closed edge `x` that owns an output
record: `x` is the record's *front* edge **iff** the gap immediately to its left is *outside* the result region `inR ct fr Ws Wc`
(`Ws`, `Wc` the subject / clip winding sums of the edges to its left) — and then, `x` being hot, i.e. a boundary of the region
(C01 `coverage_1d`), the gap to its right is inside.  So a front edge has the filled region on its right (the left edge of an outer
contour, the right edge of a hole), a back edge has it on its left. -/
theorem front_iff_unfilled_left (cfg : Cfg) (hct : cfg.ct ≠ .noClip) (ops : List SOp) (s : SState)
    (hr : runS cfg SState.empty ops = .ok s) (pre rest : List SEdge) (x : SEdge) (r : Rec)
    (hl : s.ael = pre ++ x :: rest) (hx : x.e.isOpen = false) (hrx : x.orec = some r) :
    r.front = !inR cfg.ct cfg.fr (sumT .subject (erase pre)) (sumT .clip (erase pre)) := by
  obtain ⟨hinv, hside⟩ := sinv_reachable cfg hct ops s hr
  rw [hl] at hside
  obtain ⟨p, q, p2, q2, ⟨hp, hq, -, -, l1, -⟩, hp2, hq2, l2⟩ := (side_ctx pre [x] rest).mp hside
  -- `x` owns a record, hence is not joined, hence the prefix does not end inside a joined pair
  have hxj : x.join = .none := by
    simp [localOK, hx, hrx] at l2; exact l2.2
  have hpf : p = false := by
    cases p <;> simp [joinRun, hxj] at hp2 ⊢
  subst hpf
  have hfq : r.front = q := by
    simp only [altRun, tracked, hx, hrx, Bool.false_eq_true, if_false, Option.map_some] at hq2
    split at hq2
    next h => exact h
    next => cases hq2
  have hpar := hot_parity pre false true false q hp hq l1
  have hcov := C01.coverage_1d cfg (erase s.ael) hinv pre.length
  have htake : (erase s.ael).take pre.length = erase pre := by
    rw [hl]; simp [erase]
  rw [htake] at hcov
  rw [hcov, hfq]
  have : decide (hotCount (erase pre) % 2 = 1) = (hotCount (erase pre) % 2 == 1) := by
    cases h : (hotCount (erase pre) % 2 == 1) <;> simp at h ⊢ <;> exact h
  rw [this, hpar]
  cases q <;> rfl

/-- the fault of an outcome, if it is one -/
def faultOf : Except Err SState → Option Fault
  | .error (.fault f) => some f
  | _ => none
def rejected : Except Err SState → Bool
  | .error .reject => true
  | _ => false

/-- two overlapping squares (subject x∈[0,10], clip x∈[5,15], see `Props/C01.lean`), Intersection / NonZero, to the end of the sweep -/
def squares : List SOp :=
  [ .base (.insertPair 0 .subject false (-1)),   -- S- S+
    .base (.insertPair 1 .clip false (-1)),      -- S- C- C+ S+
    .base (.intersect 2),                        -- S- C- S+ C+
    .base (.intersect 0),                        -- subject ends first: S- passes C-
    .base (.removePair 1),                       -- S-,S+ leave
    .base (.removePair 0) ]                      -- C-,C+ leave

example : (runS ⟨.intersection, .nonZero⟩ SState.empty squares).toOption.map (fun s => (s.ael.length, s.next)) = some (0, 1) := by decide
example : (runS ⟨.union, .nonZero⟩ SState.empty squares).toOption.map (fun s => (s.ael.length, s.next)) = some (0, 1) := by decide
/-- Union after three events: one record (index 0) whose front edge is the subject's left edge and whose back edge, after `SwapOutrecs` at the
crossing, is the clip's right edge -/
example : (runS ⟨.union, .nonZero⟩ SState.empty (squares.take 3)).toOption.map (fun s => s.ael.map (·.orec)) =
    some [some ⟨0, true⟩, none, none, some ⟨0, false⟩] := by decide
/-- Xor / EvenOdd after the crossing (`AddLocalMaxPoly` + `AddLocalMinPoly`, record 1 has been closed): two regions side by side, each with its left
edge as front edge -/
example : (runS ⟨.xor, .evenOdd⟩ SState.empty (squares.take 3)).toOption.map (fun s => s.ael.map (·.orec)) =
    some [some ⟨0, true⟩, some ⟨0, false⟩, some ⟨2, true⟩, some ⟨2, false⟩] := by decide
example : (runS ⟨.xor, .evenOdd⟩ SState.empty (squares.take 3)).toOption.map (checkSInv ⟨.xor, .evenOdd⟩) = some true := by decide

/-- a joined pair: two subject squares sharing the edge x = 10 (Union): the shared edges are inserted hot, `CheckJoinLeft` joins them
(records merge into the lower index), `Split` gives them a fresh record again with sides taken from the hot edge to the left -/
def sharedEdge : List SOp :=
  [ .base (.insertPair 0 .subject false (-1)),   -- A- A+
    .base (.insertPair 2 .subject false (-1)),   -- A- A+ B- B+
    .join 1,                                     -- A+,B- joined
    .split 2 ]                                   -- Split(B-)
example : (runS ⟨.union, .nonZero⟩ SState.empty (sharedEdge.take 3)).toOption.map (fun s => s.ael.map (fun x => (x.join, x.orec))) =
    some [(.none, some ⟨0, true⟩), (.right, none), (.left, none), (.none, some ⟨0, false⟩)] := by decide
example : (runS ⟨.union, .nonZero⟩ SState.empty sharedEdge).toOption.map (fun s => s.ael.map (fun x => (x.join, x.orec))) =
    some [(.none, some ⟨0, true⟩), (.none, some ⟨2, false⟩), (.none, some ⟨2, true⟩), (.none, some ⟨0, false⟩)] := by decide
example : (runS ⟨.union, .nonZero⟩ SState.empty sharedEdge).toOption.map (checkSInv ⟨.union, .nonZero⟩) = some true := by decide

/-- the fault value is not decoration: from a state that violates the alternation (two front edges meeting at a maximum) the model reports
exactly the event that makes `Execute` return false … -/
def twoFronts : SState :=
  { ael := [⟨⟨.subject, false, -1, -1, 0, true⟩, .none, some ⟨0, true⟩⟩, ⟨⟨.subject, false, 1, -1, 0, true⟩, .none, some ⟨1, true⟩⟩], next := 2 }
example : faultOf (stepS ⟨.union, .nonZero⟩ twoFronts (.base (.removePair 0))) = some .sidesEqual := by decide
example : faultOf (stepS ⟨.union, .nonZero⟩ twoFronts (.join 0)) = some .joinSameSide := by decide
/-- … and the checker rejects that state (so a real trace passing through it would be reported before the fault) -/
example : checkSInv ⟨.union, .nonZero⟩ twoFronts = false := by decide
/-- one edge of a maxima pair hot, the other cold: `IsFront` on a null `outrec` -/
example : faultOf (stepS ⟨.union, .nonZero⟩
    { ael := [⟨⟨.subject, false, -1, -1, 0, true⟩, .none, some ⟨0, true⟩⟩, ⟨⟨.subject, false, 1, -1, 0, false⟩, .none, none⟩], next := 1 }
    (.base (.removePair 0))) = some .nullDeref := by decide
/-- the hypothesis `ct ≠ NoClip` is needed: under `NoClip` (which the engine never sweeps) the invariant is lost at the first crossing of
different path types -/
example : (runS ⟨.noClip, .nonZero⟩ SState.empty (squares.take 3)).toOption.map (checkSInv ⟨.noClip, .nonZero⟩) = some false := by decide
/-- an insertion between the two edges of a joined pair is rejected, not silently accepted -/
example : rejected (runS ⟨.union, .nonZero⟩ SState.empty (sharedEdge.take 3 ++ [.base (.insertPair 2 .clip false 1)])) = true := by decide

end Clipper.Props.C11Sides

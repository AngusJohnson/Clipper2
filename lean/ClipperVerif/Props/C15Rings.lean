/-
C15, Z accounting on the output rings: theorems on `Model/AelRingsZ.lean`, the Z layer of the ring assembly model (`Model/AelRings.lean`, C01/C03),
tied to a USINGZ build of the real engine by replaying hook traces triple for triple, callback log included (`harness/aelringsz.h`,
`harness/C15rings.cpp`, driver command `AELRINGSZ`).

Proved here for **every** event list from the empty state, every callback family `F : Nat → Callback` (`F k` = the callback's answer at its `k`-th call; any
stateful deterministic callback), every `DefaultZ`, every clip type except `NoClip` and every fill rule:

* `eraseZ_step`, `eraseZ_run` — forgetting the Z part, a step / run of the Z model *is* the step / run of the ring model on the events with z forgotten;
  `z_rings_agree` — and forgetting the z of every point, the Z rings are the rings of the ring model, point for point, and the Z emission log is its log
  (an overwrite by `SetZ` is a suppressed duplicate there): every theorem of `Props/C01Rings.lean` holds for the x, y of the Z rings.
* `ring_z_provenance` (headline) — every triple of every ring, live or finished, was stored by an emission of one of the events, and is
  (a) the triple that event was handed, z included — for the vertex events (local minimum, vertex passed in `DoTopOfScanbeam` / `DoHorizontal`, maximum) the
      input vertex with the input's z; for `Split` / `CheckJoinLeft/Right` the `pt` they were passed; for `IntersectEdges` the `pt` it was passed, **only if no
      callback is installed** (and then for every emission) **or the emission is the `AddLocalMinPoly` of a `Split`** —, or
  (b) `ZFill.setZ` of the `pt` of an `IntersectEdges` event with that event's edge end points and the callback's `k`-th call.
* `ring_z_accounting` — the Z clause of C15 in its own words, with a callback installed: every ring triple either is the triple an event supplied by value
  (an input vertex with its z for the vertex events), or was passed to the callback and carries what the callback assigned; and what the callback was shown is
  the z of the first end point (subject edge first, `bot` before `top`) the point coincides with, else `DefaultZ` (`setZ_spec`, `pickZ_at_endpoint`).
* `ring_z_no_callback` — without a callback every ring triple is the triple its event was handed: new vertices carry the z of the `pt` of
  `IntersectEdges`.  [C++: `Point64(x, y)` / a default constructed `Point64`, i.e. 0; `DefaultZ` is read only inside `SetZ`, which is never entered.  That
  the handed z is 0 for a computed point is checked on every trace by the harness; outside general position `GetSegmentIntersectPt` can hand over the z of
  an edge end point that lies elsewhere.]
* `rings_conserve_triples`, `z_not_touched_by_joins` — conservation for `(x, y, z)` triples: the triples in all rings together with the triples `SetZ`
  overwrote (an `AddOutPt` suppressed as a duplicate returns the old ring end, whose z `SetZ` then replaces) are, as a multiset, exactly the triples stored;
  `JoinOutrecPaths`, ring closing / rotation (`outrec.pts = result`) permute the triples and write nothing; `SwapOutrecs` and the ghost bookkeeping have no Z effect at all.
* `callback_log_sound` — the calls are numbered consecutively, every recorded answer is the family's answer to the recorded arguments, and every `setz k`
  emission refers to a call that was made.

NOT covered (stated explicitly, see also the model's header):
* `FixSelfIntersects` / `DoSplitOp` (in `CleanCollinear`, after the sweep): creates a vertex `ip` (`z = 0`), calls `zCallback_(prevOp->pt, splitOp->pt, splitOp->next->pt,
  nextNextOp->pt, ip)` directly (no `SetZ`, so no end-point z and no `DefaultZ`), and stores `ip` in one or two `OutPt`s.  Needs a ring that touches itself, which
  general position excludes; the seeded change C15b-m1 lives there.  Spec-level only (`ZCHECK`).
* horizontal joins: `ConvertHorzSegsToJoins` inserts `DuplicateOp` copies (x, y, z copied) during the sweep; the trace tie stops at the first one.
* `CleanCollinear` removes `OutPt`s (with their z); `BuildPath64` copies `pt` with z and skips an `OutPt` equal in x, y to the one just emitted: of two equal
  points with different z the one met first survives (the walk starts at `outrec->pts->next` — `outrec->pts` when reversed — and goes along `next` — `prev` —).
* open paths are not in this file: `Props/C15OpenRings.lean` (Z layer of the open-path assembly model, up to the returned open solution).
-/
import ClipperVerif.Lemmas.AelRingsZ
import ClipperVerif.Props.C01Rings
namespace Clipper.Props.C15Rings
open Clipper Clipper.Model Clipper.Model.ZFill

/-- Forgetting the Z part, an accepted event is the same event (z forgotten) of the ring model `Model.stepR`; the Z rings change by
`Model.outStepZ`, computed from the side state before the event. -/
theorem eraseZ_step (cfg : Cfg) (zc : ZCfg) (st st' : ZState) (op : ZOp) (h : stepZ cfg zc st op = .ok st') :
    stepR cfg st.r op.erase = .ok st'.r ∧ st'.z = outStepZ cfg zc st.r.s st.z op := by
  unfold stepZ at h
  cases hs : stepR cfg st.r op.erase with
  | ok r' => simp only [hs] at h; cases h; exact ⟨rfl, rfl⟩
  | error e => simp [hs] at h

/-- A run of the Z model projects to a run of the ring model on the events with z forgotten. -/
theorem eraseZ_run (cfg : Cfg) (zc : ZCfg) (ops : List ZOp) : ∀ (st st' : ZState), runZ cfg zc st ops = .ok st' →
    runR cfg st.r (ops.map ZOp.erase) = .ok st'.r := by
  induction ops with
  | nil => intro st st' h; simp only [runZ] at h; cases h; rfl
  | cons op ops ih =>
    intro st st' h
    simp only [runZ] at h
    cases hs : stepZ cfg zc st op with
    | error e => simp [hs] at h
    | ok st1 =>
      simp only [hs] at h
      have h1 := (eraseZ_step cfg zc st st1 op hs).1
      simp only [List.map_cons, runR, h1]
      exact ih st1 st' h

/-- the event list contains no `CheckJoinLeft/Right` event (edges never collinear and touching; on the general-position inputs of the harness no trace has one) -/
def NoJoins (ops : List ZOp) : Prop := ∀ op ∈ ops, ∀ i pt, op ≠ .join i pt

/-- the invariant of a run, for all sweeps (`S = true`) and for sweeps without join events (`S = false`): then no edge is ever joined, no `Split` is entered,
and an event that emits supplies a vertex or is an `IntersectEdges` -/
structure ZInv (zc : ZCfg) (S : Bool) (E : List ZOp) (st : ZState) : Prop where
  agree : Agree st.z st.r.o
  perm : PermZOK st.z
  calls : CallsOK zc st.z
  unj : S = false → Unj st.r.s.ael
  from_ : ∀ e ∈ st.z.log, ∃ op ∈ E, (S = false → op.vertexPt = some op.ptz ∨ op.isX = true) ∧ EmitFrom zc op.isX S (· = op.ends) op.ptz e

theorem zinv_empty (zc : ZCfg) (S : Bool) : ZInv zc S [] ZState.empty :=
  { agree := ⟨rfl, rfl⟩
    perm := List.Perm.nil
    calls := ⟨rfl, fun _ hc => (nomatch hc), fun _ he => (nomatch he)⟩
    unj := fun _ _ hx => nomatch hx
    from_ := fun _ he => nomatch he }

theorem zinv_step (cfg : Cfg) (zc : ZCfg) (S : Bool) (E : List ZOp) (st st' : ZState) (op : ZOp) (hnj : S = false → ∀ i pt, op ≠ .join i pt)
    (h : ZInv zc S E st) (hs : stepZ cfg zc st op = .ok st') : ZInv zc S (op :: E) st' := by
  obtain ⟨h1, h2⟩ := eraseZ_step cfg zc st st' op hs
  obtain ⟨hS, ho⟩ := C01Rings.erase_ring_step cfg st.r st'.r op.erase h1
  have hSU : S = true ∨ Unj st.r.s.ael := by
    cases S
    · exact Or.inr (h.unj rfl)
    · exact Or.inl rfl
  -- every clause is a relation between the Z rings and the plain rings kept by every pair of primitives, hence by `outStepZ`
  have lift := fun R hp => rel_outStepZ cfg zc st.r.s st.z st.r.o op S R hp hSU
  have hlog := lift _ (logFrom_primRel (· ∈ st.z.log) zc op.isX S (· = op.ends) op.ends rfl op.ptz) (fun e he => Or.inl he)
  -- without joins: the AEL stays free of joined edges; the event supplies a vertex, is an `IntersectEdges`, or has no Z effect
  have kind : S = false → Unj st'.r.s.ael ∧ ((op.vertexPt = some op.ptz ∨ op.isX = true) ∨ st'.z = st.z) := by
    intro hf
    have hu := h.unj hf
    have unj : ∀ sop, op.erase.erase = some sop → (∀ i, sop ≠ .join i) → Unj st'.r.s.ael :=
      fun sop he hop => unj_stepS cfg _ _ sop hop hu (by rw [he] at hS; exact hS)
    cases op with
    | join i p => exact absurd rfl (hnj hf i p)
    | split i p => exact (splitS_unj i _ _ hu hS).elim
    | insertOne pos t dx => exact ⟨unj _ rfl (fun i hh => nomatch hh), Or.inr h2⟩
    | removeOne i => exact ⟨unj _ rfl (fun i hh => nomatch hh), Or.inr h2⟩
    | insertPair pos t isOpen dx p => exact ⟨unj _ rfl (fun i hh => nomatch hh), Or.inl (Or.inl rfl)⟩
    | intersect i p e => exact ⟨unj _ rfl (fun i hh => nomatch hh), Or.inl (Or.inr rfl)⟩
    | removePair i p => exact ⟨unj _ rfl (fun i hh => nomatch hh), Or.inl (Or.inl rfl)⟩
    | update i p => exact ⟨by rw [show st'.r.s = st.r.s from hS]; exact hu, Or.inl (Or.inl rfl)⟩
  have old : ∀ e ∈ st.z.log, ∃ op' ∈ op :: E, (S = false → op'.vertexPt = some op'.ptz ∨ op'.isX = true) ∧ EmitFrom zc op'.isX S (· = op'.ends) op'.ptz e :=
    fun e he => (h.from_ e he).elim fun op' hf => ⟨op', List.mem_cons_of_mem _ hf.1, hf.2⟩
  exact {
    agree := h2 ▸ ho ▸ lift Agree (agree_prim zc _ _ _ _) h.agree
    perm := h2 ▸ lift _ (permZOK_prim zc _ _ _ _) h.perm
    calls := h2 ▸ lift _ (callsOK_prim zc _ _ _ _) h.calls
    unj := fun hf => (kind hf).1
    from_ := fun e he => by
      rcases hlog e (h2 ▸ he) with h' | h'
      · exact old e h'
      · cases S with
        | true => exact ⟨op, List.mem_cons_self, fun hh => Bool.noConfusion hh, h'⟩
        | false =>
          rcases (kind rfl).2 with hk | hk
          · exact ⟨op, List.mem_cons_self, fun _ => hk, h'⟩
          · exact old e (hk ▸ he) }

/-- All Z invariants hold after every event list from the empty state. -/
theorem zinv_reachable (cfg : Cfg) (zc : ZCfg) (S : Bool) (ops : List ZOp) (st : ZState) (hnj : S = false → NoJoins ops)
    (hr : runZ cfg zc ZState.empty ops = .ok st) : ZInv zc S ops.reverse st := by
  have := C01Rings.run_invariant (stepZ cfg zc) (runZ cfg zc) (fun _ => rfl) (fun _ _ _ _ h => by rw [runZ, h]) (fun _ _ _ _ h => by rw [runZ, h])
    (ZInv zc S) ops [] _ st (fun E s s' op hop h hs => zinv_step cfg zc S E s s' op (fun hf => hnj hf op hop) h hs) (zinv_empty zc S) hr
  rwa [List.append_nil] at this

/-- In every reachable state the Z rings, with the z of every point forgotten, are the rings of the ring model — same records, same
state (`live` / `done` / `gone`), same points in the same order — and the Z emission log with z forgotten is the ring model's log (`over` reads `dup`).
So the x, y geometry of a USINGZ sweep is that of the plain sweep on the same events, and the theorems of `Props/C01Rings.lean` (conservation, ring ends at
the AEL, neighbours logged, runs) apply to the Z rings. -/
theorem z_rings_agree (cfg : Cfg) (zc : ZCfg) (ops : List ZOp) (st : ZState) (hr : runZ cfg zc ZState.empty ops = .ok st) :
    st.z.rings.map ZRing.erase = st.r.o.rings.map Ring.core ∧ st.z.log.map ZEmit.erase = st.r.o.log :=
  (zinv_reachable cfg zc true ops st (fun hh => nomatch hh) hr).agree

/-- transfer, example: `AddOutPt` is never called on a missing or dead record in the Z model either -/
theorem no_point_lost_z (cfg : Cfg) (hct : cfg.ct ≠ .noClip) (zc : ZCfg) (ops : List ZOp) (st : ZState) (hr : runZ cfg zc ZState.empty ops = .ok st) :
    ∀ e ∈ st.z.log, e.kind ≠ .lost := by
  intro e he hk
  have h2 := (z_rings_agree cfg zc ops st hr).2
  have hr' := eraseZ_run cfg zc ops ZState.empty st hr
  have := (C01Rings.rings_conserve_points cfg hct _ st.r hr').2.1 e.erase (by rw [← h2]; exact List.mem_map_of_mem he)
  apply this
  simp [ZEmit.erase, hk, ZKind.erase]

/-- In every reachable state every triple `q` of every ring (under construction, finished) is the triple of a log entry `e` that stored
it (`new`, `added`, or `over` = `SetZ` wrote into the ring end `AddOutPt` returned), and `e` was made by one of the events `op`, in one of two ways:
* by value: `q` is exactly the triple `op` was handed (`op.ptz`), z included; if `op` is an `IntersectEdges` call and a callback is installed this happens only
  for the record started by a `Split` (`e.kind = new`);
* through `SetZ`: `op` is an `IntersectEdges` call, a callback family `F` is installed, and `q = setZ (some (F k)) subj e1bot e1top e2bot e2top pt DefaultZ` for
  the event's own `pt` and edge end points, some call index `k` and `subj = (GetPolyType(e1) == Subject)`. -/
theorem ring_z_provenance (cfg : Cfg) (zc : ZCfg) (ops : List ZOp) (st : ZState) (hr : runZ cfg zc ZState.empty ops = .ok st)
    (g : ZRing) (hg : g ∈ st.z.rings) (q : PtZ) (hq : q ∈ g.pts) :
    ∃ e ∈ st.z.log, e.stored = true ∧ e.ptz = q ∧ ∃ op ∈ ops,
      (e.src = .given ∧ q = op.ptz ∧ (op.isX = true → zc.cb.isSome = true → e.kind = .new)) ∨
      (∃ F k subj i pt ends, zc.cb = some F ∧ op = .intersect i pt ends ∧ e.src = .setz k ∧
        q = setZ (some (F k)) subj ends.e1bot ends.e1top ends.e2bot ends.e2top pt zc.defaultZ) := by
  have h := zinv_reachable cfg zc true ops st (fun hh => nomatch hh) hr
  obtain ⟨e, he, h1, h2⟩ := provOK_of_perm _ h.perm g hg q hq
  obtain ⟨op, hop, _, hf⟩ := h.from_ e he
  refine ⟨e, he, h1, h2, op, by simpa using hop, ?_⟩
  rcases hf with ⟨f1, f2, f3⟩ | ⟨hX, F, k, subj, _, rfl, hF, f2, f3⟩
  · refine Or.inl ⟨f1, by rw [← h2, f2], fun hX hcb => ?_⟩
    rcases f3 hX with hn | ⟨_, hk⟩
    · rw [hn] at hcb; cases hcb
    · exact hk
  · obtain ⟨i, pt, ends, rfl⟩ := isX_intersect op hX
    exact Or.inr ⟨F, k, subj, i, pt, ends, hF, rfl, f2, by rw [← h2, f3]; rfl⟩

/-- what `SetZ` shows to the callback, spelled out: same x, y as the point; z = the z of the first end point it coincides with (order `sb, st, cb, ct`), else `DefaultZ` -/
def Shown (dz : Int) (sb st cb ct ip seen : PtZ) : Prop :=
  seen.x = ip.x ∧ seen.y = ip.y ∧
  ((∃ w ∈ [sb, st, cb, ct], samePt ip w = true ∧ seen.z = w.z) ∨
   (samePt ip sb = false ∧ samePt ip st = false ∧ samePt ip cb = false ∧ samePt ip ct = false ∧ seen.z = dz))

theorem shown_pickZ (dz : Int) (a b c d ip : PtZ) : Shown dz a b c d ip { ip with z := pickZ ip a b c d dz } := by
  refine ⟨rfl, rfl, ?_⟩
  by_cases h : samePt ip a = true ∨ samePt ip b = true ∨ samePt ip c = true ∨ samePt ip d = true
  · left
    obtain ⟨w, hw, h1, h2⟩ := Clipper.Props.C15.pickZ_at_endpoint ip a b c d dz h
    exact ⟨w, hw, h1, h2⟩
  · have ha : samePt ip a = false := Bool.eq_false_iff.mpr fun hh => h (Or.inl hh)
    have hb : samePt ip b = false := Bool.eq_false_iff.mpr fun hh => h (Or.inr (Or.inl hh))
    have hc : samePt ip c = false := Bool.eq_false_iff.mpr fun hh => h (Or.inr (Or.inr (Or.inl hh)))
    have hd : samePt ip d = false := Bool.eq_false_iff.mpr fun hh => h (Or.inr (Or.inr (Or.inr hh)))
    exact Or.inr ⟨ha, hb, hc, hd, Clipper.Props.C15.pickZ_default ip a b c d dz ha hb hc hd⟩

/-- what a triple written by `SetZ` is: the callback's answer to the end points (subject edge first) and the point as `Shown` -/
theorem setZ_accounting (F : Nat → Callback) (k : Nat) (subj : Bool) (ends : ZEnds) (pt : PtZ) (dz : Int) :
    ∃ sb st' cb ct seen,
      ((sb, st', cb, ct) = (ends.e1bot, ends.e1top, ends.e2bot, ends.e2top) ∨ (sb, st', cb, ct) = (ends.e2bot, ends.e2top, ends.e1bot, ends.e1top)) ∧
      Shown dz sb st' cb ct pt seen ∧
      setZ (some (F k)) subj ends.e1bot ends.e1top ends.e2bot ends.e2top pt dz = ⟨pt.x, pt.y, F k sb st' cb ct seen⟩ := by
  have spec := Clipper.Props.C15.setZ_spec (F k) subj ends.e1bot ends.e1top ends.e2bot ends.e2top pt dz
  cases subj
  · exact ⟨ends.e2bot, ends.e2top, ends.e1bot, ends.e1top, _, Or.inr rfl, shown_pickZ _ _ _ _ _ pt, spec⟩
  · exact ⟨ends.e1bot, ends.e1top, ends.e2bot, ends.e2top, _, Or.inl rfl, shown_pickZ _ _ _ _ _ pt, spec⟩

/-- the Z clause of C15 on the rings, with a callback `F` installed.  Every triple `q` of every ring either
(A) is, z included, the triple one of the events supplied by value: the input vertex of a vertex event (`insertPair`: `left_bound->bot`; `update`, `removePair`:
    `e.top`), or the `pt` handed to `CheckJoinLeft/Right` / `Split` (also the `Split`s inside `IntersectEdges`: an `IntersectEdges` event supplies a by-value triple
    only as the first point of the record a `Split` starts) — points that exist only when edges are collinear and touch, never in general position; or
(B) was passed to the callback and carries what the callback assigned: for an `IntersectEdges(e1, e2, pt)` event with edge end points `ends`, the callback's
    `k`-th call received `(sb, st, cb, ct)` = `(e1.bot, e1.top, e2.bot, e2.top)` if `e1` is a subject edge and `(e2.bot, e2.top, e1.bot, e1.top)` otherwise, and the
    point `seen` with `seen.x,y = pt.x,y` and `seen.z` = the z of the first of `sb, st, cb, ct` that `pt` coincides with, else `DefaultZ`; and
    `q = (pt.x, pt.y, F k sb st cb ct seen)`. -/
theorem ring_z_accounting (cfg : Cfg) (zc : ZCfg) (F : Nat → Callback) (hF : zc.cb = some F) (ops : List ZOp) (st : ZState)
    (hr : runZ cfg zc ZState.empty ops = .ok st) (g : ZRing) (hg : g ∈ st.z.rings) (q : PtZ) (hq : q ∈ g.pts) :
    ∃ op ∈ ops,
      (q = op.ptz ∧ ∀ i pt ends, op = .intersect i pt ends → ∃ e ∈ st.z.log, e.ptz = q ∧ e.kind = .new ∧ e.src = .given) ∨
      (∃ i pt ends k sb st' cb ct seen, op = .intersect i pt ends ∧
        ((sb, st', cb, ct) = (ends.e1bot, ends.e1top, ends.e2bot, ends.e2top) ∨ (sb, st', cb, ct) = (ends.e2bot, ends.e2top, ends.e1bot, ends.e1top)) ∧
        Shown zc.defaultZ sb st' cb ct pt seen ∧ q.x = pt.x ∧ q.y = pt.y ∧ q.z = F k sb st' cb ct seen) := by
  obtain ⟨e, he, _, h2, op, hop, h3⟩ := ring_z_provenance cfg zc ops st hr g hg q hq
  refine ⟨op, hop, ?_⟩
  rcases h3 with ⟨f1, f2, f3⟩ | ⟨F', k, subj, i, pt, ends, hF', rfl, _, f3⟩
  · refine Or.inl ⟨f2, fun i pt ends hop' => ?_⟩
    subst hop'
    exact ⟨e, he, h2, f3 rfl (by rw [hF]; rfl), f1⟩
  · rw [hF] at hF'; cases hF'
    obtain ⟨sb, st', cb, ct, seen, h4, h5, h6⟩ := setZ_accounting F k subj ends pt zc.defaultZ
    rw [← f3] at h6
    exact Or.inr ⟨i, pt, ends, k, sb, st', cb, ct, seen, rfl, h4, h5, by rw [h6], by rw [h6], by rw [h6]⟩

/-- Without a callback every triple of every ring is, z included, the triple one of the events was handed: input vertices keep the input's z,
and a new vertex carries the z of the `pt` passed to `IntersectEdges` (in the C++ 0 for a computed point — not `DefaultZ`, which only `SetZ` reads). -/
theorem ring_z_no_callback (cfg : Cfg) (zc : ZCfg) (hF : zc.cb = none) (ops : List ZOp) (st : ZState)
    (hr : runZ cfg zc ZState.empty ops = .ok st) (g : ZRing) (hg : g ∈ st.z.rings) (q : PtZ) (hq : q ∈ g.pts) : ∃ op ∈ ops, q = op.ptz := by
  obtain ⟨e, _, _, _, op, hop, h3⟩ := ring_z_provenance cfg zc ops st hr g hg q hq
  refine ⟨op, hop, ?_⟩
  rcases h3 with ⟨_, f2, _⟩ | ⟨F', _, _, _, _, _, hF', _⟩
  · exact f2
  · rw [hF] at hF'; cases hF'

/-- Conservation for `(x, y, z)` triples after every event list: the triples in all rings (under construction, finished) together with
the triples that `SetZ` overwrote (`over` entries: `AddOutPt` returned the existing ring end because the new point had its x, y; `SetZ` then replaced that end's z)
are, as a multiset, exactly the triples stored by `new`, `added` and `over` emissions.  Nothing else creates, destroys or changes a triple:
`JoinOutrecPaths`, `SwapOutrecs`, ring closing and `Split` neither lose nor duplicate a point nor touch a z. -/
theorem rings_conserve_triples (cfg : Cfg) (zc : ZCfg) (ops : List ZOp) (st : ZState) (hr : runZ cfg zc ZState.empty ops = .ok st) :
    (allPtsZ st.z.rings ++ (st.z.log.filter (fun e => e.kind == .over)).map (·.old)).Perm ((st.z.log.filter ZEmit.stored).map (·.ptz)) :=
  (zinv_reachable cfg zc true ops st (fun hh => nomatch hh) hr).perm

/-- The operations that rearrange rings write no z:
(a) `JoinOutrecPaths` (`joinPathsZ`) and (b) ring closing `outrec.pts = result; UncoupleOutRec` with its rotation (`finishZ`) permute the triples of the rings and leave the
emission log, the callback counter and the callback log alone, in any state;
(c) a `CheckJoinLeft/Right` event on two different records — a bare `JoinOutrecPaths` — therefore keeps the multiset of ring triples and logs nothing;
(d) `SwapOutrecs` (`handOver`) and the segment log are ghost operations of the ring model: the Z effect of an event is computed from the side state and the Z rings only
(`eraseZ_step`: `st'.z = outStepZ cfg zc st.r.s st.z op`), so they cannot touch a z. -/
theorem z_not_touched_by_joins :
    (∀ A B f z, (allPtsZ (joinPathsZ A B f z).rings).Perm (allPtsZ z.rings) ∧ (joinPathsZ A B f z).log = z.log ∧ (joinPathsZ A B f z).ncb = z.ncb ∧ (joinPathsZ A B f z).calls = z.calls) ∧
    (∀ id f z, (allPtsZ (finishZ id f z).rings).Perm (allPtsZ z.rings) ∧ (finishZ id f z).log = z.log ∧ (finishZ id f z).ncb = z.ncb ∧ (finishZ id f z).calls = z.calls) ∧
    (∀ zc i pt s z a b rest ra rb, s.ael.drop i = a :: b :: rest → a.orec = some ra → b.orec = some rb → ra.id ≠ rb.id →
      (allPtsZ (joinOutZ zc i pt s z).rings).Perm (allPtsZ z.rings) ∧ (joinOutZ zc i pt s z).log = z.log) := by
  refine ⟨joinPathsZ_triples, finishZ_triples, ?_⟩
  intro zc i pt s z a b rest ra rb hd ha hb hne
  unfold joinOutZ
  simp only [hd, ha, hb, hne, if_false]
  split
  · exact ⟨(joinPathsZ_triples _ _ _ z).1, (joinPathsZ_triples _ _ _ z).2.1⟩
  · exact ⟨(joinPathsZ_triples _ _ _ z).1, (joinPathsZ_triples _ _ _ z).2.1⟩

/-- In every reachable state the recorded calls are numbered `ncb-1, …, 1, 0` (most recent first): the callback was called exactly `ncb` times;
every recorded answer is the family's answer `F k a b c d seen` to the recorded arguments (what the driver compares with the harness's log is what `setZ` passed);
every emission marked `setz k` refers to a call that was made; and without a callback there is no call. -/
theorem callback_log_sound (cfg : Cfg) (zc : ZCfg) (ops : List ZOp) (st : ZState) (hr : runZ cfg zc ZState.empty ops = .ok st) :
    st.z.calls.map (·.k) = (List.range st.z.ncb).reverse ∧
    (∀ c ∈ st.z.calls, ∃ F, zc.cb = some F ∧ c.ret = F c.k c.a c.b c.c c.d c.seen) ∧
    (∀ e ∈ st.z.log, ∀ k, e.src = .setz k → k < st.z.ncb) ∧
    (zc.cb = none → st.z.ncb = 0) := by
  have h := (zinv_reachable cfg zc true ops st (fun hh => nomatch hh) hr).calls
  refine ⟨h.1, h.2.1, h.2.2, ?_⟩
  intro hn
  cases hc : st.z.calls with
  | nil =>
    have := h.1; rw [hc] at this
    cases hk : st.z.ncb with
    | zero => rfl
    | succ n => rw [hk, List.range_succ] at this; simp at this
  | cons c t =>
    obtain ⟨F, hF, _⟩ := h.2.1 c (by rw [hc]; exact List.mem_cons_self)
    rw [hn] at hF; cases hF

/-- In a sweep without `CheckJoinLeft/Right` events no edge is ever joined: `IsJoined(e)` is false at every `Split` call site, so no record is ever
started by value inside `IntersectEdges` / `DoMaxima`. -/
theorem no_joins_no_split (cfg : Cfg) (zc : ZCfg) (ops : List ZOp) (st : ZState) (hnj : NoJoins ops) (hr : runZ cfg zc ZState.empty ops = .ok st) :
    ∀ x ∈ st.r.s.ael, x.join = .none := by
  exact (zinv_reachable cfg zc false ops st (fun _ => hnj) hr).unj rfl

/-- the Z clause of C15 for sweeps without join events (general position), callback `F` installed: every triple `q` of every ring either
(A) is the input vertex of a vertex event — `left_bound->bot` of a local minimum, `e.top` of a passed vertex or of a maximum — **with the z the input gave it**, or
(B) was passed to the callback by the `SetZ` of an `IntersectEdges` event and carries the callback's answer; the callback was shown the end points subject edge first
and the point with the z of the first end point it coincides with, else `DefaultZ`.
No third case: in particular no vertex carries a z that was never supplied by the input or assigned by the callback. -/
theorem ring_z_accounting_no_joins (cfg : Cfg) (zc : ZCfg) (F : Nat → Callback) (hF : zc.cb = some F) (ops : List ZOp) (st : ZState) (hnj : NoJoins ops)
    (hr : runZ cfg zc ZState.empty ops = .ok st) (g : ZRing) (hg : g ∈ st.z.rings) (q : PtZ) (hq : q ∈ g.pts) :
    ∃ op ∈ ops,
      op.vertexPt = some q ∨
      (∃ i pt ends k sb st' cb ct seen, op = .intersect i pt ends ∧
        ((sb, st', cb, ct) = (ends.e1bot, ends.e1top, ends.e2bot, ends.e2top) ∨ (sb, st', cb, ct) = (ends.e2bot, ends.e2top, ends.e1bot, ends.e1top)) ∧
        Shown zc.defaultZ sb st' cb ct pt seen ∧ q.x = pt.x ∧ q.y = pt.y ∧ q.z = F k sb st' cb ct seen) := by
  have hU := zinv_reachable cfg zc false ops st (fun _ => hnj) hr
  obtain ⟨e, he, _, h2⟩ := provOK_of_perm _ hU.perm g hg q hq
  obtain ⟨op, hop, hk, hf⟩ := hU.from_ e he
  replace hk := hk rfl
  refine ⟨op, by simpa using hop, ?_⟩
  rcases hf.unj with ⟨_, f2, f3⟩ | ⟨hX, F', k, subj, _, rfl, hF', _, f3⟩
  · left
    rcases hk with hk | hk
    · rw [hk, ← f2, h2]
    · rw [f3 hk] at hF; cases hF
  · rw [hF] at hF'; cases hF'
    obtain ⟨i, pt, ends, rfl⟩ := isX_intersect op hX
    obtain ⟨sb, st', cb, ct, seen, h4, h5, h6⟩ := setZ_accounting F k subj ends pt zc.defaultZ
    have h6' : q = ⟨pt.x, pt.y, F k sb st' cb ct seen⟩ := by rw [← h2, f3]; exact h6
    exact Or.inr ⟨i, pt, ends, k, sb, st', cb, ct, seen, rfl, h4, h5, by rw [h6'], by rw [h6'], by rw [h6']⟩

/-- Sweeps without join events and without a callback: every ring triple is the input vertex of a vertex event with the input's z, or exactly the
`pt` — z included — that an `IntersectEdges` call was handed (in the C++ a computed point, z = 0). -/
theorem ring_z_no_callback_no_joins (cfg : Cfg) (zc : ZCfg) (hF : zc.cb = none) (ops : List ZOp) (st : ZState) (hnj : NoJoins ops)
    (hr : runZ cfg zc ZState.empty ops = .ok st) (g : ZRing) (hg : g ∈ st.z.rings) (q : PtZ) (hq : q ∈ g.pts) :
    ∃ op ∈ ops, op.vertexPt = some q ∨ ∃ i ends, op = .intersect i q ends := by
  have hU := zinv_reachable cfg zc false ops st (fun _ => hnj) hr
  obtain ⟨e, he, _, h2⟩ := provOK_of_perm _ hU.perm g hg q hq
  obtain ⟨op, hop, hk, hf⟩ := hU.from_ e he
  replace hk := hk rfl
  refine ⟨op, by simpa using hop, ?_⟩
  rcases hf.unj with ⟨_, f2, _⟩ | ⟨_, F', _, _, _, _, hF', _⟩
  · rcases hk with hk | hk
    · left; rw [hk, ← f2, h2]
    · obtain ⟨i, pt, ends, rfl⟩ := isX_intersect op hk
      exact Or.inr ⟨i, ends, by rw [← h2, f2]; rfl⟩
  · rw [hF] at hF'; cases hF'

theorem checkAgree_sound (st : ZState) (h : checkAgree st = true) : Agree st.z st.r.o := by
  unfold checkAgree at h
  simp only [Bool.and_eq_true, beq_iff_eq] at h
  exact h

theorem checkProv_sound (z : ZOut) (h : checkProv z = true) : ProvOK z := by
  unfold checkProv at h
  simp only [List.all_eq_true, List.any_eq_true, Bool.and_eq_true, beq_iff_eq] at h
  intro g hg q hq
  have : q ∈ allPtsZ z.rings := by simp only [allPtsZ, List.mem_flatMap]; exact ⟨g, hg, hq⟩
  obtain ⟨e, he, h1, h2⟩ := h q this
  exact ⟨e, he, h1, h2⟩

def ringsOfZ (x : Except Err ZState) : Option (List (RStat × List PtZ)) := x.toOption.map (fun st => st.z.rings.map (fun g => (g.stat, g.pts)))

/-- subject triangle (0,0,z=3) (100,10,6) (40,90,9), clip triangle (50,-20,12) (130,60,15) (20,50,18): the events of the real sweep with the `bot`/`top` of the two
edges at every crossing -/
def trianglesZ : List ZOp :=
  [ .insertPair 0 .subject false 1 ⟨40, 90, 9⟩,
    .insertPair 2 .clip false 1 ⟨130, 60, 15⟩,
    .intersect 1 ⟨66, 54, 0⟩ ⟨⟨40, 90, 9⟩, ⟨100, 10, 6⟩, ⟨130, 60, 15⟩, ⟨20, 50, 18⟩⟩,
    .intersect 0 ⟨22, 50, 0⟩ ⟨⟨40, 90, 9⟩, ⟨0, 0, 3⟩, ⟨130, 60, 15⟩, ⟨20, 50, 18⟩⟩,
    .update 0 ⟨20, 50, 18⟩,
    .intersect 0 ⟨21, 47, 0⟩ ⟨⟨20, 50, 18⟩, ⟨50, -20, 12⟩, ⟨40, 90, 9⟩, ⟨0, 0, 3⟩⟩,
    .intersect 2 ⟨91, 21, 0⟩ ⟨⟨40, 90, 9⟩, ⟨100, 10, 6⟩, ⟨130, 60, 15⟩, ⟨50, -20, 12⟩⟩,
    .update 3 ⟨100, 10, 6⟩,
    .intersect 2 ⟨77, 7, 0⟩ ⟨⟨130, 60, 15⟩, ⟨50, -20, 12⟩, ⟨100, 10, 6⟩, ⟨0, 0, 3⟩⟩,
    .intersect 1 ⟨39, 3, 0⟩ ⟨⟨20, 50, 18⟩, ⟨50, -20, 12⟩, ⟨100, 10, 6⟩, ⟨0, 0, 3⟩⟩,
    .removePair 0 ⟨0, 0, 3⟩,
    .removePair 0 ⟨50, -20, 12⟩ ]

/-- a stateful callback: the `k`-th call answers `1000 + k` -/
def fresh : ZCfg := { cb := some (fun k _ _ _ _ _ => 1000 + (k : Int)), defaultZ := 7 }
/-- a callback that leaves the z it is shown -/
def keep : ZCfg := { cb := some (fun _ _ _ _ _ p => p.z), defaultZ := 7 }
def nocb : ZCfg := { cb := none, defaultZ := 7 }

/-- the triangles sweep has no join event (hypothesis of the `…_no_joins` theorems) -/
example : NoJoins trianglesZ := by
  intro op hop i pt h; subst h; revert hop; simp [trianglesZ]

/-- forgetting z the events are those of `C01Rings.triangles` -/
example : trianglesZ.map ZOp.erase = C01Rings.triangles := by decide +kernel

/-- the union with the counting callback: input vertices keep their z, the six crossings carry 1000 … 1005 in the order the callback was called -/
example : ringsOfZ (runZ ⟨.union, .nonZero⟩ fresh ZState.empty trianglesZ) =
    some [(.done, [⟨50, -20, 12⟩, ⟨39, 3, 1005⟩, ⟨0, 0, 3⟩, ⟨21, 47, 1002⟩, ⟨20, 50, 18⟩, ⟨22, 50, 1001⟩, ⟨40, 90, 9⟩, ⟨66, 54, 1000⟩, ⟨130, 60, 15⟩, ⟨91, 21, 1003⟩,
      ⟨100, 10, 6⟩, ⟨77, 7, 1004⟩]), (.gone, []), (.gone, [])] := by
  decide +kernel
/-- the same with the callback that keeps what it is shown: no crossing is at an end point, so all six carry `DefaultZ = 7` -/
example : ringsOfZ (runZ ⟨.union, .nonZero⟩ keep ZState.empty trianglesZ) =
    some [(.done, [⟨50, -20, 12⟩, ⟨39, 3, 7⟩, ⟨0, 0, 3⟩, ⟨21, 47, 7⟩, ⟨20, 50, 18⟩, ⟨22, 50, 7⟩, ⟨40, 90, 9⟩, ⟨66, 54, 7⟩, ⟨130, 60, 15⟩, ⟨91, 21, 7⟩, ⟨100, 10, 6⟩, ⟨77, 7, 7⟩]),
      (.gone, []), (.gone, [])] := by
  decide +kernel
/-- without a callback the crossings keep the z they were handed (0), not `DefaultZ` -/
example : ringsOfZ (runZ ⟨.union, .nonZero⟩ nocb ZState.empty trianglesZ) =
    some [(.done, [⟨50, -20, 12⟩, ⟨39, 3, 0⟩, ⟨0, 0, 3⟩, ⟨21, 47, 0⟩, ⟨20, 50, 18⟩, ⟨22, 50, 0⟩, ⟨40, 90, 9⟩, ⟨66, 54, 0⟩, ⟨130, 60, 15⟩, ⟨91, 21, 0⟩, ⟨100, 10, 6⟩, ⟨77, 7, 0⟩]),
      (.gone, []), (.gone, [])] := by
  decide +kernel
/-- the intersection: a hexagon of six callback values; the `AddLocalMaxPoly; AddLocalMinPoly` … cases call the callback once per `OutPt` -/
example : (runZ ⟨.intersection, .evenOdd⟩ fresh ZState.empty trianglesZ).toOption.map (fun st => (st.z.rings.map (·.pts), st.z.ncb, checkAgree st && checkProv st.z)) =
    some ([[⟨39, 3, 1005⟩, ⟨21, 47, 1002⟩, ⟨22, 50, 1001⟩, ⟨66, 54, 1000⟩, ⟨91, 21, 1003⟩, ⟨77, 7, 1004⟩]], 6, true) := by
  decide +kernel

/-- `AddOutPt`'s duplicate suppression followed by `SetZ`, at the level of the primitive: the front end of a ring is the input vertex `(10,10,z=5)`; an `IntersectEdges`
whose subject edge has `top = (10,10,5)` hands over `(10,10,0)`.  `AddOutPt` returns the old end; `SetZ` shows the callback z = 5 (the end point's z) and its answer
overwrites the 5 in the ring (`over`, old triple remembered) -/
example :
    let z0 : ZOut := { rings := [{ pts := [⟨10, 10, 5⟩, ⟨0, 0, 1⟩], stat := .live }], log := [], ncb := 0, calls := [] }
    let ends : ZEnds := ⟨⟨0, 0, 1⟩, ⟨10, 10, 5⟩, ⟨20, 0, 2⟩, ⟨0, 20, 4⟩⟩
    let z1 := addOutPtZ fresh ends 0 true (some true) ⟨10, 10, 0⟩ z0
    (z1.rings.map (·.pts), z1.log.map (fun e => (e.ptz, e.kind, e.old)), z1.calls.map (fun c => (c.seen, c.ret))) =
      ([[⟨10, 10, 1000⟩, ⟨0, 0, 1⟩]], [(⟨10, 10, 1000⟩, .over, ⟨10, 10, 5⟩)], [(⟨10, 10, 5⟩, 1000)]) := by
  decide +kernel
/-- the same without a callback: the duplicate is dropped with its z, the ring keeps the 5 -/
example :
    let z0 : ZOut := { rings := [{ pts := [⟨10, 10, 5⟩, ⟨0, 0, 1⟩], stat := .live }], log := [], ncb := 0, calls := [] }
    let z1 := addOutPtZ nocb ZEnds.none 0 true (some true) ⟨10, 10, 0⟩ z0
    (z1.rings.map (·.pts), z1.log.map (fun e => (e.ptz, e.kind))) = ([[⟨10, 10, 5⟩, ⟨0, 0, 1⟩]], [(⟨10, 10, 0⟩, .dup)]) := by
  decide +kernel

end Clipper.Props.C15Rings

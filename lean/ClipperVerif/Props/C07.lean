/-
C07 — open-path offsetting: theorems about the control frame (`ClipperVerif/Model/OffsetFrame.lean`).

Proved here: index safety of `OffsetPolygon/OffsetOpenJoined/OffsetOpenPath` for paths with at least one point,
empty paths are skipped without any read, hence the whole frame is fault free for every input (`frame_safe`);
the normal reversal of `OffsetOpenPath` hands the backward pass the normals of the reversed path; for groups that
are not `Polygon` what the frame hands to the clean-up union (`core`) is the same for +delta and -delta, and an insignificant delta returns nothing
for them; locality of the frame (`frame_local`): the calls issued for a path depend only on that path and on its
group's parameters.  The shape of the stroke itself (width, caps) is decided at spec level by `STROKECHECK`
(`ClipperVerif/Spec/Offset.lean`, harness/C07.cpp), not by a theorem.
-/
import ClipperVerif.Lemmas.OffsetFrame
namespace Clipper.Props.C07
open Clipper Clipper.OffsetFrame

/-- For a path with at least one point (normals built by `BuildNormals`) every `path[·]` / `norms[·]` read of
`OffsetPolygon`, `OffsetOpenJoined`, `OffsetOpenPath` (including the `OffsetPoint` calls and the reversal loop)
is in range. -/
theorem open_indices_safe (g : Geo N) (jt : JoinType) (et : EndType) (tl gd : Rat) (path : Path)
    (h : 1 ≤ path.length) :
    (∃ es, offsetPolygon g jt tl gd path (buildNormals g path) = .ok es)
    ∧ (∃ es, offsetOpenJoined g jt tl gd path (buildNormals g path) = .ok es)
    ∧ (∃ es, offsetOpenPath g jt et tl gd path (buildNormals g path) = .ok es) :=
  ⟨offsetPolygon_ok g jt tl gd path _ (buildNormals_length g path),
   offsetOpenJoined_ok g jt tl gd path _ (buildNormals_length g path) h,
   offsetOpenPath_ok g jt et tl gd path _ (buildNormals_length g path) h⟩

example : 1 ≤ ([⟨0, 0⟩, ⟨10, 0⟩] : Path).length := by decide

theorem offsetByEndType_safe (g : Geo N) (jt : JoinType) (et : EndType) (tl gd : Rat) (path : Path)
    (h : 1 ≤ path.length) : ∃ es, offsetByEndType g jt et tl gd path = .ok es := by
  have hs := open_indices_safe g jt et tl gd path h
  unfold offsetByEndType
  simp only
  split
  · exact hs.1
  · split
    · exact hs.2.1
    · exact hs.2.2

/-- `DoGroupOffset` skips an empty path: no read, no primitive call, `end_type_` untouched. -/
theorem empty_path_no_call (g : Geo N) (jt : JoinType) (grpEt et : EndType) (tl gd : Rat) :
    doPath g jt grpEt tl gd et [] = .ok (et, []) := rfl

/-- The per-path body of `DoGroupOffset` never reads out of range — for EVERY path (empty, single point, two or
more points) and whatever `end_type_` is. -/
theorem doPath_safe (g : Geo N) (jt : JoinType) (grpEt et : EndType) (tl gd : Rat) (path : Path) :
    ∃ r, doPath g jt grpEt tl gd et path = .ok r := by
  match path with
  | [] => exact ⟨_, rfl⟩
  | [pt] => exact ⟨_, rfl⟩
  | a :: b :: rest =>
    obtain ⟨es, he⟩ := offsetByEndType_safe g jt (endTypeFor jt grpEt (a :: b :: rest).length) tl gd (a :: b :: rest)
      (by simp)
    simp only [doPath, he]
    exact ⟨_, rfl⟩

/-- The per-path primitives themselves would still read out of range on an empty path (this is why the skip in
`DoGroupOffset` is needed): `OffsetOpenPath` reads `path[0]`, `OffsetOpenJoined` reads `norms[0]`. -/
theorem empty_path_primitives (g : Geo N) (jt : JoinType) (et : EndType) (tl gd : Rat) :
    offsetOpenPath g jt et tl gd [] (buildNormals g []) = .error .oob
    ∧ offsetOpenJoined g jt tl gd [] (buildNormals g []) = .error .oob
    ∧ offsetPolygon g jt tl gd [] (buildNormals g []) = .ok [.endPath] := by
  refine ⟨rfl, rfl, rfl⟩

/-- After the "reverse normals" block of `OffsetOpenPath` (`norms[i] = -norms[i-1]` downwards, then
`norms[0] = norms[highI]`) the entries the end cap and the backward pass read, `norms[1 … highI]`, are the
normals `BuildNormals` would compute for the reversed path, at the mirrored positions.  `GetUnitNormal` is
antisymmetric (`hanti`): it negates exact integer differences before the same floating-point operations. -/
theorem reverse_normals (g : Geo N) (hanti : ∀ a b, g.unitNormal b a = g.neg (g.unitNormal a b))
    (path : Path) (h2 : 2 ≤ path.length) :
    ∃ ns', reverseNorms g (path.length - 1) (buildNormals g path) = .ok ns'
      ∧ ns'.length = path.length
      ∧ ∀ m, 1 ≤ m → m ≤ path.length - 1 →
          ns'[m]? = (buildNormals g path.reverse)[path.length - 1 - m]? := by
  have hl := buildNormals_length g path
  obtain ⟨ns', h0, hlen, hm, _⟩ := reverseNorms_spec g (path.length - 1) (buildNormals g path) (by omega)
  refine ⟨ns', h0, by omega, ?_⟩
  intro m h1 hmle
  have hmlt : m < path.length := by omega
  rw [hm m h1 hmle, buildNormals_reverse_getElem? g path m h1 hmlt,
    buildNormals_getElem? g path (m - 1) (by omega)]
  simp only [Option.map_some]
  have e : m - 1 + 1 = m := by omega
  simp only [e]
  rw [hanti (path[m - 1]'(by omega)) (path[m]'hmlt)]

/-- the emits of a computation, the state dropped -/
def sndE : Except Fault (α × β) → Except Fault β
  | .error e => .error e
  | .ok r => .ok r.2

/-- the signed delta a group uses: a function of the group and of the call's delta only -/
def localGd (delta : Rat) (grp : Group) : Rat :=
  if grp.et = .polygon then
    (if grp.isReversed then -(if grp.lowest.isSome then delta else rabs delta)
     else (if grp.lowest.isSome then delta else rabs delta))
  else rabs delta

/-- what one path emits when nothing but the path and its group's parameters matter:
`end_type_` is the group's end type on entry -/
def localPath (g : Geo N) (tl delta : Rat) (grp : Group) (path : Path) : Except Fault (List (Emit N)) :=
  sndE (doPath g grp.jt grp.et tl (localGd delta grp) grp.et path)

def localFrame (g : Geo N) (prm : Params) (groups : List Group) (delta : Rat) : Except Fault (List (Emit N)) :=
  mapE (fun grp => mapE (localPath g (initSt prm delta).tempLim delta grp) grp.paths) groups

/-- the emits of the real frame -/
def realFrame (g : Geo N) (prm : Params) (groups : List Group) (delta : Rat) : Except Fault (List (Emit N)) :=
  sndE (doGroups g prm.arcTolerance (initSt prm delta) groups)

/-- C07 "does not depend on which other paths are offset in the same call" (and C12) at frame level: the calls
issued for a path depend only on that path and on its group's parameters. -/
def FrameLocal (g : Geo N) (prm : Params) (groups : List Group) (delta : Rat) : Prop :=
  realFrame g prm groups delta = localFrame g prm groups delta

/-- what a path emits does not depend on the `end_type_` left behind by earlier paths -/
theorem doPath_snd (g : Geo N) (jt : JoinType) (grpEt : EndType) (tl gd : Rat) (et et' : EndType) (path : Path) :
    sndE (doPath g jt grpEt tl gd et path) = sndE (doPath g jt grpEt tl gd et' path) := by
  match path with
  | [] => rfl
  | [pt] => rfl
  | a :: b :: rest => rfl

theorem doPaths_local (g : Geo N) (jt : JoinType) (grpEt : EndType) (tl gd : Rat) (ps : List Path) :
    ∀ et, sndE (doPaths g jt grpEt tl gd et ps) = mapE (fun p => sndE (doPath g jt grpEt tl gd grpEt p)) ps := by
  induction ps with
  | nil => intro et; rfl
  | cons p ps ih =>
    intro et
    simp only [doPaths, mapE]
    rw [← doPath_snd g jt grpEt tl gd et grpEt p]
    cases doPath g jt grpEt tl gd et p with
    | error e => rfl
    | ok r =>
      obtain ⟨et1, es1⟩ := r
      rw [← ih et1]
      simp only [sndE]
      cases doPaths g jt grpEt tl gd et1 ps with
      | error e => rfl
      | ok r2 => rfl

theorem groupSetup_local (arc : Rat) (grp : Group) (st : St) :
    (groupSetup arc grp st).delta = st.delta ∧ (groupSetup arc grp st).tempLim = st.tempLim
      ∧ (groupSetup arc grp st).groupDelta = localGd st.delta grp ∧ (groupSetup arc grp st).et = grp.et := by
  refine ⟨rfl, rfl, ?_, rfl⟩
  simp only [groupSetup, localGd]

theorem doGroupOffset_local (g : Geo N) (arc : Rat) (grp : Group) (st : St) :
    sndE (doGroupOffset g arc grp st) = mapE (localPath g st.tempLim st.delta grp) grp.paths
    ∧ ∀ r, doGroupOffset g arc grp st = .ok r → r.1.delta = st.delta ∧ r.1.tempLim = st.tempLim := by
  obtain ⟨e1, e2, e3, e4⟩ := groupSetup_local arc grp st
  have hl : localPath g st.tempLim st.delta grp =
      fun p => sndE (doPath g grp.jt grp.et st.tempLim (localGd st.delta grp) grp.et p) := by funext p; rfl
  have hloc := doPaths_local g grp.jt grp.et st.tempLim (localGd st.delta grp) grp.paths grp.et
  unfold doGroupOffset
  simp only
  rw [e2, e3, e4, hl, ← hloc]
  cases doPaths g grp.jt grp.et st.tempLim (localGd st.delta grp) grp.et grp.paths with
  | error e => exact ⟨rfl, by intro r hr; cases hr⟩
  | ok r =>
    refine ⟨rfl, ?_⟩
    intro r' hr
    injection hr with hr
    rw [← hr]
    exact ⟨e1, e2⟩

theorem doGroups_local (g : Geo N) (arc : Rat) (tl delta : Rat) (groups : List Group) :
    ∀ st : St, st.delta = delta → st.tempLim = tl →
      sndE (doGroups g arc st groups) = mapE (fun grp => mapE (localPath g tl delta grp) grp.paths) groups := by
  induction groups with
  | nil => intro st _ _; rfl
  | cons grp gs ih =>
    intro st hd ht
    obtain ⟨hs, hk⟩ := doGroupOffset_local g arc grp st
    have hs' : mapE (localPath g tl delta grp) grp.paths = sndE (doGroupOffset g arc grp st) := by
      rw [hs, hd, ht]
    simp only [doGroups, mapE]
    rw [hs']
    cases hgo : doGroupOffset g arc grp st with
    | error e => rfl
    | ok r =>
      obtain ⟨st1, es1⟩ := r
      obtain ⟨k1, k2⟩ := hk _ hgo
      rw [← ih st1 (k1.trans hd) (k2.trans ht)]
      simp only [sndE]
      cases doGroups g arc st1 gs with
      | error e => rfl
      | ok r2 => rfl

/-- For every list of groups and every delta, every path is offset exactly as its own group's parameters
dictate — same primitives, same arguments, in the same order — whatever other paths and groups take part in the
call.  In the C++ this rests on `end_type_` being set anew for each path and on a point-less group leaving `delta_`
alone (repairs bd5ab48 / 058ce9d in /repo); the two examples at the end of the file are the inputs on which one path or
group used to influence the next. -/
theorem frame_local (g : Geo N) (prm : Params) (groups : List Group) (delta : Rat) :
    FrameLocal g prm groups delta := by
  unfold FrameLocal realFrame localFrame
  exact doGroups_local g prm.arcTolerance (initSt prm delta).tempLim delta groups (initSt prm delta) rfl rfl

/-- FULL index safety of the frame: for every list of groups (any mixture of end types, empty paths, single
points, 2-point paths) and every delta, `ExecuteInternal` issues no out-of-range `path[·]` / `norms[·]` read. -/
theorem frame_safe (g : Geo N) (prm : Params) (groups : List Group) (delta : Rat) :
    ∃ f, executeInternal g prm groups delta = .ok f := by
  -- by `frame_local` the calls issued are those of `localFrame`, each of which is safe by `doPath_safe`
  have hp : ∀ grp p, ∃ es, localPath g (initSt prm delta).tempLim delta grp p = .ok es := by
    intro grp p
    obtain ⟨r, hr⟩ := doPath_safe g grp.jt grp.et grp.et (initSt prm delta).tempLim (localGd delta grp) p
    exact ⟨r.2, by simp only [localPath, hr, sndE]⟩
  obtain ⟨es, he⟩ := mapE_ok (f := fun grp => mapE (localPath g (initSt prm delta).tempLim delta grp) grp.paths)
    (l := groups) (fun grp _ => mapE_ok (fun p _ => hp grp p))
  have hl : sndE (doGroups g prm.arcTolerance (initSt prm delta) groups) = .ok es :=
    (frame_local g prm groups delta).trans he
  unfold executeInternal
  split
  · exact ⟨_, rfl⟩
  · split
    · exact ⟨_, rfl⟩
    · cases hd : doGroups g prm.arcTolerance (initSt prm delta) groups with
      | error e => rw [hd] at hl; cases hl
      | ok r => exact ⟨_, rfl⟩

theorem rabs_neg (x : Rat) : rabs (-x) = rabs x := by
  unfold rabs
  split <;> split <;> grind

/-- the part of a frame that reaches the clean-up union -/
def core (f : Frame N) : Raw N × FillRule × Bool × Bool := (f.raw, f.fill, f.reverse, f.preserveCollinear)

theorem checkReverse_false (groups : List Group) (h : ∀ grp ∈ groups, grp.et ≠ .polygon) :
    checkReverseOrientation groups = false := by
  induction groups with
  | nil => rfl
  | cons grp gs ih =>
    simp only [checkReverseOrientation, h grp (by simp), false_and, if_false]
    exact ih (fun x hx => h x (by simp [hx]))

/-- a group that is not `Polygon` sees only `|delta|` -/
theorem localFrame_neg (g : Geo N) (prm : Params) (groups : List Group) (delta : Rat)
    (h : ∀ grp ∈ groups, grp.et ≠ .polygon) :
    localFrame g prm groups (-delta) = localFrame g prm groups delta := by
  show mapE (fun grp => mapE (localPath g (initSt prm delta).tempLim (-delta) grp) grp.paths) groups = _
  unfold localFrame
  induction groups with
  | nil => rfl
  | cons grp gs ih =>
    have e : localPath g (initSt prm delta).tempLim (-delta) grp = localPath g (initSt prm delta).tempLim delta grp := by
      funext p; simp only [localPath, localGd, h grp (by simp), if_false, rabs_neg]
    simp only [mapE, e, ih (fun x hx => h x (by simp [hx]))]

/-- For groups whose end type is not `Polygon` (Joined, Butt, Square, Round) the frame — every primitive call
with every argument, the fill rule and the orientation flag of the union — is identical for `+delta` and
`-delta`; faults, if any, are the same too. -/
theorem open_delta_symm (g : Geo N) (prm : Params) (groups : List Group) (delta : Rat)
    (h : ∀ grp ∈ groups, grp.et ≠ .polygon) :
    (match executeInternal g prm groups (-delta) with
      | .error e => Except.error e
      | .ok f => .ok (f.map core))
    = (match executeInternal g prm groups delta with
      | .error e => Except.error e
      | .ok f => .ok (f.map core)) := by
  -- by `frame_local` both frames issue the calls of `localFrame`, which depends on `delta` through `|delta|` only
  have hs : sndE (doGroups g prm.arcTolerance (initSt prm (-delta)) groups)
      = sndE (doGroups g prm.arcTolerance (initSt prm delta) groups) :=
    (frame_local g prm groups (-delta)).trans ((localFrame_neg g prm groups delta h).trans (frame_local g prm groups delta).symm)
  unfold executeInternal
  rw [rabs_neg]
  by_cases hg : groups.isEmpty = true
  · simp [hg]
  · by_cases hd : rabs delta < 1 / 2
    · simp [hg, hd]
    · simp only [hg, hd, if_false, Bool.false_eq_true]
      rcases h1 : doGroups g prm.arcTolerance (initSt prm (-delta)) groups with e1 | ⟨s1, es1⟩ <;>
        rcases h2 : doGroups g prm.arcTolerance (initSt prm delta) groups with e2 | ⟨s2, es2⟩ <;>
        rw [h1, h2] at hs <;> simp only [sndE, Except.ok.injEq, reduceCtorEq] at hs
      subst hs
      by_cases he : es1.any Emit.isEnd = true <;> simp [he, core]

example : ∀ grp ∈ [mkGroup [[⟨0, 0⟩, ⟨10, 0⟩, ⟨10, 10⟩]] .round .butt], grp.et ≠ .polygon := by decide

/-- For groups whose end type is not `Polygon` an insignificant delta (`|delta| < 0.5`) hands nothing to the
clean-up union: the result is empty (the stroke of width < 1 has no area). -/
theorem small_delta_open_nothing (g : Geo N) (prm : Params) (groups : List Group) (delta : Rat)
    (h : ∀ grp ∈ groups, grp.et ≠ .polygon) (hd : rabs delta < 1 / 2) :
    executeInternal g prm groups delta = .ok none := by
  have hf : groups.filter (fun grp => grp.et = .polygon) = [] := by
    rw [List.filter_eq_nil_iff]
    intro grp hg
    simpa using h grp hg
  simp [executeInternal, hd, hf]

/-- a concrete geometry for examples: unnormalised right-hand normals, sign of cross / dot as sine / cosine -/
def geoZ : Geo Pt where
  unitNormal a b := ⟨b.y - a.y, a.x - b.x⟩
  neg := Pt.neg
  sinA n1 n2 := ((n1.x * n2.y - n1.y * n2.x).sign : Int)
  cosA n1 n2 := ((n1.x * n2.x + n1.y * n2.y).sign : Int)

def prm0 : Params := ⟨2, 0, false, false⟩

def emitCount : Except Fault (List (Emit Pt)) → Nat
  | .ok es => es.length
  | .error _ => 0

/-- two instances of `frame_local`: in the Joined group {2-point path, triangle} the triangle
is offset by `OffsetOpenJoined` (3 emits for the segment with its square caps + 8 for the triangle); after a point-less Polygon group
the square is shrunk with `group_delta_ = -10` -/
example : emitCount (realFrame geoZ prm0
    [mkGroup [[⟨0, 0⟩, ⟨100, 0⟩], [⟨1000, 1000⟩, ⟨1100, 1000⟩, ⟨1100, 1100⟩]] .miter .joined] 10) = 11 := by
  decide +kernel

example : (match realFrame geoZ prm0
      [mkGroup [[]] .miter .polygon, mkGroup [[⟨0, 0⟩, ⟨100, 0⟩, ⟨100, 100⟩, ⟨0, 100⟩]] .miter .polygon] (-10) with
    | .ok es => es.map (fun (e : Emit Pt) => match e with
        | Emit.miter _ _ _ _ gd => gd | Emit.concave _ _ _ gd => gd | _ => (0 : Rat))
    | .error _ => []) = [-10, -10, -10, -10, 0] := by
  decide +kernel

end Clipper.Props.C07

/-
C19 — Minkowski sum and difference are the swept pattern: **every quad IS the segment sum** (DESIGN.md §10 stretch
`quad_is_segment_sum`, both directions, and the covering statement for the whole quad list).

Exact arithmetic, no division: a rational point is a triple `P = (xn, yn, d)` with `0 < d` standing for `(xn/d, yn/d)`;
"`A` lies on the segment `[a, b]`" is `A = a + (s/m)(b − a)` with integers `0 ≤ s ≤ m`, `0 < m` (`OnSegQ`);
"`P = A ± B`" is cross-multiplied (`QPt.IsPm`).  `inQuadQ` is `Spec.Minkowski.inQuad` — the membership test the
`MINKCHECK` judgement uses as its oracle — with every cross product multiplied by the denominator
(`inQuadQ_ofPt`: on integer points it *is* `inQuad`).

For non-parallel edges the quad `[P_g±Q_h, P_i±Q_h, P_i±Q_j, P_g±Q_j]`, as the set of points passing the test, is exactly
`{A ± B : A ∈ [P_g, P_i], B ∈ [Q_h, Q_j]}` (`quad_is_segment_sum`; Cramer's rule: `λ = (r × v)/(d·u×v)`, `μ = (u × r)/(d·u×v)`).
For parallel or zero-length edges the test contains *nothing*, while the segment sum is a non-empty set of points on the four
edges of the flat quad, i.e. inside the judgement's 2-unit tolerance band (`quad_degenerate`, `segment_sum_degenerate_*`);
counting the edges as part of the quad, the equality holds with no hypothesis (`closed_quad_is_segment_sum`).  Over the whole
list `detail::Minkowski` emits, for any orientation test: a rational point lies in some quad iff it is `A ± B` with `A` on an
edge of the path polyline (closing edge iff `isClosed`) and `B` on an edge of the pattern outline, the two edges not parallel
(`minkowski_quads_cover_sum_edges`); under general position that is `A` on the polyline, `B` on the outline
(`minkowski_quads_cover_sum`); for the closed quads it holds for every input (`minkowski_quads_cover_sum_general`).  The
pattern edges of the model are the edges `onBoundary` tests (`onOutline_iff_edgesOf`).

What this does and does not say about the *result* of `MinkowskiSum/Diff`.  The region handed to the union is, by the
theorems above, exactly `path ⊕ ∂pattern`: the **boundary** of the pattern swept along the path.  The documented result
(the *filled* pattern swept along the path) additionally contains the points enclosed by the swept outline; they are
supplied by `Union(quads, FillRule::NonZero)`: `C19.quads_positive` shows that all quads have non-negative orientation, so
the winding number of the quad list is ≥ 1 on the union of the quads and the NonZero region is the set of points of
non-zero winding number, which includes the enclosed pockets.  *Unproved here*: (1) that the engine's `Union` returns the
NonZero region (property C01, abstract parameter of the wrappers); (2) that the winding number of the quad list at a point
enclosed by the swept outline, but not on it, is non-zero iff the point is `a + b` with `b` in the *filled* pattern — a
statement about winding numbers of sums of closed curves that is not formalised (for a closed path the pockets are also
filled, which is the library's behaviour).  The judgement `MINKCHECK` does not need (2): it compares the winding number of
the returned paths with "in some quad" only.
-/
import ClipperVerif.Props.C19
import ClipperVerif.Lemmas.MinkowskiQuads
namespace Clipper.Props.C19Quads
open Clipper Clipper.Model.Minkowski Clipper.Spec.Minkowski Clipper.Lemmas.MinkowskiQuads

/-- On the integer probe points of the judgement the rational test is `Spec.Minkowski.inQuad` itself. -/
theorem inQuadQ_int (q : Path) (p : Pt) : inQuadQ q (QPt.ofPt p) = inQuad q p := inQuadQ_ofPt q p

/-- **`segment_sum_of_inQuad`.**  If the rational point `P` passes the membership test of the quad
`[P_g±Q_h, P_i±Q_h, P_i±Q_j, P_g±Q_j]`, then the two edges are not parallel (and neither has length zero), and there are
rational points `A` on the path edge `[P_g, P_i]` and `B` on the pattern edge `[Q_h, Q_j]` with `P = A ± B`. -/
theorem segment_sum_of_inQuad (isSum : Bool) (pg pi qh qj : Pt) (P : QPt) (hd : 0 < P.d)
    (h : inQuadQ (quadAt isSum pg pi qh qj) P = true) :
    edgeCross pg pi qh qj ≠ 0 ∧ SegSum isSum pg pi qh qj P := by
  rw [quadAt_eq_par] at h
  refine ⟨fun h0 => ?_, segSum_of_param ((parPar_iff_segSumParam ..).mp (param_of_inQuadQ _ _ _ P hd h))⟩
  rw [inQuadQ_degenerate _ _ _ P ((crossV_edgeVec_eq_zero ..).mpr h0)] at h
  exact absurd h (by decide)

-- non-vacuity: the rational point (13/2, 7/3) = (39/6, 14/6) passes the test of a slanted quad …
example : inQuadQ (quadAt true ⟨0, 0⟩ ⟨10, 0⟩ ⟨0, 0⟩ ⟨2, 6⟩) ⟨39, 14, 6⟩ = true := by decide
-- … and it is (103/18, 0) + (7/9, 7/3): parameters 103/180 on the path edge and 7/18 on the pattern edge
example : SegSumParam true ⟨0, 0⟩ ⟨10, 0⟩ ⟨0, 0⟩ ⟨2, 6⟩ ⟨39, 14, 6⟩ :=
  ⟨206, 140, 360, by decide, by decide, by decide, by decide, by decide, by decide, by decide⟩

/-- The converse for rational points: every `A ± B` with `A` on the path edge and `B` on the pattern edge passes the
test of the quad spanned by the two edges, provided they are not parallel.  (`C19.inQuad_of_segment_sum` is the case of
an integer point `P`.) -/
theorem inQuad_of_segment_sum_q (isSum : Bool) (pg pi qh qj : Pt) (P : QPt)
    (hne : edgeCross pg pi qh qj ≠ 0) (h : SegSum isSum pg pi qh qj P) :
    inQuadQ (quadAt isSum pg pi qh qj) P = true := by
  rw [quadAt_eq_par]
  exact inQuadQ_of_param _ _ _ P ((parPar_iff_segSumParam ..).mpr (param_of_segSum h))
    (fun h0 => hne ((crossV_edgeVec_eq_zero ..).mp h0))

/-- **`quad_is_segment_sum`.**  For every pair of a path edge `P_g → P_i` and a pattern edge `Q_h → Q_j` and every rational
point `P`: `P` passes the membership test of the quad `[P_g±Q_h, P_i±Q_h, P_i±Q_j, P_g±Q_j]` **iff** the two edges are not
parallel and `P = A ± B` for some `A ∈ [P_g, P_i]`, `B ∈ [Q_h, Q_j]`.  So for non-parallel edges the set the judgement
calls "the quad" is exactly the Minkowski sum (difference) of the two closed segments. -/
theorem quad_is_segment_sum (isSum : Bool) (pg pi qh qj : Pt) (P : QPt) (hd : 0 < P.d) :
    inQuadQ (quadAt isSum pg pi qh qj) P = true ↔ edgeCross pg pi qh qj ≠ 0 ∧ SegSum isSum pg pi qh qj P :=
  ⟨segment_sum_of_inQuad isSum pg pi qh qj P hd, fun h => inQuad_of_segment_sum_q isSum pg pi qh qj P h.1 h.2⟩

/-- `quad_is_segment_sum` for the integer probe points of `MINKCHECK`, in terms of `Spec.Minkowski.inQuad` itself. -/
theorem quad_is_segment_sum_int (isSum : Bool) (pg pi qh qj p : Pt) :
    inQuad (quadAt isSum pg pi qh qj) p = true ↔
      edgeCross pg pi qh qj ≠ 0 ∧ SegSum isSum pg pi qh qj (QPt.ofPt p) := by
  rw [← inQuadQ_ofPt]
  exact quad_is_segment_sum isSum pg pi qh qj (QPt.ofPt p) (by show (0 : Int) < 1; decide)

example : edgeCross ⟨0, 0⟩ ⟨10, 0⟩ ⟨0, 0⟩ ⟨2, 6⟩ ≠ 0 := by decide
example : inQuad (quadAt false ⟨0, 0⟩ ⟨10, 0⟩ ⟨0, 0⟩ ⟨2, 6⟩) ⟨5, -3⟩ = true := by decide

/-- **Degenerate quads, what the test means there.**  If the two edges are parallel or one of them has length zero, the
quad has zero area and the membership test accepts no point at all. -/
theorem quad_degenerate (isSum : Bool) (pg pi qh qj : Pt) (P : QPt) (hd : 0 < P.d)
    (h0 : edgeCross pg pi qh qj = 0) : inQuadQ (quadAt isSum pg pi qh qj) P = false := by
  rw [quadAt_eq_par]
  exact inQuadQ_degenerate _ _ _ P ((crossV_edgeVec_eq_zero ..).mpr h0)

/-- … while the segment sum of two parallel segments is not empty (it is a segment, or a point): every point of it is
collinear with each of the four sides of the flat quad (all four cross products of the test vanish).  Such points are
within distance 0 of the quad's supporting line, hence inside the tolerance band the judgement excludes; the iff of
`quad_is_segment_sum` fails for them only in the sense that the test says "no". -/
theorem segment_sum_degenerate_collinear (isSum : Bool) (pg pi qh qj : Pt) (P : QPt)
    (h0 : edgeCross pg pi qh qj = 0) (h : SegSum isSum pg pi qh qj P) :
    ∀ a b c d : Pt, quadAt isSum pg pi qh qj = [a, b, c, d] →
      crossQ a b P = 0 ∧ crossQ b c P = 0 ∧ crossQ c d P = 0 ∧ crossQ d a P = 0 := by
  intro a b c d hq
  rw [quadAt_eq_par, par] at hq
  simp only [List.cons.injEq, and_true] at hq
  obtain ⟨rfl, rfl, rfl, rfl⟩ := hq
  exact crossQ_of_param_flat ((parPar_iff_segSumParam ..).mpr (param_of_segSum h)) ((crossV_edgeVec_eq_zero ..).mpr h0)

theorem onQuadEdge_of_segSum_flat {isSum : Bool} {pg pi qh qj : Pt} {P : QPt}
    (h0 : edgeCross pg pi qh qj = 0) (h : SegSum isSum pg pi qh qj P) : OnQuadEdge (quadAt isSum pg pi qh qj) P := by
  rw [quadAt_eq_par]
  exact flat_param_on_edge ((parPar_iff_segSumParam ..).mpr (param_of_segSum h)) ((crossV_edgeVec_eq_zero ..).mpr h0)

/-- **Degenerate quads, where the segment sum is.**  If the two edges are parallel (or one has length zero), every point
`A ± B` of the segment sum lies on one of the four edges of the flat quad `[P_g±Q_h, P_i±Q_h, P_i±Q_j, P_g±Q_j]`. -/
theorem segment_sum_degenerate_on_edge (isSum : Bool) (pg pi qh qj : Pt) (P : QPt)
    (h0 : edgeCross pg pi qh qj = 0) (h : SegSum isSum pg pi qh qj P) :
    ∀ a b c d : Pt, quadAt isSum pg pi qh qj = [a, b, c, d] →
      OnSegQ a b P ∨ OnSegQ b c P ∨ OnSegQ c d P ∨ OnSegQ d a P := by
  intro a b c d hq
  have he := onQuadEdge_of_segSum_flat h0 h
  rwa [hq] at he

/-- … so an integer probe that is a segment sum of two parallel edges lies on the boundary of the flat quad (Spec
`onBoundary`), i.e. at distance 0 from one of its edges: inside the band `MINKCHECK` excludes (`nearAnyEdge … 4 1`).
The judgement therefore never asks the question on which test and segment sum disagree. -/
theorem segment_sum_degenerate_on_boundary_int (isSum : Bool) (pg pi qh qj p : Pt)
    (h0 : edgeCross pg pi qh qj = 0) (h : SegSum isSum pg pi qh qj (QPt.ofPt p)) :
    onBoundary (quadAt isSum pg pi qh qj) p = true := by
  have := segment_sum_degenerate_on_edge isSum pg pi qh qj (QPt.ofPt p) h0 h _ _ _ _ rfl
  simp only [onSegQ_ofPt_iff] at this
  simp only [onBoundary, quadAt, edgesOf, List.cons_append, List.nil_append, List.zip_cons_cons, List.zip_nil_right,
    List.any_cons, List.any_nil, Bool.or_false, Bool.or_eq_true]
  rcases this with h | h | h | h
  · exact Or.inl h
  · exact Or.inr (Or.inl h)
  · exact Or.inr (Or.inr (Or.inl h))
  · exact Or.inr (Or.inr (Or.inr h))

/-- for integer points "on the closed segment" (`OnSegQ`) is the Spec's `onSeg` -/
theorem onSegQ_int_iff (a b p : Pt) : OnSegQ a b (QPt.ofPt p) ↔ onSeg p a b = true := onSegQ_ofPt_iff a b p

-- non-vacuity of the degenerate case: two parallel edges; (3, 0) = (1, 0) + (2, 0) is a segment sum the test rejects
example : edgeCross ⟨0, 0⟩ ⟨10, 0⟩ ⟨0, 0⟩ ⟨4, 0⟩ = 0 := by decide
example : SegSumParam true ⟨0, 0⟩ ⟨10, 0⟩ ⟨0, 0⟩ ⟨4, 0⟩ (QPt.ofPt ⟨3, 0⟩) :=
  ⟨1, 5, 10, by decide, by decide, by decide, by decide, by decide, by decide, by decide⟩
example : inQuad (quadAt true ⟨0, 0⟩ ⟨10, 0⟩ ⟨0, 0⟩ ⟨4, 0⟩) ⟨3, 0⟩ = false := by decide
example : onBoundary (quadAt true ⟨0, 0⟩ ⟨10, 0⟩ ⟨0, 0⟩ ⟨4, 0⟩) ⟨3, 0⟩ = true := by decide

/-- The pattern edges the model sweeps are the edges of the Spec's closed path (`edgesOf`, the edges `onBoundary` tests):
"`B` on the pattern outline" is "`B` on some edge of the closed pattern polygon". -/
theorem onOutline_iff_edgesOf (pattern : Path) (B : QPt) :
    OnOutline pattern B ↔ ∃ e ∈ edgesOf pattern, OnSegQ e.1 e.2 B := by
  unfold OnOutline
  constructor
  · rintro ⟨e, he, h⟩; exact ⟨e, (mem_cyclicEdges_iff pattern e).mp he, h⟩
  · rintro ⟨e, he, h⟩; exact ⟨e, (mem_cyclicEdges_iff pattern e).mpr he, h⟩

/-- Some quad of the list `detail::Minkowski` builds has a property `R` that the orientation step does not change iff the raw
parallelogram of some path edge and some pattern edge has it. -/
theorem exists_quad_iff (isPos : Path → Bool) (pattern path : Path) (isSum isClosed : Bool) (R : Path → Prop)
    (hR : ∀ a b c d, R (orient isPos [a, b, c, d]) ↔ R [a, b, c, d]) :
    (∃ qs, minkowskiWith isPos pattern path isSum isClosed = some qs ∧ ∃ q ∈ qs, R q) ↔
    ∃ e ∈ pathEdges isClosed path, ∃ d ∈ cyclicEdges pattern, R (quadAt isSum e.1 e.2 d.1 d.2) := by
  simp only [C19.minkowski_quads, Option.some.injEq, exists_eq_left', C19.mem_quadsWith]
  constructor
  · rintro ⟨q, ⟨e, he, d, hd, rfl⟩, h⟩
    exact ⟨e, he, d, hd, (hR ..).mp h⟩
  · rintro ⟨e, he, d, hd, h⟩
    exact ⟨_, ⟨e, he, d, hd, rfl⟩, (hR ..).mpr h⟩

/-- **`minkowski_quads_cover_sum`, edge form (no general-position hypothesis).**  For every orientation test, pattern,
path, `isSum`, `isClosed` and every rational point `P`: `P` passes the membership test of some quad in the list
`detail::Minkowski` builds **iff** there are a path edge (the closing edge included iff `isClosed`) and a pattern edge
(closing edge always included) that are not parallel, and points `A`, `B` on them with `P = A ± B`. -/
theorem minkowski_quads_cover_sum_edges (isPos : Path → Bool) (pattern path : Path) (isSum isClosed : Bool)
    (P : QPt) (hd : 0 < P.d) :
    (∃ qs, minkowskiWith isPos pattern path isSum isClosed = some qs ∧ ∃ q ∈ qs, inQuadQ q P = true) ↔
    ∃ e ∈ pathEdges isClosed path, ∃ d ∈ cyclicEdges pattern,
      edgeCross e.1 e.2 d.1 d.2 ≠ 0 ∧ SegSum isSum e.1 e.2 d.1 d.2 P := by
  rw [exists_quad_iff isPos pattern path isSum isClosed (inQuadQ · P = true) (fun a b c d => by rw [inQuadQ_orient])]
  simp only [quad_is_segment_sum _ _ _ _ _ P hd]

/-- a segment sum over some path edge and some pattern edge is a sum of a point of the polyline and a point of the outline -/
theorem segSum_edges_iff (pattern path : Path) (isSum isClosed : Bool) (P : QPt) :
    (∃ e ∈ pathEdges isClosed path, ∃ d ∈ cyclicEdges pattern, SegSum isSum e.1 e.2 d.1 d.2 P) ↔
    ∃ A B : QPt, 0 < A.d ∧ 0 < B.d ∧ OnPolyline isClosed path A ∧ OnOutline pattern B ∧ QPt.IsPm isSum P A B := by
  constructor
  · rintro ⟨e, he, d, hd', A, B, hA, hB, hAon, hBon, hpm⟩
    exact ⟨A, B, hA, hB, ⟨e, he, hAon⟩, ⟨d, hd', hBon⟩, hpm⟩
  · rintro ⟨A, B, hA, hB, ⟨e, he, hAon⟩, ⟨d, hd', hBon⟩, hpm⟩
    exact ⟨e, he, d, hd', A, B, hA, hB, hAon, hBon, hpm⟩

/-- **`minkowski_quads_cover_sum`.**  In general position — no edge of the path polyline (closing edge counted iff
`isClosed`) parallel to an edge of the pattern outline, no zero-length edge — a rational point `P` lies in some quad
built by `detail::Minkowski(pattern, path, isSum, isClosed)` **iff** `P = A + B` (sum) resp. `P = A − B` (difference) with
`A` on the path polyline and `B` on the boundary of the pattern polygon.  So the region handed to `Union` is exactly
`path ⊕ ∂pattern` resp. `path ⊖ ∂pattern`. -/
theorem minkowski_quads_cover_sum (isPos : Path → Bool) (pattern path : Path) (isSum isClosed : Bool)
    (P : QPt) (hd : 0 < P.d)
    (hgp : ∀ e ∈ pathEdges isClosed path, ∀ d ∈ cyclicEdges pattern, edgeCross e.1 e.2 d.1 d.2 ≠ 0) :
    (∃ qs, minkowskiWith isPos pattern path isSum isClosed = some qs ∧ ∃ q ∈ qs, inQuadQ q P = true) ↔
    ∃ A B : QPt, 0 < A.d ∧ 0 < B.d ∧ OnPolyline isClosed path A ∧ OnOutline pattern B ∧ QPt.IsPm isSum P A B := by
  rw [minkowski_quads_cover_sum_edges isPos pattern path isSum isClosed P hd, ← segSum_edges_iff]
  constructor
  · rintro ⟨e, he, d, hd', _, h⟩; exact ⟨e, he, d, hd', h⟩
  · rintro ⟨e, he, d, hd', h⟩; exact ⟨e, he, d, hd', hgp e he d hd', h⟩

/-- the closed quad: the point passes the membership test **or** lies on one of the four edges.  For a non-degenerate quad
the edges already pass the (closed) test; the second alternative only matters for flat quads, which the test rejects. -/
def InClosedQuad (q : Path) (P : QPt) : Prop := inQuadQ q P = true ∨ OnQuadEdge q P

/-- **`quad_is_segment_sum` without any non-degeneracy hypothesis**: the closed quad spanned by a path edge and a pattern
edge — parallel, zero-length or not — is exactly the set of points `A ± B`, `A` on the path edge, `B` on the pattern edge. -/
theorem closed_quad_is_segment_sum (isSum : Bool) (pg pi qh qj : Pt) (P : QPt) (hd : 0 < P.d) :
    InClosedQuad (quadAt isSum pg pi qh qj) P ↔ SegSum isSum pg pi qh qj P := by
  constructor
  · rintro (h | h)
    · exact (segment_sum_of_inQuad isSum pg pi qh qj P hd h).2
    · rw [quadAt_eq_par] at h
      exact segSum_of_param ((parPar_iff_segSumParam ..).mp (parPar_of_onQuadEdge h))
  · intro h
    by_cases h0 : edgeCross pg pi qh qj = 0
    · exact Or.inr (onQuadEdge_of_segSum_flat h0 h)
    · exact Or.inl (inQuad_of_segment_sum_q isSum pg pi qh qj P h0 h)

/-- **`minkowski_quads_cover_sum`, no general-position hypothesis.**  For every orientation test, every pattern and path
(degenerate ones included: repeated points, parallel edges, a one-point closed path), `isSum`, `isClosed` and every rational
point `P`: `P` lies in the closed region of some quad built by `detail::Minkowski` (passes its test or lies on one of its
edges) **iff** `P = A ± B` with `A` on the path polyline (closing edge iff `isClosed`) and `B` on the pattern outline. -/
theorem minkowski_quads_cover_sum_general (isPos : Path → Bool) (pattern path : Path) (isSum isClosed : Bool)
    (P : QPt) (hd : 0 < P.d) :
    (∃ qs, minkowskiWith isPos pattern path isSum isClosed = some qs ∧ ∃ q ∈ qs, InClosedQuad q P) ↔
    ∃ A B : QPt, 0 < A.d ∧ 0 < B.d ∧ OnPolyline isClosed path A ∧ OnOutline pattern B ∧ QPt.IsPm isSum P A B := by
  rw [exists_quad_iff isPos pattern path isSum isClosed (InClosedQuad · P) (fun a b c d => by
    simp only [InClosedQuad, inQuadQ_orient, onQuadEdge_orient])]
  simp only [closed_quad_is_segment_sum _ _ _ _ _ P hd]
  exact segSum_edges_iff pattern path isSum isClosed P

-- non-vacuity: a closed one-point path (all quads flat): the sum is the pattern outline translated by the point
example : (minkowskiWith isPositive [⟨0, 0⟩, ⟨4, 0⟩, ⟨0, 4⟩] [⟨10, 10⟩] true true).map (·.length) = some 3 := by decide
example : InClosedQuad (quadAt true ⟨10, 10⟩ ⟨10, 10⟩ ⟨0, 0⟩ ⟨4, 0⟩) (QPt.ofPt ⟨12, 10⟩) := by
  right
  simp only [OnQuadEdge, quadAt, pm, Pt.add, if_true]
  right; left
  exact ⟨1, 2, by decide, by decide, by decide, by decide, by decide⟩

/-- the same for the integer probes and the judgement's own oracle `quads.any (inQuad · p)`: after this theorem the
oracle of `MINKCHECK` ("in some quad") is justified as "is a sum `a ± b`, `a` on the path, `b` on the pattern outline". -/
theorem minkcheck_oracle (pattern path : Path) (isSum isClosed : Bool) (p : Pt)
    (hgp : ∀ e ∈ pathEdges isClosed path, ∀ d ∈ cyclicEdges pattern, edgeCross e.1 e.2 d.1 d.2 ≠ 0) :
    (quads pattern path isSum isClosed).any (fun q => inQuad q p) = true ↔
    ∃ A B : QPt, 0 < A.d ∧ 0 < B.d ∧ OnPolyline isClosed path A ∧ OnOutline pattern B ∧
      QPt.IsPm isSum (QPt.ofPt p) A B := by
  rw [← minkowski_quads_cover_sum (fun _ => true) pattern path isSum isClosed (QPt.ofPt p) (by show (0 : Int) < 1; decide) hgp,
    C19.minkowski_quads]
  have ho : orient (fun _ => true) = id := by funext q; simp [orient]
  simp only [List.any_eq_true, quads, ho, ← inQuadQ_ofPt]
  constructor
  · rintro ⟨q, hq, h⟩; exact ⟨_, rfl, q, hq, h⟩
  · rintro ⟨qs, hqs, q, hq, h⟩
    injection hqs with hqs; subst hqs; exact ⟨q, hq, h⟩

-- non-vacuity: a triangle pattern swept along an open two-edge path in general position
example : ∀ e ∈ pathEdges false [⟨10, 10⟩, ⟨20, 11⟩, ⟨23, 30⟩], ∀ d ∈ cyclicEdges [⟨0, 0⟩, ⟨4, 1⟩, ⟨1, 5⟩],
    edgeCross e.1 e.2 d.1 d.2 ≠ 0 := by decide
example : (quads [⟨0, 0⟩, ⟨4, 1⟩, ⟨1, 5⟩] [⟨10, 10⟩, ⟨20, 11⟩, ⟨23, 30⟩] true false).any (fun q => inQuad q ⟨16, 12⟩) = true := by
  decide
-- closed path: the closing edge is swept as well
example : ∀ e ∈ pathEdges true [⟨10, 10⟩, ⟨20, 11⟩, ⟨23, 30⟩], ∀ d ∈ cyclicEdges [⟨0, 0⟩, ⟨4, 1⟩, ⟨1, 5⟩],
    edgeCross e.1 e.2 d.1 d.2 ≠ 0 := by decide

end Clipper.Props.C19Quads

/-
C12, ClipperOffset and RectClip64 clauses.

`offset_frame_local` — the parameters in force while a path is offset depend only on delta, on that path and on its own
group's parameters, whatever was added before and in whatever order — holds in full for `Model/OffsetState.lean`, which
follows the code after the `fix:` commits bd5ab48 (end_type_ restored per path), 058ce9d (delta_ no longer overwritten
by a point-less Polygon group) and 85fe8ed (empty paths skipped).  Before them it was false; the two former
counterexamples are kept below as regression examples and as fixed corpus inputs of harness/C12.cpp.
-/
import ClipperVerif.Model.OffsetState
import ClipperVerif.Model.RectClipFrame
namespace Clipper.Props.C12
open Clipper Clipper.Model.OffsetState

/-- the full-strength statement (for every prior state of the object, every significant delta, every list of groups) -/
def OffsetFrameLocal : Prop :=
  ∀ (st : OState) (delta : Int) (gs : List Group), delta ≠ 0 →
    (executeFrames st delta gs).2 = gs.map (fun g => g.pathsIn.map (refFrame delta g))

/-- (a) {(0,0),(100,0)}, {(1000,1000),(1100,1000),(1100,1100)}, Miter, Joined, delta 10 -/
def witnessA : List Group :=
  [mkGroup [[⟨0, 0⟩, ⟨100, 0⟩], [⟨1000, 1000⟩, ⟨1100, 1000⟩, ⟨1100, 1100⟩]] .miter .joined]
/-- (b) AddPaths({{}}, Miter, Polygon); AddPaths({square}, Miter, Polygon); delta −10 -/
def witnessB : List Group :=
  [mkGroup [[]] .miter .polygon, mkGroup [[⟨0, 0⟩, ⟨100, 0⟩, ⟨100, 100⟩, ⟨0, 100⟩]] .miter .polygon]
example : (executeFrames {} 10 witnessA).2 =
    [[⟨.openPath, 10, .miter, .square, none⟩, ⟨.joined, 10, .miter, .joined, none⟩]] := by decide
example : (executeFrames {} (-10) witnessB).2 =
    [[⟨.skipped, 10, .miter, .polygon, none⟩], [⟨.polygon, -10, .miter, .polygon, none⟩]] := by decide

/-- the members as `DoGroupOffset`'s header leaves them for group `g` -/
structure Hdr (delta : Int) (g : Group) (st : OState) : Prop where
  gd : st.groupDelta = refGroupDelta delta g
  jt : st.joinType = g.joinType
  steps : (g.joinType = .round ∨ g.endType = .round) → st.stepsFor = some (refGroupDelta delta g)

/-- the members after `end_type_ = group.end_type; if (pathLen == 2 && Joined) end_type_ = …` -/
def pathState (g : Group) (st : OState) (p : Path) : OState :=
  { st with endType := (if p.length = 2 ∧ g.endType = .joined then
      (if g.joinType = .round then .round else .square) else g.endType) }

/-- frame of a path with ≥ 2 vertices, from the members in force -/
def pathFrame (st1 : OState) : Frame :=
  { kind := (if st1.endType = .polygon then .polygon else if st1.endType = .joined then .joined else .openPath),
    groupDelta := st1.groupDelta, joinType := st1.joinType, endType := st1.endType,
    steps := (if usesRound st1.joinType st1.endType then st1.stepsFor else none) }

/-- the frame of path `p` when the members are `st`: an empty path, a single point, a path with ≥ 2 vertices -/
def frameOf (g : Group) (st : OState) (p : Path) : Frame :=
  if p.length = 0 then
    { kind := .skipped, groupDelta := st.groupDelta, joinType := g.joinType, endType := .polygon, steps := none }
  else if p.length = 1 then
    { kind := (if st.groupDelta < 1 then .skipped else .point), groupDelta := st.groupDelta,
      joinType := g.joinType, endType := .polygon, steps := (if g.joinType = .round then st.stepsFor else none) }
  else pathFrame (pathState g st p)

/-- the members the paths after `p` find: only a path with ≥ 2 vertices writes one (`end_type_`) -/
def nextState (g : Group) (st : OState) (p : Path) : OState :=
  if p.length = 0 ∨ p.length = 1 then st else pathState g st p

theorem pathLoop_cons (g : Group) (st : OState) (p : Path) (ps : Paths) :
    pathLoop g st (p :: ps) =
      ((pathLoop g (nextState g st p) ps).1, frameOf g st p :: (pathLoop g (nextState g st p) ps).2) := by
  rw [pathLoop]
  unfold frameOf nextState
  by_cases h0 : p.length = 0
  · simp only [h0, if_true, true_or]
  · by_cases h1 : p.length = 1
    · simp only [h1, if_true, or_true]
      rfl
    · simp only [h0, h1, if_false, or_self]
      rfl

theorem Hdr.next {delta : Int} {g : Group} {st : OState} (h : Hdr delta g st) (p : Path) :
    Hdr delta g (nextState g st p) ∧ (nextState g st p).delta = st.delta := by
  unfold nextState
  split
  · exact ⟨h, rfl⟩
  · exact ⟨⟨h.gd, h.jt, h.steps⟩, rfl⟩

/-- under the header's members, the frame of a path is the reference frame -/
private theorem frameOf_eq {delta : Int} {g : Group} {st : OState} (h : Hdr delta g st) (p : Path) :
    frameOf g st p = refFrame delta g p := by
  unfold refFrame frameOf
  by_cases h0 : p.length = 0
  · simp only [h0, if_true, h.gd]
  · by_cases h1 : p.length = 1
    · simp only [h1, if_true, h.gd]
      by_cases hj : g.joinType = .round
      · simp [hj, h.steps (Or.inl hj)]
      · simp [hj]
    · have het : (pathState g st p).endType = refEndType g p.length := rfl
      have hgd : (pathState g st p).groupDelta = refGroupDelta delta g := h.gd
      have hjt : (pathState g st p).joinType = g.joinType := h.jt
      simp only [h0, h1, if_false, pathFrame, het, hgd, hjt]
      by_cases hu : usesRound g.joinType (refEndType g p.length) = true
      · have hr : g.joinType = .round ∨ g.endType = .round := by
          unfold usesRound at hu
          simp only [Bool.or_eq_true, decide_eq_true_eq] at hu
          rcases hu with hu | hu
          · exact Or.inl hu
          · unfold refEndType at hu
            split at hu
            · split at hu
              · exact Or.inl ‹_›
              · cases hu
            · exact Or.inr hu
        simp [hu, show (pathState g st p).stepsFor = _ from h.steps hr]
      · simp [hu]

private theorem pathLoop_ok (delta : Int) (g : Group) :
    ∀ (ps : Paths) (st : OState), Hdr delta g st →
      (pathLoop g st ps).2 = ps.map (refFrame delta g) ∧ (pathLoop g st ps).1.delta = st.delta
  | [], st, _ => ⟨rfl, rfl⟩
  | p :: ps, st, h => by
    obtain ⟨hn, hd⟩ := h.next p
    obtain ⟨ih1, ih2⟩ := pathLoop_ok delta g ps _ hn
    rw [pathLoop_cons, List.map_cons, ih1, frameOf_eq h]
    exact ⟨rfl, ih2.trans hd⟩

private theorem header_ok (delta : Int) (g : Group) (st : OState) (hd : st.delta = delta) :
    Hdr delta g (groupHeader st g) ∧ (groupHeader st g).delta = delta := by
  subst hd
  by_cases hp : g.endType = .polygon
  · have hgd : (if g.isReversed = true then -(if g.lowest.isNone = true then iabs st.delta else st.delta)
        else (if g.lowest.isNone = true then iabs st.delta else st.delta)) = refGroupDelta st.delta g := by
      simp [refGroupDelta, refDelta, hp]
    unfold groupHeader
    simp only [hp, if_true, reduceCtorEq, or_false]
    by_cases hjr : g.joinType = .round
    · simp only [hjr, if_true]
      exact ⟨⟨hgd, hjr.symm, fun _ => by rw [← hgd]⟩, trivial⟩
    · simp only [hjr, if_false]
      refine ⟨⟨hgd, rfl, fun h => ?_⟩, trivial⟩
      rcases h with h | h
      · exact absurd h hjr
      · rw [hp] at h; cases h
  · have hgd : iabs st.delta = refGroupDelta st.delta g := by simp [refGroupDelta, hp]
    unfold groupHeader
    simp only [hp, if_false]
    by_cases hr : g.joinType = .round ∨ g.endType = .round
    · simp only [hr, if_true]
      exact ⟨⟨hgd, rfl, fun _ => by rw [← hgd]⟩, trivial⟩
    · simp only [hr, if_false]
      exact ⟨⟨hgd, rfl, fun h => absurd h hr⟩, trivial⟩

private theorem groupLoop_ok (delta : Int) :
    ∀ (gs : List Group) (st : OState), st.delta = delta →
      (groupLoop st gs).2 = gs.map (fun g => g.pathsIn.map (refFrame delta g)) ∧ (groupLoop st gs).1.delta = delta
  | [], _, hd => by simp [groupLoop, hd]
  | g :: gs, st, hd => by
    obtain ⟨hh, hdel⟩ := header_ok delta g st hd
    have hl := pathLoop_ok delta g g.pathsIn (groupHeader st g) hh
    have ih := groupLoop_ok delta gs (doGroupOffset st g).1 (by unfold doGroupOffset; rw [hl.2, hdel])
    simp only [groupLoop, List.map_cons]
    refine ⟨?_, ih.2⟩
    rw [ih.1]
    unfold doGroupOffset
    rw [hl.1]

/-- **Frame locality (full).**  For every state the object was left in by earlier calls, every significant delta and
every list of groups, each path is offset under parameters that depend only on delta, its own group's parameters and
its own number of vertices — not on the order of paths in the group, on the other groups, their order, or on history. -/
theorem offset_frame_local : OffsetFrameLocal := by
  intro st delta gs hd
  unfold executeFrames
  simp only [hd, if_false]
  exact (groupLoop_ok delta gs { st with delta := delta } rfl).1

/-- `delta_` after a call is the call's delta: no group changes it for a later group or a later call -/
theorem delta_member_unchanged (st : OState) (delta : Int) (gs : List Group) (hd : delta ≠ 0) :
    (executeFrames st delta gs).1.delta = delta := by
  unfold executeFrames
  simp only [hd, if_false]
  exact (groupLoop_ok delta gs { st with delta := delta } rfl).2

/-- `refFrame` is what a fresh object uses when `p` is the only path of a group with `g`'s parameters -/
theorem refFrame_is_alone (delta : Int) (g : Group) (p : Path) (hd : delta ≠ 0) :
    (executeFrames {} delta [{ g with pathsIn := [p] }]).2 = [[refFrame delta g p]] := by
  rw [offset_frame_local {} delta _ hd]
  simp only [List.map_cons, List.map_nil]
  rfl

/-- whenever a Round join or cap can be produced, the arc parameters in force were computed from the `group_delta_` in
force (they are never left over from an earlier group or call) -/
theorem round_steps_fresh (st : OState) (delta : Int) (gs : List Group) (hd : delta ≠ 0) :
    ∀ fs ∈ (executeFrames st delta gs).2, ∀ f ∈ fs, f.steps = none ∨ f.steps = some f.groupDelta := by
  rw [offset_frame_local st delta gs hd]
  intro fs hfs f hf
  obtain ⟨g, _, rfl⟩ := List.mem_map.mp hfs
  obtain ⟨p, _, rfl⟩ := List.mem_map.mp hf
  unfold refFrame
  by_cases h0 : p.length = 0
  · simp [h0]
  · by_cases h1 : p.length = 1
    · by_cases hj : g.joinType = .round <;> simp [h1, hj]
    · by_cases hu : usesRound g.joinType (refEndType g p.length) = true <;> simp [h0, h1, hu]

/-- an insignificant delta (`|delta| < 0.5`) enters no frame and writes no member; what it copies is the Polygon groups'
paths, group by group -/
theorem insignificant_delta (st : OState) (gs gs' : List Group) :
    executeFrames st 0 gs = (st, []) ∧ insignificantCopy (gs ++ gs') = insignificantCopy gs ++ insignificantCopy gs' := by
  refine ⟨rfl, ?_⟩
  simp [insignificantCopy, List.filter_append, List.flatMap_append]

/-! a run exercising every branch: prior state left by another call, three groups of mixed kinds, 2-vertex paths before
and after longer ones in a Joined group, an empty path, a point-less Polygon group first, negative delta -/
def demoGroups : List Group :=
  [mkGroup [[]] .bevel .polygon,
   mkGroup [[⟨0, 0⟩, ⟨100, 0⟩, ⟨100, 100⟩]] .round .polygon,
   mkGroup [[⟨700, 700⟩, ⟨800, 700⟩], [⟨500, 500⟩, ⟨600, 500⟩, ⟨600, 600⟩], [], [⟨900, 900⟩], [⟨0, 5⟩, ⟨9, 5⟩]] .miter .joined,
   mkGroup [[⟨0, 1000⟩, ⟨50, 1000⟩, ⟨50, 1000⟩]] .square .butt]
example : (executeFrames { delta := 3, groupDelta := 3, endType := .square, stepsFor := some 3 } (-7) demoGroups).2 =
    [[⟨.skipped, 7, .bevel, .polygon, none⟩],
     [⟨.polygon, -7, .round, .polygon, some (-7)⟩],
     [⟨.openPath, 7, .miter, .square, none⟩, ⟨.joined, 7, .miter, .joined, none⟩, ⟨.skipped, 7, .miter, .polygon, none⟩,
      ⟨.point, 7, .miter, .polygon, none⟩, ⟨.openPath, 7, .miter, .square, none⟩],
     [⟨.openPath, 7, .square, .butt, none⟩]] := by decide

open Clipper.Model.RectClipFrame

section RectClip
variable {B : Type}

private theorem cleanLoop_clean (s : RScratch B) (h : s.edges.length = 8) : (cleanLoop s).clean :=
  ⟨rfl, rfl, by simp only [cleanLoop, List.map_const', h]; rfl, rfl⟩

/-- what the per-path work receives: clean containers and the bounds of the path at hand -/
def startFor (r : Rect B) (p : Path) : RScratch B := { pathBounds := r.bounds p }

/-- result of `Execute` on the single path `p` by a fresh object -/
def executeOne (r : Rect B) (one : RScratch B → Path → Paths × RScratch B) (p : Path) : Paths :=
  if r.isEmpty then [] else
  if p.length < 3 then [] else
  if !r.intersects (r.bounds p) then [] else
  if r.contains (r.bounds p) then [p] else (one (startFor r p) p).1

private theorem loop_flatMap (r : Rect B) (one : RScratch B → Path → Paths × RScratch B)
    (hone : ∀ s p, (one s p).2.edges.length = 8) (hne : r.isEmpty = false) :
    ∀ (ps : Paths) (s : RScratch B), s.clean →
      (loop r one s ps).1 = ps.flatMap (executeOne r one) ∧ (loop r one s ps).2.clean
  | [], s, hs => by simp [loop]; exact hs
  | p :: ps, s, hs => by
    -- the scratch the per-path work and the following paths find: nothing of `s` is left in it
    have hs1 : ({ s with pathBounds := r.bounds p } : RScratch B) = startFor r p := by
      obtain ⟨h1, h2, h3, h4⟩ := hs
      cases s; simp only at h1 h2 h3 h4; subst h1 h2 h3 h4; rfl
    have ih0 := loop_flatMap r one hone hne ps s hs
    have ih1 := loop_flatMap r one hone hne ps (startFor r p) ⟨rfl, rfl, rfl, rfl⟩
    have ih2 := loop_flatMap r one hone hne ps (cleanLoop (one (startFor r p) p).2) (cleanLoop_clean _ (hone _ _))
    simp only [loop, List.flatMap_cons, executeOne, hne, hs1, Bool.false_eq_true, if_false]
    by_cases h3 : p.length < 3
    · simp only [h3, if_true]
      exact ⟨ih0.1, ih0.2⟩
    · cases hi : r.intersects (r.bounds p)
      · simp only [h3, Bool.not_false, if_true, if_false]
        exact ⟨ih1.1, ih1.2⟩
      · cases hc : r.contains (r.bounds p)
        · simp only [h3, Bool.not_true, Bool.false_eq_true, if_false]
          exact ⟨congrArg (_ ++ ·) ih2.1, ih2.2⟩
        · simp only [h3, Bool.not_true, Bool.false_eq_true, if_false, if_true]
          exact ⟨congrArg (p :: ·) ih1.1, ih1.2⟩

/-- **`RectClip64::Execute(paths)` is `paths.flatMap executeOne`** from any object whose scratch containers are empty
(a fresh one, or one that has executed before — see `rectclip_scratch_clean_after`), for every per-path routine `one`
(which may read and dirty all scratch members; `edges_` is a fixed array of 8 lists): no path's result depends on the
paths before it or on earlier calls. -/
theorem rectclip_per_path (r : Rect B) (one : RScratch B → Path → Paths × RScratch B)
    (hone : ∀ s p, (one s p).2.edges.length = 8) (s : RScratch B) (hs : s.clean) (ps : Paths) :
    (execute r one s ps).1 = ps.flatMap (executeOne r one) := by
  unfold execute
  cases hne : r.isEmpty
  · simpa using (loop_flatMap r one hone hne ps s hs).1
  · simp only [if_true]
    induction ps with
    | nil => rfl
    | cons p ps ih => simp [List.flatMap_cons, executeOne, hne]

/-- after `Execute` the scratch containers are empty again, so the next call starts like the first -/
theorem rectclip_scratch_clean_after (r : Rect B) (one : RScratch B → Path → Paths × RScratch B)
    (hone : ∀ s p, (one s p).2.edges.length = 8) (s : RScratch B) (hs : s.clean) (ps : Paths) :
    (execute r one s ps).2.clean := by
  unfold execute
  cases hne : r.isEmpty
  · simpa using (loop_flatMap r one hone hne ps s hs).2
  · simpa using hs

/-- hypotheses of `rectclip_per_path`: a per-path routine that reads the scratch it is given (its result would expose any
left-over) and leaves every container dirty; a fresh object's scratch -/
def demoOne : RScratch Nat → Path → Paths × RScratch Nat := fun s p =>
  ([p.take (3 + s.results.length + s.startLocs.length + s.opContainer.length)],
   { s with opContainer := [1, 2], results := [3], edges := [[1], [], [2], [], [], [3], [], []], startLocs := [4] })
example : ∀ s p, (demoOne s p).2.edges.length = 8 := fun _ _ => rfl
example : ({ pathBounds := 0 } : RScratch Nat).clean := ⟨rfl, rfl, rfl, rfl⟩

end RectClip

end Clipper.Props.C12

/-
C19 — Minkowski sum and difference are the swept pattern: the loops of `detail::Minkowski` (`Model/Minkowski.lean`)
produce, for every path edge `g → i` (closing edge iff `isClosed`) and every cyclic pattern edge `h → j`, the quad
`[P_g±Q_h, P_i±Q_h, P_i±Q_j, P_g±Q_j]`, reversed iff the orientation test rejects it, with every `tmp[·][·]` in range;
with the exact `IsPositive` all quads have shoelace sum ≥ 0, so under NonZero no quad cancels another.  That each quad
is the sum of its two edges as a point set, both directions and the degenerate cases, is Props/C19Quads; the case of an
integer point of the sum is `inQuad_of_segment_sum` here.

Not proved: that `Union(quads, NonZero)` returns the set union (engine, property C01; abstract parameter), and that
`double` `Area` has the sign of the exact sum (trusted IEEE fact for |coordinates| ≤ 2^23; outside that regime a quad
thinner than 2^-8 units may be misoriented, which the property's 2-unit band absorbs).  Those two are covered by the
correspondence harness (`MINKF`, `MINKCHECK`).
-/
import ClipperVerif.Model.Minkowski
import ClipperVerif.Lemmas.Minkowski
import ClipperVerif.Lemmas.MinkowskiQuads
namespace Clipper.Props.C19
open Clipper Clipper.Model.Minkowski Clipper.Spec.Minkowski Clipper.Lemmas.Minkowski

/-- The list built by `detail::Minkowski` is the closed form: path edges (closing edge iff `isClosed`) × cyclic
pattern edges, quad `[P_g±Q_h, P_i±Q_h, P_i±Q_j, P_g±Q_j]`, reversed iff `¬ isPos quad`.
The `some` also says that no subscript of the model is out of range. -/
theorem minkowski_quads (isPos : Path → Bool) (pattern path : Path) (isSum isClosed : Bool) :
    minkowskiWith isPos pattern path isSum isClosed
      = some (quadsWith (orient isPos) pattern path isSum isClosed) := by
  unfold minkowskiWith
  by_cases hpat : pattern.length = 0
  · have : pattern = [] := List.eq_nil_of_length_eq_zero hpat
    subst this
    simp [quadsWith, cyclicEdges]
  by_cases hpath : path.length = 0
  · have : path = [] := List.eq_nil_of_length_eq_zero hpath
    subst this
    cases isClosed <;> simp [quadsWith, pathEdges, cyclicEdges, segsOf]
  simp only [hpat, hpath, or_self, if_false]
  have hn : 0 < pattern.length := by omega
  have hrows : ∀ r ∈ tmpOf isSum pattern path, r.length = pattern.length := by
    intro r hr
    simp only [tmpOf, List.mem_map] at hr
    obtain ⟨p, _, rfl⟩ := hr
    simp [translate]
  have hlen : (tmpOf isSum pattern path).length = path.length := by simp [tmpOf]
  cases isClosed with
  | true =>
    -- g = pathLen - 1, i runs over 0 … pathLen-1
    obtain ⟨z, hz⟩ : ∃ z, path[path.length - 1]? = some z :=
      ⟨_, List.getElem?_eq_getElem (l := path) (i := path.length - 1) (by omega)⟩
    have hg : (tmpOf isSum pattern path)[path.length - 1]? = some (translate isSum pattern z) := by
      simp [tmpOf, List.getElem?_map, hz]
    obtain ⟨g', hg'⟩ := outer_spec isPos (tmpOf isSum pattern path) pattern.length hn hrows
      path.length 0 (path.length - 1) [] _ (by omega) hg
    simp only [if_true, Nat.sub_zero]
    rw [hg']
    have hlast : path.getLast? = some z := by rw [List.getLast?_eq_getElem?]; exact hz
    have hce : cyclicEdges path = (z :: path).zip path := by simp [cyclicEdges, hlast]
    simp only [List.drop_zero, List.nil_append, tmpOf, quadsWith, pathEdges, if_true, hce]
    rw [allQuads_map]
  | false =>
    -- g = 0, i runs over 1 … pathLen-1
    cases path with
    | nil => simp at hpath
    | cons a rest =>
      have hg : (tmpOf isSum pattern (a :: rest))[0]? = some (translate isSum pattern a) := by
        simp [tmpOf]
      obtain ⟨g', hg'⟩ := outer_spec isPos (tmpOf isSum pattern (a :: rest)) pattern.length hn hrows
        rest.length 1 0 [] _ (by simp [tmpOf]; omega) hg
      simp only [Bool.false_eq_true, if_false, List.length_cons, Nat.add_sub_cancel]
      rw [hg']
      simp only [List.nil_append, tmpOf, List.map_cons, List.drop_succ_cons, List.drop_zero, quadsWith, pathEdges,
        Bool.false_eq_true, if_false, segsOf]
      rw [allQuads_map]

example : minkowskiWith isPositive [⟨0, 0⟩, ⟨2, 0⟩, ⟨0, 2⟩] [⟨10, 10⟩, ⟨20, 10⟩] true false
    = some [[⟨10, 10⟩, ⟨20, 10⟩, ⟨20, 12⟩, ⟨10, 12⟩], [⟨10, 10⟩, ⟨20, 10⟩, ⟨22, 10⟩, ⟨12, 10⟩],
            [⟨12, 10⟩, ⟨22, 10⟩, ⟨20, 12⟩, ⟨10, 12⟩]] := by decide

/-- Index safety: none of the `tmp[g][h]`, `tmp[i][h]`, `tmp[i][j]`, `tmp[g][j]` subscripts is out of range,
for any pattern and path (the model's checked accesses never return `none`). -/
theorem minkowski_index_safe (isPos : Path → Bool) (pattern path : Path) (isSum isClosed : Bool) :
    (minkowskiWith isPos pattern path isSum isClosed).isSome = true := by
  rw [minkowski_quads]; rfl

theorem minkowski_empty (isPos : Path → Bool) (pattern path : Path) (isSum isClosed : Bool)
    (h : pattern = [] ∨ path = []) : minkowskiWith isPos pattern path isSum isClosed = some [] := by
  rcases h with rfl | rfl <;> simp [minkowskiWith]

theorem mem_quadsWith {f : Path → Path} {pattern path : Path} {isSum isClosed : Bool} {q : Path} :
    q ∈ quadsWith f pattern path isSum isClosed ↔
      ∃ e ∈ pathEdges isClosed path, ∃ d ∈ cyclicEdges pattern, f (quadAt isSum e.1 e.2 d.1 d.2) = q := by
  simp only [quadsWith, List.mem_flatMap, List.mem_map]

theorem minkowski_count (isPos : Path → Bool) (pattern path : Path) (isSum isClosed : Bool) :
    (quadsWith (orient isPos) pattern path isSum isClosed).length
      = (pathEdges isClosed path).length * (cyclicEdges pattern).length := by
  simp only [quadsWith, List.length_flatMap, List.length_map]
  induction pathEdges isClosed path with
  | nil => simp
  | cons e es ih => simp [ih, Nat.add_mul, Nat.add_comm]

/-- The expression `Area` evaluates for four points is the shoelace sum (twice the signed area). -/
theorem area2_eq_shoelace2 (a b c d : Pt) : area2 [a, b, c, d] = shoelace2 [a, b, c, d] := by
  simp only [area2, area2Quad, shoelace2, edgesOf, List.zip_cons_cons, List.cons_append, List.nil_append, List.zip_nil_right,
    List.map_cons, List.map_nil, List.sum_cons, List.sum_nil]
  grind

theorem shoelace2_reverse_quad (a b c d : Pt) : shoelace2 ([a, b, c, d].reverse) = - shoelace2 [a, b, c, d] :=
  Lemmas.MinkowskiQuads.shoelace2_reverse4 a b c d

theorem orient_positive (a b c d : Pt) : 0 ≤ shoelace2 (orient isPositive [a, b, c, d]) := by
  unfold orient isPositive
  by_cases h : 0 ≤ area2 [a, b, c, d]
  · simp only [h, decide_true, if_true]; rw [← area2_eq_shoelace2]; exact h
  · simp only [h, decide_false, Bool.false_eq_true, if_false]
    rw [shoelace2_reverse_quad, ← area2_eq_shoelace2]; omega

/-- Every quad handed to `Union(…, NonZero)` has non-negative shoelace sum (exact `IsPositive`): quads never
cancel each other's winding, so the NonZero region of the list is the set union of the quads. -/
theorem quads_positive (pattern path : Path) (isSum isClosed : Bool) (qs : Paths)
    (h : minkowski pattern path isSum isClosed = some qs) : ∀ q ∈ qs, 0 ≤ shoelace2 q := by
  unfold minkowski at h
  rw [minkowski_quads] at h
  injection h with h
  subst h
  intro q hq
  obtain ⟨e, _, d, _, rfl⟩ := mem_quadsWith.mp hq
  exact orient_positive _ _ _ _

example : minkowski [⟨0, 0⟩, ⟨0, 2⟩, ⟨2, 0⟩] [⟨10, 10⟩, ⟨20, 10⟩, ⟨15, 30⟩] false true ≠ none := by decide

theorem quads_have_four_points (isPos : Path → Bool) (pattern path : Path) (isSum isClosed : Bool) :
    ∀ q ∈ quadsWith (orient isPos) pattern path isSum isClosed, q.length = 4 := by
  intro q hq
  obtain ⟨e, _, d, _, rfl⟩ := mem_quadsWith.mp hq
  unfold orient
  split <;> simp [quadAt]

/-- The oriented quad is the raw parallelogram or its reversal: same point set, hence the same region.
(`MINKCHECK` judges the region with the raw parallelograms `Spec.Minkowski.quads`.) -/
theorem orient_eq_or_reverse (isPos : Path → Bool) (q : Path) : orient isPos q = q ∨ orient isPos q = q.reverse := by
  unfold orient; split <;> simp

/-- cross products of the sides of the parallelogram `o, o+u, o+u+v, o+v` against the point
`o + (s/m)u + (t/m)v` (times `m`): each is a non-negative multiple of `u × v`. -/
theorem segment_sum_cross_signs (ux uy vx vy s t m : Int) (hs0 : 0 ≤ s) (hsm : s ≤ m) (ht0 : 0 ≤ t) (htm : t ≤ m) :
    let w := ux * vy - uy * vx
    -- side o → o+u
    (ux * (t * vy + s * uy) - uy * (t * vx + s * ux) = t * w) ∧
    -- side o+u → o+u+v, point relative to o+u is ((s-m)u + t v)/m
    (vx * ((s - m) * uy + t * vy) - vy * ((s - m) * ux + t * vx) = (m - s) * w) ∧
    -- side o+u+v → o+v (direction -u), point relative to o+u+v is ((s-m)u + (t-m)v)/m
    ((-ux) * ((s - m) * uy + (t - m) * vy) - (-uy) * ((s - m) * ux + (t - m) * vx) = (m - t) * w) ∧
    -- side o+v → o (direction -v), point relative to o+v is (s u + (t-m) v)/m
    ((-vx) * (s * uy + (t - m) * vy) - (-vy) * (s * ux + (t - m) * vx) = s * w) ∧
    0 ≤ t ∧ 0 ≤ m - s ∧ 0 ≤ m - t ∧ 0 ≤ s := by
  refine ⟨by grind, by grind, by grind, by grind, ht0, by omega, by omega, hs0⟩

/-- A point `o + (s/m)·u + (t/m)·v` with `0 ≤ s,t ≤ m` of a non-degenerate parallelogram `o, o+u, o+u+v, o+v`
passes the cross-product membership test. -/
theorem inQuad_parallelogram (o u v p : Pt) (s t m : Int) (hm : 0 < m)
    (hs0 : 0 ≤ s) (hsm : s ≤ m) (ht0 : 0 ≤ t) (htm : t ≤ m)
    (hx : m * p.x = m * o.x + s * u.x + t * v.x) (hy : m * p.y = m * o.y + s * u.y + t * v.y)
    (hne : u.x * v.y - u.y * v.x ≠ 0) :
    inQuad [o, o.add u, (o.add u).add v, o.add v] p = true := by
  -- the integer-point case of `inQuadQ_of_param`
  rw [← Lemmas.MinkowskiQuads.inQuadQ_ofPt]
  refine Lemmas.MinkowskiQuads.inQuadQ_of_param o u v _ ⟨s, t, m, hm, hs0, hsm, ht0, htm, ?_, ?_⟩ hne
  · rw [show (QPt.ofPt p).d = 1 from rfl, Int.one_mul]; exact hx
  · rw [show (QPt.ofPt p).d = 1 from rfl, Int.one_mul]; exact hy

/-- `quad_is_segment_sum`, the direction the `MINKCHECK` judgement relies on: every point `a ± b` with
`a = P_g + (s/m)(P_i − P_g)` on the path edge and `b = Q_h + (t/m)(Q_j − Q_h)` on the pattern edge
(`0 ≤ s, t ≤ m`; coordinates cleared of the denominator `m`) passes the cross-product membership test of the quad
`[P_g±Q_h, P_i±Q_h, P_i±Q_j, P_g±Q_j]`, provided the two edges are not parallel. -/
theorem inQuad_of_segment_sum (isSum : Bool) (pg pi qh qj p : Pt) (s t m : Int) (hm : 0 < m)
    (hs0 : 0 ≤ s) (hsm : s ≤ m) (ht0 : 0 ≤ t) (htm : t ≤ m)
    (hx : m * p.x = (m * pg.x + s * (pi.x - pg.x)) + (if isSum then 1 else -1) * (m * qh.x + t * (qj.x - qh.x)))
    (hy : m * p.y = (m * pg.y + s * (pi.y - pg.y)) + (if isSum then 1 else -1) * (m * qh.y + t * (qj.y - qh.y)))
    (hne : (pi.x - pg.x) * (qj.y - qh.y) - (pi.y - pg.y) * (qj.x - qh.x) ≠ 0) :
    inQuad (quadAt isSum pg pi qh qj) p = true := by
  -- the integer-point case of `inQuadQ_of_param`: the quad is a parallelogram, `p` is given in its parameter form
  rw [← Lemmas.MinkowskiQuads.inQuadQ_ofPt, Lemmas.MinkowskiQuads.quadAt_eq_par]
  refine Lemmas.MinkowskiQuads.inQuadQ_of_param _ _ _ _
    ((Lemmas.MinkowskiQuads.parPar_iff_segSumParam ..).mpr ⟨s, t, m, hm, hs0, hsm, ht0, htm, ?_, ?_⟩)
    (fun h0 => hne ((Lemmas.MinkowskiQuads.crossV_edgeVec_eq_zero ..).mp h0))
  · rw [show (QPt.ofPt p).d = 1 from rfl, Int.one_mul]; exact hx
  · rw [show (QPt.ofPt p).d = 1 from rfl, Int.one_mul]; exact hy

example : inQuad (quadAt true ⟨0, 0⟩ ⟨10, 0⟩ ⟨0, 0⟩ ⟨2, 6⟩) ⟨6, 3⟩ = true := by decide

end Clipper.Props.C19

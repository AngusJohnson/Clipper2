/-
C11 — invalid arguments are reported.  Theorems about `Gen.CheckPrecisionRange` (regenerated from source each run)
and about the hand models of the wrappers' control frames (`Model/Errors.lean`, tied by correspondence in both
exception configurations).  The "Execute always returns true" clause is decided by correspondence (every harness
asserts it on every execution); the export-layer clause is in Props/C17.
-/
import ClipperVerif.Model.Errors
namespace Clipper.Props.C11
open Clipper.Gen Clipper.Model.Errors

def badPrecision (p : Int) : Prop := p < -8 ∨ p > 8

/-- in range: no error, precision and error code untouched — in both exception configurations -/
theorem checkPrecision_ok (exc : Bool) (p ec : Int) (h : ¬ badPrecision p) :
    CheckPrecisionRange exc p ec = .ok (p, ec) := by
  unfold badPrecision at h
  unfold CheckPrecisionRange
  split
  · rfl
  · rename_i hc
    exact absurd (by simp; omega) hc

/-- out of range with exceptions: thrown as `precision_error_i` (= 1) -/
theorem checkPrecision_throws (p ec : Int) (h : badPrecision p) :
    CheckPrecisionRange true p ec = .error 1 := by
  unfold badPrecision at h
  unfold CheckPrecisionRange
  split
  · rename_i hc
    simp at hc
    omega
  · rfl

/-- out of range without exceptions: the error bit is set and the precision clamped to ±8 -/
theorem checkPrecision_flags (p : Int) (h : badPrecision p) :
    CheckPrecisionRange false p 0 = .ok (if p > 0 then 8 else -8, 1) := by
  unfold badPrecision at h
  unfold CheckPrecisionRange
  split
  · rename_i hc
    simp at hc
    omega
  · simp [intOr]

/-- the control frame the five wrappers share (each unfolds to `frame exc precision k`, `rectClipD` after its emptiness test):
`CheckPrecisionRange`, leave on a throw or a set error bit, else go on at the validated precision -/
def frame (exc : Bool) (precision : Int) (k : Int → Outcome) : Outcome :=
  match CheckPrecisionRange exc precision 0 with
  | .error c => .threw c
  | .ok (p, ec) => if ec ≠ 0 then .empty else k p

theorem frame_bad (exc : Bool) {p : Int} (k : Int → Outcome) (h : badPrecision p) : (frame exc p k).reported = true := by
  cases exc
  · simp [frame, checkPrecision_flags p h, Outcome.reported]
  · simp [frame, checkPrecision_throws p 0 h, Outcome.reported]

theorem frame_ok (exc : Bool) {p : Int} (k : Int → Outcome) (h : ¬ badPrecision p) : frame exc p k = k p := by
  simp [frame, checkPrecision_ok exc p 0 h]

/-- **precision_reported**: every modelled entry point that checks the precision reports a bad one
(exception, or empty result with exceptions disabled) — whatever the other arguments. -/
theorem precision_reported_boolean (exc : Bool) (p : Int) (o1 o2 : Bool) (h : badPrecision p) :
    (booleanOpD exc p o1 o2).reported = true :=
  frame_bad exc _ h

theorem precision_reported_rectclip (exc : Bool) (p : Int) (re pe o : Bool) (h : badPrecision p) :
    (rectClipD exc p re pe o).reported = true := by
  unfold rectClipD
  split
  · rfl
  · exact frame_bad exc _ h

theorem precision_reported_trim (exc : Bool) (p : Int) (o : Bool) (h : badPrecision p) :
    (trimCollinearD exc p o).reported = true :=
  frame_bad exc _ h

theorem precision_reported_inflate (exc : Bool) (p : Int) (dz o : Bool) (h : badPrecision p) :
    (inflatePathsD exc p dz o).reported = true :=
  frame_bad exc _ h

theorem precision_reported_minkowski (exc : Bool) (p : Int) (o : Bool) (h : badPrecision p) :
    (minkowskiD exc p o).reported = true :=
  frame_bad exc _ h

/-- what is left of the four wrappers that scale, after a valid precision: the range check of `ScalePaths` / `ScalePath` -/
theorem frame_range (exc : Bool) {p : Int} (h : ¬ badPrecision p) :
    (frame exc p fun p => scalePaths exc true fun _ => .ran p).reported = true := by
  rw [frame_ok exc _ h]
  cases exc <;> rfl

/-- **range_reported** for the entry points that scale with `ScalePaths` -/
theorem range_reported_inflate (exc : Bool) (p : Int) (h : ¬ badPrecision p) :
    (inflatePathsD exc p false true).reported = true :=
  frame_range exc h

theorem range_reported_rectclip (exc : Bool) (p : Int) (h : ¬ badPrecision p) :
    (rectClipD exc p false false true).reported = true :=
  frame_range exc h

theorem range_reported_trim (exc : Bool) (p : Int) (h : ¬ badPrecision p) :
    (trimCollinearD exc p true).reported = true :=
  frame_range exc h

theorem range_reported_minkowski (exc : Bool) (p : Int) (h : ¬ badPrecision p) :
    (minkowskiD exc p true).reported = true :=
  frame_range exc h

/-- valid arguments are never reported as errors: the operation runs at the requested precision -/
theorem valid_runs (exc : Bool) (p : Int) (h : ¬ badPrecision p) :
    booleanOpD exc p false false = .ran p ∧ inflatePathsD exc p false false = .ran p
    ∧ rectClipD exc p false false false = .ran p ∧ trimCollinearD exc p false = .ran p
    ∧ minkowskiD exc p false = .ran p := by
  simp [booleanOpD, inflatePathsD, rectClipD, trimCollinearD, minkowskiD, scalePaths, scalePath,
    checkPrecision_ok exc p 0 h]

/-- ClipperD constructor: bad precision throws, or leaves `precision_error_i` in `ErrorCode()` -/
theorem clipperD_ctor_reports (p : Int) (h : badPrecision p) :
    clipperDCtor true p = .error 1 ∧ clipperDCtor false p = .ok 1 := by
  simp [clipperDCtor, checkPrecision_throws p 0 h, checkPrecision_flags p h]

theorem clipperD_ctor_ok (exc : Bool) (p : Int) (h : ¬ badPrecision p) : clipperDCtor exc p = .ok 0 := by
  simp [clipperDCtor, checkPrecision_ok exc p 0 h]

/-- zero scale and odd coordinate counts are reported by exception -/
theorem zero_scale_reported (sx sy : Int) (h : sx = 0 ∨ sy = 0) : scalePathZero true sx sy = .threw 2 := by
  simp [scalePathZero, h]
theorem non_pair_reported (n : Nat) (h : n % 2 = 1) : makePath true n = .error 4 := by
  simp [makePath, h]

-- non-vacuity
example : badPrecision 9 ∧ badPrecision (-9) ∧ ¬ badPrecision 8 ∧ ¬ badPrecision (-8) := by
  unfold badPrecision; omega
example : booleanOpD true 9 false false = .threw 1 ∧ booleanOpD false (-12) false false = .empty
    ∧ booleanOpD true 3 false false = .ran 3 := by decide

end Clipper.Props.C11

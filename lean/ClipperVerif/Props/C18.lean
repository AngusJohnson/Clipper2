/-
C18 — geometric predicates are exact (part 1: the integer predicates, both code paths).
All theorems are about the definitions in `ClipperVerif/Generated/{Core,Portable}.lean`, which
tools/cpp2lean.py re-creates from /repo on every run.
-/
import ClipperVerif.Lemmas.Mul64
namespace Clipper.Props.C18
open Clipper.Gen Clipper.Lemmas

theorem multiply_exact (a b : UInt64) :
    (Multiply a b).2.toNat * 2^64 + (Multiply a b).1.toNat = a.toNat * b.toNat := by
  simp only [Multiply]
  have la := u64_lo_lt a
  have lb := u64_lo_lt b
  have ha := u64_hi_lt a
  have hb := u64_hi_lt b
  generalize hx1 : (a &&& (4294967295 : UInt64)) * (b &&& (4294967295 : UInt64)) = x1
  generalize hx2 : (a >>> (32 : UInt64)) * (b &&& (4294967295 : UInt64)) + (x1 >>> (32 : UInt64)) = x2
  generalize hx3 : (a &&& (4294967295 : UInt64)) * (b >>> (32 : UInt64)) + (x2 &&& (4294967295 : UInt64)) = x3
  have e1 : x1.toNat = (a.toNat % 2^32) * (b.toNat % 2^32) := by
    rw [← hx1, u64_mul _ _ la lb, u64_lo, u64_lo]
  have e2 : x2.toNat = (a.toNat / 2^32) * (b.toNat % 2^32) + x1.toNat / 2^32 := by
    rw [← hx2, u64_mul_add _ _ _ ha lb (u64_hi_lt x1), u64_hi, u64_lo, u64_hi]
  have e3 : x3.toNat = (a.toNat % 2^32) * (b.toNat / 2^32) + x2.toNat % 2^32 := by
    rw [← hx3, u64_mul_add _ _ _ la hb (u64_lo_lt x2), u64_lo, u64_hi, u64_lo]
  rw [u64_shl_or _ _ (u64_lo_lt x3) (u64_lo_lt x1), u64_lo, u64_lo]
  rw [UInt64.toNat_add, UInt64.toNat_add, u64_mul _ _ ha hb, u64_hi, u64_hi, u64_hi, u64_hi, Nat.mod_add_mod]
  have key := limbs_exact x1.toNat ((a.toNat / 2^32) * (b.toNat % 2^32)) ((a.toNat % 2^32) * (b.toNat / 2^32))
    ((a.toNat / 2^32) * (b.toNat / 2^32))
  rw [← e2, ← e3, e1, ← mul_limbs] at key
  -- the high limb does not wrap either, because the whole product is below `2^128`
  have hlt : a.toNat * b.toNat < 2^64 * 2^64 := Nat.mul_lt_mul'' a.toNat_lt b.toNat_lt
  rw [← key] at hlt
  rw [Nat.mod_eq_of_lt (Nat.lt_of_mul_lt_mul_right (Nat.lt_of_le_of_lt (Nat.le_add_right _ _) hlt)), e1]
  exact key

theorem portable_multiply_eq : Portable.Multiply = Multiply := rfl

theorem multiply_lo_hi_eq_iff (x y z w : UInt64) :
    Multiply x y = Multiply z w ↔ x.toNat * y.toNat = z.toNat * w.toNat := by
  have h1 := multiply_exact x y
  have h2 := multiply_exact z w
  constructor
  · intro h; rw [h] at h1; omega
  · intro h
    have l1 := (Multiply x y).1.toNat_lt
    have l2 := (Multiply z w).1.toNat_lt
    have e1 : (Multiply x y).1.toNat = (Multiply z w).1.toNat := by omega
    have e2 : (Multiply x y).2.toNat = (Multiply z w).2.toNat := by omega
    exact Prod.ext (UInt64.toNat_inj.mp e1) (UInt64.toNat_inj.mp e2)

theorem triSign_eq_sign (x : Int) : TriSign x = Int.sign x := by
  have := sign_cases x
  simp only [TriSign, decide_eq_true_eq]
  omega

/-- int64 range -/
def I64 (x : Int) : Prop := -2^63 ≤ x ∧ x < 2^63
/-- int64 values on which `std::abs` is defined -/
def AbsOk (x : Int) : Prop := -2^63 < x ∧ x < 2^63

theorem toU64_iabs {x : Int} (h : AbsOk x) : (toU64 (iabs x)).toNat = x.natAbs := by
  have e : iabs x = x.natAbs := by unfold iabs; omega
  have hx : x.natAbs < 2^64 := by unfold AbsOk at h; omega
  rw [e, toU64, UInt64.toNat_ofNat', Int.emod_eq_of_lt (by omega) (by omega), Int.toNat_natCast,
    Nat.mod_eq_of_lt hx]

/-- the two limbs `Multiply |a| |b|` returns are the magnitude of `a * b` -/
theorem multiply_abs {a b : Int} (ha : AbsOk a) (hb : AbsOk b) :
    (Multiply (toU64 (iabs a)) (toU64 (iabs b))).2.toNat * 2^64 +
      (Multiply (toU64 (iabs a)) (toU64 (iabs b))).1.toNat = (a * b).natAbs := by
  rw [multiply_exact, toU64_iabs ha, toU64_iabs hb, Int.natAbs_mul]

/-- 128-bit branch (the one this platform compiles): exact for all arguments. -/
theorem productsAreEqual_int128_iff (a b c d : Int) :
    ProductsAreEqual a b c d = true ↔ a * b = c * d := by
  simp [ProductsAreEqual]

/-- Portable branch: exact wherever `std::abs` is defined. -/
theorem productsAreEqual_portable_iff (a b c d : Int)
    (ha : AbsOk a) (hb : AbsOk b) (hc : AbsOk c) (hd : AbsOk d) :
    Portable.ProductsAreEqual a b c d = true ↔ a * b = c * d := by
  simp only [Portable.ProductsAreEqual, Bool.and_eq_true, decide_eq_true_eq]
  have ts : ∀ x, Portable.TriSign x = Int.sign x := triSign_eq_sign
  rw [portable_multiply_eq, multiply_lo_hi_eq_iff, ts, ts, ts, ts, toU64_iabs ha, toU64_iabs hb, toU64_iabs hc,
    toU64_iabs hd, int_eq_iff_sign_natAbs (a * b) (c * d), Int.sign_mul, Int.sign_mul, Int.natAbs_mul, Int.natAbs_mul]
  exact And.comm

/-- the mathematical cross product sign of the turn pt1 → pt2 → pt3 -/
def crossSign (x1 y1 x2 y2 x3 y3 : Int) : Int :=
  Int.sign ((x2 - x1) * (y3 - y2) - (y2 - y1) * (x3 - x2))

theorem crossProductSign_int128_exact (x1 y1 x2 y2 x3 y3 : Int) :
    CrossProductSign x1 y1 x2 y2 x3 y3 = crossSign x1 y1 x2 y2 x3 y3 := by
  simp only [CrossProductSign, crossSign, decide_eq_true_eq]
  generalize (x2 - x1) * (y3 - y2) = p
  generalize (y2 - y1) * (x3 - x2) = q
  have := sign_cases (p - q)
  omega

/-- The comparison `Portable.CrossProductSign` makes, on variables: `X`, `Y` are given by their signs and their magnitudes
as two limbs each, of any base `B` (`2^64` in the C++).  Equal signs: the magnitudes decide (lexicographically by limbs), in
reverse for negative numbers; different signs: the signs decide.  The left side is written in the shape of the C++ so that
`portable_crossProductSign_exact` can use it by rewriting. -/
theorem sign_sub_of_limbs {B : Nat} (X Y : Int) (hi1 lo1 hi2 lo2 : Nat)
    (h1 : hi1 * B + lo1 = X.natAbs) (h2 : hi2 * B + lo2 = Y.natAbs)
    (l1 : lo1 < B) (l2 : lo2 < B) :
    (if X.sign = Y.sign then
      (if hi1 = hi2 then
        (if lo1 = lo2 then (0 : Int)
         else if X.sign > 0 then (if lo1 > lo2 then 1 else -1) else -(if lo1 > lo2 then (1 : Int) else -1))
       else if X.sign > 0 then (if hi1 > hi2 then 1 else -1) else -(if hi1 > hi2 then (1 : Int) else -1))
     else if X.sign > Y.sign then 1 else -1) = (X - Y).sign := by
  by_cases hs : X.sign = Y.sign
  · by_cases hh : hi1 = hi2
    · subst hh
      by_cases hl : lo1 = lo2
      · have : X = Y := (int_eq_iff_sign_natAbs X Y).mpr ⟨hs, by rw [← h1, ← h2, hl]⟩
        simp only [if_pos hs, if_pos hl, if_true]
        rw [this, Int.sub_self, Int.sign_zero]
      · have : lo1 > lo2 ↔ X.natAbs > Y.natAbs := by omega
        simp only [sign_sub_of_sign_eq hs (by omega), if_pos hs, if_true, if_neg hl, this]
    · -- `omega` takes `hi1 * B` and `hi2 * B` as unknowns; `radix_lt` is what relates them
      have lt := radix_lt l1 (h := hi1) (h' := hi2)
      have gt := radix_lt l2 (h := hi2) (h' := hi1)
      have : hi1 > hi2 ↔ X.natAbs > Y.natAbs := by omega
      simp only [sign_sub_of_sign_eq hs (by omega), if_pos hs, if_neg hh, this]
  · simp only [sign_sub_of_sign_ne hs, if_neg hs]

theorem portable_crossProductSign_exact (x1 y1 x2 y2 x3 y3 : Int)
    (ha : AbsOk (x2 - x1)) (hb : AbsOk (y3 - y2)) (hc : AbsOk (y2 - y1)) (hd : AbsOk (x3 - x2)) :
    Portable.CrossProductSign x1 y1 x2 y2 x3 y3 = crossSign x1 y1 x2 y2 x3 y3 := by
  have ts : ∀ x, Portable.TriSign x = Int.sign x := triSign_eq_sign
  rw [crossSign, ← sign_sub_of_limbs _ _ _ _ _ _ (multiply_abs ha hb) (multiply_abs hc hd) (UInt64.toNat_lt _) (UInt64.toNat_lt _)]
  simp only [Portable.CrossProductSign, portable_multiply_eq, ts, ← Int.sign_mul,
    decide_eq_true_eq, gt_iff_lt, UInt64.lt_iff_toNat_lt, ← UInt64.toNat_inj]

/-- `IsCollinear pt1 sharedPt pt2` (128-bit branch) is exact for all arguments. -/
theorem isCollinear_int128_exact (x1 y1 x2 y2 sx sy : Int) :
    IsCollinear x1 y1 x2 y2 sx sy = true ↔ (sx - x1) * (y2 - sy) = (sy - y1) * (x2 - sx) := by
  simp only [IsCollinear]; exact productsAreEqual_int128_iff _ _ _ _

/-- portable branch, wherever `std::abs` of the four differences is defined -/
theorem isCollinear_portable_exact (x1 y1 x2 y2 sx sy : Int)
    (ha : AbsOk (sx - x1)) (hb : AbsOk (y2 - sy)) (hc : AbsOk (sy - y1)) (hd : AbsOk (x2 - sx)) :
    Portable.IsCollinear x1 y1 x2 y2 sx sy = true ↔ (sx - x1) * (y2 - sy) = (sy - y1) * (x2 - sx) := by
  simp only [Portable.IsCollinear]; exact productsAreEqual_portable_iff _ _ _ _ ha hb hc hd

/-- the two code paths agree wherever the portable one is defined -/
theorem portable_agrees (x1 y1 x2 y2 x3 y3 : Int)
    (ha : AbsOk (x2 - x1)) (hb : AbsOk (y3 - y2)) (hc : AbsOk (y2 - y1)) (hd : AbsOk (x3 - x2)) :
    Portable.CrossProductSign x1 y1 x2 y2 x3 y3 = CrossProductSign x1 y1 x2 y2 x3 y3 := by
  rw [portable_crossProductSign_exact _ _ _ _ _ _ ha hb hc hd, crossProductSign_int128_exact]

-- non-vacuity: the hypotheses are met by concrete non-trivial arguments, extremes included
example : AbsOk (2^63 - 1) ∧ AbsOk (-(2^63 - 1)) ∧ ¬ AbsOk (-2^63) := by unfold AbsOk; omega
example : Multiply 0xFFFFFFFFFFFFFFFF 0xFFFFFFFFFFFFFFFF = (1, 0xFFFFFFFFFFFFFFFE) := by decide
example : Portable.CrossProductSign 0 0 (2^62) 1 (2^63 - 1) 2 = 1 := by decide
end Clipper.Props.C18

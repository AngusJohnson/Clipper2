/-
C17 — "The C export layer marshals faithfully and forwards every parameter".

Part 1 (marshalling): theorems about the model `ClipperVerif/Model/Export.lean` of the writers / readers of
clipper.export.h (checked reads and writes: leaving the block is a `Fault`).  They hold for every list of paths,
every tree and every vertex dimension `dim` (2 without, 3 with USINGZ); the only hypothesis is the typing
condition `WellDim dim` (every vertex has `dim` cells).

Part 2 (forwarding): a decidable judgement over the call table `Generated/ExportCalls.lean`, which is rewritten
from /repo's clipper.export.h by tools/extract_calls.py on every run; `decide` over that finite table is a proof about
the current source, not a sample.
-/
import ClipperVerif.Lemmas.Export
import ClipperVerif.Model.ExportCalls
import ClipperVerif.Generated.ExportCalls
namespace Clipper.Props.C17
open Clipper.Model.Export

/-- The writer `CreateCPathsFromPathsT` produces exactly the documented layout `A, C, path1 … pathC`
(empty paths skipped). -/
theorem createCPaths_layout (dim : Nat) (ps : VPaths) (h : WellDim dim ps) :
    createCPaths dim ps = .ok (flatCPaths ps) := by
  simp [createCPaths, createCPathsW_eq dim ps h, Except.map]

/-- Converting paths to the flat array and back is the identity on the non-empty paths. -/
theorem cpaths_roundtrip (dim : Nat) (ps : VPaths) (h : WellDim dim ps) :
    ∃ a, createCPaths dim ps = .ok a ∧ convertCPaths dim (some a) = .ok (ps.filter (· ≠ [])) := by
  refine ⟨flatCPaths ps, createCPaths_layout dim ps h, ?_⟩
  rw [convertCPaths, convertCPathsPos_flat dim ps h]; rfl

/-- The first cell is the number of cells of the array, the second the number of non-empty paths. -/
theorem cpaths_header (dim : Nat) (ps : VPaths) (h : WellDim dim ps) :
    ∃ a, createCPaths dim ps = .ok a ∧ a[0]? = some (a.length : Int) ∧
      a[1]? = some (((ps.filter (· ≠ [])).length : Nat) : Int) := by
  refine ⟨flatCPaths ps, createCPaths_layout dim ps h, ?_, ?_⟩ <;> simp [flatCPaths] <;> omega

/-- Writer: no write leaves the allocated block (`createCPathsW` is not a `Fault`), the block
has exactly the length computed by `GetPathCountAndCPathsArrayLen`, and the cursor ends exactly at its end:
every allocated cell has been written. -/
theorem cpaths_no_oob_writer (dim : Nat) (ps : VPaths) (h : WellDim dim ps) :
    ∃ w, createCPathsW dim ps = .ok w ∧ w.buf.length = (getPathCountAndCPathsArrayLen dim ps).2 ∧ w.pos = w.buf.length := by
  refine ⟨_, createCPathsW_eq dim ps h, ?_, rfl⟩
  rw [getPathCountAndCPathsArrayLen_eq dim ps h]; simp [flatCPaths]

/-- Reader: on every array produced by the writer — equivalently, on every array of the documented
layout `flatCPaths ps` — `ConvertCPathsToPathsT` performs no read outside the array (no `Fault`), and stops exactly at
index `A = a[0]`, the stated length. -/
theorem cpaths_no_oob_reader (dim : Nat) (ps : VPaths) (h : WellDim dim ps) :
    ∃ a r, createCPaths dim ps = .ok a ∧ convertCPathsPos dim (some a) = .ok (r, a.length) := by
  have hl := createCPaths_layout dim ps h
  exact ⟨_, _, hl, convertCPathsPos_flat dim ps h⟩

/-- `nullptr` converts to no paths, and `CreateCPathsDFromPathsD` (which returns `nullptr` for an empty list) round-trips too. -/
theorem cpathsD_roundtrip (dim : Nat) (ps : VPaths) (h : WellDim dim ps) :
    ∃ a, createCPathsD dim ps = .ok a ∧ convertCPaths dim a = .ok (ps.filter (· ≠ [])) := by
  by_cases h0 : ps.length = 0
  · have : ps = [] := by simpa using h0
    subst this
    exact ⟨none, by simp [createCPathsD], by simp [convertCPaths, convertCPathsPos, Except.map]⟩
  · obtain ⟨a, ha, hb⟩ := cpaths_roundtrip dim ps h
    exact ⟨some a, by simp [createCPathsD, h0, ha, Except.map], hb⟩

/-- `CreateCPathsDFromPaths64(paths, scale)` (used by the `*D` exports to return integer results) is the same writer
applied to the scaled vertices (x·scale, y·scale, z untouched), so it has the same layout, header and bounds, and
reading it back gives the scaled non-empty paths. -/
theorem cpathsDfrom64_roundtrip (dim : Nat) (k : Int) (ps : VPaths) (h : WellDim dim ps) :
    ∃ a, createCPathsDFromPaths64 dim k ps = .ok a ∧
      convertCPaths dim a = .ok ((ps.map (·.map (scaleVtx k))).filter (· ≠ [])) := by
  rw [createCPathsDFromPaths64_eq]
  exact cpathsD_roundtrip dim _ (wellDim_scale dim k ps h)

/-- non-vacuity: a square, an empty path and a single point, with and without z -/
example : WellDim 2 [[[0, 0], [10, 0], [10, 10], [0, 10]], [], [[5, 5]]] := by decide
example : WellDim 3 [[[0, 0, 7], [10, 0, -1], [10, 10, 0]], []] := by decide
example : createCPaths 2 [[[0, 0], [10, 0], [10, 10]], [], [[5, 5]]] = .ok [14, 2, 3, 0, 0, 0, 10, 0, 10, 10, 1, 0, 5, 5] := by rfl
example : convertCPaths 2 (some [14, 2, 3, 0, 0, 0, 10, 0, 10, 10, 1, 0, 5, 5]) = .ok [[[0, 0], [10, 0], [10, 10]], [[5, 5]]] := by rfl
/-- a header that promises more than the array holds is a fault of the checked reader, not a silent read -/
example : convertCPaths 2 (some [6, 2, 1, 0, 5, 5]) = .error (.oobRead 6 6) := by rfl

/-! `PPath.node poly kids` models `PolyPath64`; a `PolyTree64` is a root whose polygon is empty (the export layer only
marshals trees it default-constructs itself, `PolyTree64 tree;`), hence the trees below are `.node [] kids`.
The library has a writer only; the reader `readPolyTree` is the client side, written from the layout documented at
the top of clipper.export.h.  The inductions on the tree are in `Lemmas/Export.lean`. -/

/-- The writer `CreateCPolyTree64` produces the documented layout `A, C, CPolyPath1 … CPolyPathC` with
`CPolyPath = N, C, vertices, children`; a tree without children gives `nullptr`. -/
theorem createCPolyTree_layout (dim : Nat) (kids : List PPath) (h : PPath.WellDimList dim kids) :
    createCPolyTree dim (.node [] kids) = .ok (if kids = [] then none else some (flatCPolyTree (.node [] kids))) := by
  by_cases hk : kids = []
  · subst hk; simp [createCPolyTree, createCPolyTreeW, PPath.kids, Except.map]
  · simp [createCPolyTree, createCPolyTreeW_eq dim kids hk h, hk, Except.map]

/-- Writing a polytree and reading it back gives the same tree — same nesting structure and
the same polygons, vertex by vertex. -/
theorem cpolytree_roundtrip (dim : Nat) (kids : List PPath) (h : PPath.WellDimList dim kids) :
    ∃ a, createCPolyTree dim (.node [] kids) = .ok a ∧ readPolyTree dim a = .ok (.node [] kids) := by
  refine ⟨_, createCPolyTree_layout dim kids h, ?_⟩
  by_cases hk : kids = []
  · subst hk; simp [readPolyTree, readPolyTreePos, Except.map]
  · rw [if_neg hk, readPolyTree, readPolyTreePos_flat dim kids h]; rfl

/-- The first cell is the number of cells of the array, the second the number of top-level children. -/
theorem cpolytree_header (dim : Nat) (kids : List PPath) (hk : kids ≠ []) (h : PPath.WellDimList dim kids) :
    ∃ a, createCPolyTree dim (.node [] kids) = .ok (some a) ∧ a[0]? = some (a.length : Int) ∧ a[1]? = some (kids.length : Int) := by
  refine ⟨flatCPolyTree (.node [] kids), by simp [createCPolyTree_layout dim kids h, hk], ?_, ?_⟩ <;>
    simp [flatCPolyTree, PPath.kids] <;> omega

/-- The writer never leaves the block of `GetPolyPathArrayLen64(tree)` cells and fills it exactly;
the reader, on the writer's output, performs no read outside the array and stops exactly at index `A = a[0]`. -/
theorem cpolytree_no_oob (dim : Nat) (kids : List PPath) (hk : kids ≠ []) (h : PPath.WellDimList dim kids) :
    (∃ w, createCPolyTreeW dim (.node [] kids) = .ok (some w) ∧
        w.buf.length = getPolyPathArrayLen dim (.node [] kids) ∧ w.pos = w.buf.length)
    ∧ (∃ a, createCPolyTree dim (.node [] kids) = .ok (some a) ∧
        readPolyTreePos dim (some a) = .ok (.node [] kids, a.length)) := by
  constructor
  · refine ⟨_, createCPolyTreeW_eq dim kids hk h, ?_, rfl⟩
    simp [getPolyPathArrayLen, encPolyPathList_length dim kids h, flatCPolyTree, PPath.kids]; omega
  · exact ⟨_, by rw [createCPolyTree_layout dim kids h, if_neg hk], readPolyTreePos_flat dim kids h⟩

/-- non-vacuity: an outer square with a hole that contains an island, next to a triangle (dim 2) -/
example : PPath.WellDimList 2
    [.node [[0,0],[10,0],[10,10],[0,10]] [.node [[2,2],[2,8],[8,8],[8,2]] [.node [[4,4],[6,4],[6,6]] []]],
     .node [[20,0],[30,0],[30,10]] []] := by
  simp only [PPath.WellDimList, PPath.WellDim]; decide
open Clipper.Model.ExportCalls Clipper.Gen.Export

/-- the generated table covers exactly the fourteen exported functions of the property statement -/
theorem table_complete : exportTable.map (·.name) =
    ["BooleanOp64", "BooleanOp_PolyTree64", "BooleanOpD", "BooleanOp_PolyTreeD",
     "InflatePaths64", "InflatePathsD", "InflatePath64", "InflatePathD",
     "RectClip64", "RectClipD", "RectClipLines64", "RectClipLinesD", "MinkowskiSum64", "MinkowskiDiff64"] := by decide +kernel

/-- The property's second sentence, per argument slot, for all fourteen exported functions: every
argument that is (a cast, a scaled copy or a marshalled copy of) an exported parameter sits in a callee slot of the same
meaning; lengths (delta, arc tolerance) are multiplied by `10^precision` exactly in the functions that work at a
precision; no callee slot for which the exported function has a parameter is left to its default; every input
parameter is forwarded.  The table is regenerated from clipper.export.h on every run, so this `decide` re-judges the
current source.  (Before the `fix:` commits da9c53b and 911fe8d it failed for the four `Inflate*` exports:
`reverse_solution` sat in ClipperOffset's `preserve_collinear` slot and `InflatePath(s)D` passed `arc_tolerance`
unscaled.) -/
theorem forwarding : ∀ e ∈ exportTable, forwards e = true := by decide +kernel

end Clipper.Props.C17

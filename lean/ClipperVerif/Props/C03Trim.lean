/-
C03 / C02 — `TrimHorz`: what the merge of consecutive horizontal edges guarantees (model `Model/TrimHorz.lean`, tied to the
compiled function by calling it on hand-built vertex rings: harness/C03.cpp, records `TRIMHORZ`).

A horizontal edge that is swept must be the *whole* run of horizontal input edges of its bound (with PreserveCollinear off, and
for 180-degree spikes always): a run that is cut short leaves a spike in the bound, which is then swept as two opposite
horizontals and produces zero-area / self-crossing output rings (the clause "no path has zero area or a 180-degree spike" of C03,
exactness of C02).
-/
import ClipperVerif.Lemmas.TrimHorz
namespace Clipper.Props.C03Trim
open Clipper.Model.TrimHorz Clipper.Lemmas.TrimHorz

/-- **Why the loop stops** (PreserveCollinear off): at a local maximum that it has just made the top, or because the next vertex
leaves the row, or because the supplied vertices are exhausted.  In particular it never stops *before* a vertex of the row that is
not preceded by a maximum: the whole horizontal run up to the first maximum is merged. -/
theorem loop_stops_nopc (botX : Int) (rest : List V) : ∀ (topX topY : Int) (adv : Nat),
    let o := loop false botX topX topY adv rest
    o.ranOff = true
    ∨ (∃ v, rest[o.adv - adv]? = some v ∧ v.y ≠ topY ∧ ∀ w ∈ rest.take (o.adv - adv), w.isMax = false)
    ∨ (adv < o.adv ∧ ∃ v, rest[o.adv - adv - 1]? = some v ∧ v.isMax = true ∧ ∀ w ∈ rest.take (o.adv - adv - 1), w.isMax = false) := by
  intro topX topY adv o
  obtain ⟨k, hk, h⟩ := loop_stops botX rest topX topY adv o rfl
  rw [hk, Nat.add_sub_cancel_left]
  rcases h with h | h | ⟨j, v, rfl, hv, hm, hall⟩
  · exact Or.inl h.1
  · exact Or.inr (Or.inl h)
  · exact Or.inr (Or.inr ⟨Nat.lt_add_of_pos_right (Nat.succ_pos _), v, hv, hm, hall⟩)

/-- **The merged run is maximal** (PreserveCollinear off): if the first `k+1` supplied vertices are all on the row and none of the
first `k` is a maximum, at least `k+1` of them are merged — the loop cannot stop one vertex short of a maximum that ends the run. -/
theorem trimHorz_merges_run (botX topX topY : Int) (rest : List V) (k : Nat) (hk : k < rest.length)
    (hrow : ∀ v ∈ rest.take (k + 1), v.y = topY) (hmax : ∀ v ∈ rest.take k, v.isMax = false) :
    k + 1 ≤ (trimHorz false botX topX topY rest).adv := by
  obtain ⟨n, hn, h⟩ := loop_stops botX rest topX topY 0 _ rfl
  rw [trimHorz, hn, Nat.zero_add]
  refine Nat.lt_of_not_le (fun hle => ?_)
  -- each way of stopping within the first `k + 1` vertices is excluded by a hypothesis
  have hin : ∀ {j : Nat} {v : V}, rest[j]? = some v → ∀ {m : Nat}, j < m → v ∈ rest.take m := fun hj _ hjm =>
    List.mem_iff_getElem?.2 ⟨_, by rw [List.getElem?_take_of_lt hjm]; exact hj⟩
  rcases h with ⟨_, rfl⟩ | ⟨v, hv, hy, _⟩ | ⟨j, v, rfl, hv, hm, _⟩
  · omega
  · exact hy (hrow v (hin hv (Nat.lt_succ_of_le hle)))
  · exact Bool.false_ne_true ((hmax v (hin hv (Nat.lt_of_succ_le hle))).symm.trans hm)

/-- non-vacuity: a flat top `(2,1) → (0,1) → (2,1)` whose last vertex is the local maximum: both horizontal pieces (the spike
included) are merged, the edge ends at the maximum -/
example : trimHorz false 2 2 1 [⟨0, 1, false⟩, ⟨2, 1, true⟩, ⟨2, 2, false⟩] = ⟨2, 1, 2, false⟩ := by decide
example : (1 : Nat) + 1 ≤ (trimHorz false 2 2 1 [⟨0, 1, false⟩, ⟨2, 1, true⟩, ⟨2, 2, false⟩]).adv :=
  trimHorz_merges_run 2 2 1 _ 1 (by decide) (by decide) (by decide)
/-- with PreserveCollinear on, a collinear continuation in the same direction is kept as a vertex, a reversal is still merged -/
example : trimHorz true 0 2 1 [⟨5, 1, false⟩, ⟨5, 3, false⟩] = ⟨2, 1, 0, false⟩ := by decide
example : trimHorz true 0 2 1 [⟨1, 1, false⟩, ⟨1, 3, false⟩] = ⟨1, 1, 1, false⟩ := by decide

end Clipper.Props.C03Trim

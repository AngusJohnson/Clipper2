/-
C06 / C07 — the JOIN GEOMETRY of ClipperOffset (DESIGN §5 C06 item S): where the raw vertices produced by
`DoBevel / DoMiter / DoSquare / DoRound`, the concave join and `GetUnitNormal` lie.

All statements are about the polymorphic definitions of `Model/OffsetJoins.lean` instantiated at `α := Rat`
(`ratOps`): EXACT, "idealised real" arithmetic without rounding.  The functions the C++ takes from libm (`sqrt`,
`sin`, `cos`, `acos`, `atan2`) stay arbitrary (`m : Libm Rat`); a theorem that depends on one of their values states what
it needs about that value (`sqrt v * sqrt v = v`, `step_cos² + step_sin² = 1`).  The same definitions evaluated at
`Float` reproduce the compiled primitives bit for bit (harness/C06joins.cpp, `Driver/C06Joins.lean`); the gap between
`Rat` and `double` arithmetic is NOT covered by these theorems - it is covered by the spec-level judgements
(`JNCHK…` on the raw vertices, `OFFSETCHECK` / `STROKECHECK` on whole results).

Vocabulary (`Lemmas/OffsetJoins.lean`): `dist2 q p` squared distance of the raw vertex `q` from the path vertex `p`;
`along q p n = (q − p) · n`, so `along q p n = δ` says `q` lies on the offset line of an edge through `p` with unit
normal `n`; `IsUnit n : n.x² + n.y² = 1`.
-/
import ClipperVerif.Model.OffsetJoins
import ClipperVerif.Model.OffsetFrame
import ClipperVerif.Props.C06
import ClipperVerif.Lemmas.OffsetJoins
namespace Clipper.Props.C06Joins
open Clipper Clipper.OffsetJoins

-- unit normals exist in `Rat`: the `IsUnit` hypotheses below are not vacuous
example : IsUnit ⟨3 / 5, 4 / 5⟩ := by decide +kernel
example : IsUnit ⟨5 / 13, 12 / 13⟩ := by decide +kernel
example : IsUnit ⟨-4 / 5, 3 / 5⟩ ∧ IsUnit ⟨0, -1⟩ := by decide +kernel

/-- `GetUnitNormal(pt1, pt2)` for distinct points, when `sqrt` is exact on `dx² + dy²` and positive: the result is a
unit vector, perpendicular to the edge, equal to `(dy, −dx) / |edge|` (the right-hand normal in y-up coordinates). -/
theorem unitNormal_unit (m : Libm Rat) (pi : Rat) (p1 p2 : Pt) (hne : p1 ≠ p2)
    (hs : m.sqrt (((p2.x - p1.x : Int) : Rat) * ((p2.x - p1.x : Int) : Rat) + ((p2.y - p1.y : Int) : Rat) * ((p2.y - p1.y : Int) : Rat))
        * m.sqrt (((p2.x - p1.x : Int) : Rat) * ((p2.x - p1.x : Int) : Rat) + ((p2.y - p1.y : Int) : Rat) * ((p2.y - p1.y : Int) : Rat))
        = ((p2.x - p1.x : Int) : Rat) * ((p2.x - p1.x : Int) : Rat) + ((p2.y - p1.y : Int) : Rat) * ((p2.y - p1.y : Int) : Rat))
    (hpos : 0 < m.sqrt (((p2.x - p1.x : Int) : Rat) * ((p2.x - p1.x : Int) : Rat) + ((p2.y - p1.y : Int) : Rat) * ((p2.y - p1.y : Int) : Rat))) :
    let n := getUnitNormal (ratOps m pi) p1 p2
    let h := m.sqrt (((p2.x - p1.x : Int) : Rat) * ((p2.x - p1.x : Int) : Rat) + ((p2.y - p1.y : Int) : Rat) * ((p2.y - p1.y : Int) : Rat))
    IsUnit n ∧ n.x * ((p2.x - p1.x : Int) : Rat) + n.y * ((p2.y - p1.y : Int) : Rat) = 0
      ∧ n.x * h = ((p2.y - p1.y : Int) : Rat) ∧ n.y * h = -((p2.x - p1.x : Int) : Rat) := by
  intro n h
  have hn : n = ⟨((p2.y - p1.y : Int) : Rat) * (1 / h), -(((p2.x - p1.x : Int) : Rat) * (1 / h))⟩ := by
    simp only [n, getUnitNormal, hne, if_false, hypot, ratOps_ofInt, ratOps_sqrt, h]
  have hi : 1 / h * h = 1 := Rat.div_mul_cancel (Rat.ne_of_gt hpos)
  have hs' : h * h = _ := hs
  rw [hn]
  simp only [IsUnit]
  -- identities in `dx`, `dy`, `h`, `1/h` from `h² = dx² + dy²` and `(1/h) h = 1`
  generalize 1 / h = ih at hi
  generalize ((p2.y - p1.y : Int) : Rat) = dy at hs' ⊢
  generalize ((p2.x - p1.x : Int) : Rat) = dx at hs' ⊢
  generalize h = h at *
  grind

/-- non-vacuity: the edge (0,0) → (3,4) with `sqrt 25 = 5` gives the normal (4/5, −3/5) -/
example : getUnitNormal (ratOps ⟨fun _ => 5, id, id, id, fun a _ => a⟩ 3) ⟨0, 0⟩ ⟨3, 4⟩ = (⟨4 / 5, -3 / 5⟩ : V Rat) := by
  simp [getUnitNormal, hypot, ratOps]; decide +kernel

/-- … and the hypotheses of `unitNormal_unit` hold for it: `5 · 5 = 3² + 4²`, `0 < 5` -/
example : (5 : Rat) * 5 = (((3 : Int) - 0 : Int) : Rat) * (((3 : Int) - 0 : Int) : Rat) + (((4 : Int) - 0 : Int) : Rat) * (((4 : Int) - 0 : Int) : Rat)
    ∧ (0 : Rat) < 5 ∧ (⟨0, 0⟩ : Pt) ≠ ⟨3, 4⟩ := by decide +kernel

/-- Lagrange's identity: for unit normals the `DotProduct` and the `CrossProduct` of `OffsetPoint` are the cosine and
sine of one angle. -/
theorem sin_cos_unit (nj nk : V Rat) (hj : IsUnit nj) (hk : IsUnit nk) :
    dotProduct nj nk * dotProduct nj nk + crossProduct nj nk * crossProduct nj nk = 1 := by
  simp only [IsUnit] at hj hk
  simp only [dotProduct, crossProduct]
  grind

/-- hence `|cos_a| ≤ 1` and `|sin_a| ≤ 1` -/
theorem cos_le_one (nj nk : V Rat) (hj : IsUnit nj) (hk : IsUnit nk) :
    (-1 ≤ dotProduct nj nk ∧ dotProduct nj nk ≤ 1) ∧ (-1 ≤ crossProduct nj nk ∧ crossProduct nj nk ≤ 1) := by
  have h := sin_cos_unit nj nk hj hk
  have h' : crossProduct nj nk * crossProduct nj nk + dotProduct nj nk * dotProduct nj nk = 1 := by grind
  exact ⟨abs_le_one_of_sq_add _ _ h, abs_le_one_of_sq_add _ _ h'⟩

/-- so the clamp of `sin_a` to [−1, 1] in `OffsetPoint` is the identity in exact arithmetic -/
theorem clamp_is_identity (m : Libm Rat) (pi : Rat) (nj nk : V Rat) (hj : IsUnit nj) (hk : IsUnit nk) :
    sinCos (ratOps m pi) nj nk = (crossProduct nj nk, dotProduct nj nk) := by
  have h := (cos_le_one nj nk hj hk).2
  simp only [sinCos, clampUnit, ratOps_lt, decide_eq_true_eq, if_neg (Rat.not_lt.mpr h.2), if_neg (Rat.not_lt.mpr h.1)]

example : sinCos (ratOps ⟨id, id, id, id, fun a _ => a⟩ 3) ⟨3 / 5, 4 / 5⟩ ⟨5 / 13, 12 / 13⟩ = ((-16 / 65 : Rat), (63 / 65 : Rat)) := by
  simp [sinCos, clampUnit, crossProduct, dotProduct, ratOps]; decide +kernel

/-- `sin_a` is the turn of the path at the vertex: when the normals are `(dy, −dx) · (1/|edge|)` (what `GetUnitNormal`
computes, `ik`, `ij` the positive inverse lengths), `CrossProduct(norms[j], norms[k])` is the cross product of the
incoming and outgoing edge directions scaled by a positive number, so `sin_a · δ < 0` iff the path turns towards the
side it is offset to (a concave corner of the offset region). -/
theorem sin_is_turn (dxk dyk dxj dyj ik ij gd : Rat) (hik : 0 < ik) (hij : 0 < ij) :
    let nk : V Rat := ⟨dyk * ik, -(dxk * ik)⟩
    let nj : V Rat := ⟨dyj * ij, -(dxj * ij)⟩
    crossProduct nj nk = (dxk * dyj - dyk * dxj) * (ik * ij)
      ∧ (crossProduct nj nk * gd < 0 ↔ (dxk * dyj - dyk * dxj) * gd < 0) := by
  intro nk nj
  have h1 : crossProduct nj nk = (dxk * dyj - dyk * dxj) * (ik * ij) := by
    simp only [crossProduct, nk, nj]; grind
  refine ⟨h1, ?_⟩
  have e : (dxk * dyj - dyk * dxj) * (ik * ij) * gd = ((dxk * dyj - dyk * dxj) * gd) * (ik * ij) := by grind
  rw [h1, e]
  exact Rat.mul_neg_iff_of_pos_right (Rat.mul_pos hik hij)

/-- inverse lengths 1/5 and 1/13 of the edges (3,4) and (5,12) are positive -/
example : (0 : Rat) < 1 / 5 ∧ (0 : Rat) < 1 / 13 := by decide +kernel

def toBranch : Join → OffsetFrame.Branch
  | .copy => .copy | .concave => .concave | .miter => .miter | .square => .square | .round => .round | .bevel => .bevel

/-- Branch selection of the polymorphic `OffsetPoint` at `Rat` is the frame model's `branchOf` (Model/OffsetFrame.lean;
the theorems `concave_branch_iff`, `join_branch`, `miter_branch_iff` of Props/C06.lean apply to it). -/
theorem joinOf_eq_branchOf (m : Libm Rat) (pi : Rat) (jt : JoinType) (tl gd s c : Rat) :
    toBranch (joinOf (ratOps m pi) jt tl gd s c) = OffsetFrame.branchOf jt tl gd s c false := by
  have e : OffsetFrame.rabs gd = rabs gd := rfl
  have e2 : (-(999 / 1000) : Rat) = -999 / 1000 := by decide +kernel
  -- the same chain of tests: turn the Boolean tests into propositions and push `toBranch` into the branches
  simp only [joinOf, OffsetFrame.branchOf, ratOps_le, ratOps_lt, ratOps_abs, ratOps_fpTol, ratOps_c0999,
    OffsetFrame.fpTol, e, e2, Bool.false_eq_true, if_false, gt_iff_lt, Bool.and_eq_true, decide_eq_true_eq,
    bne_iff_ne, beq_iff_eq, ne_eq, apply_ite toBranch]
  rfl

theorem toBranch_eq_concave {j : Join} : toBranch j = .concave ↔ j = .concave := by
  cases j <;> simp [toBranch]

/-- `OffsetPoint` builds the concave three-point join exactly when delta is significant, the turn is not within
about 2.5 degrees of a reversal and `sin_a · δ < 0`, i.e. (by `sin_is_turn`) the path turns towards the offset side. -/
theorem concave_iff_negative_turn (m : Libm Rat) (pi : Rat) (jt : JoinType) (tl gd s c : Rat) :
    joinOf (ratOps m pi) jt tl gd s c = .concave ↔ (¬ rabs gd ≤ 1 / 1000000000000 ∧ c > -999 / 1000 ∧ s * gd < 0) := by
  rw [← toBranch_eq_concave, joinOf_eq_branchOf, Props.C06.concave_branch_iff]
  exact ⟨fun h => h.2, fun h => ⟨rfl, h⟩⟩

example : joinOf (ratOps ⟨id, id, id, id, fun a _ => a⟩ 3) .miter 1 10 (-1 / 2) (1 / 2) = .concave := by decide +kernel

/-- the three points of the concave join: the ends of the two offset edges and the vertex itself -/
theorem concave_points (m : Libm Rat) (pi : Rat) (pj : Pt) (nj nk : V Rat) (gd : Rat) (hj : IsUnit nj) (hk : IsUnit nk) :
    ∃ q1 q2, concaveJoin (ratOps m pi) pj nj nk gd = [outV q1, .pt pj, outV q2]
      ∧ dist2 q1 pj = gd * gd ∧ along q1 pj nk = gd ∧ dist2 q2 pj = gd * gd ∧ along q2 pj nj = gd := by
  simp only [IsUnit] at hj hk
  refine ⟨⟨(pj.x : Rat) + nk.x * gd, (pj.y : Rat) + nk.y * gd⟩, ⟨(pj.x : Rat) + nj.x * gd, (pj.y : Rat) + nj.y * gd⟩, rfl, ?_⟩
  simp only [dist2_add, along_add]
  grind

/-- `DoBevel` at a join (`j ≠ k`): the two points are `p + δ n_k` and `p + δ n_j`; both are at distance `|δ|` from
`path[j]`, the first lies on the offset line of edge `k`, the second on that of edge `j`. -/
theorem bevel_points (m : Libm Rat) (pi : Rat) (pj : Pt) (nj nk : V Rat) (gd : Rat) (hj : IsUnit nj) (hk : IsUnit nk) :
    ∃ q1 q2, doBevel (ratOps m pi) pj nj nk false gd = [outV q1, outV q2]
      ∧ dist2 q1 pj = gd * gd ∧ dist2 q2 pj = gd * gd ∧ along q1 pj nk = gd ∧ along q2 pj nj = gd := by
  simp only [IsUnit] at hj hk
  refine ⟨⟨(pj.x : Rat) + gd * nk.x, (pj.y : Rat) + gd * nk.y⟩, ⟨(pj.x : Rat) + gd * nj.x, (pj.y : Rat) + gd * nj.y⟩, rfl, ?_⟩
  simp only [dist2_add, along_add]
  grind

/-- `DoBevel` at an open-path end (`j = k`, butt cap): the two points are `p − |δ| n` and `p + |δ| n`: at distance
`|δ|` on either side of the end point, on the line through it perpendicular to the last edge (flat cut). -/
theorem bevel_cap_points (m : Libm Rat) (pi : Rat) (pj : Pt) (n : V Rat) (gd : Rat) (hn : IsUnit n) :
    ∃ q1 q2, doBevel (ratOps m pi) pj n n true gd = [outV q1, outV q2]
      ∧ dist2 q1 pj = gd * gd ∧ dist2 q2 pj = gd * gd ∧ along q1 pj n = -rabs gd ∧ along q2 pj n = rabs gd
      ∧ along q1 pj ⟨n.y, -n.x⟩ = 0 ∧ along q2 pj ⟨n.y, -n.x⟩ = 0 := by
  simp only [IsUnit] at hn
  have ha := rabs_mul_self gd
  refine ⟨⟨(pj.x : Rat) - rabs gd * n.x, (pj.y : Rat) - rabs gd * n.y⟩,
    ⟨(pj.x : Rat) + rabs gd * n.x, (pj.y : Rat) + rabs gd * n.y⟩, rfl, ?_⟩
  simp only [dist2, along]
  grind

/-- Every point of the bevel segment `pt1 – pt2` is at squared distance between `δ² (1 + cos_a) / 2` and `δ²` from
`path[j]`: a bevel (and the `cos_a > 0.999` shortcut) stays inside the round join and cuts it by at most
`|δ| (1 − sqrt((1 + cos_a) / 2))`; for `cos_a > 0.999` that is less than `0.00025 |δ|`. -/
theorem bevel_chord_within_delta (m : Libm Rat) (pi : Rat) (pj : Pt) (nj nk : V Rat) (gd t : Rat)
    (hj : IsUnit nj) (hk : IsUnit nk) (h0 : 0 ≤ t) (h1 : t ≤ 1) :
    ∃ q1 q2, doBevel (ratOps m pi) pj nj nk false gd = [outV q1, outV q2]
      ∧ gd * gd * (1 + dotProduct nj nk) / 2 ≤ dist2 (lerp q1 q2 t) pj ∧ dist2 (lerp q1 q2 t) pj ≤ gd * gd := by
  have hc := (cos_le_one nj nk hj hk).1.2
  simp only [IsUnit] at hj hk
  refine ⟨⟨(pj.x : Rat) + gd * nk.x, (pj.y : Rat) + gd * nk.y⟩, ⟨(pj.x : Rat) + gd * nj.x, (pj.y : Rat) + gd * nj.y⟩, rfl, ?_⟩
  rw [lerp_add, dist2_add]
  exact chord_bounds (gd * nk.x) (gd * nk.y) (gd * nj.x) (gd * nj.y) (gd * gd) (dotProduct nj nk) t
    (by grind) (by grind) (by simp only [dotProduct]; grind) hc (sq_nonneg gd) h0 h1

example : (0 : Rat) ≤ 1 / 2 ∧ (1 / 2 : Rat) ≤ 1 := by decide +kernel

/-- the point `p + (n_k + n_j) q`; `DoMiter` produces it for `q = δ / (cos_a + 1)` -/
def miterPt (pj : Pt) (nj nk : V Rat) (q : Rat) : V Rat :=
  ⟨(pj.x : Rat) + (nk.x + nj.x) * q, (pj.y : Rat) + (nk.y + nj.y) * q⟩

theorem doMiter_eq (m : Libm Rat) (pi : Rat) (pj : Pt) (nj nk : V Rat) (c gd : Rat) :
    doMiter (ratOps m pi) pj nj nk c gd = [outV (miterPt pj nj nk (gd / (c + 1)))] := rfl

/-- for any `q` the projections of `p + (n_k + n_j) q` on both normals are `q (1 + cos_a)`, its squared distance from `p`
is `2 q² (1 + cos_a)` -/
theorem miterPt_facts (pj : Pt) (nj nk : V Rat) (q : Rat) (hj : IsUnit nj) (hk : IsUnit nk) :
    along (miterPt pj nj nk q) pj nk = q * (dotProduct nj nk + 1) ∧ along (miterPt pj nj nk q) pj nj = q * (dotProduct nj nk + 1)
      ∧ dist2 (miterPt pj nj nk q) pj = 2 * (q * q) * (1 + dotProduct nj nk) := by
  simp only [IsUnit] at hj hk
  simp only [miterPt, along_add, dist2_add, dotProduct]
  grind

/-- The `DoMiter` point `P = p + (n_k + n_j) · δ / (1 + cos_a)` lies on BOTH offset lines when `cos_a = n_j · n_k`
(it is their intersection), for `1 + cos_a ≠ 0`. -/
theorem miter_on_both_offset_lines (m : Libm Rat) (pi : Rat) (pj : Pt) (nj nk : V Rat) (gd : Rat)
    (hj : IsUnit nj) (hk : IsUnit nk) (hc : dotProduct nj nk + 1 ≠ 0) :
    ∃ P, doMiter (ratOps m pi) pj nj nk (dotProduct nj nk) gd = [outV P] ∧ along P pj nk = gd ∧ along P pj nj = gd := by
  obtain ⟨a1, a2, -⟩ := miterPt_facts pj nj nk (gd / (dotProduct nj nk + 1)) hj hk
  exact ⟨miterPt pj nj nk (gd / (dotProduct nj nk + 1)), doMiter_eq .., a1.trans (Rat.div_mul_cancel hc),
    a2.trans (Rat.div_mul_cancel hc)⟩

/-- The miter length: `|P − p|² (1 + cos_a) = 2 δ²`, i.e. `|P − p| = |δ| / cos(a/2)`. -/
theorem miter_length (m : Libm Rat) (pi : Rat) (pj : Pt) (nj nk : V Rat) (gd : Rat)
    (hj : IsUnit nj) (hk : IsUnit nk) (hc : dotProduct nj nk + 1 ≠ 0) :
    ∃ P, doMiter (ratOps m pi) pj nj nk (dotProduct nj nk) gd = [outV P]
      ∧ dist2 P pj * (1 + dotProduct nj nk) = 2 * (gd * gd) := by
  obtain ⟨-, -, d⟩ := miterPt_facts pj nj nk (gd / (dotProduct nj nk + 1)) hj hk
  refine ⟨miterPt pj nj nk (gd / (dotProduct nj nk + 1)), doMiter_eq .., ?_⟩
  have hq : gd / (dotProduct nj nk + 1) * (dotProduct nj nk + 1) = gd := Rat.div_mul_cancel hc
  rw [d]
  generalize gd / (dotProduct nj nk + 1) = q at hq
  grind

example : dotProduct (⟨3 / 5, 4 / 5⟩ : V Rat) ⟨5 / 13, 12 / 13⟩ + 1 ≠ 0 := by decide +kernel

/-- What the code's test `cos_a > temp_lim_ − 1` with `temp_lim_ = 2 / ml²` (`ml = miter_limit_ > 1`) says about the
miter point: for `1 + cos_a > 0` and `δ ≠ 0` it holds exactly when `|P − p|² < (ml · δ)²`, i.e. when the miter length is
strictly within the limit. -/
theorem miter_test_iff_length (m : Libm Rat) (pi : Rat) (pj : Pt) (nj nk : V Rat) (gd ml : Rat)
    (hj : IsUnit nj) (hk : IsUnit nk) (hc : 0 < 1 + dotProduct nj nk) (hml : 1 < ml) (hgd : gd ≠ 0) :
    ∃ P, doMiter (ratOps m pi) pj nj nk (dotProduct nj nk) gd = [outV P]
      ∧ ((ratOps m pi).lt (tempLimOf (ratOps m pi) ml - 1) (dotProduct nj nk) = true ↔ dist2 P pj < (ml * gd) * (ml * gd)) := by
  obtain ⟨P, hP, hlen⟩ := miter_length m pi pj nj nk gd hj hk (by grind)
  refine ⟨P, hP, ?_⟩
  simp only [tempLimOf, ratOps_le, ratOps_lt, decide_eq_true_eq, if_neg (Rat.not_le.mpr hml)]
  have hkey : 2 / (ml * ml) - 1 < dotProduct nj nk ↔ 2 / (1 + dotProduct nj nk) < ml * ml :=
    Props.C06.miter_iff_within_limit (dotProduct nj nk) ml hc (Std.lt_trans (by decide +kernel) hml)
  -- `2 < ml² (1 + c)`: multiply by `δ² > 0`, use `|P − p|² (1 + c) = 2 δ²`, divide by `1 + c > 0`
  rw [hkey, Rat.div_lt_iff hc, ← Rat.mul_lt_mul_right (mul_self_pos hgd), ← Rat.mul_lt_mul_right (a := dist2 P pj) hc, hlen]
  have e : ml * ml * (1 + dotProduct nj nk) * (gd * gd) = ml * gd * (ml * gd) * (1 + dotProduct nj nk) := by grind
  rw [e]

example : (0 : Rat) < 1 + dotProduct (⟨3 / 5, 4 / 5⟩ : V Rat) ⟨5 / 13, 12 / 13⟩ ∧ (1 : Rat) < 2 ∧ (10 : Rat) ≠ 0 := by decide +kernel

/-- `GetAvgUnitVector(vec1, vec2)` when `sqrt` is exact on the squared length of the sum and the sum is not
`AlmostZero`: the result is the sum scaled by `1 / |sum|`, a unit vector. -/
theorem avgUnit_unit_parallel (m : Libm Rat) (pi : Rat) (v1 v2 : V Rat)
    (hs : m.sqrt ((v1.x + v2.x) * (v1.x + v2.x) + (v1.y + v2.y) * (v1.y + v2.y)) * m.sqrt ((v1.x + v2.x) * (v1.x + v2.x) + (v1.y + v2.y) * (v1.y + v2.y))
        = (v1.x + v2.x) * (v1.x + v2.x) + (v1.y + v2.y) * (v1.y + v2.y))
    (hnz : ¬ rabs (m.sqrt ((v1.x + v2.x) * (v1.x + v2.x) + (v1.y + v2.y) * (v1.y + v2.y))) < 1 / 1000) :
    let h := m.sqrt ((v1.x + v2.x) * (v1.x + v2.x) + (v1.y + v2.y) * (v1.y + v2.y))
    let vec := getAvgUnitVector (ratOps m pi) v1 v2
    vec = ⟨(v1.x + v2.x) * (1 / h), (v1.y + v2.y) * (1 / h)⟩ ∧ IsUnit vec := by
  intro h vec
  have hv : vec = ⟨(v1.x + v2.x) * (1 / h), (v1.y + v2.y) * (1 / h)⟩ := by
    simp only [vec, getAvgUnitVector, normalizeVector, almostZero, hypot, ratOps_sqrt, ratOps_abs, ratOps_lt, ratOps_c0001,
      hnz, decide_false, Bool.false_eq_true, if_false, h]
  refine ⟨hv, ?_⟩
  have hh : h ≠ 0 := by
    intro h0
    apply hnz
    simp only [h] at h0
    rw [h0]; decide +kernel
  have hi : 1 / h * h = 1 := Rat.div_mul_cancel hh
  have hs' : h * h = _ := hs
  rw [hv]
  simp only [IsUnit]
  generalize 1 / h = ih at hi
  generalize h = h at hs' hi
  grind

/-- `DoSquare` is reached only with `cos_a ≤ 0.999` (the almost-straight shortcut comes first); then the sum vector of
`GetAvgUnitVector` has squared length `2 − 2 cos_a ≥ 0.002`, so `NormalizeVector` never takes its `AlmostZero` exit. -/
theorem square_vec_not_degenerate (nj nk : V Rat) (h : Rat) (hj : IsUnit nj) (hk : IsUnit nk)
    (hc : dotProduct nj nk ≤ 999 / 1000) (h0 : 0 ≤ h)
    (hs : h * h = (-nk.y + nj.y) * (-nk.y + nj.y) + (nk.x + -nj.x) * (nk.x + -nj.x)) :
    ¬ rabs h < 1 / 1000 := by
  simp only [IsUnit] at hj hk
  simp only [dotProduct] at hc
  intro hlt
  have hr : rabs h = h := by unfold rabs; split <;> grind
  rw [hr] at hlt
  have := mul_self_lt_mul_self h0 hlt
  grind

/-- `DoSquare`, any branch of `GetSegmentIntersectPt` (parallel, clamped or not), any unit `vec`: both points lie on the
square-off line `{x : (x − p) · vec = |δ|}`, they are mirror images of each other through `ptQ = p + |δ| vec`, and
their squared distance from `path[j]` is between `δ²` and `2 δ²` (a squared join stays between the round joins for
`|δ|` and `sqrt 2 · |δ|`). -/
theorem square_points (m : Libm Rat) (pi : Rat) (vec : V Rat) (pj pk : Pt) (nk : V Rat) (cap : Bool) (gd : Rat)
    (hv : IsUnit vec) :
    ∃ q1 q2, doSquareWith (ratOps m pi) vec pj pk nk cap gd = [outV q1, outV q2]
      ∧ along q1 pj vec = rabs gd ∧ along q2 pj vec = rabs gd
      ∧ q2 = reflectPoint q1 (sqQ vec pj gd) ∧ q1 = reflectPoint q2 (sqQ vec pj gd)
      ∧ gd * gd ≤ dist2 q1 pj ∧ dist2 q1 pj ≤ 2 * (gd * gd)
      ∧ gd * gd ≤ dist2 q2 pj ∧ dist2 q2 pj ≤ 2 * (gd * gd) := by
  -- the intersection point is `ptQ + σ δ (vec.y, −vec.x)` with `|σ| ≤ 1`, its mirror image the same with `−σ`
  obtain ⟨σ, h0, h1, hr⟩ := sqPt_eq_sqAt m pi vec pj pk nk cap gd
  obtain ⟨b1, b2⟩ := dist2_sqAt_bounds vec pj gd σ hv h0 h1
  obtain ⟨b3, b4⟩ := dist2_sqAt_bounds vec pj gd (-σ) hv (Rat.neg_le_neg h1) (Rat.neg_le_iff.mpr h0)
  have a1 := along_sqAt_self vec pj gd σ hv
  have a2 := along_sqAt_self vec pj gd (-σ) hv
  rw [← reflect_sqAt] at a2 b3 b4
  rw [doSquareWith_eq, hr]
  -- at a join the intersection point comes first, at a cap its mirror image
  cases cap
  · exact ⟨sqAt vec pj gd σ, reflectPoint (sqAt vec pj gd σ) (sqQ vec pj gd), rfl, a1, a2, rfl,
      (reflectPoint_reflectPoint _ _).symm, b1, b2, b3, b4⟩
  · exact ⟨reflectPoint (sqAt vec pj gd σ) (sqQ vec pj gd), sqAt vec pj gd σ, rfl, a2, a1,
      (reflectPoint_reflectPoint _ _).symm, rfl, b3, b4, b1, b2⟩

/-- At a join (`j ≠ k`), when the ends `pt1`, `pt2` of the square-off segment lie strictly on opposite sides of the offset
line of edge `k` (so that `GetSegmentIntersectPt` neither finds the lines parallel nor clamps: the exact line
intersection), the first `DoSquare` point lies on that offset line.
Needs: `n_k` is a unit vector and the edge `path[k] → path[j]` has direction `L (−n_k.y, n_k.x)`, `L ≠ 0`. -/
theorem square_first_on_offset_line_k (m : Libm Rat) (pi : Rat) (vec : V Rat) (pj pk : Pt) (nk : V Rat) (gd L : Rat)
    (hk : IsUnit nk) (hL : L ≠ 0) (hex : (pj.x : Rat) - pk.x = L * -nk.y) (hey : (pj.y : Rat) - pk.y = L * nk.x)
    (hopp : (along (sqAt vec pj gd 1) pj nk - gd) * (along (sqAt vec pj gd (-1)) pj nk - gd) < 0)
    (q1 q2 : V Rat) (hq : doSquareWith (ratOps m pi) vec pj pk nk false gd = [outV q1, outV q2]) :
    along q1 pj nk = gd := by
  obtain ⟨rfl, -⟩ := doSquareWith_join hq
  have hs := side_offsetLine pj pk nk gd L hk hex hey
  obtain ⟨t, hr, h0⟩ := segint_cross m pi (sqP1 vec pj gd) (sqP2 vec pj gd) (sqP3 pk nk gd) (sqP3 pj nk gd) (sqQ vec pj gd) (by
    rw [hs, hs, sqP1_eq, sqP2_eq, show ∀ A B : Rat, L * A * (L * B) = A * B * (L * L) by grind]
    exact (Rat.mul_neg_iff_of_pos_right (mul_self_pos hL)).mpr hopp)
  rw [sqPt_join, hr]
  rw [hs] at h0
  have := (Rat.mul_eq_zero.mp h0).resolve_left hL
  grind

/-- The hypothesis of `square_first_on_offset_line_k` holds at EVERY strictly convex corner (`sin_a · δ > 0`, `cos_a < 1`)
when `vec` is a positive multiple of the sum that `GetAvgUnitVector` normalises and a unit vector. -/
theorem square_inner_of_convex (vec : V Rat) (pj : Pt) (nj nk : V Rat) (gd lam : Rat)
    (hk : IsUnit nk) (hv : IsUnit vec)
    (hvx : vec.x = lam * (-nk.y + nj.y)) (hvy : vec.y = lam * (nk.x + -nj.x)) (hlam : 0 < lam)
    (hc : dotProduct nj nk < 1) (hconvex : 0 < crossProduct nj nk * gd) :
    (along (sqAt vec pj gd 1) pj nk - gd) * (along (sqAt vec pj gd (-1)) pj nk - gd) < 0 := by
  simp only [IsUnit] at hk hv
  simp only [dotProduct] at hc
  simp only [crossProduct] at hconvex
  -- `w = (vec.y, −vec.x) · n_k = λ (1 − cos_a) > 0`, `u0 = vec · n_k = λ sin_a`, and `u0² + w² = 1`
  have hw : vec.y * nk.x - vec.x * nk.y = lam * (1 - (nj.x * nk.x + nj.y * nk.y)) := by grind
  have hwpos : 0 < vec.y * nk.x - vec.x * nk.y := by
    rw [hw]; exact Rat.mul_pos hlam (by grind)
  have hu : vec.x * nk.x + vec.y * nk.y = lam * (nj.y * nk.x - nk.y * nj.x) := by grind
  have hlag : (vec.x * nk.x + vec.y * nk.y) * (vec.x * nk.x + vec.y * nk.y)
      + (vec.y * nk.x - vec.x * nk.y) * (vec.y * nk.x - vec.x * nk.y) = 1 := by grind
  rw [along_sqAt, along_sqAt]
  exact convex_opposite gd lam _ _ _ hlam hwpos hu hlag hconvex

/-- non-vacuity at the corner (−10,0) → (0,0) → (7,24), `vec = (3/5, −4/5)`, δ = 5: `GetSegmentIntersectPt` has `det ≠ 0` and
`t = 1/3`, strictly inside `pt1 pt2` (the case `hopp` of `square_first_on_offset_line_k` describes, see `segint_cross`), and
`hvx`, `hvy`, `hlam` of `square_inner_of_convex` / `square_second_on_offset_line_j` hold with `lam = 5/6`; the remaining
hypotheses (with `L = 10`) are listed in the example after `square_join_points`. -/
example :
    segDet (sqP1 ⟨3 / 5, -4 / 5⟩ ⟨0, 0⟩ 5) (sqP2 ⟨3 / 5, -4 / 5⟩ ⟨0, 0⟩ 5) (sqP3 ⟨-10, 0⟩ ⟨0, -1⟩ 5) (sqP3 ⟨0, 0⟩ ⟨0, -1⟩ 5) ≠ 0
      ∧ segT (sqP1 ⟨3 / 5, -4 / 5⟩ ⟨0, 0⟩ 5) (sqP2 ⟨3 / 5, -4 / 5⟩ ⟨0, 0⟩ 5) (sqP3 ⟨-10, 0⟩ ⟨0, -1⟩ 5) (sqP3 ⟨0, 0⟩ ⟨0, -1⟩ 5) = 1 / 3
      ∧ (3 / 5 : Rat) = 5 / 6 * (-(-1 : Rat) + -7 / 25) ∧ (-4 / 5 : Rat) = 5 / 6 * ((0 : Rat) + -(24 / 25)) ∧ (0 : Rat) < 5 / 6 := by
  decide +kernel

/-- If moreover `vec` is parallel to the sum that `GetAvgUnitVector` normalises (`vec = λ ((−n_k.y, n_k.x) + (n_j.y, −n_j.x))`,
i.e. it bisects the corner), the second point - the mirror image - lies on the offset line of edge `j`. -/
theorem square_second_on_offset_line_j (m : Libm Rat) (pi : Rat) (vec : V Rat) (pj pk : Pt) (nj nk : V Rat) (gd lam : Rat)
    (hj : IsUnit nj) (hk : IsUnit nk)
    (hvx : vec.x = lam * (-nk.y + nj.y)) (hvy : vec.y = lam * (nk.x + -nj.x))
    (q1 q2 : V Rat) (hq : doSquareWith (ratOps m pi) vec pj pk nk false gd = [outV q1, outV q2])
    (h1 : along q1 pj nk = gd) :
    along q2 pj nj = gd := by
  simp only [IsUnit] at hj hk
  obtain ⟨rfl, rfl⟩ := doSquareWith_join hq
  obtain ⟨σ, -, -, hr⟩ := sqPt_eq_sqAt m pi vec pj pk nk false gd
  -- the bisector has the same projection on both normals, its perpendicular opposite ones
  have e1 : vec.x * nj.x + vec.y * nj.y = vec.x * nk.x + vec.y * nk.y := by grind
  have e2 : vec.y * nj.x - vec.x * nj.y = -(vec.y * nk.x - vec.x * nk.y) := by grind
  rw [hr, along_sqAt] at h1
  rw [hr, reflect_sqAt, along_sqAt, e1, e2]
  grind

/-- `DoSquare(path, j, k)` as a whole (including `GetAvgUnitVector`) at a strictly convex corner that is not almost
straight (`sin_a · δ > 0`, `cos_a ≤ 0.999`: what `OffsetPoint` guarantees when it calls `DoSquare` for a convex corner), with unit
normals, the edge `path[k] → path[j]` of direction `L (−n_k.y, n_k.x)`, `L > 0` (what `GetUnitNormal` produces), and `sqrt` exact and
positive on the one value it is applied to:
the first point lies on the offset line of edge `k`, the second on the offset line of edge `j`, both on the square-off
line at distance `|δ|` from `path[j]` along the bisector `vec`, mirror images of each other, at most `sqrt 2 |δ|` away. -/
theorem square_join_points (m : Libm Rat) (pi : Rat) (pj pk : Pt) (nj nk : V Rat) (gd L : Rat)
    (hj : IsUnit nj) (hk : IsUnit nk)
    (hs : m.sqrt ((-nk.y + nj.y) * (-nk.y + nj.y) + (nk.x + -nj.x) * (nk.x + -nj.x)) * m.sqrt ((-nk.y + nj.y) * (-nk.y + nj.y) + (nk.x + -nj.x) * (nk.x + -nj.x))
        = (-nk.y + nj.y) * (-nk.y + nj.y) + (nk.x + -nj.x) * (nk.x + -nj.x))
    (hpos : 0 < m.sqrt ((-nk.y + nj.y) * (-nk.y + nj.y) + (nk.x + -nj.x) * (nk.x + -nj.x)))
    (hc : dotProduct nj nk ≤ 999 / 1000) (hconvex : 0 < crossProduct nj nk * gd)
    (hL : 0 < L) (hex : (pj.x : Rat) - pk.x = L * -nk.y) (hey : (pj.y : Rat) - pk.y = L * nk.x) :
    ∃ q1 q2, doSquare (ratOps m pi) pj pk nj nk false gd = [outV q1, outV q2]
      ∧ along q1 pj nk = gd ∧ along q2 pj nj = gd
      ∧ along q1 pj (squareVec (ratOps m pi) nj nk false) = rabs gd ∧ along q2 pj (squareVec (ratOps m pi) nj nk false) = rabs gd
      ∧ q2 = reflectPoint q1 (sqQ (squareVec (ratOps m pi) nj nk false) pj gd)
      ∧ gd * gd ≤ dist2 q1 pj ∧ dist2 q1 pj ≤ 2 * (gd * gd) ∧ gd * gd ≤ dist2 q2 pj ∧ dist2 q2 pj ≤ 2 * (gd * gd) := by
  have hnz := square_vec_not_degenerate nj nk _ hj hk hc (Rat.le_of_lt hpos) hs
  obtain ⟨hvec, hunit⟩ := avgUnit_unit_parallel m pi ⟨-nk.y, nk.x⟩ ⟨nj.y, -nj.x⟩ hs hnz
  have hsv : squareVec (ratOps m pi) nj nk false = getAvgUnitVector (ratOps m pi) ⟨-nk.y, nk.x⟩ ⟨nj.y, -nj.x⟩ := rfl
  rw [← hsv] at hvec hunit
  unfold doSquare
  generalize squareVec (ratOps m pi) nj nk false = vec at hvec hunit ⊢
  generalize m.sqrt ((-nk.y + nj.y) * (-nk.y + nj.y) + (nk.x + -nj.x) * (nk.x + -nj.x)) = h at hs hpos hnz hvec
  have hlam : 0 < 1 / h := by rw [Rat.lt_div_iff hpos, Rat.zero_mul]; decide +kernel
  have hvx : vec.x = 1 / h * (-nk.y + nj.y) := by rw [hvec]; exact Rat.mul_comm _ _
  have hvy : vec.y = 1 / h * (nk.x + -nj.x) := by rw [hvec]; exact Rat.mul_comm _ _
  have hc1 : dotProduct nj nk < 1 := Std.lt_of_le_of_lt hc (by decide +kernel)
  have hopp := square_inner_of_convex vec pj nj nk gd (1 / h) hk hunit hvx hvy hlam hc1 hconvex
  obtain ⟨q1, q2, hq, a1, a2, r1, _, d1, d2, d3, d4⟩ := square_points m pi vec pj pk nk false gd hunit
  have f1 := square_first_on_offset_line_k m pi vec pj pk nk gd L hk (Rat.ne_of_gt hL) hex hey hopp q1 q2 hq
  have f2 := square_second_on_offset_line_j m pi vec pj pk nj nk gd (1 / h) hj hk hvx hvy q1 q2 hq f1
  exact ⟨q1, q2, hq, f1, f2, a1, a2, r1, d1, d2, d3, d4⟩

/-- non-vacuity: the corner (−10,0) → (0,0) → (7,24) (left turn, cos_a = 7/25), δ = 5; the sum vector has length 6/5 -/
example :
    IsUnit (⟨24 / 25, -7 / 25⟩ : V Rat) ∧ IsUnit (⟨0, -1⟩ : V Rat)
      ∧ (6 / 5 : Rat) * (6 / 5) = (-(-1 : Rat) + -7 / 25) * (-(-1 : Rat) + -7 / 25) + ((0 : Rat) + -(24 / 25)) * ((0 : Rat) + -(24 / 25))
      ∧ dotProduct (⟨24 / 25, -7 / 25⟩ : V Rat) ⟨0, -1⟩ ≤ 999 / 1000 ∧ 0 < crossProduct (⟨24 / 25, -7 / 25⟩ : V Rat) ⟨0, -1⟩ * 5
      ∧ (((0 : Int) : Rat) - ((-10 : Int) : Rat) = 10 * -(-1 : Rat)) ∧ (((0 : Int) : Rat) - ((0 : Int) : Rat) = 10 * (0 : Rat))
      ∧ doSquare (ratOps ⟨fun _ => 6 / 5, id, id, id, fun a _ => a⟩ 3) ⟨0, 0⟩ ⟨-10, 0⟩ (⟨24 / 25, -7 / 25⟩ : V Rat) ⟨0, -1⟩ false 5
          = [.raw (5 / 3) (-5), .raw (13 / 3) (-3)] := by
  decide +kernel

/-- `DoSquare` at an open-path end (`j = k`, square cap), `δ ≠ 0`: with `vec = (n.y, −n.x)` (the direction of the path
beyond its end) the two points are exactly `p + |δ| vec − δ n` and `p + |δ| vec + δ n`: the far corners of the square
cap, `|δ|` beyond the end point and `|δ|` to either side. -/
theorem square_cap_points (m : Libm Rat) (pi : Rat) (pj : Pt) (n : V Rat) (gd : Rat) (hn : IsUnit n) (hgd : gd ≠ 0) :
    ∃ q1 q2, doSquare (ratOps m pi) pj pj n n true gd = [outV q1, outV q2]
      ∧ q1 = ⟨(pj.x : Rat) + rabs gd * n.y - gd * n.x, (pj.y : Rat) - rabs gd * n.x - gd * n.y⟩
      ∧ q2 = ⟨(pj.x : Rat) + rabs gd * n.y + gd * n.x, (pj.y : Rat) - rabs gd * n.x + gd * n.y⟩
      ∧ along q1 pj ⟨n.y, -n.x⟩ = rabs gd ∧ along q2 pj ⟨n.y, -n.x⟩ = rabs gd
      ∧ along q1 pj n = -gd ∧ along q2 pj n = gd
      ∧ dist2 q1 pj = 2 * (gd * gd) ∧ dist2 q2 pj = 2 * (gd * gd) := by
  simp only [IsUnit] at hn
  have ha := rabs_mul_self gd
  have hvec : squareVec (ratOps m pi) n n true = ⟨n.y, -n.x⟩ := rfl
  -- `pt2` lies on the line `pt3 pt4`, `pt1` does not: `GetSegmentIntersectPt` returns `pt2`
  have hP : sqPt m pi ⟨n.y, -n.x⟩ pj pj n true gd = sqAt ⟨n.y, -n.x⟩ pj gd (-1) := by
    rw [← sqP2_eq]
    refine segint_end m pi _ _ _ _ _ ?_ ?_
    · simp only [side, sqP2, sqP3, sqP4, sqQ, translatePoint, if_true]; grind
    · have e : side (sqP3 pj n gd) (sqP4 ⟨n.y, -n.x⟩ pj pj n true gd) (sqP1 ⟨n.y, -n.x⟩ pj gd) = 2 * (gd * gd) := by
        simp only [side, sqP1, sqP3, sqP4, sqQ, translatePoint, if_true]; grind
      rw [e]; exact mul_ne_zero' (by decide +kernel) (mul_ne_zero' hgd hgd)
  -- so the points are `ptQ ± δ (vec.y, −vec.x) = ptQ ∓ δ n`
  have e1 : sqAt ⟨n.y, -n.x⟩ pj gd 1 = ⟨(pj.x : Rat) + rabs gd * n.y - gd * n.x, (pj.y : Rat) - rabs gd * n.x - gd * n.y⟩ := by
    simp only [sqAt, sqQ, translatePoint]; exact V.ext' (by grind) (by grind)
  have e2 : sqAt ⟨n.y, -n.x⟩ pj gd (-1) = ⟨(pj.x : Rat) + rabs gd * n.y + gd * n.x, (pj.y : Rat) - rabs gd * n.x + gd * n.y⟩ := by
    simp only [sqAt, sqQ, translatePoint]; exact V.ext' (by grind) (by grind)
  refine ⟨_, _, ?_, rfl, rfl, ?_⟩
  · unfold doSquare
    rw [hvec, doSquareWith_eq, hP, reflect_sqAt, Rat.neg_neg, e1, e2]; rfl
  · simp only [along, dist2]
    grind

example : doSquare (ratOps ⟨id, id, id, id, fun a _ => a⟩ 3) ⟨10, 0⟩ ⟨10, 0⟩ (⟨0, -1⟩ : V Rat) ⟨0, -1⟩ true 5
    = [.raw 5 5, .raw 5 (-5)] := by decide +kernel

/-- With `step_cos_² + step_sin_² = 1` every point emitted by `DoRound` - the first (`p ± δ n_k`), each rotated one,
and the final `GetPerpendic(path[j], norms[j], δ)` - is at squared distance `δ²` from `path[j]`, for ANY number of
steps (induction over the loop). -/
theorem round_points_on_circle (m : Libm Rat) (pi : Rat) (arc : Arc Rat) (pj : Pt) (nj nk : V Rat) (cap : Bool) (gd : Rat) (steps : Int)
    (hj : IsUnit nj) (hk : IsUnit nk) (hs : arc.stepCos * arc.stepCos + arc.stepSin * arc.stepSin = 1) :
    ∀ q ∈ (doRoundSteps (ratOps m pi) arc pj nj nk cap gd steps).map Out.vec, dist2 q pj = gd * gd := by
  simp only [IsUnit] at hj hk
  intro q hq
  -- the offset vector `±δ n_k` the loop starts from has squared length `δ²`
  have h0 : ∀ v0 : V Rat, v0 = (if cap then ⟨-(nk.x * gd), -(nk.y * gd)⟩ else ⟨nk.x * gd, nk.y * gd⟩) →
      v0.x * v0.x + v0.y * v0.y = gd * gd := by
    rintro v0 rfl; cases cap <;> simp only [if_true, if_false, Bool.false_eq_true] <;> grind
  simp only [doRoundSteps, List.map_cons, List.map_append, List.mem_cons, List.mem_append, List.map_nil, List.not_mem_nil,
    or_false, getPerpendic, ratOps_ofInt] at hq
  generalize (if cap then (⟨-(nk.x * gd), -(nk.y * gd)⟩ : V Rat) else ⟨nk.x * gd, nk.y * gd⟩) = v0 at hq h0
  rcases hq with (rfl | hq) | rfl
  · exact (dist2_add pj _ _).trans (h0 v0 rfl)
  · exact roundLoop_on_circle _ _ hs pj (gd * gd) _ _ (h0 v0 rfl) q hq
  · rw [Out.vec, dist2_add]; grind

/-- the same for `DoRound` itself, whatever `angle`, `steps_per_rad_` and `ceil` are -/
theorem doRound_points_on_circle (m : Libm Rat) (pi : Rat) (arc : Arc Rat) (pj : Pt) (nj nk : V Rat) (cap : Bool) (gd angle : Rat)
    (hj : IsUnit nj) (hk : IsUnit nk) (hs : arc.stepCos * arc.stepCos + arc.stepSin * arc.stepSin = 1) :
    ∀ q ∈ (doRound (ratOps m pi) arc pj nj nk cap gd angle).map Out.vec, dist2 q pj = gd * gd :=
  round_points_on_circle m pi arc pj nj nk cap gd _ hj hk hs

/-- a rational rotation: (step_cos, step_sin) = (4/5, 3/5) -/
example : ((4 / 5 : Rat)) * (4 / 5) + (3 / 5 : Rat) * (3 / 5) = 1 := by decide +kernel

/-- `DoRound` emits `max(steps − 1, 0) + 2` points: it starts on the offset line of edge `k` (at `p + δ n_k`; at
`p − δ n` for a cap) and ends on the offset line of edge `j` at `p + δ n_j`. -/
theorem round_ends (m : Libm Rat) (pi : Rat) (arc : Arc Rat) (pj : Pt) (nj nk : V Rat) (cap : Bool) (gd : Rat) (steps : Int)
    (hj : IsUnit nj) (hk : IsUnit nk) :
    ∃ q1 mid q2, doRoundSteps (ratOps m pi) arc pj nj nk cap gd steps = outV q1 :: mid ++ [outV q2]
      ∧ mid.length = (steps - 1).toNat
      ∧ along q1 pj nk = (if cap then -gd else gd) ∧ along q2 pj nj = gd := by
  simp only [IsUnit] at hj hk
  have hend : along ⟨(pj.x : Rat) + nj.x * gd, (pj.y : Rat) + nj.y * gd⟩ pj nj = gd := by rw [along_add]; grind
  cases cap
  · refine ⟨⟨(pj.x : Rat) + nk.x * gd, (pj.y : Rat) + nk.y * gd⟩, _, ⟨(pj.x : Rat) + nj.x * gd, (pj.y : Rat) + nj.y * gd⟩,
      rfl, roundLoop_length _ _ _ _ _ _, ?_, hend⟩
    rw [along_add]; grind
  · refine ⟨⟨(pj.x : Rat) + -(nk.x * gd), (pj.y : Rat) + -(nk.y * gd)⟩, _, ⟨(pj.x : Rat) + nj.x * gd, (pj.y : Rat) + nj.y * gd⟩,
      rfl, roundLoop_length _ _ _ _ _ _, ?_, hend⟩
    rw [along_add]; grind

/-- consecutive offset vectors of the arc enclose the step angle: `v · v' = |v|² step_cos`, `v × v' = |v|² step_sin`;
by `chord_bounds` the chord between two consecutive arc points stays within `δ² (1 + step_cos) / 2 … δ²` of `path[j]`. -/
theorem round_step_angle (s c : Rat) (v : V Rat) :
    v.x * (rotStep s c v).x + v.y * (rotStep s c v).y = (v.x * v.x + v.y * v.y) * c
      ∧ v.x * (rotStep s c v).y - v.y * (rotStep s c v).x = (v.x * v.x + v.y * v.y) * s := by
  simp only [rotStep]; constructor <;> grind

/-- the arc set-up keeps `(step_cos_, step_sin_)` on the unit circle whenever libm's `sin` and `cos` do (the only
non-libm operation applied to them is the negation of `step_sin_` for negative delta) -/
theorem arcSetup_unit (m : Libm Rat) (pi : Rat) (arcTol gd : Rat)
    (h : ∀ x, m.cos x * m.cos x + m.sin x * m.sin x = 1) :
    (arcSetup (ratOps m pi) arcTol gd).stepCos * (arcSetup (ratOps m pi) arcTol gd).stepCos
      + (arcSetup (ratOps m pi) arcTol gd).stepSin * (arcSetup (ratOps m pi) arcTol gd).stepSin = 1 := by
  unfold arcSetup
  generalize stepsPer360 (ratOps m pi) arcTol gd = n
  have := h (2 * (ratOps m pi).pi / n)
  by_cases hg : gd < 0
  · simp only [arcOfSteps, ratOps_lt, ratOps_sin, ratOps_cos, hg, decide_true, if_true]; grind
  · simp only [arcOfSteps, ratOps_lt, ratOps_sin, ratOps_cos, hg, decide_false, Bool.false_eq_true, if_false]; grind

/-- libm functions with `cos² + sin² = 1` everywhere exist in `Rat` (constants 4/5, 3/5) -/
example : ∀ x : Rat, (fun _ => (4 / 5 : Rat)) x * (fun _ => (4 / 5 : Rat)) x + (fun _ => (3 / 5 : Rat)) x * (fun _ => (3 / 5 : Rat)) x = 1 := by
  intro _; show (4 / 5 : Rat) * (4 / 5) + (3 / 5 : Rat) * (3 / 5) = 1; decide +kernel

/-- what the miter branch of `OffsetPoint` knows about `cos_a` -/
theorem joinOf_miter_cond (m : Libm Rat) (pi : Rat) (jt : JoinType) (tl gd s c : Rat)
    (h : joinOf (ratOps m pi) jt tl gd s c = .miter) : 999 / 1000 < c ∨ tl - 1 < c := by
  have e := joinOf_eq_branchOf m pi jt tl gd s c
  rw [h] at e
  exact Props.C06.branchOf_miter_cond jt tl gd s c e.symm

example : joinOf (ratOps ⟨id, id, id, id, fun a _ => a⟩ 3) .miter (1 / 2) 10 (1 / 2) (1 / 2) = .miter := by decide +kernel

theorem tempLimOf_pos (m : Libm Rat) (pi ml : Rat) : 0 < tempLimOf (ratOps m pi) ml := by
  simp only [tempLimOf, ratOps_le, decide_eq_true_eq]
  split
  · decide +kernel
  · rename_i h
    have hml : 0 < ml := Std.lt_trans (by decide +kernel : (0 : Rat) < 1) (Rat.not_le.mp h)
    rw [Rat.lt_div_iff (Rat.mul_pos hml hml), Rat.zero_mul]; decide +kernel

/-- In the miter branch (`cos_a > 0.999`, or `cos_a > temp_lim_ − 1`) the miter point is at distance between `|δ|` and
`sqrt B · |δ|` from `path[j]`, for every `B ≥ 2, ml²`. -/
theorem miter_bounded (m : Libm Rat) (pi : Rat) (pj : Pt) (nj nk : V Rat) (gd ml B : Rat) (hj : IsUnit nj) (hk : IsUnit nk)
    (hB : 2 ≤ B) (hml : ml * ml ≤ B)
    (hcond : 999 / 1000 < dotProduct nj nk ∨ tempLimOf (ratOps m pi) ml - 1 < dotProduct nj nk) :
    ∃ P, doMiter (ratOps m pi) pj nj nk (dotProduct nj nk) gd = [outV P]
      ∧ gd * gd ≤ dist2 P pj ∧ dist2 P pj ≤ B * (gd * gd) := by
  have hc1 := (cos_le_one nj nk hj hk).1.2
  have hcpos : 0 < 1 + dotProduct nj nk := by
    rcases hcond with h | h
    · grind
    · have := tempLimOf_pos m pi ml; grind
  obtain ⟨P, he, hlen⟩ := miter_length m pi pj nj nk gd hj hk (by grind)
  refine ⟨P, he, ?_, ?_⟩
  · -- `2 |P − p|² ≥ |P − p|² (1 + cos_a) = 2 δ²`
    have := Rat.mul_nonneg (dist2_nonneg P pj) ((Rat.le_iff_sub_nonneg _ _).mp hc1)
    grind
  · -- `2 ≤ B (1 + cos_a)`, hence `|P − p|² (1 + cos_a) = 2 δ² ≤ B δ² (1 + cos_a)`
    have key : 2 ≤ B * (1 + dotProduct nj nk) := by
      rcases hcond with h | h
      · have := Rat.mul_nonneg ((Rat.le_iff_sub_nonneg _ _).mp hB) (Rat.le_of_lt hcpos)
        grind
      · simp only [tempLimOf, ratOps_le, decide_eq_true_eq] at h
        split at h
        · grind
        · rename_i hle
          have hml0 : 0 < ml := Std.lt_trans (by decide +kernel : (0 : Rat) < 1) (Rat.not_le.mp hle)
          have h2 := (Props.C06.miter_iff_within_limit (dotProduct nj nk) ml hcpos hml0).mp h
          rw [Rat.div_lt_iff hcpos] at h2
          have := Rat.mul_nonneg ((Rat.le_iff_sub_nonneg _ _).mp hml) (Rat.le_of_lt hcpos)
          grind
    apply Rat.le_of_mul_le_mul_right _ hcpos
    rw [hlen]
    have := Rat.mul_le_mul_of_nonneg_right key (sq_nonneg gd)
    grind

/-- Every raw vertex that `OffsetPoint` emits at a vertex with unit normals is either `path[j]` itself (the middle point
of a concave join, or an insignificant delta) or lies at distance between `|δ|` and `sqrt B · |δ|` from `path[j]`, where
`B ≥ 2` and `B ≥ ml²`: `max(sqrt 2, ml) · |δ|` bounds every join.  (`IsUnit (squareVec …)`: see `avgUnit_unit_parallel`,
`square_vec_not_degenerate`.) -/
theorem offsetPoint_vertices_bounded (m : Libm Rat) (pi : Rat) (jt : JoinType) (ml gd B : Rat) (arc : Arc Rat)
    (pj pk : Pt) (nj nk : V Rat) (hj : IsUnit nj) (hk : IsUnit nk)
    (harc : arc.stepCos * arc.stepCos + arc.stepSin * arc.stepSin = 1)
    (hvec : IsUnit (squareVec (ratOps m pi) nj nk false))
    (hB : 2 ≤ B) (hml : ml * ml ≤ B) :
    ∀ q ∈ (offsetPoint (ratOps m pi) jt (tempLimOf (ratOps m pi) ml) gd arc pj pk nj nk).map Out.vec,
      q = ⟨(pj.x : Rat), (pj.y : Rat)⟩ ∨ (gd * gd ≤ dist2 q pj ∧ dist2 q pj ≤ B * (gd * gd)) := by
  have hg := sq_nonneg gd
  have h2g : 2 * (gd * gd) ≤ B * (gd * gd) := Rat.mul_le_mul_of_nonneg_right hB hg
  have hBg : gd * gd ≤ B * (gd * gd) := by grind
  have onCircle : ∀ q : V Rat, dist2 q pj = gd * gd →
      q = ⟨(pj.x : Rat), (pj.y : Rat)⟩ ∨ (gd * gd ≤ dist2 q pj ∧ dist2 q pj ≤ B * (gd * gd)) := by
    intro q h; rw [h]; exact Or.inr ⟨Rat.le_refl, hBg⟩
  unfold offsetPoint
  by_cases hp : pj = pk
  · simp [hp]
  · simp only [hp, if_false, clamp_is_identity m pi nj nk hj hk]
    -- every branch emits explicit points; `pairs` turns membership in the mapped list into a conjunction
    have pairs := @List.forall_mem_cons (V Rat)
    cases hjn : joinOf (ratOps m pi) jt (tempLimOf (ratOps m pi) ml) gd (crossProduct nj nk) (dotProduct nj nk) with
    | copy => simp [Out.vec]
    | concave =>
      obtain ⟨q1, q2, he, d1, _, d2, _⟩ := concave_points m pi pj nj nk gd hj hk
      simp only [he, List.map_cons, List.map_nil, pairs, List.not_mem_nil, false_imp_iff, implies_true, and_true, Out.vec, outV,
        true_or, true_and]
      exact ⟨onCircle _ d1, onCircle _ d2⟩
    | bevel =>
      obtain ⟨q1, q2, he, d1, d2, _, _⟩ := bevel_points m pi pj nj nk gd hj hk
      simp only [he, List.map_cons, List.map_nil, pairs, List.not_mem_nil, false_imp_iff, implies_true, and_true, Out.vec, outV]
      exact ⟨onCircle _ d1, onCircle _ d2⟩
    | round => exact fun q hq => onCircle _ (doRound_points_on_circle m pi arc pj nj nk false gd _ hj hk harc q hq)
    | square =>
      obtain ⟨q1, q2, he, _, _, _, _, a1, a2, a3, a4⟩ := square_points m pi _ pj pk nk false gd hvec
      have he' : doSquare (ratOps m pi) pj pk nj nk false gd = [outV q1, outV q2] := he
      simp only [he', List.map_cons, List.map_nil, pairs, List.not_mem_nil, false_imp_iff, implies_true, and_true, Out.vec, outV]
      exact ⟨Or.inr ⟨a1, Rat.le_trans a2 h2g⟩, Or.inr ⟨a3, Rat.le_trans a4 h2g⟩⟩
    | miter =>
      obtain ⟨P, he, b1, b2⟩ := miter_bounded m pi pj nj nk gd ml B hj hk hB hml (joinOf_miter_cond m pi jt _ gd _ _ hjn)
      simp only [he, List.map_cons, List.map_nil, pairs, List.not_mem_nil, false_imp_iff, implies_true, and_true, Out.vec, outV]
      exact Or.inr ⟨b1, b2⟩

/-- non-vacuity: unit normals (24/25, −7/25), (0, −1), a rational rotation, a unit `vec` (sqrt of 36/25 is 6/5) -/
example : IsUnit (squareVec (ratOps ⟨fun _ => 6 / 5, id, id, id, fun a _ => a⟩ 3) (⟨24 / 25, -7 / 25⟩ : V Rat) ⟨0, -1⟩ false)
    ∧ (4 / 5 : Rat) * (4 / 5) + (3 / 5 : Rat) * (3 / 5) = 1 ∧ (2 : Rat) ≤ 4 ∧ (2 : Rat) * 2 ≤ 4 := by decide +kernel

/-- the abstract geometry `Geo` of the frame model (Model/OffsetFrame.lean) instantiated by the join model -/
def geoRat (m : Libm Rat) (pi : Rat) : OffsetFrame.Geo (V Rat) where
  unitNormal := getUnitNormal (ratOps m pi)
  neg := fun n => ⟨-n.x, -n.y⟩
  sinA := fun nj nk => (sinCos (ratOps m pi) nj nk).1
  cosA := fun nj nk => (sinCos (ratOps m pi) nj nk).2

/-- the vertices a frame step stands for (per-vertex steps only; `circle`, `box`, `endPath` are not joins) -/
def interp (m : Libm Rat) (pi : Rat) (arc : Arc Rat) : OffsetFrame.Emit (V Rat) → List (Out Rat)
  | .bevel pj nj nk cap gd => doBevel (ratOps m pi) pj nj nk cap gd
  | .square pj pk nj nk cap gd => doSquare (ratOps m pi) pj pk nj nk cap gd
  | .miter pj nj nk cosA gd => doMiter (ratOps m pi) pj nj nk cosA gd
  | .round pj nj nk cap gd =>
    doRound (ratOps m pi) arc pj nj nk cap gd
      (if cap then pi else m.atan2 (sinCos (ratOps m pi) nj nk).1 (sinCos (ratOps m pi) nj nk).2)
  | .concave pj nj nk gd => concaveJoin (ratOps m pi) pj nj nk gd
  | .copy pj => [.pt pj]
  | _ => []

/-- The frame model's `OffsetPoint` (which primitive is called with which arguments; theorems of Props/C06.lean and
Props/C07.lean) followed by the join model's primitives IS the polymorphic `OffsetPoint` of Model/OffsetJoins.lean at
`Rat`: the two hand models agree, so frame theorems and join theorems compose. -/
theorem offsetPoint_frame (m : Libm Rat) (pi : Rat) (arc : Arc Rat) (jt : JoinType) (tl gd : Rat)
    (path : Path) (norms : List (V Rat)) (j k : Nat) (pj pk : Pt) (nj nk : V Rat)
    (hpj : path[j]? = some pj) (hpk : path[k]? = some pk) (hnj : norms[j]? = some nj) (hnk : norms[k]? = some nk) :
    ∃ es, OffsetFrame.offsetPoint (geoRat m pi) jt tl gd path norms j k = .ok es
      ∧ es.flatMap (interp m pi arc) = offsetPoint (ratOps m pi) jt tl gd arc pj pk nj nk := by
  unfold OffsetFrame.offsetPoint OffsetFrame.rd offsetPoint
  simp only [hpj, hpk, hnj, hnk]
  by_cases hp : pj = pk
  · simp [hp]
  · simp only [hp, if_false]
    have h := joinOf_eq_branchOf m pi jt tl gd (sinCos (ratOps m pi) nj nk).1 (sinCos (ratOps m pi) nj nk).2
    simp only [geoRat]
    rw [← h]
    cases joinOf (ratOps m pi) jt tl gd (sinCos (ratOps m pi) nj nk).1 (sinCos (ratOps m pi) nj nk).2 <;>
      simp [toBranch, interp, ratOps]

example : ([⟨0, 0⟩, ⟨10, 0⟩] : Path)[1]? = some ⟨10, 0⟩ ∧ ([⟨0, -1⟩, ⟨1, 0⟩] : List (V Rat))[0]? = some ⟨0, -1⟩ := by decide +kernel

end Clipper.Props.C06Joins

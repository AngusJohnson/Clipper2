/-
Bridge theorems (tie T, DESIGN.md §2.3), clipper.engine.cpp: what `trimHorz_loop_bridge` (`Props/Bridges/CleanUp.lean`) leaves of
`TrimHorz` against `Model/TrimHorz.lean`: the `IsMaxima` break test and the tail.
`generated = hand` for ALL arguments; the generated side is re-created from /repo's current sources on every `./check` run.
Core Lean only.
-/
import ClipperVerif.Lemmas.Bridges
import ClipperVerif.Generated.Engine
import ClipperVerif.Model.TrimHorz
import ClipperVerif.Model.AddPathsRings
import ClipperVerif.Props.Bridges.CleanUp
import ClipperVerif.Props.Bridges.Flags
namespace Clipper.Props.Bridges
open Clipper Clipper.Model Clipper.Lemmas.Bridges

open Clipper.Model.TrimHorz in
/-- C++ `TrimHorz`: `if (IsMaxima(horzEdge)) break;` after `horzEdge.vertex_top = NextVertex(horzEdge)` tests the `LocalMax` flag of the
vertex just reached — the field `V.isMax` of hand `Model.TrimHorz.loop` (`fl` = that vertex's flags as `Model.AddPathsRings.VFlags`);
with `trimHorz_loop_bridge` every test of the loop is the generated one -/
theorem trimHorz_isMax_bridge (pc : Bool) (botX topX topY : Int) (adv : Nat) (v : V) (rest : List V)
    (fl : Clipper.Model.AddPathsRings.VFlags) (hfl : fl.localMax = v.isMax) :
    loop pc botX topX topY adv (v :: rest) =
      if !Gen.TrimHorz_cond (horzEdge_top_y := topY) (pt_y := v.y) then ⟨topX, topY, adv, false⟩
      else if Gen.TrimHorz_break (preserveCollinear := pc) (horzEdge_bot_x := botX) (horzEdge_top_x := topX) (pt_x := v.x)
        then ⟨topX, topY, adv, false⟩
      else if Gen.TrimHorz_isMax (horzEdge_vertex_top_flags := UInt64.ofNat fl.bits) then ⟨v.x, v.y, adv + 1, false⟩
      else loop pc botX v.x v.y (adv + 1) rest := by
  -- `TrimHorz_isMax` is `IsMaxima`, which is `IsMaximaV`
  have hm : Gen.TrimHorz_isMax (horzEdge_vertex_top_flags := UInt64.ofNat fl.bits) = v.isMax :=
    (isMaximaV_bridge fl).trans hfl
  rw [hm]
  exact trimHorz_loop_bridge pc botX topX topY adv v rest

/-- non-vacuity of `hfl`: a vertex flagged `LocalMax` -/
example : ({ localMax := true } : Clipper.Model.AddPathsRings.VFlags).localMax = (⟨3, 4, true⟩ : Clipper.Model.TrimHorz.V).isMax := rfl

open Clipper.Model.TrimHorz in
/-- C++ `TrimHorz`: `if (wasTrimmed) SetDx(horzEdge);` — `wasTrimmed` is `0 < adv` of hand `Model.TrimHorz.Out` -/
theorem trimHorz_tail_bridge (o : Out) :
    Gen.TrimHorz_tail (wasTrimmed := decide (0 < o.adv)) = (if 0 < o.adv then [("SetDx(horzEdge)", [])] else []) := by
  by_cases h : 0 < o.adv <;> simp [Gen.TrimHorz_tail, h]

end Clipper.Props.Bridges

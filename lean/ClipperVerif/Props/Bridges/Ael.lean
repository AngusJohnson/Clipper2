/-
Bridge theorems (tie T, DESIGN.md §2.3), clipper.engine.cpp (winding counts, `IntersectEdges`) against `Model/Ael.lean` and the decision of `Model/AelSides.lean`.
For every definition that `tools/cpp2lean.py` regenerates from the C++ source and that a hand-written model re-implements:
`generated = hand` for ALL arguments.  The generated side is re-created from /repo's current sources on every `./check`
run, so a change of the C++ function changes the left-hand side and the proof below stops compiling (the theorem named in
the error is the obligation that broke).

Conventions of the generated side (see the head of `tools/cpp2lean.py`): a record parameter is passed field by field
(`e_wind_cnt`), a pointer used as a truth value is the Boolean `…_nonnull`, pointers compared with each other are `Nat`
identities (`e_addr` = which record `e` is), a skeleton returns the scalar members it assigns followed by the log `acts` of
the untranslated calls / pointer assignments it performs, a value read after an untranslated call that may have assigned
it is a separate argument `…_after<k>`.
Core Lean only.
-/
import ClipperVerif.Lemmas.BridgesEngine
namespace Clipper.Props.Bridges
open Clipper Clipper.Model Clipper.Lemmas.Bridges

/-- C++ `SetWindCountForClosedPathEdge`, the `while (e2 && (GetPolyType(*e2) != pt || IsOpen(*e2)))` condition, is the test of
hand `Model.findPrev`: the search stops at a null pointer … -/
theorem findPrev_nil_bridge (t : PathType) (o : Bool) (p : PathType) :
    Gen.SetWindClosed_findCond (e2_local_min_is_open := o) (e2_local_min_polytype := p) (e2_nonnull := false) (pt := t) = false ∧
      findPrev t [] = (none, []) := by
  simp [Gen.SetWindClosed_findCond, findPrev]

/-- … and otherwise continues exactly when `Model.findPrev` does -/
theorem findPrev_cons_bridge (t : PathType) (x : Edge) (xs : List Edge) :
    findPrev t (x :: xs) =
      if Gen.SetWindClosed_findCond (e2_local_min_is_open := x.isOpen) (e2_local_min_polytype := x.pt) (e2_nonnull := true) (pt := t)
      then ((findPrev t xs).1, (findPrev t xs).2 ++ [x]) else (some x, []) := by
  cases hx : x.isOpen <;> cases hp : x.pt <;> cases t <;> simp [findPrev, Gen.SetWindClosed_findCond, Gen.IsOpen, hx, hp]

/-- C++ `SetWindCountForClosedPathEdge`, one iteration of either `while (e2 != &e)` loop, is one step of hand `Model.wc2Loop` -/
theorem wc2Loop_cons_bridge (fr : FillRule) (t : PathType) (x : Edge) (xs : List Edge) (w : Int) :
    wc2Loop fr t (x :: xs) w = wc2Loop fr t xs
      (if fr = .evenOdd then
        Gen.SetWindClosed_wc2StepEvenOdd (e2_local_min_is_open := x.isOpen) (e2_local_min_polytype := x.pt) (e_wind_cnt2 := w) (pt := t)
       else
        Gen.SetWindClosed_wc2Step (e2_local_min_is_open := x.isOpen) (e2_local_min_polytype := x.pt) (e2_wind_dx := x.dx)
          (e_wind_cnt2 := w) (pt := t)) := by
  simp only [wc2Loop, Gen.SetWindClosed_wc2StepEvenOdd, Gen.SetWindClosed_wc2Step, Gen.SetWindClosed_wc2StepEvenOdd.m1,
    Gen.SetWindClosed_wc2Step.m1, Gen.IsOpen, Bool.and_eq_true, decide_eq_true_eq, Bool.not_eq_true']
  -- the hand model tests the edge first and the fill rule second, the C++ the other way round
  split <;> simp only [ite_self]

/-- C++ `SetWindCountForClosedPathEdge`, the `if (!e2) … else if (fillrule_ == EvenOdd) … else …` chain between the loops,
against hand `Model.wcFrom` (NonZero / Positive / Negative, a same-type closed edge to the left): by the three tests
`wind_cnt * wind_dx < 0`, `abs(wind_cnt) > 1`, `e2.wind_dx * e.wind_dx < 0` -/
theorem wcFrom_bridge (fr : FillRule) (hfr : fr ≠ .evenOdd) (isOpen : Bool) (e2wc e2wc2 e2dx edx ewc2 : Int) :
    Gen.SetWindClosed_windCnt (e2_nonnull := true) (e2_wind_cnt := e2wc) (e2_wind_cnt2 := e2wc2) (e2_wind_dx := e2dx)
      (e_local_min_is_open := isOpen) (e_wind_cnt2 := ewc2) (e_wind_dx := edx) (fillrule_ := fr) =
      (wcFrom isOpen e2wc e2dx edx, e2wc2) := by
  simp only [Gen.SetWindClosed_windCnt, Gen.SetWindClosed_windCnt.m1, Gen.SetWindClosed_windCnt.m2,
    Gen.SetWindClosed_windCnt.m3, wcFrom, Gen.IsOpen, hfr, decide_eq_true_eq, decide_false, Bool.not_true,
    Bool.false_eq_true, if_false]
  rfl

/-- the same chain inside hand `Model.setWindClosed` -/
theorem setWindClosed_bridge (fr : FillRule) (left : List Edge) (e : Edge) :
    setWindClosed fr left e =
      let f := findPrev e.pt left.reverse
      let r := match f.1 with
        | none => Gen.SetWindClosed_windCnt (e2_nonnull := false) (e2_wind_cnt := 0) (e2_wind_cnt2 := 0) (e2_wind_dx := 0)
            (e_local_min_is_open := e.isOpen) (e_wind_cnt2 := e.wc2) (e_wind_dx := e.dx) (fillrule_ := fr)
        | some e2 => Gen.SetWindClosed_windCnt (e2_nonnull := true) (e2_wind_cnt := e2.wc) (e2_wind_cnt2 := e2.wc2) (e2_wind_dx := e2.dx)
            (e_local_min_is_open := e.isOpen) (e_wind_cnt2 := e.wc2) (e_wind_dx := e.dx) (fillrule_ := fr)
      { e with wc := r.1, wc2 := wc2Loop fr e.pt f.2 r.2 } := by
  unfold setWindClosed
  rcases h : findPrev e.pt left.reverse with ⟨_ | e2, between⟩
  · simp [Gen.SetWindClosed_windCnt]
  · by_cases hfr : fr = .evenOdd
    · simp [Gen.SetWindClosed_windCnt, hfr]
    · simp only [if_neg hfr, wcFrom_bridge fr hfr]

/-- C++ `SetWindCountForOpenPathEdge`, one iteration of the EvenOdd loop, is one step of hand `Model.openCounts` -/
theorem openCounts_cons_bridge (x : Edge) (xs : List Edge) (c : Nat × Nat) :
    openCounts (x :: xs) c = openCounts xs
      ((Gen.SetWindOpen_stepEvenOdd (cnt1 := c.1) (cnt2 := c.2) (e2_local_min_is_open := x.isOpen) (e2_local_min_polytype := x.pt)).1.toNat,
       (Gen.SetWindOpen_stepEvenOdd (cnt1 := c.1) (cnt2 := c.2) (e2_local_min_is_open := x.isOpen) (e2_local_min_polytype := x.pt)).2.toNat) := by
  cases hx : x.isOpen <;> cases hp : x.pt <;>
    simp [openCounts, Gen.SetWindOpen_stepEvenOdd, Gen.SetWindOpen_stepEvenOdd.m1, Gen.SetWindOpen_stepEvenOdd.m2, Gen.IsOpen, hx, hp] <;> rfl

/-- C++ `SetWindCountForOpenPathEdge`, one iteration of the other loop, is one step of hand `Model.openSums` -/
theorem openSums_cons_bridge (x : Edge) (xs : List Edge) (w : Int × Int) :
    openSums (x :: xs) w = openSums xs
      (Gen.SetWindOpen_step (e2_local_min_is_open := x.isOpen) (e2_local_min_polytype := x.pt) (e2_wind_dx := x.dx)
        (e_wind_cnt := w.1) (e_wind_cnt2 := w.2)) := by
  cases hx : x.isOpen <;> cases hp : x.pt <;>
    simp [openSums, Gen.SetWindOpen_step, Gen.SetWindOpen_step.m1, Gen.SetWindOpen_step.m2, Gen.IsOpen, hx, hp]

/-- C++ `SetWindCountForOpenPathEdge` around its loops (whose results are the arguments `…_after<k>`) = hand `Model.setWindOpen` -/
theorem setWindOpen_bridge (fr : FillRule) (left : List Edge) (e : Edge) :
    setWindOpen fr left e =
      let c := openCounts left (0, 0)
      let w := openSums left (e.wc, e.wc2)
      let r := Gen.SetWindOpen (cnt1_after1 := c.1) (cnt2_after1 := c.2) (e_wind_cnt_after2 := w.1) (e_wind_cnt2_after2 := w.2)
        (fillrule_ := fr)
      { e with wc := r.1, wc2 := r.2 } := by
  cases fr <;> simp [setWindOpen, Gen.SetWindOpen, isOdd_nat]

/-- **C++ `IntersectEdges`, closed branch** ("MANAGING CLOSED PATHS FROM HERE ON") = hand `Model.updateWinds` for the four winding
counts and hand `Model.decideActB` (the decision of `Model.decideAct` / `Model.intersectCore`; `Model.decideHotB` is its hot-flag
shadow) for which of `AddLocalMaxPoly`, `AddLocalMinPoly`, `AddOutPt`+`SwapOutrecs` run, preceded by the two optional `Split`s.
`hot1`, `hot2` are `IsHotEdge(e1)`, `IsHotEdge(e2)` *after* the `Split`s; `a1 = fe1` is `IsFront(e1)`, `or1 = or2` is
`e1.outrec == e2.outrec`.  `fillpos` is the member `FillRule fillpos = FillRule::Positive` that no function assigns. -/
theorem intersectEdges_closed_bridge (ct : ClipType) (fr : FillRule) (e1 e2 : Edge) (j1 j2' j2 : JoinWith)
    (hot1 hot2 : Bool) (a1 fe1 or1 or2 a2 : Nat) (hop : Bool)
    (u1 u2 : UInt64) (x1 y1 x2 y2 px py : Int) (n1 n2 : Nat) (b1 b2 b3 b4 : Bool)
    (h : hop = false ∨ (e1.isOpen = false ∧ e2.isOpen = false)) :
    Gen.IntersectEdges (cliptype_ := ct) (fillrule_ := fr) (fillpos := .positive) (has_open_paths_ := hop)
      (e1_addr := a1) (e1_join_with := j1) (e1_local_min_is_open := e1.isOpen) (e1_local_min_polytype := e1.pt)
      (e1_local_min_vertex_flags := u1) (e1_local_min_vertex_pt_x := x1) (e1_local_min_vertex_pt_y := y1)
      (e1_outrec_after1_front_edge_after1 := n1) (e1_outrec_after1_nonnull := b1)
      (e1_outrec_after9 := or1) (e1_outrec_after9_front_edge_after9 := fe1) (e1_outrec_after9_nonnull := hot1)
      (e1_wind_cnt := e1.wc) (e1_wind_cnt2 := e1.wc2) (e1_wind_dx := e1.dx)
      (e2_addr := a2) (e2_join_with := j2) (e2_join_with_after8 := j2') (e2_local_min_is_open := e2.isOpen) (e2_local_min_polytype := e2.pt)
      (e2_local_min_vertex_flags := u2) (e2_local_min_vertex_pt_x := x2) (e2_local_min_vertex_pt_y := y2)
      (e2_outrec_after1_front_edge_after1 := n2) (e2_outrec_after1_nonnull := b2)
      (e2_outrec_after9 := or2) (e2_outrec_after9_nonnull := hot2)
      (e2_wind_cnt := e2.wc) (e2_wind_cnt2 := e2.wc2) (e2_wind_dx := e2.dx)
      (e3_nonnull := b3) (e3_outrec_after1_nonnull := b4) (pt_x := px) (pt_y := py) =
    let w := updateWinds fr e1 e2
    (w.1.wc, w.1.wc2, w.2.wc, w.2.wc2,
      splitLog j1 "Split(e1,pt)" ++ splitLog j2' "Split(e2,pt)" ++
      actLog hot1 hot2 (decideActB hot1 hot2 (in01 (oldWc fr w.1.wc)) (in01 (oldWc fr w.2.wc))
        (oldWc fr w.1.wc == 1) (oldWc fr w.2.wc == 1) (e1.pt != e2.pt) (ct != .xor)
        (goSame ct e1.pt (oldWc fr w.1.wc2) (oldWc fr w.2.wc2)) (decide (a1 = fe1)) (decide (or1 = or2)))) := by
  have hb : (hop && (e1.isOpen || e2.isOpen)) = false := by
    rcases h with h | ⟨h1, h2⟩ <;> simp [*]
  have hm := ie_m14_eq fr e1 e2 default
  generalize hw : updateWinds fr e1 e2 = w at hm ⊢
  unfold Gen.IntersectEdges
  simp only [Gen.IsOpen, hb, Bool.false_eq_true, if_false, ie_m5_eq, ie_m9_eq, hm, ie_m16_eq, Gen.IsHotEdge, in01_or]
  -- by the two hot flags; in each case both sides are the same tree of the remaining tests
  cases hot1 <;> cases hot2 <;>
    simp only [Gen.IntersectEdges.m18, Gen.IntersectEdges.m17, Gen.IntersectEdges.m28, Gen.IntersectEdges.m27,
      Gen.IntersectEdges.m26, Gen.IntersectEdges.m25, ie_m24_eq, ie_m20_eq, Gen.IsHotEdge, Gen.IsFront, Gen.IsSamePolyType,
      decide_ne_bne, in01_bne, decideActB,
      Bool.not_true, Bool.not_false, Bool.false_and, Bool.true_and, Bool.and_self, Bool.or_self, Bool.false_or, Bool.or_false,
      Bool.and_false, Bool.false_eq_true, if_false, if_true]
  -- the encoder goes to the leaves before `actLog` is opened
  all_goals simp only [actLog_ite, append_ite, mk_ite]
  -- what is left differs in how the tests and the lists at the leaves are written
  all_goals simp only [actLog, lm, mk_ite, if_true, Bool.false_eq_true, if_false,
    List.append_assoc, List.cons_append, List.nil_append, List.append_nil, Bool.and_eq_true, ite_and_nest,
    beq_iff_eq, decide_eq_true_eq, bne_iff_ne, ne_eq, Bool.not_eq_true', decide_eq_false_iff_not]

/-- **C++ `IntersectEdges`, open branch, `e1` open and `e2` closed** = hand `Model.intersectOpen` (with `Model.openSkipCt`,
`Model.openSkipFr`): the wind counts are left alone; after the optional `Split(e2)` the function returns without touching the
open edge exactly when `openSkip` (the three tests of `intersectOpen`) holds, and otherwise logs `toggleLog1`.
`eo.hot` / `ec.hot` are `IsHotEdge` after the `Split`. -/
theorem intersectEdges_open1_bridge (ct : ClipType) (fr : FillRule) (eo ec : Edge) (j1 j2' j2 : JoinWith)
    (hot1 hot2 : Bool) (a1 fe1 or1 or2 a2 : Nat)
    (u1 u2 : UInt64) (x1 y1 x2 y2 px py : Int) (n1 n2 : Nat) (b3 b4 : Bool) (fp : FillRule)
    (ho : eo.isOpen = true) (hc : ec.isOpen = false) :
    Gen.IntersectEdges (cliptype_ := ct) (fillrule_ := fr) (fillpos := fp) (has_open_paths_ := true)
      (e1_addr := a1) (e1_join_with := j1) (e1_local_min_is_open := eo.isOpen) (e1_local_min_polytype := eo.pt)
      (e1_local_min_vertex_flags := u1) (e1_local_min_vertex_pt_x := x1) (e1_local_min_vertex_pt_y := y1)
      (e1_outrec_after1_front_edge_after1 := n1) (e1_outrec_after1_nonnull := eo.hot)
      (e1_outrec_after9 := or1) (e1_outrec_after9_front_edge_after9 := fe1) (e1_outrec_after9_nonnull := hot1)
      (e1_wind_cnt := eo.wc) (e1_wind_cnt2 := eo.wc2) (e1_wind_dx := eo.dx)
      (e2_addr := a2) (e2_join_with := j2) (e2_join_with_after8 := j2') (e2_local_min_is_open := ec.isOpen) (e2_local_min_polytype := ec.pt)
      (e2_local_min_vertex_flags := u2) (e2_local_min_vertex_pt_x := x2) (e2_local_min_vertex_pt_y := y2)
      (e2_outrec_after1_front_edge_after1 := n2) (e2_outrec_after1_nonnull := ec.hot)
      (e2_outrec_after9 := or2) (e2_outrec_after9_nonnull := hot2)
      (e2_wind_cnt := ec.wc) (e2_wind_cnt2 := ec.wc2) (e2_wind_dx := ec.dx)
      (e3_nonnull := b3) (e3_outrec_after1_nonnull := b4) (pt_x := px) (pt_y := py) =
    (eo.wc, eo.wc2, ec.wc, ec.wc2,
      splitLog j2 "Split(e2,pt)" ++
        if openSkip ct fr ec then []
        else toggleLog1 eo.hot (decide (a1 = n1)) ((decide (px = x1) && decide (py = y1)) && !Gen.IsOpenEndV u1) (b3 && b4) eo.dx) := by
  rcases eo with ⟨po, oo, d1, w1, v1, h1⟩
  rcases ec with ⟨pc, oc, d2, w2, v2, h2⟩
  simp only at ho hc
  subst ho hc
  unfold Gen.IntersectEdges
  simp only [Gen.IsOpen, ie_m1_eq, ie_m2_eq, ie_m3_eq, Gen.IsHotEdge, Gen.IsFront, Gen.IntersectEdges.m4, gen_iabs, openSkip,
    Bool.or_false, Bool.and_true, Bool.and_false, if_true, Bool.false_eq_true, if_false]
  -- the three early returns, then the toggle by the open edge's hot flag and the tests each continuation makes
  by_cases hA : iabs w2 ≠ 1
  · simp [hA]
  by_cases hB : openSkipCt ct pc h2 = true
  · simp [hA, hB]
  by_cases hC : openSkipFr fr w2 = true
  · simp [hA, hB, hC]
  simp only [Decidable.not_not.mp hA, hB, hC, ne_eq, not_true_eq_false, decide_false, Bool.false_eq_true, if_false, toggleLog1]
  generalize ((decide (px = x1) && decide (py = y1)) && !Gen.IsOpenEndV u1) = loc
  generalize (b3 && b4) = e3h
  cases h1
  · cases loc <;> cases e3h <;> by_cases hd : d1 > 0 <;> simp [hd]
  · by_cases hf : a1 = n1 <;> simp [hf]

/-- **C++ `IntersectEdges`, open branch, `e2` open and `e1` closed** (`edge_o = &e2`, `edge_c = &e1`) = hand `Model.intersectOpen` -/
theorem intersectEdges_open2_bridge (ct : ClipType) (fr : FillRule) (ec eo : Edge) (j1 j2' j2 : JoinWith)
    (hot1 hot2 : Bool) (a1 fe1 or1 or2 a2 : Nat)
    (u1 u2 : UInt64) (x1 y1 x2 y2 px py : Int) (n1 n2 : Nat) (b3 b4 : Bool) (fp : FillRule)
    (ho : eo.isOpen = true) (hc : ec.isOpen = false) :
    Gen.IntersectEdges (cliptype_ := ct) (fillrule_ := fr) (fillpos := fp) (has_open_paths_ := true)
      (e1_addr := a1) (e1_join_with := j1) (e1_local_min_is_open := ec.isOpen) (e1_local_min_polytype := ec.pt)
      (e1_local_min_vertex_flags := u1) (e1_local_min_vertex_pt_x := x1) (e1_local_min_vertex_pt_y := y1)
      (e1_outrec_after1_front_edge_after1 := n1) (e1_outrec_after1_nonnull := ec.hot)
      (e1_outrec_after9 := or1) (e1_outrec_after9_front_edge_after9 := fe1) (e1_outrec_after9_nonnull := hot1)
      (e1_wind_cnt := ec.wc) (e1_wind_cnt2 := ec.wc2) (e1_wind_dx := ec.dx)
      (e2_addr := a2) (e2_join_with := j2) (e2_join_with_after8 := j2') (e2_local_min_is_open := eo.isOpen) (e2_local_min_polytype := eo.pt)
      (e2_local_min_vertex_flags := u2) (e2_local_min_vertex_pt_x := x2) (e2_local_min_vertex_pt_y := y2)
      (e2_outrec_after1_front_edge_after1 := n2) (e2_outrec_after1_nonnull := eo.hot)
      (e2_outrec_after9 := or2) (e2_outrec_after9_nonnull := hot2)
      (e2_wind_cnt := eo.wc) (e2_wind_cnt2 := eo.wc2) (e2_wind_dx := eo.dx)
      (e3_nonnull := b3) (e3_outrec_after1_nonnull := b4) (pt_x := px) (pt_y := py) =
    (ec.wc, ec.wc2, eo.wc, eo.wc2,
      splitLog j1 "Split(e1,pt)" ++
        if openSkip ct fr ec then []
        else toggleLog2 eo.hot (decide (a2 = n2)) ((decide (px = x2) && decide (py = y2)) && !Gen.IsOpenEndV u2) (b3 && b4) eo.dx) := by
  rcases eo with ⟨po, oo, d1, w1, v1, h1⟩
  rcases ec with ⟨pc, oc, d2, w2, v2, h2⟩
  simp only at ho hc
  subst ho hc
  unfold Gen.IntersectEdges
  simp only [Gen.IsOpen, ie_m5_eq, ie_m6_eq, ie_m7_eq, Gen.IsHotEdge, Gen.IsFront, Gen.IntersectEdges.m8, gen_iabs, openSkip,
    Bool.or_true, Bool.and_true, if_true, Bool.false_eq_true, if_false]
  by_cases hA : iabs w2 ≠ 1
  · simp [hA]
  by_cases hB : openSkipCt ct pc h2 = true
  · simp [hA, hB]
  by_cases hC : openSkipFr fr w2 = true
  · simp [hA, hB, hC]
  simp only [Decidable.not_not.mp hA, hB, hC, ne_eq, not_true_eq_false, decide_false, Bool.false_eq_true, if_false, toggleLog2]
  generalize ((decide (px = x2) && decide (py = y2)) && !Gen.IsOpenEndV u2) = loc
  generalize (b3 && b4) = e3h
  cases h1
  · cases loc <;> cases e3h <;> by_cases hd : d1 > 0 <;> simp [hd]
  · by_cases hf : a2 = n2 <;> simp [hf]

/-- the open edge's hot flag after the logged steps is the one of hand `Model.intersectOpen` (`e1` open) -/
theorem intersectOpen_hot_bridge (ct : ClipType) (fr : FillRule) (eo ec : Edge) (front loc e3 : Bool) (dx : Int) :
    hotAfterToggle eo.hot (if openSkip ct fr ec then [] else toggleLog1 eo.hot front loc e3 dx) = (intersectOpen ⟨ct, fr⟩ eo ec).hot := by
  rw [intersectOpen_eq_openSkip]
  cases openSkip ct fr ec <;> cases h : eo.hot <;> cases loc <;> cases e3 <;> simp [hotAfterToggle, toggleLog1, h]

/-- **C++ `IntersectEdges`, both edges open**: nothing happens (hand `Model.intersectPair`: `(e1, e2)`) -/
theorem intersectEdges_bothOpen_bridge (ct : ClipType) (fr fp : FillRule) (e1 e2 : Edge) (j1 j2' j2 : JoinWith)
    (hot1 hot2 : Bool) (a1 fe1 or1 or2 a2 : Nat)
    (u1 u2 : UInt64) (x1 y1 x2 y2 px py : Int) (n1 n2 : Nat) (b1 b2 b3 b4 : Bool)
    (h1 : e1.isOpen = true) (h2 : e2.isOpen = true) :
    (Gen.IntersectEdges (cliptype_ := ct) (fillrule_ := fr) (fillpos := fp) (has_open_paths_ := true)
      (e1_addr := a1) (e1_join_with := j1) (e1_local_min_is_open := e1.isOpen) (e1_local_min_polytype := e1.pt)
      (e1_local_min_vertex_flags := u1) (e1_local_min_vertex_pt_x := x1) (e1_local_min_vertex_pt_y := y1)
      (e1_outrec_after1_front_edge_after1 := n1) (e1_outrec_after1_nonnull := b1)
      (e1_outrec_after9 := or1) (e1_outrec_after9_front_edge_after9 := fe1) (e1_outrec_after9_nonnull := hot1)
      (e1_wind_cnt := e1.wc) (e1_wind_cnt2 := e1.wc2) (e1_wind_dx := e1.dx)
      (e2_addr := a2) (e2_join_with := j2) (e2_join_with_after8 := j2') (e2_local_min_is_open := e2.isOpen) (e2_local_min_polytype := e2.pt)
      (e2_local_min_vertex_flags := u2) (e2_local_min_vertex_pt_x := x2) (e2_local_min_vertex_pt_y := y2)
      (e2_outrec_after1_front_edge_after1 := n2) (e2_outrec_after1_nonnull := b2)
      (e2_outrec_after9 := or2) (e2_outrec_after9_nonnull := hot2)
      (e2_wind_cnt := e2.wc) (e2_wind_cnt2 := e2.wc2) (e2_wind_dx := e2.dx)
      (e3_nonnull := b3) (e3_outrec_after1_nonnull := b4) (pt_x := px) (pt_y := py)) =
    ((intersectPair ⟨ct, fr⟩ e1 e2).1.wc, (intersectPair ⟨ct, fr⟩ e1 e2).1.wc2, (intersectPair ⟨ct, fr⟩ e1 e2).2.wc,
      (intersectPair ⟨ct, fr⟩ e1 e2).2.wc2, []) := by
  simp [Gen.IntersectEdges, Gen.IsOpen, intersectPair, h1, h2]

end Clipper.Props.Bridges

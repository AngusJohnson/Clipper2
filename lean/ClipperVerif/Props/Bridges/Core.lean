/-
Bridge theorems (tie T, DESIGN.md §2.3), clipper.core.h (`Rect64`) against `Model/RectClipLines.lean`, `Model/RectClipAuto.lean`, `Model/Owner.lean`.
For every definition that `tools/cpp2lean.py` regenerates from the C++ source and that a hand-written model re-implements:
`generated = hand` for ALL arguments.  The generated side is re-created from /repo's current sources on every `./check`
run, so a change of the C++ function changes the left-hand side and the proof below stops compiling (the theorem named in
the error is the obligation that broke).

Conventions of the generated side (see the head of `tools/cpp2lean.py`): a record parameter is passed field by field
(`e_wind_cnt`), a pointer used as a truth value is the Boolean `…_nonnull`, pointers compared with each other are `Nat`
identities (`e_addr` = which record `e` is), a skeleton returns the scalar members it assigns followed by the log `acts` of
the untranslated calls / pointer assignments it performs, a value read after an untranslated call that may have assigned
it is a separate argument `…_after<k>`.
Core Lean only.
-/
import ClipperVerif.Lemmas.Bridges
import ClipperVerif.Generated.Core
import ClipperVerif.Model.RectClipAuto
import ClipperVerif.Model.Owner
namespace Clipper.Props.Bridges
open Clipper Clipper.Model Clipper.Lemmas.Bridges

/-- C++ `Rect64::IsEmpty` = hand `Model.RC.Rect.isEmpty` (Model/RectClipLines.lean) -/
theorem rectIsEmpty_bridge (r : RC.Rect) :
    Gen.RectIsEmpty (bottom := r.bottom) (left := r.left) (right := r.right) (top := r.top) = r.isEmpty := rfl

/-- C++ `Rect64::IsEmpty` = hand `Model.Owner.Rect.isEmpty` (Model/Owner.lean) -/
theorem rectIsEmpty_owner_bridge (a : Owner.Rect) :
    Gen.RectIsEmpty (bottom := a.b) (left := a.l) (right := a.r) (top := a.t) = a.isEmpty := rfl

/-- C++ `Rect64::Contains(const Rect64&)` = hand `Model.RC.Rect.containsRect` -/
theorem rectContainsRect_bridge (a b : RC.Rect) :
    Gen.RectContainsRect (bottom := a.bottom) (left := a.left) (right := a.right) (top := a.top)
      (rec_bottom := b.bottom) (rec_left := b.left) (rec_right := b.right) (rec_top := b.top) = a.containsRect b := rfl

/-- C++ `Rect64::Contains(const Rect64&)` = hand `Model.Owner.Rect.contains` (the bounds test of `CheckSplitOwner` /
`RecursiveCheckOwners`) -/
theorem rectContainsRect_owner_bridge (a b : Owner.Rect) :
    Gen.RectContainsRect (bottom := a.b) (left := a.l) (right := a.r) (top := a.t)
      (rec_bottom := b.b) (rec_left := b.l) (rec_right := b.r) (rec_top := b.t) = a.contains b := rfl

/-- C++ `Rect64::Intersects` = hand `Model.RC.Rect.intersects` -/
theorem rectIntersects_bridge (a b : RC.Rect) :
    Gen.RectIntersects (bottom := a.bottom) (left := a.left) (right := a.right) (top := a.top)
      (rec_bottom := b.bottom) (rec_left := b.left) (rec_right := b.right) (rec_top := b.top) = a.intersects b := rfl

/-- C++ `Rect64::MidPoint` = hand `Model.RC.Rect.midPoint` (Model/RectClipAuto.lean; `/` on `int64_t` truncates) -/
theorem rectMidPoint_bridge (r : RC.Rect) :
    Gen.RectMidPoint (bottom := r.bottom) (left := r.left) (right := r.right) (top := r.top) =
      (r.midPoint.x, r.midPoint.y) := rfl

/-- C++ `Rect64::Contains(const Point64&)` is the *open* rectangle; hand `Model.RC.inRect` is the closed one: the open one implies
the closed one (no hand model uses the open test directly). -/
theorem rectContainsPt_inRect (r : RC.Rect) (p : Pt) :
    Gen.RectContainsPt (bottom := r.bottom) (left := r.left) (right := r.right) (top := r.top) (pt_x := p.x) (pt_y := p.y) = true →
      RC.inRect r p = true := by
  simp only [Gen.RectContainsPt, RC.inRect, Bool.and_eq_true, decide_eq_true_eq]
  omega

end Clipper.Props.Bridges

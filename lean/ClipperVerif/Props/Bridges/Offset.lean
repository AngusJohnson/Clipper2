/-
Bridge theorems (tie T, DESIGN.md §2.3), clipper.offset.cpp against `Model/OffsetFrame.lean`.
For every definition that `tools/cpp2lean.py` regenerates from the C++ source and that a hand-written model re-implements:
`generated = hand` for ALL arguments.  The generated side is re-created from /repo's current sources on every `./check`
run, so a change of the C++ function changes the left-hand side and the proof below stops compiling (the theorem named in
the error is the obligation that broke).

Conventions of the generated side (see the head of `tools/cpp2lean.py`): a record parameter is passed field by field
(`e_wind_cnt`), a pointer used as a truth value is the Boolean `…_nonnull`, pointers compared with each other are `Nat`
identities (`e_addr` = which record `e` is), a skeleton returns the scalar members it assigns followed by the log `acts` of
the untranslated calls / pointer assignments it performs, a value read after an untranslated call that may have assigned
it is a separate argument `…_after<k>`.
Core Lean only.
-/
import ClipperVerif.Lemmas.Bridges
import ClipperVerif.Generated.Offset
import ClipperVerif.Model.OffsetFrame
namespace Clipper.Props.Bridges
open Clipper Clipper.Lemmas.Bridges

section Offset
open Clipper.OffsetFrame

/-- C++ `GetLowestClosedPathIdx`, the `if (…) continue;` test of its inner loop, is the test of hand `OffsetFrame.lowestStep` -/
theorem lowestStep_bridge (i : Nat) (st : Option Nat × Pt) (pt : Pt) :
    lowestStep i st pt =
      if Gen.GetLowestClosedPathIdx_skip (botPt_x := st.2.x) (botPt_y := st.2.y) (pt_x := pt.x) (pt_y := pt.y) then st else (some i, pt) := by
  simp only [lowestStep, Gen.GetLowestClosedPathIdx_skip, Bool.or_eq_true, Bool.and_eq_true, decide_eq_true_eq]

/-- C++ `ClipperOffset::Group::Group`, the initialiser of `is_joined` (and `IsClosedPath`, the same test) = the flag hand
`OffsetFrame.mkGroup` passes to `stripDuplicates` -/
theorem group_isJoined_bridge (paths : Paths) (jt : JoinType) (et : EndType) :
    (mkGroup paths jt et).paths = paths.map (stripDuplicates (Gen.Group_isJoined (end_type := et))) ∧
      Gen.IsClosedPath (et := et) = Gen.Group_isJoined (end_type := et) := by
  cases et <;> simp [mkGroup, Gen.Group_isJoined, Gen.IsClosedPath] <;> intros <;> rfl
end Offset

end Clipper.Props.Bridges

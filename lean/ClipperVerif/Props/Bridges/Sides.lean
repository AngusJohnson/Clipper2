/-
Bridge theorems (tie T, DESIGN.md §2.3), clipper.engine.cpp (output-record sides: `Split`, `AddLocalMinPoly`, `AddLocalMaxPoly`, `SwapOutrecs`, `GetPrevHotEdge`) against `Model/AelSides.lean`.
For every definition that `tools/cpp2lean.py` regenerates from the C++ source and that a hand-written model re-implements:
`generated = hand` for ALL arguments.  The generated side is re-created from /repo's current sources on every `./check`
run, so a change of the C++ function changes the left-hand side and the proof below stops compiling (the theorem named in
the error is the obligation that broke).

Conventions of the generated side (see the head of `tools/cpp2lean.py`): a record parameter is passed field by field
(`e_wind_cnt`), a pointer used as a truth value is the Boolean `…_nonnull`, pointers compared with each other are `Nat`
identities (`e_addr` = which record `e` is), a skeleton returns the scalar members it assigns followed by the log `acts` of
the untranslated calls / pointer assignments it performs, a value read after an untranslated call that may have assigned
it is a separate argument `…_after<k>`.
Core Lean only.
-/
import ClipperVerif.Lemmas.BridgesEngine
import ClipperVerif.Lemmas.AelSides
namespace Clipper.Props.Bridges
open Clipper Clipper.Model Clipper.Lemmas.Bridges

/-- C++ `IsHotEdge(e) || IsJoined(e)` = the *logical* hotness of hand `Model.Edge.hot` as `Model.localOK` states it for a closed edge
(`x.orec.isSome || x.join != .none`) -/
theorem isHot_logical_bridge (x : SEdge) (j : JoinWith) (hj : toJoin j = x.join) :
    (Gen.IsHotEdge (e_outrec_nonnull := x.orec.isSome) || Gen.IsJoined (e_join_with := j)) = (x.orec.isSome || x.join != .none) := by
  cases j <;> simp [toJoin] at hj <;> simp [Gen.IsHotEdge, Gen.IsJoined, ← hj]

/-- C++ `IsFront(e)` and `OutrecIsAscending(e)` are the same test `e.outrec->front_edge == &e`: the field `Model.Rec.front` by definition -/
theorem isFront_bridge (a fe : Nat) : Gen.IsFront (e_addr := a) (e_outrec_front_edge := fe) = decide (fe = a) ∧
    Gen.OutrecIsAscending (hotEdge_addr := a) (hotEdge_outrec_front_edge := fe) = decide (fe = a) := by
  simp [Gen.IsFront, Gen.OutrecIsAscending, eq_comm]

/-- C++ `GetPrevHotEdge`, the `while (prev && (IsOpen(*prev) || !IsHotEdge(*prev)))` condition, is the test of hand `Model.prevHot`
(through `Model.tracked`): the walk continues exactly when `tracked x = none`, and stops with `IsFront` of the edge found … -/
theorem prevHot_cons_bridge (x : SEdge) (xs : List SEdge) :
    prevHot (x :: xs) =
      if Gen.GetPrevHotEdge_cond (prev_local_min_is_open := x.e.isOpen) (prev_nonnull := true) (prev_outrec_nonnull := x.orec.isSome)
      then prevHot xs else x.orec.map (·.front) := by
  rcases x with ⟨e, j, _ | r⟩ <;> cases h : e.isOpen <;>
    simp [prevHot, tracked, Gen.GetPrevHotEdge_cond, Gen.IsOpen, Gen.IsHotEdge, h]

/-- … or at the null pointer -/
theorem prevHot_nil_bridge (o h : Bool) :
    Gen.GetPrevHotEdge_cond (prev_local_min_is_open := o) (prev_nonnull := false) (prev_outrec_nonnull := h) = false ∧
      prevHot [] = none := by
  simp [Gen.GetPrevHotEdge_cond, prevHot]

/-- C++ `ClipperBase::Split` = the partner choice of hand `Model.splitJoined` (`Right`: `next_in_ael`, otherwise `prev_in_ael`), both
`join_with` cleared as in `Model.splitPair`, then `AddLocalMinPoly(…, pt, true)` on the pair in AEL order -/
theorem split_bridge (j jn jp : JoinWith) :
    Gen.Split (e_join_with := j) (e_next_in_ael_join_with := jn) (e_prev_in_ael_join_with := jp) =
      match toJoin j with
      | .right => (.noJoin, .noJoin, jp, [("AddLocalMinPoly(e,e_next_in_ael,pt,·)", [1])])
      | _ => (.noJoin, jn, .noJoin, [("AddLocalMinPoly(e_prev_in_ael,e,pt,·)", [1])]) := by
  cases j <;> simp [Gen.Split, toJoin]

/-- C++ `AddLocalMinPoly`, closed path: which edge becomes the front edge of the new record is hand `Model.minFront1`
(`prev = some asc` when `GetPrevHotEdge` found an edge and `OutrecIsAscending` returned `asc`) -/
theorem addLocalMinPoly_closed_bridge (isNew up nn : Bool) (a fe opa : Nat) (dx : Int) (io : Bool) :
    Gen.AddLocalMinPoly (is_new := isNew) (e1_local_min_is_open := false) (e1_wind_dx := dx) (op_addr := opa)
      (outrec_is_open_after1 := io) (prevHotEdge_addr := a) (prevHotEdge_nonnull := nn) (prevHotEdge_outrec_front_edge := fe)
      (using_polytree_ := up) =
    (opa, io,
      [("outrec := NewOutRec()", []), ("e1_outrec := outrec", []), ("e2_outrec := outrec", [])] ++
      (if nn then (if up then [("SetOwner(outrec,prevHotEdge_outrec)", [])] else []) else [("outrec_owner := nullptr", [])]) ++
      [(if minFront1 (if nn then some (decide (a = fe)) else none) isNew then "SetSides(outrec,e1,e2)" else "SetSides(outrec,e2,e1)", [])] ++
      [("op := new OutPt", []), ("outrec_pts := op", [])]) := by
  -- both logs are closed terms in `nn`, `up`, `isNew` and the one test `a = fe`
  delta Gen.AddLocalMinPoly Gen.AddLocalMinPoly.m3 Gen.OutrecIsAscending
  generalize decide (a = fe) = f
  cases nn <;> cases up <;> cases isNew <;> cases f <;> rfl

/-- C++ `AddLocalMaxPoly`, the `if (IsFront(e1) == IsFront(e2))` block for two edges that are not open ends: it returns `nullptr`
with `succeeded_ = false` exactly when hand `Model.addLocalMaxFn` reports `sidesEqual` -/
theorem addLocalMax_sides_bridge (a1 fe1 a2 fe2 ida idb : Nat) (u1 u2 : UInt64) (acts : Log) (succ : Bool)
    (h1 : Gen.IsOpenEnd (ae_vertex_top_flags := u1) = false) (h2 : Gen.IsOpenEnd (ae_vertex_top_flags := u2) = false) :
    Gen.AddLocalMaxPoly.m4 a1 fe1 a2 fe2 u1 acts succ u2 =
      (match addLocalMaxFn ⟨ida, decide (fe1 = a1)⟩ ⟨idb, decide (fe2 = a2)⟩ with
        | .error .sidesEqual => (true, 0, false, acts)
        | _ => (false, default, succ, acts)) := by
  rw [show decide (fe1 = a1) = decide (a1 = fe1) from decide_eq_decide.mpr eq_comm,
    show decide (fe2 = a2) = decide (a2 = fe2) from decide_eq_decide.mpr eq_comm]
  by_cases e1 : a1 = fe1 <;> by_cases e2 : a2 = fe2
  · simp [Gen.AddLocalMaxPoly.m4, Gen.AddLocalMaxPoly.m3, Gen.IsFront, addLocalMaxFn, h1, h2, e1, e2]
  -- with different sides `addLocalMaxFn` succeeds, whatever the record indices
  · obtain ⟨g, hg⟩ := addLocalMaxFn_ok ⟨ida, true⟩ ⟨idb, false⟩ (by simp)
    simp [Gen.AddLocalMaxPoly.m4, Gen.IsFront, hg, e1, e2]
  · obtain ⟨g, hg⟩ := addLocalMaxFn_ok ⟨ida, false⟩ ⟨idb, true⟩ (by simp)
    simp [Gen.AddLocalMaxPoly.m4, Gen.IsFront, hg, e1, e2]
  · simp [Gen.AddLocalMaxPoly.m4, Gen.AddLocalMaxPoly.m3, Gen.IsFront, addLocalMaxFn, h1, h2, e1, e2]

/-- C++ `AddLocalMaxPoly`, closed path with two different records: `JoinOutrecPaths` keeps the record with the smaller `idx`, as hand
`Model.addLocalMaxFn` (`ra.id < rb.id` ⇒ `rb` is relabelled to `ra`) -/
theorem addLocalMax_join_bridge (ida idb : Nat) (ha : ida < 2 ^ 64) (hb : idb < 2 ^ 64) (acts : Log) :
    Gen.AddLocalMaxPoly.m6 (UInt64.ofNat ida) (UInt64.ofNat idb) acts =
      acts ++ [(if ida < idb then "JoinOutrecPaths(e1,e2)" else "JoinOutrecPaths(e2,e1)", [])] := by
  by_cases h : ida < idb <;> simp [Gen.AddLocalMaxPoly.m6, u64_lt ida idb ha hb, h]

/-- C++ `SwapOutrecs`, both edges on ONE record (`or1 == or2`): the record's `front_edge` and `back_edge` are exchanged — hand
`Model.swapOutrecs` flips `front` of both `Rec`s -/
theorem swapOutrecs_same_bridge (a1 a2 r fe1 fe2 : Nat) (n1 n2 : Bool) :
    Gen.SwapOutrecs (e1_addr := a1) (e1_outrec := r) (e1_outrec_front_edge := fe1) (e1_outrec_nonnull := n1)
      (e2_addr := a2) (e2_outrec := r) (e2_outrec_front_edge := fe2) (e2_outrec_nonnull := n2) =
      [("e1_outrec_front_edge := e1_outrec_back_edge", []), ("e1_outrec_back_edge := e1_outrec_front_edge", [])] := by
  simp [Gen.SwapOutrecs]

/-- C++ `SwapOutrecs`, two different hot records: on each record the side that pointed to its edge now points to the other edge, and the
edges exchange `outrec` — each edge inherits the other's record *and side*: hand `Model.swapOutrecs` returns `(r2, r1)` -/
theorem swapOutrecs_diff_bridge (a1 a2 r1 r2 fe1 fe2 : Nat) (h : r1 ≠ r2) :
    Gen.SwapOutrecs (e1_addr := a1) (e1_outrec := r1) (e1_outrec_front_edge := fe1) (e1_outrec_nonnull := true)
      (e2_addr := a2) (e2_outrec := r2) (e2_outrec_front_edge := fe2) (e2_outrec_nonnull := true) =
      [(if a1 = fe1 then "e1_outrec_front_edge := e2" else "e1_outrec_back_edge := e2", []),
       (if a2 = fe2 then "e2_outrec_front_edge := e1" else "e2_outrec_back_edge := e1", []),
       ("e1_outrec := e2_outrec", []), ("e2_outrec := e1_outrec", [])] := by
  by_cases h1 : a1 = fe1 <;> by_cases h2 : a2 = fe2 <;> simp [Gen.SwapOutrecs, h, h1, h2]

end Clipper.Props.Bridges

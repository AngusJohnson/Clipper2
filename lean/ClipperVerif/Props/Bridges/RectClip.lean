/-
Bridge theorems (tie T, DESIGN.md §2.3), clipper.rectclip.cpp against `Model/RectClip.lean`, `Model/RectClipLines.lean`
(`segIntersection`, `getNextLocation`) and `Model/RectClipAuto.lean` (`isClockwise`).
For every definition that `tools/cpp2lean.py` regenerates from the C++ source and that a hand-written model re-implements:
`generated = hand` for ALL arguments.  The generated side is re-created from /repo's current sources on every `./check`
run, so a change of the C++ function changes the left-hand side and the proof below stops compiling (the theorem named in
the error is the obligation that broke).

Conventions of the generated side (see the head of `tools/cpp2lean.py`): a record parameter is passed field by field
(`e_wind_cnt`), a pointer used as a truth value is the Boolean `…_nonnull`, pointers compared with each other are `Nat`
identities (`e_addr` = which record `e` is), a skeleton returns the scalar members it assigns followed by the log `acts` of
the untranslated calls / pointer assignments it performs, a value read after an untranslated call that may have assigned
it is a separate argument `…_after<k>`.
Core Lean only.
-/
import ClipperVerif.Lemmas.Bridges
import ClipperVerif.Generated.RectClip
import ClipperVerif.Model.RectClipAuto
namespace Clipper.Props.Bridges
open Clipper Clipper.Model Clipper.Lemmas.Bridges

section RectClip
open Clipper.Model.RC

/-- `locIdx` is the position of the corner hand `cornerAt` picks in `rect_as_path_ = [c0, c1, c2, c3]` -/
theorem cornerAt_locIdx (r : RC.Rect) (l : Location) : RC.cornerAt r l = r.asPath[(locIdx l).toNat]? := by
  cases l <;> rfl

/-- C++ `RectClip64::AddCorner(Location prev, Location curr)` = hand `Model.RC.addCorner1`: the one `Add(rect_as_path_[k])` it logs
is the corner hand `addCorner1` returns -/
theorem addCorner1_bridge (r : Rect) (prev curr : Location) :
    let l := if Gen.HeadingClockwise prev curr then prev else curr
    Gen.AddCorner1 (prev := prev) (curr := curr) = [("Add(rect_as_path_[·],default)", [locIdx l])] ∧
      addCorner1 r prev curr = cornerAt r l := by
  cases h : Gen.HeadingClockwise prev curr <;> simp [Gen.AddCorner1, addCorner1, h, locIdx]

/-- C++ `RectClip64::AddCorner(Location& loc, bool isClockwise)` = hand `Model.RC.addCorner2` (the new `loc`, and the corner added) -/
theorem addCorner2_bridge (r : Rect) (loc : Location) (cw : Bool) :
    let l := if cw then loc else Gen.GetAdjacentLocation loc false
    Gen.AddCorner2 (loc := loc) (isClockwise := cw) = ((addCorner2 r loc cw).2, [("Add(rect_as_path_[·],default)", [locIdx l])]) ∧
      (addCorner2 r loc cw).1 = cornerAt r l := by
  cases cw <;> simp [Gen.AddCorner2, addCorner2, locIdx]

theorem enumToInt_loc (l : Location) : Gen.enumToInt l = (l.toNat : Int) := by cases l <;> rfl

/-- C++ `StartLocsAreClockwise`, one iteration of its `for` loop, is one summand of hand `Model.RC.startLocsSum` -/
theorem startLocsSum_cons_bridge (a b : Location) (rest : List Location) (i : UInt64) (acc : Int) :
    acc + startLocsSum (a :: b :: rest) =
      Gen.StartLocsAreClockwise_step (i := i) (result := acc) (startlocs_at_i := b) (startlocs_at_i_sub_1 := a) +
        startLocsSum (b :: rest) := by
  rw [startLocsSum, ← Int.add_assoc]
  congr 1
  -- the same `if` chain on the same difference, with `acc + ·` pushed to its leaves
  simp only [Gen.StartLocsAreClockwise_step, enumToInt_loc, decide_eq_true_eq, apply_ite (acc + ·), Int.add_zero]
  rfl

/-- C++ `RectClip64::GetNextLocation`, the `if … else if …` chains after the four skipping loops (blocks `m3`, `m6`, `m9`, `m12` of the
generated skeleton; `q = path[i]` after the loop), inside hand `Model.RC.getNextLocation` -/
theorem getNextLocation_side_bridge (r : Rect) (path : Path) (loc : Location) (i : Nat) (hl : loc ≠ .inside) :
    getNextLocation r path loc i =
      let j := (getNextLocation r path loc i).2.1
      match path[j]? with
      | none => (loc, j, [])
      | some q =>
        (match loc with
          | .left => Gen.GetNextLocation.m3 q.x r.right q.y r.top r.bottom
          | .top => Gen.GetNextLocation.m6 q.y r.bottom q.x r.left r.right
          | .right => Gen.GetNextLocation.m9 q.x r.left q.y r.top r.bottom
          | .bottom => Gen.GetNextLocation.m12 q.y r.top q.x r.left r.right
          | .inside => .inside, j, []) := by
  cases loc <;> first | contradiction | skip
  -- once the index after the skipping loop is named, both sides are the same `if` chain
  all_goals
    simp only [getNextLocation]
    split <;> rename_i h <;>
      simp only [h, Gen.GetNextLocation.m3, Gen.GetNextLocation.m2, Gen.GetNextLocation.m1, Gen.GetNextLocation.m6, Gen.GetNextLocation.m5,
        Gen.GetNextLocation.m4, Gen.GetNextLocation.m9, Gen.GetNextLocation.m8, Gen.GetNextLocation.m7, Gen.GetNextLocation.m12,
        Gen.GetNextLocation.m11, Gen.GetNextLocation.m10, decide_eq_true_eq]

/-- C++ `IsClockwise(prev, curr, prev_pt, curr_pt, rect_mp)` = hand `Model.RC.isClockwise` (the `double` `CrossProduct` is the hand
model's abstract `A.cross`) -/
theorem isClockwise_bridge (A : Arith) (r : Rect) (prev curr : Location) (prevPt currPt : Pt) :
    Gen.IsClockwise (D := Int) (CrossProduct := fun a b c d e f => A.cross ⟨a, b⟩ ⟨c, d⟩ ⟨e, f⟩) (prev := prev) (curr := curr)
      (prev_pt_x := prevPt.x) (prev_pt_y := prevPt.y) (curr_pt_x := currPt.x) (curr_pt_y := currPt.y)
      (rect_mp_x := r.midPoint.x) (rect_mp_y := r.midPoint.y) = isClockwise A r prev curr prevPt currPt := by
  simp [Gen.IsClockwise, isClockwise]

/-- a hand-model result `(found, ip)` as the generated side returns it -/
def flat (s : Bool × Pt) : Bool × Int × Int := (s.1, s.2.x, s.2.y)

theorem flat_ite (c : Prop) [Decidable c] (a b : Bool) (p : Pt) :
    flat (if c then a else b, p) = if c then flat (a, p) else flat (b, p) := by split <;> rfl

/-- C++ `GetSegmentIntersection(p1, p2, p3, p4, ip)` = hand `Model.RC.segIntersection` (`CrossProduct` is `A.cross`,
`GetSegmentIntersectPt` is `A.isect`, which leaves `ip` alone when it returns false) -/
theorem segIntersection_bridge (A : Arith) (p1 p2 p3 p4 ip : Pt) :
    Gen.GetSegmentIntersection (D := Int) (CrossProduct := fun a b c d e f => A.cross ⟨a, b⟩ ⟨c, d⟩ ⟨e, f⟩)
      (GetSegmentIntersectPt := fun a b c d e f g h ix iy =>
        match A.isect ⟨a, b⟩ ⟨c, d⟩ ⟨e, f⟩ ⟨g, h⟩ with | some q => (true, q.x, q.y) | none => (false, ix, iy))
      (ip_x := ip.x) (ip_y := ip.y) (p1_x := p1.x) (p1_y := p1.y) (p2_x := p2.x) (p2_y := p2.y)
      (p3_x := p3.x) (p3_y := p3.y) (p4_x := p4.x) (p4_y := p4.y) =
      ((segIntersection A p1 p2 p3 p4 ip).1, (segIntersection A p1 p2 p3 p4 ip).2.x, (segIntersection A p1 p2 p3 p4 ip).2.y) := by
  rcases p1 with ⟨x1, y1⟩; rcases p2 with ⟨x2, y2⟩; rcases p3 with ⟨x3, y3⟩; rcases p4 with ⟨x4, y4⟩
  show _ = flat _
  -- both sides are the same tree: spell the tests alike and push `flat` to the leaves
  simp only [Gen.GetSegmentIntersection, segIntersection, onSpan, between, Gen.IsHorizontalPts, pt_eq, bool_int_eq,
    apply_ite flat, flat_ite, decide_eq_true_eq, Bool.or_eq_true, Bool.and_eq_true, beq_iff_eq]
  cases A.isect ⟨x1, y1⟩ ⟨x2, y2⟩ ⟨x3, y3⟩ ⟨x4, y4⟩ <;> rfl

end RectClip

end Clipper.Props.Bridges

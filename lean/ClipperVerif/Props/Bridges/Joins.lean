/-
Bridge theorems (tie T, DESIGN.md §2.3), clipper.engine.cpp: the JOIN DECISIONS `CheckJoinLeft` / `CheckJoinRight` and their call
sites against `Model/JoinCond.lean`, and the link from the decision to the models of what a join does (`Model/AelSides.lean`
`joinS`, `Model/AelRings.lean` `joinOut`).
`generated = hand` for all arguments; the generated side is re-created from /repo's current sources on every `./check` run, so a
change of the C++ function breaks the proof below (the theorem named in the error is the obligation that broke).  Conventions of the
generated side: head of `tools/cpp2lean.py`.  New here: `PerpendicDistFromLineSqrd(pt, prev->bot, prev->top) > 0.25` (double arithmetic,
not entered) is ONE Boolean argument whose NAME spells out callee, arguments, comparison and threshold; the theorems bind it by that
name, so a change of any of the four makes the statement itself ill-formed.
Core Lean only.
-/
import ClipperVerif.Lemmas.BridgesJoins
import ClipperVerif.Lemmas.AelOrder
import ClipperVerif.Model.AelRings
namespace Clipper.Props.Bridges
open Clipper Clipper.Model Clipper.Model.JoinCond Clipper.Lemmas.Bridges

theorem checkJoinLeft_m3 (e p : JEdge) (he : e.idx < 2 ^ 64) (hp : p.idx < 2 ^ 64) (acts : Log) :
    Gen.CheckJoinLeft.m3 (UInt64.ofNat e.idx) (UInt64.ofNat p.idx) acts = acts ++ leftLog (idxAct e p) := by
  simp only [Gen.CheckJoinLeft.m3, Gen.CheckJoinLeft.m2, idxAct, u64_lt e.idx p.idx he hp, u64_eq e.idx p.idx he hp, decide_eq_true_eq]
  by_cases h1 : e.idx = p.idx
  · simp only [h1, if_true]; rfl
  · by_cases h2 : e.idx < p.idx <;> simp only [h1, h2, if_true, if_false] <;> rfl

theorem checkJoinRight_m3 (e n : JEdge) (he : e.idx < 2 ^ 64) (hn : n.idx < 2 ^ 64) (acts : Log) :
    Gen.CheckJoinRight.m3 (UInt64.ofNat e.idx) (UInt64.ofNat n.idx) acts = acts ++ rightLog (idxAct e n) := by
  simp only [Gen.CheckJoinRight.m3, Gen.CheckJoinRight.m2, idxAct, u64_lt e.idx n.idx he hn, u64_eq e.idx n.idx he hn, decide_eq_true_eq]
  by_cases h1 : e.idx = n.idx
  · simp only [h1, if_true]; rfl
  · by_cases h2 : e.idx < n.idx <;> simp only [h1, h2, if_true, if_false] <;> rfl

/-- C++ `ClipperBase::CheckJoinLeft` = hand `Model.JoinCond.joinLeftDecision`, for all arguments: the early-return guard with every
one of its terms, the #490 test, the `check_curr_x` branch, the exact collinearity test (`Gen.IsCollinear` = `cross = 0`), which of
`AddLocalMaxPoly(*prev, e, pt)` / `JoinOutrecPaths(e, *prev)` / `JoinOutrecPaths(*prev, e)` runs, and the two `join_with` values.
`pn` = `prev != nullptr`; `idx` values are `size_t`. -/
theorem checkJoinLeft_bridge (ccx far pn : Bool) (e p : JEdge) (pt : Pt) (je jp : JoinWith)
    (he : e.idx < 2 ^ 64) (hp : p.idx < 2 ^ 64) :
    Gen.CheckJoinLeft (check_curr_x := ccx)
      (PerpendicDistFromLineSqrd_pt_e_prev_in_ael_bot_e_prev_in_ael_top_gt_0_25 := far)
      (e_bot_y := e.bot.y) (e_curr_x := e.currX) (e_join_with := je) (e_local_min_is_open := e.isOpen)
      (e_outrec_idx := UInt64.ofNat e.idx) (e_outrec_nonnull := e.hot)
      (e_prev_in_ael_bot_y := p.bot.y) (e_prev_in_ael_curr_x := p.currX) (e_prev_in_ael_join_with := jp)
      (e_prev_in_ael_local_min_is_open := p.isOpen) (e_prev_in_ael_nonnull := pn)
      (e_prev_in_ael_outrec_idx := UInt64.ofNat p.idx) (e_prev_in_ael_outrec_nonnull := p.hot)
      (e_prev_in_ael_top_x := p.top.x) (e_prev_in_ael_top_y := p.top.y) (e_top_x := e.top.x) (e_top_y := e.top.y)
      (pt_x := pt.x) (pt_y := pt.y) =
    encodeLeft (joinLeftDecision ccx far e (if pn then some p else none) pt je jp) := by
  cases pn
  · rfl
  · rw [if_pos rfl, joinLeft_some]
    simp only [Gen.CheckJoinLeft, Gen.CheckJoinLeft.m1, checkJoinLeft_m3 e p he hp, Gen.IsHotEdge, Gen.IsHorizontal, Gen.IsOpen,
      Clipper.Lemmas.AelOrder.isCollinear_eq e.top pt p.top, Bool.not_true, Bool.false_or, List.nil_append, decide_not]
    -- the guard passes, or one of its five terms makes every later test irrelevant
    cases hps : passes ccx far e p pt
    · simp only [passes, JEdge.horizontal, Bool.and_eq_false_iff, Bool.not_eq_false', Bool.and_eq_true, Bool.not_eq_true',
        decide_not] at hps
      rcases hps with (((h | h) | h) | h) | h <;>
        simp only [h, Bool.and_self, Bool.not_false, Bool.false_eq_true, if_true, if_false, ite_self] <;> rfl
    · simp only [passes, JEdge.horizontal, Bool.and_eq_true, Bool.not_eq_true', decide_not] at hps
      obtain ⟨⟨⟨⟨h1, h2⟩, h3⟩, h4⟩, h5⟩ := hps
      cases ccx <;> simp only [Bool.false_and, Bool.true_and, Bool.not_false, Bool.not_true] at h3 h4 <;>
        simp only [h1, h2, h3, h4, h5, Bool.false_eq_true, if_false, if_true] <;> rfl

/-- C++ `ClipperBase::CheckJoinRight` = hand `Model.JoinCond.joinRightDecision`, for all arguments (threshold 0.35; `nn` =
`next != nullptr`) -/
theorem checkJoinRight_bridge (ccx far nn : Bool) (e n : JEdge) (pt : Pt) (je jn : JoinWith)
    (he : e.idx < 2 ^ 64) (hn : n.idx < 2 ^ 64) :
    Gen.CheckJoinRight (check_curr_x := ccx)
      (PerpendicDistFromLineSqrd_pt_e_next_in_ael_bot_e_next_in_ael_top_gt_0_34999999999999998 := far)
      (e_bot_y := e.bot.y) (e_curr_x := e.currX) (e_join_with := je) (e_local_min_is_open := e.isOpen)
      (e_outrec_idx := UInt64.ofNat e.idx) (e_outrec_nonnull := e.hot)
      (e_next_in_ael_bot_y := n.bot.y) (e_next_in_ael_curr_x := n.currX) (e_next_in_ael_join_with := jn)
      (e_next_in_ael_local_min_is_open := n.isOpen) (e_next_in_ael_nonnull := nn)
      (e_next_in_ael_outrec_idx := UInt64.ofNat n.idx) (e_next_in_ael_outrec_nonnull := n.hot)
      (e_next_in_ael_top_x := n.top.x) (e_next_in_ael_top_y := n.top.y) (e_top_x := e.top.x) (e_top_y := e.top.y)
      (pt_x := pt.x) (pt_y := pt.y) =
    encodeRight (joinRightDecision ccx far e (if nn then some n else none) pt je jn) := by
  cases nn
  · rfl
  · rw [if_pos rfl, joinRight_some]
    simp only [Gen.CheckJoinRight, Gen.CheckJoinRight.m1, checkJoinRight_m3 e n he hn, Gen.IsHotEdge, Gen.IsHorizontal, Gen.IsOpen,
      Clipper.Lemmas.AelOrder.isCollinear_eq e.top pt n.top, Bool.not_true, Bool.false_or, List.nil_append, decide_not]
    cases hps : passes ccx far e n pt
    · simp only [passes, JEdge.horizontal, Bool.and_eq_false_iff, Bool.not_eq_false', Bool.and_eq_true, Bool.not_eq_true',
        decide_not] at hps
      rcases hps with (((h | h) | h) | h) | h <;>
        simp only [h, Bool.and_self, Bool.not_false, Bool.false_eq_true, if_true, if_false, ite_self] <;> rfl
    · simp only [passes, JEdge.horizontal, Bool.and_eq_true, Bool.not_eq_true', decide_not] at hps
      obtain ⟨⟨⟨⟨h1, h2⟩, h3⟩, h4⟩, h5⟩ := hps
      cases ccx <;> simp only [Bool.false_and, Bool.true_and, Bool.not_false, Bool.not_true] at h3 h4 <;>
        simp only [h1, h2, h3, h4, h5, Bool.false_eq_true, if_false, if_true] <;> rfl

/-- `CheckJoinLeft` is `CheckJoinRight` seen in a mirror: the same predicate on (`e`, neighbour, `pt`, `check_curr_x`, distance flag)
with `prev` for `next` and `Left` for `Right` in `join_with`.  (What the mirror does NOT cover is inside the distance flag: the C++
compares with 0.25 on the left and 0.35 on the right; the two thresholds are part of the names of the generated arguments that
`checkJoinLeft_bridge` / `checkJoinRight_bridge` bind.)  A term dropped from one guard only — the seeded changes C02r3-m1, C02b-m1 —
breaks the bridge of that side; were both bridges repaired by editing both specifications differently, this theorem would break. -/
theorem joinLeft_right_mirror (ccx far : Bool) (e : JEdge) (nb : Option JEdge) (pt : Pt) (je jn : JoinWith) :
    joinLeftDecision ccx far e nb pt je jn = (joinRightDecision ccx far e nb pt (mirrorJoin je) (mirrorJoin jn)).mirror := by
  cases nb with
  | none => simp [joinLeftDecision, joinRightDecision, Outcome.mirror, mirrorJoin_mirrorJoin]
  | some p =>
    rw [joinLeft_some, joinRight_some]
    cases passes ccx far e p pt <;> simp [Outcome.mirror, mirrorJoin_mirrorJoin] <;> exact ⟨rfl, rfl⟩

theorem act_ne_none_iff (b : Bool) (e n : JEdge) (x y z w : JoinWith) :
    (if b then (⟨idxAct e n, x, y⟩ : Outcome) else ⟨.none, z, w⟩).act ≠ .none ↔ b = true := by
  cases b <;> simp [idxAct_ne_none]

/-- `CheckJoinLeft` joins (its decision is not `none`) EXACTLY when: `prev` exists; both edges are hot (`outrec != nullptr`); neither
is open; neither is horizontal; the join is not "trivial" (#490), which is: (`pt.y ≥ e.top.y + 2` and `pt.y ≥ prev->top.y + 2`) or
(`e.bot.y ≤ pt.y` and `prev->bot.y ≤ pt.y`) — the negation of the C++ test; with `check_curr_x` the distance flag is false (`pt` is
within √0.25 of the line through `prev`), without it `e.curr_x == prev->curr_x`; and `e.top`, `pt`, `prev->top` are collinear by the
exact integer test.  These are the facts the join-soundness check of `harness/aeltrace.h` (joined edges come within 2 units of each
other) and `Model.joinS` (both closed and hot, else `reject`) rely on. -/
theorem joinLeft_requires (ccx far : Bool) (e : JEdge) (prev : Option JEdge) (pt : Pt) (je jp : JoinWith) :
    (joinLeftDecision ccx far e prev pt je jp).act ≠ .none ↔
      ∃ p, prev = some p ∧ e.hot = true ∧ p.hot = true ∧ e.isOpen = false ∧ p.isOpen = false ∧
        e.top.y ≠ e.bot.y ∧ p.top.y ≠ p.bot.y ∧
        ((e.top.y + 2 ≤ pt.y ∧ p.top.y + 2 ≤ pt.y) ∨ (e.bot.y ≤ pt.y ∧ p.bot.y ≤ pt.y)) ∧
        (if ccx then far = false else e.currX = p.currX) ∧ cross e.top pt p.top = 0 := by
  cases prev with
  | none => simp [joinLeftDecision]
  | some p => rw [joinLeft_some, act_ne_none_iff, passes_iff]; simp only [Option.some.injEq, exists_eq_left']

/-- the same for `CheckJoinRight` -/
theorem joinRight_requires (ccx far : Bool) (e : JEdge) (next : Option JEdge) (pt : Pt) (je jn : JoinWith) :
    (joinRightDecision ccx far e next pt je jn).act ≠ .none ↔
      ∃ n, next = some n ∧ e.hot = true ∧ n.hot = true ∧ e.isOpen = false ∧ n.isOpen = false ∧
        e.top.y ≠ e.bot.y ∧ n.top.y ≠ n.bot.y ∧
        ((e.top.y + 2 ≤ pt.y ∧ n.top.y + 2 ≤ pt.y) ∨ (e.bot.y ≤ pt.y ∧ n.bot.y ≤ pt.y)) ∧
        (if ccx then far = false else e.currX = n.currX) ∧ cross e.top pt n.top = 0 := by
  cases next with
  | none => simp [joinRightDecision]
  | some n => rw [joinRight_some, act_ne_none_iff, passes_iff]; simp only [Option.some.injEq, exists_eq_left']

/-- both sides at once, plus what the call leaves behind: a join sets `join_with` to (`Left`, `Right`) resp. (`Right`, `Left`), keeps
the record with the smaller `idx` (`JoinOutrecPaths(keep, gone)`), and closes the ring when both edges are on one record; no join
leaves `join_with` alone -/
theorem join_requires (ccx far : Bool) (e nb : JEdge) (pt : Pt) (je jn : JoinWith) :
    let L := joinLeftDecision ccx far e (some nb) pt je jn
    let R := joinRightDecision ccx far e (some nb) pt je jn
    (L.act = .none ↔ R.act = .none) ∧ L.act = R.act ∧
    (L.act = .none → L.joinE = je ∧ L.joinNb = jn ∧ R.joinE = je ∧ R.joinNb = jn) ∧
    (L.act ≠ .none → L.joinE = .left ∧ L.joinNb = .right ∧ R.joinE = .right ∧ R.joinNb = .left ∧
      e.hot = true ∧ nb.hot = true ∧ e.isOpen = false ∧ nb.isOpen = false ∧ e.top.y ≠ e.bot.y ∧ nb.top.y ≠ nb.bot.y ∧
      cross e.top pt nb.top = 0 ∧
      L.act = (if e.idx = nb.idx then .sameRecordClose else if e.idx < nb.idx then .joinInto .e .nb else .joinInto .nb .e)) := by
  intro L R
  have hL : L = if passes ccx far e nb pt then ⟨idxAct e nb, .left, .right⟩ else ⟨.none, je, jn⟩ := joinLeft_some ..
  have hR : R = if passes ccx far e nb pt then ⟨idxAct e nb, .right, .left⟩ else ⟨.none, je, jn⟩ := joinRight_some ..
  rw [hL, hR]
  cases hp : passes ccx far e nb pt
  · simp
  · have := (passes_iff ccx far e nb pt).mp hp
    have hne := idxAct_ne_none e nb
    simp only [if_true, hne, ne_eq, not_false_eq_true, iff_self, true_and, false_imp_iff,
      true_imp_iff, this.1, this.2.1, this.2.2.1, this.2.2.2.1, this.2.2.2.2.1, this.2.2.2.2.2.1, this.2.2.2.2.2.2.2.2,
      not_false_eq_true]
    rfl

/-- `if (IsJoined(*e)) Split(*e, e->bot)` -/
theorem updateEdgeIntoAEL_m1 (j : JoinWith) (acts : Log) :
    Gen.UpdateEdgeIntoAEL.m1 j acts = acts ++ (if decide (j ≠ .noJoin) then [UpdateStep.split] else []).map stepLog := by
  cases j <;> simp [Gen.UpdateEdgeIntoAEL.m1, Gen.IsJoined, stepLog]

/-- `if (!IsOpen(*e)) TrimHorz(*e, preserve_collinear_)` -/
theorem updateEdgeIntoAEL_m2 (isOpen pc : Bool) (acts : Log) :
    Gen.UpdateEdgeIntoAEL.m2 isOpen acts pc = acts ++ (if isOpen then [] else [UpdateStep.trimHorz pc]).map stepLog := by
  cases isOpen <;> simp [Gen.UpdateEdgeIntoAEL.m2, Gen.IsOpen, stepLog]

/-- C++ `ClipperBase::UpdateEdgeIntoAEL` (whole function) = hand `Model.JoinCond.updateEdgeIntoAEL`: the new `bot`, `top`, `curr_x`,
and after `e_vertex_top := NextVertex(e)`, `SetDx(e)` the steps `Split` (if joined), then either `TrimHorz` (new edge horizontal and
closed) or `InsertScanline(top.y)`, `CheckJoinLeft(e, e->bot)`, `CheckJoinRight(e, e->bot, true)` — the two call sites with their
`check_curr_x` arguments (the seeded change C01a-m2 drops the `true`) -/
theorem updateEdgeIntoAEL_bridge (top nv bot : Pt) (j : JoinWith) (isOpen pc : Bool) :
    Gen.UpdateEdgeIntoAEL (e_NextVertex_pt_x := nv.x) (e_NextVertex_pt_y := nv.y) (e_bot_x := bot.x) (e_bot_y := bot.y)
      (e_join_with := j) (e_local_min_is_open := isOpen) (e_top_x := top.x) (e_top_y := top.y) (preserve_collinear_ := pc) =
    let r := updateEdgeIntoAEL top nv (decide (j ≠ .noJoin)) isOpen pc
    (r.bot.x, r.bot.y, r.currX, r.top.x, r.top.y,
      [("e_vertex_top := e_NextVertex", []), ("SetDx(e)", [])] ++ r.steps.map stepLog) := by
  simp only [Gen.UpdateEdgeIntoAEL, updateEdgeIntoAEL_m1, updateEdgeIntoAEL_m2, Gen.IsHorizontal, updateEdgeIntoAEL, List.map_append,
    decide_eq_true_eq]
  by_cases h : nv.y = top.y <;>
    simp only [h, if_true, if_false, List.map_cons, updateSites_log, stepLog, List.nil_append, List.cons_append, List.append_assoc]

/-- every call of `CheckJoinLeft` / `CheckJoinRight` in the source, with its edge, `pt` and `check_curr_x` argument, is an entry of
hand `Model.JoinCond.callSites` (the table `Model.JoinCond.explained` — the run-time check `JOINCOND` — draws `check_curr_x` from):
the generated fragments of `InsertLocalMinimaIntoAEL`, `ProcessIntersectList`, `DoHorizontal` log exactly these calls (for
`UpdateEdgeIntoAEL` see `updateEdgeIntoAEL_bridge`) -/
theorem joinCallSites_bridge :
    (callSites.filter (fun c => c.caller != "UpdateEdgeIntoAEL")).map siteLog =
      Gen.InsertLocalMinima_joinLeft ++ Gen.InsertLocalMinima_joinRight ++ Gen.ProcessIntersectList_joinLeft ++
        Gen.ProcessIntersectList_joinRight ++ Gen.DoHorizontal_joinLeft ++ Gen.DoHorizontal_joinRight := by
  decide +kernel

/-- what the table says about `check_curr_x`: with `pt = e->bot` the left check never uses it and the right check does in
`UpdateEdgeIntoAEL` only; at an intersection both use it; in `DoHorizontal` neither does -/
theorem siteFlags_table :
    siteFlags .left .botOfE = [false] ∧ siteFlags .right .botOfE = [false, true] ∧
    siteFlags .left .nodePt = [true] ∧ siteFlags .right .nodePt = [true] ∧
    siteFlags .left .horzPt = [false] ∧ siteFlags .right .horzPt = [false] := by decide

/-- a join the engine decides on is an event the side model accepts: for the adjacent edges `a` (left), `b` (right) of a model state
that agree with the `Active`s in `IsOpen` and `IsHotEdge`, `Model.joinS` does not `reject` (it may still report the fault
`joinSameSide` / `sidesEqual`, which is the model's statement about `JoinOutrecPaths` without a side test) -/
theorem joinS_accepts_decided (i : Nat) (s : SState) (a b : SEdge) (rest : List SEdge) (h : s.ael.drop i = a :: b :: rest)
    (ccx far : Bool) (e p : JEdge) (pt : Pt) (je jp : JoinWith)
    (hp : p.isOpen = a.e.isOpen ∧ p.hot = a.orec.isSome) (he : e.isOpen = b.e.isOpen ∧ e.hot = b.orec.isSome)
    (hd : (joinLeftDecision ccx far e (some p) pt je jp).act ≠ .none) : joinS i s ≠ .error .reject := by
  obtain ⟨q, hq, a1, a2, a3, a4, _⟩ := (joinLeft_requires ccx far e (some p) pt je jp).mp hd
  cases hq
  rw [hp.2] at a2; rw [he.2] at a1; rw [hp.1] at a4; rw [he.1] at a3
  cases ha : a.orec <;> cases hb : b.orec <;> simp [ha, hb] at a1 a2
  simp only [joinS, h, ha, hb, a3, a4, Bool.or_self, Bool.false_eq_true, if_false]
  split
  · simp
  · split <;> simp

/-- the action of the decision is the branch `Model.joinOut` takes (ring model): one record ⇒ `localMaxOut` (a point is added, the
ring is closed); two records ⇒ `joinPaths keep gone` with `keep` the smaller `idx`, no point added.  `a`, `b` = the left and right
edge with records `ra`, `rb`; for `CheckJoinLeft` the argument `e` is the right edge. -/
theorem joinOut_by_decision (i : Nat) (pt : Pt) (s : SState) (o : Out) (a b : SEdge) (rest : List SEdge) (ra rb : Rec)
    (h : s.ael.drop i = a :: b :: rest) (ha : a.orec = some ra) (hb : b.orec = some rb)
    (ccx far : Bool) (e p : JEdge) (je jp : JoinWith) (hie : e.idx = rb.id) (hip : p.idx = ra.id)
    (hd : (joinLeftDecision ccx far e (some p) pt je jp).act ≠ .none) :
    joinOut i pt s o =
      match (joinLeftDecision ccx far e (some p) pt je jp).act with
      | .sameRecordClose => localMaxOut .joinMeet ra rb pt o
      | .joinInto .e .nb => joinPaths rb.id ra.id rb.front (logSeg .joinSeam ra.id ra.front rb.id rb.front o)
      | .joinInto .nb .e => joinPaths ra.id rb.id ra.front (logSeg .joinSeam ra.id ra.front rb.id rb.front o)
      | _ => o := by
  have hact : (joinLeftDecision ccx far e (some p) pt je jp).act = idxAct e p := by
    rw [joinLeft_some] at hd ⊢
    cases hp : passes ccx far e p pt <;> simp [hp] at hd ⊢
  rw [hact, idxAct, hie, hip]
  unfold joinOut
  rw [h]
  simp only [ha, hb]
  by_cases h1 : ra.id = rb.id
  · simp [h1]
  · have h1' : rb.id ≠ ra.id := fun x => h1 x.symm
    by_cases h2 : ra.id < rb.id
    · have : ¬ rb.id < ra.id := by omega
      simp [h1, h1', h2, this]
    · have : rb.id < ra.id := by omega
      simp [h1, h1', h2, this]

/-- the hypotheses of `joinS_accepts_decided` / `joinOut_by_decision` hold for a concrete state: two closed hot edges on records 1 and 0
(back, front), coincident vertical `Active`s -/
example : joinS 0 ⟨[⟨⟨.subject, false, 1, 1, 0, true⟩, .none, some ⟨1, false⟩⟩, ⟨⟨.subject, false, -1, 1, 0, true⟩, .none, some ⟨0, true⟩⟩], 2⟩ ≠
    .error .reject :=
  joinS_accepts_decided 0 _ _ _ [] rfl false false ⟨true, false, ⟨5, 10⟩, ⟨5, 0⟩, 5, 0⟩ ⟨true, false, ⟨5, 10⟩, ⟨5, 2⟩, 5, 1⟩ ⟨5, 10⟩ .noJoin .noJoin
    ⟨rfl, rfl⟩ ⟨rfl, rfl⟩ (by decide)

/-- a join that happens: two coincident vertical edges on different records -/
example : joinLeftDecision false false ⟨true, false, ⟨5, 10⟩, ⟨5, 0⟩, 5, 3⟩ (some ⟨true, false, ⟨5, 10⟩, ⟨5, 2⟩, 5, 1⟩) ⟨5, 10⟩ .noJoin .noJoin =
    ⟨.joinInto .nb .e, .left, .right⟩ := by decide

/-- the term the seeded changes drop: a horizontal neighbour is never joined -/
example : (joinLeftDecision false false ⟨true, false, ⟨5, 10⟩, ⟨5, 0⟩, 5, 3⟩ (some ⟨true, false, ⟨5, 10⟩, ⟨9, 10⟩, 5, 1⟩) ⟨5, 10⟩ .noJoin .noJoin).act =
    .none := by decide

end Clipper.Props.Bridges

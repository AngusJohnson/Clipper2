/-
Bridge theorems (tie T, DESIGN.md §2.3), clipper.engine.cpp: the horizontal-join pass (`GetLastOp`, `SetHorzSegHeadingForward`, the
walks and the marking of `UpdateHorzSegment`, `HorzSegSorter`, `DuplicateOp`) against `Model/HorzJoins.lean`.
For every definition that `tools/cpp2lean.py` regenerates from the C++ source and that a hand-written model re-implements:
`generated = hand` for ALL arguments.  The generated side is re-created from /repo's current sources on every `./check`
run, so a change of the C++ function changes the left-hand side and the proof below stops compiling (the theorem named in
the error is the obligation that broke).

Conventions of the generated side (see the head of `tools/cpp2lean.py`): a record parameter is passed field by field
(`e_wind_cnt`), a pointer used as a truth value is the Boolean `…_nonnull`, pointers compared with each other are `Nat`
identities (`e_addr` = which record `e` is), a skeleton returns the scalar members it assigns followed by the log `acts` of
the untranslated calls / pointer assignments it performs (`location := record`; the names on the right denote the records the paths
led to when the function was entered).
Core Lean only.
-/
import ClipperVerif.Lemmas.BridgesHorz
import ClipperVerif.Lemmas.HorzJoins
namespace Clipper.Props.Bridges
open Clipper Clipper.Model Clipper.Model.HorzJoins Clipper.Lemmas.Bridges

/-- C++ `GetLastOp(hot_edge)` = hand `Model.HorzJoins.getLastOp`: on a heap where record `ri` has `pts = p` and `p->next = nx`, with `a` the
identity of the edge and `fe` that of `outrec->front_edge`, the model (given `isFront = (&hot_edge == outrec->front_edge)`) returns the
`OutPt` the generated definition selects: `pts` for the front edge, `pts->next` otherwise (the seeded change C02-m2 inverts the test) -/
theorem getLastOp_bridge (H : Heap) (ri p : Nat) (r : ORec) (n : Node) (a fe : Nat)
    (hr : H.orec ri = .ok r) (hp : r.pts = some p) (hn : H.node p = .ok n) :
    getLastOp H ri (decide (a = fe)) =
      .ok (Gen.GetLastOp (hot_edge_addr := a) (hot_edge_outrec_front_edge := fe) (hot_edge_outrec_pts := p)
        (hot_edge_outrec_pts_next := n.next)) := by
  by_cases h : a = fe <;> simp [getLastOp, Gen.GetLastOp, hr, hp, stepOp, hn, h]

/-- non-vacuity: a two-node ring -/
example : getLastOp ⟨#[⟨⟨0, 0⟩, 1, 1, 0, false⟩, ⟨⟨5, 0⟩, 0, 0, 0, false⟩], #[{ pts := some 0 }]⟩ 0 (decide (7 = 8)) =
    .ok (Gen.GetLastOp 7 8 0 1) := by
  simp [getLastOp, Heap.orec, Heap.node, stepOp, Gen.GetLastOp]

/-- C++ `SetHorzSegHeadingForward(hs, opP, opN)` = hand `Model.HorzJoins.setHeading`: return value, `left_to_right`, and which of
`opP`, `opN` becomes `left_op` / `right_op` (`xP = opP->pt.x`, `xN = opN->pt.x`) -/
theorem setHeading_bridge (hs : HorzSeg) (opP opN : Nat) (xP xN : Int) :
    let g := Gen.SetHorzSegHeadingForward (hs_left_to_right := hs.ltr) (opN_pt_x := xN) (opP_pt_x := xP)
    let m := setHeading hs opP opN xP xN
    g.1 = m.2 ∧ g.2.1 = m.1.ltr ∧
    g.2.2 = (if xP = xN then [] else if xP < xN then [("hs_left_op := opP", []), ("hs_right_op := opN", [])]
             else [("hs_left_op := opN", []), ("hs_right_op := opP", [])]) ∧
    m.1.leftOp = (if xP = xN then hs.leftOp else if xP < xN then opP else opN) ∧
    m.1.rightOp = (if xP = xN then hs.rightOp else if xP < xN then some opN else some opP) := by
  by_cases h1 : xP = xN <;> by_cases h2 : xP < xN <;> simp [Gen.SetHorzSegHeadingForward, setHeading, h1, h2]

/-- one test of `while (opP != opZ && opP->prev->pt.y == curr_y) opP = opP->prev;` (the record still has edges) is one step of hand
`Model.HorzJoins.walk` as `runEnds` instantiates it -/
theorem runEnds_walkP1_bridge (H : Heap) (y : Int) (opZ cur nx f : Nat) (nn : Node)
    (hs : stepOp H false cur = .ok nx) (hn : H.node nx = .ok nn) :
    walk H false (fun c => c == opZ) (fun _ m => m.pt.y == y) (f + 1) cur =
      if Gen.UpdateHorzSegment_condP1 (curr_y := y) (opP_addr := cur) (opP_prev_pt_y := nn.pt.y) (opZ_addr := opZ)
      then walk H false (fun c => c == opZ) (fun _ m => m.pt.y == y) f nx else .ok cur := by
  rw [walk_succ H _ _ _ f cur nx nn hs hn]; simp [Gen.UpdateHorzSegment_condP1]

/-- … `while (opN != opA && opN->next->pt.y == curr_y) opN = opN->next;` -/
theorem runEnds_walkN1_bridge (H : Heap) (y : Int) (opA cur nx f : Nat) (nn : Node)
    (hs : stepOp H true cur = .ok nx) (hn : H.node nx = .ok nn) :
    walk H true (fun c => c == opA) (fun _ m => m.pt.y == y) (f + 1) cur =
      if Gen.UpdateHorzSegment_condN1 (curr_y := y) (opA_addr := opA) (opN_addr := cur) (opN_next_pt_y := nn.pt.y)
      then walk H true (fun c => c == opA) (fun _ m => m.pt.y == y) f nx else .ok cur := by
  rw [walk_succ H _ _ _ f cur nx nn hs hn]; simp [Gen.UpdateHorzSegment_condN1]

/-- … `while (opP->prev != opN && opP->prev->pt.y == curr_y) opP = opP->prev;` (a finished ring; `opN` is still `op`) -/
theorem runEnds_walkP2_bridge (H : Heap) (y : Int) (op cur nx f : Nat) (nn : Node)
    (hs : stepOp H false cur = .ok nx) (hn : H.node nx = .ok nn) :
    walk H false (fun _ => false) (fun x m => x != op && m.pt.y == y) (f + 1) cur =
      if Gen.UpdateHorzSegment_condP2 (curr_y := y) (opN_addr := op) (opP_prev := nx) (opP_prev_pt_y := nn.pt.y)
      then walk H false (fun _ => false) (fun x m => x != op && m.pt.y == y) f nx else .ok cur := by
  rw [walk_succ H _ _ _ f cur nx nn hs hn]; simp [Gen.UpdateHorzSegment_condP2, bne]

/-- … `while (opN->next != opP && opN->next->pt.y == curr_y) opN = opN->next;` -/
theorem runEnds_walkN2_bridge (H : Heap) (y : Int) (opP cur nx f : Nat) (nn : Node)
    (hs : stepOp H true cur = .ok nx) (hn : H.node nx = .ok nn) :
    walk H true (fun _ => false) (fun x m => x != opP && m.pt.y == y) (f + 1) cur =
      if Gen.UpdateHorzSegment_condN2 (curr_y := y) (opN_next := nx) (opN_next_pt_y := nn.pt.y) (opP_addr := opP)
      then walk H true (fun _ => false) (fun x m => x != opP && m.pt.y == y) f nx else .ok cur := by
  rw [walk_succ H _ _ _ f cur nx nn hs hn]; simp [Gen.UpdateHorzSegment_condN2, bne]

/-- non-vacuity of the hypotheses of the four walk bridges (and of `markSegment_bridge`): node 0 of a two-node ring -/
example : let H : Heap := ⟨#[⟨⟨0, 0⟩, 1, 1, 0, false⟩, ⟨⟨5, 0⟩, 0, 0, 0, false⟩], #[{ pts := some 0 }]⟩
    stepOp H false 0 = .ok 1 ∧ stepOp H true 0 = .ok 1 ∧ H.node 1 = .ok ⟨⟨5, 0⟩, 0, 0, 0, false⟩ := by
  simp [stepOp, Heap.node]

/-- `bool result = SetHorzSegHeadingForward(…) && !hs.left_op->horz; if (result) hs.left_op->horz = &hs; else hs.right_op = nullptr;`
= hand `Model.HorzJoins.markSegment` (`ok` = what `SetHorzSegHeadingForward` returned, `nL` = `*hs.left_op` afterwards): the second
conjunct is the generated `UpdateHorzSegment_unmarked`, the branch taken and what it assigns the generated `UpdateHorzSegment_mark`.
(The `&&` itself joins a call of a skeleton with this conjunct and is not translated.) -/
theorem markSegment_bridge (H : Heap) (hs : HorzSeg) (ok : Bool) (nL : Node) (hn : H.node hs.leftOp = .ok nL) :
    let result := ok && Gen.UpdateHorzSegment_unmarked (hs_left_op_horz_nonnull := nL.horz)
    Gen.UpdateHorzSegment_mark result = [(if result then "hs_left_op_horz := hs" else "hs_right_op := nullptr", [])] ∧
    markSegment H hs ok =
      (if result then (H.updNode hs.leftOp (fun x => { x with horz := true })).map (fun H1 => (H1, hs, true))
       else .ok (H, { hs with rightOp := none }, false)) := by
  cases ok <;> cases h : nL.horz <;>
    simp [Gen.UpdateHorzSegment_unmarked, Gen.UpdateHorzSegment_mark, markSegment, hn, h, Except.map] <;>
    (split <;> simp_all)

/-- the order `std::stable_sort(…, HorzSegSorter())` sorts by in hand `Model.HorzJoins.sortSegs` IS the generated comparator (the model
calls it; nothing is re-implemented): a segment without `right_op` sorts after every segment with one, otherwise by `left_op->pt.x` -/
theorem horzSegSorter_bridge (a b : HorzSeg × Int) :
    segBefore a b =
      Gen.HorzSegSorter (hs1_left_op_pt_x := a.2) (hs1_right_op_nonnull := a.1.rightOp.isSome)
        (hs2_left_op_pt_x := b.2) (hs2_right_op_nonnull := b.1.rightOp.isSome) ∧
    segBefore a b = (if a.1.rightOp.isNone || b.1.rightOp.isNone then a.1.rightOp.isSome else decide (a.2 < b.2)) := by
  refine ⟨rfl, ?_⟩
  cases h1 : a.1.rightOp <;> cases h2 : b.1.rightOp <;> simp [segBefore, Gen.HorzSegSorter, h1, h2]

/-- C++ `DuplicateOp(op, insert_after)`: the four pointer assignments of either branch, in order, as hand `Model.HorzJoins.duplicateOp`
performs them (`insert_after`: the new node gets `next = op->next`, `prev = op`; `op->next->prev` and `op->next` become the new node;
otherwise mirrored) -/
theorem duplicateOp_log_bridge (ia : Bool) (ra : Nat) :
    Gen.DuplicateOp (insert_after := ia) (result_addr := ra) =
      (ra, ("result := new OutPt", []) ::
        (if ia then [("result_next := op_next", []), ("op_next_prev := result", []), ("result_prev := op", []), ("op_next := result", [])]
         else [("result_prev := op_prev", []), ("op_prev_next := result", []), ("result_next := op", []), ("op_prev := result", [])])) := by
  cases ia <;> rfl

/-- writing two fields of a freshly pushed cell in between two writes to old cells = pushing the cell with the two fields set
(the writes hit different cells, so their order does not matter) -/
theorem modify_pushed {α : Type} (ops : Array α) (nd : α) (a b : Nat) (ha : a < ops.size) (hb : b < ops.size) (u v f g : α → α) :
    ((((ops.push nd).modify ops.size u).modify a f).modify ops.size v).modify b g =
      ((ops.push (v (u nd))).modify a f).modify b g := by
  apply Array.ext
  · simp
  · intro i hi1 hi2
    simp only [Array.getElem_modify, Array.getElem_push]
    rcases Nat.lt_or_ge i ops.size with hlt | hge
    · have hne : ops.size ≠ i := by omega
      by_cases ho : b = i <;> by_cases hp : a = i <;> simp [ho, hp, hne, hlt]
    · simp only [Array.size_modify, Array.size_push] at hi1
      have hi : ops.size = i := by omega
      have e1 : b ≠ i := by omega
      have e2 : a ≠ i := by omega
      have e3 : ¬ i < ops.size := by omega
      simp [e1, e2, hi]

/-- C++ `DuplicateOp(op, insert_after)` = hand `Model.HorzJoins.duplicateOp`, semantically: EXECUTING the log of the generated skeleton
(`Lemmas.Bridges.runDupLog`: `new OutPt` allocates a self-linked node as the constructor leaves it, then each `location := record` is one
write of a `next` / `prev` field, the names resolved on the heap at entry as the translator defines them) yields exactly the heap and the new
node the hand model returns — for every heap in which `op` and its two neighbours exist.  (Without `hnext` / `hprev` the hand model and the
C++ order of writes differ only if `op->next` is the very cell `new` returns, which no C++ heap can contain.) -/
theorem duplicateOp_bridge (H : Heap) (op : Nat) (ia : Bool) (n : Node) (hn : H.node op = .ok n)
    (hnext : n.next < H.ops.size) (hprev : n.prev < H.ops.size) :
    runDupLog H op (Gen.DuplicateOp (insert_after := ia) (result_addr := H.ops.size)).2 = duplicateOp H op ia := by
  have hop : op < H.ops.size := by
    unfold Heap.node at hn
    by_cases h : op < H.ops.size
    · exact h
    · simp [Array.getElem?_eq_none (Nat.le_of_not_lt h)] at hn
  have h1 : n.next < H.ops.size + 1 := Nat.lt_succ_of_lt hnext
  have h2 : n.prev < H.ops.size + 1 := Nat.lt_succ_of_lt hprev
  have h3 : op < H.ops.size + 1 := Nat.lt_succ_of_lt hop
  rw [duplicateOp_log_bridge]
  cases ia
  · simp only [runDupLog, hn, duplicateOp, runAssigns, dupAssign, setLink, Heap.updNode, Array.size_push, Array.size_modify,
      h1, h2, h3, if_true, Nat.lt_succ_self, Bool.false_eq_true, if_false]
    exact congrArg (fun a => (Except.ok (({ ops := a, recs := H.recs } : Heap), H.ops.size) : R (Heap × Nat)))
      (modify_pushed H.ops _ n.prev op hprev hop _ _ _ _)
  · simp only [runDupLog, hn, duplicateOp, runAssigns, dupAssign, setLink, Heap.updNode, Array.size_push, Array.size_modify,
      h1, h2, h3, if_true, Nat.lt_succ_self]
    exact congrArg (fun a => (Except.ok (({ ops := a, recs := H.recs } : Heap), H.ops.size) : R (Heap × Nat)))
      (modify_pushed H.ops _ n.next op hnext hop _ _ _ _)

/-- non-vacuity: node 0 of a two-node ring satisfies the hypotheses -/
example : let H : Heap := ⟨#[⟨⟨0, 0⟩, 1, 1, 0, false⟩, ⟨⟨5, 0⟩, 0, 0, 0, false⟩], #[{ pts := some 0 }]⟩
    H.node 0 = .ok ⟨⟨0, 0⟩, 1, 1, 0, false⟩ ∧ (1 : Nat) < H.ops.size := by
  simp [Heap.node]

end Clipper.Props.Bridges

/-
Bridge theorems (tie T, DESIGN.md §2.3), clipper.engine.cpp (`IsMaxima`, `IsOpenEnd` on `VertexFlags`) against `Model/AddPathsRings.lean`.
`generated = hand` for all arguments; the generated side is re-created from /repo's current sources on every `./check` run, so a
change of the C++ function breaks the proof below.  Conventions of the generated side: head of `tools/cpp2lean.py`.
Core Lean only.
-/
import ClipperVerif.Lemmas.Bridges
import ClipperVerif.Generated.Engine
import ClipperVerif.Model.AddPathsRings
namespace Clipper.Props.Bridges
open Clipper Clipper.Model Clipper.Lemmas.Bridges

open Clipper.Model.AddPathsRings in
/-- C++ `IsMaxima(const Vertex&)` on the `uint32_t` value of hand `AddPathsRings.VFlags` -/
theorem isMaximaV_bridge (f : VFlags) : Gen.IsMaximaV (v_flags := UInt64.ofNat f.bits) = f.localMax := by
  rcases f with ⟨a, b, c, d⟩
  cases a <;> cases b <;> cases c <;> cases d <;> decide

open Clipper.Model.AddPathsRings in
/-- C++ `IsOpenEnd(const Vertex&)` on the `uint32_t` value of hand `AddPathsRings.VFlags` -/
theorem isOpenEndV_bridge (f : VFlags) : Gen.IsOpenEndV (v_flags := UInt64.ofNat f.bits) = (f.openStart || f.openEnd) := by
  rcases f with ⟨a, b, c, d⟩
  cases a <;> cases b <;> cases c <;> cases d <;> decide

end Clipper.Props.Bridges

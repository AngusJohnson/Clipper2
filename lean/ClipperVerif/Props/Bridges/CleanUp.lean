/-
Bridge theorems (tie T, DESIGN.md §2.3), clipper.engine.cpp (`IsVerySmallTriangle`, `IsValidClosedPath`, `BuildPath64`, `TrimHorz`) against `Model/CleanUp.lean`, `Model/TrimHorz.lean`.
For every definition that `tools/cpp2lean.py` regenerates from the C++ source and that a hand-written model re-implements:
`generated = hand` for ALL arguments.  The generated side is re-created from /repo's current sources on every `./check`
run, so a change of the C++ function changes the left-hand side and the proof below stops compiling (the theorem named in
the error is the obligation that broke).

Conventions of the generated side (see the head of `tools/cpp2lean.py`): a record parameter is passed field by field
(`e_wind_cnt`), a pointer used as a truth value is the Boolean `…_nonnull`, pointers compared with each other are `Nat`
identities (`e_addr` = which record `e` is), a skeleton returns the scalar members it assigns followed by the log `acts` of
the untranslated calls / pointer assignments it performs, a value read after an untranslated call that may have assigned
it is a separate argument `…_after<k>`.
Core Lean only.
-/
import ClipperVerif.Lemmas.Bridges
import ClipperVerif.Generated.Engine
import ClipperVerif.Model.CleanUp
import ClipperVerif.Model.TrimHorz
namespace Clipper.Props.Bridges
open Clipper Clipper.Model Clipper.Lemmas.Bridges

section CleanUp
open Clipper.Model.CleanUp

/-! Rings: node `i` of a ring of `n` nodes has identity `i + 1` (0 is nullptr); `op` is node 0, `next` is `(i + 1) % n`, `prev` is `(i + n - 1) % n` -/

/-- C++ `IsVerySmallTriangle(op)` = hand `Model.CleanUp.isVerySmallTriangle`, ring of one node -/
theorem isVerySmallTriangle_one_bridge (op : Pt) :
    isVerySmallTriangle [op] =
      Gen.IsVerySmallTriangle (op_next_next := 1) (op_prev := 1) (op_next_pt_x := op.x) (op_next_pt_y := op.y)
        (op_prev_pt_x := op.x) (op_prev_pt_y := op.y) (op_pt_x := op.x) (op_pt_y := op.y) := by
  simp [isVerySmallTriangle, Gen.IsVerySmallTriangle, Gen.PtsReallyClose, Gen.iabs]

/-- … ring of two nodes -/
theorem isVerySmallTriangle_two_bridge (op nx : Pt) :
    isVerySmallTriangle [op, nx] =
      Gen.IsVerySmallTriangle (op_next_next := 1) (op_prev := 2) (op_next_pt_x := nx.x) (op_next_pt_y := nx.y)
        (op_prev_pt_x := nx.x) (op_prev_pt_y := nx.y) (op_pt_x := op.x) (op_pt_y := op.y) := by
  simp [isVerySmallTriangle, Gen.IsVerySmallTriangle]

/-- … ring of three nodes -/
theorem isVerySmallTriangle_three_bridge (op nx pv : Pt) :
    isVerySmallTriangle [op, nx, pv] =
      Gen.IsVerySmallTriangle (op_next_next := 3) (op_prev := 3) (op_next_pt_x := nx.x) (op_next_pt_y := nx.y)
        (op_prev_pt_x := pv.x) (op_prev_pt_y := pv.y) (op_pt_x := op.x) (op_pt_y := op.y) := by
  simp [isVerySmallTriangle, Gen.IsVerySmallTriangle, ptsReallyClose]

/-- … ring of four or more nodes (`op.next->next` is node 2, `op.prev` the last node) -/
theorem isVerySmallTriangle_many_bridge (op nx nn q : Pt) (rest : List Pt) (pv : Pt) :
    isVerySmallTriangle (op :: nx :: nn :: q :: rest) =
      Gen.IsVerySmallTriangle (op_next_next := 3) (op_prev := rest.length + 4) (op_next_pt_x := nx.x) (op_next_pt_y := nx.y)
        (op_prev_pt_x := pv.x) (op_prev_pt_y := pv.y) (op_pt_x := op.x) (op_pt_y := op.y) := by
  simp [isVerySmallTriangle, Gen.IsVerySmallTriangle]

/-- `IsValidClosedPath(op)` for a null pointer -/
theorem isValidClosedPath_nil_bridge (a n nn p : Nat) (x1 y1 x2 y2 x3 y3 : Int) :
    isValidClosedPath [] =
      Gen.IsValidClosedPath (op_addr := a) (op_next := n) (op_next_next := nn) (op_next_pt_x := x1) (op_next_pt_y := y1)
        (op_nonnull := false) (op_prev := p) (op_prev_pt_x := x2) (op_prev_pt_y := y2) (op_pt_x := x3) (op_pt_y := y3) := by
  simp [isValidClosedPath, Gen.IsValidClosedPath]

/-- C++ `IsValidClosedPath(op)` = hand `Model.CleanUp.isValidClosedPath`, ring of one node -/
theorem isValidClosedPath_one_bridge (op : Pt) :
    isValidClosedPath [op] =
      Gen.IsValidClosedPath (op_addr := 1) (op_next := 1) (op_next_next := 1) (op_next_pt_x := op.x) (op_next_pt_y := op.y)
        (op_nonnull := true) (op_prev := 1) (op_prev_pt_x := op.x) (op_prev_pt_y := op.y) (op_pt_x := op.x) (op_pt_y := op.y) := by
  simp [isValidClosedPath, Gen.IsValidClosedPath]

/-- … ring of two nodes -/
theorem isValidClosedPath_two_bridge (op nx : Pt) :
    isValidClosedPath [op, nx] =
      Gen.IsValidClosedPath (op_addr := 1) (op_next := 2) (op_next_next := 1) (op_next_pt_x := nx.x) (op_next_pt_y := nx.y)
        (op_nonnull := true) (op_prev := 2) (op_prev_pt_x := nx.x) (op_prev_pt_y := nx.y) (op_pt_x := op.x) (op_pt_y := op.y) := by
  simp [isValidClosedPath, Gen.IsValidClosedPath]

/-- … ring of three nodes -/
theorem isValidClosedPath_three_bridge (op nx pv : Pt) :
    isValidClosedPath [op, nx, pv] =
      Gen.IsValidClosedPath (op_addr := 1) (op_next := 2) (op_next_next := 3) (op_next_pt_x := nx.x) (op_next_pt_y := nx.y)
        (op_nonnull := true) (op_prev := 3) (op_prev_pt_x := pv.x) (op_prev_pt_y := pv.y) (op_pt_x := op.x) (op_pt_y := op.y) := by
  simp [isValidClosedPath, isVerySmallTriangle, Gen.IsValidClosedPath, Gen.IsVerySmallTriangle, ptsReallyClose]

/-- … ring of four or more nodes -/
theorem isValidClosedPath_many_bridge (op nx nn q : Pt) (rest : List Pt) (pv : Pt) :
    isValidClosedPath (op :: nx :: nn :: q :: rest) =
      Gen.IsValidClosedPath (op_addr := 1) (op_next := 2) (op_next_next := 3) (op_next_pt_x := nx.x) (op_next_pt_y := nx.y)
        (op_nonnull := true) (op_prev := rest.length + 4) (op_prev_pt_x := pv.x) (op_prev_pt_y := pv.y) (op_pt_x := op.x) (op_pt_y := op.y) := by
  simp [isValidClosedPath, isVerySmallTriangle, Gen.IsValidClosedPath, Gen.IsVerySmallTriangle]

/-- the guard of `BuildPath64` against the first three cases of hand `buildPath64` -/
theorem buildPath64_guard_bridge (ring : Ring) (reverse isOpen : Bool) (a n p : Nat) (nn : Bool)
    (h0 : ring = [] → nn = false)
    (h1 : ring ≠ [] → nn = true ∧ a = 1 ∧ n = (if ring.length = 1 then 1 else 2) ∧ p = ring.length) :
    Gen.BuildPath64_guard (isOpen := isOpen) (op_addr := a) (op_next := n) (op_nonnull := nn) (op_prev := p) = true →
      buildPath64 ring reverse isOpen = none := by
  intro hg
  match ring, h0, h1 with
  | [], h0, _ => rfl
  | [_], _, _ => rfl
  | op :: q :: rest, _, h1 =>
    obtain ⟨hnn, ha, hn, hp⟩ := h1 (by simp)
    subst hnn ha hn hp
    simp [Gen.BuildPath64_guard] at hg
    cases rest with
    | nil => simp [buildPath64, hg]
    | cons r rs => simp at hg
/-- C++ `CleanCollinear`, the removal test of its loop (`IsCollinear(prev, op2, next) && (op2 == prev || op2 == next ||
!preserve_collinear_ || DotProduct(prev, op2, next) < 0)`) = hand `Model.CleanUp.removable`; the `double` `DotProduct` is the hand
model's integer `dot` (only its sign is used, and only for collinear points, where it is exact: see `Model/CleanUp.lean`) -/
theorem removable_bridge (pc : Bool) (prev cur next : Pt) :
    Gen.CleanCollinear_removable (D := Int) (DotProduct := fun a b c d e f => dot ⟨a, b⟩ ⟨c, d⟩ ⟨e, f⟩)
      (op2_prev_pt_x := prev.x) (op2_prev_pt_y := prev.y) (op2_pt_x := cur.x) (op2_pt_y := cur.y)
      (op2_next_pt_x := next.x) (op2_next_pt_y := next.y) (preserve_collinear_ := pc) = removable pc prev cur next := by
  simp [Gen.CleanCollinear_removable, removable, isCollinear, pt_beq]
  -- `==` on `Pt` is `decide (· = ·)`
  rfl

end CleanUp

open Clipper.Model.TrimHorz in
/-- C++ `TrimHorz`: the `while` condition and the `if (preserveCollinear && …) break;` test are the two tests of hand
`Model.TrimHorz.loop` -/
theorem trimHorz_loop_bridge (pc : Bool) (botX topX topY : Int) (adv : Nat) (v : V) (rest : List V) :
    loop pc botX topX topY adv (v :: rest) =
      if !Gen.TrimHorz_cond (horzEdge_top_y := topY) (pt_y := v.y) then ⟨topX, topY, adv, false⟩
      else if Gen.TrimHorz_break (preserveCollinear := pc) (horzEdge_bot_x := botX) (horzEdge_top_x := topX) (pt_x := v.x)
        then ⟨topX, topY, adv, false⟩
      else if v.isMax then ⟨v.x, v.y, adv + 1, false⟩
      else loop pc botX v.x v.y (adv + 1) rest := by
  -- the same chain of tests once they are spelt alike
  simp only [loop, Gen.TrimHorz_cond, Gen.TrimHorz_break, bool_int_ne, Bool.decide_eq_true, Bool.not_eq_true',
    decide_eq_false_iff_not, ne_eq]

end Clipper.Props.Bridges

/-
Bridge theorems (tie T, DESIGN.md §2.3), clipper.engine.cpp: the DECISIONS of the ring surgery — `AddOutPt` (which end, the duplicate
tests), `JoinOutrecPaths` (the `IsFront(e1)` branch, which record survives, which edge is handed over), `StartOpenPath`, `SetSides`,
the open branch of `AddLocalMinPoly` — against `Model/AelRings.lean`, `Model/AelSides.lean`, `Model/AelOpenRings.lean`.
For every definition that `tools/cpp2lean.py` regenerates from the C++ source and that a hand-written model re-implements:
`generated = hand` for ALL arguments.  The generated side is re-created from /repo's current sources on every `./check`
run, so a change of the C++ function changes the left-hand side and the proof below stops compiling (the theorem named in
the error is the obligation that broke).

Conventions of the generated side (see the head of `tools/cpp2lean.py`): a record parameter is passed field by field, a pointer used
as a truth value is the Boolean `…_nonnull`, pointers compared with each other are `Nat` identities (`e_addr` = which record `e` is), a
skeleton returns the C++ return value (a pointer: the identity of the record), the scalar members it assigns, and the log `acts` of
untranslated calls and pointer assignments `location := record` (names on the right: the records the paths led to on entry).
The pointer assignments themselves stay tied by correspondence (`AELRINGS`, every ring of the real engine compared point by point);
what is proved here is that the hand models branch on the same tests and pick the same end / record / edge as the source.
Core Lean only.
-/
import ClipperVerif.Lemmas.Bridges
import ClipperVerif.Generated.Engine
import ClipperVerif.Lemmas.AelRings
import ClipperVerif.Model.AelOpenRings
namespace Clipper.Props.Bridges
open Clipper Clipper.Model Clipper.Lemmas.Bridges

/-- C++ `ClipperBase::AddOutPt(e, pt)` = hand `Model.addPt`, on a ring with at least one point: `fp` = `op_front->pt` (the head of the
model's list, which is read from `outrec->pts` following `->prev`), `bp` = `op_back->pt` (its last element), `F`, `B`, `N` the identities of
`op_front`, `op_back` and of the `OutPt` that `new` returns.  `to_front = IsFront(e)`; with `to_front` ONLY `op_front->pt` is compared with
`pt`, otherwise ONLY `op_back->pt` (the seeded change C02b-m2 compares `op_back->pt` first in both cases); a duplicate returns the existing
end and writes nothing; otherwise the new node is linked between `op_front` and `op_back` and `outrec->pts` moves to it exactly when
`to_front` — in the model `pt :: pts` resp. `pts ++ [pt]`. -/
theorem addOutPt_bridge (a fe F B N : Nat) (pt : Pt) (r : Ring) (fp bp : Pt) (hf : r.pts.head? = some fp) (hb : r.pts.getLast? = some bp) :
    let front := decide (a = fe)
    Gen.AddOutPt (e_addr := a) (e_outrec_front_edge := fe) (e_outrec_pts := F) (e_outrec_pts_next := B)
      (e_outrec_pts_next_pt_x := bp.x) (e_outrec_pts_next_pt_y := bp.y) (e_outrec_pts_pt_x := fp.x) (e_outrec_pts_pt_y := fp.y)
      (new_op_addr := N) (pt_x := pt.x) (pt_y := pt.y) =
    (match (addPt front pt r).2.1 with
      | .dup => (if front then F else B, [])
      | _ => (N, [("new_op := new OutPt", []), ("e_outrec_pts_next_prev := new_op", []), ("new_op_prev := e_outrec_pts", []),
                  ("new_op_next := e_outrec_pts_next", []), ("e_outrec_pts_next := new_op", [])] ++
                 (if front then [("e_outrec_pts := new_op", [])] else []))) ∧
    (addPt front pt r).1.pts =
      (match (addPt front pt r).2.1 with | .dup => r.pts | _ => if front then pt :: r.pts else r.pts ++ [pt]) := by
  by_cases h : a = fe
  · by_cases h2 : pt = fp <;>
      simp [Gen.AddOutPt, Gen.AddOutPt.m1, Gen.IsFront, addPt, endPt, Ring.setLast, hf, h, pt_beq, h2]
  · by_cases h2 : pt = bp <;>
      simp [Gen.AddOutPt, Gen.AddOutPt.m1, Gen.IsFront, addPt, endPt, Ring.setLast, hb, h, pt_beq, h2]

/-- non-vacuity of the hypotheses of `addOutPt_bridge` -/
example : ([⟨0, 0⟩, ⟨1, 1⟩] : List Pt).head? = some ⟨0, 0⟩ ∧ ([⟨0, 0⟩, ⟨1, 1⟩] : List Pt).getLast? = some ⟨1, 1⟩ := ⟨rfl, rfl⟩

/-- non-vacuity: adding to the back of a two-point ring -/
example : (addPt false ⟨3, 3⟩ ⟨[⟨0, 0⟩, ⟨1, 1⟩], .live, 0, 1, ⟨0, 0⟩, ⟨1, 1⟩⟩).1.pts = [⟨0, 0⟩, ⟨1, 1⟩, ⟨3, 3⟩] := by decide

/-- C++ `ClipperBase::JoinOutrecPaths(e1, e2)` for closed paths (`e1` is not an open end): everything depends on ONE test,
`f = IsFront(e1)`.
* `f`: the ring of `e2` is linked in FRONT of the ring of `e1` and `e1.outrec->pts` moves to `p2_st`; `e1.outrec` takes over
  `e2.outrec->front_edge`, and that edge (if any) is re-pointed to `e1.outrec`;
* `¬f`: the ring of `e2` is linked BEHIND, `pts` stays; `e1.outrec` takes over `e2.outrec->back_edge`, which is re-pointed.
Then `e2.outrec` is emptied (`front_edge`, `back_edge`, `pts` null), `SetOwner(e2.outrec, e1.outrec)`, and both edges lose their record.
`fnn`, `bnn` = `e2.outrec->front_edge` / `->back_edge` is non-null. -/
theorem joinOutrecPaths_bridge (a fe : Nat) (flags : UInt64) (fnn bnn : Bool)
    (hc : Gen.IsOpenEnd (ae_vertex_top_flags := flags) = false) :
    Gen.JoinOutrecPaths (e1_addr := a) (e1_outrec_front_edge := fe) (e1_vertex_top_flags := flags)
      (e2_outrec_back_edge_nonnull := bnn) (e2_outrec_front_edge_nonnull := fnn) =
    (if decide (a = fe) then
      [("e2_outrec_pts_next_prev := e1_outrec_pts", []), ("e1_outrec_pts_next := e2_outrec_pts_next", []),
       ("e2_outrec_pts_next := e1_outrec_pts_next", []), ("e1_outrec_pts_next_prev := e2_outrec_pts", []),
       ("e1_outrec_pts := e2_outrec_pts", []), ("e1_outrec_front_edge := e2_outrec_front_edge", [])] ++
      (if fnn then [("e2_outrec_front_edge_outrec := e1_outrec", [])] else [])
     else
      [("e1_outrec_pts_next_prev := e2_outrec_pts", []), ("e2_outrec_pts_next := e1_outrec_pts_next", []),
       ("e1_outrec_pts_next := e2_outrec_pts_next", []), ("e2_outrec_pts_next_prev := e1_outrec_pts", []),
       ("e1_outrec_back_edge := e2_outrec_back_edge", [])] ++
      (if bnn then [("e2_outrec_back_edge_outrec := e1_outrec", [])] else [])) ++
    [("e2_outrec_front_edge := nullptr", []), ("e2_outrec_back_edge := nullptr", []), ("e2_outrec_pts := nullptr", []),
     ("SetOwner(e2_outrec,e1_outrec)", []), ("e1_outrec := nullptr", []), ("e2_outrec := nullptr", [])] := by
  -- once `IsOpenEnd` is known, both sides are closed terms in three Booleans: evaluate all eight cases
  simp only [Gen.JoinOutrecPaths, Gen.IsFront, hc]
  generalize decide (a = fe) = f
  cases f <;> cases fnn <;> cases bnn <;> rfl

/-- non-vacuity: a vertex without flags is not an open end -/
example : Gen.IsOpenEnd (ae_vertex_top_flags := 0) = false := by decide

/-- … and hand `Model.joinPaths A B f` branches on the same test the same way: with `f` the points of ring `B` come first and the
front run / last front point of `B` are inherited (`front_edge` taken over), otherwise they come last and the back run is inherited;
ring `B` is emptied and marked `gone`; the first point of the list (`outrec->pts`) changes exactly when `f` -/
theorem joinPaths_by_front (A B : Nat) (f : Bool) (o : Out) (ra rb : Ring) (hA : o.rings[A]? = some ra) (hB : o.rings[B]? = some rb)
    (hne : A ≠ B) (hla : ra.stat = .live) (hlb : rb.stat = .live) :
    (joinPaths A B f o).rings[A]? =
      some (if f then { ra with pts := rb.pts ++ ra.pts, frun := rb.frun, flast := rb.flast }
            else { ra with pts := ra.pts ++ rb.pts, brun := rb.brun, blast := rb.blast }) ∧
    (joinPaths A B f o).rings[B]? = some { rb with pts := [], stat := .gone } := by
  rw [joinPaths_of_live A B f o ra rb hA hB hne hla hlb]
  exact ⟨by rw [List.getElem?_set_ne (Ne.symm hne), List.getElem?_set_self (lt_of_get hA)]; rfl,
    List.getElem?_set_self (by rw [List.length_set]; exact lt_of_get hB)⟩

/-- non-vacuity of `joinPaths_by_front`: two live rings, `JoinOutrecPaths(e1, e2)` with `e1` the front edge of record 0 -/
example : ((joinPaths 0 1 true ⟨[⟨[⟨0, 0⟩, ⟨1, 0⟩], .live, 0, 1, ⟨0, 0⟩, ⟨1, 0⟩⟩, ⟨[⟨5, 5⟩, ⟨6, 5⟩], .live, 2, 3, ⟨5, 5⟩, ⟨6, 5⟩⟩], [], [], 4⟩).rings[0]?).map (·.pts) =
    some [⟨5, 5⟩, ⟨6, 5⟩, ⟨0, 0⟩, ⟨1, 0⟩] := by decide

/-- the edge that is re-pointed: hand `Model.relabelFn B f A` (what `JoinOutrecPaths(e1, e2)` does to a third edge in the side model,
`f = IsFront(e1)`) moves exactly the edge holding side `f` of record `B` — the `front_edge` when `f`, the `back_edge` otherwise, as the
log of `joinOutrecPaths_bridge` names it — to side `f` of record `A`, and no other -/
theorem relabelFn_side (A B : Nat) (f : Bool) (x : SEdge) (r : Rec) (hx : x.orec = some r) :
    (relabelFn B f A x).orec = (if r.id = B ∧ r.front = f then some ⟨A, f⟩ else some r) := by
  simp only [relabelFn, hx]
  split <;> simp [hx]

/-- C++ `ClipperBase::StartOpenPath(e, pt)` = hand `Model.startOpen`: a new open record with one point whose front end is held by `e` when
`e.wind_dx > 0` (`Model.isFrontDx`) and whose back end is held by `e` otherwise; the OTHER end is null — the end the model marks as free -/
theorem startOpenPath_bridge (dx : Int) (opa : Nat) (pt : Pt) (kind : MarkKind) (oo : Out) (om : List EndMarks) :
    Gen.StartOpenPath (e_wind_dx := dx) (op_addr := opa) =
      (opa, true, [("outrec := NewOutRec()", []),
        (if isFrontDx dx then "outrec_front_edge := e" else "outrec_front_edge := nullptr", []),
        (if isFrontDx dx then "outrec_back_edge := nullptr" else "outrec_back_edge := e", []),
        ("e_outrec := outrec", []), ("op := new OutPt", []), ("outrec_pts := op", [])]) ∧
    (startOpen dx pt kind oo om).1 = ⟨oo.rings.length, isFrontDx dx⟩ ∧
    (startOpen dx pt kind oo om).2.1 = newRec pt oo ∧
    (startOpen dx pt kind oo om).2.2 = om ++ [if isFrontDx dx then ⟨none, some ⟨pt, kind⟩⟩ else ⟨some ⟨pt, kind⟩, none⟩] := by
  by_cases h : dx > 0 <;> simp [Gen.StartOpenPath, startOpen, isFrontDx, EndMarks.put, h]

/-- C++ `SetSides(outrec, start_edge, end_edge)`: the first edge argument becomes the front edge, the second the back edge — the reading
on which `Model.minFront1` ("is `e1` the front edge") and the `⟨id, front⟩` pairs of `Model.minRecs` / `Model.oInsertPair` rest -/
theorem setSides_bridge :
    Gen.SetSides = [("outrec_front_edge := start_edge", []), ("outrec_back_edge := end_edge", [])] := rfl

/-- C++ `AddLocalMinPoly`, open path: `if (e1.wind_dx > 0) SetSides(outrec, e1, e2) else SetSides(outrec, e2, e1)` — `e1` (the left bound in
`InsertLocalMinimaIntoAEL`) holds the front end exactly when `Model.isFrontDx e1.wind_dx`, as hand `Model.oInsertPair` records it; the
record is open and gets one point -/
theorem addLocalMinPoly_open_bridge (isNew up nn io : Bool) (a fe opa : Nat) (dx : Int) :
    Gen.AddLocalMinPoly (is_new := isNew) (e1_local_min_is_open := true) (e1_wind_dx := dx) (op_addr := opa)
      (outrec_is_open_after1 := io) (prevHotEdge_addr := a) (prevHotEdge_nonnull := nn) (prevHotEdge_outrec_front_edge := fe)
      (using_polytree_ := up) =
    (opa, true,
      [("outrec := NewOutRec()", []), ("e1_outrec := outrec", []), ("e2_outrec := outrec", []), ("outrec_owner := nullptr", []),
       (if isFrontDx dx then "SetSides(outrec,e1,e2)" else "SetSides(outrec,e2,e1)", []),
       ("op := new OutPt", []), ("outrec_pts := op", [])]) := by
  by_cases h : dx > 0 <;> simp [Gen.AddLocalMinPoly, Gen.AddLocalMinPoly.m1, Gen.IsOpen, isFrontDx, h]

end Clipper.Props.Bridges

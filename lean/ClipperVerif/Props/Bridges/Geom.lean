/-
Bridge theorems (tie T, DESIGN.md §2.3), clipper.core.h (`PointInPolygon`) against `Model/Geom.lean`.
For every definition that `tools/cpp2lean.py` regenerates from the C++ source and that a hand-written model re-implements:
`generated = hand` for ALL arguments.  The generated side is re-created from /repo's current sources on every `./check`
run, so a change of the C++ function changes the left-hand side and the proof below stops compiling (the theorem named in
the error is the obligation that broke).

The `double` arithmetic of `CrossProduct` is not translated: the callee is a function parameter of the generated definitions
(values of an abstract ordered type `D`, compared with 0 only), instantiated here with the hand model's own parameter `cp`.
Core Lean only.
-/
import ClipperVerif.Lemmas.Bridges
import ClipperVerif.Generated.Core
import ClipperVerif.Model.Geom
namespace Clipper.Props.Bridges
open Clipper Clipper.Model Clipper.Lemmas.Bridges

/-- how the statement reads the triple (returned?, value, `val`) of the generated crossing step -/
def ofCross (r : Bool × PipResult × Int) : VStep := if r.1 then .on else .cross r.2.2

/-- the translator's re-packing of an inner block's result does not show through `ofCross` -/
theorem ofCross_repack (r : Bool × PipResult × Int) :
    (if r.1 = true then ofCross (true, r.2.1, r.2.2) else ofCross (false, default, r.2.2)) = ofCross r := by
  rcases r with ⟨_ | _, _, _⟩ <;> rfl

theorem ofCross_false (d : PipResult) (v : Int) : ofCross (false, d, v) = .cross v := rfl
theorem ofCross_true (d : PipResult) (v : Int) : ofCross (true, d, v) = .on := rfl

/-- C++ `PointInPolygon<int64_t>`, what the main loop does with one vertex `c = *curr` (and `pr = *prev`) after the skipping loops
(the `if (curr->y == pt.y)` test with its on-the-line condition, and the `if … else if … else` crossing step with its early
`return IsOn`) = hand `Model.vertexStep` -/
theorem vertexStep_bridge (cp : Pt → Pt → Pt → Int) (pt pr c : Pt) (isAbove : Bool) (val : Int) :
    vertexStep cp pt pr c isAbove val =
      if c.y = pt.y then
        (if Gen.PointInPolygon_onLine (curr_x := c.x) (curr_y := c.y) (prev_x := pr.x) (prev_y := pr.y) (pt_x := pt.x)
          then .on else .onLine)
      else
        let r := Gen.PointInPolygon_cross (D := Int) (CrossProduct := fun a b c d e f => cp ⟨a, b⟩ ⟨c, d⟩ ⟨e, f⟩)
          (curr_x := c.x) (curr_y := c.y) (is_above := isAbove) (prev_x := pr.x) (prev_y := pr.y) (pt_x := pt.x) (pt_y := pt.y)
          (val := val)
        if r.1 then .on else .cross r.2.2 := by
  show _ = if c.y = pt.y then _ else ofCross _
  rcases pt with ⟨x, y⟩; rcases pr with ⟨xp, yp⟩; rcases c with ⟨xc, yc⟩
  -- the same tree: the re-packing of the inner block's result is invisible to `ofCross`, which is then pushed to the leaves
  simp only [Gen.PointInPolygon_cross, apply_ite ofCross, ofCross_repack]
  simp only [vertexStep, Gen.PointInPolygon_onLine, Gen.PointInPolygon_cross.m2, Gen.PointInPolygon_cross.m1, bool_int_eq,
    bool_int_ne, apply_ite ofCross, decide_eq_true_eq, Bool.or_eq_true, Bool.and_eq_true, Bool.decide_eq_true, beq_iff_eq,
    ofCross_false, ofCross_true, apply_ite VStep.cross]

end Clipper.Props.Bridges

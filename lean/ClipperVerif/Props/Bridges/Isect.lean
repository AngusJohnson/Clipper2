/-
Bridge theorems (tie T, DESIGN.md §2.3), clipper.engine.cpp (`EdgesAdjacentInAEL`) against `Model/IntersectList.lean`.
For every definition that `tools/cpp2lean.py` regenerates from the C++ source and that a hand-written model re-implements:
`generated = hand` for ALL arguments.  The generated side is re-created from /repo's current sources on every `./check`
run, so a change of the C++ function changes the left-hand side and the proof below stops compiling (the theorem named in
the error is the obligation that broke).

Convention of the generated side used here (see the head of `tools/cpp2lean.py`): pointers compared with each other are `Nat`
identities.
Core Lean only.
-/
import ClipperVerif.Lemmas.Bridges
import ClipperVerif.Generated.Engine
import ClipperVerif.Model.IntersectList
namespace Clipper.Props.Bridges
open Clipper Clipper.Model Clipper.Lemmas.Bridges Clipper.Model.IntersectList

/-- two keys are neighbours iff one is the successor or the predecessor of the other -/
theorem adjacent_eq : ∀ (π : List Nat) (a b : Nat), π.Nodup →
    adjacent π (a, b) = (nextOf π a == some b || prevOf π a == some b)
  | [], a, b, _ => rfl
  | [x], a, b, _ => rfl
  | x :: y :: t, a, b, hn => by
    obtain ⟨hxt, hn'⟩ := List.nodup_cons.1 hn
    rw [adjacent, adjacent_eq (y :: t) a b hn', nextOf, prevOf]
    by_cases hxa : x = a
    · subst hxa
      have hya : y ≠ x := fun e => hxt (e ▸ List.mem_cons_self)
      rw [if_pos rfl, if_neg hya, prevOf_none_of_not_mem _ _ hxt, nextOf_none_of_not_mem _ _ hxt]
      by_cases hyb : y = b <;> simp [hyb, beq_eq_false_iff_ne.2 hya]
    · rw [if_neg hxa]
      by_cases hya : y = a
      · subst hya
        rw [if_pos rfl, prevOf_head y t (List.nodup_cons.1 hn').1]
        by_cases hxb : x = b <;> simp [hxb, beq_eq_false_iff_ne.2 hxa, Bool.or_comm]
      · rw [if_neg hya]
        simp [hxa, hya]

/-- C++ `EdgesAdjacentInAEL(inode)` = hand `Model.IntersectList.adjacent` on the AEL as a duplicate-free list of keys (pointer identity of
the edge with key `k` is `k + 1`, 0 is `nullptr`) -/
theorem adjacent_bridge : ∀ (π : List Nat) (a b : Nat), π.Nodup →
    adjacent π (a, b) =
      Gen.EdgesAdjacentInAEL (inode_edge1_next_in_ael := enc (nextOf π a)) (inode_edge1_prev_in_ael := enc (prevOf π a))
        (inode_edge2 := b + 1) := by
  intro π a b hn
  rw [adjacent_eq π a b hn]
  simp only [Gen.EdgesAdjacentInAEL, enc_eq_succ]

end Clipper.Props.Bridges

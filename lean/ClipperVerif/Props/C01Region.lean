/-
C01 — ON EVERY SCANLINE THE HOT EDGES BOUND EXACTLY THE REGION THE FILL RULE AND CLIP TYPE SELECT  (composition of the C01 layers).

The layers it composes, each proved and tied to the compiled engine:
 (L1) `Spec/Basic.lean`        `wind` (winding number by ray casting), `inR ct fr ws wc` (the region C01 defines);
 (L2) `Model/Ael` + `Props/C01`  the bookkeeping model driven by an event list whose POSITIONS are inputs: `inv_reachable`, `coverage_1d`;
 (L3) `Model/SweepOrder` + `Props/C01Sweep`  the geometric order of the AEL through the scanbeams, from the input paths alone.
This file composes them (model glue `Model/SweepEvents.lean`):

 1. `sweepEvents_accepted`   the event list DERIVED from the scanbeam model (insert pair at the index of `InsertLeftEdge`, one
                             `intersect` per inversion, `removePair` at a local maximum) is never rejected by the bookkeeping model,
                             and at all three stages of every scanbeam the L2 state lists the same edges in the same order as the
                             scanbeam model (`Tracks`); the AEL of a scanbeam consists of EXACTLY the input edges that cross it;
 2. `ray_winding`            `Spec.wind` of the subject (clip) paths around a rational point = the sum of `wind_dx` over the subject (clip)
                             edges of `build` that cross the scanline of the point strictly LEFT of it;
 3. `scanline_region`        THE HEADLINE: for every scanbeam, every rational height strictly inside it and every x on no edge:
                             `(x, y)` has an ODD number of hot edges to its left IFF `inR ct fr (wind subj p) (wind clip p)`;
                             `scanline_region_intervals`: the same in the words of the property — the point lies between the `(2j+1)`-th
                             and the `(2j+2)`-th hot edge of the scanline for some `j` (`odd_left_iff_interval`; the hot edges are even in number);
                             `scanline_region_states`: the same for the sweep's OWN states (after the insertions / after `DoIntersections`)
                             at every height at which their list order is the left-to-right order;
                             (`scanline_sums`, `scanline_region_stage`, `region_on_scanline`: the same over abstract event data);
 4. `hot_determined_by_order` in a state satisfying the invariant the hot flags are a function of the labelled order of the list: "the hot
                             edges of the scanline `y`" does not depend on the order in which the crossings below `y` were processed;
                             `isect_order_irrelevant`: any two sequences of adjacent transpositions with the same result are both accepted
                             and give the same hot flags (the derived list uses insertion-sort order, the engine its intersect-list order).
 5. `Props/C01RegionRings.region_of_rings_partial`  for any decoration of the derived events with points: the edges holding the ends
                             of the output rings under construction are exactly the hot edges, a ring's front end is held by an edge with the
                             region on its right.

Orientation as in `Props/C01Sweep`: y grows downwards, the sweep climbs from large y to small y, a scanbeam is `[y1, y0]`, `y1 < y0`.
A rational point is `(xn/yd, yn/yd)`, `yd > 0`; `windQ ps xn yn yd` is `Spec.wind` of the paths scaled by `yd` around `(xn, yn)`
(`Props/C13Spec.wind_scale`: the winding number of the unscaled paths around the unscaled point, where that is an integer point).

NOT COVERED by this file:
 * horizontal edges (excluded by `AllUp`; the ORDER of the AEL with horizontal edges is `Props/C01Horz`), open paths, joins (`join_with` does not occur in the scanbeam model);
 * the rounding of intersection points: the crossings of the model are exact; where the engine PUTS the vertex of a crossing is not
   modelled, so nothing is said about the 2-unit tolerance of C01;
 * that the interior of the OUTPUT polygons (winding number of the output paths) is the union of these scanline intervals: that is
   `Props/C01Crown.output_region`, for the exact output rings of `Props/C01Output`;
 * the order in which `ProcessIntersectList` performs the transpositions of a scanbeam (the derived list uses insertion-sort order;
   the engine's own order is tied to `Model/Ael` by the trace replay `AELVERIFY`, and by (4) the flags do not depend on it);
 * the hypotheses `Built.Hyp` (general position at every scanline) and `Built.HypR` (structural facts about the event data of `build`,
   exactly two edges ending in one local maximum) are assumed here; `Props/C01Build` derives them (`build_hyp` from the input-only
   `InputGP` and general position at the scanlines, `build_hypR` from `InputGP` alone).
-/
import ClipperVerif.Lemmas.C01RegionCore
import ClipperVerif.Lemmas.C01RegionBeam
namespace Clipper.Props.C01Region
open Clipper Clipper.Model Clipper.Model.AelOrder Clipper.Model.SweepOrder Clipper.Model.SweepEvents
open Clipper.Lemmas.SweepOrder Clipper.Lemmas.C01Region Clipper.Props.C01Sweep

/-- **sweepEvents_accepted.**  ASSUMED: the hypotheses of `sweep_keeps_sorted` (`AllUp`, `NextOK`, `Near cx`, `SweepOK` for the scanline
list `ys`) and `HypR` (all decidable): a labelling with directions `±1` that is constant along a bound and opposite across a local
minimum; every edge starts at a local minimum of its scanline or continues a bound; every vertex height is a scanline; a local
maximum is the end of exactly two edges of the scanbeam, of one path type and opposite directions.
PROVED, for the bookkeeping model of `Model/Ael.lean` started in the empty AEL, every clip type and fill rule:
 * the whole derived event list `sweepEvents` is accepted (`Model.run … = some _`: no position out of range, every `removePair` meets a
   maxima pair);
 * for every scanbeam `r` of the derived run (`pre` = the scanbeams before it): the events up to `r` are accepted, then the insertion
   events, the intersection events and the top-of-scanbeam events of `r` are accepted one group after the other, and after each group
   the L2 state has the same length and order as the AEL of the scanbeam model, edge by edge the same path type and `wind_dx`
   (`BeamTracked`, `Tracks`);
 * the AEL after the insertions consists of exactly the input edges that cross the scanbeam (`BeamFacts.mem`, `.complete`). -/
theorem sweepEvents_accepted (cfg : Cfg) (edges : List SEdge) (valid : Int → SEdge → SEdge → Bool) (cx : SEdge → Int → Int)
    (next : SEdge → Option SEdge) (mins : Int → List (SEdge × SEdge)) (lab : Lab) (ys : List Int)
    (hup : AllUp edges) (hnx : NextOK edges next mins) (hn : Near cx) (hok : SweepOK edges valid next mins ys)
    (hR : HypR edges next mins lab ys) :
    (∃ l', Model.run cfg [] (sweepEvents valid cx next mins lab ys) = some l') ∧
    ∀ (pre : List BeamRun) (r : BeamRun) (post : List BeamRun), beamRuns valid cx next mins lab [] ys = pre ++ r :: post →
      ∃ l1 lI lX lT, Model.run cfg [] (pre.flatMap BeamRun.events) = some l1 ∧ BeamTracked cfg lab l1 r lI lX lT ∧
        BeamFacts edges r.snap := by
  obtain ⟨_, hdx, hnl, hst, htop, hrr⟩ := hR
  have h0 : ∀ y, ys.head? = some y → AelAt edges mins y [] ∧ CompleteAt edges mins y [] := by
    intro y hy
    refine ⟨aelAt_nil edges mins y, ?_⟩
    cases ys with
    | nil => simp at hy
    | cons y' t =>
      simp at hy; subst hy
      exact completeAt_start edges next mins y' hup hnx hst htop
  exact ⟨sweep_accepted cfg edges valid cx next mins lab hup hnx hn hdx hnl hst ys [] [] hok hrr h0 rfl,
    beamRuns_tracked cfg edges valid cx next mins lab hup hnx hn hdx hnl hst ys [] [] hok hrr h0 rfl⟩

/-- the snapshots of the derived run ARE the sweep of `Props/C01Sweep` -/
theorem sweepEvents_snaps (valid : Int → SEdge → SEdge → Bool) (cx : SEdge → Int → Int) (next : SEdge → Option SEdge)
    (mins : Int → List (SEdge × SEdge)) (lab : Lab) (ys : List Int) :
    (beamRuns valid cx next mins lab [] ys).map (·.snap) = sweepFrom valid cx next mins [] ys :=
  beamRuns_snaps valid cx next mins lab ys []

/-- **hot_determined_by_order.**  Two states of the bookkeeping model that both satisfy the invariant (`inv_reachable`: every state
reachable from the empty AEL does) and list edges of the same path type, open flag and `wind_dx` in the same order, all closed, have
the same hot flags — whatever event lists led to them.  In particular the order in which the crossings of a scanbeam are processed
does not matter for the hot flags. -/
theorem hot_determined_by_order (cfg : Cfg) (l l' : Ael) (h : Inv cfg l) (h' : Inv cfg l') (hk : l.map key = l'.map key)
    (ho : ∀ e ∈ l, e.isOpen = false) : l.map (·.hot) = l'.map (·.hot) :=
  hot_of_inv cfg l l' 0 0 h h' hk ho

theorem tracks_closed {lab : Lab} {l : Ael} {es : List SEdge} (h : Tracks lab l es) : ∀ e ∈ l, e.isOpen = false := by
  intro e he
  have hk : key e ∈ es.map (labKey lab) := by rw [← h]; exact List.mem_map_of_mem he
  obtain ⟨s, _, hs⟩ := List.mem_map.1 hk
  have := congrArg (fun k => k.2.1) hs
  simpa [key, labKey] using this.symm

/-- **isect_order_irrelevant.**  The derived event list performs the transpositions of a scanbeam in insertion-sort order; the real
`ProcessIntersectList` performs them in the order of its sorted node list (with the adjacency fix-up of `Props/C10Isect`).  This does
not matter: from a state `l` satisfying the invariant that tracks the edge list `es`, ANY two sequences of adjacent transpositions
`is`, `js` that turn `es` into the same list `target` are both accepted by the bookkeeping model, both end in states that track `target`,
and these two states have the SAME HOT FLAGS. -/
theorem isect_order_irrelevant (cfg : Cfg) (hct : cfg.ct ≠ .noClip) (lab : Lab) (l : Ael) (es target : List SEdge)
    (hinv : Inv cfg l) (htr : Tracks lab l es) (is js : List Nat)
    (h1 : applySwaps is es = some target) (h2 : applySwaps js es = some target) :
    ∃ l1 l2, Model.run cfg l (is.map .intersect) = some l1 ∧ Model.run cfg l (js.map .intersect) = some l2 ∧
      Tracks lab l1 target ∧ Tracks lab l2 target ∧ l1.map (·.hot) = l2.map (·.hot) := by
  have k1 : applySwaps is (l.map key) = some (target.map (labKey lab)) := by
    rw [htr, applySwaps_map, h1]; rfl
  have k2 : applySwaps js (l.map key) = some (target.map (labKey lab)) := by
    rw [htr, applySwaps_map, h2]; rfl
  obtain ⟨l1, r1, t1⟩ := run_intersects cfg is l _ k1
  obtain ⟨l2, r2, t2⟩ := run_intersects cfg js l _ k2
  have i1 := Clipper.Props.C01.inv_run cfg hct _ l l1 hinv r1
  have i2 := Clipper.Props.C01.inv_run cfg hct _ l l2 hinv r2
  exact ⟨l1, l2, r1, r2, t1, t2, hot_determined_by_order cfg l1 l2 i1 i2 (by rw [t1, t2]) (tracks_closed t1)⟩

/-- the edges of the built input that cross the scanline `yn/yd` strictly left of the point `(xn/yd, yn/yd)` -/
def leftEdges (edges : List SEdge) (xn yn yd : Int) : List SEdge :=
  edges.filter (fun e => decide (aliveAt e yn yd ∧ leftOfPt e xn yn yd))

theorem tbl_sum (subj clip : Paths) (hnd : (build (subj ++ clip)).edges.Nodup) (t : PathType) (xn yn yd : Int) :
    ((labelTbl subj clip).map (fun r => if r.2.1 = t then rowTerm xn yn yd r else 0)).sum =
      labSum (labOf subj clip) t (leftEdges (build (subj ++ clip)).edges xn yn yd) := by
  have h1 : (labelTbl subj clip).map (fun r => if r.2.1 = t then rowTerm xn yn yd r else 0) =
      ((labelTbl subj clip).map (·.1)).map (fun e => if decide (aliveAt e yn yd ∧ leftOfPt e xn yn yd) = true then
        (if (labOf subj clip e).1 = t then (labOf subj clip e).2 else 0) else 0) := by
    rw [List.map_map]
    apply List.map_congr_left
    intro r hr
    simp only [Function.comp, labOf_row subj clip hnd r hr, rowTerm, leftTerm, decide_eq_true_eq]
    split <;> split <;> rfl
  rw [h1, labelTbl_fst, sum_filter_ite]
  rfl

/-- **ray_winding.**  `subj`, `clip`: closed paths; `edges` = the sweep edges `build (subj ++ clip)` derives from them (pairwise
different), labelled by `labOf` (path type; `wind_dx = +1` iff the path runs from the edge's `bot` to its `top`).  A point
`(xn/yd, yn/yd)`, `yd > 0`, whose height is no end-point height of an edge and which lies on no edge.  Then the `Spec.wind` winding number
of the subject paths around the point is the sum of `wind_dx` over the SUBJECT edges that cross the scanline of the point strictly left
of it, and likewise for the clip paths — the prefix sums the bookkeeping model maintains (`Props/C01.wind_insert`, `coverage_1d`).
(Paths with fewer than three vertices have no edges in `build` and wind around nothing.) -/
theorem ray_winding (subj clip : Paths) (xn yn yd : Int) (hd : 0 < yd)
    (hnd : (build (subj ++ clip)).edges.Nodup)
    (hv : ∀ e ∈ (build (subj ++ clip)).edges, yn ≠ e.bot.y * yd ∧ yn ≠ e.top.y * yd)
    (hoff : ∀ e ∈ (build (subj ++ clip)).edges, aliveAt e yn yd → ¬ onEdgeLine e xn yn yd) :
    windQ subj xn yn yd = labSum (labOf subj clip) .subject (leftEdges (build (subj ++ clip)).edges xn yn yd) ∧
    windQ clip xn yn yd = labSum (labOf subj clip) .clip (leftEdges (build (subj ++ clip)).edges xn yn yd) := by
  have hmem : ∀ r ∈ labelTbl subj clip, r.1 ∈ (build (subj ++ clip)).edges := fun r hr =>
    labelTbl_fst subj clip ▸ List.mem_map_of_mem (f := fun q : SEdge × PathType × Int => q.1) hr
  have wS := wind_scaled .subject xn yn yd hd subj 0 (fun r hr => hv _ (hmem r (List.mem_append_left _ hr)))
    (fun r hr => hoff _ (hmem r (List.mem_append_left _ hr)))
  have wC := wind_scaled .clip xn yn yd hd clip (totalLen subj) (fun r hr => hv _ (hmem r (List.mem_append_right _ hr)))
    (fun r hr => hoff _ (hmem r (List.mem_append_right _ hr)))
  -- in the sum over the whole table, the rows of the other path type contribute nothing
  have key : ∀ (t t' : PathType) (ps : Paths) (off : Nat),
      ((labelsFrom off t' ps).map (fun r => if r.2.1 = t then rowTerm xn yn yd r else 0)).sum =
        if t' = t then ((labelsFrom off t' ps).map (rowTerm xn yn yd)).sum else 0 := by
    intro t t' ps off
    by_cases h : t' = t
    · rw [if_pos h]
      exact congrArg List.sum (List.map_congr_left (fun r hr => if_pos ((labelsFrom_pt t' ps off r hr).trans h)))
    · rw [if_neg h, List.map_congr_left (g := fun _ => (0 : Int))
        (fun r hr => if_neg (fun h' => h ((labelsFrom_pt t' ps off r hr).symm.trans h')))]
      exact Clipper.WindSpec.sum_map_zero _
  have tS := tbl_sum subj clip hnd .subject xn yn yd
  have tC := tbl_sum subj clip hnd .clip xn yn yd
  rw [labelTbl, List.map_append, List.sum_append, key, key] at tS tC
  exact ⟨wS.trans ((Int.add_zero _).symm.trans tS), wC.trans ((Int.zero_add _).symm.trans tC)⟩

/-- **the region on one scanline, for any state that is in scanline order.**  `edges`: pairwise different non-horizontal sweep edges
under a labelling; `es`: exactly the edges that cross the scanline `yn/yd`, each once, listed in non-strict left-to-right order on it;
`l`: an L2 state satisfying the invariant that tracks `es`.  Then for every point of the scanline: the winding sums of the edges
strictly to its left satisfy `inR` IFF the number of hot edges strictly to its left is odd. -/
theorem region_on_scanline (cfg : Cfg) (lab : Lab) (edges : List SEdge) (hnd : edges.Nodup) (hup : AllUp edges) (l : Ael)
    (es : List SEdge) (xn yn yd : Int) (hd : 0 < yd) (hinv : Inv cfg l) (htr : Tracks lab l es) (hndes : es.Nodup)
    (hmem : ∀ e, e ∈ es ↔ e ∈ edges ∧ aliveAt e yn yd) (hs : es.Pairwise (fun a b => leAt yn yd a b = true)) :
    inR cfg.ct cfg.fr (labSum lab .subject (leftEdges edges xn yn yd)) (labSum lab .clip (leftEdges edges xn yn yd)) =
      insideHot (hotEdges l es) xn yn yd := by
  have hupes : ∀ e ∈ es, e.Up := fun e he => hup e ((hmem e).1 he).1
  have hc := region_core cfg lab l es xn yn yd hinv htr (closed_of_sorted hd es hupes hs)
  have hperm : (leftEdges edges xn yn yd).Perm (es.filter (fun e => decide (leftOfPt e xn yn yd))) := by
    refine (List.perm_ext_iff_of_nodup (hnd.filter _) (hndes.filter _)).2 ?_
    intro e
    simp only [List.mem_filter, decide_eq_true_eq, hmem]
    constructor
    · rintro ⟨h1, h2, h3⟩; exact ⟨⟨h1, h2⟩, h3⟩
    · rintro ⟨⟨h1, h2⟩, h3⟩; exact ⟨h1, h2, h3⟩
  rw [labSum_perm lab .subject hperm, labSum_perm lab .clip hperm, hc, hotLeftCount_eq]
  rfl

theorem mul_lt_cancel {a b d : Int} (hd : 0 < d) (h : a * d < b * d) : a < b :=
  Int.lt_of_mul_lt_mul_right h (Int.le_of_lt hd)

/-- a vertex height `v` that is not strictly inside the scanbeam `[y1, y0]`, against a rational height `yn/yd` strictly inside it:
`v` is below the scanline iff it is at or below the bottom `y0`, above it iff at or above the top `y1` -/
theorem outside_beam {y0 y1 yn yd v : Int} (hd : 0 < yd) (hlo : y1 * yd < yn) (hhi : yn < y0 * yd)
    (hv : ¬ (y1 < v ∧ v < y0)) : (v * yd < yn ↔ v ≤ y1) ∧ (yn < v * yd ↔ y0 ≤ v) := by
  have hy : y1 < y0 := mul_lt_cancel hd (Int.lt_trans hlo hhi)
  have mono : ∀ {a b : Int}, a ≤ b → a * yd ≤ b * yd := fun h => Int.mul_le_mul_of_nonneg_right h (Int.le_of_lt hd)
  by_cases c : v ≤ y1
  · have h1 : v * yd < yn := Int.lt_of_le_of_lt (mono c) hlo
    exact ⟨⟨fun _ => c, fun _ => h1⟩, ⟨fun h => absurd (Int.lt_trans h h1) (Int.lt_irrefl _),
      fun h => absurd (Int.lt_of_lt_of_le (Int.lt_of_le_of_lt c hy) h) (Int.lt_irrefl _)⟩⟩
  · have c2 : y0 ≤ v := Int.not_lt.1 (fun h => hv ⟨Int.not_le.1 c, h⟩)
    have h1 : yn < v * yd := Int.lt_of_lt_of_le hhi (mono c2)
    exact ⟨⟨fun h => absurd (Int.lt_trans h h1) (Int.lt_irrefl _), fun h => absurd h c⟩, ⟨fun _ => c2, fun _ => h1⟩⟩

/-- the edges of a scanbeam are exactly the input edges that cross any given height strictly inside it, and no end point of an
input edge has such a height -/
theorem beam_alive {edges : List SEdge} {s : Snap} (hf : BeamFacts edges s) {yn yd : Int} (hd : 0 < yd)
    (hlo : s.y1 * yd < yn) (hhi : yn < s.y0 * yd) :
    (∀ e, e ∈ s.inserted ↔ e ∈ edges ∧ aliveAt e yn yd) ∧
    (∀ e ∈ edges, yn ≠ e.bot.y * yd ∧ yn ≠ e.top.y * yd) := by
  have hb := fun e he => outside_beam hd hlo hhi (hf.noBot e he)
  have ht := fun e he => outside_beam hd hlo hhi (hf.noTop e he)
  refine ⟨fun e => ⟨fun he => ?_, fun ⟨he, ha⟩ => ?_⟩, fun e he => ⟨fun h => ?_, fun h => ?_⟩⟩
  · obtain ⟨h1, h2, h3⟩ := hf.mem e he
    exact ⟨h1, (ht e h1).1.2 h3.1, (hb e h1).2.2 h2.2⟩
  · have h1 := (ht e he).1.1 ha.1
    exact hf.complete e he ⟨Int.lt_of_le_of_lt h1 hf.hy, (hb e he).2.1 ha.2⟩
  · exact hf.noBot e he ⟨mul_lt_cancel hd (h ▸ hlo), mul_lt_cancel hd (h ▸ hhi)⟩
  · exact hf.noTop e he ⟨mul_lt_cancel hd (h ▸ hlo), mul_lt_cancel hd (h ▸ hhi)⟩

/-- **scanline_sums** (the headline over an abstract event list; `scanline_region` instantiates it for `build` and adds `ray_winding`).
Hypotheses of `sweepEvents_accepted`, `ct ≠ NoClip`, pairwise different edges.  For every scanbeam `r` of the derived run and every
rational height `yn/yd` strictly inside it, let the L2 state `lY` be what the bookkeeping model reaches from the empty AEL by the
derived events up to the insertions of `r` followed by the VIRTUAL `DoIntersections` at that height (`heightSwaps`: the adjacent
transpositions that sort the edges of the scanbeam by their exact x on the scanline `yn/yd`).  Then: the run is accepted; `lY` lists
the edges of the scanbeam in their left-to-right order on that scanline (`sortedAt`, a permutation of `r.snap.inserted`, non-strictly
sorted); `lY` satisfies the invariant; and for EVERY `xn`: the winding sums of the edges strictly left of `(xn/yd, yn/yd)` satisfy `inR`
IFF an odd number of hot edges of `lY` is strictly left of the point. -/
theorem scanline_sums (cfg : Cfg) (hct : cfg.ct ≠ .noClip) (edges : List SEdge) (valid : Int → SEdge → SEdge → Bool)
    (cx : SEdge → Int → Int) (next : SEdge → Option SEdge) (mins : Int → List (SEdge × SEdge)) (lab : Lab) (ys : List Int)
    (hup : AllUp edges) (hnx : NextOK edges next mins) (hn : Near cx) (hok : SweepOK edges valid next mins ys)
    (hR : HypR edges next mins lab ys)
    (pre : List BeamRun) (r : BeamRun) (post : List BeamRun) (hruns : beamRuns valid cx next mins lab [] ys = pre ++ r :: post)
    (yn yd : Int) (hd : 0 < yd) (hlo : r.snap.y1 * yd < yn) (hhi : yn < r.snap.y0 * yd) :
    ∃ lY, Model.run cfg [] (pre.flatMap BeamRun.events ++ r.evIns ++ heightSwaps yn yd r.snap.inserted) = some lY ∧
      Tracks lab lY (sortedAt yn yd r.snap.inserted) ∧ Inv cfg lY ∧
      (sortedAt yn yd r.snap.inserted).Perm r.snap.inserted ∧
      (sortedAt yn yd r.snap.inserted).Pairwise (fun a b => leAt yn yd a b = true) ∧
      (∀ e, e ∈ r.snap.inserted ↔ e ∈ edges ∧ aliveAt e yn yd) ∧
      (∀ e ∈ edges, yn ≠ e.bot.y * yd ∧ yn ≠ e.top.y * yd) ∧
      ∀ xn : Int,
        inR cfg.ct cfg.fr (labSum lab .subject (leftEdges edges xn yn yd)) (labSum lab .clip (leftEdges edges xn yn yd)) =
          insideHot (hotEdges lY (sortedAt yn yd r.snap.inserted)) xn yn yd := by
  obtain ⟨_, htr⟩ := sweepEvents_accepted cfg edges valid cx next mins lab ys hup hnx hn hok hR
  obtain ⟨l1, lI, lX, lT, e1, hbt, hf⟩ := htr pre r post hruns
  obtain ⟨lY, eY, tY⟩ := sortEvents_tracks cfg lab (leAt yn yd) r.snap.inserted lI hbt.trIns
  have hrun : Model.run cfg [] (pre.flatMap BeamRun.events ++ r.evIns ++ heightSwaps yn yd r.snap.inserted) = some lY := by
    simp only [run_append, e1, Option.bind_some, hbt.runIns]
    exact eY
  have hinv : Inv cfg lY := Clipper.Props.C01.inv_reachable cfg hct _ lY hrun
  have hupI : ∀ e ∈ r.snap.inserted, e.Up := fun e he => hup e (hf.mem e he).1
  obtain ⟨sp, ss⟩ := sortedAt_facts (yn := yn) hd r.snap.inserted hupI
  obtain ⟨hal, hvt⟩ := beam_alive hf hd hlo hhi
  have hndI : r.snap.inserted.Nodup := nodup_of_pairwise_irrefl (ltAbove_irrefl r.snap.y0) hf.sorted
  refine ⟨lY, hrun, tY, hinv, sp, ss, hal, hvt, ?_⟩
  intro xn
  exact region_on_scanline cfg lab edges hR.1 hup lY _ xn yn yd hd hinv tY (sp.symm.nodup hndI)
    (fun e => by rw [sp.mem_iff]; exact hal e) ss

/-- **scanline_region_stage** — the sweep's OWN states.  Same hypotheses.  For a scanbeam `r` of the derived run let `lI`, `lX` be the L2
states after its insertion events resp. after its intersection events (they exist by `sweepEvents_accepted`).  At every rational height
strictly inside the scanbeam at which the AEL after the insertions (`r.snap.inserted`) is in left-to-right order — every height below
the lowest crossing of the scanbeam; every height of the scanbeam if no two of its edges cross (`exact_order_between_scanlines`) — the
hot edges of `lI` delimit the region: for every `xn`, `inR` of the winding sums left of the point ⇔ odd number of hot edges left of it.
Likewise for `lX` and the AEL after `DoIntersections` (`r.snap.afterIsect`: in order at every height above the highest crossing). -/
theorem scanline_region_stage (cfg : Cfg) (hct : cfg.ct ≠ .noClip) (edges : List SEdge) (valid : Int → SEdge → SEdge → Bool)
    (cx : SEdge → Int → Int) (next : SEdge → Option SEdge) (mins : Int → List (SEdge × SEdge)) (lab : Lab) (ys : List Int)
    (hup : AllUp edges) (hnx : NextOK edges next mins) (hn : Near cx) (hok : SweepOK edges valid next mins ys)
    (hR : HypR edges next mins lab ys)
    (pre : List BeamRun) (r : BeamRun) (post : List BeamRun) (hruns : beamRuns valid cx next mins lab [] ys = pre ++ r :: post) :
    ∃ lI lX, Model.run cfg [] (pre.flatMap BeamRun.events ++ r.evIns) = some lI ∧ Tracks lab lI r.snap.inserted ∧
      Model.run cfg lI r.evIsect = some lX ∧ Tracks lab lX r.snap.afterIsect ∧
      ∀ (yn yd : Int), 0 < yd → r.snap.y1 * yd < yn → yn < r.snap.y0 * yd →
        (r.snap.inserted.Pairwise (fun a b => leAt yn yd a b = true) → ∀ xn : Int,
          inR cfg.ct cfg.fr (labSum lab .subject (leftEdges edges xn yn yd)) (labSum lab .clip (leftEdges edges xn yn yd)) =
            insideHot (hotEdges lI r.snap.inserted) xn yn yd) ∧
        (r.snap.afterIsect.Pairwise (fun a b => leAt yn yd a b = true) → ∀ xn : Int,
          inR cfg.ct cfg.fr (labSum lab .subject (leftEdges edges xn yn yd)) (labSum lab .clip (leftEdges edges xn yn yd)) =
            insideHot (hotEdges lX r.snap.afterIsect) xn yn yd) := by
  obtain ⟨_, htr⟩ := sweepEvents_accepted cfg edges valid cx next mins lab ys hup hnx hn hok hR
  obtain ⟨l1, lI, lX, lT, e1, hbt, hf⟩ := htr pre r post hruns
  have hrunI : Model.run cfg [] (pre.flatMap BeamRun.events ++ r.evIns) = some lI := by
    simp only [run_append, e1, Option.bind_some, hbt.runIns]
  have hrunX : Model.run cfg [] (pre.flatMap BeamRun.events ++ r.evIns ++ r.evIsect) = some lX := by
    simp only [run_append, e1, Option.bind_some, hbt.runIns, hbt.runIsect]
  have hinvI : Inv cfg lI := Clipper.Props.C01.inv_reachable cfg hct _ lI hrunI
  have hinvX : Inv cfg lX := Clipper.Props.C01.inv_reachable cfg hct _ lX hrunX
  have hndI : r.snap.inserted.Nodup := nodup_of_pairwise_irrefl (ltAbove_irrefl r.snap.y0) hf.sorted
  refine ⟨lI, lX, hrunI, hbt.trIns, hbt.runIsect, hbt.trIsect, ?_⟩
  intro yn yd hd hlo hhi
  obtain ⟨hal, _⟩ := beam_alive hf hd hlo hhi
  constructor
  · intro hs xn
    exact region_on_scanline cfg lab edges hR.1 hup lI _ xn yn yd hd hinvI hbt.trIns hndI hal hs
  · intro hs xn
    exact region_on_scanline cfg lab edges hR.1 hup lX _ xn yn yd hd hinvX hbt.trIsect (hf.isect_perm.symm.nodup hndI)
      (fun e => by rw [hf.isect_perm.mem_iff]; exact hal e) hs

/-- in a scanbeam in which no two edges are in the opposite order at the top, the AEL after the insertions is in left-to-right
order at EVERY height strictly inside the scanbeam (so `scanline_region_stage` applies to the whole scanbeam) -/
theorem inserted_in_order_of_no_crossing {edges : List SEdge} {s : Snap} (hf : BeamFacts edges s)
    (hno : ∀ a b, [a, b].Sublist s.inserted → ¬ xlt s.y1 b a) (yn yd : Int) (hd : 0 < yd) (hlo : s.y1 * yd < yn)
    (hhi : yn < s.y0 * yd) : s.inserted.Pairwise (fun a b => leAt yn yd a b = true) := by
  rw [List.pairwise_iff_forall_sublist]
  intro a b hab
  have h0 : ltAbove s.y0 a b := List.pairwise_iff_forall_sublist.1 hf.sorted hab
  have := ((exact_order_between_scanlines a b s.y0 s.y1 hf.hy h0).1 (hno a b hab)).2 yn yd hd hlo hhi
  rw [leAt_iff]
  unfold xLt at this
  omega

/-- **odd_left_iff_interval.**  Reading of "an odd number of hot edges is left of the point" for hot edges listed in left-to-right
order, an even number of them (`Props/C01.hot_even`): the point lies strictly right of the `(2j+1)`-th hot edge and not right of the
`(2j+2)`-th, for some `j` — i.e. in one of the intervals `(h₁,h₂), (h₃,h₄), …` between consecutive hot edges. -/
theorem odd_left_iff_interval (hots : List SEdge) (xn yn yd : Int)
    (hp : hots.Pairwise (fun a b => leftOfPt b xn yn yd → leftOfPt a xn yn yd)) (hev : hots.length % 2 = 0) :
    insideHot hots xn yn yd = true ↔
      ∃ j, ∃ (h : 2 * j + 1 < hots.length), leftOfPt hots[2 * j] xn yn yd ∧ ¬ leftOfPt hots[2 * j + 1] xn yn yd := by
  -- the edges left of the point are exactly the first `k`; the point is inside iff `k` is odd, `k = 2j + 1`
  obtain ⟨k, hk, hf, hi⟩ := closed_prefix (fun e => decide (leftOfPt e xn yn yd)) hots
    (hp.imp (fun h hb => decide_eq_true (h (of_decide_eq_true hb))))
  have hlt : ∀ (i : Nat) (hi : i < hots.length), leftOfPt hots[i] xn yn yd ↔ i < k := fun i h =>
    decide_eq_true_iff.symm.trans (hi i h)
  unfold insideHot
  rw [hf, List.length_take_of_le hk, decide_eq_true_eq]
  constructor
  · intro hodd
    have hj : 2 * (k / 2) + 1 = k := by omega
    have hklt : 2 * (k / 2) + 1 < hots.length := by omega
    exact ⟨k / 2, hklt, (hlt _ _).2 (Nat.lt_of_lt_of_eq (Nat.lt_succ_self _) hj),
      fun h => Nat.ne_of_lt ((hlt _ hklt).1 h) hj⟩
  · rintro ⟨j, hj, a, b⟩
    have := (hlt _ _).1 a
    have := mt (hlt _ hj).2 b
    omega

/-- **scanline_region — THE HEADLINE OF C01 AT MODEL LEVEL.**
`subj`, `clip`: closed paths.  `build (subj ++ clip)`: the event data the scanbeam model derives from the paths alone; `labOf subj clip`:
its labelling (path type, `wind_dx`).  ASSUMED (decidable; the driver decides them per input, the examples below by `decide`):
`Built.Hyp` — no horizontal edge, general position at every scanline (every vertex more than one unit away from every edge it does not
lie on, at its scanline) — and `Built.HypR` — the structural facts of `Model/SweepEvents.lean`; `cx` (`TopX`) within 1/2 of the exact x;
`ct ≠ NoClip` (which never sweeps).
PROVED, for every clip type but NoClip and every fill rule: for every scanbeam `r` of the derived run and every rational height
`yn/yd` STRICTLY inside it there is an L2 state `lY` — reached from the empty AEL by the derived event list up to the insertions of `r`
followed by the virtual `DoIntersections` at that height, hence a reachable state of the bookkeeping model, satisfying its invariant —
that lists the edges crossing the scanline in their left-to-right order on it, such that for EVERY `xn` with `(xn/yd, yn/yd)` on no edge:

      the number of hot edges of `lY` strictly left of the point is odd      ⟺      `inR ct fr (wind subj p) (wind clip p)`.

By `odd_left_iff_interval` the left side says: the point lies in one of the intervals between the `(2j+1)`-th and the `(2j+2)`-th hot
edge of the scanline.  So **the union of the horizontal intervals between consecutive hot edges on the scanline `y` is exactly the set of
`x` with `(x, y)` in the region C01 defines** (points on edges aside).  By `hot_determined_by_order` the hot flags of `lY` are those of
EVERY state satisfying the invariant that lists these edges in this order; `scanline_region_states` is the statement for the sweep's
own states. -/
theorem scanline_region (subj clip : Paths) (cfg : Cfg) (hct : cfg.ct ≠ .noClip) (cx : SEdge → Int → Int) (hn : Near cx)
    (info : SEdge → OInfo) (h : (build (subj ++ clip)).Hyp (validGen cx info))
    (hR : Built.HypR (build (subj ++ clip)) (labOf subj clip))
    (pre : List BeamRun) (r : BeamRun) (post : List BeamRun)
    (hruns : beamRuns (validGen cx info) cx (build (subj ++ clip)).next (build (subj ++ clip)).mins (labOf subj clip) []
      (build (subj ++ clip)).ys = pre ++ r :: post)
    (yn yd : Int) (hd : 0 < yd) (hlo : r.snap.y1 * yd < yn) (hhi : yn < r.snap.y0 * yd) :
    ∃ lY, Model.run cfg [] (pre.flatMap BeamRun.events ++ r.evIns ++ heightSwaps yn yd r.snap.inserted) = some lY ∧
      Tracks (labOf subj clip) lY (sortedAt yn yd r.snap.inserted) ∧ Inv cfg lY ∧
      (sortedAt yn yd r.snap.inserted).Perm r.snap.inserted ∧
      (sortedAt yn yd r.snap.inserted).Pairwise (fun a b => leAt yn yd a b = true) ∧
      (∀ e, e ∈ r.snap.inserted ↔ e ∈ (build (subj ++ clip)).edges ∧ aliveAt e yn yd) ∧
      ∀ xn : Int, (∀ e ∈ r.snap.inserted, ¬ onEdgeLine e xn yn yd) →
        insideHot (hotEdges lY (sortedAt yn yd r.snap.inserted)) xn yn yd =
          inR cfg.ct cfg.fr (windQ subj xn yn yd) (windQ clip xn yn yd) := by
  obtain ⟨lY, h1, h2, h3, h4, h5, h6, h7, h8⟩ := scanline_sums cfg hct _ (validGen cx info) cx _ _ (labOf subj clip) _
    h.1 h.2.2.1 hn h.2.2.2 hR pre r post hruns yn yd hd hlo hhi
  refine ⟨lY, h1, h2, h3, h4, h5, h6, ?_⟩
  intro xn hoff
  obtain ⟨wS, wC⟩ := ray_winding subj clip xn yn yd hd hR.1 h7 (fun e he ha => hoff e ((h6 e).2 ⟨he, ha⟩))
  rw [wS, wC]
  exact (h8 xn).symm

/-- **scanline_region_intervals** — the headline in the words of the property.  Same hypotheses and the same state `lY` as
`scanline_region`.  Let `h₁, h₂, …` be the hot edges of the scanline `yn/yd`, left to right.  Their number is even, and for every `xn`
with `(xn/yd, yn/yd)` on no edge:

      the point lies right of `h₂ⱼ₊₁` and not right of `h₂ⱼ₊₂` for some `j`      ⟺      `inR ct fr (wind subj p) (wind clip p)`,

i.e. the union of the intervals `(h₁,h₂), (h₃,h₄), …` between consecutive hot edges is exactly the region C01 defines on that scanline. -/
theorem scanline_region_intervals (subj clip : Paths) (cfg : Cfg) (hct : cfg.ct ≠ .noClip) (cx : SEdge → Int → Int) (hn : Near cx)
    (info : SEdge → OInfo) (h : (build (subj ++ clip)).Hyp (validGen cx info))
    (hR : Built.HypR (build (subj ++ clip)) (labOf subj clip))
    (pre : List BeamRun) (r : BeamRun) (post : List BeamRun)
    (hruns : beamRuns (validGen cx info) cx (build (subj ++ clip)).next (build (subj ++ clip)).mins (labOf subj clip) []
      (build (subj ++ clip)).ys = pre ++ r :: post)
    (yn yd : Int) (hd : 0 < yd) (hlo : r.snap.y1 * yd < yn) (hhi : yn < r.snap.y0 * yd) :
    ∃ lY, Model.run cfg [] (pre.flatMap BeamRun.events ++ r.evIns ++ heightSwaps yn yd r.snap.inserted) = some lY ∧
      Tracks (labOf subj clip) lY (sortedAt yn yd r.snap.inserted) ∧
      (hotEdges lY (sortedAt yn yd r.snap.inserted)).length % 2 = 0 ∧
      ∀ xn : Int, (∀ e ∈ r.snap.inserted, ¬ onEdgeLine e xn yn yd) →
        ((∃ j, ∃ (hj : 2 * j + 1 < (hotEdges lY (sortedAt yn yd r.snap.inserted)).length),
            leftOfPt (hotEdges lY (sortedAt yn yd r.snap.inserted))[2 * j] xn yn yd ∧
            ¬ leftOfPt (hotEdges lY (sortedAt yn yd r.snap.inserted))[2 * j + 1] xn yn yd) ↔
          inR cfg.ct cfg.fr (windQ subj xn yn yd) (windQ clip xn yn yd) = true) := by
  obtain ⟨lY, h1, h2, _, h4, h5, h6, h7⟩ := scanline_region subj clip cfg hct cx hn info h hR pre r post hruns yn yd hd hlo hhi
  have hev : (hotEdges lY (sortedAt yn yd r.snap.inserted)).length % 2 = 0 := by
    rw [hotEdges_length _ _ (tracks_length h2)]
    exact Clipper.Props.C01.hot_even cfg hct _ lY h1
  refine ⟨lY, h1, h2, hev, ?_⟩
  intro xn hoff
  have hupS : ∀ e ∈ sortedAt yn yd r.snap.inserted, e.Up := by
    intro e he
    exact h.1 e ((h6 e).1 (h4.mem_iff.1 he)).1
  have hcl := (closed_of_sorted (xn := xn) hd _ hupS h5).sublist (hotEdges_sublist lY _)
  rw [← odd_left_iff_interval _ xn yn yd hcl hev, h7 xn hoff]

/-- **scanline_region_states** — the headline for the sweep's own states.  Same hypotheses.  `lI` / `lX`: the L2 state after the
insertion events / after the intersection events of the scanbeam `r`.  At every rational height strictly inside the scanbeam at which
the AEL after the insertions is in left-to-right order (all heights below the lowest crossing; the whole scanbeam if nothing crosses
in it: `inserted_in_order_of_no_crossing`), the hot edges of `lI` delimit the region; at every height at which the AEL after
`DoIntersections` is in left-to-right order (all heights above the highest crossing), the hot edges of `lX` do. -/
theorem scanline_region_states (subj clip : Paths) (cfg : Cfg) (hct : cfg.ct ≠ .noClip) (cx : SEdge → Int → Int) (hn : Near cx)
    (info : SEdge → OInfo) (h : (build (subj ++ clip)).Hyp (validGen cx info))
    (hR : Built.HypR (build (subj ++ clip)) (labOf subj clip))
    (pre : List BeamRun) (r : BeamRun) (post : List BeamRun)
    (hruns : beamRuns (validGen cx info) cx (build (subj ++ clip)).next (build (subj ++ clip)).mins (labOf subj clip) []
      (build (subj ++ clip)).ys = pre ++ r :: post) :
    ∃ lI lX, Model.run cfg [] (pre.flatMap BeamRun.events ++ r.evIns) = some lI ∧ Tracks (labOf subj clip) lI r.snap.inserted ∧
      Model.run cfg lI r.evIsect = some lX ∧ Tracks (labOf subj clip) lX r.snap.afterIsect ∧
      ∀ (yn yd : Int), 0 < yd → r.snap.y1 * yd < yn → yn < r.snap.y0 * yd →
        (r.snap.inserted.Pairwise (fun a b => leAt yn yd a b = true) →
          ∀ xn : Int, (∀ e ∈ r.snap.inserted, ¬ onEdgeLine e xn yn yd) →
            insideHot (hotEdges lI r.snap.inserted) xn yn yd = inR cfg.ct cfg.fr (windQ subj xn yn yd) (windQ clip xn yn yd)) ∧
        (r.snap.afterIsect.Pairwise (fun a b => leAt yn yd a b = true) →
          ∀ xn : Int, (∀ e ∈ r.snap.inserted, ¬ onEdgeLine e xn yn yd) →
            insideHot (hotEdges lX r.snap.afterIsect) xn yn yd = inR cfg.ct cfg.fr (windQ subj xn yn yd) (windQ clip xn yn yd)) := by
  obtain ⟨lI, lX, h1, h2, h3, h4, h5⟩ := scanline_region_stage cfg hct _ (validGen cx info) cx _ _ (labOf subj clip) _
    h.1 h.2.2.1 hn h.2.2.2 hR pre r post hruns
  obtain ⟨_, htr⟩ := sweepEvents_accepted cfg _ (validGen cx info) cx _ _ (labOf subj clip) _ h.1 h.2.2.1 hn h.2.2.2 hR
  obtain ⟨_, _, _, _, _, _, hf⟩ := htr pre r post hruns
  refine ⟨lI, lX, h1, h2, h3, h4, ?_⟩
  intro yn yd hd hlo hhi
  obtain ⟨hal, hvt⟩ := beam_alive hf hd hlo hhi
  obtain ⟨g1, g2⟩ := h5 yn yd hd hlo hhi
  constructor
  · intro hs xn hoff
    obtain ⟨wS, wC⟩ := ray_winding subj clip xn yn yd hd hR.1 hvt (fun e he ha => hoff e ((hal e).2 ⟨he, ha⟩))
    rw [wS, wC]; exact (g1 hs xn).symm
  · intro hs xn hoff
    obtain ⟨wS, wC⟩ := ray_winding subj clip xn yn yd hd hR.1 hvt (fun e he ha => hoff e ((hal e).2 ⟨he, ha⟩))
    rw [wS, wC]; exact (g2 hs xn).symm

theorem split_at {α : Type} [Inhabited α] (L : List α) (i : Nat) (h : i < L.length) :
    L = L.take i ++ L.getD i default :: L.drop (i + 1) := by
  have : L.getD i default = L[i] := by simp [List.getD, List.getElem?_eq_getElem h]
  rw [this, List.getElem_cons_drop h, List.take_append_drop]

/- The test input, the two crossing triangles of `Props/C01Sweep.lean`:
`A = (0,40) (30,3) (-30,11)` (subject) and `B = (-10,33) (-31,0) (34,20)` (clip); edges 0–2 belong to `A`, 3–5 to `B`.  The second
scanbeam `[20, 33]` holds four edges and three crossings. -/

private def triA : Path := [⟨0, 40⟩, ⟨30, 3⟩, ⟨-30, 11⟩]
private def triB : Path := [⟨-10, 33⟩, ⟨-31, 0⟩, ⟨34, 20⟩]

/-- the hypotheses of the headline hold for this input -/
theorem triangles_hyp : (build ([triA] ++ [triB])).Hyp (validGen rhe default) := Clipper.Props.C01Sweep.triangles_hyp
theorem triangles_hypR : Built.HypR (build ([triA] ++ [triB])) (labOf [triA] [triB]) := by decide +kernel

/-- the labelling: `(id, path type, wind_dx)` -/
example : (build ([triA] ++ [triB])).edges.map (fun e => (e.id, labOf [triA] [triB] e)) =
    [(0, .subject, 1), (1, .subject, -1), (2, .subject, -1), (3, .clip, 1), (4, .clip, -1), (5, .clip, -1)] := by decide +kernel

private def triRuns : List BeamRun :=
  beamRuns (validGen rhe default) rhe (build ([triA] ++ [triB])).next (build ([triA] ++ [triB])).mins (labOf [triA] [triB]) []
    (build ([triA] ++ [triB])).ys

/-- the derived event list, scanbeam by scanbeam: (insertions, intersections, top of scanbeam) -/
example : triRuns.map (fun r => (r.evIns, r.evIsect, r.evTop)) =
    [([.insertPair 0 .subject false (-1)], [], []),
     ([.insertPair 0 .clip false 1], [.intersect 1, .intersect 2, .intersect 0], []),
     ([], [.intersect 2], []),
     ([], [.intersect 0, .intersect 1], [.removePair 2]),
     ([], [], [.removePair 0])] := by decide +kernel

/-- `sweepEvents_accepted` on it: the whole list is accepted and ends in the empty AEL -/
example : Model.run ⟨.union, .nonZero⟩ [] (triRuns.flatMap BeamRun.events) = some [] := by decide +kernel

/-- the L2 state of the scanline `y = 59/2` (strictly inside the second scanbeam, between its crossings: the order `3 2 5 0` is neither
the order after the insertions, `3 5 2 0`, nor the order after `DoIntersections`, `2 3 0 5`) -/
private def triState (cfg : Cfg) : Option Ael :=
  Model.run cfg [] ((triRuns.take 1).flatMap BeamRun.events ++ (triRuns.getD 1 default).evIns ++
    heightSwaps 59 2 (triRuns.getD 1 default).snap.inserted)

example : idsOf (sortedAt 59 2 (triRuns.getD 1 default).snap.inserted) = [3, 2, 5, 0] := by decide +kernel
example : (triState ⟨.union, .nonZero⟩).map (fun l => l.map (·.hot)) = some [true, false, false, true] := by decide +kernel
example : (triState ⟨.intersection, .nonZero⟩).map (fun l => l.map (·.hot)) = some [false, true, true, false] := by decide +kernel

/-- **both sides of `scanline_region` evaluated** on that scanline at the 40 points `x = (4 i − 79)/2`, `i < 40` (none on an edge):
UNION — inside the hot intervals exactly where `inR` of the exact winding numbers holds (`x` from −23/2 to 17/2 of the sample) … -/
example : (triState ⟨.union, .nonZero⟩).map (fun l => (List.range 40).map (fun (i : Nat) =>
      let xn : Int := 4 * (i : Int) - 79
      (insideHot (hotEdges l (sortedAt 59 2 (triRuns.getD 1 default).snap.inserted)) xn 59 2,
       inR .union .nonZero (windQ [triA] xn 59 2) (windQ [triB] xn 59 2)))) =
    some ((List.replicate 14 (false, false)) ++ List.replicate 11 (true, true) ++ List.replicate 15 (false, false)) := by
  decide +kernel

/-- … and INTERSECTION -/
example : (triState ⟨.intersection, .nonZero⟩).map (fun l => (List.range 40).map (fun (i : Nat) =>
      let xn : Int := 4 * (i : Int) - 79
      (insideHot (hotEdges l (sortedAt 59 2 (triRuns.getD 1 default).snap.inserted)) xn 59 2,
       inR .intersection .nonZero (windQ [triA] xn 59 2) (windQ [triB] xn 59 2)))) =
    some ((List.replicate 15 (false, false)) ++ List.replicate 6 (true, true) ++ List.replicate 19 (false, false)) := by
  decide +kernel

/-- the theorem itself applies to that scanbeam and height (its hypotheses are satisfiable) -/
example : ∃ lY, Model.run ⟨.union, .nonZero⟩ [] ((triRuns.take 1).flatMap BeamRun.events ++ (triRuns.getD 1 default).evIns ++
      heightSwaps 59 2 (triRuns.getD 1 default).snap.inserted) = some lY ∧ Inv ⟨.union, .nonZero⟩ lY ∧
      ∀ xn : Int, (∀ e ∈ (triRuns.getD 1 default).snap.inserted, ¬ onEdgeLine e xn 59 2) →
        insideHot (hotEdges lY (sortedAt 59 2 (triRuns.getD 1 default).snap.inserted)) xn 59 2 =
          inR .union .nonZero (windQ [triA] xn 59 2) (windQ [triB] xn 59 2) := by
  have hsplit : triRuns = triRuns.take 1 ++ triRuns.getD 1 default :: triRuns.drop 2 :=
    split_at triRuns 1 (by decide +kernel)
  obtain ⟨lY, h1, _, h3, _, _, _, h7⟩ := scanline_region [triA] [triB] ⟨.union, .nonZero⟩ (by decide) rhe rhe_near default
    triangles_hyp triangles_hypR _ _ _ hsplit 59 2 (by decide) (by decide +kernel) (by decide +kernel)
  exact ⟨lY, h1, h3, h7⟩

/-- `hot_determined_by_order` is not vacuous: the same edges in the same order reached by different event lists -/
example : (Model.run ⟨.xor, .evenOdd⟩ [] [.insertPair 0 .subject false (-1), .insertPair 1 .clip false 1, .intersect 2]).map
      (fun l => l.map (·.hot)) =
    (Model.run ⟨.xor, .evenOdd⟩ [] [.insertPair 0 .subject false (-1), .insertPair 2 .clip false 1, .intersect 1, .intersect 2,
      .intersect 1]).map (fun l => l.map (·.hot)) := by decide

end Clipper.Props.C01Region

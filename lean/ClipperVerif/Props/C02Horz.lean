/-
C02 / C03 / C04 — the horizontal-join pass of the sweep (`UpdateHorzSegment`, `ConvertHorzSegsToJoins`, `DuplicateOp`,
`ProcessHorzJoins`, `SetOwner`, `MoveSplits`), model `Model/HorzJoins.lean` on an abstract heap of `OutPt`s (pointers = indices).

Tie to the code: harness/C02horz.cpp calls the real private functions (a) on hand-built heaps and (b) inside real sweeps whose
`ExecuteInternal` loop is replayed in the harness on the real private members; every heap before/after is compared field by field
with the model (driver command `HORZJOINS`), and the hypotheses/conclusions of the theorems below are decided on the same real
heaps (`HORZJOINSHYP`, through `Decidable` instances of the very propositions used here).

Vocabulary (`Lemmas/HorzJoins*.lean`):
* `Rings H rs` — `rs` lists the rings of the heap: every `c ∈ rs` is a duplicate-free list `a :: t` with `x->next = y ∧ y->prev = x`
  for consecutive `x, y` and for `(last, a)`, and every `OutPt` index is on exactly one of them (`rs.flatten ~ range size`).
  Rings are lists *read following `->next`*; a ring may be listed from any of its nodes (`Rings.rot_head`) and the list of rings
  in any order (`Rings.perm'`).
* `Linked H` — the local form: `next`/`prev` inverse to each other.  `Linked H ↔ ∃ rs, Rings H rs` (`linked_iff_rings`).
* `RecsOK H rs` — every ring is owned by one live record: all its `OutPt`s resolve (`GetRealOutRec(op->outrec)`) to a record whose
  `pts` is on the ring; the `pts` of every live record resolves to that record.   `WF H := ∃ rs, Rings H rs ∧ RecsOK H rs`.
* `RectEdges H` — every edge `a → a->next` is horizontal or vertical (on a heap of rings: every ring is a rectilinear closed path,
  `rectEdges_rings` / `rings_rectEdges`).
* `OnY H y v` — `v` is a valid `OutPt` with `pt.y = y`.   `JoinFlat H j` — `op1`, `op2`, `op1->next`, `op2->prev` on one horizontal line.

All theorems hold for every heap and every `Path1InsidePath2` (a parameter of the model).  The ring/point/rectilinearity/`splits`
theorems about `ConvertHorzSegsToJoins` and `ProcessHorzJoins` are of the form "if the pass returns a heap, then …"; termination
without a fault on every well-formed heap is proved for `DuplicateOp`, `UpdateHorzSegment` and one iteration of `ProcessHorzJoins`
(`processJoin_terminates`: for a join with `op1->next != op2`, and under `using_polytree_` for an acyclic owner graph with
in-range owners), so every fuel bound of the model is shown to suffice: `heap size + 1` for the `OutPt` walks, `FixOutRecPts`
and the ring readers, `table size + 1` for `GetRealOutRec` (`getRealOutRec_fuel_suffices`), `table size + 2` inside `SetOwner`
(the bound of `Owner.setOwner_total`).  Not proved: termination of the two `while` walks inside `ConvertHorzSegsToJoins`' inner loop
(they stop inside the run `left_op … right_op`; the model answers `diverge` otherwise, which never happened on a real heap).
-/
import ClipperVerif.Lemmas.HorzJoinsWF
import ClipperVerif.Lemmas.HorzJoinsProcWF
import ClipperVerif.Model.HorzJoinsCheck
namespace Clipper.Props.C02Horz
open Clipper Clipper.Model.HorzJoins

/-- **A heap whose `next` and `prev` are inverse to each other falls into rings** (the orbits of `->next`; each closes within
`size` steps): the local definition of well-formedness and the one by an explicit list of rings agree. -/
theorem linked_iff_rings {H : Heap} : Linked H ↔ ∃ rs, Rings H rs :=
  ⟨fun L => L.rings, fun ⟨_, R⟩ => R.linked⟩

/-- `WF` in local terms: `next`/`prev` inverse permutations of the valid indices, and for (some, hence — `RecsOK.relist` — any)
listing of the resulting rings every ring's `outrec`s are consistent. -/
theorem wf_iff {H : Heap} : WF H ↔ Linked H ∧ ∃ rs, Rings H rs ∧ RecsOK H rs :=
  ⟨fun ⟨rs, R, K⟩ => ⟨R.linked, rs, R, K⟩, fun ⟨_, h⟩ => h⟩

/-- **The run found when the record has no edges** (closed ring `op :: rest`, read following `->next`).
`opP` = the last of the nodes met going *back* from `op` while they lie on the line `y` and are not `op` itself;
`opN` = the last of the nodes met going *forward* from `op` while they lie on the line and are not `opP`:
together the maximal run of points with `y` containing `op`.  On a ring lying entirely on the line the code (and the model)
returns `opP = op->next`, `opN = op`: the run is the whole ring, cut open at `op`. -/
theorem updateHorzSegment_spec {H : Heap} {op : Nat} {rest : List Nat} (y : Int)
    (hring : IsRingF (nextOf H) (prevOf H) (op :: rest)) (hlt : ∀ v ∈ op :: rest, v < H.ops.size) :
    runEnds H op y none =
      .ok (((rest.reverse ++ [op]).takeWhile (fun v => v != op && onLine H y v)).getLastD op,
           ((rest ++ [op]).takeWhile
              (fun v => v != ((rest.reverse ++ [op]).takeWhile (fun v => v != op && onLine H y v)).getLastD op && onLine H y v)).getLastD op) :=
  runEnds_none_spec y hring hlt

/-- **The run found while the record still has edges**: `opA = outrec->pts` is the front end of the ring under construction,
`opZ = opA->next` its back end.  Reading the ring from `opZ` as `X ++ op :: Y` (so it ends in `opA`), `opP` is the last node met
going back over `X` while on the line and `opN` the last met going forward over `Y` while on the line — the maximal run that
does not extend across the open end between `opA` and `opZ`. -/
theorem updateHorzSegment_spec_edges {H : Heap} {op opA opZ : Nat} {X Y : List Nat} (y : Int)
    (hring : IsRingF (nextOf H) (prevOf H) (X ++ op :: Y)) (hlt : ∀ v ∈ X ++ op :: Y, v < H.ops.size)
    (hZ : (X ++ [op]).head? = some opZ) (hA : (op :: Y).getLast? = some opA) :
    runEnds H op y (some (opA, opZ)) =
      .ok ((X.reverse.takeWhile (onLine H y)).getLastD op, (Y.takeWhile (onLine H y)).getLastD op) :=
  runEnds_some_spec y hring hlt hZ hA

/-- **`UpdateHorzSegment` terminates without a fault on every well-formed heap** and every valid trial `OutPt` (both branches,
flat rings included): the fuel `size + 1` of the model's walks suffices. -/
theorem updateHorzSegment_terminates {H : Heap} (W : WF H) {hs : HorzSeg} (hop : hs.leftOp < H.ops.size) :
    ∃ res, updateHorzSegment H hs = .ok res := by
  obtain ⟨rs, R, K⟩ := W
  obtain ⟨n, hn⟩ := node_of_lt hop
  obtain ⟨c, hc, hopc⟩ := R.exists_ring hop
  obtain ⟨r, p, hp, hpc, hall⟩ := K.ring_rec c hc
  have hreal := hall _ hopc n.orec (orecOf_some.2 ⟨n, hn, rfl⟩)
  obtain ⟨rc, hrc, hpts⟩ : ∃ rc, H.recs[r]? = some rc ∧ rc.pts = some p := by
    cases h : H.recs[r]? with
    | none => simp [h] at hp
    | some rc => simp [h] at hp; exact ⟨rc, rfl, hp⟩
  have hring := R.ring c hc
  have hlt : ∀ v ∈ c, v < H.ops.size := fun v hv => R.mem_lt hc hv
  have h0 : OnY H n.pt.y hs.leftOp := ⟨n.pt, ptOf_some.2 ⟨n, hn, rfl⟩, rfl⟩
  obtain ⟨ends, hends, opP, opN, hrun⟩ : ∃ ends, segEnds H rc = .ok ends ∧ ∃ opP opN, runEnds H hs.leftOp n.pt.y ends = .ok (opP, opN) := by
    unfold segEnds
    by_cases he : rc.hasEdges = true
    · obtain ⟨np, hnp⟩ := node_of_lt (hlt p hpc)
      simp only [he, if_true, hpts, node_ok.2 hnp]
      refine ⟨_, rfl, ?_⟩
      -- the ring read from `opZ = p->next`, ending in `p`
      obtain ⟨pre, post, rfl⟩ := List.append_of_mem hpc
      have hperm : (pre ++ p :: post).Perm ((post ++ pre) ++ [p]) :=
        (List.perm_append_comm (l₁ := pre) (l₂ := p :: post)).trans (List.perm_append_comm (l₁ := [p]) (l₂ := post ++ pre))
      obtain ⟨s, hs'⟩ := exists_head?_snoc (post ++ pre) p
      obtain ⟨X, Y, hXY⟩ := List.append_of_mem (hperm.mem_iff.1 hopc)
      have hZ : (X ++ [hs.leftOp]).head? = some np.next := by
        rw [next_eq hnp (hring.link_succ hs').1, ← hs', hXY]; cases X <;> rfl
      have hA : (hs.leftOp :: Y).getLast? = some p := by
        have := List.getLast?_concat (l := post ++ pre) (a := p)
        rw [hXY, List.getLast?_append] at this
        simpa using this
      have hL := isRingF_rot [p] (post ++ pre) (isRingF_rot pre (p :: post) hring)
      rw [hXY] at hL hperm
      exact ⟨_, _, runEnds_some_spec n.pt.y hL (fun v hv => hlt v (hperm.mem_iff.2 hv)) hZ hA⟩
    · simp only [he]
      refine ⟨_, rfl, ?_⟩
      obtain ⟨pre, post, rfl⟩ := List.append_of_mem hopc
      exact ⟨_, _, runEnds_none_spec n.pt.y (isRingF_rot pre (hs.leftOp :: post) hring)
        fun v hv => hlt v ((List.perm_append_comm (l₁ := pre)).mem_iff.2 hv)⟩
  obtain ⟨oP, oN⟩ := runEnds_onY h0 hrun
  obtain ⟨nP, hnP⟩ := node_of_lt oP.lt
  obtain ⟨nN, hnN⟩ := node_of_lt oN.lt
  have hm : (setHeading hs opP opN nP.pt.x nN.pt.x).1.leftOp < H.ops.size := by
    unfold setHeading
    split
    · exact hop
    · split
      · exact oP.lt
      · exact oN.lt
  obtain ⟨res, hres⟩ := markSegment_total (setHeading hs opP opN nP.pt.x nN.pt.x).2 hm
  refine ⟨res, ?_⟩
  unfold updateHorzSegment
  simp only [bind, Except.bind, node_ok.2 hn, hreal, orec_ok.2 hrc, hends, hrun, node_ok.2 hnP, node_ok.2 hnN, hres]

/-- `UpdateHorzSegment` changes nothing but one `horz` mark, and `left_op` / `right_op` stay on the line of the trial `OutPt`;
it returns `true` exactly when `right_op` is left non-null. -/
theorem updateHorzSegment_frame {H H1 : Heap} {hs hs1 : HorzSeg} {b : Bool} {y0 : Int} (h0 : OnY H y0 hs.leftOp)
    (h : updateHorzSegment H hs = .ok (H1, hs1, b)) :
    SameLinks H H1 ∧ H1.recs = H.recs ∧ orecOf H1 = orecOf H ∧ OnY H1 y0 hs1.leftOp ∧
      (∀ r, hs1.rightOp = some r → OnY H1 y0 r) ∧ (b = true ↔ hs1.rightOp.isSome) :=
  Clipper.Model.HorzJoins.updateHorzSegment_frame h0 h

/-- **`DuplicateOp(op, true)`**: on a heap of rings, with `op`'s ring listed as `pre ++ op :: post`, the call succeeds, returns the
next free index `new`, and the ring becomes `pre ++ op :: new :: post` — one more node, right behind `op`, carrying `op`'s point
and `outrec` (the ring's point sequence gains one repeated point); all other rings, points, `outrec`s and all records are
unchanged. -/
theorem duplicateOp_ring {H : Heap} {A B : List (List Nat)} {pre post : List Nat} {op : Nat}
    (R : Rings H (A ++ (pre ++ op :: post) :: B)) :
    ∃ H' n, H.ops[op]? = some n ∧ duplicateOp H op true = .ok (H', H.ops.size) ∧
      Rings H' (A ++ (pre ++ op :: H.ops.size :: post) :: B) ∧
      ptOf H' = (fun j => if j = H.ops.size then some n.pt else ptOf H j) ∧
      orecOf H' = upd (orecOf H) H.ops.size n.orec ∧ H'.recs = H.recs ∧ H'.ops.size = H.ops.size + 1 :=
  duplicateOp_after_rings R

/-- **`DuplicateOp(op, false)`**: the same with the new node right in front of `op`: `pre ++ new :: op :: post`. -/
theorem duplicateOp_ring_before {H : Heap} {A B : List (List Nat)} {pre post : List Nat} {op : Nat}
    (R : Rings H (A ++ (pre ++ op :: post) :: B)) :
    ∃ H' n, H.ops[op]? = some n ∧ duplicateOp H op false = .ok (H', H.ops.size) ∧
      Rings H' (A ++ (pre ++ H.ops.size :: op :: post) :: B) ∧
      ptOf H' = (fun j => if j = H.ops.size then some n.pt else ptOf H j) ∧
      orecOf H' = upd (orecOf H) H.ops.size n.orec ∧ H'.recs = H.recs ∧ H'.ops.size = H.ops.size + 1 :=
  duplicateOp_before_rings R

/-- **`DuplicateOp` keeps a heap well formed** (and never faults on a valid `OutPt` of a well-formed heap). -/
theorem duplicateOp_wf {H : Heap} (W : WF H) {op : Nat} (hop : op < H.ops.size) (after : Bool) :
    ∃ H', duplicateOp H op after = .ok (H', H.ops.size) ∧ WF H' :=
  Clipper.Model.HorzJoins.duplicateOp_wf W hop after

/-- `DuplicateOp` keeps every edge rectilinear. -/
theorem duplicateOp_rect {H : Heap} {rs : List (List Nat)} (R : Rings H rs) {op : Nat} (hop : op < H.ops.size) (after : Bool) :
    ∃ H', duplicateOp H op after = .ok (H', H.ops.size) ∧ (RectEdges H → RectEdges H') := by
  obtain ⟨H', _, a, _, _, _, _, _, _, r⟩ := duplicateOp_keeps R hop after
  exact ⟨H', a, r⟩

/-- **`ConvertHorzSegsToJoins`** on a heap of rings whose trial `OutPt`s were all registered on the scanline `y0` — *this is the
precondition* (the engine registers `AddTrialHorzJoin(op)` only for `OutPt`s it has just emitted on the current scanline; a
change that registers an `OutPt` of another scanline, like seeded C02-m2 / C01a-m1, violates exactly this premise, and the
harness decides it on every real heap).  If the pass returns, then
* the heap still is a set of as many rings; records, and the point and `outrec` of every old `OutPt`, are unchanged;
* `m` joins were appended to `horz_join_list_`, the `t`-th with the ops `n0 + 2t`, `n0 + 2t + 1`: exactly `2m` `OutPt`s were
  allocated, each a duplicate (point and `outrec`) of an old one — the multiset of points grows exactly by the duplicated points;
* **every new `OutPt` lies on the scanline: both ops of every join made have `y = y0`**;
* rectilinear edges stay rectilinear.

`_partial`: for `ProcessHorzJoins` to create no diagonal edge the *neighbours* `op1->next`, `op2->prev` must lie on the line as well
(`JoinFlat`, see `flat_needs_neighbours`); that `ConvertHorzSegsToJoins` guarantees this too (its walks stop strictly inside the
run `left_op … right_op`) is not proved here — it is decided on every real heap by `HORZJOINSHYP`. -/
theorem convertHorzSegsToJoins_joins_on_scanline_partial {H H' : Heap} {rs : List (List Nat)} {segs segs' : List HorzSeg}
    {joins joins' : List HorzJoin} {y0 : Int}
    (R : Rings H rs) (hline : ∀ hs ∈ segs, OnY H y0 hs.leftOp)
    (h : convertHorzSegsToJoins H segs joins = .ok (H', segs', joins')) :
    ∃ rs' m, Rings H' rs' ∧ rs'.length = rs.length ∧ H'.recs = H.recs ∧
      H'.ops.size = H.ops.size + 2 * m ∧ joins' = joins ++ (List.range m).map (newJoin H.ops.size) ∧
      (∀ i, i < H.ops.size → ptOf H' i = ptOf H i ∧ orecOf H' i = orecOf H i) ∧
      (∀ i, H.ops.size ≤ i → i < H'.ops.size → OnY H' y0 i ∧ ∃ a, a < H.ops.size ∧ ptOf H' i = ptOf H a ∧ orecOf H' i = orecOf H a) ∧
      (∀ hs ∈ segs', OnY H' y0 hs.leftOp) ∧ (RectEdges H → RectEdges H') := by
  have I := convertHorzSegsToJoins_cinv R hline h
  obtain ⟨rs', R', hl'⟩ := I.heap.rings
  obtain ⟨m, hm, hj⟩ := I.made
  exact ⟨rs', m, R', hl', I.heap.recs, hm, hj, I.heap.old, I.heap.fresh, fun hs hhs => I.segs hs (by simpa using hhs), I.heap.rect⟩

/-- **`ConvertHorzSegsToJoins` keeps a heap well formed.** -/
theorem convertHorzSegsToJoins_wf {H H' : Heap} {segs segs' : List HorzSeg} {joins joins' : List HorzJoin} {y0 : Int}
    (W : WF H) (hline : ∀ hs ∈ segs, OnY H y0 hs.leftOp)
    (h : convertHorzSegsToJoins H segs joins = .ok (H', segs', joins')) : WF H' :=
  W.elim fun _ hR => (convertHorzSegsToJoins_cinv hR.1 hline h).heap.wf W

/-- **`ProcessHorzJoins`, same-ring branch** ("the join is really a split"): with both ops on the ring `op1 :: X ++ op2 :: Y`
(`X ≠ []`, i.e. `op1->next != op2`), the ring falls into the two rings `op1 :: op2 :: Y` and `X`, whose sequences concatenate
to the original; every other ring and every point is unchanged.  (Whichever branch of the ownership code runs and whatever
`Path1InsidePath2` answers.) -/
theorem processHorzJoins_rings_split {inside : List Pt → List Pt → Bool} {tree : Bool} {H H' : Heap} {j : HorzJoin}
    {X Y : List Nat} {rest : List (List Nat)} (R : Rings H ((j.op1 :: X ++ j.op2 :: Y) :: rest)) (hX : X ≠ [])
    (h : processJoin inside tree H j = .ok H') :
    Rings H' ((j.op1 :: j.op2 :: Y) :: X :: rest) ∧ ptOf H' = ptOf H ∧ H'.ops.size = H.ops.size :=
  processJoin_split_rings R hX h

/-- **`ProcessHorzJoins`, two-ring branch**: with the ops on the rings `op1 :: X` and `op2 :: Y`, these become the single ring
`op1 :: op2 :: Y ++ X` — the concatenation at the join points. -/
theorem processHorzJoins_rings_merge {inside : List Pt → List Pt → Bool} {tree : Bool} {H H' : Heap} {j : HorzJoin}
    {X Y : List Nat} {rest : List (List Nat)} (R : Rings H ((j.op1 :: X) :: (j.op2 :: Y) :: rest))
    (h : processJoin inside tree H j = .ok H') :
    Rings H' ((j.op1 :: j.op2 :: (Y ++ X)) :: rest) ∧ ptOf H' = ptOf H ∧ H'.ops.size = H.ops.size :=
  processJoin_merge_rings R h

/-- the degenerate same-ring case `op1->next == op2`: no link changes (but the code still appends a record, which then shares
the ring with `or1` — a state outside `WF`; `ConvertHorzSegsToJoins` never produced it in any run of the harness). -/
theorem processHorzJoins_rings_degenerate {inside : List Pt → List Pt → Bool} {tree : Bool} {H H' : Heap} {j : HorzJoin}
    {Y : List Nat} {rest : List (List Nat)} (R : Rings H ((j.op1 :: j.op2 :: Y) :: rest))
    (h : processJoin inside tree H j = .ok H') :
    Rings H' ((j.op1 :: j.op2 :: Y) :: rest) ∧ ptOf H' = ptOf H ∧ H'.ops.size = H.ops.size :=
  processJoin_degenerate_rings R h

/-- **A flat join creates no diagonal edge** (one iteration). -/
theorem processJoin_no_diagonal {inside : List Pt → List Pt → Bool} {tree : Bool} {H H' : Heap} {j : HorzJoin}
    (r : RectEdges H) (f : JoinFlat H j) (h : processJoin inside tree H j = .ok H') : RectEdges H' :=
  processJoin_rect r f h

/-- **`ProcessHorzJoins` on a heap of rings** (the whole list): the result is a heap of rings carrying the same points at the
same `OutPt`s — the multiset of points over all rings is unchanged by this pass (it grew by the duplicates in
`ConvertHorzSegsToJoins`) — and if every edge was horizontal or vertical and every join is flat, every edge still is:
**flat joins never create a diagonal edge**, so every ring stays a rectilinear closed path (`rectEdges_rings`). -/
theorem processHorzJoins_rings {inside : List Pt → List Pt → Bool} {tree : Bool} (js : List HorzJoin) (H H' : Heap) (rs : List (List Nat))
    (R : Rings H rs) (ok : JoinsOK H js) (h : processHorzJoins inside tree H js = .ok H') :
    ∃ rs', Rings H' rs' ∧ ptOf H' = ptOf H ∧ H'.ops.size = H.ops.size ∧
      (RectEdges H → (∀ j ∈ js, JoinFlat H j) → RectEdges H' ∧ ∀ c ∈ rs', RectRing (ptOf H') c) := by
  obtain ⟨rs', R', a, b, c⟩ := processHorzJoins_keeps js H H' rs R ok h
  exact ⟨rs', R', a, b, fun r f => ⟨c r f, rectEdges_rings R' (c r f)⟩⟩

/-- **One iteration of `ProcessHorzJoins` keeps a heap well formed** — split or merge, paths or polytree mode, whatever
`Path1InsidePath2` answers: after a split one of the two rings is owned by `or1` (the one holding `or1->pts`, or under
`using_polytree_` possibly the other one after the swap) and the other by the new record, all `OutPt::outrec` fields resolving
accordingly; after a merge the `OutPt`s that resolved to `or2` resolve to `or1` through the emptied `or2`
(`GetRealOutRec` still within its fuel).  The degenerate join `op1->next == op2` is excluded: after it two records share a ring. -/
theorem processJoin_wf {inside : List Pt → List Pt → Bool} {tree : Bool} {H H' : Heap} {j : HorzJoin}
    (W : WF H) (h1 : j.op1 < H.ops.size) (h2 : j.op2 < H.ops.size) (hne : j.op1 ≠ j.op2)
    (hnd : nextOf H j.op1 ≠ some j.op2) (h : processJoin inside tree H j = .ok H') : WF H' :=
  Clipper.Model.HorzJoins.processJoin_wf W h1 h2 hne hnd h

/-- **One iteration of `ProcessHorzJoins` terminates without a fault on every well-formed heap** (non-degenerate join): the
fuel of every loop of the model suffices — `GetRealOutRec` (`size + 1`), `FixOutRecPts` and the ring readers feeding
`Path1InsidePath2` (`heap size + 1`), and under `using_polytree_` `SetOwner` (`size + 2`, for an acyclic owner graph with
in-range owners: the premise of `Owner.setOwner_total`, which C04 establishes for the tables of real sweeps). -/
theorem processJoin_terminates {inside : List Pt → List Pt → Bool} {tree : Bool} {H : Heap} {j : HorzJoin}
    (W : WF H) (h1 : j.op1 < H.ops.size) (h2 : j.op2 < H.ops.size) (hne : j.op1 ≠ j.op2)
    (hnd : nextOf H j.op1 ≠ some j.op2)
    (hA : tree = true → Clipper.Model.Owner.Acyclic (toTable H) ∧ Clipper.Model.Owner.OwnersInRange (toTable H)) :
    ∃ H', processJoin inside tree H j = .ok H' := by
  obtain ⟨rs, R, K⟩ := W
  rcases R.focus2 h1 h2 hne with ⟨X, Y, rest, R1, L, _⟩ | ⟨X, Y, rest, R1, L, _⟩
  · cases X with
    | nil => exact absurd ((R1.ring _ List.mem_cons_self).next_head (a := j.op1) (b := j.op2) (t := Y)).1 hnd
    | cons x0 X' =>
      obtain ⟨Hs, r, pr, Rs, _, ers, _, hrp, hprc, _, e⟩ := processJoin_eq_split inside tree R1 (K.relist L)
      have hprc' : pr ∈ j.op1 :: j.op2 :: Y ∨ pr ∈ x0 :: X' := List.mem_append.1
        ((List.Perm.cons j.op1 (List.perm_append_comm (l₁ := x0 :: X') (l₂ := j.op2 :: Y))).mem_iff.1 hprc)
      obtain ⟨H', e', _⟩ := splitBranch_spec inside tree (j := j) Rs List.mem_cons_self ((livePts_of_recs ers r).trans hrp) hprc'
      exact ⟨H', e.trans e'⟩
  · obtain ⟨Hs, r1, r2, p1, p2, _, hp1, _, hp2, _, _, _, _, ers, e⟩ := processJoin_eq_merge inside tree R1 (K.relist L)
    obtain ⟨H', hm⟩ := mergeBranch_total (tree := tree) (ers ▸ lt_of_livePts hp1 : r1 < Hs.recs.size)
      (ers ▸ lt_of_livePts hp2 : r2 < Hs.recs.size) (by rw [toTable_of_recs ers]; exact hA)
    exact ⟨H', e.trans hm⟩

/-- **`ProcessHorzJoins` keeps a heap well formed** (no join degenerate when its turn comes, `NonDegenerate`). -/
theorem processHorzJoins_wf {inside : List Pt → List Pt → Bool} {tree : Bool} (js : List HorzJoin) (H H' : Heap)
    (W : WF H) (ok : JoinsOK H js) (nd : NonDegenerate inside tree H js)
    (h : processHorzJoins inside tree H js = .ok H') : WF H' :=
  Clipper.Model.HorzJoins.processHorzJoins_wf js H H' W ok nd h

/-- **`GetRealOutRec` within the model's fuel**: on any heap, `GetRealOutRec(op->outrec)` returns the live record `r` with fuel
`table size + 1` exactly when a chain of emptied records leads from the record to `r` — the chain has no repetition, so the fuel
always suffices when the C++ loop terminates at a live record. -/
theorem getRealOutRec_fuel_suffices {H : Heap} {i r : Nat} : realOf H i = .ok (some r) ↔ ∃ l, DeadChain H i l r :=
  realOf_iff_chain

/-- **`FixOutRecPts` within the model's fuel**: on a heap of rings it terminates and relabels exactly the ring of `outrec->pts`. -/
theorem fixOutRecPts_ring {H : Heap} {rs : List (List Nat)} (R : Rings H rs) {ri a : Nat} {t : List Nat} (hc : (a :: t) ∈ rs)
    {rc : ORec} (hrc : H.recs[ri]? = some rc) (hp : rc.pts = some a) :
    ∃ H', fixOutRecPts H ri = .ok H' ∧ SameLinks H H' ∧ H'.recs = H.recs ∧
      orecOf H' = (fun i => if i ∈ a :: t then some ri else orecOf H i) :=
  fixOutRecPts_spec R hc hrc hp

/-- **`splits` bookkeeping of one iteration of `ProcessHorzJoins`.**  With `or1`, `or2` the real records of the two join ops:
* `or1 == or2` (split): one record `new = |outrec_list_|` is appended; under `using_polytree_` it is pushed onto `or1->splits`
  (and onto no other list), otherwise no list changes; the new record has no `splits`;
* `or1 != or2` (merge): no record is appended, `or2->pts` becomes null; under `using_polytree_` the entries of `or2->splits`
  are appended to `or1->splits` and `or2->splits` is emptied (`MoveSplits`, #618), every other list is unchanged; otherwise no list
  changes.
`splitsOf` is the list `Model/Owner.lean` works with (`splitsOf_view`). -/
theorem splits_bookkeeping {inside : List Pt → List Pt → Bool} {tree : Bool} {H H' : Heap} {j : HorzJoin}
    (h : processJoin inside tree H j = .ok H') :
    ∃ n1 n2 or1 or2, H.ops[j.op1]? = some n1 ∧ H.ops[j.op2]? = some n2 ∧
      realOf H n1.orec = .ok or1 ∧ realOf H n2.orec = .ok or2 ∧
      ((or1 = or2 ∧ ∃ o1, or1 = some o1 ∧ H'.recs.size = H.recs.size + 1 ∧
          splitsOf H' o1 = (if tree then splitsOf H o1 ++ [H.recs.size] else splitsOf H o1) ∧
          splitsOf H' H.recs.size = [] ∧ (∀ k, k ≠ o1 → k ≠ H.recs.size → splitsOf H' k = splitsOf H k)) ∨
       (or1 ≠ or2 ∧ ∃ o2, or2 = some o2 ∧ H'.recs.size = H.recs.size ∧ (∃ rc, H'.recs[o2]? = some rc ∧ rc.pts = none) ∧
          (tree = true → ∃ o1, or1 = some o1 ∧ splitsOf H' o1 = splitsOf H o1 ++ splitsOf H o2 ∧ splitsOf H' o2 = [] ∧
            ∀ k, k ≠ o1 → k ≠ o2 → splitsOf H' k = splitsOf H k) ∧
          (tree = false → SameSplits H H'))) := by
  unfold processJoin at h
  simp only [bind_ok] at h
  obtain ⟨n1, hn1, or1, hr1, n2, hn2, or2, hr2, ⟨Hs, b1, b2⟩, hs, h⟩ := h
  have er := (splice_ok_eqs hs).2.2.2.2.2.2.1
  have ess : SameSplits H Hs := sameSplits_of_recs er
  refine ⟨n1, n2, or1, or2, node_ok.1 hn1, node_ok.1 hn2, hr1, hr2, ?_⟩
  simp only at h
  split at h
  · rename_i heq
    left
    have hlt : ∀ o1, or1 = some o1 → o1 < Hs.recs.size := fun o1 e => by
      obtain ⟨rc, hrc, _⟩ := (res_iff.1 (e ▸ hr1)).live
      exact er ▸ lt_of_rec hrc
    obtain ⟨o1, e1, a, b, c, d⟩ := splitBranch_splits hlt h
    rw [er] at a b c d
    refine ⟨heq, o1, e1, a, ?_, c, ?_⟩
    · rw [b]; cases tree <;> simp [ess o1]
    · intro k h1 h2; rw [d k h1 h2, ess k]
  · rename_i hne
    right
    obtain ⟨o2, e2, a, b, c, d⟩ := mergeBranch_splits hne h
    rw [er] at a
    refine ⟨hne, o2, e2, a, b, ?_, fun ht => ess.trans (d ht)⟩
    intro ht
    obtain ⟨o1, e1, x, y, z⟩ := c ht
    exact ⟨o1, e1, by rw [x, ess o1, ess o2], y, fun k h1 h2 => by rw [z k h1 h2, ess k]⟩

/-- `MoveSplits(fromOr, toOr)` in the view of `Model/Owner.lean`. -/
theorem moveSplits_bookkeeping {H H' : Heap} {a b : Nat} (hab : a ≠ b) (h : moveSplits H a b = .ok H') :
    splitsOf H' b = splitsOf H b ++ splitsOf H a ∧ splitsOf H' a = [] ∧ (∀ k, k ≠ a → k ≠ b → splitsOf H' k = splitsOf H k) := by
  obtain ⟨x, y, z, _⟩ := moveSplits_spec hab h
  exact ⟨x, y, z⟩

/-- **The join model and the ownership model (C04) agree**: `GetRealOutRec`, `IsValidOwner` and `SetOwner` of
`Model/HorzJoins.lean` are those of `Model/Owner.lean` on the view `toTable` (`pts ↦ hasPts`, null `splits ↦ []`), so the
theorems of C04 about `SetOwner` (acyclicity kept, termination within `size + 2`) apply to the join pass. -/
theorem owner_model_agrees (H : Heap) :
    (∀ f x v, getRealOutRec H f x = .ok v ↔ Clipper.Model.Owner.getRealOutRec (toTable H) f x = some v) ∧
    (∀ i f x v, isValidOwner H i f x = .ok v ↔ Clipper.Model.Owner.isValidOwner (toTable H) f i x = some v) ∧
    (∀ i no H', setOwner H i no = .ok H' → Clipper.Model.Owner.setOwner (toTable H) ((toTable H).size + 2) i no = some (toTable H')) :=
  ⟨getRealOutRec_view H, fun i => isValidOwner_view H i, fun _ _ _ h => setOwner_view h⟩

/-- ring 0-3: (0,0) (4,0) (4,2) (0,2), record 0;  ring 4-7: (1,2) (3,2) (3,4) (1,4), record 1.  They share the line y = 2:
`2 → 3` runs from x = 4 to x = 0, `4 → 5` from x = 1 to x = 3 (opposite directions, overlapping). -/
def exH : Heap :=
  { ops := #[⟨⟨0,0⟩,1,3,0,false⟩, ⟨⟨4,0⟩,2,0,0,false⟩, ⟨⟨4,2⟩,3,1,0,false⟩, ⟨⟨0,2⟩,0,2,0,false⟩,
             ⟨⟨1,2⟩,5,7,1,false⟩, ⟨⟨3,2⟩,6,4,1,false⟩, ⟨⟨3,4⟩,7,5,1,false⟩, ⟨⟨1,4⟩,4,6,1,false⟩],
    recs := #[{ pts := some 0 }, { pts := some 4 }] }

def exRings : List (List Nat) := [[0, 1, 2, 3], [4, 5, 6, 7]]

theorem exH_rings : Rings exH exRings := by decide

example : Rings exH exRings := exH_rings
example : RectEdges exH := by rw [← rectEdgesB_iff]; decide
/-- `exH` is well formed (so every theorem above with hypothesis `WF` applies to it) -/
theorem exH_wf : WF exH := ⟨exRings, exH_rings, recsOKB_sound (by decide)⟩
example : OnY exH 2 2 ∧ OnY exH 2 4 := by constructor <;> (rw [← onYB_iff]; decide)

/-- `UpdateHorzSegment` on the trial `OutPt` 2 finds the run 2..3 heading right to left: `left_op = 3`, `right_op = 2` -/
example : (updateHorzSegment exH { leftOp := 2 }).toOption.map (·.2) = some ({ leftOp := 3, rightOp := some 2, ltr := false }, true) := by decide

/-- after the first pass (two `horz` marks) -/
def exH1 : Heap :=
  { ops := #[⟨⟨0,0⟩,1,3,0,false⟩, ⟨⟨4,0⟩,2,0,0,false⟩, ⟨⟨4,2⟩,3,1,0,false⟩, ⟨⟨0,2⟩,0,2,0,true⟩,
             ⟨⟨1,2⟩,5,7,1,true⟩, ⟨⟨3,2⟩,6,4,1,false⟩, ⟨⟨3,4⟩,7,5,1,false⟩, ⟨⟨1,4⟩,4,6,1,false⟩],
    recs := #[{ pts := some 0 }, { pts := some 4 }] }
def exSegs : List HorzSeg := [{ leftOp := 3, rightOp := some 2, ltr := false }, { leftOp := 4, rightOp := some 5, ltr := true }]

/-- after `ConvertHorzSegsToJoins`: the duplicates 8 (of 4, behind it) and 9 (of 3, in front of it), the join (8, 9) -/
def exH2 : Heap :=
  { ops := #[⟨⟨0,0⟩,1,3,0,false⟩, ⟨⟨4,0⟩,2,0,0,false⟩, ⟨⟨4,2⟩,9,1,0,false⟩, ⟨⟨0,2⟩,0,9,0,true⟩,
             ⟨⟨1,2⟩,8,7,1,true⟩, ⟨⟨3,2⟩,6,8,1,false⟩, ⟨⟨3,4⟩,7,5,1,false⟩, ⟨⟨1,4⟩,4,6,1,false⟩,
             ⟨⟨1,2⟩,5,4,1,false⟩, ⟨⟨0,2⟩,3,2,0,false⟩],
    recs := #[{ pts := some 0 }, { pts := some 4 }] }

/-- `ConvertHorzSegsToJoins` on `exH` with the trial `OutPt`s 2 and 4, both on the line y = 2 (the hypotheses of
`convertHorzSegsToJoins_joins_on_scanline_partial` are the `example`s above): two duplicates, one join -/
theorem ex_convert : convertHorzSegsToJoins exH [{ leftOp := 2 }, { leftOp := 4 }] [] = .ok (exH2, exSegs, [⟨8, 9⟩]) := by
  have h1 : updateAll exH [{ leftOp := 2 }, { leftOp := 4 }] = .ok (exH1, exSegs, 2) := by rfl
  have h2 : sortSegs exH1 exSegs = .ok exSegs := by
    simp [sortSegs, keyed, exSegs, exH1, Heap.node, List.mergeSort, List.MergeSort.Internal.splitInTwo, segLe, segBefore, Gen.HorzSegSorter]
  unfold convertHorzSegsToJoins
  rw [h1]; simp only [h2]
  rfl

theorem exH2_rings : Rings exH2 [[0, 1, 2, 9, 3], [4, 8, 5, 6, 7]] := by decide

example : Rings exH2 [[0, 1, 2, 9, 3], [4, 8, 5, 6, 7]] := exH2_rings
example : JoinFlat exH2 ⟨8, 9⟩ := by rw [← joinFlatB_iff]; decide
example : JoinsOK exH2 [⟨8, 9⟩] := by decide

/-- `ProcessHorzJoins` (paths mode): the two rings are merged at the join into `8 :: 9 :: 3 :: 0 :: 1 :: 2 ++ 5 :: 6 :: 7 :: 4`,
record 0 is emptied and owned by record 1 -/
def exH3 : Heap :=
  { ops := #[⟨⟨0,0⟩,1,3,0,false⟩, ⟨⟨4,0⟩,2,0,0,false⟩, ⟨⟨4,2⟩,5,1,0,false⟩, ⟨⟨0,2⟩,0,9,0,true⟩,
             ⟨⟨1,2⟩,8,7,1,true⟩, ⟨⟨3,2⟩,6,2,1,false⟩, ⟨⟨3,4⟩,7,5,1,false⟩, ⟨⟨1,4⟩,4,6,1,false⟩,
             ⟨⟨1,2⟩,9,4,1,false⟩, ⟨⟨0,2⟩,3,8,0,false⟩],
    recs := #[{ pts := none, owner := some 1 }, { pts := some 4 }] }

theorem ex_process : processHorzJoins (fun _ _ => false) false exH2 [⟨8, 9⟩] = .ok exH3 := by rfl

example : NonDegenerate (fun _ _ => false) false exH2 [⟨8, 9⟩] := ⟨by decide, fun _ _ => trivial⟩
theorem exH3_rings : Rings exH3 [[8, 9, 3, 0, 1, 2, 5, 6, 7, 4]] := by decide

example : Rings exH3 [[8, 9, 3, 0, 1, 2, 5, 6, 7, 4]] := exH3_rings
example : RectEdges exH3 := by rw [← rectEdgesB_iff]; decide
example : WF exH3 := ⟨_, exH3_rings, recsOKB_sound (by decide)⟩
example : WF exH2 := ⟨_, exH2_rings, recsOKB_sound (by decide)⟩

/-- **Equal `y` of the two join ops alone does not suffice**: in this rectilinear heap (two unit squares) the join (0, 4) has
`op1.y = op2.y = 0`, but the surgery also connects `op2->prev = (5,3)` with `op1->next = (1,0)`: a diagonal edge.
Hence the neighbour condition in `JoinFlat`. -/
def exDiag : Heap :=
  { ops := #[⟨⟨0,0⟩,1,3,0,false⟩, ⟨⟨1,0⟩,2,0,0,false⟩, ⟨⟨1,1⟩,3,1,0,false⟩, ⟨⟨0,1⟩,0,2,0,false⟩,
             ⟨⟨5,0⟩,5,7,1,false⟩, ⟨⟨6,0⟩,6,4,1,false⟩, ⟨⟨6,3⟩,7,5,1,false⟩, ⟨⟨5,3⟩,4,6,1,false⟩],
    recs := #[{ pts := some 0 }, { pts := some 4 }] }

theorem flat_needs_neighbours :
    RectEdges exDiag ∧ SameY (ptOf exDiag) 0 4 ∧ ¬ JoinFlat exDiag ⟨0, 4⟩ ∧
    ∃ H', processJoin (fun _ _ => false) false exDiag ⟨0, 4⟩ = .ok H' ∧ ¬ RectEdges H' := by
  refine ⟨by rw [← rectEdgesB_iff]; decide, ⟨⟨0, 0⟩, ⟨5, 0⟩, by decide, by decide, rfl⟩, by rw [← joinFlatB_iff]; decide, ?_⟩
  refine ⟨_, rfl, ?_⟩
  rw [← rectEdgesB_iff]; decide

end Clipper.Props.C02Horz

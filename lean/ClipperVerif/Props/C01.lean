/-
C01 — Boolean operations return the region defined by the fill rule and clip type.

Proved here (bookkeeping level, see DESIGN.md §5 C01 items 1–4):
the decision table `IsContributingClosed` (generated from the C++) is exactly "the filled state of
`Spec.inR` differs across the edge"; `SetWindCountForClosedPathEdge` computes the encodings of the winding
sums; the AEL invariant `Model.Inv` is preserved by every bookkeeping operation (local-minimum insertion,
`IntersectEdges`+swap in its closed and open branch, maxima removal) and therefore holds after every operation
sequence from the empty AEL — unbounded length, unbounded winding magnitudes; and in every state satisfying the
invariant the hot closed edges bound exactly the region `inR ct fr Ws Wc`, each boundary once (`coverage_1d`).

NOT proved (remains spec-level correspondence): that the real sweep presents operations in an order that keeps the
AEL geometrically sorted (IsValidAelOrder, intersect-list order), intersection rounding, ring assembly.
`ClipType::NoClip` never sweeps (`ExecuteInternal` returns before the first scanbeam), and the invariant is indeed
false for it (a cold/cold different-type crossing would call `AddLocalMinPoly`); theorems about operations carry
`ct ≠ .noClip`.
-/
import ClipperVerif.Lemmas.Ael
import ClipperVerif.Generated.Engine
namespace Clipper.Props.C01
open Clipper Clipper.Model

/-- **Bridge (Tie T).** The definition generated from the current C++ `IsContributingClosed` equals the hand model
`pre fr wc && sel ct pt (otherIn fr wc2)`, for all clip types (incl. NoClip), fill rules, path types and integers.
Proved by exhaustive case analysis + arithmetic, independent of the syntactic shape of the generated code. -/
theorem isContributingClosed_bridge (ct : ClipType) (fr : FillRule) (pt : PathType) (wc wc2 : Int) :
    Gen.IsContributingClosed ct pt wc wc2 fr = isContributingClosed ct fr pt wc wc2 := by
  cases fr <;> cases ct <;>
    simp [Gen.IsContributingClosed, isContributingClosed, pre, sel, otherIn, Gen.iabs, iabs] <;> cases pt <;> grind

/-- **contributing_iff_boundary.** Let an edge of path type `pt` and direction `d = ±1` have own-type winding sum `wl` on
its left (so `wl + d` on its right) and other-type sum `w2`.  If its stored counts encode these sums (`WcOK`:
`wc` = the one of `wl`, `wl+d` with larger magnitude, any of ±1 under EvenOdd; `wc2 = w2`, its parity under EvenOdd) then
the C++ `IsContributingClosed` is true exactly when the `Spec.inR` region membership differs between the two sides
of the edge.  All clip types (incl. NoClip: both sides `false`), fill rules, path types, all integers. -/
theorem contributing_iff_boundary (ct : ClipType) (fr : FillRule) (pt : PathType) (wc wc2 wl w2 d : Int)
    (hd : d = 1 ∨ d = -1) (h : WcOK fr wc d wc2 wl w2) :
    Gen.IsContributingClosed ct pt wc wc2 fr = (filled ct fr pt wl w2 != filled ct fr pt (wl + d) w2) := by
  rw [isContributingClosed_bridge]; exact icc_boundary ct fr pt wc d wc2 wl w2 hd h

/-- the same with the canonical encodings substituted -/
theorem contributing_iff_boundary_enc (ct : ClipType) (fr : FillRule) (pt : PathType) (wl w2 d : Int)
    (hd : d = 1 ∨ d = -1) :
    Gen.IsContributingClosed ct pt (encWc fr wl d) (enc2 fr w2) fr =
      (filled ct fr pt wl w2 != filled ct fr pt (wl + d) w2) :=
  contributing_iff_boundary ct fr pt _ _ wl w2 d hd (wcOK_enc fr wl d w2 hd)

example : WcOK .nonZero 3 1 (-2) 2 (-2) := by simp [WcOK, maxabs, iabs]
example : WcOK .evenOdd (-1) 1 1 2 (-5) := by simp [WcOK]

/-- **wind_insert.** In a state satisfying the invariant, `SetWindCountForClosedPathEdge` run for a new closed edge
(a fresh `Active`: `wind_cnt2 = 0`) placed after the edges `left` stores exactly the encodings of the closed-path
winding sums of `left`: own type in `wc`, other type in `wc2`; no other field changes.  Any length, any
magnitudes, open edges interleaved. -/
theorem wind_insert (cfg : Cfg) (left : List Edge) (e : Edge)
    (hinv : Inv cfg left) (ho : e.isOpen = false) (hw2 : e.wc2 = 0) (hd : e.dx = 1 ∨ e.dx = -1) :
    setWindClosed cfg.fr left e =
      { e with wc := encWc cfg.fr (sumT e.pt left) e.dx, wc2 := enc2 cfg.fr (sumT (other e.pt) left) } :=
  setWindClosed_spec cfg left e hinv ho hw2 hd

/-- the executable checker decides the invariant -/
theorem checkInvFrom_iff (cfg : Cfg) (l : List Edge) : ∀ (s c : Int),
    checkInvFrom cfg s c l = true ↔ InvFrom cfg s c l := by
  induction l with
  | nil => intro s c; simp [checkInvFrom, InvFrom]
  | cons e rest ih =>
    intro s c
    simp only [checkInvFrom, InvFrom, Bool.and_eq_true, Bool.or_eq_true, ih]
    have : edgeOKb cfg e (own e.pt s c) (own (other e.pt) s c) = true ↔
        EdgeOK cfg e (own e.pt s c) (own (other e.pt) s c) := by
      simp only [edgeOKb, EdgeOK, wcOKb, WcOK]
      cases cfg.fr <;> simp [and_assoc]
    rw [this]
    cases e.isOpen <;> simp

theorem checkInv_iff (cfg : Cfg) (l : Ael) : checkInv cfg l = true ↔ Inv cfg l :=
  checkInvFrom_iff cfg l 0 0

/-- Every accepted event keeps the invariant: the window it rewrites (`step_iff`) keeps its winding sums, so by `window_frame` only
the new window has to be correct for the sums of the prefix.  Only `IntersectEdges` looks at the clip type. -/
theorem inv_event (cfg : Cfg) (l l' : Ael) (op : Op) (hct : cfg.ct ≠ .noClip ∨ ∀ i, op ≠ .intersect i)
    (h : Inv cfg l) (hs : step cfg l op = some l') : Inv cfg l' := by
  obtain ⟨pre, mid, mid', rest, rfl, rfl, hW⟩ := step_iff.mp hs
  refine window_frame (P := InvFrom cfg) (invFrom_append cfg) hW.sum h fun hpre hmid => ?_
  cases hW with
  | insertPair pt o dx hdx lb hlb hpt ho hd =>
    subst hpt hd
    cases o
    · -- closed pair: `SetWindCountForClosedPathEdge` stores the encodings of the sums of the prefix
      have hw := setWindClosed_spec cfg pre (fresh lb.pt false lb.dx) hpre rfl rfl hdx
      simp only [newLeft, Bool.false_eq_true, if_false, hw] at hlb
      refine invFrom_insert_closed cfg _ _ lb ho hdx ?_ ?_ ?_
      · rw [hlb, own_zero_add_sum]
      · rw [hlb, own_zero_add_sum]
      · rw [hlb]
    · rw [invFrom_cons_open _ _ _ _ ho, invFrom_cons_open _ _ _ _ rfl]; trivial
  | insertOne pt dx hdx e he hpt ho => exact (invFrom_cons_open _ _ _ e ho _).mpr trivial
  | intersect e1 e2 => exact invFrom_pair_swap cfg (hct.resolve_right fun h => h _ rfl) _ _ e1 e2 hmid
  | removePair e1 e2 hc => trivial
  | removeOne e ho => trivial

/-- **inv_insert.** Inserting a local minimum (both bounds) at any position preserves the invariant. -/
theorem inv_insert (cfg : Cfg) (pos : Nat) (pt : PathType) (isOpen : Bool) (dxLeft : Int) (l l' : Ael)
    (h : Inv cfg l) (hs : insertPair cfg pos pt isOpen dxLeft l = some l') : Inv cfg l' :=
  inv_event cfg l l' (.insertPair pos pt isOpen dxLeft) (.inr nofun) h hs

/-- inserting the single bound of an open path's end vertex preserves the invariant -/
theorem inv_insertOne (cfg : Cfg) (pos : Nat) (pt : PathType) (dx : Int) (l l' : Ael)
    (h : Inv cfg l) (hs : insertOne cfg pos pt dx l = some l') : Inv cfg l' :=
  inv_event cfg l l' (.insertOne pos pt dx) (.inr nofun) h hs

/-- **inv_intersect.** `IntersectEdges` + `SwapPositionsInAEL` on any adjacent pair (closed/closed of the same or of
different path types: count updates and hot/cold transitions; open/closed; open/open) preserves the invariant of the
whole list: the winding sums seen by all other edges are unchanged by an adjacent swap. -/
theorem inv_intersect (cfg : Cfg) (hct : cfg.ct ≠ .noClip) (i : Nat) (l l' : Ael)
    (h : Inv cfg l) (hs : intersect cfg i l = some l') : Inv cfg l' :=
  inv_event cfg l l' (.intersect i) (.inl hct) h hs

/-- **inv_removePair.** Removing an adjacent maxima pair (same path, opposite directions) preserves the invariant. -/
theorem inv_removePair (cfg : Cfg) (i : Nat) (l l' : Ael)
    (h : Inv cfg l) (hs : removePair i l = some l') : Inv cfg l' :=
  inv_event cfg l l' (.removePair i) (.inr nofun) h hs

/-- removing an open edge at its path's end preserves the invariant -/
theorem inv_removeOne (cfg : Cfg) (i : Nat) (l l' : Ael)
    (h : Inv cfg l) (hs : removeOne i l = some l') : Inv cfg l' :=
  inv_event cfg l l' (.removeOne i) (.inr nofun) h hs

/-- **inv_step.** Every operation preserves the invariant. -/
theorem inv_step (cfg : Cfg) (hct : cfg.ct ≠ .noClip) (l l' : Ael) (op : Op)
    (h : Inv cfg l) (hs : step cfg l op = some l') : Inv cfg l' :=
  inv_event cfg l l' op (.inl hct) h hs

theorem inv_run (cfg : Cfg) (hct : cfg.ct ≠ .noClip) (ops : List Op) : ∀ (l l' : Ael),
    Inv cfg l → run cfg l ops = some l' → Inv cfg l' :=
  run_invariant cfg (Inv cfg) ops fun op _ l l' => inv_step cfg hct l l' op

/-- **inv_reachable.** After every sequence of operations from the empty AEL — any length, any positions, any
interleaving of closed subject, closed clip and open edges, hence any winding magnitudes — every closed edge stores
the encodings of the winding sums to its left and is hot exactly when it is contributing. -/
theorem inv_reachable (cfg : Cfg) (hct : cfg.ct ≠ .noClip) (ops : List Op) (l : Ael)
    (hr : run cfg [] ops = some l) : Inv cfg l :=
  inv_run cfg hct ops [] l (by simp [Model.Inv, InvFrom]) hr

/-- **coverage_1d.** In a state satisfying the invariant, for every gap `k` (between positions `k-1` and `k`, `k = 0`
being left of everything): the point of the scanline in that gap belongs to the region `inR ct fr Ws Wc` of its
subject / clip winding numbers **iff** the number of hot closed edges to its left is odd.  Reading the hot closed
edges left to right they therefore alternately start and end the region, exactly at its boundaries — the region is
covered, nothing else is, and nothing is covered twice. -/
theorem coverage_1d (cfg : Cfg) (l : Ael) (h : Inv cfg l) (k : Nat) :
    inR cfg.ct cfg.fr (sumT .subject (l.take k)) (sumT .clip (l.take k)) =
      decide (hotCount (l.take k) % 2 = 1) := by
  have := coverage_from cfg l 0 0 k h
  rw [inR_zero, Int.zero_add, Int.zero_add] at this
  rw [this]; simp

theorem sum_step (cfg : Cfg) (t : PathType) (l l' : Ael) (op : Op)
    (hs : step cfg l op = some l') : sumT t l' = sumT t l := by
  obtain ⟨pre, mid, mid', rest, rfl, rfl, hW⟩ := step_iff.mp hs
  simp only [sumT_append, hW.sum]

theorem sum_reachable (cfg : Cfg) (t : PathType) (ops : List Op) (l l' : Ael)
    (hr : run cfg l ops = some l') : sumT t l' = sumT t l :=
  run_invariant cfg (fun x => sumT t x = sumT t l) ops
    (fun op _ l1 l2 h hs => (sum_step cfg t l1 l2 op hs).trans h) l l' rfl hr

/-- **the hot closed edges of a reachable state are even in number** (every started region is ended): the winding sums over the whole list are 0 (`sum_reachable`) -/
theorem hot_even (cfg : Cfg) (hct : cfg.ct ≠ .noClip) (ops : List Op) (l : Ael)
    (hr : run cfg [] ops = some l) : hotCount l % 2 = 0 := by
  have h := coverage_1d cfg l (inv_reachable cfg hct ops l hr) l.length
  rw [List.take_length, sum_reachable cfg .subject ops [] l hr, sum_reachable cfg .clip ops [] l hr] at h
  simp only [sumT, inR_zero] at h
  have := of_decide_eq_false h.symm
  omega

/- Non-vacuity: the scanbeams of two overlapping squares.
Subject square x∈[0,10], clip square x∈[5,15], both counter-clockwise (left edge descending, `wind_dx = −1`; right edge
ascending), clip starting higher than subject and ending higher; NonZero. -/

/-- the sequence as the real sweep would produce it -/
def squaresGood : List Op :=
  [ .insertPair 0 .subject false (-1),   -- S- S+
    .insertPair 1 .clip false (-1),      -- S- C- C+ S+
    .intersect 2 ]                       -- S- C- S+ C+   (x = 0, 5, 10, 15)

example : run ⟨.intersection, .nonZero⟩ [] squaresGood = some
    [ ⟨.subject, false, -1, -1, 0, false⟩, ⟨.clip, false, -1, -1, -1, true⟩,
      ⟨.subject, false, 1, -1, -1, true⟩, ⟨.clip, false, 1, -1, 0, false⟩ ] := by decide
example : run ⟨.union, .nonZero⟩ [] squaresGood = some
    [ ⟨.subject, false, -1, -1, 0, true⟩, ⟨.clip, false, -1, -1, -1, false⟩,
      ⟨.subject, false, 1, -1, -1, false⟩, ⟨.clip, false, 1, -1, 0, true⟩ ] := by decide
example : run ⟨.difference, .nonZero⟩ [] squaresGood = some
    [ ⟨.subject, false, -1, -1, 0, true⟩, ⟨.clip, false, -1, -1, -1, true⟩,
      ⟨.subject, false, 1, -1, -1, false⟩, ⟨.clip, false, 1, -1, 0, false⟩ ] := by decide
example : run ⟨.xor, .evenOdd⟩ [] squaresGood = some
    [ ⟨.subject, false, -1, -1, 0, true⟩, ⟨.clip, false, -1, -1, 1, true⟩,
      ⟨.subject, false, 1, -1, 1, true⟩, ⟨.clip, false, 1, -1, 0, true⟩ ] := by decide
example : (run ⟨.intersection, .nonZero⟩ [] squaresGood).map (checkInv ⟨.intersection, .nonZero⟩) = some true := by decide
/-- `coverage_1d` on that state: the gaps are x<0, (0,5), (5,10), (10,15), x>15; only (5,10) is in the intersection and
exactly there the number of hot edges to the left is odd -/
example : (run ⟨.intersection, .nonZero⟩ [] squaresGood).map (fun l => (List.range 5).map (fun k =>
      (inR .intersection .nonZero (sumT .subject (l.take k)) (sumT .clip (l.take k)), hotCount (l.take k)))) =
    some [(false, 0), (false, 0), (true, 1), (false, 2), (false, 2)] := by decide
/-- the subject square ends first: `DoMaxima` on `S-` swaps it past `C-` (`intersect 0`), then `S-`,`S+` are adjacent at
positions 1,2 and leave; what remains is the clip square alone, cold under Intersection -/
example : (run ⟨.intersection, .nonZero⟩ [] (squaresGood ++ [.intersect 0, .removePair 1])).map
    (fun l => l.map (fun e => (e.wc, e.wc2, e.hot))) = some [(-1, 0, false), (-1, 0, false)] := by decide
/-- an op that is not a maxima pair (`S-`,`C-` at positions 0,1) is rejected rather than silently accepted -/
example : run ⟨.intersection, .nonZero⟩ [] (squaresGood ++ [.removePair 0]) = none := by decide
/-- the checker is not vacuous: it rejects a state with a wrong count and one with a wrong hot flag -/
example : checkInv ⟨.union, .nonZero⟩ [⟨.subject, false, -1, -1, 0, true⟩, ⟨.subject, false, 1, -1, 0, true⟩] = true := by decide
example : checkInv ⟨.union, .nonZero⟩ [⟨.subject, false, -1, -2, 0, true⟩, ⟨.subject, false, 1, -1, 0, true⟩] = false := by decide
example : checkInv ⟨.union, .nonZero⟩ [⟨.subject, false, -1, -1, 0, false⟩, ⟨.subject, false, 1, -1, 0, true⟩] = false := by decide
/-- the invariant genuinely fails for NoClip (which never sweeps): a different-type crossing heats two edges
that `IsContributingClosed` calls non-contributing -/
example : (run ⟨.noClip, .nonZero⟩ [] squaresGood).map (checkInv ⟨.noClip, .nonZero⟩) = some false := by decide

end Clipper.Props.C01

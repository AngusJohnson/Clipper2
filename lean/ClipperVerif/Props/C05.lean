/-
C05 — Open subject paths are cut exactly at the clip region boundary (bookkeeping level).

Proved here: the generated `IsContributingOpen` is `Spec.keepOpen` of the winding sums; `SetWindCountForOpenPathEdge`
computes those sums; along every operation sequence an open edge is hot exactly when `keepOpen` holds at its current
position (crossing a closed edge toggles it iff that edge bounds the relevant region — for Union this uses C01's
invariant on the closed edge's hot flag); and open edges never change `wc/wc2/hot` of closed edges.

NOT proved: where the cut points are placed, stitching of the pieces into paths (spec-level correspondence).
Assumption made explicit: open paths are *subject* paths (`OpenSubj`), as `AddOpenSubject` guarantees;
`SetWindCountForOpenPathEdge` would count an open clip edge as a clip boundary.
-/
import ClipperVerif.Lemmas.AelOpen
import ClipperVerif.Props.C01
namespace Clipper.Props.C05
open Clipper Clipper.Model

/-- **Bridge (Tie T).** The definition generated from the current C++ `IsContributingOpen` equals the hand model, for all
clip types (incl. NoClip, which takes the `default:` branch), fill rules and integers. -/
theorem isContributingOpen_bridge (ct : ClipType) (fr : FillRule) (wc wc2 : Int) :
    Gen.IsContributingOpen ct wc wc2 fr = isContributingOpen ct fr wc wc2 := by
  cases fr <;> cases ct <;>
    simp [Gen.IsContributingOpen, isContributingOpen, otherIn] <;> grind

/-- stored counts of an open edge: the closed-subject sum `ws` and the clip sum `wcl` to its left
(their parities under EvenOdd) -/
def OpenWcOK (fr : FillRule) (wc wc2 ws wcl : Int) : Prop :=
  match fr with
  | .evenOdd => wc = ws % 2 ∧ wc2 = wcl % 2
  | _ => wc = ws ∧ wc2 = wcl

/-- **open_contributing_iff_keep.** With counts that encode the winding sums, the C++ `IsContributingOpen` is exactly the
Spec's `keepOpen`: inside the clip region for Intersection, outside it for Difference and Xor, outside both the
closed-subject and the clip region for Union.  All fill rules, all integers. -/
theorem open_contributing_iff_keep (ct : ClipType) (hct : ct ≠ .noClip) (fr : FillRule) (wc wc2 ws wcl : Int)
    (h : OpenWcOK fr wc wc2 ws wcl) :
    Gen.IsContributingOpen ct wc wc2 fr = keepOpen ct fr ws wcl := by
  have h' : wc = enc2 fr ws ∧ wc2 = enc2 fr wcl := by cases fr <;> exact h
  rw [isContributingOpen_bridge, h'.1, h'.2]
  exact ico_keep ct hct fr _ _ _ _ (otherIn_enc2 _ _) (otherIn_enc2 _ _)

example : OpenWcOK .nonZero 2 (-1) 2 (-1) := by simp [OpenWcOK]
example : OpenWcOK .evenOdd 1 0 (-3) 4 := by simp [OpenWcOK]

/-- **open_wind_insert.** `SetWindCountForOpenPathEdge` for a new open edge (fresh `Active`, counts 0) placed after `left`
stores the closed-subject winding sum in `wc` and the clip winding sum in `wc2` (parities under EvenOdd),
provided every open edge in `left` is a subject edge and closed edges have direction ±1 (part of C01's `Inv`). -/
theorem open_wind_insert (fr : FillRule) (left : List Edge) (e : Edge)
    (hs : OpenSubj left) (hd : ClosedDx left) (hw : e.wc = 0) (hw2 : e.wc2 = 0) :
    setWindOpen fr left e =
      { e with wc := enc2 fr (sumT .subject left), wc2 := enc2 fr (sumT .clip left) } ∧
    OpenWcOK fr (enc2 fr (sumT .subject left)) (enc2 fr (sumT .clip left))
      (sumT .subject left) (sumT .clip left) :=
  ⟨setWindOpen_spec fr left e hs hd hw hw2, by cases fr <;> simp [OpenWcOK, enc2]⟩

/-- **closed_unaffected (pair).** When one of the two edges is open, `IntersectEdges` returns the other one unchanged
(all fields: `wc`, `wc2`, `hot`, …), and the open one stays open. -/
theorem closed_unaffected_pair (cfg : Cfg) (e1 e2 : Edge) (h : e1.isOpen = true ∨ e2.isOpen = true) :
    (e1.isOpen = false → (intersectPair cfg e1 e2).1 = e1) ∧
    (e2.isOpen = false → (intersectPair cfg e1 e2).2 = e2) := by
  cases ho1 : e1.isOpen <;> cases ho2 : e2.isOpen
  · simp [ho1, ho2] at h
  · simp [intersectPair_co cfg ho1 ho2]
  · simp [intersectPair_oc cfg ho1 ho2]
  · simp

/-- **closed_unaffected.** An `IntersectEdges`+swap involving an open edge leaves the sequence of closed edges — their
order and all their fields — exactly as it was: the open branch returns before the winding update. -/
theorem closed_unaffected (cfg : Cfg) (i : Nat) (l l' : Ael) (e1 e2 : Edge) (rest : List Edge)
    (hd : l.drop i = e1 :: e2 :: rest) (h : e1.isOpen = true ∨ e2.isOpen = true)
    (hs : intersect cfg i l = some l') : closedPart l' = closedPart l := by
  have := step_closedPart cfg l l' (.intersect i) hs
  have ho : (e1.isOpen || e2.isOpen) = true := by simpa using h
  simpa only [projOp, hd, ho, if_true] using this

/-- **closed_unaffected (one step).** Erase the open edges from the AEL (`closedPart`).  Every operation of a sweep
with open paths either leaves the erased AEL untouched (`projOp = none`: it only concerned open edges) or is, on the
erased AEL, the corresponding operation of the sweep without open paths (`projOp = some op'`, positions counted among
closed edges) with exactly the same resulting counts and hot flags. -/
theorem closed_unaffected_step (cfg : Cfg) (l l' : Ael) (op : Op) (hs : step cfg l op = some l') :
    match projOp l op with
    | none => closedPart l' = closedPart l
    | some op' => step cfg (closedPart l) op' = some (closedPart l') :=
  step_closedPart cfg l l' op hs

/-- **closed_unaffected (whole runs)** — the model half of "adding open subjects does not change the closed solution":
the closed edges of the final AEL of any run are the final AEL of the run obtained by deleting everything that concerns
open edges (`projOps`), so `wc`, `wc2` and `hot` of every closed edge are what they would be without open paths. -/
theorem closed_unaffected_run (cfg : Cfg) (ops : List Op) (l : Ael) (hr : run cfg [] ops = some l) :
    run cfg [] (projOps cfg [] ops) = some (closedPart l) :=
  run_closedPart cfg ops [] l hr

/-- the combined invariant: C01's invariant for closed edges, "hot iff `keepOpen` at the current position" for
open edges, and open edges are subject edges -/
def OpenInv (cfg : Cfg) (l : Ael) : Prop :=
  Model.Inv cfg l ∧ InvOpenFrom (keepOpen cfg.ct cfg.fr) 0 0 l ∧ OpenSubj l

/-- an operation that adds an open edge adds an open *subject* edge -/
def OpOK : Op → Prop
  | .insertPair _ pt isOpen _ => isOpen = true → pt = .subject
  | .insertOne _ pt _ => pt = .subject
  | _ => True

theorem newLeft_open (cfg : Cfg) (hct : cfg.ct ≠ .noClip) (left : List Edge) (pt : PathType) (dx : Int)
    (hs : OpenSubj left) (hd : ClosedDx left) :
    (newLeft cfg left pt true dx).2 = keepOpen cfg.ct cfg.fr (sumT .subject left) (sumT .clip left) := by
  simp only [newLeft, ite_true]
  rw [setWindOpen_spec cfg.fr left _ hs hd rfl rfl]
  exact ico_keep cfg.ct hct cfg.fr _ _ _ _ (otherIn_enc2 _ _) (otherIn_enc2 _ _)

/-- **open_toggle_step.** Every operation preserves the combined invariant. -/
theorem open_toggle_step (cfg : Cfg) (hct : cfg.ct ≠ .noClip) (l l' : Ael) (op : Op) (hop : OpOK op)
    (h : OpenInv cfg l) (hs : step cfg l op = some l') : OpenInv cfg l' := by
  refine ⟨C01.inv_step cfg hct l l' op h.1 hs, ?_⟩
  obtain ⟨pre, mid, mid', rest, rfl, rfl, hW⟩ := step_iff.mp hs
  obtain ⟨hI, hO, hS⟩ := h
  have hI' := (invFrom_append cfg pre _ 0 0).mp hI
  have hIm := ((invFrom_append cfg mid rest _ _).mp hI'.2).1
  simp only [openSubj_append] at hS ⊢
  -- the hot flags of open edges depend on the sums to the left (`window_frame`); `OpenSubj` speaks of each edge by itself
  refine ⟨window_frame (invOpenFrom_append _) hW.sum hO fun _ hmid => ?_, hS.1, ?_, hS.2.2⟩
  · cases hW with
    | insertPair pt o dx hdx lb hlb hpt ho hd =>
      cases o
      · rw [invOpenFrom_cons_closed _ _ _ _ ho, invOpenFrom_cons_closed _ _ _ _ rfl]; trivial
      · have hk : lb.hot = keepOpen cfg.ct cfg.fr (0 + sumT .subject pre) (0 + sumT .clip pre) := by
          rw [hlb, Int.zero_add, Int.zero_add]
          exact newLeft_open cfg hct pre pt dx hS.1 (invFrom_closedDx _ _ _ _ hI'.1)
        rw [invOpenFrom_cons_open _ _ _ _ _ ho, invOpenFrom_cons_open _ _ _ _ _ rfl]
        exact ⟨hk, hk, trivial⟩
    | insertOne pt dx hdx e he hpt ho =>
      rw [invOpenFrom_cons_open _ _ _ _ _ ho, he, Int.zero_add, Int.zero_add]
      exact ⟨newLeft_open cfg hct pre pt dx hS.1 (invFrom_closedDx _ _ _ _ hI'.1), trivial⟩
    | intersect e1 e2 => exact invOpenFrom_pair_swap cfg hct _ _ e1 e2 hIm hmid
    | removePair e1 e2 hc => trivial
    | removeOne e ho => trivial
  · have hm := hS.2.1
    cases hW with
    | insertPair pt o dx hdx lb hlb hpt ho hd =>
      exact List.forall_mem_cons.mpr ⟨fun h => hpt.trans (hop (ho.symm.trans h)),
        List.forall_mem_cons.mpr ⟨hop, fun _ h => nomatch h⟩⟩
    | insertOne pt dx hdx e he hpt ho => exact List.forall_mem_cons.mpr ⟨fun _ => hpt.trans hop, fun _ h => nomatch h⟩
    | intersect e1 e2 =>
      obtain ⟨f1, f2, -, f4, f5, -⟩ := intersectPair_fields cfg e1 e2
      rw [openSubj_cons, openSubj_cons] at hm ⊢
      exact ⟨by rw [f4, f5]; exact hm.2.1, by rw [f1, f2]; exact hm.1, hm.2.2⟩
    | removePair e1 e2 hc => exact fun _ h => nomatch h
    | removeOne e ho => exact fun _ h => nomatch h

/-- **open_toggle_inv.** After every operation sequence from the empty AEL in which open edges are subject edges, every
open edge is hot exactly when `keepOpen ct fr Ws Wc` holds for the closed-subject / clip winding sums at its current
position (and C01's invariant holds for the closed edges). -/
theorem open_toggle_inv (cfg : Cfg) (hct : cfg.ct ≠ .noClip) (ops : List Op) (hops : ∀ op ∈ ops, OpOK op)
    (l : Ael) (hr : run cfg [] ops = some l) : OpenInv cfg l :=
  run_invariant cfg (OpenInv cfg) ops (fun op ho l0 l1 => open_toggle_step cfg hct l0 l1 op (hops op ho)) [] l
    ⟨trivial, trivial, fun _ hx => nomatch hx⟩ hr

theorem checkInvOpenFrom_iff (keep : Int → Int → Bool) (l : List Edge) : ∀ (s c : Int),
    checkInvOpenFrom keep s c l = true ↔ InvOpenFrom keep s c l := by
  induction l with
  | nil => intro s c; simp [checkInvOpenFrom, InvOpenFrom]
  | cons e rest ih =>
    intro s c
    simp only [checkInvOpenFrom, InvOpenFrom, Bool.and_eq_true, Bool.or_eq_true, ih]
    cases e.isOpen <;> simp

theorem checkOpenInv_iff (cfg : Cfg) (l : Ael) : checkOpenInv cfg l = true ↔ OpenInv cfg l := by
  simp only [checkOpenInv, OpenInv, Bool.and_eq_true, C01.checkInv_iff, checkInvOpenFrom_iff, and_assoc]
  refine and_congr_right (fun _ => and_congr_right (fun _ => ?_))
  simp only [List.all_eq_true, OpenSubj, Bool.or_eq_true]
  constructor
  · intro h x hx ho; have := h x hx; simp_all
  · intro h x hx; cases ho : x.isOpen <;> simp_all

/- Non-vacuity: an open path crossing a clip square.
Clip square (x ∈ [5,15], edges `C-` descending on the left, `C+` on the right), an open subject edge `O` that starts left
of it and crosses both clip edges. -/

def openOps : List Op :=
  [ .insertPair 0 .clip false (-1),   -- C- C+
    .insertOne 0 .subject 1,          -- O C- C+     open edge starts outside the clip region
    .intersect 0,                     -- C- O C+     … enters it
    .intersect 1 ]                    -- C- C+ O     … leaves it

example : OpOK (.insertOne 0 .subject 1) := rfl
-- hot flags, left to right (the clip edges are cold: there is no closed subject, the closed solution is empty)
example : (run ⟨.intersection, .nonZero⟩ [] (openOps.take 2)).map (fun l => l.map (·.hot)) =
    some [false, false, false] := by decide      -- O is outside the clip region: cold
example : (run ⟨.intersection, .nonZero⟩ [] (openOps.take 3)).map (fun l => l.map (·.hot)) =
    some [false, true, false] := by decide       -- O has entered the clip region: hot
example : (run ⟨.intersection, .nonZero⟩ [] openOps).map (fun l => l.map (·.hot)) =
    some [false, false, false] := by decide      -- O has left it again: cold
example : (run ⟨.difference, .nonZero⟩ [] (openOps.take 2)).map (fun l => l.map (·.hot)) =
    some [true, false, false] := by decide       -- Difference keeps the outside part
example : (run ⟨.difference, .nonZero⟩ [] (openOps.take 3)).map (fun l => l.map (·.hot)) =
    some [false, false, false] := by decide
example : (run ⟨.intersection, .evenOdd⟩ [] openOps).map (checkOpenInv ⟨.intersection, .evenOdd⟩) = some true := by
  decide
/-- erasing the open edge from `openOps` leaves the insertion of the clip square -/
example : projOps ⟨.intersection, .nonZero⟩ [] openOps = [.insertPair 0 .clip false (-1)] := by decide
/-- the checker is not vacuous -/
example : checkOpenInv ⟨.intersection, .nonZero⟩ [⟨.subject, true, 1, 0, 0, true⟩] = false := by decide

end Clipper.Props.C05

/-
C01 — THE PER-INPUT DECIDED HYPOTHESES OF THE MODEL-LEVEL THEOREMS, PROVED OF `build`  (helpers `Lemmas/C01Build{Wf,Idx,Scan}.lean`, `Lemmas/C01CrownFinal.sweep_ends_empty`).

`Props/C01Crown.c01_model_level` assumes, per input: (H1) `Built.Hyp`, (H2) `Built.HypR`, (H3) `rs.s.ael = []`, (H4) `DenOK D`.  The driver and the
examples decide (H1)–(H3) per input (`decide +kernel`).  This file proves them ONCE AND FOR ALL for `b := build (subj ++ clip)` of arbitrary closed
integer paths satisfying

  * `InputGP subj clip` (`Lemmas/C01BuildIdx`) — a decidable predicate on the INPUT PATHS ALONE: every path has at least 3 vertices; no edge is
    horizontal (cyclically; so consecutive vertices differ and no vertex has the y of a neighbour); at a vertex lower than both neighbours the two
    edges are not collinear (`NoSpikeAtMin`: the left/right bound of the local minimum is defined); all vertices of all paths are pairwise different;
  * `GPAll b` — general position AT THE SCANLINES, the decidable predicates `GPmin` / `GPtop` of `Model/SweepOrder` evaluated on `b` at every
    scanline.  These stay hypotheses: they speak about the relative position of edges of DIFFERENT parts of the input at the vertex heights (every other
    edge alive at a scanline is more than one unit away from a local-minimum vertex on it; two edges of a scanbeam are more than one unit apart at its
    top unless they end in one local maximum), which is exactly what makes `IsValidAelOrder` / `TopX` rounding harmless.  `NoTopInside`, `ValidOK`
    and everything else of `SweepOK` are discharged.

What is proved (all for arbitrary `subj`, `clip` with `InputGP`):
 1. `build_allUp`, `build_edges_distinct`, `build_nextOK`, `build_scanlines`, `build_minsOK`, `build_mins_iff`, `build_labels`, `build_starts`,
    `build_two_per_maximum`, `build_topStart` — the structural parts of (H1)/(H2); hence `build_hyp` ((H1) from `InputGP`, `GPAll`, `Near cx`) and
    `build_hypR` ((H2) from `InputGP` alone); `build_hyp_iff`: under `InputGP` and `Near cx`, `Built.Hyp` is EQUIVALENT to `GPAll` (nothing else is hidden in it);
 2. `build_sweep_ends_empty` — (H3): the exact run ends with an empty AEL (after the last scanbeam every surviving edge would top out strictly above the
    last scanline, which is the least vertex height);
 3. `c01_model_level_reduced`, `output_region_reduced` — the crown with the reduced hypothesis set, and `c01_model_level_reduced_lcm` with (H4) discharged too (`D = sweepDen`).

HOW: `build` filters its tables out of the list of CORNERS (vertex, edge arriving, edge leaving).  `Lemmas/C01BuildIdx` proves by index plumbing
(`rotateLeft`, `zip`, `zipIdx`) that the corner list of an `InputGP` input has the abstract shape `Wf`; `Lemmas/C01BuildWf` derives every structural
hypothesis from `Wf` without any index arithmetic (the vertex of a corner determines the corner; an edge arrives at one end point and leaves the
other).  "Exactly two edges per local maximum" is the corner at the maximum: the edges with that top are its two edges, because vertices are pairwise
different.  Core Lean only.
-/
import ClipperVerif.Props.C01Crown
import ClipperVerif.Lemmas.C01BuildIdx
namespace Clipper.Props.C01Build
open Clipper Clipper.Model Clipper.Model.AelOrder Clipper.Model.SweepOrder Clipper.Model.SweepEvents Clipper.Model.SweepPoints
open Clipper.Lemmas.SweepOrder Clipper.Lemmas.C01Output Clipper.Lemmas.C01Build
open Clipper.Props.C01Sweep Clipper.Props.C01Output Clipper.Props.C01Crown

/-- **general position at every scanline**: the part of `Built.Hyp` that remains a hypothesis (decidable; `GPmin`, `GPtop` of `Model/SweepOrder`) -/
def GPAll (b : Built) : Prop := ∀ y ∈ b.ys, GPmin b.edges (b.mins y) y ∧ GPtop b.edges b.next y
instance (b : Built) : Decidable (GPAll b) := by unfold GPAll; infer_instance

/-- **build_allUp.**  No edge of `build` is horizontal. -/
theorem build_allUp (subj clip : Paths) (h : InputGP subj clip) : AllUp (build (subj ++ clip)).edges :=
  wf_allUp (build_wf subj clip h)

/-- **build_edges_distinct.**  The edges of `build` are pairwise different, and so are their identities. -/
theorem build_edges_distinct (subj clip : Paths) (h : InputGP subj clip) :
    (build (subj ++ clip)).edges.Nodup ∧ IdsInj (build (subj ++ clip)).edges ∧ ((build (subj ++ clip)).edges.map (·.id)).Nodup :=
  ⟨wf_nodup (build_wf subj clip h), wf_idsInj (build_wf subj clip h), (build_wf subj clip h).ids⟩

/-- **build_nextOK.**  `next` continues a bound: the successor is an input edge that starts where the edge ends and is no bound of a local minimum. -/
theorem build_nextOK (subj clip : Paths) (h : InputGP subj clip) :
    NextOK (build (subj ++ clip)).edges (build (subj ++ clip)).next (build (subj ++ clip)).mins :=
  wf_nextOK (build_wf subj clip h) (build_fromCorners _)

/-- **build_scanlines.**  The scanlines are the vertex heights of the paths (with ≥ 3 vertices), strictly descending; both end points of every edge lie on
scanlines; consequently no edge ends or starts strictly inside a scanbeam (two consecutive scanlines). -/
theorem build_scanlines (subj clip : Paths) (h : InputGP subj clip) :
    (∀ y, y ∈ (build (subj ++ clip)).ys ↔ ∃ p ∈ subj ++ clip, 3 ≤ p.length ∧ ∃ v ∈ p, v.y = y) ∧
    (build (subj ++ clip)).ys.Pairwise (fun a b => b < a) ∧
    (∀ e ∈ (build (subj ++ clip)).edges, e.top.y ∈ (build (subj ++ clip)).ys ∧ e.bot.y ∈ (build (subj ++ clip)).ys) ∧
    (∀ pre y0 y1 rest, (build (subj ++ clip)).ys = pre ++ y0 :: y1 :: rest →
      y1 < y0 ∧ NoTopInside (build (subj ++ clip)).edges y0 y1 ∧ NoBotInside (build (subj ++ clip)).edges y0 y1) := by
  have hw := build_wf subj clip h
  have hm : ∀ e ∈ (build (subj ++ clip)).edges, e.top.y ∈ (build (subj ++ clip)).ys ∧ e.bot.y ∈ (build (subj ++ clip)).ys :=
    fun e he => heights_mem hw (allCorners_height _) he
  refine ⟨scanlinesOf_mem _, scanlinesOf_sorted _, hm, ?_⟩
  intro pre y0 y1 rest hsplit
  obtain ⟨hlt, hno⟩ := between_of_sorted _ pre rest y0 y1 (scanlinesOf_sorted (subj ++ clip)) hsplit
  exact ⟨hlt, fun e he => hno _ (hm e he).1, fun e he => hno _ (hm e he).2⟩

/-- **build_minsOK.**  At every height: the local minima are pairs of input edges leaving one point of that height, left bound first (strictly: the
two edges are not collinear), and no edge belongs to two of them. -/
theorem build_minsOK (subj clip : Paths) (h : InputGP subj clip) (y : Int) :
    MinsOK (build (subj ++ clip)).edges ((build (subj ++ clip)).mins y) y :=
  wf_minsOK (build_wf subj clip h) (build_fromCorners _) y

/-- **build_mins_iff.**  The local minima are EXACTLY the vertices where both incident edges start (the vertex is lower than both neighbours): an edge is a
bound of a local minimum on the scanline `y` iff it is one of the two edges of a corner (`allCorners`: vertex, edge arriving, edge leaving) of height `y`
at which both edges have their bottom. -/
theorem build_mins_iff (subj clip : Paths) (e : GEdge) (y : Int) :
    e ∈ boundsOf ((build (subj ++ clip)).mins y) ↔
      ∃ c ∈ allCorners 0 (subj ++ clip), c.2.y = y ∧ c.1.1.bot = c.2 ∧ c.1.2.bot = c.2 ∧ (e = c.1.1 ∨ e = c.1.2) := by
  have hf := build_fromCorners (subj ++ clip)
  refine ⟨mem_bounds_mins hf, fun ⟨c, hc, hy, h1, h2, hor⟩ => ?_⟩
  have := bounds_of_corner hf hc h1 h2
  rw [hy] at this
  rcases hor with rfl | rfl
  · exact this.1
  · exact this.2

/-- **build_labels.**  `wind_dx = ±1`; a bound keeps its path type and direction; the two bounds of a local minimum have the same path type and opposite
directions. -/
theorem build_labels (subj clip : Paths) (h : InputGP subj clip) :
    DxOK (build (subj ++ clip)).edges (labOf subj clip) ∧
    NextLab (build (subj ++ clip)).edges (build (subj ++ clip)).next (labOf subj clip) ∧
    ∀ y, MinLab (labOf subj clip) ((build (subj ++ clip)).mins y) :=
  ⟨wf_dxOK (build_wf subj clip h), wf_nextLab (build_wf subj clip h) (build_fromCorners _),
    wf_minLab (build_wf subj clip h) (build_fromCorners _)⟩

/-- **build_starts.**  Every edge starts at a local minimum of its scanline or continues a bound. -/
theorem build_starts (subj clip : Paths) (h : InputGP subj clip) :
    Starts (build (subj ++ clip)).edges (build (subj ++ clip)).next (build (subj ++ clip)).mins :=
  wf_starts (build_wf subj clip h) (build_fromCorners _)

/-- **build_two_per_maximum.**  At every height `y`: an edge that ends on `y` and is not continued has EXACTLY ONE partner ending in the same point, also
not continued, of the same path type and the opposite direction, and no third edge ends there (`MaxOK`). -/
theorem build_two_per_maximum (subj clip : Paths) (h : InputGP subj clip) (y : Int) :
    MaxOK (build (subj ++ clip)).edges (build (subj ++ clip)).next (labOf subj clip) y :=
  wf_maxOK (build_wf subj clip h) (build_fromCorners _) y

theorem topStart_of (edges : List GEdge) : ∀ ys : List Int, ys.Pairwise (fun a b => b < a) → (∀ e ∈ edges, e.bot.y ∈ ys) → TopStart edges ys
  | [], _, _ => trivial
  | y :: t, hs, hm => fun e he => head_max (y :: t) y hs rfl _ (hm e he)

/-- **build_topStart.**  Nothing starts below the first scanline, and nothing ends above the last one. -/
theorem build_topStart (subj clip : Paths) (h : InputGP subj clip) :
    TopStart (build (subj ++ clip)).edges (build (subj ++ clip)).ys ∧
    ∀ y, (build (subj ++ clip)).ys.getLast? = some y → ∀ e ∈ (build (subj ++ clip)).edges, y ≤ e.top.y := by
  obtain ⟨_, hs, hm, _⟩ := build_scanlines subj clip h
  exact ⟨topStart_of _ _ hs (fun e he => (hm e he).2), fun y hy e he => last_min _ y hs hy _ (hm e he).1⟩

/-- **build_hyp — (H1).**  `Built.Hyp` for the regenerated `IsValidAelOrder`, from `InputGP`, general position at the scanlines, and `Near cx`. -/
theorem build_hyp (subj clip : Paths) (h : InputGP subj clip) (hgp : GPAll (build (subj ++ clip))) (cx : GEdge → Int → Int) (hn : Near cx)
    (info : GEdge → OInfo) : (build (subj ++ clip)).Hyp (validGen cx info) := by
  have hw := build_wf subj clip h
  have hf := build_fromCorners (subj ++ clip)
  refine ⟨wf_allUp hw, wf_idsInj hw, wf_nextOK hw hf, ?_⟩
  exact wf_sweepOK hw hf (validGen cx info) (fun y => validGen_ok _ cx info y (wf_allUp hw) hn) _ (allCorners_height _)
    (fun pre y0 y1 rest e => between_of_sorted _ pre rest y0 y1 (scanlinesOf_sorted (subj ++ clip)) e) hgp

/-- **build_hypR — (H2).**  `Built.HypR` from `InputGP` alone. -/
theorem build_hypR (subj clip : Paths) (h : InputGP subj clip) : Built.HypR (build (subj ++ clip)) (labOf subj clip) := by
  have hw := build_wf subj clip h
  have hf := build_fromCorners (subj ++ clip)
  refine ⟨wf_nodup hw, wf_dxOK hw, wf_nextLab hw hf, wf_starts hw hf, (build_topStart subj clip h).1, ?_⟩
  exact wf_sweepR hw hf _ (allCorners_height _)
    (fun pre y0 y1 rest e => between_of_sorted _ pre rest y0 y1 (scanlinesOf_sorted (subj ++ clip)) e)

theorem beamOK_of_sweepOK (edges : List GEdge) (valid : Int → GEdge → GEdge → Bool) (next : GEdge → Option GEdge)
    (mins : Int → List (GEdge × GEdge)) : ∀ (pre : List Int) (y0 y1 : Int) (rest : List Int),
    SweepOK edges valid next mins (pre ++ y0 :: y1 :: rest) → BeamOK edges valid next mins y0 y1 := by
  intro pre
  induction pre with
  | nil => intro y0 y1 rest h; exact h.1
  | cons a pre ih =>
    intro y0 y1 rest h
    cases pre with
    | nil => exact ih y0 y1 rest h.2
    | cons c pre' => exact ih y0 y1 rest h.2

/-- **gpAll_of_hyp.**  Conversely `GPAll` is no more than the general-position part of `Built.Hyp`: under `InputGP`, `Built.Hyp` (for any insertion
predicate) implies `GPAll` — at the last scanline there is no local minimum and at the first one no scanbeam ends. -/
theorem gpAll_of_hyp (subj clip : Paths) (h : InputGP subj clip) (valid : Int → GEdge → GEdge → Bool)
    (hh : (build (subj ++ clip)).Hyp valid) : GPAll (build (subj ++ clip)) := by
  obtain ⟨hup, _, _, hok⟩ := hh
  obtain ⟨_, hs, hm, _⟩ := build_scanlines subj clip h
  obtain ⟨htop, hend⟩ := build_topStart subj clip h
  intro y hy
  obtain ⟨pre, post, hsplit⟩ := List.append_of_mem hy
  constructor
  · cases post with
    | cons y1 rest =>
      rw [hsplit] at hok
      exact (beamOK_of_sweepOK _ valid _ _ pre y y1 rest hok).2.2.1
    | nil =>
      intro p hp
      exfalso
      have hmo := build_minsOK subj clip h y
      obtain ⟨e1, _, _, hby, _⟩ := hmo.1 p hp
      have := hend y (by rw [hsplit]; simp) _ e1
      have := hup _ e1
      unfold SEdge.Up at this
      omega
  · rcases List.eq_nil_or_concat pre with rfl | ⟨pre', y0, rfl⟩
    · intro a ha _ _ _ hal _
      exfalso
      rw [hsplit] at htop
      have := htop a ha
      unfold AliveBelow at hal
      omega
    · rw [hsplit] at hok
      have : pre'.concat y0 ++ y :: post = pre' ++ y0 :: y :: post := by simp
      rw [this] at hok
      exact (beamOK_of_sweepOK _ valid _ _ pre' y0 y post hok).2.2.2.2.2

/-- **build_hyp_iff.**  Under `InputGP` and `Near cx`, the whole of `Built.Hyp` for the regenerated `IsValidAelOrder` is EQUIVALENT to general position at the
scanlines: nothing else is hidden in it. -/
theorem build_hyp_iff (subj clip : Paths) (h : InputGP subj clip) (cx : GEdge → Int → Int) (hn : Near cx) (info : GEdge → OInfo) :
    (build (subj ++ clip)).Hyp (validGen cx info) ↔ GPAll (build (subj ++ clip)) :=
  ⟨gpAll_of_hyp subj clip h _, fun hgp => build_hyp subj clip h hgp cx hn info⟩

/-- **build_sweep_ends_empty — (H3).**  The exact run of the decorated event list ends with an EMPTY AEL: every edge is removed at its bound's local
maximum; after the last scanbeam an edge still alive would top out strictly above the last scanline, which is the least vertex height. -/
theorem build_sweep_ends_empty (subj clip : Paths) (cfg : Cfg) (hct : cfg.ct ≠ .noClip) (cx : GEdge → Int → Int) (hn : Near cx)
    (info : GEdge → OInfo) (h : InputGP subj clip) (hgp : GPAll (build (subj ++ clip))) (D : Int)
    (hD : DenOK D (builtDens subj clip cx info)) (rs : RState)
    (hrs : runR cfg RState.empty (builtEventsP D subj clip cx info) = .ok rs) : rs.s.ael = [] := by
  have h1 := build_hyp subj clip h hgp cx hn info
  exact sweep_ends_empty cfg hct D _ (validGen cx info) cx _ _ (labOf subj clip) _ h1.1 h1.2.2.1 hn h1.2.2.2 (build_hypR subj clip h) hD
    (build_topStart subj clip h).2 rs hrs

/-- **output_region_reduced.**  `Props/C01Crown.output_region` with `Built.Hyp`, `Built.HypR` and the empty final AEL discharged: for closed paths with `InputGP` and
general position at the scanlines, the run is accepted and around every admissible point the exact output rings wind `1` if `inR` holds and `0` otherwise. -/
theorem output_region_reduced (subj clip : Paths) (cfg : Cfg) (hct : cfg.ct ≠ .noClip) (cx : GEdge → Int → Int) (hn : Near cx)
    (info : GEdge → OInfo) (hin : InputGP subj clip) (hgp : GPAll (build (subj ++ clip))) (D : Int)
    (hD : DenOK D (builtDens subj clip cx info))
    (pre : List BeamRunP) (r : BeamRunP) (post : List BeamRunP)
    (hruns : beamRunsP D (validGen cx info) cx (build (subj ++ clip)).next (build (subj ++ clip)).mins (labOf subj clip) []
      (build (subj ++ clip)).ys = pre ++ r :: post)
    (yn yd : Int) (hd : 0 < yd) (hlo : r.snap.y1 * yd < yn) (hhi : yn < r.snap.y0 * yd)
    (hcr : ∀ op ∈ r.evIsect, op.pt.y * yd ≠ D * yn) :
    ∃ rs, runR cfg RState.empty (builtEventsP D subj clip cx info) = .ok rs ∧
      ∀ xn : Int, (∀ e ∈ r.snap.inserted, ¬ onEdgeLine e xn yn yd) →
        windOut D rs xn yn yd = if inR cfg.ct cfg.fr (windQ subj xn yn yd) (windQ clip xn yn yd) then 1 else 0 := by
  obtain ⟨rs, h1, h2⟩ := output_region subj clip cfg hct cx hn info (build_hyp subj clip hin hgp cx hn info) (build_hypR subj clip hin) D hD
    pre r post hruns yn yd hd hlo hhi hcr
  exact ⟨rs, h1, h2 (build_sweep_ends_empty subj clip cfg hct cx hn info hin hgp D hD rs h1)⟩

/-- **c01_model_level_reduced — C01 for the exact sweep, reduced hypothesis set.**  Inputs: closed paths `subj`, `clip`; every clip type but NoClip, every fill rule.

REMAINING HYPOTHESES, each about the geometry of the input:
 * `InputGP subj clip` — on the paths alone: ≥ 3 vertices per path, no horizontal edge, no spike at a local minimum, all vertices pairwise different;
 * `GPAll (build (subj ++ clip))` — general position at the scanlines (`GPmin`, `GPtop`): at every vertex height, every edge passing by is more than one unit
   away from a local-minimum vertex, and two edges of a scanbeam are more than one unit apart at its top unless they end in one local maximum;
 * `Near cx` (a property of the rounding function, true for `rhe`: `rhe_near`) and `DenOK D` (true for `D = sweepDen`: `c01_model_level_reduced_lcm`);
 * about the probe point: its height lies strictly inside a scanbeam `r`, is the height of no crossing point of `r`, and the point is on no edge.
DISCHARGED (otherwise decided per input): all of `Built.Hyp` except `GPmin`/`GPtop` (`AllUp`, `IdsInj`, `NextOK`, the scanline order, `MinsOK`, `ValidOK`,
`NoTopInside`), all of `Built.HypR`, the acceptance of the run (`rs` exists) and `rs.s.ael = []`.

Then the output paths wind around the point exactly `0` or `1` times, and `wind (output) p ≠ 0 ⟺ inR ct fr (wind subj p) (wind clip p)`. -/
theorem c01_model_level_reduced (subj clip : Paths) (cfg : Cfg) (hct : cfg.ct ≠ .noClip) (cx : GEdge → Int → Int) (hn : Near cx)
    (info : GEdge → OInfo) (hin : InputGP subj clip) (hgp : GPAll (build (subj ++ clip))) (D : Int)
    (hD : DenOK D (builtDens subj clip cx info))
    (pre : List BeamRunP) (r : BeamRunP) (post : List BeamRunP)
    (hruns : beamRunsP D (validGen cx info) cx (build (subj ++ clip)).next (build (subj ++ clip)).mins (labOf subj clip) []
      (build (subj ++ clip)).ys = pre ++ r :: post)
    (xn yn yd : Int) (hd : 0 < yd) (hlo : r.snap.y1 * yd < yn) (hhi : yn < r.snap.y0 * yd)
    (hcr : ∀ op ∈ r.evIsect, op.pt.y * yd ≠ D * yn) (hoff : ∀ e ∈ r.snap.inserted, ¬ onEdgeLine e xn yn yd) :
    ∃ rs, runR cfg RState.empty (builtEventsP D subj clip cx info) = .ok rs ∧ rs.s.ael = [] ∧
      (windOut D rs xn yn yd = 0 ∨ windOut D rs xn yn yd = 1) ∧
      (windOut D rs xn yn yd ≠ 0 ↔ inR cfg.ct cfg.fr (windQ subj xn yn yd) (windQ clip xn yn yd) = true) := by
  have h1 := build_hyp subj clip hin hgp cx hn info
  have h2 := build_hypR subj clip hin
  obtain ⟨⟨rs, hrs⟩, _, _⟩ := sweepEventsP_accepted cfg hct D _ (validGen cx info) cx _ _ (labOf subj clip) _ h1.1 h1.2.2.1 hn h1.2.2.2 h2 hD
  have hend := build_sweep_ends_empty subj clip cfg hct cx hn info hin hgp D hD rs hrs
  exact ⟨rs, hrs, hend, c01_model_level subj clip cfg hct cx hn info h1 h2 D hD rs hrs hend pre r post hruns xn yn yd hd hlo hhi hcr hoff⟩

/-- **c01_model_level_reduced_lcm.**  The same with the canonical scale `D = sweepDen …` (the least common multiple of the crossing denominators): `DenOK` is
discharged too (`Props/C01Output.crossing_dens_pos`).  Hypotheses left: `InputGP`, `GPAll`, `Near cx`, `ct ≠ NoClip`, and the conditions on the probe. -/
theorem c01_model_level_reduced_lcm (subj clip : Paths) (cfg : Cfg) (hct : cfg.ct ≠ .noClip) (cx : GEdge → Int → Int) (hn : Near cx)
    (info : GEdge → OInfo) (hin : InputGP subj clip) (hgp : GPAll (build (subj ++ clip))) (D : Int)
    (hDef : D = sweepDen (validGen cx info) cx (build (subj ++ clip)).next (build (subj ++ clip)).mins (build (subj ++ clip)).ys)
    (pre : List BeamRunP) (r : BeamRunP) (post : List BeamRunP)
    (hruns : beamRunsP D (validGen cx info) cx (build (subj ++ clip)).next (build (subj ++ clip)).mins (labOf subj clip) []
      (build (subj ++ clip)).ys = pre ++ r :: post)
    (xn yn yd : Int) (hd : 0 < yd) (hlo : r.snap.y1 * yd < yn) (hhi : yn < r.snap.y0 * yd)
    (hcr : ∀ op ∈ r.evIsect, op.pt.y * yd ≠ D * yn) (hoff : ∀ e ∈ r.snap.inserted, ¬ onEdgeLine e xn yn yd) :
    ∃ rs, runR cfg RState.empty (builtEventsP D subj clip cx info) = .ok rs ∧ rs.s.ael = [] ∧
      (windOut D rs xn yn yd = 0 ∨ windOut D rs xn yn yd = 1) ∧
      (windOut D rs xn yn yd ≠ 0 ↔ inR cfg.ct cfg.fr (windQ subj xn yn yd) (windQ clip xn yn yd) = true) := by
  have h1 := build_hyp subj clip hin hgp cx hn info
  have h2 := build_hypR subj clip hin
  have hD : DenOK D (builtDens subj clip cx info) := by
    rw [hDef]
    exact (crossing_dens_pos cfg _ (validGen cx info) cx _ _ (labOf subj clip) _ h1.1 h1.2.2.1 hn h1.2.2.2 h2).2
  exact c01_model_level_reduced subj clip cfg hct cx hn info hin hgp D hD pre r post hruns xn yn yd hd hlo hhi hcr hoff

/- The test input, the two crossing triangles of `Props/C01Crown`:
`A = (0,40) (30,3) (-30,11)` (subject), `B = (-10,33) (-31,0) (34,20)` (clip).  `InputGP` by `decide`; `GPAll` by kernel evaluation.  The reduced theorem
applies: around `(1/2, 59/2)` the exact UNION ring winds once — with NO per-input evaluation of `Built.Hyp`, `Built.HypR` or the final AEL. -/

private def triA : Path := [⟨0, 40⟩, ⟨30, 3⟩, ⟨-30, 11⟩]
private def triB : Path := [⟨-10, 33⟩, ⟨-31, 0⟩, ⟨34, 20⟩]
private def triD : Int := 36351017860465560

/-- the two triangles satisfy the input-only precondition -/
theorem tri_inputGP : InputGP [triA] [triB] := by decide

/-- … and are in general position at their scanlines -/
theorem tri_gpAll : GPAll (build ([triA] ++ [triB])) := by decide +kernel

private theorem tri_den : DenOK triD (builtDens [triA] [triB] rhe default) := triangles_den

private def triRuns : List BeamRunP :=
  beamRunsP triD (validGen rhe default) rhe (build ([triA] ++ [triB])).next (build ([triA] ++ [triB])).mins (labOf [triA] [triB]) []
    (build ([triA] ++ [triB])).ys

private theorem tri_split : triRuns = triRuns.take 1 ++ triRuns.getD 1 default :: triRuns.drop 2 :=
  Clipper.Props.C01Region.split_at triRuns 1 (by decide +kernel)

private theorem tri_inside : (triRuns.getD 1 default).snap.y1 * 2 < 59 ∧ 59 < (triRuns.getD 1 default).snap.y0 * 2 ∧
    (∀ op ∈ (triRuns.getD 1 default).evIsect, op.pt.y * 2 ≠ triD * 59) ∧
    (∀ e ∈ (triRuns.getD 1 default).snap.inserted, ¬ onEdgeLine e 1 59 2) ∧
    inR .union .nonZero (windQ [triA] 1 59 2) (windQ [triB] 1 59 2) = true := by decide +kernel

/-- the hypotheses `Built.Hyp`, `Built.HypR` of the two triangles are INSTANCES OF THEOREMS -/
example : (build ([triA] ++ [triB])).Hyp (validGen rhe default) ∧ Built.HypR (build ([triA] ++ [triB])) (labOf [triA] [triB]) :=
  ⟨build_hyp _ _ tri_inputGP tri_gpAll rhe rhe_near default, build_hypR _ _ tri_inputGP⟩

/-- `c01_model_level_reduced` applies to the two triangles (UNION): the run is accepted, ends with an empty AEL, and the exact union ring winds once around
`(1/2, 59/2)` -/
example : ∃ rs, runR ⟨.union, .nonZero⟩ RState.empty (builtEventsP triD [triA] [triB] rhe default) = .ok rs ∧ rs.s.ael = [] ∧
    windOut triD rs 1 59 2 = 1 := by
  obtain ⟨rs, hrs, hend, h01, hiff⟩ := c01_model_level_reduced [triA] [triB] ⟨.union, .nonZero⟩ (by decide) rhe rhe_near default tri_inputGP tri_gpAll
    triD tri_den _ _ _ tri_split 1 59 2 (by decide) tri_inside.1 tri_inside.2.1 tri_inside.2.2.1 tri_inside.2.2.2.1
  refine ⟨rs, hrs, hend, ?_⟩
  rcases h01 with h0 | h1
  · exact absurd h0 (hiff.2 tri_inside.2.2.2.2)
  · exact h1

/-- a second input: a concave "W" (two local minima, two local maxima, a hole-free octagon-like outline with intermediate vertices) clipped by a
slanted quadrilateral — `InputGP` by `decide`, `GPAll` by kernel evaluation; `Built.Hyp` / `Built.HypR` follow from the theorems -/
private def wSubj : Path := [⟨0, 50⟩, ⟨13, 21⟩, ⟨24, 38⟩, ⟨37, 5⟩, ⟨61, 44⟩, ⟨44, 71⟩, ⟨29, 57⟩, ⟨11, 80⟩]
private def wClip : Path := [⟨-12, 33⟩, ⟨52, 12⟩, ⟨70, 58⟩, ⟨20, 66⟩]

private theorem w_inputGP : InputGP [wSubj] [wClip] := by decide
private theorem w_gpAll : GPAll (build ([wSubj] ++ [wClip])) := by decide +kernel

example : InputGP [wSubj] [wClip] := w_inputGP
example : GPAll (build ([wSubj] ++ [wClip])) := w_gpAll
example : (build ([wSubj] ++ [wClip])).Hyp (validGen rhe default) ∧ Built.HypR (build ([wSubj] ++ [wClip])) (labOf [wSubj] [wClip]) ∧
    ((build ([wSubj] ++ [wClip])).mins 80).length = 1 ∧ (build ([wSubj] ++ [wClip])).allMins.length = 4 :=
  ⟨build_hyp _ _ w_inputGP w_gpAll rhe rhe_near default, build_hypR _ _ w_inputGP, by decide +kernel, by decide +kernel⟩

/-- `InputGP` is not vacuous the other way either: a path with a horizontal edge, a spike at a local minimum, or a repeated vertex is rejected -/
example : ¬ InputGP [[⟨0, 0⟩, ⟨10, 0⟩, ⟨5, 5⟩]] [] ∧ ¬ InputGP [[⟨0, 0⟩, ⟨0, 10⟩, ⟨0, 5⟩, ⟨7, 7⟩]] [] ∧
    ¬ InputGP [[⟨0, 0⟩, ⟨4, 10⟩, ⟨9, 3⟩]] [[⟨0, 0⟩, ⟨-4, 10⟩, ⟨-9, 3⟩]] := by decide

end Clipper.Props.C01Build

/-
C14 — Independent objects can be used from different threads.

* `interleaving_eq_sequential` / `interleaving_objects_eq`: on the abstract machine of `Model/Threads.lean`, for any
  schedule in which every object is used by one thread only, each thread gets the outputs — and its objects end in the
  states — of running its own calls alone.
* the premise "no step writes the global store" is tied to the source by `Generated/Globals.lean`
  (tools/extract_globals.py: clang AST + nm, regenerated on every run): `globals_readonly`, `no_unexplained_writable_symbol`,
  `vertex_written_only_when_loading`.
Data-race freedom of the compiled code is a runtime check (harness/C14.cpp under ThreadSanitizer), not a theorem.
-/
import ClipperVerif.Model.Threads
import ClipperVerif.Generated.Globals
namespace Clipper.Props.C14
open Clipper.Model.Threads

variable {G O Opn Out : Type}

/-- the two stores agree on the objects owned by `t` -/
def AgreeOn (owner : Nat → Nat) (t : Nat) (σ σ' : Nat → O) : Prop := ∀ i, owner i = t → σ i = σ' i

/-- one call of a machine that does not write the global store -/
theorem run_cons (m : Machine G O Opn Out) (hG : m.ReadOnlyG) (g : G) (σ : Nat → O) (e : Event Opn)
    (es : List (Event Opn)) :
    run m g σ (e :: es) =
      ((e.thread, (m.step g (σ e.obj) e.op).2.2) :: (run m g (upd σ e.obj (m.step g (σ e.obj) e.op).2.1) es).1,
        (run m g (upd σ e.obj (m.step g (σ e.obj) e.op).2.1) es).2) := by
  simp only [run]
  rw [hG]

theorem run_global (m : Machine G O Opn Out) (hG : m.ReadOnlyG) :
    ∀ (s : List (Event Opn)) (g : G) (σ : Nat → O), (run m g σ s).2.1 = g
  | [], _, _ => rfl
  | e :: es, g, σ => by rw [run_cons m hG]; exact run_global m hG es g _

/-- the calls of the other threads can be dropped from a schedule without `t` noticing: they touch objects `t` does not
own, and `t`'s own calls find its objects and the global store as they are when it runs alone -/
private theorem run_filter (m : Machine G O Opn Out) (hG : m.ReadOnlyG) (owner : Nat → Nat) (t : Nat) :
    ∀ (s : List (Event Opn)) (g : G) (σ σ' : Nat → O), (∀ e ∈ s, owner e.obj = e.thread) → AgreeOn owner t σ σ' →
      outputsOf t (run m g σ s).1 = outputsOf t (run m g σ' (programOf t s)).1 ∧
      AgreeOn owner t (run m g σ s).2.2 (run m g σ' (programOf t s)).2.2
  | [], g, σ, σ', _, hag => ⟨rfl, hag⟩
  | e :: es, g, σ, σ', hs, hag => by
    have he : owner e.obj = e.thread := hs e List.mem_cons_self
    have hes : ∀ e' ∈ es, owner e'.obj = e'.thread := fun e' h => hs e' (List.mem_cons_of_mem _ h)
    rw [run_cons m hG]
    by_cases ht : e.thread = t
    · -- thread t's own call: same object state, same global store, hence the same step
      have hprog : programOf t (e :: es) = e :: programOf t es := by simp [programOf, ht]
      rw [hprog, run_cons m hG, ← hag _ (he.trans ht)]
      obtain ⟨h1, h2⟩ := run_filter m hG owner t es g _ _ hes
        (show AgreeOn owner t (upd σ e.obj _) (upd σ' e.obj _) from fun i hi => by
          unfold upd; split
          · rfl
          · exact hag i hi)
      refine ⟨?_, h2⟩
      simp only [outputsOf, List.filter_cons, ht, beq_self_eq_true, if_true, List.map_cons]
      exact congrArg _ h1
    · -- another thread's call: it touches an object t does not own
      have hprog : programOf t (e :: es) = programOf t es := by simp [programOf, ht]
      obtain ⟨h1, h2⟩ := run_filter m hG owner t es g _ σ' hes
        (show AgreeOn owner t (upd σ e.obj _) σ' from fun i hi => by
          unfold upd; split
          · rename_i hie; exact absurd ((hie ▸ he).symm.trans hi) ht
          · exact hag i hi)
      rw [hprog]
      refine ⟨?_, h2⟩
      have hne : (e.thread == t) = false := by simpa using ht
      simp only [outputsOf, List.filter_cons, hne]
      exact h1

/-- **Every thread observes what it observes when run alone.**  For any machine whose steps do not write the global
store, any assignment of objects to threads, and any schedule (any interleaving of any number of threads' calls) in
which each call is made by the owner of the object it is made on: the outputs thread `t` receives are those of running
only `t`'s calls. -/
theorem interleaving_eq_sequential (m : Machine G O Opn Out) (hG : m.ReadOnlyG) (owner : Nat → Nat)
    (g : G) (σ : Nat → O) (s : List (Event Opn)) (hs : ∀ e ∈ s, owner e.obj = e.thread) (t : Nat) :
    outputsOf t (run m g σ s).1 = outputsOf t (run m g σ (programOf t s)).1 :=
  (run_filter m hG owner t s g σ σ hs (fun _ _ => rfl)).1

/-- … and its objects end in the states they end in when it runs alone; the global store is unchanged. -/
theorem interleaving_objects_eq (m : Machine G O Opn Out) (hG : m.ReadOnlyG) (owner : Nat → Nat)
    (g : G) (σ : Nat → O) (s : List (Event Opn)) (hs : ∀ e ∈ s, owner e.obj = e.thread) (t : Nat) :
    (run m g σ s).2.1 = g ∧ ∀ i, owner i = t → (run m g σ s).2.2 i = (run m g σ (programOf t s)).2.2 i :=
  ⟨run_global m hG s g σ, (run_filter m hG owner t s g σ σ hs (fun _ _ => rfl)).2⟩

/-! non-vacuity: a machine whose steps read the global store (a shared container) and accumulate into the object;
three threads, five interleaved calls -/
def demo : Machine (List Int) (List Int) Nat Int where
  step g o k := (g, (g.getD k 0) :: o, (g.getD k 0) + o.length)
example : demo.ReadOnlyG := fun _ _ _ => rfl
def demoSchedule : List (Event Nat) := [⟨0, 10, 0⟩, ⟨1, 11, 1⟩, ⟨0, 10, 2⟩, ⟨2, 12, 0⟩, ⟨1, 11, 0⟩]
example : ∀ e ∈ demoSchedule, (fun i => i - 10) e.obj = e.thread := by decide
example : outputsOf 1 (run demo [5, 6, 7] (fun _ => []) demoSchedule).1 = [6, 6] := by decide

open Clipper.Gen.Globals

/-- Every object with static or thread storage duration declared anywhere in the library's headers and sources
(namespace scope, static members, function-local statics, thread_local), plus every writable data symbol of the
compiled objects that no declaration explains, is either declared `const`/`constexpr` or — the five
`static const char*` error strings, pointers to constants — is only ever loaded.  A mutable global, a function-local
`static` cache or a `thread_local` scratch buffer added to the library lands in the regenerated list with both flags
false and breaks this `decide`. -/
theorem globals_readonly : ∀ g ∈ globals, g.isConst = true ∨ g.onlyRead = true := by decide

/-- no writable data symbol of the compiled objects is unexplained (such symbols are listed with storage "nm-only") -/
theorem no_unexplained_writable_symbol : ∀ g ∈ globals, g.storage ≠ "nm-only" := by decide +kernel

/-- the writable symbols attributed to the toolchain are `std::__ioinit` (the <iostream> initialiser of each translation
unit) and g++'s exception-personality reference, nothing else -/
theorem toolchain_symbols_known :
    ∀ p ∈ toolchainSymbols, p.1 = "std::__ioinit" ∨ p.1 = "DW.ref.__gxx_personality_v0" := by decide +kernel

/-- Vertices — the data a ReuseableDataContainer64 shares between clippers — are assigned to only while paths are
loaded (`AddPaths_`, `AddLocMin`), never by the sweep: concurrent executions only read them. -/
theorem vertex_written_only_when_loading :
    ∀ w ∈ vertexWriters, w.1 = "Clipper2Lib::AddPaths_" ∨ w.1 = "Clipper2Lib::AddLocMin" := by decide +kernel

/-- the list is not empty for a trivial reason: it contains the namespace-scope constants the property names -/
example : (globals.any (fun g => g.name == "invalid_rect" && g.file == "clipper.engine.cpp")) = true := by decide +kernel
example : (globals.any (fun g => g.name == "PI")) = true := by decide +kernel

end Clipper.Props.C14

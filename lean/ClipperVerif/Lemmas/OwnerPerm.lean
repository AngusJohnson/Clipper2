/-
`tree_paths_perm`: `BuildPaths64` as two `filterMap`s over the outrec table, the closed-world hypothesis,
and the two facts `tree_paths_perm` (Props/C04) is assembled from: the invariant of the outer loop relative to the closed
outrecs (`buildTree_loopInv_open`), and then the placed outrecs are the contributors of closed paths (`placedPaths_eq_closed`).
-/
import ClipperVerif.Lemmas.OwnerBuild
namespace Clipper.Model.Owner
open Clipper

/-- the closed path outrec `i` contributes to `BuildPaths64` -/
def closedPathOf (clean : Nat → CleanRes) (T : Table) (i : Nat) : Option Path :=
  match T[i]? with
  | none => none
  | some r =>
    if !r.hasPts then none
    else if r.isOpen then none
    else match clean i with
      | .path p => some p
      | _ => none

theorem foldl_pair_filterMap {α : Type} {F : List α × List α → Nat → List α × List α} {f g : Nat → Option α}
    (hF : ∀ acc i, F acc i = (acc.1 ++ (f i).toList, acc.2 ++ (g i).toList)) :
    ∀ (l : List Nat) (acc : List α × List α), l.foldl F acc = (acc.1 ++ l.filterMap f, acc.2 ++ l.filterMap g) := by
  intro l
  induction l with
  | nil => intro acc; simp
  | cons a l ih =>
    intro acc
    rw [List.foldl_cons, ih, hF]
    simp only [List.filterMap_cons, List.append_assoc]
    cases f a <;> cases g a <;> rfl

/-- `BuildPaths64` selects, in outrec order, `clean i` of the live closed outrecs and `openPath i` of the live open ones -/
theorem buildPaths_eq (clean : Nat → CleanRes) (openPath : Nat → Option Path) (T : Table) :
    buildPaths clean openPath T =
      ((List.range T.size).filterMap (closedPathOf clean T), (List.range T.size).filterMap (openPathOf openPath T)) := by
  refine (foldl_pair_filterMap (f := closedPathOf clean T) (g := openPathOf openPath T) (fun acc i => ?_) _ _).trans
    (by simp)
  unfold closedPathOf openPathOf
  cases T[i]? with
  | none => simp
  | some r =>
    simp only
    cases r.hasPts with
    | false => simp
    | true =>
      cases r.isOpen with
      | true => cases openPath i <;> simp
      | false => cases clean i <;> simp

/-- index `k` names a closed outrec of `T` -/
def IsClosedIn (T : Table) (k : Nat) : Prop := ∃ r : OutRec, T[k]? = some r ∧ r.isOpen = false

/-- (H2) `owner` and every entry of `splits` of a closed outrec name closed outrecs of the table -/
def ClosedWorld (T : Table) : Prop :=
  ∀ (j : Nat) (r : OutRec), T[j]? = some r → r.isOpen = false →
    (∀ o : Nat, r.owner = some o → IsClosedIn T o) ∧ (∀ s ∈ r.splits, IsClosedIn T s)

theorem ClosedWorld.ownC {T : Table} (h : ClosedWorld T) : OwnC (IsClosedIn T) T := by
  intro j r hj ⟨r', hr', hcl⟩
  cases hj.symm.trans hr'
  exact h j r hj hcl

section
variable {clean : Nat → CleanRes} {inside : Nat → Nat → Bool} {openPath : Nat → Option Path}

/-- the outer loop of `BuildTree64` relative to the closed outrecs of the initial table: open outrecs are never touched
and never placed -/
theorem buildTree_loopInv_open {fuel : Nat} {T : Table} {S : St} (hF : Fresh T) (hA : Acyclic T) (hC : ClosedWorld T)
    (h : buildTree clean inside openPath fuel T = some S) :
    LoopInv clean inside openPath (IsClosedIn T) T (List.range T.size) S ∧
      S.openPaths = (List.range T.size).filterMap (openPathOf openPath T) := by
  have hI := buildTree_loop (fun _ r hr hcl => ⟨r, hr, hcl⟩) hC.ownC hF hA h
  refine ⟨hI, hI.openPaths ?_⟩
  rintro i r hr hop ⟨r', hr', hcl⟩
  cases hr.symm.trans hr'
  cases hop.symm.trans hcl

/-- the placed outrecs are exactly the contributors of closed paths to `BuildPaths64` -/
theorem placedPaths_eq_closed {T : Table} {S : St}
    (H1 : ∀ (i : Nat) (r : OutRec) (p : Path), T[i]? = some r → r.isOpen = false → r.hasPts = true →
      clean i = .path p → (getBounds p).isEmpty = false)
    (hF : Fresh T) (hI : LoopInv clean inside openPath (IsClosedIn T) T (List.range T.size) S) :
    placedPaths S.recs = (List.range T.size).filterMap (closedPathOf clean T) := by
  obtain ⟨_, hB, hT⟩ := hI.ginv
  have hFr := hI.stepS
  unfold placedPaths
  rw [hFr.1]
  apply filterMap_range_congr
  intro j hj
  obtain ⟨r, hTj⟩ := exists_getElem? hj
  obtain ⟨r', hr', rs, _⟩ := hFr.2.1 j r hTj
  unfold placedPath closedPathOf
  rw [hr', hTj]
  simp only
  cases hp : r'.polypath with
  | some a =>
    obtain ⟨_, hne, _⟩ := hT j r' a hr' hp
    obtain ⟨b1, b2, _⟩ := hB j r' hr' hne
    obtain ⟨r0, hr0, hcl⟩ := hI.placedC hF.placedC j r' hr' (by simp [hp])
    cases hTj.symm.trans hr0
    simp [rs.hasPts_mono b1, hcl, b2]
  | none =>
    simp only [Option.isSome_none, Bool.false_eq_true, if_false]
    cases hpts : r.hasPts with
    | false => simp
    | true =>
      cases hop : r.isOpen with
      | true => simp
      | false =>
        simp only [Bool.not_true, Bool.false_eq_true, if_false]
        cases hc : clean j with
        | disposed => rfl
        | invalid => rfl
        | path p =>
          obtain ⟨r'', hr'', hs⟩ :=
            hI.placed j (List.mem_range.mpr hj) r p hTj hop hpts hc (H1 j r p hTj hop hpts hc)
          cases hr'.symm.trans hr''
          rw [hp] at hs
          cases hs

end

end Clipper.Model.Owner

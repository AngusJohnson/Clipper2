/-
For `Props/C01Region.lean`: the winding number of `Spec/Basic.lean` by ray casting, in terms of the sweep edges
of `Model/SweepOrder.build` and their `wind_dx` labels.  Core Lean only.

Orientation.  `Spec.crossing p a b` casts a ray towards +x: an edge to the RIGHT of `p` counts, `+1` when the path runs towards larger y
(`a.y ≤ p.y < b.y`), `−1` when it runs towards smaller y.  The sweep has y growing downwards: an edge's `bot` is its end with the larger
y, and `wind_dx = +1` iff the path runs from `bot` to `top`, i.e. towards smaller y.  So an edge to the right of `p` contributes
`−wind_dx`; a closed path crosses every scanline equally often in both directions, hence the edges to the LEFT of `p` contribute
`+wind_dx` in total: the winding number is the prefix sum of `wind_dx` the bookkeeping model maintains.
-/
import ClipperVerif.Model.SweepEvents
import ClipperVerif.Lemmas.WindSpec
import ClipperVerif.Props.C13Spec
namespace Clipper.Lemmas.C01Region
open Clipper Clipper.WindSpec Clipper.Model.AelOrder Clipper.Model.SweepOrder Clipper.Model.SweepEvents

/-- is the vertex `v`, scaled by `d`, below the scanline `yn` (larger y)? -/
def belowI (yn d : Int) (v : Pt) : Int := if yn < v.y * d then 1 else 0

def leftTerm (e : SEdge) (dx xn yn yd : Int) : Int := if aliveAt e yn yd ∧ leftOfPt e xn yn yd then dx else 0

theorem leftTerm_neg (e : SEdge) (dx xn yn yd : Int) : leftTerm e (-dx) xn yn yd = -leftTerm e dx xn yn yd := by
  unfold leftTerm; split <;> rfl

theorem mkEdge_down (i : Nat) {a b : Pt} (h : a.y > b.y) : mkEdge i a b = ⟨i, a, b⟩ := if_pos h
theorem mkEdge_up (i : Nat) {a b : Pt} (h : ¬ a.y > b.y) : mkEdge i a b = ⟨i, b, a⟩ := if_neg h

/-- seen from `(xn, yn)`, the scaled segment `b → t` has the cross product `d ·` (how far the point is right of its line) -/
theorem cross_scaled (b t : Pt) (xn yn d : Int) :
    cross (Pt.scale d b) (Pt.scale d t) ⟨xn, yn⟩ = d * (xn * (b.y - t.y) - xNum b t yn d) := by
  simp only [cross, Pt.scale, xNum]; grind

/-- **one edge walked from `bot` to `top`**, scaled by `d`, seen from the point `(xn, yn)` (not at the height of an end point, not on
the edge).  Above and below the edge both sides vanish; at a height the edge crosses, `Spec.crossing` is `-1` if the edge is right of
the point, and `[top below the scanline] - [bot below the scanline]` is `-1`. -/
theorem crossing_bot_top (e : SEdge) (xn yn d : Int) (hd : 0 < d) (he : e.top.y ≤ e.bot.y) (hb : yn ≠ e.bot.y * d)
    (ht : yn ≠ e.top.y * d) (hoff : aliveAt e yn d → ¬ onEdgeLine e xn yn d) :
    crossing ⟨xn, yn⟩ (Pt.scale d e.bot) (Pt.scale d e.top) =
      leftTerm e 1 xn yn d + (belowI yn d e.top - belowI yn d e.bot) := by
  have hAB : e.top.y * d ≤ e.bot.y * d := Int.mul_le_mul_of_nonneg_right he (Int.le_of_lt hd)
  have hs : d * (xn * (e.bot.y - e.top.y) - xNum e.bot e.top yn d) < 0 ↔ xn * (e.bot.y - e.top.y) < xNum e.bot e.top yn d :=
    (sign_mul hd).2.trans ⟨Int.lt_of_sub_neg, Int.sub_neg_of_lt⟩
  unfold crossing leftTerm belowI
  rw [cross_scaled]
  simp only [Pt.scale, Int.mul_comm d e.bot.y, Int.mul_comm d e.top.y]
  rcases Int.lt_or_gt_of_ne ht with h | h
  · have hA := Int.lt_of_lt_of_le h hAB
    have hna : ¬ aliveAt e yn d := fun h' => Int.lt_asymm h h'.1
    simp only [Int.not_le.2 hA, Int.not_le.2 h, hA, h, hna, false_and, if_false, if_true]
    rfl
  · have hnB := Int.lt_asymm h
    rcases Int.lt_or_gt_of_ne hb with h' | h'
    · have hal : aliveAt e yn d := ⟨h, h'⟩
      simp only [hnB, Int.le_of_lt h, h', hal, and_false, true_and, if_false, if_true]
      by_cases hl : leftOfPt e xn yn d
      · simp only [hl, hs, Int.lt_asymm (show xNum e.bot e.top yn d < xn * (e.bot.y - e.top.y) from hl), if_true, if_false]; rfl
      · have : xn * (e.bot.y - e.top.y) < xNum e.bot e.top yn d := Int.lt_iff_le_and_ne.2 ⟨Int.not_lt.1 hl, Ne.symm (hoff hal)⟩
        simp only [hl, hs, this, if_true, if_false]; rfl
    · have hna : ¬ aliveAt e yn d := fun h'' => Int.lt_asymm h' h''.2
      simp only [hnB, Int.lt_asymm h', hna, and_false, false_and, if_false]
      rfl

/-- **one directed edge `a → b`** of a path: walked from `bot` to `top` it counts with `wind_dx = 1`, the other way round with `-1` -/
theorem crossing_edge (i : Nat) (a b : Pt) (xn yn d : Int) (hd : 0 < d) (ha : yn ≠ a.y * d) (hb : yn ≠ b.y * d)
    (hoff : aliveAt (mkEdge i a b) yn d → ¬ onEdgeLine (mkEdge i a b) xn yn d) :
    crossing ⟨xn, yn⟩ (Pt.scale d a) (Pt.scale d b) =
      leftTerm (mkEdge i a b) (if a.y > b.y then 1 else -1) xn yn d + (belowI yn d b - belowI yn d a) := by
  by_cases h : a.y > b.y
  · rw [mkEdge_down i h] at hoff ⊢
    rw [if_pos h]
    exact crossing_bot_top ⟨i, a, b⟩ xn yn d hd (Int.le_of_lt h) ha hb hoff
  · rw [mkEdge_up i h] at hoff ⊢
    rw [if_neg h, Clipper.Props.C13Spec.crossing_swap, leftTerm_neg,
      crossing_bot_top ⟨i, b, a⟩ xn yn d hd (Int.not_lt.1 h) hb ha hoff, Int.neg_add, Int.neg_sub]

def rowTerm (xn yn yd : Int) (r : SEdge × PathType × Int) : Int := leftTerm r.1 r.2.2 xn yn yd

theorem map_zipIdx_fst {α β : Type} (F : α → β) (l : List α) (k : Nat) : (l.zipIdx k).map (fun x => F x.1) = l.map F :=
  (List.map_map (g := F) (f := Prod.fst)).symm.trans (congrArg _ (List.zipIdx_map_fst k l))

theorem windPath_scaled (off : Nat) (t : PathType) (p : Path) (xn yn d : Int) (hd : 0 < d)
    (hv : ∀ r ∈ pathLabels off t p, yn ≠ r.1.bot.y * d ∧ yn ≠ r.1.top.y * d)
    (hoff : ∀ r ∈ pathLabels off t p, aliveAt r.1 yn d → ¬ onEdgeLine r.1 xn yn d) :
    windPath (p.map (Pt.scale d)) ⟨xn, yn⟩ = ((pathLabels off t p).map (rowTerm xn yn d)).sum := by
  have key : ∀ ei ∈ (edgesOf p).zipIdx,
      rowTerm xn yn d (mkEdge (off + ei.2) ei.1.1 ei.1.2, t, if ei.1.1.y > ei.1.2.y then 1 else -1) =
        crossing ⟨xn, yn⟩ (Pt.scale d ei.1.1) (Pt.scale d ei.1.2) -
          (belowI yn d ei.1.2 - belowI yn d ei.1.1) := by
    intro ei hei
    have hrow : (mkEdge (off + ei.2) ei.1.1 ei.1.2, t, if ei.1.1.y > ei.1.2.y then (1 : Int) else -1) ∈ pathLabels off t p :=
      List.mem_map_of_mem (f := fun ei : (Pt × Pt) × Nat =>
        (mkEdge (off + ei.2) ei.1.1 ei.1.2, t, if ei.1.1.y > ei.1.2.y then (1 : Int) else -1)) hei
    have hab : yn ≠ ei.1.1.y * d ∧ yn ≠ ei.1.2.y * d := by
      have hv' := hv _ hrow
      by_cases h : ei.1.1.y > ei.1.2.y
      · rw [mkEdge_down _ h] at hv'; exact hv'
      · rw [mkEdge_up _ h] at hv'; exact hv'.symm
    have ho := hoff _ hrow
    rw [crossing_edge (off + ei.2) ei.1.1 ei.1.2 xn yn d hd hab.1 hab.2 ho]
    exact (Int.add_sub_cancel _ _).symm
  have e1 : windPath (p.map (Pt.scale d)) ⟨xn, yn⟩ =
      ((edgesOf p).map (fun e => crossing ⟨xn, yn⟩ (Pt.scale d e.1) (Pt.scale d e.2))).sum := by
    unfold windPath; rw [edgesOf_map, List.map_map]; rfl
  have e2 : (pathLabels off t p).map (rowTerm xn yn d) = (edgesOf p).zipIdx.map (fun ei =>
      rowTerm xn yn d (mkEdge (off + ei.2) ei.1.1 ei.1.2, t, if ei.1.1.y > ei.1.2.y then 1 else -1)) := List.map_map
  rw [e1, e2, List.map_congr_left key,
    map_zipIdx_fst (fun e : Pt × Pt => crossing ⟨xn, yn⟩ (Pt.scale d e.1) (Pt.scale d e.2) -
      (belowI yn d e.2 - belowI yn d e.1)),
    sum_map_sub (fun e : Pt × Pt => crossing ⟨xn, yn⟩ (Pt.scale d e.1) (Pt.scale d e.2)) (fun e => belowI yn d e.2 - belowI yn d e.1),
    edges_telescope (belowI yn d), Int.sub_zero]

/-- a path with fewer than three vertices winds around nothing -/
theorem windPath_short : ∀ (p : Path), p.length < 3 → ∀ (q : Pt), windPath p q = 0
  | [], _, _ => rfl
  | [a], _, q => (Int.add_zero _).trans (Clipper.Props.C13Spec.crossing_self q a)
  | [a, b], _, q => by
    show crossing q a b + (crossing q b a + 0) = 0
    rw [Clipper.Props.C13Spec.crossing_swap q a b, Int.add_zero, Int.add_right_neg]
  | _ :: _ :: _ :: l, h, _ => absurd h (Nat.not_lt.2 (Nat.le_add_left 3 l.length))

/-- **the winding number of closed paths around a rational point is the sum of `wind_dx` over the edges of the label table that
cross the scanline LEFT of the point** (paths with fewer than three vertices contribute nothing and have no edges in the table) -/
theorem wind_scaled (t : PathType) (xn yn d : Int) (hd : 0 < d) : ∀ (ps : Paths) (off : Nat),
    (∀ r ∈ labelsFrom off t ps, yn ≠ r.1.bot.y * d ∧ yn ≠ r.1.top.y * d) →
    (∀ r ∈ labelsFrom off t ps, aliveAt r.1 yn d → ¬ onEdgeLine r.1 xn yn d) →
    windQ ps xn yn d = ((labelsFrom off t ps).map (rowTerm xn yn d)).sum
  | [], _, _, _ => rfl
  | p :: ps, off, hv, hoff => by
    have ih := wind_scaled t xn yn d hd ps (off + p.length) (fun r hr => hv r (List.mem_append_right _ hr))
      (fun r hr => hoff r (List.mem_append_right _ hr))
    have hp : windPath (p.map (Pt.scale d)) ⟨xn, yn⟩ =
        ((if p.length < 3 then [] else pathLabels off t p).map (rowTerm xn yn d)).sum := by
      by_cases h3 : p.length < 3
      · rw [if_pos h3]; exact windPath_short _ (by rw [List.length_map]; exact h3) _
      · have hm : ∀ r ∈ pathLabels off t p, r ∈ labelsFrom off t (p :: ps) := fun r hr =>
          List.mem_append_left _ (by rw [if_neg h3]; exact hr)
        rw [if_neg h3]
        exact windPath_scaled off t p xn yn d hd (fun r hr => hv r (hm r hr)) (fun r hr => hoff r (hm r hr))
    show windPath (p.map (Pt.scale d)) ⟨xn, yn⟩ + windQ ps xn yn d = _
    rw [hp, ih, labelsFrom, List.map_append, List.sum_append]

end Clipper.Lemmas.C01Region

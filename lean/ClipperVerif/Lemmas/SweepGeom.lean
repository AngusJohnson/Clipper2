/-
Exact geometry of straight sweep edges, without division: fractions with positive denominators compared by cross-multiplication,
the order relations of `Model/SweepOrder.lean`, and the affine identity behind "two straight edges cross at most once": the scaled
horizontal distance `delta` of two edges changes with the height at the constant rate `sigma`.  Core Lean only.
-/
import ClipperVerif.Model.SweepOrder
import ClipperVerif.Lemmas.WindSpec
namespace Clipper.Lemmas.SweepOrder
open Clipper Clipper.Model.AelOrder Clipper.Model.SweepOrder
open Clipper.WindSpec (sign_mul)

theorem fle_trans {n1 d1 n2 d2 n3 d3 : Int} (h1 : 0 < d1) (h2 : 0 < d2) (h3 : 0 < d3)
    (a : n1 * d2 ≤ n2 * d1) (b : n2 * d3 ≤ n3 * d2) : n1 * d3 ≤ n3 * d1 := by
  have a' := Int.mul_le_mul_of_nonneg_right a (Int.le_of_lt h3)
  have b' := Int.mul_le_mul_of_nonneg_right b (Int.le_of_lt h1)
  rw [Int.mul_right_comm n1, Int.mul_right_comm n2] at a'
  rw [Int.mul_right_comm n3] at b'
  exact Int.le_of_mul_le_mul_right (Int.le_trans a' b') h2

/-- the strict versions: were the conclusion false, `fle_trans` would close the cycle against the strict premise -/
theorem flt_le_trans {n1 d1 n2 d2 n3 d3 : Int} (h1 : 0 < d1) (h2 : 0 < d2) (h3 : 0 < d3)
    (a : n1 * d2 < n2 * d1) (b : n2 * d3 ≤ n3 * d2) : n1 * d3 < n3 * d1 :=
  Int.not_le.1 (fun h => Int.not_le.2 a (fle_trans h2 h3 h1 b h))

theorem fle_lt_trans {n1 d1 n2 d2 n3 d3 : Int} (h1 : 0 < d1) (h2 : 0 < d2) (h3 : 0 < d3)
    (a : n1 * d2 ≤ n2 * d1) (b : n2 * d3 < n3 * d2) : n1 * d3 < n3 * d1 :=
  Int.not_le.1 (fun h => Int.not_le.2 b (fle_trans h3 h1 h2 h a))

theorem feq_trans {n1 d1 n2 d2 n3 d3 : Int} (h1 : 0 < d1) (h2 : 0 < d2) (h3 : 0 < d3)
    (a : n1 * d2 = n2 * d1) (b : n2 * d3 = n3 * d2) : n1 * d3 = n3 * d1 :=
  Int.le_antisymm (fle_trans h1 h2 h3 (Int.le_of_eq a) (Int.le_of_eq b))
    (fle_trans h3 h2 h1 (Int.le_of_eq b.symm) (Int.le_of_eq a.symm))

theorem exD_pos {e : SEdge} (h : e.Up) : 0 < exD e := Int.sub_pos.2 h

/-- the exact x at an integer height in the notation of `Model/AelOrder.lean` -/
theorem exN_eq_xNum (e : SEdge) (y : Int) : exN e y = xNum e.bot e.top y 1 ∧ exD e = xDen e.bot e.top 1 := by
  simp only [exN, exD, xNum, xDen, Int.mul_one, and_self]

theorem exN_at_top (e : SEdge) : exN e e.top.y = e.top.x * exD e := by simp only [exN, exD]; grind
theorem exN_at_bot (e : SEdge) : exN e e.bot.y = e.bot.x * exD e := by
  simp only [exN, exD, Int.sub_self, Int.mul_zero, Int.add_zero]

theorem xlt_trans {y : Int} {a b c : SEdge} (ha : a.Up) (hb : b.Up) (hc : c.Up) (h1 : xlt y a b) (h2 : xlt y b c) :
    xlt y a c :=
  flt_le_trans (exD_pos ha) (exD_pos hb) (exD_pos hc) h1 (Int.le_of_lt h2)

theorem xlt_irrefl (y : Int) (a : SEdge) : ¬ xlt y a a := Int.lt_irrefl _

theorem xlt_asymm {y : Int} {a b : SEdge} (h : xlt y a b) : ¬ xlt y b a := Int.lt_asymm h

theorem xeq_refl (y : Int) (a : SEdge) : xeq y a a := rfl

theorem xeq_symm {y : Int} {a b : SEdge} (h : xeq y a b) : xeq y b a := Eq.symm h

theorem xlt_or_xeq_or_xlt (y : Int) (a b : SEdge) : xlt y a b ∨ xeq y a b ∨ xlt y b a := Int.lt_trichotomy _ _

/-- two edges through one point `(x, y)` of the scanline have the same exact x there -/
theorem xeq_of_through {y x : Int} {a b : SEdge} (ha : exN a y = x * exD a) (hb : exN b y = x * exD b) : xeq y a b := by
  unfold xeq; rw [ha, hb, Int.mul_right_comm]

theorem xeq_of_same_bot {y : Int} {a b : SEdge} (h : a.bot = b.bot) (hy : a.bot.y = y) : xeq y a b :=
  xeq_of_through (hy ▸ exN_at_bot a) (by rw [h]; exact (h ▸ hy) ▸ exN_at_bot b)

theorem xeq_of_same_top {y : Int} {a b : SEdge} (h : a.top = b.top) (hy : a.top.y = y) : xeq y a b :=
  xeq_of_through (hy ▸ exN_at_top a) (by rw [h]; exact (h ▸ hy) ▸ exN_at_top b)

/-- `UpdateEdgeIntoAEL`: the successor starts where the old edge ended, so it has the same exact x on that scanline -/
theorem xeq_succ {y : Int} {e e' : SEdge} (hb : e'.bot = e.top) (hy : e.top.y = y) : xeq y e e' :=
  xeq_of_through (hy ▸ exN_at_top e) (by rw [← hb]; exact (hb ▸ hy) ▸ exN_at_bot e')

theorem slt_trans {a b c : SEdge} (ha : a.Up) (hb : b.Up) (hc : c.Up) (h1 : slt a b) (h2 : slt b c) : slt a c :=
  flt_le_trans (exD_pos ha) (exD_pos hb) (exD_pos hc) h1 (Int.le_of_lt h2)

/-- "exact x at `y`, then a tie-break `s`" is transitive when the tie-break is -/
theorem lex_trans {y : Int} {a b c : SEdge} (ha : a.Up) (hb : b.Up) (hc : c.Up) {s : SEdge → SEdge → Prop}
    (hs : s a b → s b c → s a c) (h1 : xlt y a b ∨ (xeq y a b ∧ s a b)) (h2 : xlt y b c ∨ (xeq y b c ∧ s b c)) :
    xlt y a c ∨ (xeq y a c ∧ s a c) := by
  have pa := exD_pos ha; have pb := exD_pos hb; have pc := exD_pos hc
  rcases h1 with h1 | ⟨e1, s1⟩ <;> rcases h2 with h2 | ⟨e2, s2⟩
  · exact Or.inl (xlt_trans ha hb hc h1 h2)
  · exact Or.inl (flt_le_trans pa pb pc h1 (Int.le_of_eq e2))
  · exact Or.inl (fle_lt_trans pa pb pc (Int.le_of_eq e1) h2)
  · exact Or.inr ⟨feq_trans pa pb pc e1 e2, hs s1 s2⟩

/-- `ltAbove y` (x at `y`, then direction) is transitive on non-horizontal edges -/
theorem ltAbove_trans {y : Int} {a b c : SEdge} (ha : a.Up) (hb : b.Up) (hc : c.Up)
    (h1 : ltAbove y a b) (h2 : ltAbove y b c) : ltAbove y a c :=
  lex_trans ha hb hc (slt_trans ha hb hc) h1 h2

theorem ltBelow_trans {y : Int} {a b c : SEdge} (ha : a.Up) (hb : b.Up) (hc : c.Up)
    (h1 : ltBelow y a b) (h2 : ltBelow y b c) : ltBelow y a c :=
  lex_trans ha hb hc (s := fun a b => slt b a) (fun s1 s2 => slt_trans hc hb ha s2 s1) h1 h2

theorem ltAbove_irrefl (y : Int) (a : SEdge) : ¬ ltAbove y a a := by
  unfold ltAbove xlt slt; omega

theorem ltBelow_irrefl (y : Int) (a : SEdge) : ¬ ltBelow y a a := by
  unfold ltBelow xlt slt; omega

theorem ltAbove_asymm {y : Int} {a b : SEdge} (h : ltAbove y a b) : ¬ ltAbove y b a := by
  unfold ltAbove xlt xeq slt at *; omega

/-- more than one unit apart implies strictly ordered -/
theorem xlt_of_xltBy1 {y : Int} {a b : SEdge} (ha : a.Up) (hb : b.Up) (h : xltBy1 y a b) : xlt y a b := by
  have hp : 0 < exD a * exD b := Int.mul_pos (exD_pos ha) (exD_pos hb)
  unfold xltBy1 at h; unfold xlt
  rw [Int.add_mul] at h; omega

theorem far_symm {y : Int} {a b : SEdge} (h : far y a b) : far y b a := Or.symm h

theorem xlt_or_of_far {y : Int} {a b : SEdge} (ha : a.Up) (hb : b.Up) (h : far y a b) : xlt y a b ∨ xlt y b a :=
  h.imp (xlt_of_xltBy1 ha hb) (xlt_of_xltBy1 hb ha)

theorem not_xeq_of_far {y : Int} {a b : SEdge} (ha : a.Up) (hb : b.Up) (h : far y a b) : ¬ xeq y a b := fun he =>
  (xlt_or_of_far ha hb h).elim (fun h => Int.ne_of_lt h he) (fun h => Int.ne_of_lt h he.symm)

theorem ltAbove_iff_xlt_of_far {y : Int} {a b : SEdge} (ha : a.Up) (hb : b.Up) (h : far y a b) :
    ltAbove y a b ↔ xlt y a b :=
  ⟨fun h' => h'.elim id (fun h' => absurd h'.1 (not_xeq_of_far ha hb h)), Or.inl⟩

/-- `xlt` respects "same exact x" on both sides -/
theorem xlt_congr {y : Int} {a a' b b' : SEdge} (ua : a.Up) (ua' : a'.Up) (ub : b.Up) (ub' : b'.Up)
    (h : xlt y a b) (ea : xeq y a a') (eb : xeq y b b') : xlt y a' b' :=
  flt_le_trans (exD_pos ua') (exD_pos ub) (exD_pos ub')
    (fle_lt_trans (exD_pos ua') (exD_pos ua) (exD_pos ub) (Int.le_of_eq ea.symm) h) (Int.le_of_eq eb)

/-- so does "more than one unit left of": `xltBy1 y a b` compares the fraction `(exN a y + exD a) / exD a` with that of `b` -/
theorem xltBy1_congr {y : Int} {a a' b b' : SEdge} (ua : a.Up) (ua' : a'.Up) (ub : b.Up) (ub' : b'.Up)
    (h : xltBy1 y a b) (ea : xeq y a a') (eb : xeq y b b') : xltBy1 y a' b' := by
  have ea' : (exN a' y + exD a') * exD a = (exN a y + exD a) * exD a' := by
    rw [Int.add_mul, Int.add_mul, ← show exN a y * exD a' = exN a' y * exD a from ea, Int.mul_comm (exD a')]
  exact flt_le_trans (exD_pos ua') (exD_pos ub) (exD_pos ub')
    (fle_lt_trans (exD_pos ua') (exD_pos ua) (exD_pos ub) (Int.le_of_eq ea') h) (Int.le_of_eq eb)

theorem far_congr {y : Int} {a a' b b' : SEdge} (ua : a.Up) (ua' : a'.Up) (ub : b.Up) (ub' : b'.Up)
    (h : far y a b) (ea : xeq y a a') (eb : xeq y b b') : far y a' b' :=
  h.imp (fun h => xltBy1_congr ua ua' ub ub' h ea eb) (fun h => xltBy1_congr ub ub' ua ua' h eb ea)

/-- `exD a * exD b * (x_b - x_a)` at height `y` -/
def delta (y : Int) (a b : SEdge) : Int := exN b y * exD a - exN a y * exD b
/-- `exD a * exD b *` (difference of the slopes): how fast `b` moves away from `a` per unit of height climbed -/
def sigma (a b : SEdge) : Int := run b * exD a - run a * exD b

theorem xlt_iff_delta (y : Int) (a b : SEdge) : xlt y a b ↔ 0 < delta y a b := Int.sub_pos.symm
theorem xeq_iff_delta (y : Int) (a b : SEdge) : xeq y a b ↔ delta y a b = 0 := by unfold xeq delta; omega
theorem xgt_iff_delta (y : Int) (a b : SEdge) : xlt y b a ↔ delta y a b < 0 := by unfold xlt delta; omega
theorem slt_iff_sigma (a b : SEdge) : slt a b ↔ 0 < sigma a b := Int.sub_pos.symm
theorem sgt_iff_sigma (a b : SEdge) : slt b a ↔ sigma a b < 0 := by unfold slt sigma; omega

/-- the numerator of the exact x at the rational height `yn/yd`, from the one at any integer height `y0`: climbing `y0 - yn/yd`
moves the edge by that times `run / exD` -/
theorem xNum_eq (e : SEdge) (y0 yn yd : Int) : xNum e.bot e.top yn yd = yd * exN e y0 + (y0 * yd - yn) * run e := by
  simp only [xNum, exN, run]; grind

/-- the scaled distance at the rational height `yn/yd`, in the notation of `Model/AelOrder.lean` -/
theorem delta_rat (y0 : Int) (a b : SEdge) (yn yd : Int) :
    xNum b.bot b.top yn yd * xDen a.bot a.top yd - xNum a.bot a.top yn yd * xDen b.bot b.top yd =
      yd * (yd * delta y0 a b + (y0 * yd - yn) * sigma a b) := by
  rw [xNum_eq a y0, xNum_eq b y0]
  show _ * (exD a * yd) - _ * (exD b * yd) = _
  unfold delta sigma
  generalize exN a y0 = Na; generalize exN b y0 = Nb; generalize exD a = Da; generalize exD b = Db
  generalize run a = ra; generalize run b = rb; generalize y0 * yd - yn = k
  grind

/-- climbing from `y0` to `y1` changes the scaled distance by `(y0 - y1) * sigma` -/
theorem delta_affine (y0 y1 : Int) (a b : SEdge) : delta y1 a b = delta y0 a b + (y0 - y1) * sigma a b := by
  show exN b y1 * exD a - exN a y1 * exD b = _
  have h := delta_rat y0 a b y1 1
  rw [← (exN_eq_xNum a y1).1, ← (exN_eq_xNum b y1).1, ← (exN_eq_xNum a y1).2, ← (exN_eq_xNum b y1).2] at h
  simpa only [Int.one_mul, Int.mul_one] using h

theorem xLt_iff_G (y0 : Int) (a b : SEdge) (yn yd : Int) (hyd : 0 < yd) :
    xLt a.bot a.top b.bot b.top yn yd ↔ 0 < yd * delta y0 a b + (y0 * yd - yn) * sigma a b := by
  unfold xLt
  rw [← Int.sub_pos, delta_rat y0]
  exact (sign_mul hyd).1

theorem xGt_iff_G (y0 : Int) (a b : SEdge) (yn yd : Int) (hyd : 0 < yd) :
    xLt b.bot b.top a.bot a.top yn yd ↔ yd * delta y0 a b + (y0 * yd - yn) * sigma a b < 0 := by
  unfold xLt
  rw [← (sign_mul hyd).2, ← delta_rat y0]
  exact ⟨Int.sub_neg_of_lt, Int.lt_of_sub_neg⟩

/-- the convexity step: a quantity that is affine in the height, non-negative at both ends of the beam and positive at one of
them (or zero at the bottom and increasing) is positive strictly inside.  `p`, `q` = distances of the height to the two
scanlines (scaled by `yd`), `h` = height of the beam: `h ·` the value inside is the combination `p · D0 + q · (D0 + h · s)` of
the values at the ends. -/
theorem convex_pos (D0 s h yd p q : Int) (hyd : 0 < yd) (hp : 0 < p) (hq : 0 < q) (hpq : p + q = h * yd)
    (h0 : 0 < D0 ∨ (D0 = 0 ∧ 0 < s)) (h1 : 0 ≤ D0 + h * s) : 0 < yd * D0 + q * s := by
  rcases h0 with h0 | ⟨h0, hs⟩
  · have hh : 0 < h := by
      rcases Int.lt_or_le 0 h with hh | hh
      · exact hh
      · have := Int.mul_nonpos_of_nonpos_of_nonneg hh (Int.le_of_lt hyd); omega
    have e : h * (yd * D0 + q * s) = p * D0 + q * (D0 + h * s) := by
      rw [Int.mul_add, ← Int.mul_assoc, ← hpq]; grind
    have a1 : 0 < p * D0 := Int.mul_pos hp h0
    have a2 : 0 ≤ q * (D0 + h * s) := Int.mul_nonneg (Int.le_of_lt hq) h1
    exact (sign_mul hh).1.1 (by omega)
  · subst h0
    rw [Int.mul_zero, Int.zero_add]
    exact Int.mul_pos hq hs

theorem ltAbove_iff (y : Int) (a b : SEdge) : ltAbove y a b ↔ 0 < delta y a b ∨ (delta y a b = 0 ∧ 0 < sigma a b) := by
  unfold ltAbove; rw [xlt_iff_delta, xeq_iff_delta, slt_iff_sigma]

theorem ltBelow_iff (y : Int) (a b : SEdge) : ltBelow y a b ↔ 0 < delta y a b ∨ (delta y a b = 0 ∧ sigma a b < 0) := by
  unfold ltBelow; rw [xlt_iff_delta, xeq_iff_delta, sgt_iff_sigma]

/-- two edges in the order `a`, `b` just above `y0` that are in the opposite order at `y1 < y0`: `a` is strictly left at `y0`
and turns right relative to `b` -/
theorem reversed_facts {y0 y1 : Int} {a b : SEdge} (hy : y1 < y0) (h0 : ltAbove y0 a b) (h1 : xlt y1 b a) :
    0 < delta y0 a b ∧ sigma a b < 0 ∧ delta y1 a b < 0 := by
  rw [ltAbove_iff] at h0
  rw [xgt_iff_delta, delta_affine y0 y1] at h1
  have hs : sigma a b < 0 := Int.not_le.1 (fun hs => by
    have := Int.mul_nonneg (Int.le_of_lt (Int.sub_pos.2 hy)) hs; omega)
  exact ⟨by omega, hs, delta_affine y0 y1 a b ▸ h1⟩

/-- in the order `a`, `b` just above `y0` and not reversed at `y1 < y0`: in the order `a`, `b` just below `y1` -/
theorem ltBelow_of_not_reversed {y0 y1 : Int} {a b : SEdge} (hy : y1 < y0) (h0 : ltAbove y0 a b) (h1 : ¬ xlt y1 b a) :
    ltBelow y1 a b := by
  rw [ltAbove_iff] at h0
  rw [xgt_iff_delta] at h1
  rw [ltBelow_iff]
  rcases Int.lt_or_le 0 (delta y1 a b) with h | h
  · exact Or.inl h
  · refine Or.inr ⟨by omega, Int.not_le.1 (fun hs => ?_)⟩
    have e := delta_affine y0 y1 a b
    have hh : 0 < y0 - y1 := Int.sub_pos.2 hy
    have := Int.mul_nonneg (Int.le_of_lt hh) hs
    rcases h0 with h0 | ⟨h0, hs'⟩
    · omega
    · have := Int.mul_pos hh hs'; omega

/-- at the height of `b.bot` the scaled distance is the cross product that says on which side of `a`'s line `b.bot` lies -/
theorem delta_at_bot (a b : SEdge) : delta b.bot.y a b = exD b * cross a.bot a.top b.bot := by
  unfold delta; rw [exN_at_bot]
  simp only [exN, exD, cross]; grind

/-- the slope difference against the cross product `IsValidAelOrder` tests -/
theorem sigma_cross (a b : SEdge) :
    (b.bot.y - a.top.y) * sigma a b =
      exD a * (-(cross a.top b.bot b.top)) + cross a.bot a.top b.bot * (b.top.y - b.bot.y) := by
  simp only [sigma, run, exD, cross]; grind

/-- **the cross-product test of `IsValidAelOrder` reads the slope difference**: `b.bot` on the line of the resident `a`, which
continues above it: `cross(a.top, b.bot, b.top)` is negative iff `b` turns right of `a`, positive iff it turns left -/
theorem sigma_sign_of_through {a b : SEdge} (ha : a.Up) (hab : a.top.y < b.bot.y) (hon : cross a.bot a.top b.bot = 0) :
    (0 < sigma a b ↔ cross a.top b.bot b.top < 0) ∧ (sigma a b < 0 ↔ 0 < cross a.top b.bot b.top) := by
  have h := sigma_cross a b
  rw [hon, Int.zero_mul, Int.add_zero] at h
  have s1 := sign_mul (e := sigma a b) (Int.sub_pos.2 hab)
  have s2 := sign_mul (e := -(cross a.top b.bot b.top)) (exD_pos ha)
  rw [h] at s1
  exact ⟨s1.1.symm.trans (s2.1.trans Int.neg_pos), s1.2.symm.trans (s2.2.trans Int.neg_neg_iff_pos)⟩

end Clipper.Lemmas.SweepOrder

/-
Neighbours in a list of points: `LinPairs`/`LinTriples` (all linearly consecutive pairs/triples satisfy a relation) and
their cyclic versions `CycPairs`/`CycTriples`/`CycNoDup` for a ring given as the list of its nodes in `next` order;
how they behave under appending at the end, reversal and rotation by one node, and their readings by index.
Used for the output rings (`Lemmas/CleanUp.lean`, `Lemmas/SplitOp.lean`) and for `TrimCollinear`
(`Lemmas/TrimCorners.lean`).  Core Lean only.
-/
import ClipperVerif.Spec.Basic
namespace Clipper.Lemmas.CleanUp
open Clipper

/-- `Q` holds for every two linearly consecutive elements -/
def LinPairs (Q : Pt → Pt → Prop) : List Pt → Prop
  | a :: b :: rest => Q a b ∧ LinPairs Q (b :: rest)
  | _ => True

/-- `P` holds for every three linearly consecutive elements -/
def LinTriples (P : Pt → Pt → Pt → Prop) : List Pt → Prop
  | a :: b :: c :: rest => P a b c ∧ LinTriples P (b :: c :: rest)
  | _ => True

/-- `Q cur next` for every node of the ring and its cyclic successor (`n` pairs for `n ≥ 1` nodes) -/
def CycPairs (Q : Pt → Pt → Prop) : List Pt → Prop
  | [] => True
  | a :: rest => LinPairs Q (a :: rest ++ [a])

/-- `P prev cur next` for every node of the ring with its cyclic neighbours (`n` triples for `n ≥ 1` nodes):
the linear triples of `last :: ring ++ [first]`. -/
def CycTriples (P : Pt → Pt → Pt → Prop) : List Pt → Prop
  | [] => True
  | a :: rest => LinTriples P ((a :: rest).getLast (List.cons_ne_nil _ _) :: a :: rest ++ [a])

/-- no node of the ring equals its cyclic successor -/
def CycNoDup (r : List Pt) : Prop := CycPairs (fun a b => a ≠ b) r

instance decLinPairs (Q : Pt → Pt → Prop) [DecidableRel Q] : (l : List Pt) → Decidable (LinPairs Q l)
  | [] => isTrue trivial
  | [_] => isTrue trivial
  | a :: b :: rest =>
    have := decLinPairs Q (b :: rest)
    inferInstanceAs (Decidable (Q a b ∧ LinPairs Q (b :: rest)))

instance decLinTriples (P : Pt → Pt → Pt → Prop) [∀ a b c, Decidable (P a b c)] :
    (l : List Pt) → Decidable (LinTriples P l)
  | [] => isTrue trivial
  | [_] => isTrue trivial
  | [_, _] => isTrue trivial
  | a :: b :: c :: rest =>
    have := decLinTriples P (b :: c :: rest)
    inferInstanceAs (Decidable (P a b c ∧ LinTriples P (b :: c :: rest)))

instance (Q : Pt → Pt → Prop) [DecidableRel Q] (l : List Pt) : Decidable (CycPairs Q l) := by
  cases l <;> unfold CycPairs <;> infer_instance
instance (P : Pt → Pt → Pt → Prop) [∀ a b c, Decidable (P a b c)] (l : List Pt) :
    Decidable (CycTriples P l) := by
  cases l <;> unfold CycTriples <;> infer_instance
instance (l : List Pt) : Decidable (CycNoDup l) := by unfold CycNoDup; infer_instance

example : CycNoDup [⟨0,0⟩,⟨5,0⟩,⟨10,0⟩,⟨10,10⟩,⟨0,10⟩] := by decide
example : ¬ CycNoDup [⟨0,0⟩,⟨5,0⟩,⟨10,0⟩,⟨10,10⟩,⟨0,0⟩] := by decide
example : CycTriples (fun a b c => cross a b c ≥ 0) [⟨0,0⟩,⟨5,0⟩,⟨10,0⟩,⟨10,10⟩,⟨0,10⟩] := by decide
example : ¬ CycTriples (fun a b c => cross a b c ≠ 0) [⟨0,0⟩,⟨5,0⟩,⟨10,0⟩,⟨10,10⟩,⟨0,10⟩] := by decide

theorem linTriples_snoc (P : Pt → Pt → Pt → Prop) (x y z : Pt) :
    ∀ l, LinTriples P (l ++ [x, y, z]) ↔ LinTriples P (l ++ [x, y]) ∧ P x y z
  | [] => by simp [LinTriples]
  | [a] => by simp [LinTriples]
  | [a, b] => by simp [LinTriples, and_assoc]
  | a :: b :: c :: rest => by
    have := linTriples_snoc P x y z (b :: c :: rest)
    simp only [List.cons_append, LinTriples] at this ⊢
    rw [this, and_assoc]

theorem linPairs_snoc (Q : Pt → Pt → Prop) (x y : Pt) :
    ∀ l, LinPairs Q (l ++ [x, y]) ↔ LinPairs Q (l ++ [x]) ∧ Q x y
  | [] => by simp [LinPairs]
  | [a] => by simp [LinPairs]
  | a :: b :: rest => by
    have := linPairs_snoc Q x y (b :: rest)
    simp only [List.cons_append, LinPairs] at this ⊢
    rw [this, and_assoc]

theorem linTriples_tail (P : Pt → Pt → Pt → Prop) (a : Pt) (l : List Pt) (h : LinTriples P (a :: l)) :
    LinTriples P l :=
  match l, h with
  | [], _ | [_], _ => trivial
  | _ :: _ :: _, h => h.2

theorem linTriples_append_left (P : Pt → Pt → Pt → Prop) : ∀ l t, LinTriples P (l ++ t) → LinTriples P l
  | [], _, _ | [_], _, _ | [_, _], _, _ => trivial
  | _ :: b :: c :: l, t, h => ⟨h.1, linTriples_append_left P (b :: c :: l) t h.2⟩

theorem linTriples_append_right (P : Pt → Pt → Pt → Prop) (l t : List Pt) (h : LinTriples P (l ++ t)) :
    LinTriples P t := by
  induction l with
  | nil => exact h
  | cons a l ih => exact ih (linTriples_tail P a _ h)

theorem linTriples_reverse (P : Pt → Pt → Pt → Prop) :
    ∀ l, LinTriples P l.reverse ↔ LinTriples (fun a b c => P c b a) l
  | [] => by simp [LinTriples]
  | [a] => by simp [LinTriples]
  | [a, b] => by simp [LinTriples]
  | a :: b :: c :: rest => by
    have ih := linTriples_reverse P (b :: c :: rest)
    have e : (a :: b :: c :: rest).reverse = rest.reverse ++ [c, b, a] := by simp
    have e2 : (b :: c :: rest).reverse = rest.reverse ++ [c, b] := by simp
    rw [e, linTriples_snoc, ← e2, ih]
    simp only [LinTriples]; exact And.comm

theorem linPairs_reverse (Q : Pt → Pt → Prop) :
    ∀ l, LinPairs Q l.reverse ↔ LinPairs (fun a b => Q b a) l
  | [] => by simp [LinPairs]
  | [a] => by simp [LinPairs]
  | a :: b :: rest => by
    have ih := linPairs_reverse Q (b :: rest)
    have e : (a :: b :: rest).reverse = rest.reverse ++ [b, a] := by simp
    have e2 : (b :: rest).reverse = rest.reverse ++ [b] := by simp
    rw [e, linPairs_snoc, ← e2, ih]
    simp only [LinPairs]; exact And.comm

theorem cycTriples_iff (P : Pt → Pt → Pt → Prop) {r : List Pt} (hne : r ≠ []) :
    CycTriples P r ↔ LinTriples P (r.getLast hne :: r ++ [r.head hne]) := by
  cases r with
  | nil => exact absurd rfl hne
  | cons a rest => rfl

theorem cycPairs_iff (Q : Pt → Pt → Prop) {r : List Pt} (hne : r ≠ []) :
    CycPairs Q r ↔ LinPairs Q (r ++ [r.head hne]) := by
  cases r with
  | nil => exact absurd rfl hne
  | cons a rest => rfl

theorem cycTriples_reverse (P : Pt → Pt → Pt → Prop) (r : List Pt) :
    CycTriples P r.reverse ↔ CycTriples (fun a b c => P c b a) r := by
  cases r with
  | nil => simp [CycTriples]
  | cons a rest =>
    have hne : (a :: rest).reverse ≠ [] := by simp
    rw [cycTriples_iff P hne, cycTriples_iff _ (List.cons_ne_nil a rest), ← linTriples_reverse P]
    have h1 : (a :: rest).reverse.getLast hne = a := by simp
    have h2 : (a :: rest).reverse.head hne = (a :: rest).getLast (List.cons_ne_nil _ _) := by
      rw [List.head_reverse]
    rw [h1, h2]; simp

theorem cycPairs_reverse (Q : Pt → Pt → Prop) (r : List Pt) :
    CycPairs Q r.reverse ↔ CycPairs (fun a b => Q b a) r := by
  cases r with
  | nil => simp [CycPairs]
  | cons a rest =>
    rw [cycPairs_iff _ (List.cons_ne_nil a rest), ← linPairs_reverse Q]
    rcases List.eq_nil_or_concat rest with rfl | ⟨rest0, z, rfl⟩
    · simp [CycPairs]
    · have e : (a :: rest0.concat z).reverse = z :: (rest0.reverse ++ [a]) := by simp
      rw [e]
      simp only [CycPairs]
      have e2 : (z :: (rest0.reverse ++ [a]) ++ [z]) = (z :: rest0.reverse) ++ [a, z] := by simp
      rw [e2, linPairs_snoc]
      simp [LinPairs, And.comm]

theorem linTriples_mono {P P' : Pt → Pt → Pt → Prop} (h : ∀ a b c, P a b c → P' a b c) :
    ∀ l, LinTriples P l → LinTriples P' l
  | [] => by simp [LinTriples]
  | [a] => by simp [LinTriples]
  | [a, b] => by simp [LinTriples]
  | a :: b :: c :: rest => by
    simp only [LinTriples]
    exact fun ⟨h1, h2⟩ => ⟨h _ _ _ h1, linTriples_mono h _ h2⟩

theorem linTriples_reverse_of_symm (P : Pt → Pt → Pt → Prop) (hP : ∀ a b c, P a b c → P c b a) (l : List Pt)
    (h : LinTriples P l) : LinTriples P l.reverse :=
  (linTriples_reverse P l).mpr (linTriples_mono hP l h)

theorem cycTriples_mono {P P' : Pt → Pt → Pt → Prop} (h : ∀ a b c, P a b c → P' a b c)
    (l : List Pt) : CycTriples P l → CycTriples P' l := by
  cases l with
  | nil => simp [CycTriples]
  | cons a rest => exact linTriples_mono h _

theorem linPairs_mono {Q Q' : Pt → Pt → Prop} (h : ∀ a b, Q a b → Q' a b) :
    ∀ l, LinPairs Q l → LinPairs Q' l
  | [] => by simp [LinPairs]
  | [a] => by simp [LinPairs]
  | a :: b :: rest => by
    simp only [LinPairs]
    exact fun ⟨h1, h2⟩ => ⟨h _ _ h1, linPairs_mono h _ h2⟩

theorem linTriples_pairs (Q : Pt → Pt → Prop) (x : Pt) :
    ∀ l, LinTriples (fun _ b c => Q b c) (x :: l) ↔ LinPairs Q l
  | [] => by simp [LinTriples, LinPairs]
  | [a] => by simp [LinTriples, LinPairs]
  | a :: b :: rest => by
    simp only [LinTriples, LinPairs]
    rw [linTriples_pairs Q a (b :: rest)]

/-- the cyclic pair predicate is the cyclic triple predicate that ignores `prev` -/
theorem cycPairs_iff_cycTriples (Q : Pt → Pt → Prop) (r : List Pt) :
    CycPairs Q r ↔ CycTriples (fun _ b c => Q b c) r := by
  cases r with
  | nil => simp [CycPairs, CycTriples]
  | cons a rest => simp only [CycPairs, CycTriples, List.cons_append]; rw [linTriples_pairs]

theorem getLast_of_eq_snoc {l m : List Pt} {z : Pt} (h : l ≠ []) (e : l = m ++ [z]) :
    l.getLast h = z := by subst e; simp

theorem rot_swap (Φ : List Pt → Prop) (h1 : ∀ a rest, Φ (a :: rest) → Φ (rest ++ [a])) :
    ∀ u v, Φ (u ++ v) → Φ (v ++ u) := by
  intro u
  induction u with
  | nil => intro v h; simpa using h
  | cons a u ih =>
    intro v h
    have h2 := h1 a (u ++ v) h
    rw [List.append_assoc] at h2
    have h3 := ih (v ++ [a]) h2
    simpa using h3

theorem cycTriples_rot1 (P : Pt → Pt → Pt → Prop) (a : Pt) (rest : List Pt) :
    CycTriples P (a :: rest) → CycTriples P (rest ++ [a]) := by
  rcases List.eq_nil_or_concat rest with rfl | ⟨rest0, z, rfl⟩
  · simp
  · rw [List.concat_eq_append]
    cases rest0 with
    | nil => simp [CycTriples, LinTriples, And.comm]
    | cons b r1 =>
      intro h
      have e : (b :: r1 ++ [z] ++ [a]) = b :: (r1 ++ [z] ++ [a]) := by simp
      rw [e]
      simp only [CycTriples] at h ⊢
      have g1 : (a :: (b :: r1 ++ [z])).getLast (List.cons_ne_nil _ _) = z :=
        getLast_of_eq_snoc (m := a :: b :: r1) _ (by simp)
      have g2 : (b :: (r1 ++ [z] ++ [a])).getLast (List.cons_ne_nil _ _) = a :=
        getLast_of_eq_snoc (m := b :: r1 ++ [z]) _ (by simp)
      rw [g1] at h; rw [g2]
      have e3 : a :: b :: (r1 ++ [z] ++ [a]) ++ [b] = (a :: b :: r1) ++ [z, a, b] := by simp
      have e4 : z :: a :: (b :: r1 ++ [z]) ++ [a] = z :: a :: b :: (r1 ++ [z, a]) := by simp
      rw [e3, linTriples_snoc]; rw [e4] at h
      simp only [LinTriples] at h
      refine ⟨?_, h.1⟩
      have := h.2; simpa using this

theorem cycPairs_rot1 (Q : Pt → Pt → Prop) (a : Pt) (rest : List Pt) :
    CycPairs Q (a :: rest) → CycPairs Q (rest ++ [a]) := by
  rw [cycPairs_iff_cycTriples, cycPairs_iff_cycTriples]; exact cycTriples_rot1 _ a rest

theorem linPairs_append_left (Q : Pt → Pt → Prop) (m : List Pt) :
    ∀ l, LinPairs Q (l ++ m) → LinPairs Q l
  | [] => fun _ => trivial
  | [_] => fun _ => trivial
  | _ :: b :: rest => fun h => ⟨h.1, linPairs_append_left Q m (b :: rest) h.2⟩

theorem cycPairs_mono {Q Q' : Pt → Pt → Prop} (h : ∀ a b, Q a b → Q' a b)
    (l : List Pt) : CycPairs Q l → CycPairs Q' l := by
  cases l with
  | nil => exact id
  | cons a rest => exact linPairs_mono h _

theorem linTriples_iff_getElem (P : Pt → Pt → Pt → Prop) : ∀ l : List Pt,
    LinTriples P l ↔ ∀ i (h : i + 2 < l.length), P (l[i]'(by omega)) (l[i + 1]'(by omega)) (l[i + 2]'h)
  | [] => ⟨fun _ _ h => absurd h (Nat.not_lt_zero _), fun _ => trivial⟩
  | [a] => ⟨fun _ _ h => absurd (Nat.lt_of_succ_lt_succ h) (Nat.not_lt_zero _), fun _ => trivial⟩
  | [a, b] => ⟨fun _ _ h => absurd (Nat.lt_of_succ_lt_succ (Nat.lt_of_succ_lt_succ h)) (Nat.not_lt_zero _),
      fun _ => trivial⟩
  | a :: b :: c :: rest => by
    show P a b c ∧ LinTriples P (b :: c :: rest) ↔ _
    rw [linTriples_iff_getElem P (b :: c :: rest)]
    exact ⟨fun ⟨h1, h2⟩ i hi => match i with
        | 0 => h1
        | j + 1 => h2 j (Nat.lt_of_succ_lt_succ hi),
      fun h => ⟨h 0 (Nat.succ_lt_succ (Nat.succ_lt_succ (Nat.succ_pos _))),
        fun i hi => h (i + 1) (Nat.succ_lt_succ hi)⟩⟩

theorem linPairs_iff_getElem (Q : Pt → Pt → Prop) (l : List Pt) :
    LinPairs Q l ↔ ∀ i (h : i + 1 < l.length), Q (l[i]'(by omega)) (l[i + 1]'h) := by
  rw [← linTriples_pairs Q ⟨0, 0⟩ l, linTriples_iff_getElem]
  exact ⟨fun H i h => H i (Nat.succ_lt_succ h), fun H i h => H i (Nat.lt_of_succ_lt_succ h)⟩

/-- the open chain whose linear triples are the cyclic triples of the ring `a :: rest` -/
abbrev ringExt (a : Pt) (rest : List Pt) : List Pt := (a :: rest).getLast (List.cons_ne_nil _ _) :: a :: rest ++ [a]

theorem ringExt_length (a : Pt) (rest : List Pt) : (ringExt a rest).length = rest.length + 3 := by simp

/-- position `i + 1` of the chain holds node `i` of the ring, position `i` its cyclic predecessor, position `i + 2`
its cyclic successor -/
theorem ringExt_cur (a : Pt) (rest : List Pt) (i : Nat) (h : i < (a :: rest).length) :
    (ringExt a rest)[i + 1]'(by rw [ringExt_length]; exact Nat.succ_lt_succ (Nat.lt_succ_of_lt h)) = (a :: rest)[i] :=
  List.getElem_append_left (as := _ :: a :: rest) (Nat.succ_lt_succ h)

theorem ringExt_prev (a : Pt) (rest : List Pt) (i : Nat) (h : i < (a :: rest).length) :
    (ringExt a rest)[i]'(by rw [ringExt_length]; exact Nat.lt_succ_of_lt (Nat.lt_succ_of_lt h)) =
      (a :: rest)[(i + (a :: rest).length - 1) % (a :: rest).length]'(Nat.mod_lt _ (Nat.succ_pos _)) := by
  refine (List.getElem_append_left (as := _ :: a :: rest) (Nat.lt_succ_of_lt h)).trans ?_
  cases i with
  | zero =>
    simp only [Nat.zero_add, Nat.mod_eq_of_lt (Nat.sub_one_lt (show (a :: rest).length ≠ 0 from Nat.succ_ne_zero _))]
    exact List.getLast_eq_getElem _
  | succ j =>
    simp only [Nat.add_right_comm j 1, Nat.add_sub_cancel, Nat.add_mod_right, Nat.mod_eq_of_lt (Nat.lt_of_succ_lt h)]
    rfl

theorem ringExt_next (a : Pt) (rest : List Pt) (i : Nat) (h : i < (a :: rest).length) :
    (ringExt a rest)[i + 2]'(by rw [ringExt_length]; exact Nat.succ_lt_succ (Nat.succ_lt_succ h)) =
      (a :: rest)[(i + 1) % (a :: rest).length]'(Nat.mod_lt _ (Nat.succ_pos _)) := by
  rw [List.getElem_append]
  split
  · rename_i h1
    simp only [Nat.mod_eq_of_lt (Nat.lt_of_succ_lt_succ h1)]
    rfl
  · rename_i h1
    have e : i + 1 = (a :: rest).length := Nat.le_antisymm h (Nat.not_lt.mp fun h' => h1 (Nat.succ_lt_succ h'))
    simp [e]

theorem cycTriples_iff_getElem (P : Pt → Pt → Pt → Prop) (r : List Pt) :
    CycTriples P r ↔ ∀ i (h : i < r.length),
      P (r[(i + r.length - 1) % r.length]'(Nat.mod_lt _ (by omega))) r[i]
        (r[(i + 1) % r.length]'(Nat.mod_lt _ (by omega))) := by
  cases r with
  | nil => exact ⟨fun _ _ h => absurd h (Nat.not_lt_zero _), fun _ => trivial⟩
  | cons a rest =>
    show LinTriples P (ringExt a rest) ↔ _
    rw [linTriples_iff_getElem]
    have key := fun i (hi : i < (a :: rest).length) =>
      congr (congr (congrArg P (ringExt_prev a rest i hi)) (ringExt_cur a rest i hi)) (ringExt_next a rest i hi)
    exact ⟨fun H i h => (key i h).mp (H i (by rw [ringExt_length]; exact Nat.succ_lt_succ (Nat.succ_lt_succ h))),
      fun H i h => (key i (by rw [ringExt_length] at h; exact Nat.lt_of_succ_lt_succ (Nat.lt_of_succ_lt_succ h))).mpr (H i _)⟩

theorem cycPairs_iff_getElem (Q : Pt → Pt → Prop) (r : List Pt) :
    CycPairs Q r ↔ ∀ i (h : i < r.length),
      Q r[i] (r[(i + 1) % r.length]'(Nat.mod_lt _ (by omega))) := by
  rw [cycPairs_iff_cycTriples, cycTriples_iff_getElem]

theorem cycNoDup_iff_getElem (r : List Pt) :
    CycNoDup r ↔ ∀ i (h : i < r.length), r[i] ≠ r[(i + 1) % r.length]'(Nat.mod_lt _ (by omega)) :=
  cycPairs_iff_getElem _ r

end Clipper.Lemmas.CleanUp

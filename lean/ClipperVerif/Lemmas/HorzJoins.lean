/-
Helper lemmas for `Props/C02Horz.lean`: the heap of `Model/HorzJoins.lean` read as a link structure (`nextOf`, `prevOf`), the
decomposition of a heap into rings (`Rings`), surgery on some of the rings (`Rings.replace`), and what `DuplicateOp` and the
`while` walks do.  Core Lean only.
-/
import ClipperVerif.Model.HorzJoins
import ClipperVerif.Lemmas.HorzJoinsRing
namespace Clipper.Model.HorzJoins
open Clipper

def nextOf (H : Heap) : PF := fun i => (H.ops[i]?).map (·.next)
def prevOf (H : Heap) : PF := fun i => (H.ops[i]?).map (·.prev)
def orecOf (H : Heap) : PF := fun i => (H.ops[i]?).map (·.orec)
def ptOf (H : Heap) (i : Nat) : Option Pt := (H.ops[i]?).map (·.pt)

theorem node_ok {H : Heap} {i : Nat} {n : Node} : H.node i = .ok n ↔ H.ops[i]? = some n := by
  unfold Heap.node; cases H.ops[i]? <;> simp

theorem orec_ok {H : Heap} {i : Nat} {r : ORec} : H.orec i = .ok r ↔ H.recs[i]? = some r := by
  unfold Heap.orec; cases H.recs[i]? <;> simp

theorem bind_ok {α β : Type} {x : R α} {f : α → R β} {b : β} : (x >>= f) = .ok b ↔ ∃ a, x = .ok a ∧ f a = .ok b := by
  cases x <;> simp [bind, Except.bind]

/-- fields that survive the forgetful map `e` agree where the images under `e` agree -/
theorem map_forget {α β γ : Type} {a b : Option α} {e : α → β} (h : a.map e = b.map e) (g : β → γ) :
    a.map (fun r => g (e r)) = b.map (fun r => g (e r)) := by
  have := congrArg (Option.map g) h
  rwa [Option.map_map, Option.map_map] at this

theorem node_of_lt {H : Heap} {i : Nat} (h : i < H.ops.size) : ∃ n, H.ops[i]? = some n :=
  ⟨H.ops[i], by simp [h]⟩

theorem lt_of_node {H : Heap} {i : Nat} {n : Node} (h : H.ops[i]? = some n) : i < H.ops.size :=
  (Array.getElem?_eq_some_iff.1 h).1

theorem nextOf_some {H : Heap} {i b : Nat} : nextOf H i = some b ↔ ∃ n, H.ops[i]? = some n ∧ n.next = b := by
  unfold nextOf; cases H.ops[i]? <;> simp

theorem prevOf_some {H : Heap} {i b : Nat} : prevOf H i = some b ↔ ∃ n, H.ops[i]? = some n ∧ n.prev = b := by
  unfold prevOf; cases H.ops[i]? <;> simp

theorem ptOf_some {H : Heap} {i : Nat} {p : Pt} : ptOf H i = some p ↔ ∃ n, H.ops[i]? = some n ∧ n.pt = p := by
  unfold ptOf; cases H.ops[i]? <;> simp

theorem orecOf_some {H : Heap} {i b : Nat} : orecOf H i = some b ↔ ∃ n, H.ops[i]? = some n ∧ n.orec = b := by
  unfold orecOf; cases H.ops[i]? <;> simp

theorem updNode_ok {H H' : Heap} {i : Nat} {f : Node → Node} (h : H.updNode i f = .ok H') :
    i < H.ops.size ∧ H'.recs = H.recs ∧ H'.ops.size = H.ops.size ∧
    ∀ j, H'.ops[j]? = if j = i then (H.ops[j]?).map f else H.ops[j]? := by
  unfold Heap.updNode at h
  split at h
  · rename_i hi
    cases h
    refine ⟨hi, rfl, by simp, ?_⟩
    intro j
    simp only [Array.getElem?_modify]
    by_cases hj : j = i
    · subst hj; simp
    · simp [hj, Ne.symm hj]
  · cases h

theorem updNode_of_lt (H : Heap) {i : Nat} (f : Node → Node) (hi : i < H.ops.size) :
    ∃ H', H.updNode i f = .ok H' := by
  unfold Heap.updNode; simp [hi]

theorem updRec_ok {H H' : Heap} {i : Nat} {f : ORec → ORec} (h : H.updRec i f = .ok H') :
    i < H.recs.size ∧ H'.ops = H.ops ∧ H'.recs.size = H.recs.size ∧
    ∀ j, H'.recs[j]? = if j = i then (H.recs[j]?).map f else H.recs[j]? := by
  unfold Heap.updRec at h
  split at h
  · rename_i hi
    cases h
    refine ⟨hi, rfl, by simp, ?_⟩
    intro j
    simp only [Array.getElem?_modify]
    by_cases hj : j = i
    · subst hj; simp
    · simp [hj, Ne.symm hj]
  · cases h

theorem rec_of_lt {H : Heap} {i : Nat} (h : i < H.recs.size) : ∃ rc, H.recs[i]? = some rc :=
  ⟨H.recs[i], by simp [h]⟩

theorem lt_of_rec {H : Heap} {i : Nat} {rc : ORec} (h : H.recs[i]? = some rc) : i < H.recs.size :=
  (Array.getElem?_eq_some_iff.1 h).1

theorem updRec_of_lt (H : Heap) {i : Nat} (f : ORec → ORec) (hi : i < H.recs.size) :
    ∃ H', H.updRec i f = .ok H' := by
  unfold Heap.updRec; simp [hi]

theorem updNode_keep {H H' : Heap} {i : Nat} {f : Node → Node} (h : H.updNode i f = .ok H') {α : Type} (g : Node → α)
    (hg : ∀ n, g (f n) = g n) : (fun j : Nat => (H'.ops[j]?).map g) = fun j => (H.ops[j]?).map g := by
  funext j
  rw [(updNode_ok h).2.2.2 j]
  split
  · rw [Option.map_map]; exact congrArg (fun k => (H.ops[j]?).map k) (funext hg)
  · rfl

theorem updRec_keep {H H' : Heap} {i : Nat} {f : ORec → ORec} (h : H.updRec i f = .ok H') {α : Type} (g : ORec → α)
    (hg : ∀ r, g (f r) = g r) (k : Nat) : (H'.recs[k]?).map g = (H.recs[k]?).map g := by
  rw [(updRec_ok h).2.2.2 k]
  split
  · rw [Option.map_map]; exact congrArg (fun m => (H.recs[k]?).map m) (funext hg)
  · rfl

theorem updNode_set {H H' : Heap} {i : Nat} {f : Node → Node} (h : H.updNode i f = .ok H') (g : Node → Nat) (v : Nat)
    (hg : ∀ n, g (f n) = v) : (fun j : Nat => (H'.ops[j]?).map g) = upd (fun j => (H.ops[j]?).map g) i v := by
  obtain ⟨hi, _, _, hget⟩ := updNode_ok h
  obtain ⟨n, hn⟩ := node_of_lt hi
  funext j
  rw [hget j]
  by_cases hj : j = i
  · subst hj; rw [if_pos rfl, upd_same, hn]; exact congrArg some (hg n)
  · rw [if_neg hj, upd_ne _ _ hj]

theorem upd_next_eqs {H H' : Heap} {i v : Nat} (h : H.updNode i (fun x => { x with next := v }) = .ok H') :
    nextOf H' = upd (nextOf H) i v ∧ prevOf H' = prevOf H ∧ orecOf H' = orecOf H ∧ ptOf H' = ptOf H ∧
    H'.recs = H.recs ∧ H'.ops.size = H.ops.size :=
  ⟨updNode_set h (·.next) v fun _ => rfl, updNode_keep h (·.prev) fun _ => rfl, updNode_keep h (·.orec) fun _ => rfl,
    updNode_keep h (·.pt) fun _ => rfl, (updNode_ok h).2.1, (updNode_ok h).2.2.1⟩

theorem upd_prev_eqs {H H' : Heap} {i v : Nat} (h : H.updNode i (fun x => { x with prev := v }) = .ok H') :
    nextOf H' = nextOf H ∧ prevOf H' = upd (prevOf H) i v ∧ orecOf H' = orecOf H ∧ ptOf H' = ptOf H ∧
    H'.recs = H.recs ∧ H'.ops.size = H.ops.size :=
  ⟨updNode_keep h (·.next) fun _ => rfl, updNode_set h (·.prev) v fun _ => rfl, updNode_keep h (·.orec) fun _ => rfl,
    updNode_keep h (·.pt) fun _ => rfl, (updNode_ok h).2.1, (updNode_ok h).2.2.1⟩

theorem upd_orec_eqs {H H' : Heap} {i v : Nat} (h : H.updNode i (fun x => { x with orec := v }) = .ok H') :
    nextOf H' = nextOf H ∧ prevOf H' = prevOf H ∧ orecOf H' = upd (orecOf H) i v ∧ ptOf H' = ptOf H ∧
    H'.recs = H.recs ∧ H'.ops.size = H.ops.size :=
  ⟨updNode_keep h (·.next) fun _ => rfl, updNode_keep h (·.prev) fun _ => rfl, updNode_set h (·.orec) v fun _ => rfl,
    updNode_keep h (·.pt) fun _ => rfl, (updNode_ok h).2.1, (updNode_ok h).2.2.1⟩

theorem upd_horz_eqs {H H' : Heap} {i : Nat} {v : Bool} (h : H.updNode i (fun x => { x with horz := v }) = .ok H') :
    nextOf H' = nextOf H ∧ prevOf H' = prevOf H ∧ orecOf H' = orecOf H ∧ ptOf H' = ptOf H ∧
    H'.recs = H.recs ∧ H'.ops.size = H.ops.size :=
  ⟨updNode_keep h (·.next) fun _ => rfl, updNode_keep h (·.prev) fun _ => rfl, updNode_keep h (·.orec) fun _ => rfl,
    updNode_keep h (·.pt) fun _ => rfl, (updNode_ok h).2.1, (updNode_ok h).2.2.1⟩

/-- `new OutPt(pt, outrec)` with its links already set -/
theorem push_eqs (H : Heap) (nd : Node) :
    nextOf { H with ops := H.ops.push nd } = upd (nextOf H) H.ops.size nd.next ∧
    prevOf { H with ops := H.ops.push nd } = upd (prevOf H) H.ops.size nd.prev ∧
    orecOf { H with ops := H.ops.push nd } = upd (orecOf H) H.ops.size nd.orec ∧
    ptOf { H with ops := H.ops.push nd } = (fun j => if j = H.ops.size then some nd.pt else ptOf H j) := by
  refine ⟨?_, ?_, ?_, ?_⟩ <;> funext j <;> simp only [nextOf, prevOf, orecOf, ptOf, upd, Array.getElem?_push] <;>
    by_cases hj : j = H.ops.size <;> simp [hj]

/-- `rs` lists the rings of the heap: every `OutPt` is on exactly one of them -/
structure Rings (H : Heap) (rs : List (List Nat)) : Prop where
  ring : ∀ c ∈ rs, IsRingF (nextOf H) (prevOf H) c
  perm : rs.flatten.Perm (List.range H.ops.size)

theorem Rings.mem_lt {H : Heap} {rs : List (List Nat)} (R : Rings H rs) {c : List Nat} (hc : c ∈ rs) {i : Nat} (hi : i ∈ c) :
    i < H.ops.size :=
  List.mem_range.1 (R.perm.mem_iff.1 (List.mem_flatten.2 ⟨c, hc, hi⟩))

theorem Rings.exists_ring {H : Heap} {rs : List (List Nat)} (R : Rings H rs) {i : Nat} (hi : i < H.ops.size) :
    ∃ c ∈ rs, i ∈ c :=
  List.mem_flatten.1 (R.perm.mem_iff.2 (List.mem_range.2 hi))

theorem Rings.nodup {H : Heap} {rs : List (List Nat)} (R : Rings H rs) : rs.flatten.Nodup :=
  (R.perm.nodup_iff).2 List.nodup_range

theorem next_eq {H : Heap} {i b : Nat} {n : Node} (hn : H.ops[i]? = some n) (h : nextOf H i = some b) : n.next = b := by
  rw [nextOf, hn] at h; exact Option.some.inj h

theorem prev_eq {H : Heap} {i b : Nat} {n : Node} (hn : H.ops[i]? = some n) (h : prevOf H i = some b) : n.prev = b := by
  rw [prevOf, hn] at h; exact Option.some.inj h

theorem Rings.link_next {H : Heap} {rs : List (List Nat)} (R : Rings H rs) {c : List Nat} (hc : c ∈ rs) {i : Nat} (hi : i ∈ c)
    {n : Node} (hn : H.ops[i]? = some n) : n.next ∈ c ∧ LinkF (nextOf H) (prevOf H) i n.next := by
  obtain ⟨b, hb, hl⟩ := (R.ring c hc).next_mem hi
  rw [next_eq hn hl.1]; exact ⟨hb, hl⟩

theorem Rings.link_prev {H : Heap} {rs : List (List Nat)} (R : Rings H rs) {c : List Nat} (hc : c ∈ rs) {i : Nat} (hi : i ∈ c)
    {n : Node} (hn : H.ops[i]? = some n) : n.prev ∈ c ∧ LinkF (nextOf H) (prevOf H) n.prev i := by
  obtain ⟨b, hb, hl⟩ := (R.ring c hc).prev_mem hi
  rw [prev_eq hn hl.2]; exact ⟨hb, hl⟩

theorem Rings.perm' {H : Heap} {rs rs' : List (List Nat)} (R : Rings H rs) (h : rs.Perm rs') : Rings H rs' :=
  ⟨fun c hc => R.ring c (h.mem_iff.2 hc), (h.symm.flatten).trans R.perm⟩

theorem perm_replace {A B : List (List Nat)} {c c' : List Nat} (h : c'.Perm c) :
    (A ++ c' :: B).flatten.Perm (A ++ c :: B).flatten := by
  simp only [List.flatten_append, List.flatten_cons]
  exact (h.append_right _).append_left _

theorem mem_mid {A B : List (List Nat)} {c x : List Nat} : x ∈ A ++ c :: B ↔ x = c ∨ x ∈ A ++ B :=
  List.perm_middle.mem_iff.trans List.mem_cons

theorem range_succ_perm (n : Nat) : (List.range (n + 1)).Perm (n :: List.range n) := by
  rw [List.range_succ]
  exact List.perm_append_singleton n (List.range n)

/-- **surgery on rings**: the rings `cs` at the head of the listing are replaced by rings `cs'` on the same nodes and the
newly allocated nodes `extra`; no `next` or `prev` outside `cs` is written.  (`DuplicateOp`: one ring gains a node; the
surgery of `ProcessHorzJoins`: one ring falls into two, or two become one.) -/
theorem Rings.replace {H H' : Heap} {cs cs' rest : List (List Nat)} {extra : List Nat} (R : Rings H (cs ++ rest))
    (hnew : ∀ c ∈ cs', IsRingF (nextOf H') (prevOf H') c)
    (hperm : cs'.flatten.Perm (extra ++ cs.flatten))
    (hsz : (List.range H'.ops.size).Perm (extra ++ List.range H.ops.size))
    (hn : ∀ a, a < H.ops.size → a ∉ cs.flatten → nextOf H' a = nextOf H a)
    (hp : ∀ a, a < H.ops.size → a ∉ cs.flatten → prevOf H' a = prevOf H a) :
    Rings H' (cs' ++ rest) := by
  have hpm := R.perm
  rw [List.flatten_append] at hpm
  have dis := (List.nodup_append.1 ((hpm.nodup_iff).2 List.nodup_range)).2.2
  refine ⟨fun c hc => ?_, ?_⟩
  · rcases List.mem_append.1 hc with hc | hc
    · exact hnew c hc
    · have hc' := List.mem_append_right cs hc
      have hout : ∀ a ∈ c, a ∉ cs.flatten := fun a ha hm => dis a hm a (List.mem_flatten.2 ⟨c, hc, ha⟩) rfl
      exact isRingF_congr (R.ring c hc') (fun a ha => hn a (R.mem_lt hc' ha) (hout a ha))
        (fun a ha => hp a (R.mem_lt hc' ha) (hout a ha))
  · rw [List.flatten_append]
    refine ((hperm.append_right _).trans ?_).trans hsz.symm
    rw [List.append_assoc]
    exact hpm.append_left extra

/-- the three writes of `DuplicateOp(op, true)` — the new node, `op->next->prev`, `op->next` — as updates of the four maps -/
theorem duplicateOp_after_eqs {H : Heap} {op : Nat} {n : Node} (hn : H.ops[op]? = some n) (hs : n.next < H.ops.size) :
    ∃ H', duplicateOp H op true = .ok (H', H.ops.size) ∧
      nextOf H' = upd (upd (nextOf H) H.ops.size n.next) op H.ops.size ∧
      prevOf H' = upd (upd (prevOf H) H.ops.size op) n.next H.ops.size ∧
      orecOf H' = upd (orecOf H) H.ops.size n.orec ∧
      ptOf H' = (fun j => if j = H.ops.size then some n.pt else ptOf H j) ∧
      H'.recs = H.recs ∧ H'.ops.size = H.ops.size + 1 := by
  have hop := lt_of_node hn
  obtain ⟨e1, e2, e3, e4⟩ := push_eqs H { pt := n.pt, next := n.next, prev := op, orec := n.orec, horz := false }
  obtain ⟨H2, h2⟩ := updNode_of_lt { H with ops := H.ops.push { pt := n.pt, next := n.next, prev := op, orec := n.orec, horz := false } }
    (fun x => { x with prev := H.ops.size }) (i := n.next) (by simp; omega)
  obtain ⟨f1, f2, f3, f4, f5, f6⟩ := upd_prev_eqs h2
  obtain ⟨H3, h3⟩ := updNode_of_lt H2 (fun x => { x with next := H.ops.size }) (i := op) (by rw [f6]; simp; omega)
  obtain ⟨g1, g2, g3, g4, g5, g6⟩ := upd_next_eqs h3
  refine ⟨H3, ?_, by rw [g1, f1, e1], by rw [g2, f2, e2], by rw [g3, f3, e3], by rw [g4, f4, e4], by rw [g5, f5],
    by rw [g6, f6]; simp⟩
  simp only [duplicateOp, node_ok.2 hn, if_true, h2, h3]

/-- the mirror image for `DuplicateOp(op, false)`: the new node, `op->prev->next`, `op->prev` -/
theorem duplicateOp_before_eqs {H : Heap} {op : Nat} {n : Node} (hn : H.ops[op]? = some n) (hs : n.prev < H.ops.size) :
    ∃ H', duplicateOp H op false = .ok (H', H.ops.size) ∧
      nextOf H' = upd (upd (nextOf H) H.ops.size op) n.prev H.ops.size ∧
      prevOf H' = upd (upd (prevOf H) H.ops.size n.prev) op H.ops.size ∧
      orecOf H' = upd (orecOf H) H.ops.size n.orec ∧
      ptOf H' = (fun j => if j = H.ops.size then some n.pt else ptOf H j) ∧
      H'.recs = H.recs ∧ H'.ops.size = H.ops.size + 1 := by
  have hop := lt_of_node hn
  obtain ⟨e1, e2, e3, e4⟩ := push_eqs H { pt := n.pt, next := op, prev := n.prev, orec := n.orec, horz := false }
  obtain ⟨H2, h2⟩ := updNode_of_lt { H with ops := H.ops.push { pt := n.pt, next := op, prev := n.prev, orec := n.orec, horz := false } }
    (fun x => { x with next := H.ops.size }) (i := n.prev) (by simp; omega)
  obtain ⟨f1, f2, f3, f4, f5, f6⟩ := upd_next_eqs h2
  obtain ⟨H3, h3⟩ := updNode_of_lt H2 (fun x => { x with prev := H.ops.size }) (i := op) (by rw [f6]; simp; omega)
  obtain ⟨g1, g2, g3, g4, g5, g6⟩ := upd_prev_eqs h3
  refine ⟨H3, ?_, by rw [g1, f1, e1], by rw [g2, f2, e2], by rw [g3, f3, e3], by rw [g4, f4, e4], by rw [g5, f5],
    by rw [g6, f6]; simp⟩
  simp only [duplicateOp, node_ok.2 hn, Bool.false_eq_true, if_false, h2, h3]

/-- **`DuplicateOp(op, true)` on a heap of rings**: it succeeds, the new `OutPt` is the next free index, the ring of `op`
gains the new node right behind `op`, every other ring is untouched, and the new node carries `op`'s point and record. -/
theorem duplicateOp_after_rings {H : Heap} {A B : List (List Nat)} {pre post : List Nat} {op : Nat}
    (R : Rings H (A ++ (pre ++ op :: post) :: B)) :
    ∃ H' n, H.ops[op]? = some n ∧ duplicateOp H op true = .ok (H', H.ops.size) ∧
      Rings H' (A ++ (pre ++ op :: H.ops.size :: post) :: B) ∧
      ptOf H' = (fun j => if j = H.ops.size then some n.pt else ptOf H j) ∧
      orecOf H' = upd (orecOf H) H.ops.size n.orec ∧ H'.recs = H.recs ∧ H'.ops.size = H.ops.size + 1 := by
  have R0 : Rings H ([pre ++ op :: post] ++ (A ++ B)) := R.perm' List.perm_middle
  have hc : (pre ++ op :: post) ∈ [pre ++ op :: post] ++ (A ++ B) := List.mem_cons_self
  have hopc : op ∈ pre ++ op :: post := List.mem_append_right _ List.mem_cons_self
  obtain ⟨n, hn⟩ := node_of_lt (R0.mem_lt hc hopc)
  obtain ⟨hsc, hl⟩ := R0.link_next hc hopc hn
  obtain ⟨H', hd, e1, e2, e3, e4, e5, e6⟩ := duplicateOp_after_eqs hn (R0.mem_lt hc hsc)
  have hout : ∀ a, a ∉ [pre ++ op :: post].flatten → ∀ b ∈ pre ++ op :: post, a ≠ b :=
    fun a ha b hb e => ha (by rw [List.flatten_singleton, e]; exact hb)
  refine ⟨H', n, hn, hd, (Rings.replace (cs' := [pre ++ op :: H.ops.size :: post]) (extra := [H.ops.size]) R0 ?_ ?_
    (by rw [e6]; exact range_succ_perm _) ?_ ?_).perm' (List.perm_middle (l₁ := A)).symm, e4, e3, e5, e6⟩
  · intro c hc'
    obtain rfl := List.mem_singleton.1 hc'
    rw [e1, e2]
    exact isRingF_rot (op :: H.ops.size :: post) pre
      (ring_insert_after (isRingF_rot pre (op :: post) (R0.ring _ hc)) hl.1 fun hm =>
        Nat.lt_irrefl _ (R0.mem_lt hc ((List.perm_append_comm (l₁ := pre)).mem_iff.2 hm)))
  · rw [List.flatten_singleton, List.flatten_singleton]
    simpa using List.perm_middle (a := H.ops.size) (l₁ := pre ++ [op]) (l₂ := post)
  · intro a hlt ha
    rw [e1, upd_ne _ _ (hout a ha op hopc), upd_ne _ _ (Nat.ne_of_lt hlt)]
  · intro a hlt ha
    rw [e2, upd_ne _ _ (hout a ha _ hsc), upd_ne _ _ (Nat.ne_of_lt hlt)]

/-- **`DuplicateOp(op, false)` on a heap of rings**: the new node sits right in front of `op`. -/
theorem duplicateOp_before_rings {H : Heap} {A B : List (List Nat)} {pre post : List Nat} {op : Nat}
    (R : Rings H (A ++ (pre ++ op :: post) :: B)) :
    ∃ H' n, H.ops[op]? = some n ∧ duplicateOp H op false = .ok (H', H.ops.size) ∧
      Rings H' (A ++ (pre ++ H.ops.size :: op :: post) :: B) ∧
      ptOf H' = (fun j => if j = H.ops.size then some n.pt else ptOf H j) ∧
      orecOf H' = upd (orecOf H) H.ops.size n.orec ∧ H'.recs = H.recs ∧ H'.ops.size = H.ops.size + 1 := by
  have R0 : Rings H ([pre ++ op :: post] ++ (A ++ B)) := R.perm' List.perm_middle
  have hc : (pre ++ op :: post) ∈ [pre ++ op :: post] ++ (A ++ B) := List.mem_cons_self
  have hopc : op ∈ pre ++ op :: post := List.mem_append_right _ List.mem_cons_self
  obtain ⟨n, hn⟩ := node_of_lt (R0.mem_lt hc hopc)
  obtain ⟨hpc, hl⟩ := R0.link_prev hc hopc hn
  obtain ⟨H', hd, e1, e2, e3, e4, e5, e6⟩ := duplicateOp_before_eqs hn (R0.mem_lt hc hpc)
  have hout : ∀ a, a ∉ [pre ++ op :: post].flatten → ∀ b ∈ pre ++ op :: post, a ≠ b :=
    fun a ha b hb e => ha (by rw [List.flatten_singleton, e]; exact hb)
  refine ⟨H', n, hn, hd, (Rings.replace (cs' := [pre ++ H.ops.size :: op :: post]) (extra := [H.ops.size]) R0 ?_ ?_
    (by rw [e6]; exact range_succ_perm _) ?_ ?_).perm' (List.perm_middle (l₁ := A)).symm, e4, e3, e5, e6⟩
  · intro c hc'
    obtain rfl := List.mem_singleton.1 hc'
    rw [e1, e2]
    have hr := ring_insert_before (isRingF_rot pre (op :: post) (R0.ring _ hc)) hl.2 fun hm =>
      Nat.lt_irrefl _ (R0.mem_lt hc ((List.perm_append_comm (l₁ := pre)).mem_iff.2 hm))
    -- `op :: (post ++ pre) ++ [new]`  ↦  `pre ++ new :: op :: post`
    simpa using isRingF_rot (op :: post) (pre ++ [H.ops.size]) (by simpa using hr)
  · rw [List.flatten_singleton, List.flatten_singleton]
    exact List.perm_middle
  · intro a hlt ha
    rw [e1, upd_ne _ _ (hout a ha _ hpc), upd_ne _ _ (Nat.ne_of_lt hlt)]
  · intro a hlt ha
    rw [e2, upd_ne _ _ (hout a ha op hopc), upd_ne _ _ (Nat.ne_of_lt hlt)]

theorem stepOp_fwd {H : Heap} {a b : Nat} : stepOp H true a = .ok b ↔ nextOf H a = some b := by
  unfold stepOp Heap.node nextOf; cases H.ops[a]? <;> simp

theorem stepOp_bwd {H : Heap} {a b : Nat} : stepOp H false a = .ok b ↔ prevOf H a = some b := by
  unfold stepOp Heap.node prevOf; cases H.ops[a]? <;> simp

theorem steps_of_chain_fwd {H : Heap} {l : List Nat} (h : ChainF (nextOf H) (prevOf H) l) :
    ChainR (fun a b => stepOp H true a = .ok b) l := by
  rw [chainF_eq_chainR] at h
  exact chainR_mono _ (fun _ _ _ _ hl => stepOp_fwd.2 hl.1) h

theorem steps_of_chain_bwd {H : Heap} {l : List Nat} (h : ChainF (nextOf H) (prevOf H) l) :
    ChainR (fun a b => stepOp H false a = .ok b) l.reverse := by
  rw [chainF_eq_chainR] at h
  exact chainR_mono _ (fun _ _ _ _ hl => stepOp_bwd.2 hl.2) (chainR_reverse l h)

/-- one test of a `while (!pre(cur) && cond(next)) cur = next;` walk whose next node exists -/
theorem walk_succ (H : Heap) (d : Bool) (pre : Nat → Bool) (cond : Nat → Node → Bool) (f cur nx : Nat) (nn : Node)
    (hs : stepOp H d cur = .ok nx) (hn : H.node nx = .ok nn) :
    walk H d pre cond (f + 1) cur = if (!pre cur && cond nx nn) then walk H d pre cond f nx else .ok cur := by
  cases hp : pre cur <;> simp [walk, hs, hn, hp]

/-- **the walk lemma**: let `cur :: l` be a path of `->next` (resp. `->prev`) steps on which the test of the current node (`pre`)
fails before the last node and the loop condition at a node `v` of `l` is `q v`.  If the loop stops on the path at all (some
node of `l` fails `q`, or the last node passes `pre`), it stops at the end of the longest initial stretch of `l` satisfying `q`. -/
theorem walk_takeWhile {H : Heap} {fwd : Bool} {pre : Nat → Bool} {cond : Nat → Node → Bool} (q : Nat → Bool) :
    ∀ (l : List Nat) (cur fuel : Nat), ChainR (fun a b => stepOp H fwd a = .ok b) (cur :: l) →
      (∀ v ∈ l, ∃ nv, H.ops[v]? = some nv ∧ cond v nv = q v) → (∀ u ∈ (cur :: l).dropLast, pre u = false) →
      ((∃ x ∈ l, q x = false) ∨ ∃ z, (cur :: l).getLast? = some z ∧ pre z = true) → l.length + 1 ≤ fuel →
      walk H fwd pre cond fuel cur = .ok ((l.takeWhile q).getLastD cur)
  | [], cur, fuel, _, _, _, hstop, hf => by
    obtain ⟨f, rfl⟩ : ∃ f, fuel = f + 1 := ⟨fuel - 1, by simp at hf; omega⟩
    have hp : pre cur = true := by
      rcases hstop with ⟨x, hx, _⟩ | ⟨z, hz, hp⟩
      · cases hx
      · cases hz; exact hp
    simp [walk, hp]
  | v :: l, cur, fuel, hst, hv, hpre, hstop, hf => by
    obtain ⟨f, rfl⟩ : ∃ f, fuel = f + 1 := ⟨fuel - 1, by simp at hf; omega⟩
    have hp : pre cur = false := hpre cur (by simp)
    obtain ⟨nv, hnv, hc⟩ := hv v List.mem_cons_self
    rw [walk_succ H fwd pre cond f cur v nv hst.1 (node_ok.2 hnv), hp, hc]
    cases hq : q v with
    | false => simp [hq]
    | true =>
      have ih := walk_takeWhile q l v f hst.2 (fun w hw => hv w (List.mem_cons_of_mem _ hw))
        (fun u hu => hpre u (by rw [List.dropLast_cons_cons]; exact List.mem_cons_of_mem _ hu))
        (hstop.imp (fun ⟨x, hx, hqx⟩ => ⟨x, (List.mem_cons.1 hx).resolve_left (fun e => by rw [e, hq] at hqx; cases hqx), hqx⟩)
          (fun ⟨z, hz, hpz⟩ => ⟨z, by rwa [List.getLast?_cons_cons] at hz, hpz⟩))
        (by simp at hf ⊢; omega)
      rw [List.takeWhile_cons_of_pos hq, List.getLastD_cons, ← ih]
      rfl

theorem Rings.ring_length_le {H : Heap} {rs : List (List Nat)} (R : Rings H rs) {c : List Nat} (hc : c ∈ rs) :
    c.length ≤ H.ops.size :=
  nodup_length_le _ c (R.ring c hc).nodup (fun _ hx => R.mem_lt hc hx)

end Clipper.Model.HorzJoins

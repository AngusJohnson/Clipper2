/-
Lemmas about the Z layer of the open-path assembly model (`Model/AelOpenRingsZ.lean`; theorems: `Props/C15OpenRings.lean`).
The primitives are those of `Model/AelRingsZ.lean`, so the primitive-level facts of `Lemmas/AelRingsZ.lean` are reused; new here: a relation
that every pair of twin primitives preserves is preserved by every event of the open layer (`rel_openStepZ`, by cases on `OpenStep`: in each case the Z twin
evaluates to the matching Z primitives), the shared callback counter, and `BuildPath64` with z.
-/
import ClipperVerif.Model.AelOpenRingsZ
import ClipperVerif.Lemmas.AelRingsZ
import ClipperVerif.Lemmas.AelOpenRings
namespace Clipper.Model
open Clipper.Model.ZFill

/-- is the event an `IntersectEdges` call -/
def ZOOp.isX : ZOOp → Bool
  | .ev op => op.isX
  | .locMinX _ _ _ _ => true
  | _ => false

/-- the `bot/top` of the two edges of an `IntersectEdges` event -/
def ZOOp.ends : ZOOp → ZEnds
  | .ev op => op.ends
  | .locMinX _ _ e _ => e
  | _ => ZEnds.none

theorem isX_toZOp (op : ZOOp) : op.toZOp.isX = op.isX := by cases op <;> rfl
theorem ends_toZOp (op : ZOOp) : op.toZOp.ends = op.ends := by cases op <;> rfl

/-- the closed layer sees the same event of `Model.outStep` whether z is forgotten before or after `toZOp` -/
theorem outStep_erase_eq (cfg : Cfg) (s : SState) (o : Out) (op : ZOOp) : outStep cfg s o op.erase.erase = outStep cfg s o op.toZOp.erase := by
  cases op <;> rfl

section relO
variable {cfg : Cfg} {zc : ZCfg} {S : Bool} {ends : ZEnds} {pt : PtZ} {R : ZOut → Out → Prop} {x x' : OX} {zo : ZOut} {i io : Nat} {lm : Option (Option Nat)}
  {l : List SEdge} {eo ec : SEdge} {oo oo' : Out} {om om' : List EndMarks} {k' : Option Rec}

theorem rel_toggle (hp : PrimRel zc true S ends pt R) (ht : Toggle cfg l io eo ec (xy pt) lm oo om k' oo' om') (h : R zo oo) : R (openBranchZ cfg zc l io eo ec pt ends lm zo) oo' := by
  unfold openBranchZ
  cases ht with
  | idle ht => rw [ht]; exact h
  | stop ht hk => simp only [ht, hk, if_true]; exact hp.addOutPt _ _ _ _ _ _ rfl (fun _ => rfl) h
  | start ht hn hlm =>
    have hnew := hp.newRec ends (some (eo.e.pt == .subject)) zo oo (fun _ => ⟨rfl, rfl⟩) (fun hh => by cases hh) h
    simp only [ht, hn, if_true]
    rcases lm with _ | _ | j
    · exact hnew
    · exact hnew
    · obtain ⟨e3, h1, h2, h3⟩ := hlm j rfl
      simp only [h1, h2, h3, ne_eq, not_false_eq_true, and_self, if_true]; exact hnew
  | rejoin ht hn hlm he3 hc hrr =>
    subst hlm
    simp only [ht, hn, he3, hc, hrr, ne_eq, not_false_eq_true, and_self, if_true]; exact hp.handOver _ _ _ _ h

theorem rel_cross (hp1 : PrimRel zc true S ends pt R) (hp2 : PrimRel zc true S ends.swap pt R) (hs : Cross cfg (xy pt) lm x i x') (h : R zo x.oo) : R (oIntersectZ cfg zc i pt ends lm x zo) x'.oo := by
  unfold oIntersectZ
  cases hs with
  | same hab => simp only [List.drop_left, hab, if_true]; exact h
  | left ha hb ht => simp only [List.drop_left, ha, hb, if_true, Bool.true_eq_false, if_false]; exact rel_toggle hp1 ht h
  | right ha hb ht => simp only [List.drop_left, ha, hb, Bool.false_eq_true, if_false]; exact rel_toggle hp2 ht h

variable (hp : PrimRel zc false S ends pt R)
include hp

theorem rel_oInsertPair {pos : Nat} {t : PathType} {isOpen : Bool} {dx : Int} (hs : OpenStep cfg x (.ev (.base (.insertPair pos t isOpen dx) (xy pt))) x') (h : R zo x.oo) :
    R (oInsertPairZ cfg zc pos t isOpen dx pt x zo) x'.oo := by
  unfold oInsertPairZ
  cases hs with
  | insertCold _ hr hc => simp only [List.take_left, hr, hc, Bool.false_eq_true, if_false]; exact h
  | insertHot _ hr hc =>
    simp only [List.take_left, hr, hc, Bool.and_true, if_true]; exact hp.newRec _ _ _ _ (fun hh => by cases hh) (fun _ hh => by cases hh) h

theorem rel_oInsertOne {pos : Nat} {t : PathType} {dx : Int} (hs : OpenStep cfg x (.ev (.base (.insertOne pos t dx) (xy pt))) x') (h : R zo x.oo) :
    R (oInsertOneZ cfg zc pos t dx pt x zo) x'.oo := by
  unfold oInsertOneZ
  cases hs with
  | beginCold _ hr hc => simp only [List.take_left, hr, hc, Bool.false_eq_true, if_false]; exact h
  | beginHot _ hr hc => simp only [List.take_left, hr, hc, if_true]; exact hp.newRec _ _ _ _ (fun hh => by cases hh) (fun _ hh => by cases hh) h

theorem rel_oRemovePair (hs : OpenStep cfg x (.ev (.base (.removePair i) (xy pt))) x') (h : R zo x.oo) : R (oRemovePairZ zc i pt x zo) x'.oo := by
  unfold oRemovePairZ
  cases hs with
  | @maxCold _ _ a b _ _ _ _ _ hc =>
    simp only [List.drop_left]
    cases hao : a.e.isOpen with
    | true => simp only [(hc hao).1, (hc hao).2, if_true]; exact h
    | false => simp only [Bool.false_eq_true, if_false]; exact h
  | @maxBad _ _ a b _ _ _ _ _ ha hc =>
    simp only [List.drop_left, ha, if_true]
    rcases hc with hc | ⟨ra, rb, hra, hrb, hf⟩
    · cases hra : a.orec <;> cases hrb : b.orec <;> simp only [hra, hrb, Option.isSome_none, Option.isSome_some, ne_eq, not_true_eq_false] at hc ⊢ <;> exact h
    · simp only [hra, hrb, hf, if_true]; exact h
  | @maxJoin _ _ a b _ _ _ _ ra rb X Y _ ha hra hrb hf hid hXY =>
    simp only [List.drop_left, ha, hra, hrb, hf, hid, if_true, if_false]
    have := hp.joinPaths X.id Y.id X.front _ _ (hp.logSeg .meet rb.id rb.front ra.id ra.front _ _ (hp.addOutPt ZEnds.none ra.id ra.front none zo _ rfl (fun hh => by cases hh) h))
    split at hXY
    · next hdx => obtain ⟨rfl, rfl⟩ := hXY; simp only [hdx, if_true]; exact this
    · next hdx => obtain ⟨rfl, rfl⟩ := hXY; simp only [hdx, if_false]; exact this

theorem rel_oRemoveOne (hs : OpenStep cfg x (.ev (.base (.removeOne i) (xy pt))) x') (h : R zo x.oo) : R (oRemoveOneZ zc i pt x zo) x'.oo := by
  unfold oRemoveOneZ
  cases hs with
  | endCold ha hn => simp only [List.drop_left, ha, hn, if_true]; exact h
  | endHot ha hk => simp only [List.drop_left, ha, hk, if_true]; exact hp.addOutPt _ _ _ _ _ _ rfl (fun hh => by cases hh) h

theorem rel_oUpdate (hs : OpenStep cfg x (.ev (.update i (xy pt))) x') (h : R zo x.oo) : R (oUpdateZ zc i pt x zo) x'.oo := by
  unfold oUpdateZ
  cases hs with
  | @pass _ _ _ a ha hc =>
    simp only [ha]
    cases hao : a.e.isOpen with
    | true => simp only [hc hao, if_true]; exact h
    | false => simp only [Bool.false_eq_true, if_false]; exact h
  | update ha hao hk => simp only [ha, hao, hk, if_true]; exact hp.addOutPt _ _ _ _ _ _ rfl (fun hh => by cases hh) h

end relO

/-- in an `IntersectEdges` event `SetZ` is called with the open edge first: with the event's end points as they stand (`hp1`) or exchanged (`hp2`) -/
theorem rel_openStepZ (cfg : Cfg) (zc : ZCfg) (S : Bool) (x x' : OX) (zo : ZOut) (op : ZOOp) (R : ZOut → Out → Prop)
    (hp1 : PrimRel zc op.isX S op.ends op.ptz R) (hp2 : PrimRel zc op.isX S op.ends.swap op.ptz R)
    (hs : OpenStep cfg x op.erase x') (h : R zo x.oo) : R (openStepZ cfg zc x zo op) x'.oo := by
  cases op with
  | insertOne pos t dx bot => exact rel_oInsertOne hp1 hs h
  | removeOne i top => exact rel_oRemoveOne hp1 hs h
  | locMinX i p e e3 => cases hs with | crossMin hc => exact rel_cross hp1 hp2 hc h
  | ev o =>
    cases o with
    | insertPair pos t isOpen dx p => exact rel_oInsertPair hp1 hs h
    | insertOne pos t dx => exact rel_oInsertOne hp1 hs h
    | intersect i p e => cases hs with | cross hc => exact rel_cross hp1 hp2 hc h
    | removePair i p => exact rel_oRemovePair hp1 hs h
    | removeOne i => exact rel_oRemoveOne hp1 hs h
    | join i p => cases hs; exact h
    | split i p => cases hs; exact h
    | update i p => exact rel_oUpdate hp1 hs h

theorem runOZ_cons {cfg : Cfg} {zc : ZCfg} {st st' : ZOState} {op : ZOOp} {ops : List ZOOp} (h : runOZ cfg zc st (op :: ops) = .ok st') :
    ∃ st1, stepOZ cfg zc st op = .ok st1 ∧ runOZ cfg zc st1 ops = .ok st' := by
  unfold runOZ at h
  split at h
  · next st1 hs => exact ⟨st1, hs, h⟩
  · cases h

theorem withCounter_rings (z src : ZOut) : (z.withCounter src).rings = z.rings := rfl
theorem withCounter_log (z src : ZOut) : (z.withCounter src).log = z.log := rfl
theorem withCounter_ncb (z src : ZOut) : (z.withCounter src).ncb = src.ncb := rfl
theorem withCounter_calls (z src : ZOut) : (z.withCounter src).calls = src.calls := rfl

theorem ncbMono_prim (n : Nat) (zc : ZCfg) (X S : Bool) (ends : ZEnds) (pt : PtZ) : PrimRel zc X S ends pt (fun z _ => n ≤ z.ncb) := by
  have hst : ∀ ends' how z, n ≤ z.ncb → n ≤ (stamp zc ends' how pt z).ncb := by
    intro ends' how z h
    rcases stamp_spec zc ends' how pt z with ⟨_, _, h3, _⟩ | ⟨_, _, _, _, _, _, h3, _⟩
    · rw [h3]; exact h
    · rw [h3]; exact Nat.le_succ_of_le h
  refine prim_unary zc X S ends pt (fun z => n ≤ z.ncb) ?_ ?_ ?_ ?_
  · intro ends' how z _ _ h; exact hst ends' how z h
  · intro ends' id f how z _ _ h
    rw [(addOutPtZ_cases zc ends' id f how pt z).1]; exact hst ends' how z h
  · intro id f z h; rw [(finishZ_triples id f z).2.2.1]; exact h
  · intro A B f z h; rw [(joinPathsZ_triples A B f z).2.2.1]; exact h

theorem callsOK_withCounter (zc : ZCfg) (a b : ZOut) (hb : CallsOK zc b) (ha : ∀ e ∈ a.log, ∀ k, e.src = .setz k → k < b.ncb) : CallsOK zc (a.withCounter b) :=
  ⟨hb.1, hb.2.1, ha⟩

theorem dedupFromZ_sublist (last : PtZ) (l : List PtZ) : (dedupFromZ last l).Sublist l := by
  induction l generalizing last with
  | nil => exact List.Sublist.slnil
  | cons p ps ih =>
    simp only [dedupFromZ]
    split
    · exact (ih last).cons p
    · exact (ih p).cons_cons p

theorem dedupZ_sublist (l : List PtZ) : (dedupZ l).Sublist l := by
  cases l with
  | nil => exact List.Sublist.slnil
  | cons p ps => exact (dedupFromZ_sublist p ps).cons_cons p

theorem dedupFromZ_map (last : PtZ) (l : List PtZ) : (dedupFromZ last l).map xy = dedupFrom (xy last) (l.map xy) := by
  induction l generalizing last with
  | nil => rfl
  | cons p ps ih =>
    simp only [dedupFromZ, List.map_cons, dedupFrom]
    by_cases h : xy p = xy last
    · simp only [h, if_true]; exact ih last
    · simp only [h, if_false, List.map_cons]; rw [ih p]

theorem dedupZ_map (l : List PtZ) : (dedupZ l).map xy = dedup (l.map xy) := by
  cases l with
  | nil => rfl
  | cons p ps => simp only [dedupZ, dedup, List.map_cons, dedupFromZ_map]

theorem buildOpenPathZ_mem (rev dApi : Bool) (pts path : List PtZ) (h : buildOpenPathZ rev dApi pts = some path) : ∀ q ∈ path, q ∈ pts := by
  unfold buildOpenPathZ at h
  cases pts with
  | nil => cases h
  | cons a t =>
    cases t with
    | nil => cases h
    | cons b t' =>
      simp only at h
      by_cases hc : (dApi && (dedupZ (if rev = true then a :: b :: t' else (a :: b :: t').reverse)).length == 3 && verySmallTriangleZ (a :: b :: t')) = true
      · rw [if_pos hc] at h; cases h
      · rw [if_neg hc] at h
        cases h
        intro q hq
        have := (dedupZ_sublist _).subset hq
        cases rev
        · simp only [Bool.false_eq_true, if_false, List.mem_reverse] at this; exact this
        · simpa using this

theorem buildOpenPathZ_erase (rev : Bool) (pts : List PtZ) : (buildOpenPathZ rev false pts).map (·.map xy) = buildOpenPath rev (pts.map xy) := by
  unfold buildOpenPathZ buildOpenPath
  cases pts with
  | nil => rfl
  | cons a t =>
    cases t with
    | nil => rfl
    | cons b t' =>
      simp only [Bool.false_and, Bool.false_eq_true, if_false, List.map_cons, Option.map_some, dedupZ_map]
      cases rev <;> simp [List.map_reverse]

end Clipper.Model

/-
Lemmas for `Props/C01Output.lean`: the end points of the rings under construction through the primitives of
`Model/AelRings.lean` (`NewOutRec`, `AddOutPt`, `SwapOutrecs`, `JoinOutrecPaths`, ring closing), and which segments they log.
Core Lean only.
-/
import ClipperVerif.Lemmas.AelRingsRuns
namespace Clipper.Lemmas.C01Output
open Clipper Clipper.Model

/-- the point at the end `f` (`true` = front) of the ring of record `id` -/
def endAt (o : Out) (id : Nat) (f : Bool) : Option Pt := (o.rings[id]?).bind (fun g => endPt f g.pts)

/-- the end point of the ring end `(outrec, IsFront)` an edge holds -/
def endOf (o : Out) (k : Rec) : Option Pt := endAt o k.id k.front

theorem endAt_congr {o o' : Out} (h : o'.rings = o.rings) (id : Nat) (f : Bool) : endAt o' id f = endAt o id f := by
  unfold endAt; rw [h]

theorem endAt_of_get {o : Out} {id : Nat} {g : Ring} (hg : o.rings[id]? = some g) (f : Bool) : endAt o id f = endPt f g.pts := by
  unfold endAt; rw [hg]; rfl

theorem lt_of_liveAt {rings : List Ring} {id : Nat} (h : LiveAt rings id) : id < rings.length := liveAt_lt rings id h

theorem endAt_some_of_live {o : Out} {id : Nat} (h : LiveAt o.rings id) (f : Bool) : ∃ p, endAt o id f = some p := by
  obtain ⟨g, hg, _, hne⟩ := h
  obtain ⟨p, hp⟩ := endPt_of_ne f g.pts hne
  exact ⟨p, (endAt_of_get hg f).trans hp⟩

theorem endAt_set (o o' : Out) (id : Nat) (g g' : Ring) (hg : o.rings[id]? = some g) (ho : o'.rings = o.rings.set id g') (id' : Nat) (f' : Bool) :
    endAt o' id' f' = if id' = id then endPt f' g'.pts else endAt o id' f' := by
  unfold endAt
  rw [ho, get_set hg]
  split <;> rfl

theorem endAt_newRec_old (pt : Pt) (o : Out) (id : Nat) (f : Bool) (h : id < o.rings.length) :
    endAt (newRec pt o) id f = endAt o id f := congrArg (Option.bind · _) (List.getElem?_append_left h)

theorem endAt_newRec_new (pt : Pt) (o : Out) (f : Bool) : endAt (newRec pt o) o.rings.length f = some pt := by
  unfold endAt newRec
  rw [List.getElem?_append_right (Nat.le_refl _), Nat.sub_self]
  cases f <;> rfl

theorem segs_newRec (pt : Pt) (o : Out) : (newRec pt o).segs = o.segs := rfl

theorem endAt_addOutPt_self (id : Nat) (f : Bool) (pt : Pt) (o : Out) (h : LiveAt o.rings id) :
    endAt (addOutPt id f pt o) id f = some pt := by
  obtain ⟨g, hg, hl, _⟩ := h
  rw [endAt_set o _ id g _ hg (congrArg Out.rings (addOutPt_live id f pt o g hg hl)), if_pos rfl, addPt_end f f pt g (absurd rfl), if_pos rfl]

theorem endAt_addOutPt_other (id : Nat) (f : Bool) (pt : Pt) (o : Out) (id' : Nat) (f' : Bool)
    (hne : id' ≠ id ∨ f' ≠ f) (hlive : LiveAt o.rings id') : endAt (addOutPt id f pt o) id' f' = endAt o id' f' := by
  rcases addOutPt_cases id f pt o with ⟨r, hr, _, e⟩ | ⟨_, e⟩
  · rw [endAt_set o _ id r _ hr (congrArg Out.rings e)]
    split
    · next e' =>
      -- the other end of the ring that got the point
      subst e'
      obtain ⟨g', hg', _, hpne⟩ := hlive
      rw [hr] at hg'; cases hg'
      rw [addPt_end f f' pt r (fun _ => hpne), if_neg (hne.resolve_left (fun h => h rfl)), endAt_of_get hr]
    · rfl
  · exact endAt_congr (congrArg Out.rings e) id' f'

/-- the segments `AddOutPt` logs: at most one, from the old end point to the new point, kind `extend` -/
theorem segs_addOutPt (id : Nat) (f : Bool) (pt : Pt) (o : Out) :
    ∀ sg ∈ (addOutPt id f pt o).segs, sg ∈ o.segs ∨ (some sg.p = endAt o id f ∧ sg.q = pt ∧ sg.kind = .extend) := fun sg hsg =>
  (addOutPt_segs id f pt o sg hsg).imp_right fun ⟨_, hg, _, _, hp, h⟩ => ⟨hp.trans (endAt_of_get hg f).symm, h⟩

theorem endAt_handOver (id : Nat) (f : Bool) (o : Out) (id' : Nat) (f' : Bool) : endAt (handOver id f o) id' f' = endAt o id' f' := by
  rcases handOver_cases id f o with ⟨r, hr, e⟩ | ⟨_, e⟩
  · rw [endAt_set o _ id r _ hr (congrArg Out.rings e)]
    split
    · next e' => subst e'; rw [endAt_of_get hr]; cases f <;> rfl
    · rfl
  · rw [e]

theorem endAt_logSeg (kd : SegKind) (i1 : Nat) (f1 : Bool) (i2 : Nat) (f2 : Bool) (o : Out) (id : Nat) (f : Bool) :
    endAt (logSeg kd i1 f1 i2 f2 o) id f = endAt o id f := endAt_congr (logSeg_rings kd i1 f1 i2 f2 o) id f

/-- the segment `logSeg` logs: from the end point of `(i1, f1)` to the end point of `(i2, f2)` -/
theorem segs_logSeg (kd : SegKind) (i1 : Nat) (f1 : Bool) (i2 : Nat) (f2 : Bool) (o : Out) :
    ∀ sg ∈ (logSeg kd i1 f1 i2 f2 o).segs, sg ∈ o.segs ∨ (some sg.p = endAt o i1 f1 ∧ some sg.q = endAt o i2 f2 ∧ sg.kind = kd) := fun sg hsg =>
  (logSeg_segs kd i1 f1 i2 f2 o sg hsg).imp_right fun ⟨_, _, h1, h2, hp, hq, hk⟩ =>
    ⟨hp.trans (endAt_of_get h1 f1).symm, hq.trans (endAt_of_get h2 f2).symm, hk⟩

theorem endAt_finish_other (id : Nat) (f : Bool) (o : Out) (id' : Nat) (f' : Bool) (hne : id' ≠ id) :
    endAt (finish id f o) id' f' = endAt o id' f' := by
  rcases finish_cases id f o with ⟨r, _, hr, _, _, _, e⟩ | e
  · rw [endAt_set o _ id r _ hr (congrArg Out.rings e), if_neg hne]
  · rw [e]

theorem endAt_joinPaths_other (A B : Nat) (f : Bool) (o : Out) (id' : Nat) (f' : Bool) (h1 : id' ≠ A) (h2 : id' ≠ B) :
    endAt (joinPaths A B f o) id' f' = endAt o id' f' := by
  rcases joinPaths_cases A B f o with ⟨ra, rb, _, _, _, _, _, e⟩ | e <;> rw [e]
  unfold endAt
  rw [List.getElem?_set_ne (fun h => h2 h.symm), List.getElem?_set_ne (fun h => h1 h.symm)]

/-- `JoinOutrecPaths(e1, e2)`, `A = e1.outrec`, `B = e2.outrec`, `f = IsFront(e1)`: the surviving ring `A` keeps its end `!f` and
inherits the end `f` of `B` -/
theorem endAt_joinPaths (A B : Nat) (f : Bool) (o : Out) (hne : A ≠ B) (hA : LiveAt o.rings A) (hB : LiveAt o.rings B) :
    endAt (joinPaths A B f o) A (!f) = endAt o A (!f) ∧ endAt (joinPaths A B f o) A f = endAt o B f := by
  obtain ⟨ra, hra, la, na⟩ := hA
  obtain ⟨rb, hrb, lb, nb⟩ := hB
  rw [joinPaths_of_live A B f o ra rb hra hrb hne la lb]
  unfold endAt
  rw [List.getElem?_set_ne (Ne.symm hne), List.getElem?_set_self (lt_of_get hra), hra, hrb]
  cases f
  · exact ⟨head?_append_ne _ _ na, getLast?_append_ne _ _ nb⟩
  · exact ⟨getLast?_append_ne _ _ na, head?_append_ne _ _ nb⟩

end Clipper.Lemmas.C01Output

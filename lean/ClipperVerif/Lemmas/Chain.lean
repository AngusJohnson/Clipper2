/-
Chains and closed chains of numbers under an arbitrary relation between neighbours: `ChainR r l` (consecutive elements are related)
and `CycR r c` (the chain `c` together with the step from its last element back to its first).  A closed chain is a chain and
the closing step (`cycR_iff`), or two chains and the two steps between them (`cycR_append_iff`); hence it may be rotated.
Rerouting the two steps out of the ends of two disjoint chains gives two closed chains, or one (`cycR_split`, `cycR_merge`):
the fact behind every pointer surgery on circular doubly linked lists, whatever the representation of the links
(`Lemmas/HorzJoinsRing.lean`: partial maps; `Lemmas/RectClipTidy.lean`: total maps).  Core Lean only.
-/
namespace Clipper.Model.HorzJoins

/-- consecutive elements are related -/
def ChainR (r : Nat → Nat → Prop) : List Nat → Prop
  | [] => True
  | [_] => True
  | a :: b :: t => r a b ∧ ChainR r (b :: t)

@[simp] theorem chainR_nil (r : Nat → Nat → Prop) : ChainR r [] = True := rfl
@[simp] theorem chainR_single (r : Nat → Nat → Prop) (a : Nat) : ChainR r [a] = True := rfl
@[simp] theorem chainR_cons2 (r : Nat → Nat → Prop) (a b : Nat) (t : List Nat) :
    ChainR r (a :: b :: t) = (r a b ∧ ChainR r (b :: t)) := rfl

theorem chainR_append (r : Nat → Nat → Prop) (l1 : List Nat) (m : Nat) (l2 : List Nat) :
    ChainR r (l1 ++ m :: l2) ↔ ChainR r (l1 ++ [m]) ∧ ChainR r (m :: l2) := by
  induction l1 with
  | nil => simp
  | cons a t ih =>
    cases t with
    | nil => simp
    | cons b t' =>
      simp only [List.cons_append, chainR_cons2] at ih ⊢
      rw [ih]; exact and_assoc.symm

theorem chainR_snoc_last {r : Nat → Nat → Prop} {z x : Nat} {l : List Nat} (hx : l.getLast? = some x) :
    ChainR r (l ++ [z]) ↔ ChainR r l ∧ r x z := by
  obtain ⟨l0, rfl⟩ := List.getLast?_eq_some_iff.1 hx
  rw [List.append_assoc, List.singleton_append, chainR_append]
  simp

theorem chainR_append_iff {r : Nat → Nat → Prop} {P Q : List Nat} {z h : Nat} (hz : P.getLast? = some z) (hh : Q.head? = some h) :
    ChainR r (P ++ Q) ↔ ChainR r P ∧ r z h ∧ ChainR r Q := by
  obtain ⟨t, rfl⟩ := List.head?_eq_some_iff.1 hh
  rw [chainR_append, chainR_snoc_last hz, and_assoc]

/-- a chain under `r` is one under `s` if `s` holds wherever `r` relates a non-final to a non-initial element -/
theorem chainR_imp {r s : Nat → Nat → Prop} : ∀ (l : List Nat), (∀ a ∈ l.dropLast, ∀ b ∈ l.tail, r a b → s a b) →
    ChainR r l → ChainR s l
  | [], _, _ => trivial
  | [_], _, _ => trivial
  | a :: b :: t, h, hc =>
    ⟨h a (by simp) b (by simp) hc.1,
     chainR_imp (b :: t) (fun x hx y hy => h x (by rw [List.dropLast_cons_cons]; exact List.mem_cons_of_mem _ hx)
       y (List.mem_cons_of_mem _ hy)) hc.2⟩

theorem chainR_mono {r s : Nat → Nat → Prop} (l : List Nat) (h : ∀ a b, a ∈ l → b ∈ l → r a b → s a b) :
    ChainR r l → ChainR s l :=
  chainR_imp l fun a ha b hb => h a b (List.dropLast_subset l ha) (List.mem_of_mem_tail hb)

theorem chainR_reverse {r : Nat → Nat → Prop} : ∀ (l : List Nat), ChainR r l → ChainR (fun a b => r b a) l.reverse
  | [], _ => trivial
  | [_], _ => trivial
  | a :: b :: t, h => by
    rw [List.reverse_cons, chainR_snoc_last (x := b) (by simp)]
    exact ⟨chainR_reverse (b :: t) h.2, h.1⟩

theorem exists_head?_snoc (l : List Nat) (a : Nat) : ∃ s, (l ++ [a]).head? = some s :=
  ⟨_, List.head?_eq_some_head (by simp)⟩

theorem exists_getLast?_cons (a : Nat) (l : List Nat) : ∃ z, (a :: l).getLast? = some z :=
  ⟨_, List.getLast?_eq_some_getLast (by simp)⟩

theorem tail_nodup_ne_head {l : List Nat} {x b : Nat} (hnd : l.Nodup) (hx : l.head? = some x) (hb : b ∈ l.tail) : b ≠ x := by
  obtain ⟨t, rfl⟩ := List.head?_eq_some_iff.1 hx
  rintro rfl
  exact (List.nodup_cons.1 hnd).1 hb

theorem dropLast_nodup_ne_last {l : List Nat} {x a : Nat} (hnd : l.Nodup) (hx : l.getLast? = some x) (ha : a ∈ l.dropLast) : a ≠ x := by
  obtain ⟨t, rfl⟩ := List.getLast?_eq_some_iff.1 hx
  rw [List.dropLast_concat] at ha
  exact (List.nodup_append.1 hnd).2.2 a ha x (by simp)

/-- pigeonhole: a list of distinct numbers below `n` has at most `n` elements -/
theorem nodup_length_le (n : Nat) (l : List Nat) (hnd : l.Nodup) (h : ∀ x ∈ l, x < n) : l.length ≤ n := by
  simpa using hnd.length_le_of_subset fun x hx => List.mem_range.2 (h x hx)

/-- the chain `c` closed by the step from its last element back to its first -/
def CycR (r : Nat → Nat → Prop) : List Nat → Prop
  | [] => True
  | a :: t => ChainR r (a :: t ++ [a])

theorem cycR_iff {r : Nat → Nat → Prop} {c : List Nat} {h z : Nat} (hh : c.head? = some h) (hz : c.getLast? = some z) :
    CycR r c ↔ ChainR r c ∧ r z h := by
  obtain ⟨t, rfl⟩ := List.head?_eq_some_iff.1 hh
  exact chainR_snoc_last hz

theorem cycR_append_iff {r : Nat → Nat → Prop} {A B : List Nat} {hA lA hB lB : Nat}
    (hhA : A.head? = some hA) (hlA : A.getLast? = some lA) (hhB : B.head? = some hB) (hlB : B.getLast? = some lB) :
    CycR r (A ++ B) ↔ ChainR r A ∧ r lA hB ∧ ChainR r B ∧ r lB hA := by
  rw [cycR_iff (c := A ++ B) (h := hA) (z := lB) (by simp [hhA]) (by simp [hlB]), chainR_append_iff hlA hhB]
  simp only [and_assoc]

theorem cycR_rot {r : Nat → Nat → Prop} (a b : List Nat) (h : CycR r (a ++ b)) : CycR r (b ++ a) := by
  cases a with
  | nil => simpa using h
  | cons x a' =>
    cases b with
    | nil => simpa using h
    | cons y b' =>
      have la := List.getLast?_eq_some_getLast (List.cons_ne_nil x a')
      have lb := List.getLast?_eq_some_getLast (List.cons_ne_nil y b')
      obtain ⟨c1, l1, c2, l2⟩ := (cycR_append_iff rfl la rfl lb).1 h
      exact (cycR_append_iff rfl lb rfl la).2 ⟨c2, l2, c1, l1⟩

/-- every member has a successor in the cycle -/
theorem CycR.succ_mem {r : Nat → Nat → Prop} {c : List Nat} (h : CycR r c) {a : Nat} (ha : a ∈ c) : ∃ b ∈ c, r a b := by
  obtain ⟨pre, post, rfl⟩ := List.append_of_mem ha
  have h' := cycR_rot [a] (post ++ pre) (cycR_rot pre (a :: post) h)
  obtain ⟨s, hs⟩ := exists_head?_snoc (post ++ pre) a
  refine ⟨s, ?_, ((cycR_iff hs List.getLast?_concat).1 h').2⟩
  have := List.mem_of_head? hs
  simp only [List.mem_append, List.mem_cons, List.not_mem_nil, or_false] at this ⊢
  rcases this with (h | h) | h <;> simp [h]

theorem CycR.pred_mem {r : Nat → Nat → Prop} {c : List Nat} (h : CycR r c) {a : Nat} (ha : a ∈ c) : ∃ b ∈ c, r b a := by
  obtain ⟨pre, post, rfl⟩ := List.append_of_mem ha
  obtain ⟨p, hp⟩ := exists_getLast?_cons a (post ++ pre)
  exact ⟨p, (List.perm_append_comm (l₁ := pre)).mem_iff.2 (List.mem_of_getLast? hp),
    ((cycR_iff rfl hp).1 (cycR_rot pre (a :: post) h)).2⟩

theorem cycR_mono {r s : Nat → Nat → Prop} {c : List Nat} (h : ∀ a b, a ∈ c → b ∈ c → r a b → s a b) (hc : CycR r c) :
    CycR s c := by
  cases c with
  | nil => trivial
  | cons a t =>
    have hmem : ∀ x ∈ a :: t ++ [a], x ∈ a :: t := fun x hx =>
      (List.mem_append.1 hx).elim id fun hx => List.mem_singleton.1 hx ▸ List.mem_cons_self
    exact chainR_mono _ (fun x y hx hy => h x y (hmem x hx) (hmem y hy)) hc

/-- two disjoint duplicate-free chains survive every change of the relation that keeps the steps which neither start at one of
their last nor end at one of their first elements -/
theorem chainR_relink {r r' : Nat → Nat → Prop} {P Q : List Nat} {hP lP hQ lQ : Nat} (hnd : (P ++ Q).Nodup)
    (hhP : P.head? = some hP) (hlP : P.getLast? = some lP) (hhQ : Q.head? = some hQ) (hlQ : Q.getLast? = some lQ)
    (hr : ∀ a b, a ≠ lP → a ≠ lQ → b ≠ hP → b ≠ hQ → r a b → r' a b)
    (cP : ChainR r P) (cQ : ChainR r Q) : ChainR r' P ∧ ChainR r' Q := by
  obtain ⟨ndP, ndQ, dis⟩ := List.nodup_append.1 hnd
  constructor
  · exact chainR_imp P (fun a ha b hb => hr a b (dropLast_nodup_ne_last ndP hlP ha)
      (dis a (List.dropLast_subset _ ha) lQ (List.mem_of_getLast? hlQ)) (tail_nodup_ne_head ndP hhP hb)
      (dis b (List.mem_of_mem_tail hb) hQ (List.mem_of_head? hhQ))) cP
  · exact chainR_imp Q (fun a ha b hb => hr a b (dis lP (List.mem_of_getLast? hlP) a (List.dropLast_subset _ ha)).symm
      (dropLast_nodup_ne_last ndQ hlQ ha) (dis hP (List.mem_of_head? hhP) b (List.mem_of_mem_tail hb)).symm
      (tail_nodup_ne_head ndQ hhQ hb)) cQ

/-- **rerouting two steps**: of two disjoint chains `P`, `Q`, the steps out of their last elements are rerouted.
Each to the head of its own chain: two cycles.  Each to the head of the other: one cycle. -/
theorem cycR_split {r r' : Nat → Nat → Prop} {P Q : List Nat} {hP lP hQ lQ : Nat} (hnd : (P ++ Q).Nodup)
    (hhP : P.head? = some hP) (hlP : P.getLast? = some lP) (hhQ : Q.head? = some hQ) (hlQ : Q.getLast? = some lQ)
    (hr : ∀ a b, a ≠ lP → a ≠ lQ → b ≠ hP → b ≠ hQ → r a b → r' a b)
    (cP : ChainR r P) (cQ : ChainR r Q) (sP : r' lP hP) (sQ : r' lQ hQ) : CycR r' P ∧ CycR r' Q :=
  have ⟨cP', cQ'⟩ := chainR_relink hnd hhP hlP hhQ hlQ hr cP cQ
  ⟨(cycR_iff hhP hlP).2 ⟨cP', sP⟩, (cycR_iff hhQ hlQ).2 ⟨cQ', sQ⟩⟩

theorem cycR_merge {r r' : Nat → Nat → Prop} {P Q : List Nat} {hP lP hQ lQ : Nat} (hnd : (P ++ Q).Nodup)
    (hhP : P.head? = some hP) (hlP : P.getLast? = some lP) (hhQ : Q.head? = some hQ) (hlQ : Q.getLast? = some lQ)
    (hr : ∀ a b, a ≠ lP → a ≠ lQ → b ≠ hP → b ≠ hQ → r a b → r' a b)
    (cP : ChainR r P) (cQ : ChainR r Q) (sP : r' lP hQ) (sQ : r' lQ hP) : CycR r' (P ++ Q) :=
  have ⟨cP', cQ'⟩ := chainR_relink hnd hhP hlP hhQ hlQ hr cP cQ
  (cycR_append_iff hhP hlP hhQ hlQ).2 ⟨cP', sP, cQ', sQ⟩

/-- a duplicate-free chain closed on itself: the step out of its last element is rerouted to its first (a member `x` of the
cycle `x :: U` is taken out) -/
theorem cycR_close {r r' : Nat → Nat → Prop} {s p : Nat} {U : List Nat} (hnd : U.Nodup) (hs : U.head? = some s)
    (hp : U.getLast? = some p) (cU : ChainR r U) (hr : ∀ a b, a ≠ p → b ≠ s → r a b → r' a b) (hps : r' p s) : CycR r' U :=
  (cycR_iff hs hp).2 ⟨chainR_imp U (fun a ha b hb => hr a b (dropLast_nodup_ne_last hnd hp ha) (tail_nodup_ne_head hnd hs hb)) cU, hps⟩

end Clipper.Model.HorzJoins

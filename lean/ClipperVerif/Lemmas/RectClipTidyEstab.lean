/-
`CheckEdges` establishes the invariant `EdgesOK` of the eight edge lists: a node enters `edges_[2 j]` / `edges_[2 j + 1]` only if
its link lies on the line of side `j` (bits of `GetEdgesForPt`) and heads the right way (`IsHeadingClockwise`), and at most once
(`op->edge`).  In the enclosing case, where the lists are filled beforehand, it changes none of them.
Core Lean only.
-/
import ClipperVerif.Lemmas.RectClipTidySide
import ClipperVerif.Lemmas.RectClipTidyTerm
import ClipperVerif.Lemmas.RectClipTidyEncl
namespace Clipper.Lemmas.RCT
open Clipper Clipper.Model.RC Clipper.Model.RCT

/-- the constant coordinate of side `j` -/
def sideCoord (r : Rect) : Nat → Int
  | 0 => r.left
  | 1 => r.top
  | 2 => r.right
  | _ => r.bottom

theorem bitSet_and (a b : UInt64) (j : Nat) (h : bitSet (a &&& b) j = true) : bitSet a j = true ∧ bitSet b j = true := by
  unfold bitSet at *
  simp only [bne_iff_ne, ne_eq] at *
  constructor
  · intro e
    apply h
    rw [UInt64.and_assoc, UInt64.and_comm b, ← UInt64.and_assoc, e, UInt64.zero_and]
  · intro e
    apply h
    rw [UInt64.and_assoc, e, UInt64.and_zero]

/-- `GetEdgesForPt` adds a bit for the vertical side the point is on (1 = left, 4 = right) and one for the horizontal side (2 = top,
8 = bottom) -/
theorem edgesForPt_bits (r : Rect) (p : Pt) : ∃ xb yb : UInt64, edgesForPt r p = xb + yb ∧
    (xb = 1 ∧ p.x = r.left ∨ xb = 4 ∧ p.x = r.right ∨ xb = 0) ∧ (yb = 2 ∧ p.y = r.top ∨ yb = 8 ∧ p.y = r.bottom ∨ yb = 0) := by
  have ypart : ∀ xb : UInt64, ∃ yb, (if decide (p.y = r.top) = true then xb + 2 else if decide (p.y = r.bottom) = true then xb + 8 else xb)
      = xb + yb ∧ (yb = 2 ∧ p.y = r.top ∨ yb = 8 ∧ p.y = r.bottom ∨ yb = 0) := by
    intro xb
    by_cases h3 : p.y = r.top
    · exact ⟨2, by rw [if_pos (decide_eq_true h3)], Or.inl ⟨rfl, h3⟩⟩
    · rw [if_neg (by simpa using h3)]
      by_cases h4 : p.y = r.bottom
      · exact ⟨8, by rw [if_pos (decide_eq_true h4)], Or.inr (Or.inl ⟨rfl, h4⟩)⟩
      · exact ⟨0, by rw [if_neg (by simpa using h4), UInt64.add_zero], Or.inr (Or.inr rfl)⟩
  unfold edgesForPt Gen.GetEdgesForPt
  by_cases h1 : p.x = r.left
  · rw [if_pos (decide_eq_true h1)]
    obtain ⟨yb, e, hy⟩ := ypart 1
    exact ⟨1, yb, e, Or.inl ⟨rfl, h1⟩, hy⟩
  · rw [if_neg (by simpa using h1)]
    by_cases h2 : p.x = r.right
    · rw [if_pos (decide_eq_true h2)]
      obtain ⟨yb, e, hy⟩ := ypart 4
      exact ⟨4, yb, e, Or.inr (Or.inl ⟨rfl, h2⟩), hy⟩
    · rw [if_neg (by simpa using h2)]
      obtain ⟨yb, e, hy⟩ := ypart 0
      exact ⟨0, yb, e, Or.inr (Or.inr rfl), hy⟩

/-- bit `j` of `GetEdgesForPt(pt, rect)` is set only if `pt` lies on the line of side `j` -/
theorem bit_coord (r : Rect) (p : Pt) (j : Nat) (hj : j < 4) (h : bitSet (edgesForPt r p) j = true) :
    othOf j p = sideCoord r j := by
  obtain ⟨xb, yb, e, hx, hy⟩ := edgesForPt_bits r p
  rw [e] at h
  have : j = 0 ∨ j = 1 ∨ j = 2 ∨ j = 3 := by omega
  -- the table of the bits of the nine sums
  rcases this with rfl | rfl | rfl | rfl <;> rcases hx with ⟨rfl, hx⟩ | ⟨rfl, hx⟩ | rfl <;>
    rcases hy with ⟨rfl, hy⟩ | ⟨rfl, hy⟩ | rfl <;> first | exact hx | exact hy | exact absurd h (by decide)

/-- the answer of `IsHeadingClockwise(p1, p2, j)`, read as the direction of `p1 → p2` along side `j` -/
theorem heading_dir (p1 p2 : Pt) (j : Nat) (hj : j < 4) :
    (isHeadingClockwise p1 p2 j = true → dirOK (j == 1 || j == 2) (axisOf j p1) (axisOf j p2)) ∧
    (isHeadingClockwise p1 p2 j = false → dirOK (!(j == 1 || j == 2)) (axisOf j p1) (axisOf j p2)) := by
  have : j = 0 ∨ j = 1 ∨ j = 2 ∨ j = 3 := by omega
  rcases this with rfl | rfl | rfl | rfl <;>
  · simp [isHeadingClockwise, Gen.IsHeadingClockwise, dirOK, axisOf]
    try omega

/-- what `CheckEdges` knows of a node `k` it enters into `edges_[2 j]` (`cw`) resp. `edges_[2 j + 1]`: its link `prev k → k` lies
on the line of side `j` and heads clockwise resp. counter-clockwise -/
def FitsSide (r : Rect) (h : Heap) (j : Nat) (cw : Bool) (k : Nat) : Prop :=
  (othOf j (h.pt k) = sideCoord r j ∧ othOf j (h.pt (h.prev k)) = sideCoord r j) ∧
    dirOK (if cw then (j == 1 || j == 2) else !(j == 1 || j == 2)) (axisOf j (h.pt (h.prev k))) (axisOf j (h.pt k))

/-- invariant of the edge lists while `CheckEdges` classifies -/
structure EstInv (r : Rect) (h : Heap) : Prop where
  fits : ∀ j cw k, j < 4 → some k ∈ h.edges (j * 2 + if cw then 0 else 1) → FitsSide r h j cw k
  edgeSet : ∀ e k, some k ∈ h.edges e → h.edge k ≠ none
  one : ∀ k e e', some k ∈ h.edges e → some k ∈ h.edges e' → e = e'
  nodup : ∀ e k, occ k (h.edges e) ≤ 1

theorem EstInv.edgesOK {r : Rect} {h : Heap} (ei : EstInv r h) : EdgesOK h := by
  refine ⟨fun idx hidx => ⟨⟨sideCoord r idx, fun k hk => ?_⟩, fun k hk => (ei.fits idx true k hidx hk).2,
    fun k hk => (ei.fits idx false k hidx hk).2, fun k => ?_⟩, fun a b _ _ hab k hk hk2 => ?_⟩
  · exact hk.elim (fun m => (ei.fits idx true k hidx m).1) (fun m => (ei.fits idx false k hidx m).1)
  · have n1 := ei.nodup (idx * 2) k
    have n2 := ei.nodup (idx * 2 + 1) k
    by_cases h1 : 0 < occ k (h.edges (idx * 2))
    · by_cases h2 : 0 < occ k (h.edges (idx * 2 + 1))
      · have := ei.one k _ _ ((occ_pos_iff k _).mp h1) ((occ_pos_iff k _).mp h2)
        omega
      · omega
    · omega
  · rcases hk with hk | hk <;> rcases hk2 with hk2 | hk2 <;> have := ei.one k _ _ hk hk2 <;> omega

theorem estInv_of_empty (r : Rect) (h : Heap) (he : ∀ e k, some k ∉ h.edges e) : EstInv r h :=
  ⟨fun _ _ k _ hk => absurd hk (he _ k), fun e k hk => absurd hk (he _ k), fun k e _ hk => absurd hk (he _ k),
    fun e k => by rw [(occ_zero_iff k _).mpr (he e k)]; exact Nat.zero_le _⟩

/-- `AddToEdge(edges_[2 j], op2)` resp. `AddToEdge(edges_[2 j + 1], op2)` for a node that fits -/
theorem addToEdge_estInv (r : Rect) (h : Heap) (ei : EstInv r h) (j : Nat) (cw : Bool) (op2 : Nat)
    (hf : FitsSide r h j cw op2) : EstInv r (h.addToEdge (j * 2 + if cw then 0 else 1) op2) := by
  cases hn : h.edge op2 with
  | some e0 =>
    rw [show h.addToEdge (j * 2 + if cw then 0 else 1) op2 = h by unfold Heap.addToEdge; rw [hn]]
    exact ei
  | none =>
    have hnot : ∀ e, some op2 ∉ h.edges e := fun e m => ei.edgeSet e op2 m hn
    have ed := addToEdge_of_none h (j * 2 + if cw then 0 else 1) op2 hn
    obtain ⟨-, s2, -, s4, -, -⟩ := sameRings_addToEdge h (j * 2 + if cw then 0 else 1) op2
    refine ⟨fun j' cw' k hj' hk => ?_, fun e k hk => ?_, fun k e e' hk hk' => ?_, fun e k => ?_⟩
    · unfold FitsSide
      rw [s2, s4]
      rcases mem_edges_addToEdge hk with m | ⟨rfl, e⟩
      · exact ei.fits j' cw' k hj' m
      · have : j' = j ∧ cw' = cw := by cases cw <;> cases cw' <;> simp at e ⊢ <;> omega
        rw [this.1, this.2]; exact hf
    · simp only [Heap.addToEdge, hn]
      by_cases hk2 : k = op2
      · rw [hk2, upd_same]; exact fun e => nomatch e
      · rw [upd_ne _ _ hk2]
        exact ei.edgeSet e k ((mem_edges_addToEdge hk).resolve_right fun m => hk2 m.1)
    · rcases mem_edges_addToEdge hk with m | ⟨rfl, m2⟩ <;> rcases mem_edges_addToEdge hk' with m' | ⟨m1', m2'⟩
      · exact ei.one k e e' m m'
      · exact absurd (m1' ▸ m) (hnot e)
      · exact absurd m' (hnot e')
      · rw [m2, m2']
    · rw [ed]
      have := ei.nodup (j * 2 + if cw then 0 else 1) k
      have z := (occ_zero_iff op2 _).mpr (hnot (j * 2 + if cw then 0 else 1))
      generalize (j * 2 + if cw then 0 else 1) = t at this z ⊢
      by_cases he : e = t
      · rw [if_pos he]
        unfold occ at this z ⊢
        rw [wsum_append, wsum_cons, wsum_nil]
        by_cases hk2 : k = op2
        · rw [hk2, z, if_pos rfl]; exact Nat.le_refl _
        · rw [if_neg (fun e' => hk2 (Option.some.inj e').symm)]; omega
      · rw [if_neg he]; exact ei.nodup e k

/-- the body of `for (int j = 0; j < 4; ++j)` for one `j`: the node is entered only under bit `j` of `combinedSet`, which puts its
link on the line of side `j` -/
theorem classifyOne_estInv (r : Rect) (h : Heap) (ei : EstInv r h) (op2 : Nat) (c : UInt64) (j : Nat) (hj : j < 4)
    (hc : bitSet c j = true → othOf j (h.pt op2) = sideCoord r j ∧ othOf j (h.pt (h.prev op2)) = sideCoord r j) :
    EstInv r (classifyOne h op2 c j) := by
  unfold classifyOne
  split
  · rename_i hb
    have hd := heading_dir (h.pt (h.prev op2)) (h.pt op2) j hj
    split
    · rename_i hh
      exact addToEdge_estInv r h ei j true op2 ⟨hc hb, hd.1 hh⟩
    · rename_i hh
      exact addToEdge_estInv r h ei j false op2 ⟨hc hb, hd.2 (by simpa using hh)⟩
  · exact ei

theorem classify_estInv (r : Rect) (op2 : Nat) (c : UInt64) : ∀ (js : List Nat) (h : Heap), EstInv r h → (∀ j ∈ js, j < 4) →
    (∀ j, j < 4 → bitSet c j = true → othOf j (h.pt op2) = sideCoord r j ∧ othOf j (h.pt (h.prev op2)) = sideCoord r j) →
    EstInv r (js.foldl (fun hh j => classifyOne hh op2 c j) h)
  | [], _, ei, _, _ => ei
  | j :: js, h, ei, hjs, hc => by
    have sr := (classify_spec op2 c [j] h).1
    refine classify_estInv r op2 c js _ (classifyOne_estInv r h ei op2 c j (hjs j (by simp)) (hc j (hjs j (by simp))))
      (fun j' hj' => hjs j' (List.mem_cons_of_mem _ hj')) (fun j' hj' hb => ?_)
    rw [show (classifyOne h op2 c j).pt = h.pt from sr.2.1, show (classifyOne h op2 c j).prev = h.prev from sr.2.2.2.1]
    exact hc j' hj' hb

/-- the classification loop of `CheckEdges` keeps `EstInv` -/
theorem edgeLoop_estInv (r : Rect) (op i : Nat) (ring : Nat → List Nat) : ∀ (fuel : Nat) (h : Heap) (es : UInt64) (op2 : Nat),
    EstInv r h → RingsWF h ring → op2 ∈ ring i → es = edgesForPt r (h.pt (h.prev op2)) →
    ∀ h', edgeLoop r op fuel h es op2 = .ok h' → EstInv r h'
  | 0, h, es, op2, _, _, _, _ => by intro h' e; simp [edgeLoop] at e
  | fuel + 1, h, es, op2, ei, w, h2, hes => by
    unfold edgeLoop
    simp only
    have key : ∀ h1 : Heap, SameRings h h1 → EstInv r h1 →
        ∀ h', (if h1.next op2 ≠ op then edgeLoop r op fuel h1 (edgesForPt r (h.pt op2)) (h1.next op2) else .ok h1) = .ok h' →
          EstInv r h' := by
      intro h1 sr e1 h' e
      split at e
      · have w1 : RingsWF h1 ring := w.of_sameRings sr
        have hn := w1.next_mem h2
        refine edgeLoop_estInv r op i ring fuel h1 _ (h1.next op2) e1 w1 hn.1 ?_ h' e
        rw [hn.2, sr.2.1]
      · simp only [Except.ok.injEq] at e
        subst e; exact e1
    split
    · apply key _ (classify_spec op2 _ [0, 1, 2, 3] h).1
      apply classify_estInv r op2 _ [0, 1, 2, 3] h ei (by simp only [List.mem_cons, List.not_mem_nil, or_false]; omega)
      intro j hj hb
      have := bitSet_and _ _ _ hb
      rw [hes] at this
      exact ⟨bit_coord r _ j hj this.2, bit_coord r _ j hj this.1⟩
    · exact key h (SameRings.refl _) ei

/-- **`CheckEdges` establishes `EdgesOK`** when it starts with empty edge lists (every case but "path encloses the rectangle") -/
theorem checkEdges_estab (r : Rect) (h : Heap) (ring : Nat → List Nat) (w : RingsWF h ring) (hlen : h.results.length ≤ 1)
    (he : ∀ e k, some k ∉ h.edges e) : ∀ h', checkEdges r h = .ok h' → EdgesOK h' := by
  intro h' hrun
  obtain ⟨h'', e, run⟩ := checkEdges_run r h ring w hlen
  rw [e] at hrun
  cases hrun
  rcases run with ⟨_, rfl⟩ | ⟨h1, fr, ⟨_, _, rfl⟩ | ⟨op1, L, _, hm, wL, _, e, _, _⟩⟩
  · exact (estInv_of_empty r _ he).edgesOK
  · exact (estInv_of_empty r _ (by rw [show (withSlot h1 0 none).edges = h.edges from fr.edges]; exact he)).edgesOK
  · have ei0 : EstInv r (withSlot h1 0 (some op1)) :=
      estInv_of_empty r _ (by rw [show (withSlot h1 0 (some op1)).edges = h.edges from fr.edges]; exact he)
    exact (edgeLoop_estInv r op1 0 (upd ring 0 L) _ _ _ op1 ei0 wL (by rw [upd_same]; exact hm) rfl _ e).edgesOK

/-- on a ring all of whose nodes have `op->edge` set, the classification loop of `CheckEdges` changes nothing -/
theorem edgeLoop_noop (r : Rect) (op i : Nat) (ring : Nat → List Nat) : ∀ (fuel : Nat) (h : Heap) (es : UInt64) (op2 : Nat),
    RingsWF h ring → op2 ∈ ring i → (∀ k ∈ ring i, h.edge k ≠ none) →
    ∀ h', edgeLoop r op fuel h es op2 = .ok h' → h' = h
  | 0, h, es, op2, _, _, _ => by intro h' e; simp [edgeLoop] at e
  | fuel + 1, h, es, op2, w, h2, hall => by
    intro h' e
    unfold edgeLoop at e
    simp only at e
    have hs : (h.edge op2).isNone = false := by
      cases he : h.edge op2 with
      | none => exact absurd he (hall op2 h2)
      | some x => rfl
    simp only [hs, Bool.and_false, Bool.false_eq_true, if_false] at e
    split at e
    · exact edgeLoop_noop r op i ring fuel h _ (h.next op2) w (w.next_mem h2).1 hall h' e
    · simp only [Except.ok.injEq] at e; exact e.symm

/-- in the enclosing case (`results_` has one ring without collinear nodes, all of whose nodes are registered already)
`CheckEdges` leaves all edge lists as they are -/
theorem checkEdges_lists_unchanged (r : Rect) (h : Heap) (ring : Nat → List Nat) (w : RingsWF h ring) (hlen : h.results.length ≤ 1)
    (hall : ∀ k ∈ ring 0, h.edge k ≠ none) (hnc : ∀ x ∈ ring 0, h.collinearAt x = false) :
    ∀ h', checkEdges r h = .ok h' → h'.edges = h.edges := by
  intro h' hrun
  obtain ⟨h'', e, run⟩ := checkEdges_run r h ring w hlen
  rw [e] at hrun
  cases hrun
  rcases run with ⟨_, rfl⟩ | ⟨h1, fr, ⟨_, hn, _⟩ | ⟨op1, L, _, hm, wL, hL, e, _, _⟩⟩
  · rfl
  · exact absurd hnc hn
  · rw [edgeLoop_noop r op1 0 (upd ring 0 L) _ (withSlot h1 0 (some op1)) _ op1 wL (by rw [upd_same]; exact hm)
      (fun k hk => by
        rw [upd_same, hL hnc] at hk
        show h1.edge k ≠ none
        rw [fr.edge]; exact hall k hk) _ e]
    exact fr.edges

end Clipper.Lemmas.RCT

/- Geometry of `GetSegmentIntersection` against the four rectangle edges for sign-exact arithmetic: the call succeeds iff
the segment meets the closed edge without being parallel to it (`HitR`, in coordinates relative to the first point;
`hit_edge` for an edge of either orientation in the frame of Lemmas/RectEdge.lean), and the symmetries of that condition.
Core Lean only. -/
import ClipperVerif.Lemmas.RectEdge

namespace Clipper.Lemmas.RCE
open Clipper Clipper.Model.RC

/-- the arithmetic reports the exact sign of every cross product (zero and positive are what the code inspects) -/
def SignExact (A : Arith) : Prop :=
  ∀ a b c : Pt, (A.cross a b c = 0 ↔ crossZ a b c = 0) ∧ (A.cross a b c > 0 ↔ crossZ a b c > 0)

/-- `GetSegmentIntersectPt` always delivers a point -/
def IsectTotal (A : Arith) : Prop := ∀ a b c d : Pt, (A.isect a b c d).isSome = true

end Clipper.Lemmas.RCE

namespace Clipper.Lemmas.RCG
open Clipper Clipper.Model.RC Clipper.Lemmas.RC Clipper.Lemmas.RCE Clipper.Lemmas.RLG

/-- the arithmetic with the exact integer cross product and `A`'s intersection routine -/
def exactOf (A : Arith) : Arith := ⟨crossZ, A.isect⟩

theorem seg_exact {A : Arith} (hA : SignExact A) (p1 p2 p3 p4 ip : Pt) :
    segIntersection A p1 p2 p3 p4 ip = segIntersection (exactOf A) p1 p2 p3 p4 ip := by
  have z : ∀ a b c, (A.cross a b c = 0) = (crossZ a b c = 0) := fun a b c => propext (hA a b c).1
  have g : ∀ a b c, (A.cross a b c > 0) = (crossZ a b c > 0) := fun a b c => propext (hA a b c).2
  unfold segIntersection exactOf
  simp only [z, g]

theorem tryArms_exact {A : Arith} (hA : SignExact A) (p p2 : Pt) (l : List Arm) (loc : Location) (ip : Pt) :
    tryArms A p p2 l loc ip = tryArms (exactOf A) p p2 l loc ip := by
  induction l generalizing ip with
  | nil => rfl
  | cons arm rest ih =>
    unfold tryArms
    rw [seg_exact hA]
    simp only [ih]

theorem getIntersection_exact {A : Arith} (hA : SignExact A) (r : Rect) (p p2 : Pt) (loc : Location) (ip : Pt) :
    getIntersection A r p p2 loc ip = getIntersection (exactOf A) r p p2 loc ip :=
  tryArms_exact hA p p2 _ loc ip

theorem exactOf_total {A : Arith} (ht : IsectTotal A) : IsectTotal (exactOf A) := ht

/-- when `GetSegmentIntersection` succeeds, with exact signs -/
theorem seg_iff {A : Arith} (ht : IsectTotal A) (p1 p2 p3 p4 : Pt) :
    (∃ q, SegFinds (exactOf A) p1 p2 p3 p4 q) ↔
    (crossZ p1 p3 p4 = 0 ∧ crossZ p2 p3 p4 ≠ 0 ∧ Touches p1 p3 p4) ∨
    (crossZ p1 p3 p4 ≠ 0 ∧ crossZ p2 p3 p4 = 0 ∧ Touches p2 p3 p4) ∨
    (crossZ p1 p3 p4 ≠ 0 ∧ crossZ p2 p3 p4 ≠ 0 ∧ ¬ (crossZ p1 p3 p4 > 0 ↔ crossZ p2 p3 p4 > 0) ∧
      ((crossZ p3 p1 p2 = 0 ∧ Touches p3 p1 p2) ∨
       (crossZ p3 p1 p2 ≠ 0 ∧ crossZ p4 p1 p2 = 0 ∧ Touches p4 p1 p2) ∨
       (crossZ p3 p1 p2 ≠ 0 ∧ crossZ p4 p1 p2 ≠ 0 ∧ ¬ (crossZ p3 p1 p2 > 0 ↔ crossZ p4 p1 p2 > 0)))) := by
  have hq : ∃ q, A.isect p1 p2 p3 p4 = some q := Option.isSome_iff_exists.mp (ht p1 p2 p3 p4)
  simp only [SegFinds, exactOf, exists_or, exists_and_left, exists_eq, hq, and_true]

/-- "The segment from `p1` to `p1 + (dx, dy)` meets the closed axis-parallel edge and is not parallel to it", in
coordinates relative to `p1`: the edge lies on the line at (signed) distance `a` along the first axis (the axis
perpendicular to the edge) and spans `[p, q]` along the second.  The segment reaches that line (`a` between `0` and
`dx`), and does so at the second coordinate `a * dy / dx`, which lies in `[p, q]`. -/
def HitR (a p q dx dy : Int) : Prop := dx ≠ 0 ∧ Btw 0 a dx ∧ Btw (dx * p) (a * dy) (dx * q)

/-- the span test oriented by the direction along the first axis -/
theorem hitR_of_pos {a p q dx dy : Int} (h : 0 ≤ a ∧ a ≤ dx ∧ 0 < dx ∧ dx * p ≤ a * dy ∧ a * dy ≤ dx * q) :
    HitR a p q dx dy :=
  ⟨by omega, Or.inl ⟨h.1, h.2.1⟩, Or.inl h.2.2.2⟩

/-- mirror image along the first axis -/
theorem hitR_neg1 (a p q dx dy : Int) : HitR (-a) p q (-dx) dy ↔ HitR a p q dx dy := by
  unfold HitR Btw
  rw [Int.neg_mul, Int.neg_mul, Int.neg_mul]
  omega

/-- mirror image along the second axis -/
theorem hitR_neg2 (a p q dx dy : Int) : HitR a (-q) (-p) dx (-dy) ↔ HitR a p q dx dy := by
  unfold HitR Btw
  rw [Int.mul_neg, Int.mul_neg, Int.mul_neg]
  omega

/-- the condition does not depend on the direction of the segment -/
theorem hitR_swap (a p q dx dy : Int) : HitR a p q dx dy ↔ HitR (a - dx) (p - dy) (q - dy) (-dx) (-dy) := by
  unfold HitR Btw
  rw [Int.neg_mul, Int.neg_mul, Int.mul_neg, Int.mul_sub, Int.mul_sub, Int.sub_mul]
  omega

/-- nor on the order in which the two ends of the edge are given -/
theorem hitR_comm (a p q dx dy : Int) : HitR a p q dx dy ↔ HitR a q p dx dy := by
  unfold HitR Btw; omega

theorem hitR_congr {a a' p p' q q' dx dx' dy dy' : Int} (h : a = a' ∧ p = p' ∧ q = q' ∧ dx = dx' ∧ dy = dy') :
    HitR a p q dx dy ↔ HitR a' p' q' dx' dy' := by
  obtain ⟨h1, h2, h3, h4, h5⟩ := h
  subst h1 h2 h3 h4 h5; rfl

theorem mul_le_mul_iff_of_pos {d x y : Int} (hd : 0 < d) : d * x ≤ d * y ↔ x ≤ y :=
  ⟨fun h => Int.le_of_mul_le_mul_left h hd, fun h => Int.mul_le_mul_of_nonneg_left h (Int.le_of_lt hd)⟩

theorem mul_le_mul_iff_of_neg {d x y : Int} (hd : d < 0) : d * x ≤ d * y ↔ y ≤ x := by
  have := mul_le_mul_iff_of_pos (d := -d) (x := y) (y := x) (by omega)
  rw [Int.neg_mul, Int.neg_mul] at this
  omega

/-- multiplying by a non-zero factor keeps betweenness -/
theorem btw_mul {d x y z : Int} (hd : d ≠ 0) : Btw (d * x) (d * y) (d * z) ↔ Btw x y z := by
  unfold Btw
  rcases Int.lt_or_gt_of_ne hd with h | h
  · rw [mul_le_mul_iff_of_neg h, mul_le_mul_iff_of_neg h, mul_le_mul_iff_of_neg h, mul_le_mul_iff_of_neg h]; omega
  · rw [mul_le_mul_iff_of_pos h, mul_le_mul_iff_of_pos h, mul_le_mul_iff_of_pos h, mul_le_mul_iff_of_pos h]

/-- two numbers at signed distances `r3`, `r4` (up to a common sign) from `m` lie on opposite sides of `m`, or one of
them is `m`, iff `m` is between them -/
theorem span_core {m mp mq r3 r4 : Int}
    (e34 : (r3 = m - mp ∧ r4 = m - mq) ∨ (r3 = -(m - mp) ∧ r4 = -(m - mq))) :
    (r3 = 0 ∨ r4 = 0 ∨ ¬ (r3 > 0 ↔ r4 > 0)) ↔ Btw mp m mq := by
  unfold Btw; omega

/-- The success condition of `GetSegmentIntersection` against an axis-parallel edge, read in coordinates: `r1 … r4` are the
four cross products (`K` the signed length of the edge), `on1 … on4` the end-point-or-span tests. -/
theorem hit_core {a p q dx dy K r1 r2 r3 r4 : Int} {on1 on2 on3 on4 : Prop} (hK : K ≠ 0)
    (e1 : r1 = K * a) (e2 : r2 = K * (a - dx))
    (e34 : (r3 = a * dy - dx * p ∧ r4 = a * dy - dx * q) ∨ (r3 = -(a * dy - dx * p) ∧ r4 = -(a * dy - dx * q)))
    (h1 : a = 0 → (on1 ↔ Btw p 0 q)) (h2 : dx = a → (on2 ↔ Btw p dy q))
    (h3 : r3 = 0 → Across a dx → on3)
    (h4 : r4 = 0 → Across a dx → on4) :
    ((r1 = 0 ∧ r2 ≠ 0 ∧ on1) ∨ (r1 ≠ 0 ∧ r2 = 0 ∧ on2) ∨
      (r1 ≠ 0 ∧ r2 ≠ 0 ∧ ¬ (r1 > 0 ↔ r2 > 0) ∧
        ((r3 = 0 ∧ on3) ∨ (r3 ≠ 0 ∧ r4 = 0 ∧ on4) ∨ (r3 ≠ 0 ∧ r4 ≠ 0 ∧ ¬ (r3 > 0 ↔ r4 > 0))))) ↔
    HitR a p q dx dy := by
  -- the end points of the segment: the tests on `r1`, `r2` are those on `a`, `a - dx` (`omega` would split on `e34`)
  obtain ⟨hr1, hr2, hopp⟩ := scaled_signs (x := a) (y := a - dx) hK
  rw [← e1] at hr1; rw [← e2] at hr2; rw [← e1, ← e2] at hopp
  clear e1 e2
  have hr2 : r2 = 0 ↔ a = dx := by clear e34 hopp; omega
  have hopp : a ≠ 0 → a ≠ dx → (¬ (r1 > 0 ↔ r2 > 0) ↔ Across a dx) := by clear e34; omega
  -- the end points of the edge lie on opposite sides of (or on) the line of the segment
  have hsp := span_core e34
  clear e34
  unfold HitR
  by_cases ha : a = 0
  · -- the first point is on the line of the edge
    have hb : dx ≠ 0 → (Btw (dx * p) (a * dy) (dx * q) ↔ Btw p 0 q) := fun hdx => by
      rw [ha, Int.zero_mul, ← Int.mul_zero dx, btw_mul hdx, Int.mul_zero]
    have hdx : r2 ≠ 0 ↔ dx ≠ 0 := by rw [Ne, hr2, ha]; omega
    have hbt : Btw 0 a dx := by unfold Btw; omega
    constructor
    · rintro (⟨_, h, ho⟩ | ⟨h, _⟩ | ⟨h, _⟩)
      · exact ⟨hdx.mp h, hbt, (hb (hdx.mp h)).mpr ((h1 ha).mp ho)⟩
      · exact absurd (hr1.mpr ha) h
      · exact absurd (hr1.mpr ha) h
    · rintro ⟨h, _, hc⟩
      exact Or.inl ⟨hr1.mpr ha, hdx.mpr h, (h1 ha).mpr ((hb h).mp hc)⟩
  · have n1 : r1 ≠ 0 := fun h => ha (hr1.mp h)
    by_cases hd : dx = a
    · -- the second point is on the line of the edge
      have hb : Btw (dx * p) (a * dy) (dx * q) ↔ Btw p dy q := by rw [hd, btw_mul ha]
      have hbt : Btw 0 a dx := by unfold Btw; omega
      constructor
      · rintro (⟨h, _⟩ | ⟨_, _, ho⟩ | ⟨_, h, _⟩)
        · exact absurd h n1
        · exact ⟨by omega, hbt, hb.mpr ((h2 hd).mp ho)⟩
        · exact absurd (hr2.mpr hd.symm) h
      · rintro ⟨_, _, hc⟩
        exact Or.inr (Or.inl ⟨n1, hr2.mpr hd.symm, (h2 hd).mpr (hb.mp hc)⟩)
    · have n2 : r2 ≠ 0 := fun h => hd (hr2.mp h).symm
      have hbt : Btw 0 a dx ↔ Across a dx := by clear hopp hsp; unfold Btw; omega
      have hopp := hopp ha (fun h => hd h.symm)
      rw [hbt, ← hsp]
      constructor
      · rintro (⟨h, _⟩ | ⟨_, h, _⟩ | ⟨_, _, ho, h⟩)
        · exact absurd h n1
        · exact absurd h n2
        · refine ⟨by have := hopp.mp ho; clear hsp hopp; omega, hopp.mp ho, ?_⟩
          rcases h with ⟨h, _⟩ | ⟨_, h, _⟩ | ⟨_, _, h⟩
          · exact Or.inl h
          · exact Or.inr (Or.inl h)
          · exact Or.inr (Or.inr h)
      · rintro ⟨_, ho, h⟩
        refine Or.inr (Or.inr ⟨n1, n2, hopp.mpr ho, ?_⟩)
        by_cases h3' : r3 = 0
        · exact Or.inl ⟨h3', h3 h3' ho⟩
        · by_cases h4' : r4 = 0
          · exact Or.inr (Or.inl ⟨h3', h4', h4 h4' ho⟩)
          · exact Or.inr (Or.inr ⟨h3', h4', (h.resolve_left h3').resolve_left h4'⟩)

/-- an end `(c, l)` of an edge that lies on the line of a segment `p q` strictly straddling the line of the edge passes
the end-point-or-span test of `p q` -/
theorem corner_touches (h : Bool) (c l : Int) (p q : Pt) (hs : Across (c - ac h p) (ac h q - ac h p))
    (hg : (c - ac h p) * (al h q - al h p) - (l - al h p) * (ac h q - ac h p) = 0) : Touches (ept h c l) p q := by
  have ⟨b0, b1⟩ := along_of_across hs (Int.sub_eq_zero.mp hg)
  refine Or.inr (Or.inr ?_)
  cases h <;> simp only [ac, al, ept] at hs b0 b1 ⊢
  · by_cases hy : p.y = q.y
    · rw [onSpan_x hy]; exact (between_iff _ _ _).mpr (by dsimp only; omega)
    · rw [onSpan_y hy]; exact (between_iff _ _ _).mpr (by have := b1 (by omega); dsimp only; omega)
  · rw [onSpan_y (by omega)]; exact (between_iff _ _ _).mpr (by dsimp only; omega)

/-- `GetSegmentIntersection(p1, p2, e1, e2)` against an axis-parallel edge of either orientation, given in either
direction, succeeds iff the segment hits the edge (`HitR` in the coordinates across and along the edge). -/
theorem hit_edge {A : Arith} (ht : IsectTotal A) (h : Bool) (c l1 l2 : Int) (hl : l1 ≠ l2) (p1 p2 : Pt) :
    (∃ q, SegFinds (exactOf A) p1 p2 (ept h c l1) (ept h c l2) q) ↔
      HitR (c - ac h p1) (l1 - al h p1) (l2 - al h p1) (ac h p2 - ac h p1) (al h p2 - al h p1) := by
  have k1 : -sg h ≠ 0 := by cases h <;> decide
  rw [seg_iff ht]
  apply hit_core (K := sg h * (l2 - l1)) (Int.mul_ne_zero (by cases h <;> decide) (by omega))
  · exact crossZ_edge h p1 c l1 l2
  · rw [crossZ_edge, show c - ac h p1 - (ac h p2 - ac h p1) = c - ac h p2 by omega]
  · rw [crossZ_corner, crossZ_corner]
    have := Int.mul_comm (ac h p2 - ac h p1)
    cases h <;> simp only [sg, Int.neg_neg, Int.one_mul, Int.neg_mul, this, and_self, true_or, or_true]
  · intro ha
    rw [touches_edge h p1 c l1 l2 ha hl]; unfold Btw; omega
  · intro ha
    rw [touches_edge h p2 c l1 l2 (by omega) hl]; unfold Btw; omega
  · intro hc hs
    rw [crossZ_corner] at hc
    exact corner_touches h c l1 p1 p2 hs ((scaled_signs (y := 0) k1).1.mp hc)
  · intro hc hs
    rw [crossZ_corner] at hc
    exact corner_touches h c l2 p1 p2 hs ((scaled_signs (y := 0) k1).1.mp hc)

theorem hit_left {A : Arith} (ht : IsectTotal A) (r : Rect) (hh : r.top < r.bottom) (p1 p2 : Pt) :
    (∃ q, SegFinds (exactOf A) p1 p2 r.c0 r.c3 q) ↔
      HitR (r.left - p1.x) (r.top - p1.y) (r.bottom - p1.y) (p2.x - p1.x) (p2.y - p1.y) :=
  hit_edge ht false r.left r.top r.bottom (by omega) p1 p2

theorem hit_right {A : Arith} (ht : IsectTotal A) (r : Rect) (hh : r.top < r.bottom) (p1 p2 : Pt) :
    (∃ q, SegFinds (exactOf A) p1 p2 r.c1 r.c2 q) ↔
      HitR (r.right - p1.x) (r.top - p1.y) (r.bottom - p1.y) (p2.x - p1.x) (p2.y - p1.y) :=
  hit_edge ht false r.right r.top r.bottom (by omega) p1 p2

theorem hit_top {A : Arith} (ht : IsectTotal A) (r : Rect) (hw : r.left < r.right) (p1 p2 : Pt) :
    (∃ q, SegFinds (exactOf A) p1 p2 r.c0 r.c1 q) ↔
      HitR (r.top - p1.y) (r.left - p1.x) (r.right - p1.x) (p2.y - p1.y) (p2.x - p1.x) :=
  hit_edge ht true r.top r.left r.right (by omega) p1 p2

/-- `GetIntersection` passes the bottom edge from right to left -/
theorem hit_bottom {A : Arith} (ht : IsectTotal A) (r : Rect) (hw : r.left < r.right) (p1 p2 : Pt) :
    (∃ q, SegFinds (exactOf A) p1 p2 r.c2 r.c3 q) ↔
      HitR (r.bottom - p1.y) (r.left - p1.x) (r.right - p1.x) (p2.y - p1.y) (p2.x - p1.x) :=
  (hit_edge ht true r.bottom r.right r.left (by omega) p1 p2).trans (hitR_comm _ _ _ _ _)

end Clipper.Lemmas.RCG

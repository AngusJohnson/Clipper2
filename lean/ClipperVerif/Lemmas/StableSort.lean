/-
Uniqueness of the stable sorted permutation, for core's `List.mergeSort`
(which is how the models render `std::stable_sort`).  Core Lean only.
-/
namespace Clipper.Lemmas.StableSort
open List

variable {α : Type} {le : α → α → Bool}

/-- the elements of `l` equivalent to `c` under the preorder `le`, in their order of appearance -/
def cls (le : α → α → Bool) (c : α) (l : List α) : List α := l.filter (fun x => le c x && le x c)

theorem cls_append (c : α) (l₁ l₂ : List α) : cls le c (l₁ ++ l₂) = cls le c l₁ ++ cls le c l₂ := by
  simp [cls]

theorem cls_pairwise (trans : ∀ a b c, le a b → le b c → le a c) (c : α) (l : List α) :
    (cls le c l).Pairwise (fun a b => le a b) := by
  induction l with
  | nil => simp [cls]
  | cons a l ih =>
    unfold cls at ih ⊢
    rw [List.filter_cons]
    split
    · rename_i ha
      rw [List.pairwise_cons]
      refine ⟨?_, ih⟩
      intro b hb
      simp only [List.mem_filter, Bool.and_eq_true] at hb ha
      exact trans a c b ha.2 hb.2.1
    · exact ih

/-- Merging two sorted lists is stable: equivalent elements keep their order, those of the left list first. -/
theorem cls_merge (trans : ∀ a b c, le a b → le b c → le a c) (c : α) (L R : List α) (hL : L.Pairwise (fun a b => le a b)) :
    cls le c (merge L R le) = cls le c L ++ cls le c R := by
  induction L generalizing R with
  | nil => rw [List.nil_merge]; rfl
  | cons l L ihL =>
    have hL' := List.pairwise_cons.1 hL
    induction R with
    | nil => rw [List.merge_right, show cls le c [] = [] from rfl, List.append_nil]
    | cons r R ihR =>
      rw [List.cons_merge_cons]
      split
      · rw [show ∀ X, cls le c (l :: X) = cls le c [l] ++ cls le c X from fun X => cls_append c [l] X,
          ihL (r :: R) hL'.2, ← List.append_assoc]
        exact congrArg (· ++ _) (cls_append c [l] L).symm
      · next hlr =>
        unfold cls at ihR ⊢
        rw [List.filter_cons, List.filter_cons (x := r) (xs := R), ihR]
        split
        · next hr =>
          -- `r` is in the class of `c`, and `l` is not below `r`: nothing of the left list is in the class
          rw [List.filter_eq_nil_iff.2, List.nil_append, List.nil_append]
          intro a ha hac
          rw [Bool.and_eq_true] at hr hac
          refine hlr (trans l a r ?_ (trans a c r hac.2 hr.1))
          rcases List.mem_cons.1 ha with rfl | ha
          · exact trans _ c _ hac.2 hac.1
          · exact hL'.1 a ha
        · rfl

/-- Stability: sorting does not reorder equivalent elements. -/
theorem cls_mergeSort (trans : ∀ a b c, le a b → le b c → le a c) (total : ∀ a b, le a b || le b a)
    (c : α) (l : List α) : cls le c (mergeSort l le) = cls le c l := by
  -- the class is a sorted sublist of `l`, so it is a sublist of the sort (`sublist_mergeSort`), hence of the class of the sort, which
  -- is as long
  have hsub : cls le c l <+ mergeSort l le :=
    sublist_mergeSort trans total (cls_pairwise trans c l) (by unfold cls; exact List.filter_sublist)
  have hsub2 : cls le c l <+ cls le c (mergeSort l le) := by
    have := hsub.filter (fun x => le c x && le x c)
    unfold cls at this ⊢
    rwa [List.filter_filter, show (fun x => ((le c x && le x c) && (le c x && le x c))) = (fun x => le c x && le x c) from by funext x; simp] at this
  have hlen : (cls le c (mergeSort l le)).length = (cls le c l).length := by
    unfold cls
    exact ((mergeSort_perm l le).filter _).length_eq
  exact (hsub2.eq_of_length hlen.symm).symm

/-- Two sorted lists whose equivalence classes agree (as lists) are equal. -/
theorem eq_of_sorted_of_cls_eq (total : ∀ a b, le a b || le b a)
    (A B : List α) (hA : A.Pairwise (fun a b => le a b)) (hB : B.Pairwise (fun a b => le a b))
    (h : ∀ c, cls le c A = cls le c B) : A = B := by
  have refl : ∀ a, le a a = true := fun a => by simpa using total a a
  have self_mem : ∀ {x : α} {l : List α}, x ∈ l → x ∈ cls le x l :=
    fun hx => List.mem_filter.2 ⟨hx, by rw [refl, Bool.and_self]⟩
  induction A generalizing B with
  | nil =>
    cases B with
    | nil => rfl
    | cons b B' => exact absurd (h b ▸ self_mem List.mem_cons_self) List.not_mem_nil
  | cons a A' ih =>
    cases B with
    | nil => exact absurd ((h a).symm ▸ self_mem List.mem_cons_self) List.not_mem_nil
    | cons b B' =>
      -- each head occurs in the other list, so the heads are equivalent; the class of `a` starts with either: they are equal
      have hbA : b ∈ a :: A' := (List.mem_filter.1 ((h b).symm ▸ self_mem List.mem_cons_self)).1
      have haB : a ∈ b :: B' := (List.mem_filter.1 (h a ▸ self_mem List.mem_cons_self)).1
      have hab : le a b = true := (List.mem_cons.1 hbA).elim (fun e => e ▸ refl b) ((List.pairwise_cons.1 hA).1 b)
      have hba : le b a = true := (List.mem_cons.1 haB).elim (fun e => e ▸ refl a) ((List.pairwise_cons.1 hB).1 a)
      have hhead := h a
      unfold cls at hhead
      rw [List.filter_cons_of_pos (by rw [refl, Bool.and_self]), List.filter_cons_of_pos (by rw [hab, hba, Bool.and_self])] at hhead
      cases (List.cons.inj hhead).1
      refine congrArg _ (ih B' (List.pairwise_cons.1 hA).2 (List.pairwise_cons.1 hB).2 (fun c => ?_))
      have hc := h c
      unfold cls at hc ⊢
      rw [List.filter_cons, List.filter_cons] at hc
      split at hc
      · exact (List.cons.inj hc).2
      · exact hc

/-- The stable sort of a list is determined by: sorted + same equivalence classes. -/
theorem eq_mergeSort_of_sorted_of_cls (trans : ∀ a b c, le a b → le b c → le a c) (total : ∀ a b, le a b || le b a)
    (A l : List α) (hA : A.Pairwise (fun a b => le a b)) (h : ∀ c, cls le c A = cls le c l) :
    A = mergeSort l le :=
  eq_of_sorted_of_cls_eq total A _ hA (pairwise_mergeSort trans total l)
    (fun c => by rw [h c, cls_mergeSort trans total])

/-- Re-sorting after appending to an already sorted prefix gives the sort of everything:
`stable_sort (stable_sort xs ++ ys) = stable_sort (xs ++ ys)`. -/
theorem mergeSort_mergeSort_append (trans : ∀ a b c, le a b → le b c → le a c) (total : ∀ a b, le a b || le b a)
    (xs ys : List α) : mergeSort (mergeSort xs le ++ ys) le = mergeSort (xs ++ ys) le := by
  apply eq_mergeSort_of_sorted_of_cls trans total _ _ (pairwise_mergeSort trans total _)
  intro c
  rw [cls_mergeSort trans total, cls_append, cls_mergeSort trans total, ← cls_append]

theorem mergeSort_idem (trans : ∀ a b c, le a b → le b c → le a c) (total : ∀ a b, le a b || le b a)
    (xs : List α) : mergeSort (mergeSort xs le) le = mergeSort xs le :=
  mergeSort_of_pairwise (pairwise_mergeSort trans total xs)

end Clipper.Lemmas.StableSort

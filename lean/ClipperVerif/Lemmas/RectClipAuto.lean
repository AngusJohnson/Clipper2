/- Helper lemmas for the model of `RectClip64::ExecuteInternal` (Model/RectClipAuto.lean). Core Lean only. -/
import ClipperVerif.Model.RectClipAuto
import ClipperVerif.Lemmas.RectClip
namespace Clipper.Lemmas.RCA
open Clipper Clipper.Model.RC Clipper.Lemmas.RC

theorem cornerAt_mem {r : Rect} {l : Location} {p : Pt} (h : cornerAt r l = some p) : p ∈ r.asPath := by
  cases l <;> simp [cornerAt] at h <;> subst h <;> simp [Rect.asPath]

theorem cornerAt_isSome {r : Rect} {l : Location} (h : l ≠ .inside) : ∃ p, cornerAt r l = some p := by
  cases l <;> first | exact absurd rfl h | exact ⟨_, rfl⟩

theorem addCorner1_mem {r : Rect} {a b : Location} {p : Pt} (h : addCorner1 r a b = some p) : p ∈ r.asPath := by
  unfold addCorner1 at h
  split at h <;> exact cornerAt_mem h

theorem addCorner1_isSome (r : Rect) {a b : Location} (ha : a ≠ .inside) (hb : b ≠ .inside) :
    ∃ p, addCorner1 r a b = some p := by
  unfold addCorner1
  split
  · exact cornerAt_isSome ha
  · exact cornerAt_isSome hb

theorem adj_ne_inside (a : Location) (cw : Bool) : Gen.GetAdjacentLocation a cw ≠ .inside := by
  cases a <;> cases cw <;> decide

theorem addCorner2_mem {r : Rect} {a : Location} {cw : Bool} {p : Pt} (h : (addCorner2 r a cw).1 = some p) :
    p ∈ r.asPath := by
  unfold addCorner2 at h
  split at h <;> exact cornerAt_mem h

theorem addCorner2_isSome (r : Rect) {a : Location} (cw : Bool) (ha : a ≠ .inside) :
    ∃ p, (addCorner2 r a cw).1 = some p := by
  unfold addCorner2
  split
  · exact cornerAt_isSome ha
  · exact cornerAt_isSome (adj_ne_inside a false)

theorem cornerLoop_mem {r : Rect} {loc : Location} {cw : Bool} :
    ∀ (fuel : Nat) (prev : Location) (pts : List Pt), cornerLoop r loc cw fuel prev = some pts →
      ∀ p ∈ pts, p ∈ r.asPath := by
  intro fuel
  induction fuel with
  | zero => intro prev pts h; simp [cornerLoop] at h
  | succ fuel ih =>
    intro prev pts h
    unfold cornerLoop at h
    cases hc : addCorner2 r prev cw with
    | mk o prev' =>
      rw [hc] at h
      cases o with
      | none => simp at h
      | some q =>
        have hq : q ∈ r.asPath := addCorner2_mem (by rw [hc])
        simp only at h
        split at h
        · cases hr : cornerLoop r loc cw fuel prev' with
          | none => rw [hr] at h; simp at h
          | some rest =>
            rw [hr] at h
            simp only [Option.map_some, Option.some.injEq] at h
            subst h
            intro p hp
            rcases List.mem_cons.mp hp with rfl | hp
            · exact hq
            · exact ih prev' rest hr p hp
        · simp only [Option.some.injEq] at h
          subst h
          intro p hp
          simp only [List.mem_singleton] at hp
          subst hp; exact hq

/-- Entered with `prev` and `loc` both different from `Inside`, the two `do … while (prev != loc)` loops finish within the
four iterations the model grants (three when `prev ≠ loc` on entry), perform the same number of iterations, and index
`rect_as_path_` in range.  A finite fact: the 32 combinations are evaluated. -/
theorem corner_loops (r : Rect) (prev loc : Location) (cw : Bool) (hp : prev ≠ .inside) (hl : loc ≠ .inside) :
    ∃ pts ls, cornerLoop r loc cw 4 prev = some pts ∧ startLocsLoop loc cw 4 prev = some ls ∧
      1 ≤ pts.length ∧ pts.length ≤ 4 ∧ (prev ≠ loc → pts.length ≤ 3) ∧ ls.length = pts.length := by
  cases prev <;> cases loc <;> cases cw <;>
    first | exact absurd rfl hp | exact absurd rfl hl | exact ⟨_, _, rfl, rfl, by simp⟩

theorem cornerLoop_isSome (r : Rect) (prev loc : Location) (cw : Bool) (hp : prev ≠ .inside) (hl : loc ≠ .inside) :
    ∃ pts, cornerLoop r loc cw 4 prev = some pts :=
  (corner_loops r prev loc cw hp hl).imp fun _ h => h.choose_spec.1

theorem startLocsLoop_isSome (prev loc : Location) (cw : Bool) (hp : prev ≠ .inside) (hl : loc ≠ .inside) :
    ∃ sl, startLocsLoop loc cw 4 prev = some sl := by
  obtain ⟨_, ls, _, h, _⟩ := corner_loops ⟨0, 0, 0, 0⟩ prev loc cw hp hl
  exact ⟨ls, h⟩

/-- the loop `do { start_locs_.emplace_back(prev); … } while (prev != loc)` does not end, whatever the fuel, when its
target is `Inside`: `GetAdjacentLocation` never returns `Inside` -/
theorem startLocsLoop_inside (cw : Bool) (fuel : Nat) (prev : Location) : startLocsLoop .inside cw fuel prev = none := by
  induction fuel generalizing prev with
  | zero => rfl
  | succ fuel ih =>
    unfold startLocsLoop
    simp only
    rw [if_pos (adj_ne_inside prev cw), ih]
    rfl

theorem startLocsLoop_ne_inside {loc : Location} {cw : Bool} :
    ∀ (fuel : Nat) (prev : Location) (sl : List Location), startLocsLoop loc cw fuel prev = some sl →
      prev ≠ .inside → ∀ l ∈ sl, l ≠ .inside := by
  intro fuel
  induction fuel with
  | zero => intro prev sl h; simp [startLocsLoop] at h
  | succ fuel ih =>
    intro prev sl h hp
    unfold startLocsLoop at h
    simp only at h
    split at h
    · cases hr : startLocsLoop loc cw fuel (Gen.GetAdjacentLocation prev cw) with
      | none => rw [hr] at h; cases h
      | some rest =>
        rw [hr] at h
        cases h
        intro l hl
        rcases List.mem_cons.mp hl with rfl | hl
        · exact hp
        · exact ih _ rest hr (adj_ne_inside prev cw) l hl
    · cases h
      intro l hl
      rw [List.mem_singleton.mp hl]; exact hp

/-- a successful `GetIntersection` reports one of the four sides; a failed one leaves `loc` alone -/
theorem getIntersection_loc (A : Arith) (r : Rect) (p p2 : Pt) (loc : Location) (ip : Pt) :
    ((getIntersection A r p p2 loc ip).1 = true → (getIntersection A r p p2 loc ip).2.1 ≠ .inside) ∧
    ((getIntersection A r p p2 loc ip).1 = false → (getIntersection A r p p2 loc ip).2.1 = loc) := by
  rcases getIntersection_cases A r p p2 loc ip with ⟨hf, hl⟩ | ⟨ht, hl, _⟩
  · exact ⟨fun h => absurd (hf.symm.trans h) (by simp), fun _ => hl⟩
  · exact ⟨fun _ => hl, fun h => absurd (ht.symm.trans h) (by simp)⟩

theorem getIntersection_loc_ne (A : Arith) (r : Rect) (p p2 : Pt) (loc : Location) (ip : Pt) (h : loc ≠ .inside) :
    (getIntersection A r p p2 loc ip).2.1 ≠ .inside := by
  rcases getIntersection_cases A r p p2 loc ip with ⟨_, hl⟩ | ⟨_, hl, _⟩
  · rw [hl]; exact h
  · exact hl

/-- `Q` holds for the rectangle corners and for every intersection point computed against a rectangle edge -/
def EdgeSat (A : Arith) (r : Rect) (Q : Pt → Prop) : Prop :=
  (∀ c ∈ r.asPath, Q c) ∧ ∀ a b c d q, IsEdge r c d → A.isect a b c d = some q → Q q

/-- whatever a successful `GetIntersection` reports is one of the two end points of the segment, a rectangle corner or a
computed intersection -/
theorem getIntersection_sat {A : Arith} {r : Rect} (Q : Pt → Prop) (hQ : EdgeSat A r Q) {p p2 : Pt} (hp : Q p)
    (hp2 : Q p2) (loc : Location) (ip : Pt) (h : (getIntersection A r p p2 loc ip).1 = true) :
    Q (getIntersection A r p p2 loc ip).2.2 := by
  rcases getIntersection_cases A r p p2 loc ip with ⟨hf, _⟩ | ⟨_, _, a, b, he, hs⟩
  · rw [hf] at h; cases h
  · exact hs.sat Q hp hp2 (hQ.1 _ (isEdge_mem he).1) (hQ.1 _ (isEdge_mem he).2) (hQ.2 _ _ _ _ _ he)

theorem getLocation_ready (r : Rect) (p : Pt) (l0 : Location) : Ready r (getLocation r p l0).2 p := by
  rcases getLocation_cases r p l0 with ⟨hb, e⟩ | ⟨_, e⟩ <;> rw [e]
  · grind [sideOf, OnBoundary, Ready]
  · grind [region, Ready, outsideLoc]

theorem ready_ne_inside_of_outside {r : Rect} {l : Location} {q : Pt} (h : Ready r l q) (ho : outsideLoc r q ≠ none) :
    l ≠ .inside := by
  rintro rfl; exact ho h

/-- a vertex that `GetNextLocation` classifies as not `Inside` is not strictly inside: `GetLocation` does not say
`Inside` for it either -/
theorem getLocation_ne_inside_of_ready {r : Rect} {l : Location} {q : Pt} (h : Ready r l q) (hl : l ≠ .inside)
    (l0 : Location) : (getLocation r q l0).2 ≠ .inside := by
  intro hc
  have := (getLocation_snd_inside r q l0).mp hc
  cases l <;> simp only [Ready] at h <;> first | omega | exact hl rfl

theorem gnl_idx_inside (r : Rect) (path : Path) (i : Nat) :
    (getNextLocation r path .inside i).2.1 =
      i + ((path.drop i).takeWhile (fun p => (outsideLoc r p).isNone)).length := by
  simp only [getNextLocation]; split <;> rfl

/-- from `Inside`, `GetNextLocation` either exhausts the path or stops at a vertex strictly outside: never `Inside` -/
theorem gnl_from_inside (r : Rect) (path : Path) (i : Nat) (q : Pt)
    (h : path[(getNextLocation r path .inside i).2.1]? = some q) :
    (getNextLocation r path .inside i).1 ≠ .inside ∧ outsideLoc r q = some (getNextLocation r path .inside i).1 := by
  have hs : outsideLoc r q ≠ none := gnl_stop r path .inside i q h
  rw [gnl_loc, h]
  simp only [turnLoc]
  cases ho : outsideLoc r q with
  | none => exact absurd ho hs
  | some l => exact ⟨ready_ne_inside_of_outside (outsideLoc_ready r q l ho) hs, rfl⟩

/-- `GetNextLocation` does not stop at a vertex it classifies `Inside` when it started from `Inside` -/
theorem gnl_inside_from (r : Rect) (path : Path) (loc : Location) (i : Nat) (q : Pt)
    (hq : path[(getNextLocation r path loc i).2.1]? = some q) (hl : (getNextLocation r path loc i).1 = .inside) :
    loc ≠ .inside := by
  rintro rfl; exact (gnl_from_inside r path i q hq).1 hl

/-- from an outside location the new location always differs from the old one (when the path is not exhausted) -/
theorem gnl_loc_ne (r : Rect) (path : Path) (loc : Location) (i : Nat) (q : Pt) (h : loc ≠ .inside)
    (hq : path[(getNextLocation r path loc i).2.1]? = some q) : (getNextLocation r path loc i).1 ≠ loc := by
  rw [gnl_loc, hq]
  cases loc <;> first | exact absurd rfl h | grind [turnLoc]

/-- coming from an outside location, a vertex classified `Inside` lies strictly inside the rectangle -/
theorem gnl_inside_strict (r : Rect) (path : Path) (loc : Location) (i : Nat) (q : Pt) (h : loc ≠ .inside)
    (hq : path[(getNextLocation r path loc i).2.1]? = some q) (hi : (getNextLocation r path loc i).1 = .inside) :
    r.left < q.x ∧ q.x < r.right ∧ r.top < q.y ∧ q.y < r.bottom := by
  have hs := gnl_stop r path loc i q hq
  rw [gnl_loc, hq] at hi
  cases loc <;> first | exact absurd rfl h | grind [turnLoc, Ready]

theorem prevPt_isSome (path : Path) (i : Nat) (h : i < path.length) : ∃ q, prevPt path i = some q ∧ q ∈ path := by
  unfold prevPt
  split
  · have : path.length - 1 < path.length := by omega
    exact ⟨path[path.length - 1], List.getElem?_eq_getElem this, List.getElem_mem this⟩
  · have : i - 1 < path.length := by omega
    exact ⟨path[i - 1], List.getElem?_eq_getElem this, List.getElem_mem this⟩

theorem prevPt_mem {path : Path} {i : Nat} {q : Pt} (h : prevPt path i = some q) : q ∈ path := by
  unfold prevPt at h
  split at h <;> exact List.mem_of_getElem? h

theorem indexFrom_map_snd (i : Nat) (l : List Pt) : (indexFrom i l).map (·.2) = l := by
  induction l generalizing i with
  | nil => rfl
  | cons a l ih => simp [indexFrom, ih]

theorem all_append {P : AEmit → Prop} {a b : List AEmit} (ha : ∀ e ∈ a, P e) (hb : ∀ e ∈ b, P e) :
    ∀ e ∈ a ++ b, P e := by
  intro e he
  rcases List.mem_append.mp he with h | h
  · exact ha e h
  · exact hb e h

theorem all_single {P : AEmit → Prop} {a : AEmit} (ha : P a) : ∀ e ∈ [a], P e := by
  intro e he; simp only [List.mem_singleton] at he; subst he; exact ha

theorem all_pair {P : AEmit → Prop} {a b : AEmit} (ha : P a) (hb : P b) : ∀ e ∈ [a, b], P e := by
  intro e he
  simp only [List.mem_cons, List.not_mem_nil, or_false] at he
  rcases he with rfl | rfl
  · exact ha
  · exact hb

/-- what an iteration adds after the vertices `GetNextLocation` passed (all with the index `j` it stopped at): rectangle
corners, the point of the first `GetIntersection` call `x` if it succeeded, and — only in the passing-right-through
branch (`thru`) — the point the second call `y` left behind -/
def StepExtra (r : Rect) (j : Nat) (x y : Bool × Location × Pt) (thru : Prop) (e : AEmit) : Prop :=
  e.k = j ∧ ((e.kind = .corner ∧ e.pt ∈ r.asPath) ∨ (e.kind = .cross ∧ x.1 = true ∧ e.pt = x.2.2) ∨
    (e.kind = .thru1 y.1 ∧ e.pt = y.2.2 ∧ thru))

theorem extra_corners {r : Rect} {j : Nat} {x y : Bool × Location × Pt} {thru : Prop} {pts : List Pt}
    (h : ∀ p ∈ pts, p ∈ r.asPath) : ∀ e ∈ cornerEmits j pts, StepExtra r j x y thru e := by
  intro e he
  simp only [cornerEmits, List.mem_map] at he
  obtain ⟨p, hp, rfl⟩ := he
  exact ⟨rfl, Or.inl ⟨rfl, h p hp⟩⟩

theorem extra_cross {r : Rect} {j : Nat} {x y : Bool × Location × Pt} {thru : Prop} (hx : x.1 = true) :
    StepExtra r j x y thru ⟨j, x.2.2, .cross⟩ := ⟨rfl, Or.inr (Or.inl ⟨rfl, hx, rfl⟩)⟩

theorem stepOutside_cases {A : Arith} {r : Rect} (c : Ctl) (loc : Location) (i : Nat) (adds : List AEmit)
    (cur prv : Pt) (x y : Bool × Location × Pt) (thru : Prop) :
    (stepOutside A r c loc i adds cur prv = .fault .corner ∧ (loc = .inside ∨ c.loc = .inside)) ∨
    ∃ rest sl cl, stepOutside A r c loc i adds cur prv = .next (adds ++ rest) sl ⟨i + 1, loc, cl, c.firstCross⟩ ∧
      (∀ e ∈ rest, StepExtra r i x y thru e) ∧ (c.loc ≠ .inside → ∀ l ∈ sl, l ≠ .inside) ∧
      (c.crossingLoc = .inside → rest = [] ∧ cl = .inside ∧ loc ≠ .inside) := by
  unfold stepOutside
  simp only
  by_cases h1 : c.crossingLoc = .inside
  · rw [if_pos h1]
    cases hs : startLocsLoop loc (isClockwise A r c.loc loc prv cur) 4 c.loc with
    | none =>
      refine Or.inl ⟨rfl, ?_⟩
      apply Classical.byContradiction; intro hn
      obtain ⟨sl, h⟩ := startLocsLoop_isSome c.loc loc (isClockwise A r c.loc loc prv cur)
        (fun h => hn (Or.inr h)) (fun h => hn (Or.inl h))
      rw [hs] at h; cases h
    | some sl =>
      refine Or.inr ⟨[], sl, _, by rw [List.append_nil], by simp, startLocsLoop_ne_inside _ _ _ hs,
        fun _ => ⟨rfl, h1, fun hl => ?_⟩⟩
      rw [hl, startLocsLoop_inside] at hs; cases hs
  · rw [if_neg h1]
    by_cases h2 : c.loc ≠ .inside ∧ c.loc ≠ loc
    · rw [if_pos h2]
      cases hs : cornerLoop r loc (isClockwise A r c.loc loc prv cur) 4 c.loc with
      | none =>
        refine Or.inl ⟨rfl, Or.inl ?_⟩
        apply Classical.byContradiction; intro hl
        obtain ⟨pts, h⟩ := cornerLoop_isSome r c.loc loc (isClockwise A r c.loc loc prv cur) h2.1 hl
        rw [hs] at h; cases h
      | some pts =>
        exact Or.inr ⟨_, [], _, rfl, extra_corners (cornerLoop_mem _ _ _ hs), by simp, fun h => absurd h h1⟩
    · rw [if_neg h2]
      exact Or.inr ⟨[], [], _, by rw [List.append_nil], by simp, by simp, fun h => absurd h h1⟩

theorem stepEnter_cases {A : Arith} {r : Rect} (c : Ctl) (i : Nat) (adds : List AEmit) (cur prv : Pt)
    (x y : Bool × Location × Pt) (thru : Prop) (hx : x.1 = true) (hcl : x.2.1 ≠ .inside) :
    (stepEnter A r c i adds cur prv x.2.1 x.2.2 = .fault .corner ∧ c.loc = .inside) ∨
    ∃ rest sl fc, stepEnter A r c i adds cur prv x.2.1 x.2.2 = .next (adds ++ rest) sl ⟨i, .inside, x.2.1, fc⟩ ∧
      (∀ e ∈ rest, StepExtra r i x y thru e) ∧ (c.loc ≠ .inside → ∀ l ∈ sl, l ≠ .inside) ∧
      fc = (if c.firstCross = .inside then x.2.1 else c.firstCross) := by
  have hip : ∀ e ∈ [(⟨i, x.2.2, .cross⟩ : AEmit)], StepExtra r i x y thru e := all_single (extra_cross hx)
  unfold stepEnter
  simp only
  by_cases h1 : c.firstCross = .inside
  · rw [if_pos h1]
    exact Or.inr ⟨_, _, _, rfl, hip, fun hc l hl => by rw [List.mem_singleton.mp hl]; exact hc, (if_pos h1).symm⟩
  · rw [if_neg h1]
    by_cases h2 : c.loc ≠ x.2.1
    · rw [if_pos h2]
      cases hs : cornerLoop r x.2.1 (isClockwise A r c.loc x.2.1 prv cur) 4 c.loc with
      | none =>
        refine Or.inl ⟨rfl, ?_⟩
        apply Classical.byContradiction; intro hc
        obtain ⟨pts, h⟩ := cornerLoop_isSome r c.loc x.2.1 (isClockwise A r c.loc x.2.1 prv cur) hc hcl
        rw [hs] at h; cases h
      | some pts =>
        exact Or.inr ⟨_, [], c.firstCross, by simp only [List.append_assoc],
          all_append (extra_corners (cornerLoop_mem _ _ _ hs)) hip, by simp, (if_neg h1).symm⟩
    · rw [if_neg h2]
      exact Or.inr ⟨_, [], _, rfl, hip, by simp, (if_neg h1).symm⟩

theorem stepThrough_cases {A : Arith} {r : Rect} (c : Ctl) (i : Nat) (adds : List AEmit) (cur prv : Pt)
    (x : Bool × Location × Pt) (thru : Prop) (hx : x.1 = true) (ht : thru) (hc : c.loc ≠ .inside)
    (hcl : x.2.1 ≠ .inside) (h3 : (getLocation r cur x.2.1).2 ≠ .inside) :
    ∃ rest sl c', stepThrough A r c i adds cur prv x.2.1 x.2.2 = .next (adds ++ rest) sl c' ∧
      (∀ e ∈ rest, StepExtra r i x (getIntersection A r prv cur c.loc ⟨0, 0⟩) thru e) ∧
      (∀ l ∈ sl, l ≠ .inside) ∧ c'.i = i ∧
      c'.firstCross = (if c.firstCross = .inside then (getIntersection A r prv cur c.loc ⟨0, 0⟩).2.1 else c.firstCross) ∧
      ((x.2.2 = (getIntersection A r prv cur c.loc ⟨0, 0⟩).2.2 ∧ c'.loc = (getLocation r cur x.2.1).2) ∨
       (x.2.2 ≠ (getIntersection A r prv cur c.loc ⟨0, 0⟩).2.2 ∧ c'.loc = x.2.1)) := by
  have hl2 := getIntersection_loc_ne A r prv cur c.loc ⟨0, 0⟩ hc
  have hsl : ∀ l ∈ (if c.firstCross = Location.inside then [c.loc] else []), l ≠ Location.inside := by
    intro l hl
    split at hl
    · rw [List.mem_singleton.mp hl]; exact hc
    · cases hl
  unfold stepThrough
  simp only
  generalize getIntersection A r prv cur c.loc ⟨0, 0⟩ = y at hl2 ⊢
  have hy : StepExtra r i x y thru ⟨i, y.2.2, .thru1 y.1⟩ := ⟨rfl, Or.inr (Or.inr ⟨rfl, rfl, ht⟩)⟩
  -- the corner possibly added before the two points
  obtain ⟨c1, hc1, hm1⟩ : ∃ c1, (if c.crossingLoc ≠ .inside ∧ c.crossingLoc ≠ y.2.1 then
      (addCorner1 r c.crossingLoc y.2.1).map (fun p => [p]) else some []) = some c1 ∧ ∀ p ∈ c1, p ∈ r.asPath := by
    split
    · rename_i h
      obtain ⟨p, hp⟩ := addCorner1_isSome r h.1 hl2
      exact ⟨[p], by rw [hp]; rfl, fun q hq => by rw [List.mem_singleton.mp hq]; exact addCorner1_mem hp⟩
    · exact ⟨[], rfl, by simp⟩
  rw [hc1]
  simp only
  by_cases heq : x.2.2 = y.2.2
  · rw [if_pos heq]
    obtain ⟨p, hp⟩ := addCorner1_isSome r hcl h3
    rw [hp]
    simp only [List.append_assoc]
    exact ⟨_, _, _, rfl, all_append (extra_corners hm1)
      (all_pair hy ⟨rfl, Or.inl ⟨rfl, addCorner1_mem hp⟩⟩), hsl, rfl, rfl, Or.inl ⟨heq, rfl⟩⟩
  · rw [if_neg heq]
    simp only [List.append_assoc]
    exact ⟨_, _, _, rfl, all_append (extra_corners hm1)
      (all_pair hy (extra_cross hx)), hsl, rfl, rfl, Or.inr ⟨heq, rfl⟩⟩

/-- how an iteration that goes on leaves `i` and `loc`: remaining outside (`x` failed), entering, passing right through
with `ip == ip2` (the location is re-read by `GetLocation`), and passing through or exiting with the reported location -/
def StepCtl (r : Rect) (c : Ctl) (loc : Location) (j : Nat) (cur : Pt) (x y : Bool × Location × Pt) (c' : Ctl) : Prop :=
  (x.1 = false ∧ c'.i = j + 1 ∧ c'.loc = loc) ∨
  (x.1 = true ∧ loc = .inside ∧ c'.i = j ∧ c'.loc = .inside) ∨
  (x.1 = true ∧ loc ≠ .inside ∧ c.loc ≠ .inside ∧ x.2.2 = y.2.2 ∧ c'.i = j ∧ c'.loc = (getLocation r cur x.2.1).2) ∨
  (x.1 = true ∧ loc ≠ .inside ∧ (c.loc ≠ .inside → x.2.2 ≠ y.2.2) ∧ c'.i = j ∧ c'.loc = x.2.1)

/-- how an iteration that goes on leaves `first_cross_` and `crossing_loc`: after a failed first call `first_cross_` is
unchanged and, while `crossing_loc == Inside`, nothing is added after the vertices, `crossing_loc` stays `Inside` and the
new location is a side; a successful call sets `first_cross_`, if it is still unset (`Inside`), to a side -/
def StepCross (c : Ctl) (x : Bool × Location × Pt) (rest : List AEmit) (c' : Ctl) : Prop :=
  (x.1 = false ∧ c'.firstCross = c.firstCross ∧
    (c.crossingLoc = .inside → rest = [] ∧ c'.crossingLoc = .inside ∧ c'.loc ≠ .inside)) ∨
  (x.1 = true ∧ ∃ l, l ≠ .inside ∧ c'.firstCross = if c.firstCross = .inside then l else c.firstCross)

/-- **One iteration of the main loop, completely.**  `loc`, `j`, `adds` are what `GetNextLocation` returns; `x` is the
first `GetIntersection` call, `y` the second one of the passing-right-through branch.  The iteration ends the loop, or
faults — only in the remaining-outside branch and only if a corner loop gets `Inside` as its target or start —, or goes
on, having added `adds`, then corners and crossing points (`StepExtra`), in one of four ways (`StepCtl`), with
`first_cross_` and `crossing_loc` as `StepCross` says. -/
theorem astep_spec (A : Arith) (r : Rect) (path : Path) (c : Ctl) {g : Location × Nat × List (Nat × Pt)}
    (hg : getNextLocation r path c.loc c.i = g) :
    (path.length ≤ g.2.1 ∧
      astep A r path c = .done (vtxEmits g.2.2) g.1) ∨
    ∃ cur prv, path[g.2.1]? = some cur ∧
      prevPt path g.2.1 = some prv ∧ g.2.1 < path.length ∧
      ((astep A r path c = .fault .corner ∧
          (getIntersection A r cur prv g.1 ⟨0, 0⟩).1 = false ∧
          (g.1 = .inside ∨ c.loc = .inside)) ∨
       ∃ rest sl c', astep A r path c = .next (vtxEmits g.2.2 ++ rest) sl c' ∧
         (∀ e ∈ rest, StepExtra r g.2.1
           (getIntersection A r cur prv g.1 ⟨0, 0⟩) (getIntersection A r prv cur c.loc ⟨0, 0⟩)
           (c.loc ≠ .inside ∧ (getIntersection A r cur prv g.1 ⟨0, 0⟩).1 = true) e) ∧
         ((getIntersection A r cur prv g.1 ⟨0, 0⟩).1 = true ∨ c.loc ≠ .inside →
           ∀ l ∈ sl, l ≠ .inside) ∧
         StepCtl r c g.1 g.2.1 cur
           (getIntersection A r cur prv g.1 ⟨0, 0⟩) (getIntersection A r prv cur c.loc ⟨0, 0⟩) c' ∧
         StepCross c (getIntersection A r cur prv g.1 ⟨0, 0⟩) rest c') := by
  subst hg
  rcases hg : getNextLocation r path c.loc c.i with ⟨loc, j, adds⟩
  simp only
  have g := gnl_spec r path c.loc c.i
  rw [hg] at g
  by_cases hj : j < path.length
  · have hcur : path[j]? = some path[j] := List.getElem?_eq_getElem hj
    obtain ⟨prv, hprv, _⟩ := prevPt_isSome path j hj
    refine Or.inr ⟨path[j], prv, hcur, hprv, hj, ?_⟩
    have hready : Ready r loc path[j] := g.ready _ hcur
    have hin : c.loc = .inside → loc ≠ .inside := fun h hl =>
      gnl_inside_from r path c.loc c.i path[j] (by rw [hg]; exact hcur) (by rw [hg]; exact hl) h
    unfold astep
    rw [hg]
    simp only
    rw [if_pos hj, hcur, hprv]
    simp only
    generalize path[j] = cur at *
    have hloc := (getIntersection_loc A r cur prv loc ⟨0, 0⟩).1
    generalize getIntersection A r cur prv loc ⟨0, 0⟩ = x at *
    rcases Bool.eq_false_or_eq_true x.1 with hx | hx
    · rw [if_neg (by rw [hx]; simp)]
      have hcl : x.2.1 ≠ .inside := hloc hx
      refine Or.inr ?_
      by_cases hli : loc = .inside
      · rw [if_pos hli]
        have hc : c.loc ≠ .inside := fun h => hin h hli
        rcases stepEnter_cases c j (vtxEmits adds) cur prv x (getIntersection A r prv cur c.loc ⟨0, 0⟩)
          (c.loc ≠ .inside ∧ x.1 = true) hx hcl with ⟨_, hbad⟩ | ⟨rest, sl, fc, e, hex, hsl, hfc⟩
        · exact absurd hbad hc
        · exact ⟨rest, sl, _, e, hex, fun _ => hsl hc, Or.inr (Or.inl ⟨hx, hli, rfl, rfl⟩),
            Or.inr ⟨hx, x.2.1, hcl, hfc⟩⟩
      · rw [if_neg hli]
        by_cases hc : c.loc ≠ .inside
        · rw [if_pos hc]
          obtain ⟨rest, sl, c', e, hex, hsl, hi, hfc, hcases⟩ := stepThrough_cases c j (vtxEmits adds) cur prv x
            (c.loc ≠ .inside ∧ x.1 = true) hx ⟨hc, hx⟩ hc hcl (getLocation_ne_inside_of_ready hready hli _)
          refine ⟨rest, sl, c', e, hex, fun _ => hsl, ?_,
            Or.inr ⟨hx, _, getIntersection_loc_ne A r prv cur c.loc ⟨0, 0⟩ hc, hfc⟩⟩
          rcases hcases with h | h
          · exact Or.inr (Or.inr (Or.inl ⟨hx, hli, hc, h.1, hi, h.2⟩))
          · exact Or.inr (Or.inr (Or.inr ⟨hx, hli, fun _ => h.1, hi, h.2⟩))
        · rw [if_neg hc]
          exact ⟨[⟨j, x.2.2, .cross⟩], [], _, rfl, all_single (extra_cross hx), by simp,
            Or.inr (Or.inr (Or.inr ⟨hx, hli, fun h => absurd h hc, rfl, rfl⟩)), Or.inr ⟨hx, x.2.1, hcl, rfl⟩⟩
    · rw [if_pos (by rw [hx]; rfl)]
      rcases stepOutside_cases c loc j (vtxEmits adds) cur prv x (getIntersection A r prv cur c.loc ⟨0, 0⟩)
        (c.loc ≠ .inside ∧ x.1 = true) with ⟨e, hbad⟩ | ⟨rest, sl, cl, e, hex, hsl, hcr⟩
      · exact Or.inl ⟨e, hx, hbad⟩
      · exact Or.inr ⟨rest, sl, _, e, hex, fun h => hsl (h.resolve_left (by rw [hx]; simp)), Or.inl ⟨hx, rfl, rfl⟩,
          Or.inl ⟨hx, rfl, hcr⟩⟩
  · refine Or.inl ⟨by omega, ?_⟩
    unfold astep
    rw [hg]
    simp only
    rw [if_neg hj]

/-- an iteration that goes on -/
theorem astep_next {A : Arith} {r : Rect} {path : Path} {c c' : Ctl} {es : List AEmit} {sl : List Location}
    (h : astep A r path c = .next es sl c') {g : Location × Nat × List (Nat × Pt)}
    (hg : getNextLocation r path c.loc c.i = g) :
    ∃ cur prv, path[g.2.1]? = some cur ∧
      prevPt path g.2.1 = some prv ∧ g.2.1 < path.length ∧
      ∃ rest, es = vtxEmits g.2.2 ++ rest ∧
        (∀ e ∈ rest, StepExtra r g.2.1
          (getIntersection A r cur prv g.1 ⟨0, 0⟩) (getIntersection A r prv cur c.loc ⟨0, 0⟩)
          (c.loc ≠ .inside ∧ (getIntersection A r cur prv g.1 ⟨0, 0⟩).1 = true) e) ∧
        ((getIntersection A r cur prv g.1 ⟨0, 0⟩).1 = true ∨ c.loc ≠ .inside → ∀ l ∈ sl, l ≠ .inside) ∧
        StepCtl r c g.1 g.2.1 cur
          (getIntersection A r cur prv g.1 ⟨0, 0⟩) (getIntersection A r prv cur c.loc ⟨0, 0⟩) c' ∧
        StepCross c (getIntersection A r cur prv g.1 ⟨0, 0⟩) rest c' := by
  rcases astep_spec A r path c hg with ⟨_, e⟩ | ⟨cur, prv, hcur, hprv, hj, ⟨e, _⟩ | ⟨rest, sl', c'', e, hex, hsl, hctl⟩⟩
  · rw [e] at h; cases h
  · rw [e] at h; cases h
  · rw [e] at h; cases h
    exact ⟨cur, prv, hcur, hprv, hj, rest, rfl, hex, hsl, hctl⟩

/-- an iteration that ends the loop -/
theorem astep_done {A : Arith} {r : Rect} {path : Path} {c : Ctl} {es : List AEmit} {l : Location}
    (h : astep A r path c = .done es l) {g : Location × Nat × List (Nat × Pt)}
    (hg : getNextLocation r path c.loc c.i = g) :
    es = vtxEmits g.2.2 ∧ l = g.1 ∧ path.length ≤ g.2.1 := by
  rcases astep_spec A r path c hg with ⟨hj, e⟩ | ⟨_, _, _, _, _, ⟨e, _⟩ | ⟨_, _, _, e, _⟩⟩ <;> rw [e] at h <;> cases h
  exact ⟨rfl, rfl, hj⟩

/-- **The only fault of an iteration**: a corner loop of the remaining-outside branch whose target or start is `Inside` -/
theorem astep_fault {A : Arith} {r : Rect} {path : Path} {c : Ctl} {f : Fault} (h : astep A r path c = .fault f)
    {g : Location × Nat × List (Nat × Pt)} (hg : getNextLocation r path c.loc c.i = g) :
    f = .corner ∧ ∃ cur prv, path[g.2.1]? = some cur ∧ prevPt path g.2.1 = some prv ∧
      (getIntersection A r cur prv g.1 ⟨0, 0⟩).1 = false ∧ (g.1 = .inside ∨ c.loc = .inside) := by
  rcases astep_spec A r path c hg with ⟨_, e⟩ | ⟨cur, prv, hcur, hprv, _, ⟨e, hx, hb⟩ | ⟨_, _, _, e, _⟩⟩ <;>
    rw [e] at h <;> cases h
  exact ⟨rfl, cur, prv, hcur, hprv, hx, hb⟩

/-- what every recorded `Add` call is -/
def AGood (A : Arith) (r : Rect) (path : Path) (e : AEmit) : Prop :=
  match e.kind with
  | .vertex => path[e.k]? = some e.pt ∧ inRect r e.pt = true
  | .corner => e.pt ∈ r.asPath
  | .cross => ∃ cur prv loc, path[e.k]? = some cur ∧ prevPt path e.k = some prv ∧
      (getIntersection A r cur prv loc ⟨0, 0⟩).1 = true ∧ (getIntersection A r cur prv loc ⟨0, 0⟩).2.2 = e.pt
  | .thru1 f => ∃ cur prv loc, path[e.k]? = some cur ∧ prevPt path e.k = some prv ∧
      (getIntersection A r prv cur loc ⟨0, 0⟩).1 = f ∧ (getIntersection A r prv cur loc ⟨0, 0⟩).2.2 = e.pt

theorem good_vtx {A : Arith} {r : Rect} {path : Path} {i j : Nat} {l : List (Nat × Pt)}
    (h : ∀ k q, (k, q) ∈ l → path[k]? = some q ∧ inRect r q = true ∧ i ≤ k ∧ k < j) :
    ∀ e ∈ vtxEmits l, AGood A r path e := by
  intro e he
  simp only [vtxEmits, List.mem_map] at he
  obtain ⟨⟨k, q⟩, hm, rfl⟩ := he
  exact ⟨(h k q hm).1, (h k q hm).2.1⟩

theorem good_corners {A : Arith} {r : Rect} {path : Path} (k : Nat) {pts : List Pt} (h : ∀ p ∈ pts, p ∈ r.asPath) :
    ∀ e ∈ cornerEmits k pts, AGood A r path e := by
  intro e he
  simp only [cornerEmits, List.mem_map] at he
  obtain ⟨p, hp, rfl⟩ := he
  exact h p hp

theorem extra_good {A : Arith} {r : Rect} {path : Path} {j : Nat} {cur prv : Pt} {loc l0 : Location} {thru : Prop}
    {e : AEmit} (hcur : path[j]? = some cur) (hprv : prevPt path j = some prv)
    (h : StepExtra r j (getIntersection A r cur prv loc ⟨0, 0⟩) (getIntersection A r prv cur l0 ⟨0, 0⟩) thru e) :
    AGood A r path e := by
  obtain ⟨hk, h | h | h⟩ := h <;> unfold AGood <;> rw [h.1]
  · exact h.2
  · exact ⟨cur, prv, loc, hk ▸ hcur, hk ▸ hprv, h.2.1, h.2.2.symm⟩
  · exact ⟨cur, prv, l0, hk ▸ hcur, hk ▸ hprv, rfl, h.2.1.symm⟩

/-- induction along a successful run of the main loop -/
theorem aloop_induct {A : Arith} {r : Rect} {path : Path} {P : Ctl → LoopOut → Prop}
    (stop : ∀ c, ¬ c.i < path.length → P c ⟨[], [], c.loc, c.firstCross⟩)
    (done : ∀ c es loc, c.i < path.length → astep A r path c = .done es loc → P c ⟨es, [], loc, c.firstCross⟩)
    (next : ∀ c es sl c' o', c.i < path.length → astep A r path c = .next es sl c' → P c' o' →
      P c ⟨es ++ o'.es, sl ++ o'.startLocs, o'.loc, o'.firstCross⟩) :
    ∀ (fuel : Nat) (c : Ctl) (o : LoopOut), aloop A r path fuel c = .ok o → P c o := by
  intro fuel
  induction fuel with
  | zero => intro c o h; cases h
  | succ fuel ih =>
    intro c o h
    unfold aloop at h
    split at h
    · rename_i hi
      split at h
      · cases h; exact done c _ _ hi ‹_›
      · split at h
        · cases h; exact next c _ _ _ _ hi ‹_› (ih _ _ ‹_›)
        · cases h
      · cases h
    · cases h; exact stop c ‹_›

theorem aloop_good (A : Arith) (r : Rect) (path : Path) (fuel : Nat) (c : Ctl) (o : LoopOut)
    (h : aloop A r path fuel c = .ok o) : ∀ e ∈ o.es, AGood A r path e := by
  refine aloop_induct (P := fun _ o => ∀ e ∈ o.es, AGood A r path e) ?_ ?_ ?_ fuel c o h
  · intro c _; simp
  · intro c es loc _ hst
    rw [(astep_done hst rfl).1]
    exact good_vtx (gnl_spec r path c.loc c.i).adds
  · intro c es sl c' o' _ hst ih
    obtain ⟨cur, prv, hcur, hprv, _, rest, hes, hex, _⟩ := astep_next hst rfl
    rw [hes]
    exact all_append (all_append (good_vtx (gnl_spec r path c.loc c.i).adds)
      (fun e he => extra_good hcur hprv (hex e he))) ih

/-- the closing corners: either every location involved is a side and the corners come out, or `Inside` is met -/
theorem finalCorners_cases (r : Rect) : ∀ (sl : List Location) (prev : Location),
    (finalCorners r prev sl = none ∧ (prev = .inside ∨ ∃ l ∈ sl, l = .inside)) ∨
    ∃ cs l, finalCorners r prev sl = some (cs, l) ∧ (∀ p ∈ cs, p ∈ r.asPath) ∧
      (prev ≠ .inside → (∀ l ∈ sl, l ≠ .inside) → l ≠ .inside) := by
  intro sl
  induction sl with
  | nil => intro prev; exact Or.inr ⟨[], prev, rfl, by simp, fun h _ => h⟩
  | cons loc2 rest ih =>
    intro prev
    unfold finalCorners
    split
    · rcases ih prev with ⟨h, hb⟩ | ⟨cs, l, h, hm, hl⟩
      · exact Or.inl ⟨h, hb.imp id (fun ⟨l, hl, e⟩ => ⟨l, List.mem_cons_of_mem _ hl, e⟩)⟩
      · exact Or.inr ⟨cs, l, h, hm, fun hp hs => hl hp (fun l hl => hs l (List.mem_cons_of_mem _ hl))⟩
    · cases hc : (addCorner2 r prev (Gen.HeadingClockwise prev loc2)).1 with
      | none =>
        refine Or.inl ⟨rfl, Or.inl ?_⟩
        apply Classical.byContradiction; intro hp
        obtain ⟨p, h⟩ := addCorner2_isSome r (Gen.HeadingClockwise prev loc2) hp
        rw [hc] at h; cases h
      | some p =>
        simp only
        rcases ih loc2 with ⟨h, hb⟩ | ⟨cs, l, h, hm, hl⟩
        · rw [h]
          refine Or.inl ⟨rfl, Or.inr ?_⟩
          rcases hb with hb | ⟨l, hl, e⟩
          · exact ⟨loc2, List.mem_cons_self .., hb⟩
          · exact ⟨l, List.mem_cons_of_mem _ hl, e⟩
        · rw [h]
          refine Or.inr ⟨p :: cs, l, rfl, ?_, fun _ hs => hl (hs loc2 (List.mem_cons_self ..))
            (fun l hl => hs l (List.mem_cons_of_mem _ hl))⟩
          intro q hq
          rcases List.mem_cons.mp hq with rfl | hq
          · exact addCorner2_mem hc
          · exact hm q hq

/-- **The closing logic, completely**: it adds rectangle corners only, all with the index `path.size()`; it faults only if
`PointInPolygon` does, or if `start_locs_` contains `Inside` -/
theorem afinish_cases (pip : Pt → Path → Option PipResult) (r : Rect) (path : Path) (sloc : Location) (o : LoopOut) :
    (afinish pip r path sloc o = .error .pip ∧ path1ContainsPath2 pip path r.asPath = none) ∨
    (afinish pip r path sloc o = .error .corner ∧ ∃ l ∈ o.startLocs, l = .inside) ∨
    ∃ pts, afinish pip r path sloc o = .ok (cornerEmits path.length pts) ∧ ∀ p ∈ pts, p ∈ r.asPath := by
  have nil : ∃ pts, (Except.ok [] : Except Fault (List AEmit)) = .ok (cornerEmits path.length pts) ∧
      ∀ p ∈ pts, p ∈ r.asPath := ⟨[], rfl, by simp⟩
  unfold afinish
  simp only
  by_cases h1 : o.firstCross = .inside
  · rw [if_pos h1]
    by_cases h2 : sloc ≠ .inside
    · rw [if_pos h2]
      by_cases h3 : (getBounds path).containsRect r = true
      · rw [if_pos h3]
        cases hp : path1ContainsPath2 pip path r.asPath with
        | none => exact Or.inl ⟨rfl, rfl⟩
        | some b =>
          cases b
          · exact Or.inr (Or.inr nil)
          · refine Or.inr (Or.inr ⟨_, rfl, ?_⟩)
            split
            · simp
            · intro p hp; exact List.mem_reverse.mp hp
      · rw [if_neg h3]; exact Or.inr (Or.inr nil)
    · rw [if_neg h2]; exact Or.inr (Or.inr nil)
  · rw [if_neg h1]
    by_cases hcond : o.loc ≠ .inside ∧ (o.loc ≠ o.firstCross ∨ o.startLocs.length > 2)
    · rw [if_pos hcond]
      have hfc : ((if o.startLocs.length > 0 then finalCorners r o.loc o.startLocs else some ([], o.loc)) = none ∧
            ∃ l ∈ o.startLocs, l = .inside) ∨
          ∃ cs l, (if o.startLocs.length > 0 then finalCorners r o.loc o.startLocs else some ([], o.loc)) =
            some (cs, l) ∧ (∀ p ∈ cs, p ∈ r.asPath) ∧ ((∀ l ∈ o.startLocs, l ≠ .inside) → l ≠ .inside) := by
        split
        · rcases finalCorners_cases r o.startLocs o.loc with ⟨h, hb⟩ | ⟨cs, l, h, hm, hl⟩
          · exact Or.inl ⟨h, hb.resolve_left hcond.1⟩
          · exact Or.inr ⟨cs, l, h, hm, hl hcond.1⟩
        · exact Or.inr ⟨[], o.loc, rfl, by simp, fun _ => hcond.1⟩
      rcases hfc with ⟨h, hb⟩ | ⟨cs, l, h, hm, hl⟩
      · rw [h]; exact Or.inr (Or.inl ⟨rfl, hb⟩)
      · rw [h]
        simp only
        by_cases hlf : l ≠ o.firstCross
        · rw [if_pos hlf]
          cases hc : (addCorner2 r l (Gen.HeadingClockwise l o.firstCross)).1 with
          | none =>
            refine Or.inr (Or.inl ⟨rfl, ?_⟩)
            apply Classical.byContradiction; intro hn
            obtain ⟨p, h⟩ := addCorner2_isSome r (Gen.HeadingClockwise l o.firstCross)
              (hl (fun l hl e => hn ⟨l, hl, e⟩))
            rw [hc] at h; cases h
          | some p =>
            refine Or.inr (Or.inr ⟨_, rfl, ?_⟩)
            intro q hq
            rcases List.mem_append.mp hq with hq | hq
            · exact hm q hq
            · rw [List.mem_singleton.mp hq]; exact addCorner2_mem hc
        · rw [if_neg hlf]; exact Or.inr (Or.inr ⟨_, rfl, hm⟩)
    · rw [if_neg hcond]; exact Or.inr (Or.inr nil)

theorem afinish_ok {pip : Pt → Path → Option PipResult} {r : Rect} {path : Path} {sloc : Location} {o : LoopOut}
    {fin : List AEmit} (h : afinish pip r path sloc o = .ok fin) :
    ∃ pts, fin = cornerEmits path.length pts ∧ ∀ p ∈ pts, p ∈ r.asPath := by
  rcases afinish_cases pip r path sloc o with ⟨e, _⟩ | ⟨e, _⟩ | ⟨pts, e, hm⟩ <;> rw [e] at h <;> cases h
  exact ⟨pts, rfl, hm⟩

theorem afinish_good {A : Arith} (pip : Pt → Path → Option PipResult) (r : Rect) (path : Path) (sloc : Location)
    (o : LoopOut) (fin : List AEmit) (h : afinish pip r path sloc o = .ok fin) : ∀ e ∈ fin, AGood A r path e := by
  obtain ⟨pts, rfl, hm⟩ := afinish_ok h
  exact good_corners _ hm

/-- control states the main loop goes through, started in `c0` -/
inductive Reach (A : Arith) (r : Rect) (path : Path) (c0 : Ctl) : Ctl → Prop
  | init : Reach A r path c0 c0
  | next {c : Ctl} {es : List AEmit} {sl : List Location} {c' : Ctl} :
      Reach A r path c0 c → c.i < path.length → astep A r path c = .next es sl c' → Reach A r path c0 c'

/-- The two facts about `GetIntersection` (i.e. about the `double` arithmetic) on which one iteration relies; they
are what a geometrically complete intersection test delivers, and they are *not* proved for any arithmetic here.
With `loc`, `j` the location and index `GetNextLocation` produces from the control state `c`, `cur = path[j]`,
`prv` the vertex before it (cyclically):
* **no missed crossing**: if `GetIntersection(cur, prv, loc)` fails then neither end of the segment was classified
  `Inside` (`loc ≠ Inside` and the location before, `c.loc ≠ Inside`);
* **arm readiness**: if it succeeds for `loc ≠ Inside` on an iteration that did not advance `i`, and this is not the
  `ip == ip2` case of the passing-right-through branch, then `cur` lies on the far side of the edge line it
  reports (`Ready`), so that the next `GetNextLocation` call consumes `cur`. -/
def StepFine (A : Arith) (r : Rect) (path : Path) (c : Ctl) : Prop :=
  ∀ cur prv, path[(getNextLocation r path c.loc c.i).2.1]? = some cur →
    prevPt path (getNextLocation r path c.loc c.i).2.1 = some prv →
    ((getIntersection A r cur prv (getNextLocation r path c.loc c.i).1 ⟨0, 0⟩).1 = false →
      (getNextLocation r path c.loc c.i).1 ≠ .inside ∧ c.loc ≠ .inside) ∧
    ((getIntersection A r cur prv (getNextLocation r path c.loc c.i).1 ⟨0, 0⟩).1 = true →
      (getNextLocation r path c.loc c.i).1 ≠ .inside → (getNextLocation r path c.loc c.i).2.1 = c.i →
      (c.loc ≠ .inside → (getIntersection A r cur prv (getNextLocation r path c.loc c.i).1 ⟨0, 0⟩).2.2 ≠
        (getIntersection A r prv cur c.loc ⟨0, 0⟩).2.2) →
      Ready r (getIntersection A r cur prv (getNextLocation r path c.loc c.i).1 ⟨0, 0⟩).2.1 cur)

/-- no fault, `start_locs_` free of `Inside`, and progress: the iteration advances `i`, or leaves a location from which the
next one does -/
def AStepOk (r : Rect) (path : Path) (c : Ctl) : AStep → Prop
  | .fault _ => False
  | .done _ _ => True
  | .next _ sl c' => c.i ≤ c'.i ∧ c'.i ≤ path.length ∧ (∀ l ∈ sl, l ≠ .inside) ∧
      (c.i + 1 ≤ c'.i ∨ (ReadyAt r path c'.loc c'.i ∧ (ReadyAt r path c.loc c.i → c.i + 1 ≤ c'.i)))

theorem readyAt_of {r : Rect} {path : Path} {l : Location} {j : Nat} {cur : Pt} (hcur : path[j]? = some cur)
    (h : Ready r l cur) : ReadyAt r path l j := by
  intro q hq; rw [hcur] at hq; cases hq; exact h

theorem astep_ok (A : Arith) (r : Rect) (path : Path) (c : Ctl) (hi : c.i < path.length)
    (hf : StepFine A r path c) : AStepOk r path c (astep A r path c) := by
  have g := gnl_spec r path c.loc c.i
  have hge := g.ge
  have hadv : ReadyAt r path c.loc c.i → c.i + 1 ≤ (getNextLocation r path c.loc c.i).2.1 := fun hr =>
    g.adv _ (List.getElem?_eq_getElem hi) (hr _ (List.getElem?_eq_getElem hi))
  cases hst : astep A r path c with
  | done es l => trivial
  | fault f =>
    obtain ⟨_, cur, prv, hcur, hprv, hx, hb⟩ := astep_fault hst rfl
    have := (hf cur prv hcur hprv).1 hx
    exact hb.elim this.1 this.2
  | next es sl c' =>
    obtain ⟨cur, prv, hcur, hprv, hj, rest, _, _, hsl, hctl, _⟩ := astep_next hst rfl
    have hfine := hf cur prv hcur hprv
    have hready := g.ready cur hcur
    rcases hctl with ⟨hx, hi', _⟩ | ⟨hx, hli, hi', hl'⟩ | ⟨hx, _, _, _, hi', hl'⟩ | ⟨hx, hli, hne, hi', hl'⟩
    · exact ⟨by omega, by omega, hsl (Or.inr (hfine.1 hx).2), Or.inl (by omega)⟩
    · refine ⟨by omega, by omega, hsl (Or.inl hx), Or.inr ⟨?_, by rw [hi']; exact hadv⟩⟩
      rw [hi', hl']; exact readyAt_of hcur (hli ▸ hready)
    · refine ⟨by omega, by omega, hsl (Or.inl hx), Or.inr ⟨?_, by rw [hi']; exact hadv⟩⟩
      rw [hi', hl']; exact readyAt_of hcur (getLocation_ready r cur _)
    · refine ⟨by omega, by omega, hsl (Or.inl hx), ?_⟩
      by_cases hadv' : c.i + 1 ≤ c'.i
      · exact Or.inl hadv'
      · refine Or.inr ⟨?_, by rw [hi']; exact hadv⟩
        rw [hi', hl']; exact readyAt_of hcur (hfine.2 hx hli (by omega) hne)

/-- The main loop ends within `2 * (n - i) + 2` iterations without a fault, and `start_locs_` never receives
`Inside`, provided `StepFine` holds in every state it goes through. -/
theorem aloop_total (A : Arith) (r : Rect) (path : Path) (c0 : Ctl)
    (hyp : ∀ c, Reach A r path c0 c → c.i < path.length → StepFine A r path c) :
    ∀ (fuel : Nat) (c : Ctl), Reach A r path c0 c → c.i ≤ path.length →
      (2 * (path.length - c.i) + 2 ≤ fuel ∨ (2 * (path.length - c.i) + 1 ≤ fuel ∧ ReadyAt r path c.loc c.i)) →
      ∃ o, aloop A r path fuel c = .ok o ∧ ∀ l ∈ o.startLocs, l ≠ .inside := by
  intro fuel
  induction fuel with
  | zero => intro c _ _ h; omega
  | succ fuel ih =>
    intro c hr hle hf
    unfold aloop
    by_cases hlt : c.i < path.length
    · rw [if_pos hlt]
      have hs := astep_ok A r path c hlt (hyp c hr hlt)
      cases hstep : astep A r path c with
      | fault f => rw [hstep] at hs; exact hs.elim
      | done es loc => exact ⟨_, rfl, by simp⟩
      | next es sl c' =>
        rw [hstep] at hs
        obtain ⟨h1, h2, h3, h5⟩ := hs
        obtain ⟨o, ho, hsl⟩ := ih c' (Reach.next hr hlt hstep) h2 (fuel_step hlt h1 hf h5)
        simp only [ho]
        refine ⟨_, rfl, ?_⟩
        intro l hl
        rcases List.mem_append.mp hl with hl | hl
        · exact h3 l hl
        · exact hsl l hl
    · rw [if_neg hlt]
      exact ⟨_, rfl, by simp⟩

theorem afinish_total (pip : Pt → Path → Option PipResult) (r : Rect) (path : Path) (sloc : Location) (o : LoopOut)
    (hpip : ∀ q poly, (pip q poly).isSome = true) (hsl : ∀ l ∈ o.startLocs, l ≠ .inside) :
    ∃ fin, afinish pip r path sloc o = .ok fin := by
  rcases afinish_cases pip r path sloc o with ⟨_, hp⟩ | ⟨_, l, hl, e⟩ | ⟨pts, e, _⟩
  · -- `Path1ContainsPath2` only fails if `PointInPolygon` does
    exfalso
    have : ∀ (l : List Pt) (c : Int), ∃ v, p1c2Loop pip path l c = some v := by
      intro l
      induction l with
      | nil => intro c; exact ⟨c, rfl⟩
      | cons q rest ih =>
        intro c
        unfold p1c2Loop
        cases hq : pip q path with
        | none => have := hpip q path; rw [hq] at this; cases this
        | some res =>
          cases res <;> simp only
          · exact ih c
          · split
            · exact ⟨_, rfl⟩
            · exact ih _
          · split
            · exact ⟨_, rfl⟩
            · exact ih _
    obtain ⟨v, hv⟩ := this r.asPath 0
    unfold path1ContainsPath2 at hp
    rw [hv] at hp; cases hp
  · exact absurd e (hsl l hl)
  · exact ⟨_, e⟩

theorem takeWhile_eq_self (c : Pt → Bool) (l : List Pt) (h : ∀ x ∈ l, c x = true) : l.takeWhile c = l := by
  simpa using List.takeWhile_append_of_pos (l₂ := []) h

theorem gnl_all_inside (r : Rect) (path : Path) (hin : ∀ p ∈ path, inRect r p = true) :
    getNextLocation r path .inside 0 = (.inside, path.length, indexFrom 0 path) := by
  simp only [getNextLocation, List.drop_zero]
  rw [takeWhile_eq_self _ _ (fun p hp => (outsideLoc_isNone_iff r p).mpr (hin p hp))]
  simp

theorem getLocation_inside_of_inRect {r : Rect} {p : Pt} (l0 : Location) (hin : inRect r p = true)
    (h : (getLocation r p l0).1 = true) : (getLocation r p l0).2 = .inside := by
  rw [getLocation_snd_true r p l0 h]
  rw [inRect_iff] at hin
  unfold region
  rw [if_neg (by omega), if_neg (by omega), if_neg (by omega), if_neg (by omega)]

theorem startLoc_inside (r : Rect) (path : Path) (last : Pt) (hl : last ∈ path)
    (hin : ∀ p ∈ path, inRect r p = true) :
    startLoc r path last = .inl (vtxEmits (indexFrom 0 path)) ∨ startLoc r path last = .inr .inside := by
  unfold startLoc
  simp only
  split
  · split
    · exact Or.inl rfl
    · rename_i q hq
      right
      have hq1 := List.find?_some hq
      have hqm : q ∈ path := by
        have := List.mem_of_find?_eq_some hq
        exact List.dropLast_subset _ (List.mem_reverse.mp this)
      rw [if_pos (getLocation_inside_of_inRect _ (hin q hqm) hq1)]
  · rename_i h
    right
    have h1 : (getLocation r last).1 = true := by simpa using h
    rw [getLocation_inside_of_inRect _ (hin last hl) h1]

theorem aloop_all_inside (A : Arith) (r : Rect) (path : Path) (hne : path ≠ []) (hin : ∀ p ∈ path, inRect r p = true)
    (fuel : Nat) : aloop A r path (fuel + 1) ⟨0, .inside, .inside, .inside⟩ =
      .ok ⟨vtxEmits (indexFrom 0 path), [], .inside, .inside⟩ := by
  have hlen : 0 < path.length := List.length_pos_iff.mpr hne
  unfold aloop
  simp only [hlen, if_true]
  unfold astep
  simp only [gnl_all_inside r path hin, Nat.lt_irrefl, if_false]

theorem aloop_outside (A : Arith) (r : Rect) (path : Path) (hout : ∀ p ∈ path, outsideLoc r p ≠ none)
    (hmiss : ∀ cur prv loc, cur ∈ path → prv ∈ path → (getIntersection A r cur prv loc ⟨0, 0⟩).1 = false) :
    ∀ (fuel : Nat) (c : Ctl), c.loc ≠ .inside → c.crossingLoc = .inside → c.firstCross = .inside →
      (path.length - c.i) + 1 ≤ fuel →
      ∃ o, aloop A r path fuel c = .ok o ∧ o.es = [] ∧ o.firstCross = .inside := by
  intro fuel
  induction fuel with
  | zero => intro c _ _ _ h; omega
  | succ fuel ih =>
    intro c hc hcl hfc hf
    unfold aloop
    by_cases hlt : c.i < path.length
    · rw [if_pos hlt]
      have g := gnl_spec r path c.loc c.i
      have hnil := gnl_adds_nil r path c.loc c.i hc
      unfold astep
      generalize getNextLocation r path c.loc c.i = gg at g hnil
      obtain ⟨loc, j, adds⟩ := gg
      simp only at g hnil ⊢
      subst hnil
      have hge := g.ge
      simp only at hge
      by_cases hj : j < path.length
      · rw [if_pos hj]
        have hcur : path[j]? = some path[j] := List.getElem?_eq_getElem hj
        obtain ⟨prv, hprv, hprvm⟩ := prevPt_isSome path j hj
        have hcurm : path[j] ∈ path := List.getElem_mem hj
        have hl : loc ≠ .inside := ready_ne_inside_of_outside (g.ready _ hcur) (hout _ hcurm)
        rw [hcur, hprv]
        simp only
        rw [hmiss _ _ loc hcurm hprvm]
        simp only [Bool.not_false, if_true]
        unfold stepOutside
        simp only [hcl, if_true]
        obtain ⟨sl, hsl⟩ := startLocsLoop_isSome c.loc loc (isClockwise A r c.loc loc prv path[j]) hc hl
        rw [hsl]
        simp only
        obtain ⟨o, ho, hes, hfc'⟩ := ih ⟨j + 1, loc, .inside, c.firstCross⟩ hl rfl hfc (by simp only; omega)
        rw [ho]
        exact ⟨_, rfl, by simp [vtxEmits, hes], hfc'⟩
      · rw [if_neg hj]
        exact ⟨_, rfl, by simp [vtxEmits], hfc⟩
    · rw [if_neg hlt]
      exact ⟨_, rfl, rfl, hfc⟩

theorem startLoc_outside (r : Rect) (hne : r.isEmpty = false) (path : Path) (last : Pt)
    (ho : outsideLoc r last ≠ none) : ∃ l, startLoc r path last = .inr l ∧ l ≠ .inside := by
  have hnin : ¬ inRect r last = true := fun h => ho ((outsideLoc_none_iff r last).mpr h)
  have h1 : (getLocation r last).1 = true := by
    cases hb : (getLocation r last).1
    · exact absurd (onBoundary_inRect ((getLocation_fst r last .inside).mp hb) hne) hnin
    · rfl
  unfold startLoc
  simp only [h1, Bool.not_true, Bool.false_eq_true, if_false]
  refine ⟨_, rfl, ?_⟩
  rw [getLocation_snd_true r last .inside h1]
  intro hc
  exact hnin (region_inside_inRect hc)

theorem readyB_iff (r : Rect) (l : Location) (q : Pt) : readyB r l q = true ↔ Ready r l q := by
  cases l <;> simp [readyB, Ready]

theorem stepFineB_sound {A : Arith} {r : Rect} {path : Path} {c : Ctl} (h : stepFineB A r path c = true) :
    StepFine A r path c := by
  unfold stepFineB at h
  intro cur prv hcur hprv
  simp only [hcur, hprv] at h
  constructor
  · intro hx
    simp only [hx, Bool.not_false, if_true, Bool.and_eq_true, decide_eq_true_eq] at h
    exact h
  · intro hx hl hj hne
    simp only [hx, Bool.not_true, Bool.false_eq_true, if_false] at h
    rw [if_pos] at h
    · exact (readyB_iff _ _ _).mp h
    · refine ⟨hl, hj, ?_⟩
      by_cases hc : c.loc = .inside
      · exact Or.inl hc
      · exact Or.inr (hne hc)

/-- a run reaching `c'` from `c` either stops at once or starts with the step out of `c` -/
theorem reach_head {A : Arith} {r : Rect} {path : Path} {c c' : Ctl} (h : Reach A r path c c') :
    c' = c ∨ ∃ es sl c1, c.i < path.length ∧ astep A r path c = .next es sl c1 ∧ Reach A r path c1 c' := by
  induction h with
  | init => exact Or.inl rfl
  | next hr hi hst ih =>
    rename_i d es sl d'
    rcases ih with rfl | ⟨es1, sl1, c1, h1, h2, h3⟩
    · exact Or.inr ⟨es, sl, d', hi, hst, Reach.init⟩
    · exact Or.inr ⟨es1, sl1, c1, h1, h2, Reach.next h3 hi hst⟩

theorem fineLoop_sound (A : Arith) (r : Rect) (path : Path) :
    ∀ (fuel : Nat) (c : Ctl), fineLoop A r path fuel c = true →
      ∀ c', Reach A r path c c' → c'.i < path.length → StepFine A r path c' := by
  intro fuel
  induction fuel with
  | zero => intro c h; simp [fineLoop] at h
  | succ fuel ih =>
    intro c h c' hr hi'
    unfold fineLoop at h
    rcases reach_head hr with rfl | ⟨es, sl, c1, hi, hst, hr1⟩
    · rw [if_pos hi'] at h
      simp only [Bool.and_eq_true] at h
      exact stepFineB_sound h.1
    · rw [if_pos hi, hst] at h
      simp only [Bool.and_eq_true] at h
      exact ih c1 h.2 c' hr1 hi'

theorem aloop_fault (A : Arith) (r : Rect) (path : Path) :
    ∀ (fuel : Nat) (c : Ctl) (f : Fault), aloop A r path fuel c = .error f → f = .corner ∨ f = .fuel := by
  intro fuel
  induction fuel with
  | zero => intro c f h; simp only [aloop, Except.error.injEq] at h; exact Or.inr h.symm
  | succ fuel ih =>
    intro c f h
    unfold aloop at h
    split at h
    · split at h
      · cases h
      · split at h
        · cases h
        · rename_i f' hf'
          cases h
          exact ih _ _ hf'
      · rename_i f' hst
        cases h
        exact Or.inl (astep_fault hst rfl).1
    · cases h

theorem afinish_fault (pip : Pt → Path → Option PipResult) (r : Rect) (path : Path) (sloc : Location) (o : LoopOut)
    (f : Fault) (h : afinish pip r path sloc o = .error f) : f = .corner ∨ f = .pip := by
  rcases afinish_cases pip r path sloc o with ⟨e, _⟩ | ⟨e, _⟩ | ⟨_, e, _⟩ <;> rw [e] at h <;> cases h
  · exact Or.inr rfl
  · exact Or.inl rfl

/-- the shortcut "all of path must be inside fRect" is taken only when every vertex is on the boundary -/
theorem startLoc_inl {r : Rect} {path : Path} {last : Pt} {es : List AEmit} (hl : path.getLast? = some last)
    (h : startLoc r path last = .inl es) :
    es = vtxEmits (indexFrom 0 path) ∧ ∀ p ∈ path, OnBoundary r p := by
  unfold startLoc at h
  simp only at h
  split at h
  · rename_i hg
    split at h
    · rename_i hfind
      simp only [Sum.inl.injEq] at h
      refine ⟨h.symm, ?_⟩
      intro p hp
      have hne : path ≠ [] := by intro h0; rw [h0] at hl; simp at hl
      have hgl : path.getLast hne = last := by
        rw [List.getLast?_eq_some_getLast hne] at hl; exact Option.some.inj hl
      have hpath : path = path.dropLast ++ [last] := by
        rw [← hgl]; exact (List.dropLast_concat_getLast hne).symm
      rw [hpath] at hp
      rcases List.mem_append.mp hp with hp | hp
      · have := List.find?_eq_none.mp hfind p (List.mem_reverse.mpr hp)
        exact (getLocation_fst r p .inside).mp (by simpa using this)
      · simp only [List.mem_singleton] at hp
        subst hp
        exact (getLocation_fst r p .inside).mp (by simpa using hg)
    · cases h
  · cases h

/-- the three ways `ExecuteInternal` can return, with everything it leaves behind -/
theorem exec_cases {A : Arith} {pip : Pt → Path → Option PipResult} {r : Rect} {path : Path} {res : AResult}
    (h : executeInternalA A pip r path = .ok res) :
    (path.getLast? = none ∧ res = ⟨[], [], .inside, .inside, .inside⟩) ∨
    (∃ last es, path.getLast? = some last ∧ startLoc r path last = .inl es ∧
      res = ⟨es, [], .inside, .inside, .inside⟩) ∨
    (∃ last loc0 o fin, path.getLast? = some last ∧ startLoc r path last = .inr loc0 ∧
      aloop A r path (afuel path) ⟨0, loc0, .inside, .inside⟩ = .ok o ∧ afinish pip r path loc0 o = .ok fin ∧
      res = ⟨o.es ++ fin, o.startLocs, loc0, o.loc, o.firstCross⟩) := by
  unfold executeInternalA at h
  cases hl : path.getLast? with
  | none => rw [hl] at h; cases h; exact Or.inl ⟨rfl, rfl⟩
  | some last =>
    rw [hl] at h
    simp only at h
    cases hs : startLoc r path last with
    | inl es => rw [hs] at h; cases h; exact Or.inr (Or.inl ⟨last, es, rfl, hs, rfl⟩)
    | inr loc0 =>
      rw [hs] at h
      simp only at h
      cases hlo : aloop A r path (afuel path) ⟨0, loc0, .inside, .inside⟩ with
      | error f => rw [hlo] at h; cases h
      | ok o =>
        rw [hlo] at h
        simp only at h
        cases hfin : afinish pip r path loc0 o with
        | error f => rw [hfin] at h; cases h
        | ok fin => rw [hfin] at h; cases h; exact Or.inr (Or.inr ⟨last, loc0, o, fin, rfl, hs, hlo, hfin, rfl⟩)

end Clipper.Lemmas.RCA

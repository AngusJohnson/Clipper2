/-
Generic lemmas about the Spec's winding number: sums over lists, the sign of a product, the sign of `cross` for an edge
that meets the ray's line, the contribution of an edge on one side of that line and of an axis-parallel edge, the edge chain of a
closed path, telescoping over a closed path, and transport of `wind` along a vertex map.
-/
import ClipperVerif.Spec.Basic
namespace Clipper.WindSpec
open Clipper

theorem sum_perm {l₁ l₂ : List Int} (h : l₁.Perm l₂) : l₁.sum = l₂.sum := by
  induction h with
  | nil => rfl
  | cons x _ ih => simp [ih]
  | swap x y l => simp only [List.sum_cons]; omega
  | trans _ _ ih1 ih2 => omega

theorem sum_map_add {α : Type} (f g : α → Int) (l : List α) :
    (l.map (fun e => f e + g e)).sum = (l.map f).sum + (l.map g).sum := by
  induction l with
  | nil => rfl
  | cons a r ih => simp only [List.map_cons, List.sum_cons, ih]; omega

theorem sum_map_neg {α : Type} (f : α → Int) (l : List α) : (l.map (fun e => -f e)).sum = -(l.map f).sum := by
  induction l with
  | nil => rfl
  | cons a r ih => simp only [List.map_cons, List.sum_cons, ih, Int.neg_add]

theorem sum_map_sub {α : Type} (f g : α → Int) (l : List α) :
    (l.map (fun e => f e - g e)).sum = (l.map f).sum - (l.map g).sum := by
  simp only [Int.sub_eq_add_neg, sum_map_add, sum_map_neg]

theorem sum_map_mul_left {α : Type} (c : Int) (f : α → Int) (l : List α) :
    (l.map (fun e => c * f e)).sum = c * (l.map f).sum := by
  induction l with
  | nil => simp
  | cons a r ih => simp only [List.map_cons, List.sum_cons, ih, Int.mul_add]

theorem sum_map_mul_right {α : Type} (c : Int) (f : α → Int) (l : List α) :
    (l.map (fun e => f e * c)).sum = (l.map f).sum * c := by
  induction l with
  | nil => simp
  | cons a r ih => simp only [List.map_cons, List.sum_cons, ih, Int.add_mul]

theorem sum_map_zero {α : Type} (l : List α) : (l.map (fun _ => (0 : Int))).sum = 0 := by
  induction l with
  | nil => rfl
  | cons a r ih => simp only [List.map_cons, List.sum_cons, ih]; rfl

theorem sign_mul {d e : Int} (hd : 0 < d) : (d * e > 0 ↔ e > 0) ∧ (d * e < 0 ↔ e < 0) :=
  ⟨⟨fun h => Int.pos_of_mul_pos_right h hd, Int.mul_pos hd⟩,
   ⟨fun h => Int.neg_of_mul_neg_right h hd, Int.mul_neg_of_pos_of_neg hd⟩⟩

/-- a negative factor exchanges the signs -/
theorem sign_mul_neg {d e : Int} (hd : d < 0) : (d * e > 0 ↔ e < 0) ∧ (d * e < 0 ↔ e > 0) := by
  have h := sign_mul (e := e) (Int.neg_pos.mpr hd)
  rw [Int.neg_mul] at h
  omega

theorem mul_eq_zero_iff_right {d e : Int} (hd : d ≠ 0) : d * e = 0 ↔ e = 0 :=
  Int.mul_eq_zero.trans (or_iff_right hd)

/-- The sign of a product by the quadrant of its factors, neither factor being fixed.  The non-positive side is written
`¬ 0 < x`: that is what a case split on `p.x < a.x` hands over. -/
theorem mul_sign_quadrants (x y : Int) :
    (0 < x → 0 < y → 0 < x * y) ∧ (0 < x → ¬ 0 < y → x * y ≤ 0) ∧
    (¬ 0 < x → 0 < y → x * y ≤ 0) ∧ (¬ 0 < x → ¬ 0 < y → 0 ≤ x * y) :=
  ⟨Int.mul_pos, fun hx hy => Int.mul_nonpos_of_nonneg_of_nonpos (Int.le_of_lt hx) (Int.not_lt.mp hy),
   fun hx hy => Int.mul_nonpos_of_nonpos_of_nonneg (Int.not_lt.mp hx) (Int.le_of_lt hy),
   fun hx hy => Int.mul_nonneg_of_nonpos_of_nonpos (Int.not_lt.mp hx) (Int.not_lt.mp hy)⟩

theorem cross_swap (a b p : Pt) : cross b a p = -cross a b p := by
  simp only [cross]; grind

/-- `cross a b p` as a combination of the horizontal offsets with the vertical offsets as weights -/
theorem cross_eq (a b p : Pt) :
    cross a b p = (b.y - p.y) * (a.x - p.x) + (p.y - a.y) * (b.x - p.x) := by
  simp only [cross]; grind

/-- an edge that meets the horizontal line through `p` going up, with both ends to the right of `p`, has `p` on its left -/
theorem cross_pos_of_left {a b p : Pt} (h1 : a.y ≤ p.y) (h2 : p.y ≤ b.y) (h3 : a.y < b.y) (ha : p.x < a.x) (hb : p.x < b.x) :
    0 < cross a b p := by
  have t1 := Int.mul_le_mul_of_nonneg_left (show 1 ≤ a.x - p.x by omega) (Int.sub_nonneg.mpr h2)
  have t2 := Int.mul_le_mul_of_nonneg_left (show 1 ≤ b.x - p.x by omega) (Int.sub_nonneg.mpr h1)
  rw [cross_eq]; omega

theorem cross_neg_of_right {a b p : Pt} (h1 : a.y ≤ p.y) (h2 : p.y ≤ b.y) (h3 : a.y < b.y) (ha : a.x < p.x) (hb : b.x < p.x) :
    cross a b p < 0 := by
  have t1 := Int.mul_le_mul_of_nonneg_left (show a.x - p.x ≤ -1 by omega) (Int.sub_nonneg.mpr h2)
  have t2 := Int.mul_le_mul_of_nonneg_left (show b.x - p.x ≤ -1 by omega) (Int.sub_nonneg.mpr h1)
  rw [cross_eq]; omega

/-- an edge whose ends are on the same side of the ray's line (half-open rule) contributes nothing -/
theorem crossing_same_side {p a b : Pt} (h : p.y < a.y ↔ p.y < b.y) : crossing p a b = 0 := by
  unfold crossing
  rw [if_neg (by omega), if_neg (by omega)]

/-- 1 if the vertex is strictly above the horizontal line through `p` -/
def above (p v : Pt) : Int := if p.y < v.y then 1 else 0

theorem cross_vert {a b p : Pt} (h : a.x = b.x) : cross a b p = (b.y - a.y) * (a.x - p.x) := by
  simp only [cross, h, Int.sub_self, Int.zero_mul, Int.zero_sub, ← Int.mul_neg, Int.neg_sub]

/-- An axis-parallel edge right of `p` counts the change of side, any other nothing: an edge that spans `p.y` is vertical, and the
sign of its cross product is the side of `p.x`. -/
theorem crossing_axis {a b p : Pt} (h : a.x = b.x ∨ a.y = b.y) :
    crossing p a b = (if p.x < a.x then 1 else 0) * (above p b - above p a) := by
  by_cases hs : p.y < a.y ↔ p.y < b.y
  · rw [crossing_same_side hs]
    simp only [above, hs, Int.sub_self, Int.mul_zero]
  · unfold crossing above
    rw [cross_vert (by omega)]
    by_cases h1 : a.y ≤ p.y ∧ p.y < b.y
    · have s := (sign_mul (e := a.x - p.x) (show 0 < b.y - a.y by omega)).1
      rw [if_pos h1, if_pos h1.2, if_neg (Int.not_lt.mpr h1.1)]
      simp only [s, gt_iff_lt, Int.sub_pos]
      split <;> rfl
    · have h2 : b.y ≤ p.y ∧ p.y < a.y := by omega
      have s := (sign_mul_neg (e := a.x - p.x) (show b.y - a.y < 0 by omega)).2
      rw [if_neg h1, if_pos h2, if_neg (Int.not_lt.mpr h2.1), if_pos h2.2]
      simp only [s, gt_iff_lt, Int.sub_pos]
      split <;> rfl

/-- edges `a → l₀ → l₁ → … → z` -/
def chain (a : Pt) : List Pt → Pt → List (Pt × Pt)
  | [], z => [(a, z)]
  | b :: r, z => (a, b) :: chain b r z

theorem zip_chain (a z : Pt) (l : List Pt) : (a :: l).zip (l ++ [z]) = chain a l z := by
  induction l generalizing a with
  | nil => rfl
  | cons b r ih =>
    show (a, b) :: (b :: r).zip (r ++ [z]) = (a, b) :: chain b r z
    rw [ih]

theorem edgesOf_cons (a : Pt) (rest : List Pt) : edgesOf (a :: rest) = chain a rest a := zip_chain a a rest

theorem chain_append (a b z : Pt) (l₁ l₂ : List Pt) :
    chain a (l₁ ++ b :: l₂) z = chain a l₁ b ++ chain b l₂ z := by
  induction l₁ generalizing a with
  | nil => rfl
  | cons c r ih => simp only [List.cons_append, chain, ih]

theorem chain_reverse (a z : Pt) (l : List Pt) :
    ((chain a l z).reverse).map (fun e => (e.2, e.1)) = chain z l.reverse a := by
  induction l generalizing a with
  | nil => rfl
  | cons b r ih =>
    simp only [chain, List.reverse_cons, List.map_append, List.map_cons, List.map_nil, ih]
    rw [chain_append]; rfl

theorem chain_telescope (f : Pt → Int) (a z : Pt) (l : List Pt) :
    ((chain a l z).map (fun e => f e.2 - f e.1)).sum = f z - f a := by
  induction l generalizing a with
  | nil => simp [chain]
  | cons b r ih => simp only [chain, List.map_cons, List.sum_cons, ih]; omega

theorem edges_telescope (f : Pt → Int) (path : Path) :
    ((edgesOf path).map (fun e => f e.2 - f e.1)).sum = 0 := by
  cases path with
  | nil => rfl
  | cons a rest => rw [edgesOf_cons, chain_telescope]; omega

theorem edgesOf_rotate_perm (l₁ l₂ : List Pt) : (edgesOf (l₂ ++ l₁)).Perm (edgesOf (l₁ ++ l₂)) := by
  cases l₁ with
  | nil => simp
  | cons a r₁ =>
    cases l₂ with
    | nil => simp
    | cons b r₂ =>
      rw [List.cons_append, List.cons_append, edgesOf_cons, edgesOf_cons, chain_append, chain_append]
      exact List.perm_append_comm

theorem mem_edgesOf {path : Path} {e : Pt × Pt} (h : e ∈ edgesOf path) : e.1 ∈ path ∧ e.2 ∈ path := by
  cases path with
  | nil => simp [edgesOf] at h
  | cons a rest =>
    simp only [edgesOf] at h
    obtain ⟨h1, h2⟩ := List.of_mem_zip (a := e.1) (b := e.2) h
    refine ⟨h1, ?_⟩
    simp only [List.mem_append, List.mem_singleton] at h2
    rcases h2 with h2 | h2
    · exact List.mem_cons_of_mem _ h2
    · rw [h2]; exact List.mem_cons_self

theorem edgesOf_map (f : Pt → Pt) (path : Path) :
    edgesOf (path.map f) = (edgesOf path).map (fun e => (f e.1, f e.2)) := by
  cases path with
  | nil => rfl
  | cons a rest =>
    simp only [edgesOf, List.map_cons]
    rw [show f a :: rest.map f = (a :: rest).map f from rfl,
        show rest.map f ++ [f a] = (rest ++ [a]).map f by simp]
    rw [List.zip_map]
    simp [Prod.map]

/-- apply a map to every vertex -/
def mapPaths (f : Pt → Pt) (ps : Paths) : Paths := ps.map (fun p => p.map f)

theorem mapPaths_comm {f g f' g' : Pt → Pt} (h : ∀ a, f (g a) = g' (f' a)) (ps : Paths) :
    mapPaths f (mapPaths g ps) = mapPaths g' (mapPaths f' ps) := by
  simp only [mapPaths, List.map_map, Function.comp_def, h]

theorem mapPaths_scale_one (ps : Paths) : mapPaths (Pt.scale 1) ps = ps := by
  have : Pt.scale 1 = id := funext fun a => by simp only [Pt.scale, Int.one_mul, id]
  simp only [mapPaths, this, List.map_id_fun, id, List.map_id']

theorem windPath_map_eq (f : Pt → Pt) (path : Path) (p' : Pt) (g : Pt × Pt → Int)
    (h : ∀ e ∈ edgesOf path, crossing p' (f e.1) (f e.2) = g e) :
    windPath (path.map f) p' = ((edgesOf path).map g).sum := by
  unfold windPath
  rw [edgesOf_map, List.map_map]
  exact congrArg List.sum (List.map_congr_left h)

theorem wind_map_eq (F : Path → Path) (ps : Paths) (p' : Pt) (g : Path → Int)
    (h : ∀ path ∈ ps, windPath (F path) p' = g path) : wind (ps.map F) p' = (ps.map g).sum := by
  unfold wind
  rw [List.map_map]
  exact congrArg List.sum (List.map_congr_left h)

theorem windPath_map_neg (f : Pt → Pt) (path : Path) (p' : Pt) (g : Pt × Pt → Int)
    (h : ∀ e ∈ edgesOf path, crossing p' (f e.1) (f e.2) = -g e) :
    windPath (path.map f) p' = -((edgesOf path).map g).sum := by
  rw [windPath_map_eq f path p' _ h, sum_map_neg]

theorem wind_map_neg (F : Path → Path) (ps : Paths) (p' : Pt) (g : Path → Int)
    (h : ∀ path ∈ ps, windPath (F path) p' = -g path) : wind (ps.map F) p' = -(ps.map g).sum := by
  rw [wind_map_eq F ps p' _ h, sum_map_neg]

end Clipper.WindSpec

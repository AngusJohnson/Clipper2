/-
The exact crossing point (`Model/SweepPoints.crossQ`): it lies on both lines; when the edges are in order at one height and reversed at a
higher one it lies on both closed segments, between the two heights.  Points in coordinates scaled by `D`; `OnE` is `Spec.onSeg`.
The arithmetic is done once, about integer variables.  Core Lean only.
-/
import ClipperVerif.Model.SweepPoints
import ClipperVerif.Lemmas.SweepOrder
namespace Clipper.Lemmas.C01Output
open Clipper Clipper.Model Clipper.Model.AelOrder Clipper.Model.SweepOrder Clipper.Model.SweepEvents Clipper.Model.SweepPoints
open Clipper.Lemmas.SweepOrder

theorem affine_diff (δ σ pn pd qn qd : Int) :
    pd * (qd * δ - qn * σ) - qd * (pd * δ - pn * σ) = (qn * pd - pn * qd) * -σ := by grind

/-- The affine function `t ↦ δ − t·σ` is negative at `p = pn/pd` and not negative at `q = qn/qd ≥ p` (positive denominators, everything
cross-multiplied): then `σ < 0` (`affine_diff`: the values differ by `(q − p)·(−σ)`), and its root `(−δ)/(−σ)` lies in `(p, q]`. -/
theorem affine_root {δ σ pn pd qn qd : Int} (hp : 0 < pd) (hq : 0 < qd) (hle : pn * qd ≤ qn * pd)
    (gp : pd * δ - pn * σ < 0) (gq : 0 ≤ qd * δ - qn * σ) : σ < 0 ∧ pn * -σ < -δ * pd ∧ -δ * qd ≤ qn * -σ := by
  have hs : σ < 0 := by
    apply Int.lt_of_not_ge
    intro h
    have a1 := Int.mul_nonneg (Int.le_of_lt hp) gq
    have a2 := Int.mul_neg_of_pos_of_neg hq gp
    have := Int.mul_nonpos_of_nonneg_of_nonpos (Int.sub_nonneg_of_le hle) (Int.neg_nonpos_of_nonneg h)
    rw [← affine_diff δ] at this
    omega
  rw [Int.mul_neg, Int.mul_neg, Int.neg_mul, Int.neg_mul, Int.mul_comm δ pd, Int.mul_comm δ qd]
  exact ⟨hs, Int.neg_lt_neg (Int.lt_of_sub_neg gp), Int.neg_le_neg (Int.le_of_sub_nonneg gq)⟩

/-- … and with `σ < 0` it is negative at every integer `r < p` as well -/
theorem affine_neg_below {δ σ r pn pd : Int} (hs : σ < 0) (hp : 0 < pd) (hr : r * pd < pn) (gp : pd * δ - pn * σ < 0) :
    δ - r * σ < 0 := by
  have := Int.mul_neg_of_pos_of_neg (Int.sub_pos_of_lt hr) hs
  have e := affine_diff δ σ r 1 pn pd
  simp only [Int.one_mul, Int.mul_one, Int.mul_neg] at e
  exact Int.neg_of_mul_neg_right (a := pd) (by omega) hp

/-- a point collinear with `a`, `b` at a height between theirs lies between them in `x` as well; `k = a.y − p.y`, `H = a.y − b.y` -/
theorem between_of_collinear {ax bx px k H : Int} (hH : 0 < H) (hk0 : 0 ≤ k) (hk : k ≤ H) (e : (px - ax) * H = (bx - ax) * k) :
    min ax bx ≤ px ∧ px ≤ max ax bx := by
  rcases Int.le_total ax bx with hw | hw
  · have h0 := Int.mul_nonneg (Int.sub_nonneg_of_le hw) hk0
    have h1 := Int.mul_le_mul_of_nonneg_left hk (Int.sub_nonneg_of_le hw)
    rw [← e] at h0 h1
    rw [Int.min_eq_left hw, Int.max_eq_right hw]
    exact ⟨Int.le_of_sub_nonneg (Int.nonneg_of_mul_nonneg_left h0 hH), Int.le_of_sub_le_sub_right (Int.le_of_mul_le_mul_right h1 hH)⟩
  · have h0 := Int.mul_nonpos_of_nonpos_of_nonneg (Int.sub_nonpos_of_le hw) hk0
    have h1 := Int.mul_le_mul_of_nonpos_left (Int.sub_nonpos_of_le hw) hk
    rw [← e] at h0 h1
    rw [Int.min_eq_right hw, Int.max_eq_left hw]
    exact ⟨Int.le_of_sub_le_sub_right (Int.le_of_mul_le_mul_right h1 hH), Int.le_of_sub_nonpos (Int.nonpos_of_mul_nonpos_left h0 hH)⟩

/-- `Spec.cross` of `D·bot`, `D·top` and the point `k·(xn, yn)`, for `D = d·k` -/
theorem cross_scale (d k bx by' tx ty xn yn : Int) :
    (d * k * tx - d * k * bx) * (yn * k - d * k * by') - (d * k * ty - d * k * by') * (xn * k - d * k * bx) =
      d * k * k * ((tx - bx) * (yn - d * by') + (by' - ty) * (xn - d * bx)) := by grind

/-- the fraction `yn/d` and the level `hn/hd`, written as the integers `py = (yn/d)·D`, `lo = (hn/hd)·D` in coordinates scaled by `D`,
over the common denominator `d·hd` -/
theorem scaled_cmp {yn d py hn hd lo D : Int} (ey : py * d = yn * D) (el : lo * hd = hn * D) :
    py * (d * hd) = yn * hd * D ∧ lo * (d * hd) = hn * d * D := by
  constructor
  · rw [← Int.mul_assoc, ey, Int.mul_right_comm]
  · rw [Int.mul_comm d hd, ← Int.mul_assoc, el, Int.mul_right_comm]

theorem scaled_le {yn d py hn hd lo D : Int} (d0 : 0 < d) (hd0 : 0 < hd) (hD : 0 < D) (ey : py * d = yn * D) (el : lo * hd = hn * D)
    (h : yn * hd ≤ hn * d) : py ≤ lo := by
  obtain ⟨e1, e2⟩ := scaled_cmp ey el
  exact Int.le_of_mul_le_mul_right (e1 ▸ e2 ▸ Int.mul_le_mul_of_nonneg_right h (Int.le_of_lt hD)) (Int.mul_pos d0 hd0)

theorem scaled_lt {yn d py hn hd lo D : Int} (d0 : 0 < d) (hd0 : 0 < hd) (hD : 0 < D) (ey : py * d = yn * D) (el : lo * hd = hn * D)
    (h : hn * d < yn * hd) : lo < py := by
  obtain ⟨e1, e2⟩ := scaled_cmp ey el
  exact Int.lt_of_mul_lt_mul_right (e1 ▸ e2 ▸ Int.mul_lt_mul_of_pos_right h hD) (Int.le_of_lt (Int.mul_pos d0 hd0))

theorem scaled_int (D y : Int) : D * y * 1 = y * D := by rw [Int.mul_one, Int.mul_comm]

theorem exN_eq (e : GEdge) (y : Int) : exN e y = e.bot.x * exD e + SweepOrder.run e * (e.bot.y - y) := rfl

theorem delta_at (a b : GEdge) (y : Int) : delta y a b = delta 0 a b - y * sigma a b := by
  rw [delta_affine 0 y a b, Int.zero_sub, Int.neg_mul]; omega

theorem crossQ_neg (a b : GEdge) (h : det a b < 0) :
    (crossQ a b).d = -(det a b) ∧ (crossQ a b).yn = -(a.bot.y * det a b - sNum a b * exD a) ∧
      (crossQ a b).xn = -(a.bot.x * det a b + sNum a b * SweepOrder.run a) := by
  simp [crossQ, h]

/-- for lines that turn towards each other going up (`sigma < 0`), the height `yn/d` of the crossing point is where `delta` vanishes -/
theorem crossQ_of_neg (a b : GEdge) (h : sigma a b < 0) : (crossQ a b).d = -sigma a b ∧ (crossQ a b).yn = -delta 0 a b := by
  refine ⟨(crossQ_neg a b h).1, ?_⟩
  rw [(crossQ_neg a b h).2.1]
  simp only [delta, exN_eq, det, sNum]
  generalize SweepOrder.run a = ra, exD a = da, SweepOrder.run b = rb, exD b = db
  grind

/-- the crossing point is on the line of `a` … -/
theorem crossQ_line_a (a b : GEdge) :
    SweepOrder.run a * ((crossQ a b).yn - (crossQ a b).d * a.bot.y) + exD a * ((crossQ a b).xn - (crossQ a b).d * a.bot.x) = 0 := by
  unfold crossQ
  generalize det a b = Δ, sNum a b = s, SweepOrder.run a = ra, exD a = da
  split <;> grind

/-- … and on the line of `b` (Cramer) -/
theorem crossQ_line_b (a b : GEdge) :
    SweepOrder.run b * ((crossQ a b).yn - (crossQ a b).d * b.bot.y) + exD b * ((crossQ a b).xn - (crossQ a b).d * b.bot.x) = 0 := by
  unfold crossQ det sNum
  generalize SweepOrder.run a = ra, exD a = da, SweepOrder.run b = rb, exD b = db
  split <;> grind

/-- **two edges that are in the order `a`, `b` (not strictly reversed) at `y0` and strictly reversed at `y1 < y0`, both spanning the
scanbeam `[y1, y0]`: the crossing point `crossQ a b` has a positive denominator and lies on both closed segments**, at a height
in `(y1, y0]`. -/
theorem crossQ_on (a b : GEdge) (y0 y1 : Int) (hy : y1 < y0) (h0 : 0 ≤ delta y0 a b) (h1 : delta y1 a b < 0)
    (ha : a.top.y ≤ y1 ∧ y0 ≤ a.bot.y) (hb : b.top.y ≤ y1 ∧ y0 ≤ b.bot.y) :
    0 < (crossQ a b).d ∧ OnQ a (crossQ a b) ∧ OnQ b (crossQ a b) ∧
      (crossQ a b).d * y1 < (crossQ a b).yn ∧ (crossQ a b).yn ≤ (crossQ a b).d * y0 := by
  rw [delta_at, ← Int.one_mul (delta 0 a b)] at h0 h1
  obtain ⟨hs, lo, hi⟩ := affine_root (pd := 1) (qd := 1) Int.one_pos Int.one_pos (by omega) h1 h0
  obtain ⟨e1, e2⟩ := crossQ_of_neg a b hs
  rw [← e1, ← e2, Int.mul_one, Int.mul_comm] at lo hi
  have dpos : 0 < (crossQ a b).d := by omega
  have mono : ∀ {u v : Int}, u ≤ v → (crossQ a b).d * u ≤ (crossQ a b).d * v :=
    fun h => Int.mul_le_mul_of_nonneg_left h (Int.le_of_lt dpos)
  refine ⟨dpos, ⟨crossQ_line_a a b, ?_, ?_⟩, ⟨crossQ_line_b a b, ?_, ?_⟩, lo, hi⟩
  · exact Int.le_trans (mono ha.1) (Int.le_of_lt lo)
  · exact Int.le_trans hi (mono ha.2)
  · exact Int.le_trans (mono hb.1) (Int.le_of_lt lo)
  · exact Int.le_trans hi (mono hb.2)

/-- the point `q`, in coordinates scaled by a multiple `D = d·k` of its denominator -/
theorem toPt_of_dvd (D : Int) (q : QPt) (hd : q.d ≠ 0) (hdiv : q.d ∣ D) : ∃ k, D = q.d * k ∧ q.toPt D = ⟨q.xn * k, q.yn * k⟩ := by
  obtain ⟨k, hk⟩ := hdiv
  exact ⟨k, hk, by rw [QPt.toPt, hk, Int.mul_ediv_cancel_left _ hd]⟩

/-- a rational point on an edge, written in coordinates scaled by a multiple `D` of its denominator, is on the scaled edge -/
theorem onE_of_onQ (D : Int) (e : GEdge) (q : QPt) (hd : 0 < q.d) (hD : 0 < D) (hdiv : q.d ∣ D) (h : OnQ e q) : OnE D e (q.toPt D) := by
  obtain ⟨k, hk, hp⟩ := toPt_of_dvd D q (by omega) hdiv
  have hkpos : 0 < k := Int.pos_of_mul_pos_right (hk ▸ hD) hd
  obtain ⟨h1, h2, h3⟩ := h
  rw [hp, hk]
  refine ⟨?_, ?_, ?_⟩
  · simp only [cross, Pt.scale]
    simp only [exD, SweepOrder.run] at h1
    rw [cross_scale, h1, Int.mul_zero]
  · have := Int.mul_le_mul_of_nonneg_right h2 (Int.le_of_lt hkpos)
    rwa [Int.mul_right_comm] at this
  · have := Int.mul_le_mul_of_nonneg_right h3 (Int.le_of_lt hkpos)
    rwa [Int.mul_right_comm] at this

theorem toPt_y (D : Int) (q : QPt) (hd : 0 < q.d) (hdiv : q.d ∣ D) : (q.toPt D).y * q.d = q.yn * D := by
  obtain ⟨k, hk, hp⟩ := toPt_of_dvd D q (by omega) hdiv
  rw [hp, hk, Int.mul_right_comm, Int.mul_assoc]

theorem onE_bot (D : Int) (e : GEdge) (hD : 0 < D) (hu : e.Up) : OnE D e (Pt.scale D e.bot) :=
  ⟨by simp [cross], Int.mul_le_mul_of_nonneg_left (Int.le_of_lt hu) (Int.le_of_lt hD), Int.le_refl _⟩

theorem onE_top (D : Int) (e : GEdge) (hD : 0 < D) (hu : e.Up) : OnE D e (Pt.scale D e.top) :=
  ⟨by simp only [cross]; rw [Int.mul_comm]; exact Int.sub_self _, Int.le_refl _, Int.mul_le_mul_of_nonneg_left (Int.le_of_lt hu) (Int.le_of_lt hD)⟩

/-- the specification's `onSeg` for a segment that is not horizontal: collinear, at a height between the end points -/
theorem onSeg_iff_of_lt (p a b : Pt) (h : b.y < a.y) : onSeg p a b = true ↔ cross a b p = 0 ∧ b.y ≤ p.y ∧ p.y ≤ a.y := by
  simp only [onSeg, Bool.and_eq_true, beq_iff_eq, decide_eq_true_eq, Int.min_eq_right (Int.le_of_lt h), Int.max_eq_left (Int.le_of_lt h)]
  refine ⟨fun ⟨⟨⟨⟨hc, _⟩, _⟩, h3⟩, h4⟩ => ⟨hc, h3, h4⟩, fun ⟨hc, h1, h2⟩ => ?_⟩
  have e : (p.x - a.x) * (a.y - b.y) = (b.x - a.x) * (a.y - p.y) := by
    rw [← Int.neg_sub b.y, ← Int.neg_sub p.y, Int.mul_neg, Int.mul_neg, Int.mul_comm (p.x - a.x)]
    unfold cross at hc
    omega
  have hx := between_of_collinear (Int.sub_pos_of_lt h) (Int.sub_nonneg_of_le h2) (Int.sub_le_sub_left h1 _) e
  exact ⟨⟨⟨⟨hc, hx.1⟩, hx.2⟩, h1⟩, h2⟩

/-- **`OnE` is the specification's `onSeg`** on the scaled end points (non-horizontal edge, `D > 0`) -/
theorem onE_iff_onSeg (D : Int) (e : GEdge) (p : Pt) (hD : 0 < D) (hu : e.Up) :
    OnE D e p ↔ onSeg p (Pt.scale D e.bot) (Pt.scale D e.top) = true := by
  rw [onSeg_iff_of_lt p _ _ (show (Pt.scale D e.top).y < (Pt.scale D e.bot).y from Int.mul_lt_mul_of_pos_left hu hD)]
  rfl

end Clipper.Lemmas.C01Output

/- Helper lemmas for C12: the comparator is a total preorder; the invariant tying a `ClipperBase` object to the summary of its
history; the fold that collects the calls since the last `Clear` (shared by the member-level and the path-level
histories); outputs of `runFrom`. -/
import ClipperVerif.Model.History
import ClipperVerif.Lemmas.StableSort
namespace Clipper.Lemmas.History
open Clipper Clipper.Model.History Clipper.Lemmas.StableSort

theorem locMinLe_iff (a b : LocalMin) : locMinLe a b = true ↔ (a.y > b.y ∨ (a.y = b.y ∧ a.x ≤ b.x)) := by
  unfold locMinLe locMinBefore
  by_cases h : a.y = b.y
  · simp [h]
  · have h' : ¬ (b.y = a.y) := fun e => h e.symm
    simp [h]
    omega

theorem locMinLe_trans (a b c : LocalMin) : locMinLe a b = true → locMinLe b c = true → locMinLe a c = true := by
  simp only [locMinLe_iff]; omega

theorem locMinLe_total (a b : LocalMin) : (locMinLe a b || locMinLe b a) = true := by
  simp only [Bool.or_eq_true, locMinLe_iff]; omega

theorem stableSort_append (xs ys : List LocalMin) : stableSort (stableSort xs ++ ys) = stableSort (xs ++ ys) :=
  mergeSort_mergeSort_append locMinLe_trans locMinLe_total xs ys

theorem stableSort_idem (xs : List LocalMin) : stableSort (stableSort xs) = stableSort xs :=
  mergeSort_idem locMinLe_trans locMinLe_total xs

theorem stableSort_congr_append {xs xs' : List LocalMin} (h : stableSort xs = stableSort xs') (ys : List LocalMin) :
    stableSort (xs ++ ys) = stableSort (xs' ++ ys) := by
  rw [← stableSort_append xs ys, h, stableSort_append]

/-- what ties an object to the summary of the history that produced it -/
structure Inv (c : Clipper) (i : Inputs) : Prop where
  sortEq : stableSort c.minima = stableSort i.minima
  sortedEq : c.sorted = true → c.minima = stableSort i.minima
  hasOpen : c.hasOpen = i.hasOpen
  allocs : c.vertexLists = i.allocs
  preserve : c.preserve = i.preserve
  reverse : c.reverse = i.reverse
  cleaned : c.s.cleaned

theorem inv_fresh : Inv fresh {} := by
  constructor <;> simp [fresh, Scratch.cleaned]

/-- an add call: its minima are appended (so the list counts as unsorted again), the two flags accumulate -/
theorem Inv.add {c c' i} (h : Inv c i) (ms : List LocalMin) (b : Bool) (k : Nat)
    (hm : c'.minima = c.minima ++ ms) (hs : c'.sorted = false) (ho : c'.hasOpen = (c.hasOpen || b))
    (ha : c'.vertexLists = c.vertexLists + k) (hp : c'.preserve = c.preserve) (hr : c'.reverse = c.reverse)
    (hsc : c'.s = c.s) :
    Inv c' { i with minima := i.minima ++ ms, hasOpen := i.hasOpen || b, allocs := i.allocs + k } where
  sortEq := hm ▸ stableSort_congr_append h.sortEq ms
  sortedEq e := by rw [hs] at e; cases e
  hasOpen := by rw [ho, h.hasOpen]
  allocs := by rw [ha, h.allocs]
  preserve := hp.trans h.preserve
  reverse := hr.trans h.reverse
  cleaned := hsc ▸ h.cleaned

theorem inv_addPaths {c i} (h : Inv c i) (a : Added) :
    Inv (addPaths c a) { i with minima := i.minima ++ a.minima, hasOpen := i.hasOpen || a.isOpen,
                                allocs := i.allocs + (if a.allocates then 1 else 0) } :=
  h.add _ _ _ rfl rfl
    (show (if a.isOpen then true else c.hasOpen) = (c.hasOpen || a.isOpen) by cases a.isOpen <;> simp) rfl rfl rfl rfl

theorem inv_addReuseable {c i} (h : Inv c i) (r : Container) :
    Inv (addReuseable c r) { i with minima := i.minima ++ r.minima, hasOpen := i.hasOpen || r.minima.any (·.isOpen),
                                    allocs := i.allocs + 0 } :=
  h.add _ _ _ rfl rfl rfl rfl rfl rfl rfl

theorem cleaned_cleanUp (c : Clipper) : (cleanUp c).s.cleaned := by
  simp [cleanUp, Scratch.cleaned]

theorem inv_clear {c i} (h : Inv c i) : Inv (clear c) { i with minima := [], hasOpen := false, allocs := 0 } :=
  ⟨rfl, fun e => (nomatch e), rfl, rfl, h.preserve, h.reverse, cleaned_cleanUp c⟩

/-- `Reset()` on an object satisfying the invariant yields the closed-form start state, `bot_y_` aside. -/
theorem reset_eq_sweepStart {c i} (h : Inv c i) (ct : ClipType) (fr : FillRule) (tree : Bool) :
    reset { c with cliptype := ct, fillrule := fr, usingPolytree := tree }
      = { sweepStart i ct fr tree with s := { (sweepStart i ct fr tree).s with botY := c.s.botY } } := by
  have hm : (if c.sorted then c.minima else stableSort c.minima) = stableSort i.minima := by
    cases hs : c.sorted
    · simpa using h.sortEq
    · simpa using h.sortedEq hs
  obtain ⟨h1, h2, h3, h4, h5, h6⟩ := h.cleaned
  cases c with
  | mk minima vertexLists sorted hasOpen preserve reverse cliptype fillrule usingPolytree s locminIter succeeded =>
    cases s with
    | mk actives sel scanlines intersectNodes outrecs horzSegs horzJoins botY =>
      simp only at h1 h2 h3 h4 h5 h6 hm
      have := h.hasOpen; have := h.allocs; have := h.preserve; have := h.reverse
      simp_all [reset, sweepStart]

theorem inv_execute {R : Type} (run : Sweep R) {c i} (h : Inv c i) (ct : ClipType) (fr : FillRule) (tree : Bool) :
    Inv (execute run c ct fr tree).2 i := by
  simp only [execute]
  rw [reset_eq_sweepStart h ct fr tree]
  exact ⟨stableSort_idem _, fun _ => rfl, rfl, rfl, rfl, rfl, cleaned_cleanUp _⟩

theorem inv_step {R : Type} (run : Sweep R) {c i} (h : Inv c i) (op : Op) : Inv (step run c op).1 (i.step op) := by
  cases op with
  | addSubject a => exact inv_addPaths h a
  | addOpenSubject a => exact inv_addPaths h a
  | addClip a => exact inv_addPaths h a
  | addReuseable r => exact inv_addReuseable h r
  | setPreserve b => exact { h with preserve := rfl }
  | setReverse b => exact { h with reverse := rfl }
  | execute ct fr tree => exact inv_execute run h ct fr tree
  | clear => exact inv_clear h

theorem inv_foldl {R : Type} (run : Sweep R) (ops : List Op) {c i} (h : Inv c i) :
    Inv (ops.foldl (fun c op => (step run c op).1) c) (ops.foldl Inputs.step i) := by
  induction ops generalizing c i with
  | nil => exact h
  | cons op ops ih => exact ih (inv_step run h op)

theorem inv_after {R : Type} (run : Sweep R) (ops : List Op) : Inv (after run ops) (inputsOf ops) :=
  inv_foldl run ops inv_fresh

/-- `sel_` is null after every op when the sweep drains it: only `Execute` writes it -/
theorem sel_foldl {R : Type} (run : Sweep R) (hsel : SweepDrainsSel run) (ops : List Op) {c : Clipper} (h : c.s.sel = []) :
    (ops.foldl (fun c op => (step run c op).1) c).s.sel = [] := by
  induction ops generalizing c with
  | nil => exact h
  | cons op ops ih =>
    apply ih
    cases op with
    | execute ct fr tree => exact hsel _
    | _ => exact h

/-- the members of the summary other than the minima list -/
def restOf (i : Inputs) : Bool × Nat × Bool × Bool := (i.hasOpen, i.allocs, i.preserve, i.reverse)

/-- the start states for two summaries that agree outside the minima list, and whose sorted minima lie at the same
heights, differ in `minima_list_` only -/
theorem sweepStart_minima {i i' : Inputs} (hr : restOf i = restOf i')
    (hy : (stableSort i'.minima).map (·.y) = (stableSort i.minima).map (·.y)) (ct : ClipType) (fr : FillRule)
    (tree : Bool) :
    { sweepStart i' ct fr tree with minima := (sweepStart i ct fr tree).minima } = sweepStart i ct fr tree := by
  obtain ⟨m, o, a, p, r⟩ := i
  obtain ⟨m', o', a', p', r'⟩ := i'
  simp only [restOf, Prod.mk.injEq] at hr
  obtain ⟨rfl, rfl, rfl, rfl⟩ := hr
  simp only [sweepStart, hy]

/-- Both levels of histories (member level: `Op`, `Inputs.step`; path level: `POp`, `pstep`) summarise a history in the
same way, and both "replay" theorems say the same thing: options aside, the summary is what the add calls since the last
`Clear` produce on an empty summary.  Here `step` is the summary's step and `e` the empty summary, `opts i p r` is the
summary `i` with the two options overwritten, `clr` the `Clear` op, and `since` the step of the fold that collects the
add calls since the last `Clear`. -/
theorem sinceClear_fold {Op I : Type} {step : I → Op → I} {isAdd : Op → Bool} {clr : Op}
    {opts : I → Bool → Bool → I} {e : I} {since : List Op → Op → List Op}
    (h_clear : ∀ i p r, opts (step i clr) p r = opts e p r)
    (h_add : ∀ i op p r, isAdd op = true → opts (step i op) p r = step (opts i p r) op)
    (h_other : ∀ i op p r, isAdd op = false → op ≠ clr → opts (step i op) p r = opts i p r)
    (hs_clear : ∀ acc, since acc clr = [])
    (hs : ∀ acc op, op ≠ clr → since acc op = if isAdd op then acc ++ [op] else acc) :
    ∀ (h : List Op) (i : I) (acc : List Op), (∀ p r, opts i p r = acc.foldl step (opts e p r)) →
      ∀ p r, opts (h.foldl step i) p r = (h.foldl since acc).foldl step (opts e p r) := by
  intro h
  induction h with
  | nil => exact fun _ _ hi => hi
  | cons op h ih =>
    intro i acc hi
    rw [List.foldl_cons, List.foldl_cons]
    by_cases hc : op = clr
    · subst hc
      rw [hs_clear]
      exact ih _ _ (fun p r => h_clear i p r)
    · rw [hs acc op hc]
      cases hadd : isAdd op
      · exact ih _ _ (fun p r => (h_other i op p r hadd hc).trans (hi p r))
      · rw [if_pos rfl]
        refine ih _ _ (fun p r => ?_)
        rw [List.foldl_append, ← hi p r, h_add i op p r hadd]
        rfl

theorem runFrom_fst {R : Type} (run : Sweep R) (c : Clipper) (ops : List Op) :
    (runFrom run c ops).1 = ops.foldl (fun c op => (step run c op).1) c := by
  induction ops generalizing c with
  | nil => rfl
  | cons op ops ih => simp [runFrom, ih]

theorem runFrom_append {R : Type} (run : Sweep R) (c : Clipper) (l₁ l₂ : List Op) :
    (runFrom run c (l₁ ++ l₂)).2 = (runFrom run c l₁).2 ++ (runFrom run (runFrom run c l₁).1 l₂).2 := by
  induction l₁ generalizing c with
  | nil => simp [runFrom]
  | cons op ops ih => simp [runFrom, ih]

theorem runFrom_length {R : Type} (run : Sweep R) (c : Clipper) (l : List Op) : (runFrom run c l).2.length = l.length := by
  induction l generalizing c with
  | nil => rfl
  | cons op ops ih => simp [runFrom, ih]

end Clipper.Lemmas.History

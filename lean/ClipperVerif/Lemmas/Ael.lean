/- Lemmas for the AEL bookkeeping model (`Model/Ael.lean`): how the stored counts encode the winding sums, the decision
tables of `IsContributingClosed` and `IntersectEdges`, the invariant under an adjacent swap and under an insertion
(`SetWindCountForClosedPathEdge`), every accepted operation as the replacement of a window of the list that keeps the
winding sums (`Win`, `step_iff`, `window_frame`), and the induction over a run of operations (`run_invariant`).
Core Lean only. -/
import ClipperVerif.Model.Ael
namespace Clipper.Model

/-- `Spec.inR` with the arguments ordered by the path type of the edge under consideration -/
def filled (ct : ClipType) (fr : FillRule) (pt : PathType) (ownW otherW : Int) : Bool :=
  match pt with
  | .subject => inR ct fr ownW otherW
  | .clip => inR ct fr otherW ownW

theorem maxabs_succ (a : Int) : maxabs a (a + 1) = if a ≥ 0 then a + 1 else a := by
  simp only [maxabs, iabs]; omega
theorem maxabs_pred (a : Int) : maxabs a (a + -1) = if a ≤ 0 then a + -1 else a := by
  simp only [maxabs, iabs]; omega

theorem maxabs_ne_zero (a d : Int) (hd : d = 1 ∨ d = -1) : maxabs a (a + d) ≠ 0 := by
  rcases hd with rfl | rfl
  · rw [maxabs_succ]; omega
  · rw [maxabs_pred]; omega

/-- moving the sum to the left of an edge by `e = ±1` moves its stored count by `e`, skipping 0 -/
theorem maxabs_shift (a d e : Int) (hd : d = 1 ∨ d = -1) (he : e = 1 ∨ e = -1) :
    maxabs (a + e) (a + e + d) =
      if maxabs a (a + d) + e = 0 then -maxabs a (a + d) else maxabs a (a + d) + e := by
  rcases hd with rfl | rfl <;> rcases he with rfl | rfl <;> simp only [maxabs_succ, maxabs_pred] <;> omega

/-- same type, not EvenOdd: the two count updates produce the encodings at the swapped positions -/
theorem upd_same (a d1 d2 : Int) (h1 : d1 = 1 ∨ d1 = -1) (h2 : d2 = 1 ∨ d2 = -1) :
    (if maxabs a (a + d1) + d2 = 0 then -maxabs a (a + d1) else maxabs a (a + d1) + d2)
        = maxabs (a + d2) (a + d2 + d1) ∧
    (if maxabs (a + d1) (a + d1 + d2) - d1 = 0 then -maxabs (a + d1) (a + d1 + d2)
        else maxabs (a + d1) (a + d1 + d2) - d1) = maxabs a (a + d2) := by
  refine ⟨(maxabs_shift a d1 d2 h1 h2).symm, ?_⟩
  have := maxabs_shift (a + d1) d2 (-d1) h2 (by omega)
  rw [Int.add_neg_cancel_right] at this
  simp only [Int.sub_eq_add_neg, this]

/-- the same count seen from the right of the edge -/
theorem maxabs_back (a d : Int) (hd : d = 1 ∨ d = -1) : maxabs a (a + d) = maxabs (a + d) (a + d + -d) := by
  rcases hd with rfl | rfl
  · rw [maxabs_succ, maxabs_pred]; omega
  · rw [Int.neg_neg, maxabs_succ, maxabs_pred]; omega

/-- `wcFrom` for a closed edge: an edge running the same way as `e2` counts on from `e2`'s count (skipping 0), one running the
other way shares it -/
theorem wcFrom_eq (m d2 dx : Int) (h2 : d2 = 1 ∨ d2 = -1) (hx : dx = 1 ∨ dx = -1) :
    wcFrom false m d2 dx = if d2 = dx then (if m + d2 = 0 then dx else m + dx) else m := by
  rcases h2 with rfl | rfl <;> rcases hx with rfl | rfl <;>
    simp only [wcFrom, iabs, Int.mul_one, Int.mul_neg, Int.neg_neg, Int.reduceLT, Int.reduceNeg, Int.reduceEq,
      Bool.false_eq_true, if_false, if_true] <;> omega

theorem wcFrom_enc (w d2 dx : Int) (h2 : d2 = 1 ∨ d2 = -1) (hx : dx = 1 ∨ dx = -1) :
    wcFrom false (maxabs w (w + d2)) d2 dx = maxabs (w + d2) (w + d2 + dx) := by
  rw [wcFrom_eq _ _ _ h2 hx]
  split
  next h => subst h; rw [maxabs_shift w d2 d2 h2 h2]; split <;> omega
  next h => obtain rfl : dx = -d2 := by omega
            exact maxabs_back w d2 h2

theorem bne_decide (p q : Prop) [Decidable p] [Decidable q] : (decide p != decide q) = decide (¬(p ↔ q)) := by
  by_cases p <;> by_cases q <;> simp [*]

/-- the EvenOdd toggle `wc2 = (wc2 == 0 ? 1 : 0)` is the parity of a sum that moved by ±1 -/
theorem parity_toggle (w v : Int) (h : v - w = 1 ∨ v - w = -1) : (if w % 2 = 0 then (1 : Int) else 0) = v % 2 := by
  omega

/-- the stored own count passes the first test of `IsContributingClosed` iff the own fill state differs across the edge -/
theorem pre_iff (fr : FillRule) (wl d : Int) (hd : d = 1 ∨ d = -1) (wc : Int)
    (h : match fr with | .evenOdd => True | _ => wc = maxabs wl (wl + d)) :
    pre fr wc = (inFill fr wl != inFill fr (wl + d)) := by
  by_cases hfr : fr = .evenOdd
  · -- every edge is a boundary: the parity changes
    subst hfr
    simp only [pre, inFill, ← parity_toggle wl (wl + d) (by omega)]
    by_cases h0 : wl % 2 = 0 <;> simp [h0]
  · rcases hd with rfl | rfl <;> cases fr <;> first | exact absurd rfl hfr | skip
    all_goals
      simp only at h
      simp only [h, pre, inFill, bne_decide, maxabs_succ, maxabs_pred, iabs, Bool.beq_eq_decide_eq, decide_eq_decide]
      omega

/-- the stored counts that `WcOK` asks for (`wcOK_enc`): `wind_cnt` of an edge of direction `dx` with own-type sum `s` on its left … -/
def encWc (fr : FillRule) (s dx : Int) : Int := match fr with | .evenOdd => dx | _ => maxabs s (s + dx)
/-- … and `wind_cnt2` for the other-type sum `s` -/
def enc2 (fr : FillRule) (s : Int) : Int := match fr with | .evenOdd => s % 2 | _ => s

theorem enc2_zero (fr : FillRule) : enc2 fr 0 = 0 := by cases fr <;> rfl

theorem wcOK_enc (fr : FillRule) (s dx w2 : Int) (hd : dx = 1 ∨ dx = -1) :
    WcOK fr (encWc fr s dx) dx (enc2 fr w2) s w2 := by
  cases fr <;> simp [WcOK, encWc, enc2, hd]

theorem wcOK_wc2 {fr : FillRule} {wc dx wc2 wl w2 : Int} (h : WcOK fr wc dx wc2 wl w2) : wc2 = enc2 fr w2 := by
  cases fr <;> exact h.2

/-- `wc2` enters `WcOK` only through `wc2 = enc2 fr w2` -/
theorem wcOK_of_wc2 {fr : FillRule} {wc dx wc2 wl w2 wc2' w2' : Int} (h : WcOK fr wc dx wc2 wl w2)
    (h2 : wc2' = enc2 fr w2') : WcOK fr wc dx wc2' wl w2' := by
  cases fr <;> exact ⟨h.1, h2⟩

theorem enc_of_ne {fr : FillRule} (hfr : fr ≠ .evenOdd) (s dx : Int) :
    encWc fr s dx = maxabs s (s + dx) ∧ enc2 fr s = s := by
  cases fr <;> first | exact absurd rfl hfr | exact ⟨rfl, rfl⟩

theorem wcOK_wc {fr : FillRule} (hfr : fr ≠ .evenOdd) {wc dx wc2 wl w2 : Int} (h : WcOK fr wc dx wc2 wl w2) :
    wc = maxabs wl (wl + dx) := by
  cases fr <;> first | exact absurd rfl hfr | exact h.1

theorem encWc_zero (fr : FillRule) (dx : Int) (hd : dx = 1 ∨ dx = -1) : encWc fr 0 dx = dx := by
  cases fr <;> simp only [encWc] <;> rcases hd with rfl | rfl <;> rfl

theorem wcOK_pre (fr : FillRule) (wc dx wc2 wl w2 : Int) (hd : dx = 1 ∨ dx = -1)
    (h : WcOK fr wc dx wc2 wl w2) : pre fr wc = (inFill fr wl != inFill fr (wl + dx)) :=
  pre_iff fr wl dx hd wc (by cases fr <;> first | trivial | exact h.1)

theorem otherIn_enc2 (fr : FillRule) (w : Int) : otherIn fr (enc2 fr w) = inFill fr w := by cases fr <;> rfl

theorem wcOK_otherIn (fr : FillRule) (wc dx wc2 wl w2 : Int)
    (h : WcOK fr wc dx wc2 wl w2) : otherIn fr wc2 = inFill fr w2 := by
  rw [wcOK_wc2 h, otherIn_enc2]

/-- `filled` differs across an edge iff the own fill state differs and the other type's state selects it -/
theorem filled_bne (ct : ClipType) (fr : FillRule) (pt : PathType) (wl wr w2 : Int) :
    (filled ct fr pt wl w2 != filled ct fr pt wr w2) =
      ((inFill fr wl != inFill fr wr) && sel ct pt (inFill fr w2)) := by
  cases ct <;> cases pt <;> simp only [filled, inR, sel, ite_true, ite_false, reduceCtorEq] <;>
    generalize inFill fr wl = a <;> generalize inFill fr wr = b <;> generalize inFill fr w2 = c <;>
    cases a <;> cases b <;> cases c <;> rfl

theorem icc_boundary (ct : ClipType) (fr : FillRule) (pt : PathType) (wc dx wc2 wl w2 : Int)
    (hd : dx = 1 ∨ dx = -1) (h : WcOK fr wc dx wc2 wl w2) :
    isContributingClosed ct fr pt wc wc2 = (filled ct fr pt wl w2 != filled ct fr pt (wl + dx) w2) := by
  rw [filled_bne, isContributingClosed, wcOK_pre fr wc dx wc2 wl w2 hd h, wcOK_otherIn fr wc dx wc2 wl w2 h]

theorem edgeOK_hot (cfg : Cfg) (e : Edge) (a b : Int) (h : EdgeOK cfg e a b) :
    e.hot = ((inFill cfg.fr a != inFill cfg.fr (a + e.dx)) && sel cfg.ct e.pt (inFill cfg.fr b)) := by
  obtain ⟨hd, hw, hh⟩ := h
  rw [hh, isContributingClosed, wcOK_pre _ _ _ _ _ _ hd hw, wcOK_otherIn _ _ _ _ _ _ hw]

/-- stored own counts are never 0 -/
def NZ (fr : FillRule) (wc : Int) : Prop := match fr with | .evenOdd => wc = 1 ∨ wc = -1 | _ => wc ≠ 0

theorem wc_nonzero (fr : FillRule) (wc dx wc2 a b : Int) (hd : dx = 1 ∨ dx = -1)
    (h : WcOK fr wc dx wc2 a b) : NZ fr wc := by
  cases fr <;> simp only [WcOK, NZ] at h ⊢
  · exact h.1
  all_goals (rw [h.1]; exact maxabs_ne_zero a dx hd)

/-- with a non-zero stored count, "old wind count in {0,1}" and "== 1" are both the own-boundary test -/
theorem in01_eq_pre (fr : FillRule) (wc : Int) (h : NZ fr wc) :
    in01 (oldWc fr wc) = pre fr wc ∧ (oldWc fr wc == 1) = pre fr wc := by
  have h1 : (oldWc fr wc == 1) = pre fr wc := by
    cases fr
    · rcases h with rfl | rfl <;> rfl
    · rfl
    · rfl
    · simp only [oldWc, pre, Bool.beq_eq_decide_eq, decide_eq_decide]; omega
  have h0 : (oldWc fr wc == 0) = false := by
    cases fr <;> simp only [NZ] at h <;> simp only [oldWc, iabs, beq_eq_false_iff_ne, ne_eq] <;> omega
  exact ⟨by rw [in01, h0, Bool.false_or, h1], h1⟩

/-- `oldWc` of a stored other-type count is positive iff the other type's region is entered -/
theorem oldWc_pos (fr : FillRule) (w : Int) : decide (oldWc fr w > 0) = otherIn fr w := by
  have hi : iabs w > 0 ↔ w ≠ 0 := by simp only [iabs]; omega
  cases fr
  · exact decide_eq_decide.mpr hi
  · exact decide_eq_decide.mpr hi
  · rfl
  · exact decide_eq_decide.mpr Int.neg_pos

theorem goSame_self (ct : ClipType) (hct : ct ≠ .noClip) (pt : PathType) (w : Int) :
    goSame ct pt w w = sel ct pt (decide (w > 0)) := by
  have hle : decide (w ≤ 0) = !decide (w > 0) := by rw [← decide_not, decide_eq_decide]; omega
  cases ct <;> (try exact absurd rfl hct) <;> cases pt <;> simp [goSame, sel, hle]

/-- the "both cold, same type, both boundaries" test on the other type's count is `sel` -/
theorem goSame_eq_sel (fr : FillRule) (ct : ClipType) (hct : ct ≠ .noClip) (pt : PathType) (wc2 : Int)
    (h : match fr with | .evenOdd => wc2 = 0 ∨ wc2 = 1 | _ => True) :
    goSame ct pt (oldWc fr wc2) (oldWc fr wc2) = sel ct pt (otherIn fr wc2) := by
  rw [goSame_self ct hct, oldWc_pos]

/-- Boolean core, same path type.  `g0, g1, g12, g2`: the own fill state left of both edges, between them before the swap,
right of both, between them after the swap; `S`: the other type's selector. -/
theorem hot_same_core (hot1 hot2 g0 g1 g12 g2 S notXor : Bool)
    (hh1 : hot1 = ((g0 != g1) && S)) (hh2 : hot2 = ((g1 != g12) && S)) :
    decideHotB hot1 hot2 (g2 != g12) (g0 != g2) (g2 != g12) (g0 != g2) false notXor S
    = (((g2 != g12) && S), ((g0 != g2) && S)) := by
  subst hh1 hh2
  cases g0 <;> cases g1 <;> cases g12 <;> cases g2 <;> cases S <;> rfl

/-- `sel` as polarity: for every clip type but Xor it is `k != σ`; Xor is constantly true -/
def selP (notXor σ k : Bool) : Bool := if notXor then (k != σ) else true

def polarity (ct : ClipType) (pt : PathType) : Bool :=
  match ct, pt with
  | .intersection, _ => false
  | .union, _ => true
  | .difference, .subject => true
  | .difference, .clip => false
  | _, _ => false

theorem sel_eq_selP (ct : ClipType) (hct : ct ≠ .noClip) (pt : PathType) (k : Bool) :
    sel ct pt k = selP (ct != .xor) (polarity ct pt) k := by
  cases ct <;> (try exact absurd rfl hct) <;> cases pt <;> cases k <;> rfl

/-- Boolean core, different path types: an edge that is no boundary of its own type stays as it is; otherwise the other
type's state flips, which flips `selP` unless the clip type is Xor.  `q1`, `q2`, `go` are not looked at. -/
theorem hot_diff_core (hot1 hot2 x0 x1 y0 y1 notXor σ1 σ2 q1 q2 go : Bool)
    (hh1 : hot1 = ((x0 != x1) && selP notXor σ1 y0)) (hh2 : hot2 = ((y0 != y1) && selP notXor σ2 x1)) :
    decideHotB hot1 hot2 (x0 != x1) (y0 != y1) q1 q2 true notXor go
    = (((x0 != x1) && selP notXor σ1 y1), ((y0 != y1) && selP notXor σ2 x0)) := by
  subst hh1 hh2
  cases notXor
  · cases x0 <;> cases x1 <;> cases y0 <;> cases y1 <;> rfl
  · cases σ1 <;> cases σ2 <;> cases x0 <;> cases x1 <;> cases y0 <;> cases y1 <;> rfl

theorem updateWinds_fields (fr : FillRule) (e1 e2 : Edge) :
    (updateWinds fr e1 e2).1.pt = e1.pt ∧ (updateWinds fr e1 e2).1.isOpen = e1.isOpen ∧
    (updateWinds fr e1 e2).1.dx = e1.dx ∧ (updateWinds fr e1 e2).1.hot = e1.hot ∧
    (updateWinds fr e1 e2).2.pt = e2.pt ∧ (updateWinds fr e1 e2).2.isOpen = e2.isOpen ∧
    (updateWinds fr e1 e2).2.dx = e2.dx ∧ (updateWinds fr e1 e2).2.hot = e2.hot := by
  unfold updateWinds; split <;> split <;> exact ⟨rfl, rfl, rfl, rfl, rfl, rfl, rfl, rfl⟩

/-- same type: the updated counts are the encodings at the swapped positions -/
theorem wcOK_update_same (fr : FillRule) (e1 e2 : Edge) (a b : Int) (hpt : e1.pt = e2.pt)
    (hd1 : e1.dx = 1 ∨ e1.dx = -1) (hd2 : e2.dx = 1 ∨ e2.dx = -1)
    (hw1 : WcOK fr e1.wc e1.dx e1.wc2 a b) (hw2 : WcOK fr e2.wc e2.dx e2.wc2 (a + e1.dx) b) :
    WcOK fr (updateWinds fr e1 e2).2.wc e2.dx (updateWinds fr e1 e2).2.wc2 a b ∧
    WcOK fr (updateWinds fr e1 e2).1.wc e1.dx (updateWinds fr e1 e2).1.wc2 (a + e2.dx) b := by
  have hu := upd_same a e1.dx e2.dx hd1 hd2
  cases fr <;> simp only [WcOK, updateWinds, hpt, ite_true, reduceCtorEq, ite_false] at hw1 hw2 ⊢
  · exact ⟨⟨hw1.1, hw2.2⟩, ⟨hw2.1, hw1.2⟩⟩
  all_goals (rw [hw1.1, hw2.1]; exact ⟨⟨hu.2, hw2.2⟩, ⟨hu.1, hw1.2⟩⟩)

/-- different types: each edge's `wind_cnt2` takes the other edge's direction into account -/
theorem wcOK_update_diff (fr : FillRule) (e1 e2 : Edge) (a b : Int) (hpt : e1.pt ≠ e2.pt)
    (hw1 : WcOK fr e1.wc e1.dx e1.wc2 a b) (hw2 : WcOK fr e2.wc e2.dx e2.wc2 b (a + e1.dx))
    (hd1 : e1.dx = 1 ∨ e1.dx = -1) (hd2 : e2.dx = 1 ∨ e2.dx = -1) :
    WcOK fr (updateWinds fr e1 e2).2.wc e2.dx (updateWinds fr e1 e2).2.wc2 b a ∧
    WcOK fr (updateWinds fr e1 e2).1.wc e1.dx (updateWinds fr e1 e2).1.wc2 a (b + e2.dx) := by
  have h1 := wcOK_wc2 hw1
  have h2 := wcOK_wc2 hw2
  simp only [updateWinds, if_neg hpt]
  by_cases hfr : fr = .evenOdd
  · subst hfr
    simp only [ne_eq, not_true_eq_false, if_false, h1, h2, enc2]
    exact ⟨wcOK_of_wc2 hw2 (parity_toggle _ _ (by omega)), wcOK_of_wc2 hw1 (parity_toggle _ _ (by omega))⟩
  · have he : ∀ w, enc2 fr w = w := fun w => (enc_of_ne hfr w 0).2
    simp only [ne_eq, hfr, not_false_eq_true, if_true]
    exact ⟨wcOK_of_wc2 hw2 (by rw [h2, he, he]; omega), wcOK_of_wc2 hw1 (by rw [h1, he, he])⟩

/-- What is left of the invariant of a swapped pair once the updated counts are known to be the encodings at the new
positions (`e1` now has `a1`, `b1` to its left, `e2` has `a2`, `b2`): the Boolean decision has to produce "own boundary and
selected" for both edges. -/
theorem intersectClosed_edgeOK (cfg : Cfg) (e1 e2 : Edge) (a1 b1 a2 b2 : Int)
    (hd1 : e1.dx = 1 ∨ e1.dx = -1) (hd2 : e2.dx = 1 ∨ e2.dx = -1)
    (hW1 : WcOK cfg.fr (updateWinds cfg.fr e1 e2).1.wc e1.dx (updateWinds cfg.fr e1 e2).1.wc2 a1 b1)
    (hW2 : WcOK cfg.fr (updateWinds cfg.fr e1 e2).2.wc e2.dx (updateWinds cfg.fr e1 e2).2.wc2 a2 b2)
    (hH : decideHotB e1.hot e2.hot
        (inFill cfg.fr a1 != inFill cfg.fr (a1 + e1.dx)) (inFill cfg.fr a2 != inFill cfg.fr (a2 + e2.dx))
        (inFill cfg.fr a1 != inFill cfg.fr (a1 + e1.dx)) (inFill cfg.fr a2 != inFill cfg.fr (a2 + e2.dx))
        (e1.pt != e2.pt) (cfg.ct != .xor)
        (goSame cfg.ct e1.pt (oldWc cfg.fr (updateWinds cfg.fr e1 e2).1.wc2) (oldWc cfg.fr (updateWinds cfg.fr e1 e2).2.wc2)) =
      (((inFill cfg.fr a1 != inFill cfg.fr (a1 + e1.dx)) && sel cfg.ct e1.pt (inFill cfg.fr b1)),
       ((inFill cfg.fr a2 != inFill cfg.fr (a2 + e2.dx)) && sel cfg.ct e2.pt (inFill cfg.fr b2)))) :
    EdgeOK cfg (intersectClosed cfg e1 e2).2 a2 b2 ∧ EdgeOK cfg (intersectClosed cfg e1 e2).1 a1 b1 := by
  obtain ⟨f1, -, f3, f4, f5, -, f7, f8⟩ := updateWinds_fields cfg.fr e1 e2
  have hP1 := wcOK_pre _ _ _ _ _ _ hd1 hW1
  have hP2 := wcOK_pre _ _ _ _ _ _ hd2 hW2
  have hB1 := in01_eq_pre _ _ (wc_nonzero _ _ _ _ _ _ hd1 hW1)
  have hB2 := in01_eq_pre _ _ (wc_nonzero _ _ _ _ _ _ hd2 hW2)
  simp only [intersectClosed, decideHot, hB1.1, hB1.2, hB2.1, hB2.2, hP1, hP2, f1, f4, f5, f8, hH, EdgeOK, isContributingClosed,
    f3, f7, wcOK_otherIn _ _ _ _ _ _ hW1, wcOK_otherIn _ _ _ _ _ _ hW2]
  exact ⟨⟨hd2, hW2, trivial⟩, ⟨hd1, hW1, trivial⟩⟩

theorem inv_swap_same (cfg : Cfg) (hct : cfg.ct ≠ .noClip) (e1 e2 : Edge) (a b : Int)
    (hpt : e1.pt = e2.pt)
    (h1 : EdgeOK cfg e1 a b) (h2 : EdgeOK cfg e2 (a + e1.dx) b) :
    EdgeOK cfg (intersectClosed cfg e1 e2).2 a b ∧
    EdgeOK cfg (intersectClosed cfg e1 e2).1 (a + e2.dx) b := by
  have hh1 := edgeOK_hot cfg e1 a b h1
  have hh2 := edgeOK_hot cfg e2 (a + e1.dx) b h2
  obtain ⟨hd1, hw1, -⟩ := h1
  obtain ⟨hd2, hw2, -⟩ := h2
  obtain ⟨hW2, hW1⟩ := wcOK_update_same cfg.fr e1 e2 a b hpt hd1 hd2 hw1 hw2
  refine intersectClosed_edgeOK cfg e1 e2 _ _ _ _ hd1 hd2 hW1 hW2 ?_
  -- both edges see the same other-type sum `b`, so the cold/cold test is the selector
  rw [wcOK_wc2 hW2, ← wcOK_wc2 hW1, goSame_self cfg.ct hct, oldWc_pos,
    wcOK_otherIn _ _ _ _ _ _ hW1, ← hpt, bne_self_eq_false, Int.add_right_comm a e2.dx]
  rw [← hpt] at hh2
  exact hot_same_core e1.hot e2.hot _ _ _ _ _ _ hh1 hh2

theorem inv_swap_diff (cfg : Cfg) (hct : cfg.ct ≠ .noClip) (e1 e2 : Edge) (a b : Int)
    (hpt : e1.pt ≠ e2.pt)
    (h1 : EdgeOK cfg e1 a b) (h2 : EdgeOK cfg e2 b (a + e1.dx)) :
    EdgeOK cfg (intersectClosed cfg e1 e2).2 b a ∧
    EdgeOK cfg (intersectClosed cfg e1 e2).1 a (b + e2.dx) := by
  have hh1 := edgeOK_hot cfg e1 a b h1
  have hh2 := edgeOK_hot cfg e2 b (a + e1.dx) h2
  obtain ⟨hd1, hw1, -⟩ := h1
  obtain ⟨hd2, hw2, -⟩ := h2
  obtain ⟨hW2, hW1⟩ := wcOK_update_diff cfg.fr e1 e2 a b hpt hw1 hw2 hd1 hd2
  refine intersectClosed_edgeOK cfg e1 e2 _ _ _ _ hd1 hd2 hW1 hW2 ?_
  rw [bne_iff_ne.mpr hpt, sel_eq_selP cfg.ct hct e1.pt, sel_eq_selP cfg.ct hct e2.pt]
  rw [sel_eq_selP cfg.ct hct e1.pt] at hh1
  rw [sel_eq_selP cfg.ct hct e2.pt] at hh2
  exact hot_diff_core e1.hot e2.hot _ _ _ _ _ _ _ _ _ _ hh1 hh2

theorem other_other (t : PathType) : other (other t) = t := by cases t <;> rfl
theorem other_ne (t : PathType) : other t ≠ t := by cases t <;> simp [other]
theorem ne_other (t : PathType) : t ≠ other t := by cases t <;> simp [other]
theorem eq_other_of_ne {t u : PathType} (h : u ≠ t) : u = other t := by
  cases t <;> cases u <;> simp_all [other]

theorem sumT_append (t : PathType) (l1 l2 : List Edge) : sumT t (l1 ++ l2) = sumT t l1 + sumT t l2 := by
  induction l1 with
  | nil => simp [sumT]
  | cons x xs ih => simp only [List.cons_append, sumT, ih]; omega

theorem own_add (t : PathType) (s c : Int) (e : Edge) :
    own t (s + contrib .subject e) (c + contrib .clip e) = own t s c + contrib t e := by
  cases t <;> rfl

theorem own_add_sum (t : PathType) (s c : Int) (l : List Edge) :
    own t (s + sumT .subject l) (c + sumT .clip l) = own t s c + sumT t l := by
  cases t <;> rfl

theorem own_zero_add_sum (t : PathType) (l : List Edge) :
    own t (0 + sumT .subject l) (0 + sumT .clip l) = sumT t l := by
  cases t <;> exact Int.zero_add _

theorem contrib_open (t : PathType) (e : Edge) (h : e.isOpen = true) : contrib t e = 0 := by
  simp [contrib, h]
theorem contrib_own (e : Edge) (h : e.isOpen = false) : contrib e.pt e = e.dx := by
  simp [contrib, h]
theorem contrib_other (e : Edge) : contrib (other e.pt) e = 0 := by
  simp only [contrib]; rw [if_neg]; intro h; exact ne_other _ h.1
theorem contrib_congr (t : PathType) (e e' : Edge) (h1 : e'.pt = e.pt) (h2 : e'.isOpen = e.isOpen)
    (h3 : e'.dx = e.dx) : contrib t e' = contrib t e := by
  simp only [contrib, h1, h2, h3]

theorem invFrom_append (cfg : Cfg) (l1 l2 : List Edge) : ∀ (s c : Int),
    InvFrom cfg s c (l1 ++ l2) ↔
      InvFrom cfg s c l1 ∧ InvFrom cfg (s + sumT .subject l1) (c + sumT .clip l1) l2 := by
  induction l1 with
  | nil => intro s c; simp [InvFrom, sumT]
  | cons x xs ih =>
    intro s c
    simp only [List.cons_append, InvFrom, ih, sumT, and_assoc, Int.add_assoc]

def ClosedDx (l : List Edge) : Prop := ∀ x ∈ l, x.isOpen = false → x.dx = 1 ∨ x.dx = -1

theorem invFrom_closedDx (cfg : Cfg) (l : List Edge) : ∀ (s c : Int), InvFrom cfg s c l → ClosedDx l := by
  induction l with
  | nil => intro _ _ _ x hx; cases hx
  | cons y ys ih =>
    intro s c h x hx ho
    rcases List.mem_cons.mp hx with rfl | hx
    · exact (h.1 ho).1
    · exact ih _ _ h.2 x hx ho

theorem closedDx_append (l1 l2 : List Edge) : ClosedDx (l1 ++ l2) ↔ ClosedDx l1 ∧ ClosedDx l2 :=
  List.forall_mem_append

theorem closedDx_cons (x : Edge) (l : List Edge) :
    ClosedDx (x :: l) ↔ (x.isOpen = false → x.dx = 1 ∨ x.dx = -1) ∧ ClosedDx l := List.forall_mem_cons

theorem findPrev_none (t : PathType) (rp : List Edge) :
    (findPrev t rp).1 = none → (findPrev t rp).2 = rp.reverse ∧ sumT t rp.reverse = 0 := by
  induction rp with
  | nil => intro _; simp [findPrev, sumT]
  | cons y ys ih =>
    intro h
    by_cases hc : y.pt = t ∧ y.isOpen = false
    · simp [findPrev, hc] at h
    · simp only [findPrev, if_neg hc] at h ⊢
      obtain ⟨h1, h2⟩ := ih h
      refine ⟨by rw [h1, List.reverse_cons], ?_⟩
      rw [List.reverse_cons, sumT_append, h2]
      simp [sumT, contrib, hc]

theorem findPrev_some (t : PathType) (rp : List Edge) (x : Edge) :
    (findPrev t rp).1 = some x →
      ∃ l1, rp.reverse = l1 ++ x :: (findPrev t rp).2 ∧ x.pt = t ∧ x.isOpen = false ∧
        sumT t (findPrev t rp).2 = 0 := by
  induction rp with
  | nil => intro h; simp [findPrev] at h
  | cons y ys ih =>
    intro h
    by_cases hc : y.pt = t ∧ y.isOpen = false
    · simp only [findPrev, if_pos hc, Option.some.injEq] at h ⊢
      subst h
      exact ⟨ys.reverse, by simp, hc.1, hc.2, rfl⟩
    · simp only [findPrev, if_neg hc] at h ⊢
      obtain ⟨l1, h1, h2, h3, h4⟩ := ih h
      refine ⟨l1, by rw [List.reverse_cons, h1]; simp, h2, h3, ?_⟩
      rw [sumT_append, h4]
      simp [sumT, contrib, hc]

/-- the edges `wc2Loop` counts are those that contribute to the other type's sum -/
theorem contrib_other_eq (t : PathType) (x : Edge) :
    contrib (other t) x = if x.pt ≠ t ∧ x.isOpen = false then x.dx else 0 := by
  have : x.pt = other t ↔ x.pt ≠ t := ⟨fun h => h ▸ other_ne t, eq_other_of_ne⟩
  simp only [contrib, this]

theorem wc2Loop_sum (fr : FillRule) (hfr : fr ≠ .evenOdd) (t : PathType) (l : List Edge) : ∀ (w : Int),
    wc2Loop fr t l w = w + sumT (other t) l := by
  induction l with
  | nil => intro w; simp [wc2Loop, sumT]
  | cons x xs ih =>
    intro w
    simp only [wc2Loop, if_neg hfr, ih, sumT, contrib_other_eq]
    split <;> omega

theorem wc2Loop_parity (t : PathType) (l : List Edge) : ∀ (w0 : Int), ClosedDx l →
    wc2Loop .evenOdd t l (w0 % 2) = (w0 + sumT (other t) l) % 2 := by
  induction l with
  | nil => intro w0 _; simp [wc2Loop, sumT]
  | cons x xs ih =>
    intro w0 hd
    rw [closedDx_cons] at hd
    simp only [wc2Loop, ite_true, sumT, contrib_other_eq]
    split
    next hc =>
      rw [parity_toggle w0 (w0 + x.dx) (by have := hd.1 hc.2; omega), ih _ hd.2, Int.add_assoc]
    next => rw [ih _ hd.2, Int.zero_add]

/-- both `while (e2 != &e)` loops turn the encoding of the other type's sum at `e2` into the one at `e` -/
theorem wc2Loop_enc2 (fr : FillRule) (t : PathType) (l : List Edge) (hd : ClosedDx l) (w0 : Int) :
    wc2Loop fr t l (enc2 fr w0) = enc2 fr (w0 + sumT (other t) l) := by
  by_cases hfr : fr = .evenOdd
  · subst hfr; exact wc2Loop_parity t l w0 hd
  · rw [wc2Loop_sum fr hfr, (enc_of_ne hfr _ 0).2, (enc_of_ne hfr _ 0).2]

/-- the counts computed by `SetWindCountForClosedPathEdge` are the encodings of the sums to the left -/
theorem setWindClosed_spec (cfg : Cfg) (left : List Edge) (e : Edge)
    (hinv : Inv cfg left) (ho : e.isOpen = false) (hw2 : e.wc2 = 0) (hd : e.dx = 1 ∨ e.dx = -1) :
    setWindClosed cfg.fr left e =
      { e with wc := encWc cfg.fr (sumT e.pt left) e.dx, wc2 := enc2 cfg.fr (sumT (other e.pt) left) } := by
  have hcd := invFrom_closedDx _ _ _ _ hinv
  simp only [setWindClosed]
  rcases hfp : findPrev e.pt left.reverse with ⟨_ | e2, btw⟩
  · -- no closed edge of the same type to the left: the own sum is 0, the loop runs over all of `left`
    obtain ⟨hb, hs⟩ := findPrev_none e.pt left.reverse (by rw [hfp])
    rw [hfp, List.reverse_reverse] at hb
    rw [List.reverse_reverse] at hs
    simp only at hb; subst hb
    simp only [hs, hw2]
    rw [encWc_zero _ _ hd, ← enc2_zero cfg.fr, wc2Loop_enc2 _ _ _ hcd, Int.zero_add]
  · obtain ⟨l1, hl, hpt2, hop2, hs⟩ := findPrev_some e.pt left.reverse e2 (by rw [hfp])
    rw [hfp, List.reverse_reverse] at hl
    rw [hfp] at hs
    simp only at hl hs; subst hl
    obtain ⟨hdx2, hwc2, -⟩ := ((invFrom_append cfg l1 (e2 :: btw) 0 0).mp hinv).2.1 hop2
    rw [closedDx_append, closedDx_cons] at hcd
    -- `e2` is the last edge of `left` that counts for the own type
    have hsum1 : sumT e.pt (l1 ++ e2 :: btw) = sumT e.pt l1 + e2.dx := by
      rw [sumT_append]; simp only [sumT, hs]; rw [← hpt2, contrib_own e2 hop2]; omega
    have hsum2 : sumT (other e.pt) (l1 ++ e2 :: btw) = sumT (other e.pt) l1 + sumT (other e.pt) btw := by
      rw [sumT_append]; simp only [sumT]; rw [← hpt2, contrib_other e2]; omega
    have hown : ∀ t, own t 0 0 = 0 := fun t => by cases t <;> rfl
    rw [own_add_sum, own_add_sum, hpt2, hown, hown, Int.zero_add, Int.zero_add] at hwc2
    simp only [hsum1, hsum2, wcOK_wc2 hwc2, wc2Loop_enc2 _ _ _ hcd.2.2, ho]
    split
    next hfr => simp only [hfr, encWc]
    next hfr => rw [wcOK_wc hfr hwc2, wcFrom_enc _ _ _ hdx2 hd, (enc_of_ne hfr _ _).1]

theorem intersectOpen_eq_toggles (cfg : Cfg) (eo ec : Edge) :
    intersectOpen cfg eo ec = if openToggles cfg ec = true then { eo with hot := !eo.hot } else eo := by
  unfold intersectOpen openToggles
  by_cases h1 : iabs ec.wc ≠ 1
  · simp [h1]
  · by_cases h2 : openSkipCt cfg.ct ec.pt ec.hot = true
    · simp [h1, h2]
    · by_cases h3 : openSkipFr cfg.fr ec.wc = true
      · simp [h1, h2, h3]
      · simp [h1, h2, h3]

theorem intersectOpen_eq (cfg : Cfg) (eo ec : Edge) :
    intersectOpen cfg eo ec = { eo with hot := (eo.hot != openToggles cfg ec) } := by
  rw [intersectOpen_eq_toggles]; cases openToggles cfg ec <;> cases eo <;> simp

theorem intersectOpen_isOpen (cfg : Cfg) (eo ec : Edge) : (intersectOpen cfg eo ec).isOpen = eo.isOpen := by
  rw [intersectOpen_eq]

theorem intersectPair_cc (cfg : Cfg) {e1 e2 : Edge} (h1 : e1.isOpen = false) (h2 : e2.isOpen = false) :
    intersectPair cfg e1 e2 = intersectClosed cfg e1 e2 := by simp [intersectPair, h1, h2]
theorem intersectPair_oc (cfg : Cfg) {e1 e2 : Edge} (h1 : e1.isOpen = true) (h2 : e2.isOpen = false) :
    intersectPair cfg e1 e2 = (intersectOpen cfg e1 e2, e2) := by simp [intersectPair, h1, h2]
theorem intersectPair_co (cfg : Cfg) {e1 e2 : Edge} (h1 : e1.isOpen = false) (h2 : e2.isOpen = true) :
    intersectPair cfg e1 e2 = (e1, intersectOpen cfg e2 e1) := by simp [intersectPair, h1, h2]
theorem intersectPair_oo (cfg : Cfg) {e1 e2 : Edge} (h1 : e1.isOpen = true) (h2 : e2.isOpen = true) :
    intersectPair cfg e1 e2 = (e1, e2) := by simp [intersectPair, h1, h2]

theorem intersectPair_fields (cfg : Cfg) (e1 e2 : Edge) :
    (intersectPair cfg e1 e2).1.pt = e1.pt ∧ (intersectPair cfg e1 e2).1.isOpen = e1.isOpen ∧
    (intersectPair cfg e1 e2).1.dx = e1.dx ∧
    (intersectPair cfg e1 e2).2.pt = e2.pt ∧ (intersectPair cfg e1 e2).2.isOpen = e2.isOpen ∧
    (intersectPair cfg e1 e2).2.dx = e2.dx := by
  rcases Bool.eq_false_or_eq_true e1.isOpen with h1 | h1 <;> rcases Bool.eq_false_or_eq_true e2.isOpen with h2 | h2
  · rw [intersectPair_oo cfg h1 h2]; exact ⟨rfl, rfl, rfl, rfl, rfl, rfl⟩
  · rw [intersectPair_oc cfg h1 h2, intersectOpen_eq]; exact ⟨rfl, rfl, rfl, rfl, rfl, rfl⟩
  · rw [intersectPair_co cfg h1 h2, intersectOpen_eq]; exact ⟨rfl, rfl, rfl, rfl, rfl, rfl⟩
  · obtain ⟨f1, f2, f3, -, f5, f6, f7, -⟩ := updateWinds_fields cfg.fr e1 e2
    rw [intersectPair_cc cfg h1 h2]; exact ⟨f1, f2, f3, f5, f6, f7⟩

theorem invFrom_cons_open (cfg : Cfg) (s c : Int) (e : Edge) (ho : e.isOpen = true) (rest : List Edge) :
    InvFrom cfg s c (e :: rest) ↔ InvFrom cfg s c rest := by
  simp only [InvFrom, contrib_open _ e ho, Int.add_zero, ho]
  simp

theorem invFrom_pair_swap (cfg : Cfg) (hct : cfg.ct ≠ .noClip) (s c : Int) (e1 e2 : Edge)
    (h : InvFrom cfg s c [e1, e2]) :
    InvFrom cfg s c [(intersectPair cfg e1 e2).2, (intersectPair cfg e1 e2).1] := by
  cases ho1 : e1.isOpen <;> cases ho2 : e2.isOpen
  · obtain ⟨f1, -, -, f4, f5, f6⟩ := intersectPair_fields cfg e1 e2
    obtain ⟨h1, h2, -⟩ := h
    have k1 := h1 ho1
    have k2 := h2 ho2
    rw [own_add, own_add] at k2
    rw [intersectPair_cc cfg ho1 ho2] at f1 f4 f5 f6 ⊢
    have key : EdgeOK cfg (intersectClosed cfg e1 e2).2 (own e2.pt s c) (own (other e2.pt) s c) ∧
        EdgeOK cfg (intersectClosed cfg e1 e2).1 (own e1.pt s c + contrib e1.pt e2)
          (own (other e1.pt) s c + contrib (other e1.pt) e2) := by
      by_cases hpt : e1.pt = e2.pt
      · rw [← hpt, contrib_own e1 ho1, contrib_other e1, Int.add_zero] at k2
        have hc := contrib_own e2 ho2
        have hc' := contrib_other e2
        rw [← hpt] at hc hc' ⊢
        rw [hc, hc', Int.add_zero]
        exact inv_swap_same cfg hct e1 e2 _ _ hpt k1 k2
      · have hpt' : e2.pt = other e1.pt := eq_other_of_ne (fun h => hpt h.symm)
        have hc := contrib_own e2 ho2
        have hc' := contrib_other e2
        rw [hpt', other_other] at k2 hc' ⊢
        rw [hpt'] at hc
        rw [contrib_own e1 ho1, contrib_other e1, Int.add_zero] at k2
        rw [hc, hc', Int.add_zero]
        exact inv_swap_diff cfg hct e1 e2 _ _ hpt k1 k2
    refine ⟨fun _ => by rw [f4]; exact key.1, fun _ => ?_, trivial⟩
    rw [own_add, own_add, contrib_congr _ _ _ f4 f5 f6, contrib_congr _ _ _ f4 f5 f6, f1]; exact key.2
  · rw [intersectPair_co cfg ho1 ho2]
    have ho2' : (intersectOpen cfg e2 e1).isOpen = true := by rw [intersectOpen_isOpen]; exact ho2
    rw [invFrom_cons_open _ _ _ _ ho2']
    exact ⟨h.1, trivial⟩
  · rw [intersectPair_oc cfg ho1 ho2]
    have ho1' : (intersectOpen cfg e1 e2).isOpen = true := by rw [intersectOpen_isOpen]; exact ho1
    rw [invFrom_cons_open _ _ _ _ ho1] at h
    exact ⟨h.1, (invFrom_cons_open _ _ _ _ ho1' _).mpr trivial⟩
  · rw [intersectPair_oo cfg ho1 ho2, invFrom_cons_open _ _ _ _ ho2, invFrom_cons_open _ _ _ _ ho1]; trivial

theorem drop_split {α} (l : List α) (i : Nat) (tl : List α) (h : l.drop i = tl) : l = l.take i ++ tl := by
  rw [← h, List.take_append_drop]

/-- the right bound copies the left bound's counts and that is correct one position further right -/
theorem wcOK_right (fr : FillRule) (a b d : Int) (hd : d = 1 ∨ d = -1) :
    WcOK fr (encWc fr a d) (-d) (enc2 fr b) (a + d) b := by
  cases fr <;> simp only [WcOK, encWc, enc2, and_true] <;> first | exact hd | exact maxabs_back a d hd

/-- the two edges of a maxima pair cancel in every winding sum -/
theorem add_contrib_pair {e1 e2 : Edge} (hc : e1.pt = e2.pt ∧ e1.isOpen = e2.isOpen ∧ e1.dx + e2.dx = 0)
    (t : PathType) (x : Int) : x + contrib t e1 + contrib t e2 = x := by
  simp only [contrib, hc.1, hc.2.1]; split <;> omega

/-- a correct closed left bound and its right bound (a copy with the opposite direction) -/
theorem invFrom_insert_closed (cfg : Cfg) (s c : Int) (lb : Edge) (ho : lb.isOpen = false)
    (hd : lb.dx = 1 ∨ lb.dx = -1) (hwc : lb.wc = encWc cfg.fr (own lb.pt s c) lb.dx)
    (hwc2 : lb.wc2 = enc2 cfg.fr (own (other lb.pt) s c))
    (hhot : lb.hot = isContributingClosed cfg.ct cfg.fr lb.pt lb.wc lb.wc2) :
    InvFrom cfg s c [lb, ⟨lb.pt, false, -lb.dx, lb.wc, lb.wc2, lb.hot⟩] := by
  refine ⟨fun _ => ⟨hd, hwc ▸ hwc2 ▸ wcOK_enc _ _ _ _ hd, hhot⟩, fun _ => ⟨by simp only; omega, ?_, hhot⟩, trivial⟩
  rw [own_add, own_add, contrib_own lb ho, contrib_other lb, Int.add_zero, hwc, hwc2]
  exact wcOK_right _ _ _ _ hd

theorem setWindOpen_fields (fr : FillRule) (left : List Edge) (e : Edge) :
    (setWindOpen fr left e).pt = e.pt ∧ (setWindOpen fr left e).isOpen = e.isOpen ∧
    (setWindOpen fr left e).dx = e.dx := by
  simp only [setWindOpen]; split <;> simp

theorem inR_zero (ct : ClipType) (fr : FillRule) : inR ct fr 0 0 = false := by
  cases ct <;> cases fr <;> rfl

def hotCount : List Edge → Nat
  | [] => 0
  | e :: rest => (if e.isOpen = false ∧ e.hot = true then 1 else 0) + hotCount rest

theorem filled_own (ct : ClipType) (fr : FillRule) (pt : PathType) (s c : Int) :
    filled ct fr pt (own pt s c) (own (other pt) s c) = inR ct fr s c := by
  cases pt <;> rfl

theorem coverage_from (cfg : Cfg) (l : List Edge) : ∀ (s c : Int) (k : Nat), InvFrom cfg s c l →
    inR cfg.ct cfg.fr (s + sumT .subject (l.take k)) (c + sumT .clip (l.take k)) =
      (inR cfg.ct cfg.fr s c != decide (hotCount (l.take k) % 2 = 1)) := by
  induction l with
  | nil => intro s c k _; simp [sumT, hotCount]
  | cons e rest ih =>
    intro s c k h
    cases k with
    | zero => simp [sumT, hotCount]
    | succ k =>
      simp only [List.take_succ_cons, sumT, hotCount]
      have hi := ih _ _ k h.2
      rw [← Int.add_assoc, ← Int.add_assoc, hi]
      cases ho : e.isOpen
      · obtain ⟨hd, hw, hh⟩ := h.1 ho
        have hb := icc_boundary cfg.ct cfg.fr e.pt e.wc e.dx e.wc2 _ _ hd hw
        rw [← hh, filled_own] at hb
        have hstep : filled cfg.ct cfg.fr e.pt (own e.pt s c + e.dx) (own (other e.pt) s c) =
            inR cfg.ct cfg.fr (s + contrib .subject e) (c + contrib .clip e) := by
          rw [← filled_own cfg.ct cfg.fr e.pt (s + contrib .subject e), own_add, own_add,
            contrib_own e ho, contrib_other e, Int.add_zero]
        rw [hstep] at hb
        generalize inR cfg.ct cfg.fr (s + contrib .subject e) (c + contrib .clip e) = r1 at hb ⊢
        generalize inR cfg.ct cfg.fr s c = r0 at hb ⊢
        generalize hotCount (List.take k rest) = n
        have hcnt : decide (((if (false = false ∧ e.hot = true) then 1 else 0) + n) % 2 = 1) =
            (e.hot != decide (n % 2 = 1)) := by
          cases e.hot <;> (rw [Bool.eq_iff_iff]; simp; try omega)
        rw [hcnt, hb]
        generalize decide (n % 2 = 1) = p
        cases r0 <;> cases r1 <;> cases p <;> rfl
      · simp only [contrib_open _ e ho, Int.add_zero, false_and, ite_false, Nat.zero_add,
          Bool.true_eq_false]

theorem setWindClosed_fields (fr : FillRule) (left : List Edge) (e : Edge) :
    (setWindClosed fr left e).pt = e.pt ∧ (setWindClosed fr left e).isOpen = e.isOpen ∧
    (setWindClosed fr left e).dx = e.dx := by
  simp only [setWindClosed]; split <;> (try split) <;> simp

theorem newLeft_fields (cfg : Cfg) (left : List Edge) (pt : PathType) (isOpen : Bool) (dx : Int) :
    (newLeft cfg left pt isOpen dx).1.pt = pt ∧ (newLeft cfg left pt isOpen dx).1.isOpen = isOpen ∧
    (newLeft cfg left pt isOpen dx).1.dx = dx := by
  simp only [newLeft]
  split
  · exact setWindOpen_fields _ _ _
  · exact setWindClosed_fields _ _ _

theorem drop_eq_cons_iff {α} {l : List α} {i : Nat} {a : α} {tl : List α} :
    l.drop i = a :: tl ↔ ∃ pre, l = pre ++ a :: tl ∧ pre.length = i := by
  constructor
  · intro h
    have hi : i < l.length := by
      apply Decidable.byContradiction; intro hc
      rw [List.drop_eq_nil_of_le (by omega)] at h; cases h
    exact ⟨l.take i, by rw [← h, List.take_append_drop], by rw [List.length_take]; omega⟩
  · rintro ⟨pre, rfl, rfl⟩; simp

theorem take_drop_of_append {α} (pre tl : List α) : (pre ++ tl).take pre.length = pre ∧ (pre ++ tl).drop pre.length = tl := by
  simp

/-- **What an accepted operation does.**  `Win cfg pre op mid mid'`: with the edges `pre` to its left, `op` (at position `pre.length`)
replaces the window `mid` by `mid'`; `pre` and whatever follows the window stay as they are (`step_iff`).  An insertion fills the
empty window, a removal empties its window, `IntersectEdges` + `SwapPositionsInAEL` turns two edges into two.
`lb`: the left bound as it enters the AEL; the right bound copies its counts and its hot flag. -/
inductive Win (cfg : Cfg) (pre : List Edge) : Op → List Edge → List Edge → Prop
  | insertPair (pt : PathType) (o : Bool) (dx : Int) (hdx : dx = 1 ∨ dx = -1) (lb : Edge)
      (hlb : lb = { (newLeft cfg pre pt o dx).1 with hot := (newLeft cfg pre pt o dx).2 })
      (hpt : lb.pt = pt) (ho : lb.isOpen = o) (hd : lb.dx = dx) :
      Win cfg pre (.insertPair pre.length pt o dx) [] [lb, ⟨pt, o, -dx, lb.wc, lb.wc2, lb.hot⟩]
  | insertOne (pt : PathType) (dx : Int) (hdx : dx = 1 ∨ dx = -1) (e : Edge)
      (he : e = { (newLeft cfg pre pt true dx).1 with hot := (newLeft cfg pre pt true dx).2 })
      (hpt : e.pt = pt) (ho : e.isOpen = true) :
      Win cfg pre (.insertOne pre.length pt dx) [] [e]
  | intersect (e1 e2 : Edge) :
      Win cfg pre (.intersect pre.length) [e1, e2] [(intersectPair cfg e1 e2).2, (intersectPair cfg e1 e2).1]
  | removePair (e1 e2 : Edge) (hc : e1.pt = e2.pt ∧ e1.isOpen = e2.isOpen ∧ e1.dx + e2.dx = 0) :
      Win cfg pre (.removePair pre.length) [e1, e2] []
  | removeOne (e : Edge) (ho : e.isOpen = true) : Win cfg pre (.removeOne pre.length) [e] []

/-- `Model.step` accepts exactly the window replacements of `Win` -/
theorem step_iff {cfg : Cfg} {l l' : Ael} {op : Op} :
    step cfg l op = some l' ↔
      ∃ pre mid mid' rest, l = pre ++ (mid ++ rest) ∧ l' = pre ++ (mid' ++ rest) ∧ Win cfg pre op mid mid' := by
  constructor
  · intro hs
    cases op with
    | insertPair pos pt o dx =>
      simp only [step, insertPair] at hs
      split at hs
      next hc =>
        refine ⟨l.take pos, [], [_, _], l.drop pos, (List.take_append_drop ..).symm, (Option.some.inj hs).symm, ?_⟩
        have := Win.insertPair (cfg := cfg) (pre := l.take pos) pt o dx hc.2 _ rfl
          (newLeft_fields ..).1 (newLeft_fields ..).2.1 (newLeft_fields ..).2.2
        rwa [List.length_take, Nat.min_eq_left hc.1] at this
      next => cases hs
    | insertOne pos pt dx =>
      simp only [step, insertOne] at hs
      split at hs
      next hc =>
        refine ⟨l.take pos, [], [_], l.drop pos, (List.take_append_drop ..).symm, (Option.some.inj hs).symm, ?_⟩
        have := Win.insertOne (cfg := cfg) (pre := l.take pos) pt dx hc.2 _ rfl
          (newLeft_fields ..).1 (newLeft_fields ..).2.1
        rwa [List.length_take, Nat.min_eq_left hc.1] at this
      next => cases hs
    | intersect i =>
      simp only [step, intersect] at hs
      split at hs
      next e1 e2 rest hd =>
        obtain ⟨pre, rfl, rfl⟩ := drop_eq_cons_iff.mp hd
        rw [(take_drop_of_append ..).1] at hs
        exact ⟨pre, [e1, e2], _, rest, rfl, (Option.some.inj hs).symm, .intersect e1 e2⟩
      next => cases hs
    | removePair i =>
      simp only [step, removePair] at hs
      split at hs
      next e1 e2 rest hd =>
        obtain ⟨pre, rfl, rfl⟩ := drop_eq_cons_iff.mp hd
        rw [(take_drop_of_append ..).1] at hs
        split at hs
        next hc => exact ⟨pre, [e1, e2], [], rest, rfl, (Option.some.inj hs).symm, .removePair e1 e2 hc⟩
        next => cases hs
      next => cases hs
    | removeOne i =>
      simp only [step, removeOne] at hs
      split at hs
      next e rest hd =>
        obtain ⟨pre, rfl, rfl⟩ := drop_eq_cons_iff.mp hd
        rw [(take_drop_of_append ..).1] at hs
        split at hs
        next hc => exact ⟨pre, [e], [], rest, rfl, (Option.some.inj hs).symm, .removeOne e hc⟩
        next => cases hs
      next => cases hs
  · rintro ⟨pre, mid, mid', rest, rfl, rfl, hW⟩
    cases hW with
    | insertPair pt o dx hdx lb hlb =>
      subst hlb
      simp only [step, insertPair, List.nil_append, (take_drop_of_append ..).1, (take_drop_of_append ..).2, List.length_append,
        Nat.le_add_right, hdx, and_self, if_true, List.cons_append]
    | insertOne pt dx hdx e he =>
      subst he
      simp only [step, insertOne, List.nil_append, (take_drop_of_append ..).1, (take_drop_of_append ..).2, List.length_append,
        Nat.le_add_right, hdx, and_self, if_true, List.cons_append]
    | intersect e1 e2 =>
      simp only [step, intersect, (take_drop_of_append ..).1, (take_drop_of_append ..).2, List.cons_append, List.nil_append]
    | removePair e1 e2 hc =>
      simp only [step, removePair, (take_drop_of_append ..).1, (take_drop_of_append ..).2, List.cons_append, List.nil_append, hc,
        and_self, if_true]
    | removeOne e ho =>
      simp only [step, removeOne, (take_drop_of_append ..).1, (take_drop_of_append ..).2, List.cons_append, List.nil_append, ho,
        if_true]

/-- no operation changes a winding sum: closed edges enter and leave in cancelling pairs, and `IntersectEdges` keeps type, open flag and direction -/
theorem Win.sum {cfg : Cfg} {pre mid mid' : List Edge} {op : Op} (h : Win cfg pre op mid mid') (t : PathType) :
    sumT t mid' = sumT t mid := by
  cases h with
  | insertPair pt o dx hdx lb hlb hpt ho hd =>
    have := add_contrib_pair (e1 := lb) (e2 := ⟨pt, o, -dx, lb.wc, lb.wc2, lb.hot⟩) ⟨hpt, ho, by simp only; omega⟩ t 0
    simp only [sumT]; omega
  | insertOne pt dx hdx e he hpt ho => simp only [sumT, contrib_open t e ho, Int.add_zero]
  | intersect e1 e2 =>
    obtain ⟨f1, f2, f3, f4, f5, f6⟩ := intersectPair_fields cfg e1 e2
    simp only [sumT, contrib_congr t _ _ f1 f2 f3, contrib_congr t _ _ f4 f5 f6]; omega
  | removePair e1 e2 hc => have := add_contrib_pair hc t 0; simp only [sumT]; omega
  | removeOne e ho => simp only [sumT, contrib_open t e ho, Int.add_zero]

/-- Frame rule for a predicate on a suffix of the AEL that is indexed by the winding sums of what lies to its left (`InvFrom`,
`InvOpenFrom`): a window replacement that keeps the sums only has to re-establish the predicate on the new window. -/
theorem window_frame {P : Int → Int → List Edge → Prop}
    (happ : ∀ l1 l2 s c, P s c (l1 ++ l2) ↔ P s c l1 ∧ P (s + sumT .subject l1) (c + sumT .clip l1) l2)
    {pre mid mid' rest : List Edge} (hsum : ∀ t, sumT t mid' = sumT t mid) {s c : Int}
    (h : P s c (pre ++ (mid ++ rest)))
    (hm : P s c pre → P (s + sumT .subject pre) (c + sumT .clip pre) mid → P (s + sumT .subject pre) (c + sumT .clip pre) mid') :
    P s c (pre ++ (mid' ++ rest)) := by
  rw [happ, happ] at h ⊢
  rw [hsum, hsum]
  exact ⟨h.1, hm h.1 h.2.1, h.2.2⟩

theorem run_cons_some {cfg : Cfg} {l l' : Ael} {op : Op} {ops : List Op} (hr : run cfg l (op :: ops) = some l') :
    ∃ l1, step cfg l op = some l1 ∧ run cfg l1 ops = some l' := by
  simp only [run] at hr
  split at hr
  next l1 hs => exact ⟨l1, hs, hr⟩
  next => cases hr

/-- a property kept by every accepted operation of a list holds at the end of its replay -/
theorem run_invariant (cfg : Cfg) (P : Ael → Prop) (ops : List Op)
    (hstep : ∀ op ∈ ops, ∀ l l', P l → step cfg l op = some l' → P l') :
    ∀ l l', P l → run cfg l ops = some l' → P l' := by
  induction ops with
  | nil => intro l l' h hr; cases hr; exact h
  | cons op ops ih =>
    intro l l' h hr
    obtain ⟨l1, hs, hr⟩ := run_cons_some hr
    exact ih (fun o ho => hstep o (List.mem_cons_of_mem _ ho)) l1 l'
      (hstep op List.mem_cons_self l l1 h hs) hr

end Clipper.Model

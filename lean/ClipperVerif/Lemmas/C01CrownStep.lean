/-
WHAT ONE EVENT DOES.  Each of the four events of a sweep without joins (`insertPair`, `intersect`, `removePair`, `update`; `Plain`
states) rewrites a window of the AEL, and has one statement of the same form, `Acct`: how the AEL is rewritten and that it stays `Plain`;
every edge outside the window holds afterwards a ring end with the same side and the same end point (`info`); every edge of the new window
holds nothing or a ring end that ends in the event's point (`EndsAt`); the new segments run from the old end points of the old window to the
event's point (`NewSegs`); the ray sum `phi` grows by exactly the emissions on the old window (`emit`: weight of the pair (end point of
the ring end the edge holds, event point), read in the direction of that end); twice the rings under construction minus the hot edges stays
what it was.  The one exception is a crossing at which `IntersectEdges` returns early (`Kept`): the two edges change places and keep their
ring ends.  Core Lean only.
-/
import ClipperVerif.Lemmas.C01CrownSum
namespace Clipper.Lemmas.C01Crown
open Clipper Clipper.Model Clipper.Lemmas.C01Output

/-- the ring end the edge holds, if it holds one, ends in `pt` -/
def EndsAt (o : Out) (x : Model.SEdge) (pt : Pt) : Prop := ∀ f e, info o x = some (f, e) → e = pt

theorem endsAt_of_orec {o : Out} {x : Model.SEdge} {pt : Pt} (h : ∀ k, x.orec = some k → endOf o k = some pt) : EndsAt o x pt := by
  intro f e hi
  obtain ⟨k, hk, he, _⟩ := info_eq_some hi
  rw [h k hk] at he
  exact (Option.some.inj he).symm

/-- **what an event with the point `pt` that emits does**: it rewrites the window `ws` of the AEL (between `pre` and `post`) into `ws'`;
the edges outside the window — renamed by `g`, which changes records only — keep their ring ends; every ring end held inside the new
window ends in `pt`; the new segments leave the old end points of `ws`; the ray sum grows by the emissions on `ws`. -/
structure Acct (c : Pt → Pt → Int) (pt : Pt) (r r' : RState) (pre ws post : List Model.SEdge) (g : Model.SEdge → Model.SEdge)
    (ws' : List Model.SEdge) : Prop where
  ael : r.s.ael = pre ++ (ws ++ post)
  ael' : r'.s.ael = pre.map g ++ (ws' ++ post.map g)
  plain : Plain r'.s.ael
  thirds : ∀ x ∈ pre ++ post, info r'.o (g x) = info r.o x
  ends : ∀ x' ∈ ws', EndsAt r'.o x' pt
  segs : NewSegs pt ws r.o r'.o
  bal : 2 * liveN r'.o - hotN r'.s.ael = 2 * liveN r.o - hotN r.s.ael
  sum : phi c r'.o = phi c r.o + (ws.map (fun x => emit c r.o x pt)).sum

/-- an `IntersectEdges` that returns early: the two edges change places, the rings stay as they are -/
structure Kept (r r' : RState) (pre : List Model.SEdge) (a b : Model.SEdge) (post : List Model.SEdge) (a' b' : Model.SEdge) : Prop where
  ael : r.s.ael = pre ++ a :: b :: post
  ael' : r'.s.ael = pre ++ b' :: a' :: post
  plain : Plain r'.s.ael
  out : r'.o = r.o
  ia : info r.o a' = info r.o a
  ib : info r.o b' = info r.o b
  bal : 2 * liveN r'.o - hotN r'.s.ael = 2 * liveN r.o - hotN r.s.ael

/-- the AEL stays as long as a list whose window changes its length in the same way -/
theorem Acct.length {α : Type} {c : Pt → Pt → Int} {pt : Pt} {r r' : RState} {pre ws post ws' : List Model.SEdge}
    {g : Model.SEdge → Model.SEdge} (A : Acct c pt r r' pre ws post g ws') {epre ew ew' epost : List α} (hw : ws.length = ew.length)
    (hw' : ws'.length = ew'.length) (hl : r.s.ael.length = (epre ++ (ew ++ epost)).length) :
    r'.s.ael.length = (epre ++ (ew' ++ epost)).length := by
  rw [A.ael] at hl
  rw [A.ael']
  simp only [List.length_append, List.length_map] at hl ⊢
  omega

theorem Kept.length {α : Type} {r r' : RState} {pre post : List Model.SEdge} {a b a' b' : Model.SEdge} (Kp : Kept r r' pre a b post a' b')
    {epre epost : List α} {ea eb : α} (hl : r.s.ael.length = (epre ++ ea :: eb :: epost).length) :
    r'.s.ael.length = (epre ++ eb :: ea :: epost).length := by
  rw [Kp.ael] at hl
  rw [Kp.ael']
  simpa only [List.length_append, List.length_cons] using hl

theorem Acct.plainStep {c : Pt → Pt → Int} {pt : Pt} {r r' : RState} {pre ws post ws' : List Model.SEdge} {g : Model.SEdge → Model.SEdge}
    (A : Acct c pt r r' pre ws post g ws') :
    Plain r'.s.ael ∧ NewSegs pt r.s.ael r.o r'.o ∧ 2 * liveN r'.o - hotN r'.s.ael = 2 * liveN r.o - hotN r.s.ael :=
  ⟨A.plain, fun sg hsg => (A.segs sg hsg).imp_right (fun ⟨h1, h2, x, hx, h3⟩ =>
    ⟨h1, h2, x, A.ael ▸ List.mem_append_right _ (List.mem_append_left _ hx), h3⟩), A.bal⟩

theorem sum_pair (f : Model.SEdge → Int) (a b : Model.SEdge) : ([a, b].map f).sum = f a + f b := by simp

/-- the balance `2·liveN − hotN` is kept when `d` rings under construction and `2·d` hot edges come -/
theorem excess_eq {L L' H H' : Int} (d : Int) (hl : L' = L + d) (hh : H' = H + 2 * d) : 2 * L' - H' = 2 * L - H := by
  subst hl hh; rw [Int.mul_add, Int.add_sub_add_right]

theorem hotN_window (pre rest : List Model.SEdge) (a b : Model.SEdge) :
    hotN (pre ++ a :: b :: rest) = hotN pre + hv a + hv b + hotN rest := by
  simp only [hotN_append, hotN_cons]; omega

theorem info_newRec (pt : Pt) {o : Out} {x : Model.SEdge} (h : ∀ k, x.orec = some k → k.id < o.rings.length) :
    info (newRec pt o) x = info o x := by
  cases hx : x.orec with
  | none => rw [info_none hx, info_none hx]
  | some k => simp only [info, hx, Option.bind_some, endOf, endAt_newRec_old pt o _ _ (h k hx)]

/-- `AddLocalMaxPoly(a, b, pt)` for two neighbours `a`, `b` holding the ring ends `ra`, `rb`: the ring sum grows by the emissions on both
edges, one ring under construction and two hot edges fewer, the other edges — renamed by `g`, which changes records only — keep their ends;
the new segments run from the old end points of `a`, `b` to `pt` -/
theorem localMax_acct {c : Pt → Pt → Int} (hw : Wt c) {n : Nat} {pre rest : List Model.SEdge} {a b : Model.SEdge}
    {ra rb : Rec} {g : Model.SEdge → Model.SEdge} (pt : Pt) {o : Out} (h : OInv n (pre ++ a :: b :: rest) o)
    (hr : RecsOK n (pre ++ a :: b :: rest)) (ha : a.orec = some ra) (hb : b.orec = some rb) (hg : addLocalMaxFn ra rb = .ok g) :
    (∀ x, (g x).join = x.join ∧ (g x).e = x.e) ∧
    (∀ x ∈ pre ++ rest, info (localMaxOut .meet ra rb pt o) (g x) = info o x) ∧
    liveN (localMaxOut .meet ra rb pt o) = liveN o + -1 ∧ hotN (pre.map g) + hotN (rest.map g) + 2 = hotN (pre ++ a :: b :: rest) ∧
    phi c (localMaxOut .meet ra rb pt o) = phi c o + emit c o a pt + emit c o b pt ∧
    NewSegs pt [a, b] o (localMaxOut .meet ra rb pt o) := by
  have hA := h.hot a (by simp) ra ha
  have hB := h.hot b (by simp) rb hb
  have hf : ra.front ≠ rb.front := by
    intro e; unfold addLocalMaxFn at hg; simp [e] at hg
  obtain ⟨ea, hea⟩ := endAt_some_of_live hA ra.front
  obtain ⟨eb, heb⟩ := endAt_some_of_live hB rb.front
  have hsh := addLocalMaxFn_shape ra rb g hg
  refine ⟨fun x => ⟨(hsh x).2.1, (hsh x).1⟩, fun x hx => ?_, liveN_localMaxOut .meet ra rb pt o hA hB, ?_, ?_, fun sg hsg => ?_⟩
  · cases hxo : x.orec with
    | none => rw [info_none hxo, info_none (localMax_third_none ra rb g hg x hxo)]
    | some k =>
      obtain ⟨n1, n2, hl⟩ := third_live h hr hx hxo
      obtain ⟨k2, hk2, he⟩ := localMaxOut_third .meet ra rb pt o g hg hA hB x k hxo (fun e => n1 (by rw [ha, e]))
        (fun e => n2 (by rw [hb, e])) hl
      have hfr := (hsh x).2.2
      rw [hk2, hxo] at hfr
      simp only [Option.map_some, Option.some.injEq] at hfr
      simp only [info, hk2, hxo, Option.bind_some, he, hfr]
  · rw [hotN_mapShape hsh, hotN_mapShape hsh, hotN_window, hv_some ha, hv_some hb]
    omega
  · rw [phi_localMaxOut hw .meet ra rb pt o ea eb hA hB hf hea heb, emit_some ha hea, emit_some hb heb]
  · have hne : rb ≠ ra := fun e => recs_ab_ne n pre rest a b hr ra ha (by rw [hb, e])
    rcases localMaxOut_segs .meet ra rb pt o hne hA hB sg hsg with h' | ⟨hq, h' | h'⟩
    · exact Or.inl h'
    · exact Or.inr ⟨hq, Or.inl h'.1, a, by simp, ra, ha, h'.2⟩
    · exact Or.inr ⟨hq, Or.inr h'.1, b, by simp, rb, hb, h'.2⟩

/-- **`IntersectEdges(e1, e2, pt)` + `SwapPositionsInAEL`, closed unjoined edges**: it emits on both edges, or returns early -/
theorem core_acct {c : Pt → Pt → Int} (hw : Wt c) (cfg : Cfg) (pre : List Model.SEdge) (a b : Model.SEdge) (rest : List Model.SEdge)
    (pt : Pt) (r r' : RState) (hl : r.s.ael = pre ++ a :: b :: rest) (hP : Plain (pre ++ a :: b :: rest))
    (h : OInv r.s.next (pre ++ a :: b :: rest) r.o) (hr : RecsOK r.s.next (pre ++ a :: b :: rest))
    (hc : intersectCore cfg pre a b rest r.s.next = .ok r'.s) (ho : r'.o = coreOut cfg a b pt r.o) :
    (∃ (g : Model.SEdge → Model.SEdge) (a' b' : Model.SEdge), Acct c pt r r' pre [a, b] rest g [b', a']) ∨
      ∃ a' b', Kept r r' pre a b rest a' b' := by
  obtain ⟨s', o'⟩ := r'
  obtain ⟨⟨ael, n⟩, o⟩ := r
  simp only at hl h hr hc ho
  subst hl
  have hal : a ∈ pre ++ a :: b :: rest := by simp
  have hbl : b ∈ pre ++ a :: b :: rest := by simp
  have hlive : ∀ x ∈ pre ++ rest, ∀ k, x.orec = some k → LiveAt o.rings k.id := fun x hx k hk => (third_live h hr hx hk).2.2
  obtain ⟨pa, pb, prest⟩ := plain_window hP
  obtain ⟨_, f2, _, _, f5, _⟩ := intersectPair_fields cfg a.e b.e
  -- the fields of `Acct` that every emitting branch fills in the same way: the two edges end with the records `ra'`, `rb'`
  have mk : ∀ (g : Model.SEdge → Model.SEdge) (ra' rb' : Option Rec) (n' : Nat) (o' : Out),
      (∀ x, (g x).join = x.join ∧ (g x).e = x.e) →
      (∀ x ∈ pre ++ rest, info o' (g x) = info o x) → (∀ k, ra' = some k → endOf o' k = some pt) →
      (∀ k, rb' = some k → endOf o' k = some pt) → NewSegs pt [a, b] o o' → (d : Int) → liveN o' = liveN o + d →
      hotN (pre.map g) + (if rb'.isSome then 1 else 0) + (if ra'.isSome then 1 else 0) + hotN (rest.map g) =
        hotN (pre ++ a :: b :: rest) + 2 * d →
      phi c o' = phi c o + emit c o a pt + emit c o b pt →
      Acct c pt ⟨⟨pre ++ a :: b :: rest, n⟩, o⟩ ⟨⟨pre.map g ++ { b with e := (intersectPair cfg a.e b.e).2, orec := rb' } ::
        { a with e := (intersectPair cfg a.e b.e).1, orec := ra' } :: rest.map g, n'⟩, o'⟩ pre [a, b] rest g
        [{ b with e := (intersectPair cfg a.e b.e).2, orec := rb' }, { a with e := (intersectPair cfg a.e b.e).1, orec := ra' }] := by
    intro g ra' rb' n' o' hg ht ea eb sg d hd hh hphi
    refine ⟨rfl, rfl, ?_, ht, forall_pair (endsAt_of_orec eb) (endsAt_of_orec ea), sg, ?_, by rw [sum_pair, ← Int.add_assoc]; exact hphi⟩
    · exact plain_insert (by rw [← List.map_append]; exact plain_map hg prest) [_, _]
        (forall_pair ⟨pb.1, f5.trans pb.2⟩ ⟨pa.1, f2.trans pa.2⟩)
    · exact excess_eq d hd (by simp only [hotN_window, hv] at hh ⊢; omega)
  unfold intersectCore at hc
  unfold coreOut at ho
  simp only at hc ho
  cases hact : decideAct cfg (updateWinds cfg.fr a.e b.e).1 (updateWinds cfg.fr a.e b.e).2 a.orec b.orec with
  | nothing =>
    simp only [hact] at hc ho
    cases hc
    subst ho
    exact Or.inr ⟨{ a with e := (intersectPair cfg a.e b.e).1 }, { b with e := (intersectPair cfg a.e b.e).2 }, rfl, rfl,
      plain_insert (pre := pre) prest [_, _] (forall_pair ⟨pb.1, f5.trans pb.2⟩ ⟨pa.1, f2.trans pa.2⟩), rfl, rfl, rfl,
      excess_eq 0 (Int.add_zero _).symm (by simp only [hotN_window, hv]; omega)⟩
  | swap =>
    simp only [hact] at hc ho
    cases hc
    subst ho
    rw [swapOutrecs_keys cfg _ _ a.orec b.orec hact]
    have hne : ∀ k, a.orec = some k → b.orec ≠ some k := fun k hk => recs_ab_ne n pre rest a b hr k hk
    have hl1 : ∀ k, a.orec = some k → LiveAt o.rings k.id := fun k hk => h.hot a hal k hk
    have hl2 : ∀ k, b.orec = some k → LiveAt o.rings k.id := fun k hk => h.hot b hbl k hk
    obtain ⟨e1, e2, e3⟩ := swapOut_ends a.orec b.orec pt o hne hl1 hl2
    have := mk id b.orec a.orec n _ (fun _ => ⟨rfl, rfl⟩) ?_ (fun k hk => e1 k (Or.inr hk)) (fun k hk => e1 k (Or.inl hk)) ?_ 0
      (by rw [liveN_swapOut, Int.add_zero]) (by simp only [List.map_id, hotN_window, hv]; omega) (phi_swapOut hw a b pt o hne hl1 hl2)
    · exact Or.inl ⟨id, _, _, by simpa using this⟩
    · intro x hx
      cases hxo : x.orec with
      | none => simp [info, hxo]
      | some k =>
        obtain ⟨n1, n2, hl⟩ := third_live h hr hx hxo
        simp only [info, id, hxo, Option.bind_some, e2 k n1 n2 hl]
    · intro sg hsg
      rcases e3 sg hsg with h' | ⟨k, hk, hp, hq, hkd⟩
      · exact Or.inl h'
      · refine Or.inr ⟨hq, Or.inl hkd, ?_⟩
        rcases hk with hk | hk
        · exact ⟨a, by simp, k, hk, hp⟩
        · exact ⟨b, by simp, k, hk, hp⟩
  | localMin =>
    simp only [hact] at hc ho
    cases hc
    subst ho
    obtain ⟨m1, m2⟩ := endOf_minRecs pre false pt o
    rw [h.len] at m1 m2
    unfold decideAct at hact
    obtain ⟨c1, c2⟩ := act_localMin _ _ _ _ _ _ _ _ _ _ _ hact
    have ha0 : a.orec = none := by cases h' : a.orec with | none => rfl | some _ => simp [h'] at c1
    have hb0 : b.orec = none := by cases h' : b.orec with | none => rfl | some _ => simp [h'] at c2
    have := mk id (some (minRecs pre false n).1) (some (minRecs pre false n).2) (n + 1) _ (fun _ => ⟨rfl, rfl⟩)
      (fun x hx => info_newRec pt (fun k hk => lt_of_liveAt (hlive x hx k hk))) (fun k hk => by cases hk; exact m1)
      (fun k hk => by cases hk; exact m2) (fun sg hsg => Or.inl hsg) 1 (liveN_newRec pt o)
      (by simp only [List.map_id, hotN_window, hv_none ha0, hv_none hb0]; simp; omega)
      (by rw [phi_newRec, emit_none ha0, emit_none hb0]; simp)
    exact Or.inl ⟨id, _, _, by simpa using this⟩
  | localMax =>
    simp only [hact] at hc ho
    cases ha : a.orec with
    | none => simp [ha] at hc
    | some ra =>
      cases hb : b.orec with
      | none => simp [ha, hb] at hc
      | some rb =>
        simp only [ha, hb] at hc ho
        cases hg : addLocalMaxFn ra rb with
        | error f => simp [hg] at hc
        | ok g =>
          simp only [hg] at hc
          cases hc
          subst ho
          obtain ⟨sh, t, l, l', p, sg⟩ := localMax_acct hw pt h hr ha hb hg
          exact Or.inl ⟨g, _, _, mk g none none n _ sh t (fun k hk => by cases hk) (fun k hk => by cases hk) sg (-1) l
            (by simp; omega) p⟩
  | maxThenMin =>
    simp only [hact] at hc ho
    cases ha : a.orec with
    | none => simp [ha] at hc
    | some ra =>
      cases hb : b.orec with
      | none => simp [ha, hb] at hc
      | some rb =>
        simp only [ha, hb] at hc ho
        cases hg : addLocalMaxFn ra rb with
        | error f => simp [hg] at hc
        | ok g =>
          simp only [hg] at hc
          cases hc
          subst ho
          obtain ⟨sh, t, l, l', p, sg⟩ := localMax_acct hw pt h hr ha hb hg
          obtain ⟨m1, m2⟩ := endOf_minRecs (pre.map g) false pt (localMaxOut .meet ra rb pt o)
          rw [localMaxOut_len, h.len] at m1 m2
          refine Or.inl ⟨g, _, _, mk g _ _ (n + 1) _ sh (fun x hx => ?_) (fun k hk => by cases hk; exact m1)
            (fun k hk => by cases hk; exact m2) sg 0 (by rw [liveN_newRec, l]; omega) (by simp; omega) (by rw [phi_newRec, p])⟩
          rw [← t x hx]
          refine info_newRec pt (fun k hk => ?_)
          have hxg : g x ∈ pre.map g ++ rest.map g := by rw [← List.map_append]; exact List.mem_map_of_mem hx
          obtain ⟨_, y, hy, ky, hky, hid⟩ := localMax_keys n pre rest a b ra rb g hr ha hb hg (g x) hxg k hk
          rw [localMaxOut_len, ← hid]
          exact lt_of_liveAt (h.hot y hy ky hky)

theorem intersect_acct {c : Pt → Pt → Int} (hw : Wt c) (cfg : Cfg) (i : Nat) (pt : Pt) (r r' : RState) (hP : Plain r.s.ael)
    (hO : OInv r.s.next r.s.ael r.o) (hR : RecsOK r.s.next r.s.ael) (hs : stepR cfg r (.base (.intersect i) pt) = .ok r') :
    ∃ (pre : List Model.SEdge) (a b : Model.SEdge) (post : List Model.SEdge), pre.length = i ∧
      ((∃ (g : Model.SEdge → Model.SEdge) (a' b' : Model.SEdge), Acct c pt r r' pre [a, b] post g [b', a']) ∨
        ∃ a' b', Kept r r' pre a b post a' b') := by
  obtain ⟨h1, h2⟩ := Clipper.Props.C01Rings.erase_ring_step cfg r r' _ hs
  simp only [ROp.erase, stepS] at h1
  simp only [outStep] at h2
  match hd0 : r.s.ael.drop i with
  | [] => simp [intersectS, hd0] at h1
  | [_] => simp [intersectS, hd0] at h1
  | a :: b :: rest =>
    have hl := window_split _ _ _ _ _ hd0
    have hP' := hP
    rw [hl] at hP' hO hR
    obtain ⟨pa, pb, _⟩ := plain_window hP'
    obtain ⟨e1, e2⟩ := intersect_plain cfg i pt r.s r.o a b rest hd0 pa pb
    rw [e1] at h1
    rw [e2] at h2
    exact ⟨_, a, b, rest, (window_get _ _ _ _ _ hd0).2.2, core_acct hw cfg _ a b rest pt r r' hl hP' hO hR h1 h2⟩

/-- **`removePair i pt`** (`DoMaxima`) -/
theorem removePair_acct {c : Pt → Pt → Int} (hw : Wt c) (cfg : Cfg) (i : Nat) (pt : Pt) (r r' : RState) (hP : Plain r.s.ael)
    (hO : OInv r.s.next r.s.ael r.o) (hR : RecsOK r.s.next r.s.ael) (hs : stepR cfg r (.base (.removePair i) pt) = .ok r') :
    ∃ (pre : List Model.SEdge) (a b : Model.SEdge) (post : List Model.SEdge) (g : Model.SEdge → Model.SEdge),
      pre.length = i ∧ Acct c pt r r' pre [a, b] post g [] := by
  obtain ⟨s', o'⟩ := r'
  obtain ⟨h1, h2⟩ := Clipper.Props.C01Rings.erase_ring_step cfg r _ _ hs
  simp only [ROp.erase, stepS] at h1
  simp only [outStep] at h2
  subst h2
  match hd0 : r.s.ael.drop i with
  | [] => simp [removePairS, hd0] at h1
  | [_] => simp [removePairS, hd0] at h1
  | a :: b :: rest =>
    have hl := window_split _ _ _ _ _ hd0
    have hlen := (window_get _ _ _ _ _ hd0).2.2
    have hP' := hP
    rw [hl] at hP' hO hR
    obtain ⟨pa, pb, prest⟩ := plain_window hP'
    obtain ⟨e1, e2⟩ := removePair_plain i pt r.s r.o a b rest hd0 pa pb.1
    have hhot : hotN r.s.ael = hotN (r.s.ael.take i) + hv a + hv b + hotN rest := by rw [← hotN_window, ← hl]
    rw [e1] at h1
    rw [e2]
    split at h1
    · cases hao : a.orec with
      | none =>
        cases hbo : b.orec with
        | none =>
          simp only [hao, hbo] at h1 ⊢
          cases h1
          refine ⟨_, a, b, rest, id, hlen, hl, by simp, prest, fun x _ => rfl, (fun _ h => nomatch h), fun sg hsg => Or.inl hsg, ?_,
            by rw [sum_pair, emit_none hao, emit_none hbo]; simp⟩
          dsimp only; rw [hhot, hv_none hao, hv_none hbo, hotN_append]; omega
        | some rb => simp [hao, hbo] at h1
      | some ra =>
        cases hbo : b.orec with
        | none => simp [hao, hbo] at h1
        | some rb =>
          simp only [hao, hbo] at h1 ⊢
          cases hg : addLocalMaxFn ra rb with
          | error f => simp [hg] at h1
          | ok g =>
            simp only [hg] at h1
            cases h1
            obtain ⟨sh, t, l, l', p, sg⟩ := localMax_acct hw pt hO hR hao hbo hg
            refine ⟨_, a, b, rest, g, hlen, hl, rfl, by rw [← List.map_append]; exact plain_map sh prest, t, (fun _ h => nomatch h), sg, ?_,
              by rw [sum_pair, ← Int.add_assoc]; exact p⟩
            dsimp only; rw [hhot, ← hotN_window]
            exact excess_eq (-1) l (by rw [hotN_append, ← l']; omega)
    · cases h1

/-- **`insertPair pos t false dx` with the point `pt`** (`InsertLocalMinimaIntoAEL`, closed path) -/
theorem insertPair_acct (c : Pt → Pt → Int) (cfg : Cfg) (pos : Nat) (t : PathType) (dx : Int) (pt : Pt) (r r' : RState) (hP : Plain r.s.ael)
    (hO : OInv r.s.next r.s.ael r.o) (hs : stepR cfg r (.base (.insertPair pos t false dx) pt) = .ok r') :
    ∃ (pre post : List Model.SEdge) (l' r'' : Model.SEdge), pre.length = pos ∧ Acct c pt r r' pre [] post id [l', r''] := by
  obtain ⟨s', o'⟩ := r'
  obtain ⟨h1, h2⟩ := Clipper.Props.C01Rings.erase_ring_step cfg r _ _ hs
  simp only [ROp.erase, stepS] at h1
  simp only [outStep] at h2
  unfold insertPairS at h1
  unfold insertPairOut at h2
  split at h1
  · next hc =>
    simp only at h1 h2
    have hlen : (r.s.ael.take pos).length = pos := by rw [List.length_take]; omega
    have hsplit : r.s.ael = r.s.ael.take pos ++ r.s.ael.drop pos := (List.take_append_drop _ _).symm
    have hhot : hotN r.s.ael = hotN (r.s.ael.take pos) + hotN (r.s.ael.drop pos) := by rw [← hotN_append, ← hsplit]
    obtain ⟨_, g2, _⟩ := newLeft_fields cfg (erase (r.s.ael.take pos)) t false dx
    -- the two new edges are neither joined nor open, whatever records they get
    have hpl : ∀ (l' r'' : Model.SEdge), (l'.join = .none ∧ l'.e.isOpen = false) → (r''.join = .none ∧ r''.e.isOpen = false) →
        Plain (r.s.ael.take pos ++ l' :: r'' :: r.s.ael.drop pos) :=
      fun l' r'' hl hr => plain_insert (hsplit ▸ hP) [l', r''] (forall_pair hl hr)
    by_cases hcon : ((newLeft cfg (erase (r.s.ael.take pos)) t false dx).2 && !false) = true
    · simp only [hcon, if_true] at h1 h2
      rw [addLocalMin_eq pos true (r.s.ael.take pos) _ _ (r.s.ael.drop pos) r.s.next hlen] at h1
      cases h1
      subst h2
      obtain ⟨m1, m2⟩ := endOf_minRecs (r.s.ael.take pos) true pt r.o
      rw [hO.len] at m1 m2
      refine ⟨_, _, _, _, hlen, hsplit, by rw [List.map_id, List.map_id]; rfl, hpl _ _ ⟨rfl, g2⟩ ⟨rfl, rfl⟩,
        fun x hx => info_newRec pt (fun k hk => lt_of_liveAt (hO.hot x (hsplit ▸ hx) k hk)),
        forall_pair (endsAt_of_orec (fun k hk => by cases hk; exact m1)) (endsAt_of_orec (fun k hk => by cases hk; exact m2)),
        fun sg hsg => Or.inl hsg, ?_, (phi_newRec c pt r.o).trans (Int.add_zero _).symm⟩
      dsimp only; rw [liveN_newRec, hotN_window, hv_some rfl, hv_some rfl, hhot]; omega
    · simp only [hcon, Bool.false_eq_true, if_false] at h1 h2
      cases h1
      subst h2
      refine ⟨_, _, _, _, hlen, hsplit, by rw [List.map_id, List.map_id]; rfl, hpl _ _ ⟨rfl, g2⟩ ⟨rfl, rfl⟩, fun x _ => rfl,
        forall_pair (endsAt_of_orec (fun k hk => by cases hk)) (endsAt_of_orec (fun k hk => by cases hk)),
        fun sg hsg => Or.inl hsg, ?_, (Int.add_zero _).symm⟩
      dsimp only; rw [hotN_window, hv_none rfl, hv_none rfl, hhot]; omega
  · cases h1

/-- **`update i pt`** (`if (IsHotEdge(*e)) AddOutPt(*e, e->top)` before `UpdateEdgeIntoAEL`) -/
theorem update_acct {c : Pt → Pt → Int} (hw : Wt c) (cfg : Cfg) (i : Nat) (pt : Pt) (r r' : RState) (hP : Plain r.s.ael)
    (hO : OInv r.s.next r.s.ael r.o) (hR : RecsOK r.s.next r.s.ael) (hs : stepR cfg r (.update i pt) = .ok r') :
    ∃ (pre post : List Model.SEdge) (x : Model.SEdge), pre.length = i ∧ Acct c pt r r' pre [x] post id [x] := by
  obtain ⟨h1, h2⟩ := Clipper.Props.C01Rings.erase_ring_step cfg r r' _ hs
  have hi : i < r.s.ael.length := by
    unfold stepR at hs
    simp only [ROp.erase] at hs
    split at hs
    · assumption
    · cases hs
  have hsplit : r.s.ael = r.s.ael.take i ++ r.s.ael[i] :: r.s.ael.drop (i + 1) := by
    rw [List.getElem_cons_drop hi, List.take_append_drop]
  have hxm : r.s.ael[i] ∈ r.s.ael := List.getElem_mem hi
  have ho : r'.o = addOn r.s.ael[i].orec pt r.o := by
    rw [h2]
    simp only [outStep, updateOut, List.getElem?_eq_getElem hi, (hP _ hxm).2, Bool.false_eq_true, if_false]
  rw [hsplit] at hR
  refine ⟨_, _, _, by rw [List.length_take]; exact Nat.min_eq_left (Nat.le_of_lt hi), hsplit, by rw [h1, List.map_id, List.map_id]; exact hsplit,
    h1 ▸ hP, fun y hy => ?_, fun x' hx' => endsAt_of_orec ?_, fun sg hsg => ?_, by rw [h1, ho, liveN_addOn], ?_⟩
  · show info r'.o y = info r.o y
    cases hyo : y.orec with
    | none => simp [info, hyo]
    | some k' =>
      have hym : y ∈ r.s.ael := by
        rw [hsplit]
        rcases List.mem_append.1 hy with h | h
        · exact List.mem_append_left _ h
        · exact List.mem_append_right _ (List.mem_cons_of_mem _ h)
      simp only [info, hyo, Option.bind_some, ho,
        endOf_addOn_other _ pt r.o k' (recs_other_ne _ _ _ _ y hR hy k' hyo) (hO.hot y hym k' hyo)]
  · rw [List.mem_singleton.1 hx', ho]
    exact fun k hk => hk ▸ endOf_addOn_self k pt r.o (hO.hot _ hxm k hk)
  · rw [ho] at hsg
    rcases segs_addOn _ pt r.o sg hsg with h | ⟨k, hk, hp, hq, hkd⟩
    · exact Or.inl h
    · exact Or.inr ⟨hq, Or.inl hkd, r.s.ael[i], by simp, k, hk, hp⟩
  · rw [ho, phi_addOn hw _ pt r.o (fun k hk => hO.hot _ hxm k hk)]
    simp [emit]

end Clipper.Lemmas.C01Crown

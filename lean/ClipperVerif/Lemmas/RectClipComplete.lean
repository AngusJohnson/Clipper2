/- `RunFine` for every path under sign-exact arithmetic, and the order / completeness structure of the `Add` calls of
`RectClip64::ExecuteInternal` (helper lemmas of Props/C08Complete.lean).  Core Lean only. -/
import ClipperVerif.Lemmas.RectClipCompleteArms
import ClipperVerif.Lemmas.RectLinesMeet
namespace Clipper.Lemmas.RCC
open Clipper Clipper.Model.RC Clipper.Lemmas.RC Clipper.Lemmas.RCA Clipper.Lemmas.RCE Clipper.Lemmas.RCG

/-- **readiness of the reported location.**  `cur` is consumed from `L` (`Ready r L cur`) and `GetIntersection(cur, prv, L)`
succeeds: then `cur` is also consumed from the location the call reports — except in the configuration `Special`, in
which the reversed call from `specialFrom L` reports the same point. -/
theorem getIntersection_ready_exact {A : Arith} (hA : SignExact A) (ht : IsectTotal A) (r : Rect)
    (hw : r.left < r.right) (hh : r.top < r.bottom) (L : Location) (hL : L ≠ .inside) (cur prv ip : Pt)
    (hx : (getIntersection A r cur prv L ip).1 = true) (hr : Ready r L cur) :
    Ready r (getIntersection A r cur prv L ip).2.1 cur ∨
    (Special r L cur prv ∧ ∀ ip', (getIntersection A r cur prv L ip).2.2 =
      (getIntersection A r prv cur (specialFrom L) ip').2.2) := by
  simp only [getIntersection_exact hA] at hx ⊢
  exact (sideFrame ht r hw hh cur prv L hL).ready ip hx hr

theorem special_inRect {r : Rect} (hw : r.left < r.right) (hh : r.top < r.bottom) {L : Location} {cur prv : Pt}
    (h : Special r L cur prv) : inRect r cur = true := by
  rw [inRect_iff]
  cases L <;> simp only [Special] at h <;> omega

/-- in the special configuration the automaton comes from `specialFrom L` -/
theorem special_from {r : Rect} (hw : r.left < r.right) (hh : r.top < r.bottom) {L L0 : Location} {cur prv : Pt}
    (h : Special r L cur prv) (h0 : L0 ≠ .inside) (hp : Ready r L0 prv) (hc : ¬ Ready r L0 cur) :
    L0 = specialFrom L := by
  cases L <;> cases L0 <;> simp only [Special, Ready, specialFrom] at * <;> first | rfl | omega | exact absurd rfl h0

/-- invariant of the main loop: the vertex at `i` will be consumed from `loc`, or the vertex before it would have been -/
def InvC (r : Rect) (path : Path) (c : Ctl) : Prop :=
  ReadyAt r path c.loc c.i ∨ ∀ prv, prevPt path c.i = some prv → Ready r c.loc prv

/-- under the invariant the vertex before the one `GetNextLocation` stops at is consumed from the old location -/
theorem prv_ready {r : Rect} {path : Path} {c : Ctl} (hinv : InvC r path c) {cur prv : Pt}
    (hcur : path[(getNextLocation r path c.loc c.i).2.1]? = some cur)
    (hprv : prevPt path (getNextLocation r path c.loc c.i).2.1 = some prv) : Ready r c.loc prv := by
  have g := gnl_spec r path c.loc c.i
  have hstop := gnl_stop r path c.loc c.i cur hcur
  by_cases hlt : c.i < (getNextLocation r path c.loc c.i).2.1
  · rw [prevPt_pos _ _ (by omega)] at hprv
    exact gnl_passed r path c.loc c.i _ prv (by omega) (by omega) hprv
  · have hge := g.ge
    have heq : (getNextLocation r path c.loc c.i).2.1 = c.i := by omega
    rw [heq] at hprv hcur
    rcases hinv with h | h
    · exact absurd (h cur hcur) hstop
    · exact h prv hprv

/-- with exact signs the location a successful `GetIntersection` call reports consumes `cur`, unless this is the
`ip == ip2` case of the passing-right-through branch -/
theorem ready_after {A : Arith} (hA : SignExact A) (ht : IsectTotal A) {r : Rect} (hw : r.left < r.right)
    (hh : r.top < r.bottom) {path : Path} {c : Ctl} (hinv : InvC r path c) {cur prv : Pt}
    (hcur : path[(getNextLocation r path c.loc c.i).2.1]? = some cur)
    (hprv : prevPt path (getNextLocation r path c.loc c.i).2.1 = some prv)
    (hx : (getIntersection A r cur prv (getNextLocation r path c.loc c.i).1 ⟨0, 0⟩).1 = true)
    (hl : (getNextLocation r path c.loc c.i).1 ≠ .inside)
    (hne : c.loc ≠ .inside → (getIntersection A r cur prv (getNextLocation r path c.loc c.i).1 ⟨0, 0⟩).2.2 ≠
      (getIntersection A r prv cur c.loc ⟨0, 0⟩).2.2) :
    Ready r (getIntersection A r cur prv (getNextLocation r path c.loc c.i).1 ⟨0, 0⟩).2.1 cur := by
  have g := gnl_spec r path c.loc c.i
  have hr : Ready r (getNextLocation r path c.loc c.i).1 cur := g.ready cur hcur
  rcases getIntersection_ready_exact hA ht r hw hh _ hl cur prv ⟨0, 0⟩ hx hr with h | ⟨hs, hpt⟩
  · exact h
  · exfalso
    have hstop := gnl_stop r path c.loc c.i cur hcur
    by_cases hc : c.loc = .inside
    · apply hstop
      rw [hc]
      exact (outsideLoc_none_iff r cur).mpr (special_inRect hw hh hs)
    · have hp := prv_ready hinv hcur hprv
      have hfrom := special_from hw hh hs hc hp hstop
      have e := hpt ⟨0, 0⟩
      rw [← hfrom] at e
      exact hne hc e

/-- **`StepFine` follows from the invariant** for sign-exact arithmetic and a non-empty rectangle -/
theorem stepFine_of_inv {A : Arith} (hA : SignExact A) (ht : IsectTotal A) {r : Rect} (hw : r.left < r.right)
    (hh : r.top < r.bottom) {path : Path} {c : Ctl} (hinv : InvC r path c) : StepFine A r path c := by
  intro cur prv hcur hprv
  have hp := prv_ready hinv hcur hprv
  constructor
  · intro hx
    constructor
    · intro hli
      have hc := gnl_inside_from r path c.loc c.i cur hcur hli
      have hstrict := gnl_inside_strict r path c.loc c.i cur hc hcur hli
      have hnsi : NSI r prv := ready_nsi hp hc
      have := getIntersection_from_inside hA ht hstrict hnsi ⟨0, 0⟩
      rw [hli] at hx
      rw [this] at hx
      cases hx
    · intro hc
      have h1 : path[(getNextLocation r path .inside c.i).2.1]? = some cur := by rw [← hc]; exact hcur
      have hout := (gnl_from_inside r path c.i cur h1).2
      have hin : inRect r prv = true := by
        rw [hc] at hp
        exact (outsideLoc_none_iff r prv).mp hp
      have := RLG.exit_found hA ht hw hh hout hin ⟨0, 0⟩
      rw [hc] at hx
      rw [this] at hx
      cases hx
  · intro hx hl _ hne
    exact ready_after hA ht hw hh hinv hcur hprv hx hl hne

theorem invC_step {A : Arith} (hA : SignExact A) (ht : IsectTotal A) {r : Rect} (hw : r.left < r.right)
    (hh : r.top < r.bottom) {path : Path} {c c' : Ctl} {es : List AEmit} {sl : List Location}
    (hinv : InvC r path c) (h : astep A r path c = .next es sl c') : InvC r path c' := by
  obtain ⟨cur, prv, hcur, hprv, _, _, _, _, _, hctl, _⟩ := astep_next h rfl
  have hready := (gnl_spec r path c.loc c.i).ready _ hcur
  unfold InvC
  rcases hctl with ⟨_, hi, hl⟩ | ⟨_, hli, hi, hl⟩ | ⟨_, hli, hc, heq, hi, hl⟩ | ⟨hx, hli, hne, hi, hl⟩
  · right
    intro q hq
    rw [hi, prevPt_succ, hcur] at hq
    cases hq
    rw [hl]; exact hready
  all_goals
    left
    rw [hi, hl]
    apply readyAt_of hcur
  · exact hli ▸ hready
  · exact getLocation_ready r _ _
  · exact ready_after hA ht hw hh hinv hcur hprv hx hli hne

theorem invC_reach {A : Arith} (hA : SignExact A) (ht : IsectTotal A) {r : Rect} (hw : r.left < r.right)
    (hh : r.top < r.bottom) {path : Path} {c0 c : Ctl} (h0 : InvC r path c0) (hr : Reach A r path c0 c) :
    InvC r path c := by
  induction hr with
  | init => exact h0
  | next _ _ hst ih => exact invC_step hA ht hw hh ih hst

theorem invC_init {r : Rect} {path : Path} {last : Pt} {loc0 : Location} (hne : r.isEmpty = false)
    (hl : path.getLast? = some last) (hs : startLoc r path last = .inr loc0) :
    InvC r path ⟨0, loc0, .inside, .inside⟩ := by
  right
  intro prv hprv
  have : prevPt path 0 = some last := by
    unfold prevPt; rw [if_pos rfl, ← List.getLast?_eq_getElem?]; exact hl
  rw [this] at hprv
  cases hprv
  show Ready r loc0 last
  unfold startLoc at hs
  simp only at hs
  split at hs
  · rename_i hg
    split at hs
    · cases hs
    · simp only [Sum.inr.injEq] at hs
      split at hs
      · subst hs
        exact (outsideLoc_none_iff r last).mpr
          (onBoundary_inRect ((getLocation_fst r last .inside).mp (by simpa using hg)) hne)
      · subst hs
        exact getLocation_ready r last .inside
  · simp only [Sum.inr.injEq] at hs
    subst hs
    exact getLocation_ready r last .inside

/-- **`RunFine` holds for every path** (stated without the definition from Props/C08.lean) -/
theorem runFine_exact {A : Arith} (hA : SignExact A) (ht : IsectTotal A) (r : Rect) (hne : r.isEmpty = false)
    (path : Path) (last : Pt) (loc0 : Location) (hl : path.getLast? = some last)
    (hs : startLoc r path last = .inr loc0) (c : Ctl) (hr : Reach A r path ⟨0, loc0, .inside, .inside⟩ c) :
    StepFine A r path c :=
  stepFine_of_inv hA ht (nonempty_dims hne).1 (nonempty_dims hne).2
    (invC_reach hA ht (nonempty_dims hne).1 (nonempty_dims hne).2 (invC_init hne hl hs) hr)

/-- from `Inside`, every vertex `GetNextLocation` passes over is added -/
theorem gnl_inside_adds (r : Rect) (path : Path) (i k : Nat) (q : Pt) (h1 : i ≤ k)
    (h2 : k < (getNextLocation r path .inside i).2.1) (hq : path[k]? = some q) :
    (k, q) ∈ (getNextLocation r path .inside i).2.2 := by
  rw [gnl_idx_inside] at h2
  rw [gnl_adds_inside]
  have hk : k - i < ((path.drop i).takeWhile (fun p => (outsideLoc r p).isNone)).length := by omega
  have := indexFrom_mem i _ (k - i) q (by
    rw [takeWhile_getElem?_lt _ _ _ hk, List.getElem?_drop, show i + (k - i) = k by omega]; exact hq)
  rwa [show i + (k - i) = k by omega] at this

/-- from any state satisfying the invariant, the main loop passes every vertex strictly inside the rectangle whose
index is at least `i` to `Add` -/
theorem aloop_keeps {A : Arith} (hA : SignExact A) (ht : IsectTotal A) {r : Rect} (hw : r.left < r.right)
    (hh : r.top < r.bottom) {path : Path} (fuel : Nat) (c : Ctl) (o : LoopOut) (hinv : InvC r path c)
    (h : aloop A r path fuel c = .ok o) :
    ∀ k q, c.i ≤ k → path[k]? = some q → SI r q → (⟨k, q, .vertex⟩ : AEmit) ∈ o.es := by
  -- a vertex strictly inside that `GetNextLocation` passes over is passed over from `Inside`, hence added
  have below : ∀ (c : Ctl) k q, c.i ≤ k → path[k]? = some q → SI r q → k < (getNextLocation r path c.loc c.i).2.1 →
      (⟨k, q, .vertex⟩ : AEmit) ∈ vtxEmits (getNextLocation r path c.loc c.i).2.2 := by
    intro c k q hk hq hsi hkj
    by_cases hc : c.loc = .inside
    · exact List.mem_map.mpr ⟨(k, q), by rw [hc] at hkj ⊢; exact gnl_inside_adds r path c.i k q hk hkj hq, rfl⟩
    · exact absurd hsi (ready_nsi (gnl_passed r path c.loc c.i k q hk hkj hq) hc)
  refine aloop_induct (P := fun c o => InvC r path c → ∀ k q, c.i ≤ k → path[k]? = some q → SI r q →
    (⟨k, q, .vertex⟩ : AEmit) ∈ o.es) ?_ ?_ ?_ fuel c o h hinv
  · intro c hi _ k q hk hq _
    have := (List.getElem?_eq_some_iff.mp hq).1; omega
  · intro c es loc _ hst _ k q hk hq hsi
    obtain ⟨hes, _, hnj⟩ := astep_done hst rfl
    have := (List.getElem?_eq_some_iff.mp hq).1
    rw [hes]
    exact below c k q hk hq hsi (by omega)
  · intro c es sl c' o' _ hst ih hinv k q hk hq hsi
    obtain ⟨cur, prv, hcur, hprv, _, rest, hes, _, _, hctl, _⟩ := astep_next hst rfl
    by_cases hkc : c'.i ≤ k
    · exact List.mem_append_right _ (ih (invC_step hA ht hw hh hinv hst) k q hkc hq hsi)
    · apply List.mem_append_left
      rw [hes]
      apply List.mem_append_left
      by_cases hkj : k < (getNextLocation r path c.loc c.i).2.1
      · exact below c k q hk hq hsi hkj
      · -- the vertex stopped at is skipped only if the call for its segment fails, and then it is not classified `Inside`
        exfalso
        rcases hctl with ⟨hx, hi, _⟩ | ⟨_, _, hi, _⟩ | ⟨_, _, _, _, hi, _⟩ | ⟨_, _, _, hi, _⟩
        · have hf := (stepFine_of_inv hA ht hw hh hinv cur prv hcur hprv).1 hx
          have hr := (gnl_spec r path c.loc c.i).ready cur hcur
          have hkj' : k = (getNextLocation r path c.loc c.i).2.1 := by omega
          rw [hkj', hcur] at hq
          cases hq
          exact ready_nsi hr hf.1 hsi
        · omega
        · omega
        · omega

/-- order of two `Add` calls: indices do not decrease, and an input vertex is strictly before whatever follows it -/
def EOrd (e1 e2 : AEmit) : Prop := e1.k ≤ e2.k ∧ (e1.kind = .vertex → e1.k < e2.k)

theorem vtxEmits_sorted {l : List (Nat × Pt)} (h : l.Pairwise (fun a b => a.1 < b.1)) : (vtxEmits l).Pairwise EOrd := by
  unfold vtxEmits
  rw [List.pairwise_map]
  exact h.imp (fun hab => ⟨Nat.le_of_lt hab, fun _ => hab⟩)

theorem extra_shape {r : Rect} {j : Nat} {x y : Bool × Location × Pt} {thru : Prop} {e : AEmit}
    (h : StepExtra r j x y thru e) : e.k = j ∧ e.kind ≠ .vertex :=
  ⟨h.1, by rcases h.2 with h | h | h <;> rw [h.1] <;> simp⟩

theorem aloop_sorted (A : Arith) (r : Rect) (path : Path) (fuel : Nat) (c : Ctl) (o : LoopOut)
    (hle : c.i ≤ path.length) (h : aloop A r path fuel c = .ok o) :
    (∀ e ∈ o.es, c.i ≤ e.k ∧ e.k ≤ path.length ∧ (e.kind = .vertex → e.k < path.length)) ∧
    o.es.Pairwise EOrd := by
  -- the vertices passed by `GetNextLocation` have indices in `[i, j)`
  have hv : ∀ (c : Ctl), ∀ e ∈ vtxEmits (getNextLocation r path c.loc c.i).2.2,
      e.kind = .vertex ∧ c.i ≤ e.k ∧ e.k < (getNextLocation r path c.loc c.i).2.1 := by
    intro c e he
    simp only [vtxEmits, List.mem_map] at he
    obtain ⟨⟨k, q⟩, hm, rfl⟩ := he
    have := (gnl_spec r path c.loc c.i).adds k q hm
    exact ⟨rfl, this.2.2.1, this.2.2.2⟩
  refine aloop_induct (P := fun c o => c.i ≤ path.length →
    (∀ e ∈ o.es, c.i ≤ e.k ∧ e.k ≤ path.length ∧ (e.kind = .vertex → e.k < path.length)) ∧
    o.es.Pairwise EOrd) ?_ ?_ ?_ fuel c o h hle
  · intro c _ _; simp
  · intro c es loc _ hst hle
    have hjle := (gnl_spec r path c.loc c.i).le hle
    simp only
    rw [(astep_done hst rfl).1]
    refine ⟨fun e he => ?_, vtxEmits_sorted (gnl_spec r path c.loc c.i).sorted⟩
    have := hv c e he
    exact ⟨this.2.1, by omega, fun _ => by omega⟩
  · intro c es sl c' o' _ hst ih hle
    have g := gnl_spec r path c.loc c.i
    have hjle := g.le hle
    have hge := g.ge
    obtain ⟨_, _, _, _, hjn, rest, hes, hex, _, hctl, _⟩ := astep_next hst rfl
    have hrest := fun e he => extra_shape (hex e he)
    have hci : c'.i = (getNextLocation r path c.loc c.i).2.1 ∨ c'.i = (getNextLocation r path c.loc c.i).2.1 + 1 := by
      rcases hctl with ⟨_, hi, _⟩ | ⟨_, _, hi, _⟩ | ⟨_, _, _, _, hi, _⟩ | ⟨_, _, _, hi, _⟩ <;> omega
    obtain ⟨hb', hs'⟩ := ih (by omega)
    have hb : ∀ e ∈ es, c.i ≤ e.k ∧ e.k ≤ (getNextLocation r path c.loc c.i).2.1 ∧
        (e.kind = .vertex → e.k < (getNextLocation r path c.loc c.i).2.1) := by
      intro e he
      rw [hes] at he
      rcases List.mem_append.mp he with he | he
      · have := hv c e he; exact ⟨this.2.1, by omega, fun _ => this.2.2⟩
      · have := hrest e he; exact ⟨by omega, by omega, fun hk => absurd hk this.2⟩
    refine ⟨fun e he => ?_, ?_⟩
    · rcases List.mem_append.mp he with he | he
      · have := hb e he; exact ⟨this.1, by omega, fun hk => by have := this.2.2 hk; omega⟩
      · have := hb' e he; exact ⟨by omega, this.2.1, this.2.2⟩
    · simp only
      rw [List.pairwise_append]
      refine ⟨?_, hs', ?_⟩
      · rw [hes, List.pairwise_append]
        refine ⟨vtxEmits_sorted g.sorted, ?_, ?_⟩
        · apply List.pairwise_of_forall_mem_list
          intro a ha b hb2
          have h1 := hrest a ha
          have h2 := hrest b hb2
          exact ⟨by omega, fun hk => absurd hk h1.2⟩
        · intro a ha b hb2
          have h1 := hv c a ha
          have h2 := hrest b hb2
          exact ⟨by omega, fun _ => by omega⟩
      · intro a ha b hb2
        have h1 := hb a ha
        have h2 := hb' b hb2
        exact ⟨by omega, fun hk => by have := h1.2.2 hk; omega⟩

theorem afinish_shape (pip : Pt → Path → Option PipResult) (r : Rect) (path : Path) (sloc : Location) (o : LoopOut)
    (fin : List AEmit) (h : afinish pip r path sloc o = .ok fin) :
    ∀ e ∈ fin, e.k = path.length ∧ e.kind ≠ .vertex := by
  obtain ⟨pts, rfl, _⟩ := afinish_ok h
  intro e he
  simp only [cornerEmits, List.mem_map] at he
  obtain ⟨p, _, rfl⟩ := he
  exact ⟨rfl, by simp⟩

theorem mem_foldl_addRing (p : Pt) : ∀ (l acc : List Pt), (p ∈ acc ∨ p ∈ l) → p ∈ l.foldl addRing acc := by
  intro l
  induction l with
  | nil => intro acc h; rcases h with h | h
           · exact h
           · simp at h
  | cons a l ih =>
    intro acc h
    simp only [List.foldl_cons]
    apply ih
    rcases h with h | h
    · left
      cases acc with
      | nil => simp at h
      | cons last tl =>
        simp only [addRing]
        split
        · exact h
        · exact List.mem_cons_of_mem _ h
    · rcases List.mem_cons.mp h with rfl | h
      · left
        cases acc with
        | nil => simp [addRing]
        | cons last tl =>
          simp only [addRing]
          split
          · rename_i e; rw [e]; simp
          · simp
      · exact Or.inr h

/-- every point passed to `Add` is on the raw ring -/
theorem mem_ringOf_of_mem {es : List AEmit} {e : AEmit} (h : e ∈ es) : e.pt ∈ ringOf es := by
  unfold ringOf
  rw [List.mem_reverse]
  exact mem_foldl_addRing e.pt _ [] (Or.inr (List.mem_map.mpr ⟨e, h, rfl⟩))

theorem foldl_addRing_sublist : ∀ (l acc : List Pt), (l.foldl addRing acc).reverse.Sublist (acc.reverse ++ l) := by
  intro l
  induction l with
  | nil => intro acc; simp
  | cons a l ih =>
    intro acc
    simp only [List.foldl_cons]
    refine (ih (addRing acc a)).trans ?_
    cases acc with
    | nil => simp [addRing]
    | cons last tl =>
      simp only [addRing]
      split
      · simp only [List.reverse_cons, List.append_assoc]
        apply List.Sublist.append_left
        apply List.Sublist.append_left
        exact (List.sublist_cons_self a l)
      · simp

/-- the raw ring lists the points passed to `Add` in the order of the calls (`Add` only drops a point equal to its
predecessor) -/
theorem ringOf_sublist (es : List AEmit) : (ringOf es).Sublist (es.map (·.pt)) := by
  unfold ringOf
  simpa using foldl_addRing_sublist (es.map (·.pt)) []

/-- not the point of a failed second `GetIntersection` call of a passing-right-through step -/
def NotLost (e : AEmit) : Prop := e.kind ≠ .thru1 false

theorem nl_vtx (l : List (Nat × Pt)) : ∀ e ∈ vtxEmits l, NotLost e := by
  intro e he
  simp only [vtxEmits, List.mem_map] at he
  obtain ⟨p, _, rfl⟩ := he
  simp [NotLost]

/-- what an iteration adds is not a lost point, provided the second call of the passing-right-through branch succeeds -/
theorem extra_nl {r : Rect} {j : Nat} {x y : Bool × Location × Pt} {thru : Prop} {e : AEmit}
    (h : StepExtra r j x y thru e) (hy : thru → y.1 = true) : NotLost e := by
  unfold NotLost
  rcases h.2 with h | h | h <;> rw [h.1]
  · simp
  · simp
  · rw [hy h.2.2]; simp

theorem aloop_no_lost {A : Arith} (hA : SignExact A) (ht : IsectTotal A) {r : Rect} (hw : r.left < r.right)
    (hh : r.top < r.bottom) {path : Path} (fuel : Nat) (c : Ctl) (o : LoopOut) (hinv : InvC r path c)
    (h : aloop A r path fuel c = .ok o) : ∀ e ∈ o.es, NotLost e := by
  refine aloop_induct (P := fun c o => InvC r path c → ∀ e ∈ o.es, NotLost e) ?_ ?_ ?_ fuel c o h hinv
  · intro c _ _; simp
  · intro c es loc _ hst _
    rw [(astep_done hst rfl).1]; exact nl_vtx _
  · intro c es sl c' o' _ hst ih hinv
    obtain ⟨cur, prv, hcur, hprv, _, rest, hes, hex, _⟩ := astep_next hst rfl
    rw [hes]
    refine all_append (all_append (nl_vtx _) (fun e he => extra_nl (hex e he) (fun hthru => ?_)))
      (ih (invC_step hA ht hw hh hinv hst))
    exact RLG.through_found hA ht hw hh hthru.1 (prv_ready hinv hcur hprv) (gnl_stop r path c.loc c.i cur hcur)
      hthru.2 ⟨0, 0⟩

theorem afinish_nl (pip : Pt → Path → Option PipResult) (r : Rect) (path : Path) (sloc : Location) (o : LoopOut)
    (fin : List AEmit) (h : afinish pip r path sloc o = .ok fin) : ∀ e ∈ fin, NotLost e := by
  obtain ⟨pts, rfl, _⟩ := afinish_ok h
  intro e he
  simp only [cornerEmits, List.mem_map] at he
  obtain ⟨p, _, rfl⟩ := he
  simp [NotLost]

/-- with exact signs no `Add` call of `ExecuteInternal` passes the point of a failed `GetIntersection` call -/
theorem exec_no_lost {A : Arith} (hA : SignExact A) (ht : IsectTotal A) {pip : Pt → Path → Option PipResult}
    {r : Rect} (hne : r.isEmpty = false) {path : Path} {res : AResult}
    (h : executeInternalA A pip r path = .ok res) : ∀ e ∈ res.es, NotLost e := by
  rcases exec_cases h with ⟨_, rfl⟩ | ⟨last, es, hl, hs, rfl⟩ | ⟨last, loc0, o, fin, hl, hs, hlo, hfin, rfl⟩
  · simp
  · obtain ⟨rfl, _⟩ := startLoc_inl hl hs
    exact nl_vtx _
  · exact all_append
      (aloop_no_lost hA ht (nonempty_dims hne).1 (nonempty_dims hne).2 _ _ o (invC_init hne hl hs) hlo)
      (afinish_nl pip r path loc0 o fin hfin)

/-- two lists strictly sorted by a key, one contained in the other as a set: it is a sublist -/
theorem sublist_of_sorted_subset {α : Type} (key : α → Nat) :
    ∀ (K I : List α), I.Pairwise (fun a b => key a < key b) → K.Pairwise (fun a b => key a < key b) →
      (∀ a ∈ I, a ∈ K) → I.Sublist K := by
  intro K
  induction K with
  | nil =>
    intro I _ _ hsub
    cases I with
    | nil => exact List.Sublist.slnil
    | cons a _ => exact absurd (hsub a (List.mem_cons_self ..)) (by simp)
  | cons k K ih =>
    intro I hI hK hsub
    cases I with
    | nil => exact List.nil_sublist _
    | cons i I' =>
      have hk := List.pairwise_cons.mp hK
      have hi := List.pairwise_cons.mp hI
      rcases List.mem_cons.mp (hsub i (List.mem_cons_self ..)) with rfl | hik
      · apply List.Sublist.cons_cons
        apply ih I' hi.2 hk.2
        intro a ha
        rcases List.mem_cons.mp (hsub a (List.mem_cons_of_mem _ ha)) with rfl | h
        · exact absurd (hi.1 a ha) (Nat.lt_irrefl _)
        · exact h
      · apply List.Sublist.cons
        apply ih (i :: I') hI hk.2
        intro a ha
        rcases List.mem_cons.mp (hsub a ha) with rfl | h
        · exfalso
          have h1 := hk.1 i hik
          rcases List.mem_cons.mp ha with rfl | ha'
          · exact Nat.lt_irrefl _ h1
          · have h2 := hi.1 a ha'
            omega
        · exact h

theorem indexFrom_filter_snd (p : Pt → Bool) (i : Nat) (l : List Pt) :
    ((indexFrom i l).filter (fun kp => p kp.2)).map (·.2) = l.filter p := by
  induction l generalizing i with
  | nil => rfl
  | cons a l ih =>
    simp only [indexFrom, List.filter_cons]
    split
    · simp [ih]
    · exact ih (i + 1)

/-- if every vertex strictly inside is recorded as a `vertex` call with its index, and the calls are in path order,
then the strictly-inside vertices, in input order, form a sublist of the points passed to `Add` -/
theorem kept_sublist {r : Rect} {path : Path} {es : List AEmit}
    (hkept : ∀ k q, path[k]? = some q → SI r q → (⟨k, q, .vertex⟩ : AEmit) ∈ es) (hord : es.Pairwise EOrd) :
    (path.filter (fun q => decide (SI r q))).Sublist (es.map (·.pt)) := by
  let V := es.filter (fun e => decide (e.kind = .vertex))
  have hVsub : (V.map (·.pt)).Sublist (es.map (·.pt)) := List.Sublist.map _ List.filter_sublist
  refine List.Sublist.trans ?_ hVsub
  have hI : ((indexFrom 0 path).filter (fun kp => decide (SI r kp.2))).Pairwise (fun a b => a.1 < b.1) :=
    (indexFrom_pairwise 0 path).filter _
  have hK : (V.map (fun e => (e.k, e.pt))).Pairwise (fun a b => a.1 < b.1) := by
    rw [List.pairwise_map]
    have hV : V.Pairwise EOrd := hord.filter _
    refine hV.imp_of_mem ?_
    intro a b ha _ hab
    have : a.kind = .vertex := by simpa [V] using (List.mem_filter.mp ha).2
    exact hab.2 this
  have hsub : ∀ a ∈ (indexFrom 0 path).filter (fun kp => decide (SI r kp.2)), a ∈ V.map (fun e => (e.k, e.pt)) := by
    intro a ha
    obtain ⟨hm, hs⟩ := List.mem_filter.mp ha
    obtain ⟨k, q⟩ := a
    have hq := (mem_indexFrom 0 path k q hm).2.2
    rw [Nat.sub_zero] at hq
    have hsi : SI r q := by simpa using hs
    exact List.mem_map.mpr ⟨⟨k, q, .vertex⟩, List.mem_filter.mpr ⟨hkept k q hq hsi, by simp⟩, rfl⟩
  have hsl := sublist_of_sorted_subset (fun kp : Nat × Pt => kp.1) _ _ hI hK hsub
  have := List.Sublist.map (fun kp : Nat × Pt => kp.2) hsl
  rw [indexFrom_filter_snd (fun q => decide (SI r q)) 0 path] at this
  simpa [List.map_map, Function.comp_def] using this

theorem crossZeroExact_of_signExact {A : Arith} (hA : SignExact A) : CrossZeroExact A :=
  fun a b c _ => (hA a b c).1

/-- `e` is a rectangle corner, or the point a successful `GetIntersection` call (in either direction) reported for the
segment ending in `path[e.k]` -/
def CornerOrCrossing (A : Arith) (r : Rect) (path : Path) (e : AEmit) : Prop :=
  e.pt ∈ r.asPath ∨
  ∃ cur prv loc, path[e.k]? = some cur ∧ prevPt path e.k = some prv ∧
    (((getIntersection A r cur prv loc ⟨0, 0⟩).1 = true ∧ (getIntersection A r cur prv loc ⟨0, 0⟩).2.2 = e.pt) ∨
     ((getIntersection A r prv cur loc ⟨0, 0⟩).1 = true ∧ (getIntersection A r prv cur loc ⟨0, 0⟩).2.2 = e.pt))

/-- `e` is the input vertex `path[e.k]`, lying in the closed rectangle, or a corner, or a crossing -/
def VertexCornerOrCrossing (A : Arith) (r : Rect) (path : Path) (e : AEmit) : Prop :=
  (e.kind = .vertex ∧ path[e.k]? = some e.pt ∧ inRect r e.pt = true) ∨ CornerOrCrossing A r path e

theorem agood_not_lost {A : Arith} {r : Rect} {path : Path} {e : AEmit} (hg : AGood A r path e)
    (hl : e.kind ≠ .thru1 false) : VertexCornerOrCrossing A r path e := by
  unfold AGood at hg
  split at hg
  · rename_i hk; exact Or.inl ⟨hk, hg⟩
  · exact Or.inr (Or.inl hg)
  · obtain ⟨cur, prv, loc, hc, hp, h1, h2⟩ := hg
    exact Or.inr (Or.inr ⟨cur, prv, loc, hc, hp, Or.inl ⟨h1, h2⟩⟩)
  · rename_i f hk
    obtain ⟨cur, prv, loc, hc, hp, h1, h2⟩ := hg
    cases f with
    | false => exact absurd hk hl
    | true => exact Or.inr (Or.inr ⟨cur, prv, loc, hc, hp, Or.inr ⟨h1, h2⟩⟩)

end Clipper.Lemmas.RCC

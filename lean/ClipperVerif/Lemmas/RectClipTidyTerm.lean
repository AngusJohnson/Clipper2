/-
Termination of the collinear-removal loops of `CheckEdges` and `GetPath` and of the classification loop of `CheckEdges` (the fuel
they get suffices), with explicit measures; then what a whole `CheckEdges`, a whole `GetPath` and the loop over `results_` do
(`checkEdges_run`, `getPath_run`, `getPaths_run`).
View of the state: the ring written from `op2`, `op2 :: T ++ X`, where `T` are the nodes still to come before the round closes at
`op`: `X` begins with `op`, or is empty when `op2 = op`.  Measure: `n (n + 1) + |T|` with `n` the number of nodes of the ring:
advancing shortens `T`; a removal shortens the ring, and then `op` and `op2` may be anywhere in it (`|T| ≤ n - 1`).
Core Lean only.
-/
import ClipperVerif.Lemmas.RectClipTidyPath
namespace Clipper.Lemmas.RCT
open Clipper Clipper.Model.RC Clipper.Model.RCT
open Clipper.Model.HorzJoins (nodup_length_le)

/-- the fuel bound of the collinear loops -/
def phi (n t : Nat) : Nat := n * (n + 1) + t

theorem phi_lt_collFuel (h : Heap) (n t : Nat) (hn : n ≤ h.n) (ht : t ≤ n) : phi n t < collFuel h := by
  unfold phi collFuel
  have h1 : n * (n + 1) ≤ h.n * (h.n + 1) := Nat.mul_le_mul hn (by omega)
  have h2 : (h.n + 1) * (h.n + 2) = h.n * (h.n + 1) + 2 * (h.n + 1) := by
    rw [Nat.mul_comm, Nat.add_mul (h.n) 2, Nat.mul_comm 2]
  omega

/-- advancing within a round -/
theorem phi_advance {n t t' fuel : Nat} (ht : t' < t) (hf : phi n t < fuel + 1) : phi n t' < fuel := by
  unfold phi at hf ⊢; omega

/-- a removal: the ring shrinks by one and a new round may start -/
theorem phi_remove {n n' t t' fuel : Nat} (hn : n' + 1 = n) (ht : t' ≤ n') (hf : phi n t < fuel + 1) : phi n' t' < fuel := by
  subst hn; unfold phi at hf ⊢
  have : (n' + 1) * (n' + 1 + 1) = n' * (n' + 1) + 2 * (n' + 1) := by
    rw [Nat.mul_comm, Nat.add_mul n' 2, Nat.mul_comm 2]
  omega

/-- the view of the state after advancing to the next node `t`, and its measure -/
theorem view_advance {nx pv : Nat → Nat} {op op2 t fuel : Nat} {T X : List Nat} (hc : Cyc nx pv (op2 :: (t :: T) ++ X))
    (hnd : (op2 :: (t :: T) ++ X).Nodup) (hop : (X ++ [op2]).headD op2 = op)
    (hf : phi ((t :: T).length + X.length + 1) (t :: T).length < fuel + 1) :
    Cyc nx pv (t :: T ++ (X ++ [op2])) ∧ (t :: T ++ (X ++ [op2])).Nodup ∧ ((X ++ [op2]) ++ [t]).headD t = op ∧
      phi (T.length + (X ++ [op2]).length + 1) T.length < fuel := by
  have e : t :: T ++ (X ++ [op2]) = (t :: T ++ X) ++ [op2] := by simp
  refine ⟨?_, ?_, ?_, ?_⟩
  · rw [e]; exact cyc_rotate [op2] _ hc
  · rw [e]; exact (List.perm_append_comm (l₁ := [op2])).nodup_iff.mp hnd
  · cases X <;> exact hop
  · -- the ring keeps its length, `T` has lost its head
    rw [List.length_append, List.length_singleton]
    rw [List.length_cons, show T.length + 1 + X.length + 1 = T.length + (X.length + 1) + 1 by omega] at hf
    exact phi_advance (Nat.lt_succ_self _) hf

/-- the view of the state after `op2` has been unlinked: the rest of the ring, with both neighbours of `op2` in it -/
theorem view_unlink {h : Heap} {op2 : Nat} {R : List Nat} (hc : Cyc h.next h.prev (op2 :: R)) (hnd : (op2 :: R).Nodup)
    (hself : h.next op2 ≠ op2) :
    Cyc (h.unlink op2).next (h.unlink op2).prev R ∧ h.prev op2 ∈ R ∧ h.next op2 ∈ R := by
  have hR : R ≠ [] := fun e => hself (by rw [cyc_head_next hc, e]; rfl)
  rw [unlink_eq]
  exact unlink_lists [] op2 R hnd hc hR

/-- the view of the state `(op', q)` of two different nodes of a ring -/
theorem view_of_mem {nx pv : Nat → Nat} {c : List Nat} {op' q : Nat} (hc : Cyc nx pv c) (hnd : c.Nodup) (hq : q ∈ c)
    (ho : op' ∈ c) (hne : q ≠ op') :
    ∃ T D, Cyc nx pv (q :: T ++ op' :: D) ∧ (q :: T ++ op' :: D).Nodup ∧ T.length + (op' :: D).length + 1 = c.length := by
  obtain ⟨W, hW, hp⟩ := cyc_rotate_first hc hq
  have hoW : op' ∈ W := by
    rcases List.mem_cons.mp (hp.mem_iff.mpr ho) with e | m
    · exact absurd e.symm hne
    · exact m
  obtain ⟨T, D, rfl⟩ := List.append_of_mem hoW
  exact ⟨T, D, hW, hp.nodup_iff.mpr hnd, by rw [← hp.length_eq]; simp only [List.length_cons, List.length_append]⟩

/-- **The collinear pass of `CheckEdges` terminates** within `phi n |T|` further iterations from the state `op2 :: T ++ X` (at
the entry, `op2 = op` and `|T| = n - 1`). -/
theorem collinearLoop_fuel : ∀ (fuel : Nat) (h : Heap) (op op2 : Nat) (T X : List Nat),
    Cyc h.next h.prev (op2 :: T ++ X) → (op2 :: T ++ X).Nodup → (X ++ [op2]).headD op2 = op →
    phi (T.length + X.length + 1) T.length < fuel → ∃ res, collinearLoop fuel h op op2 = .ok res
  | 0, _, _, _, _, _, _, _, _, hf => absurd hf (Nat.not_lt_zero _)
  | fuel + 1, h, op, op2, T, X, hc, hnd, hop, hf => by
    have hnext : h.next op2 = (T ++ X).headD op2 := cyc_head_next hc
    rw [collinearLoop_succ]
    by_cases hcoll : h.collinearAt op2 = true
    · rw [if_pos hcoll]
      by_cases hself : h.next op2 = op2
      · rw [if_pos hself]; exact ⟨_, rfl⟩
      rw [if_neg hself]
      obtain ⟨hc', mp, -⟩ := view_unlink (R := T ++ X) hc hnd hself
      have hnd' : (T ++ X).Nodup := (List.nodup_cons.mp hnd).2
      -- the node `op` continues with is in the ring
      have ho : (if op2 = op then (h.unlink op2).prev (h.prev op2) else op) ∈ T ++ X := by
        split
        · exact (cyc_prev_mem hc' mp).1
        · rename_i hne2
          cases X with
          | nil => exact absurd hop hne2
          | cons a D => rw [show a = op from hop]; simp
      dsimp only
      generalize (if op2 = op then (h.unlink op2).prev (h.prev op2) else op) = op' at ho ⊢
      by_cases hq : h.prev op2 ≠ op'
      · rw [if_pos hq]
        obtain ⟨T', D', hW, hndW, hlen⟩ := view_of_mem hc' hnd' mp ho hq
        rw [List.length_append] at hlen
        exact collinearLoop_fuel fuel (h.unlink op2) op' (h.prev op2) T' (op' :: D') hW hndW rfl (phi_remove (by omega) (by omega) hf)
      · rw [if_neg hq]; exact ⟨_, rfl⟩
    · rw [if_neg hcoll]
      by_cases hn : h.next op2 ≠ op
      · rw [if_pos hn]
        cases T with
        | nil => exact absurd (by rw [hnext, ← hop, headD_snoc]; rfl) hn
        | cons t T' =>
          rw [show h.next op2 = t from hnext]
          obtain ⟨v1, v2, v3, v4⟩ := view_advance hc hnd hop hf
          exact collinearLoop_fuel fuel h op t T' (X ++ [op2]) v1 v2 v3 v4
      · rw [if_neg hn]; exact ⟨_, rfl⟩

/-- **The collinear pass of `GetPath` terminates** within `phi n |T|` iterations from the state `op2 :: T ++ X`. -/
theorem getPathLoop_fuel : ∀ (fuel : Nat) (h : Heap) (op op2 : Nat) (T X : List Nat),
    Cyc h.next h.prev (op2 :: T ++ X) → (op2 :: T ++ X).Nodup → (X ++ [op2]).headD op2 = op →
    phi (T.length + X.length + 1) T.length < fuel → ∃ res, getPathLoop fuel h op op2 = .ok res
  | 0, _, _, _, _, _, _, _, _, hf => absurd hf (Nat.not_lt_zero _)
  | fuel + 1, h, op, op2, T, X, hc, hnd, hop, hf => by
    have hnext : h.next op2 = (T ++ X).headD op2 := cyc_head_next hc
    -- a state with `op2 = op` ends the loop in the next iteration
    have base : ∀ (h' : Heap) (o : Nat), ∃ res, getPathLoop fuel h' o o = .ok res := by
      intro h' o
      have : 0 < phi (T.length + X.length + 1) T.length := Nat.add_pos_left (Nat.mul_pos (Nat.succ_pos _) (Nat.succ_pos _)) _
      obtain ⟨f, rfl⟩ : ∃ f, fuel = f + 1 := ⟨fuel - 1, by omega⟩
      exact ⟨(h', some o), by rw [getPathLoop_succ, if_neg (by simp)]⟩
    rw [getPathLoop_succ]
    by_cases hne : op2 ≠ op
    · rw [if_pos hne]
      by_cases hcoll : h.collinearAt op2 = true
      · rw [if_pos hcoll]
        by_cases hself : h.next op2 = op2
        · rw [if_pos hself]; exact ⟨_, rfl⟩
        rw [if_neg hself]
        obtain ⟨hc', mp, mn⟩ := view_unlink (R := T ++ X) hc hnd hself
        by_cases hq : h.next op2 = h.prev op2
        · rw [hq]; exact base _ _
        · obtain ⟨T', D', hW, hndW, hlen⟩ := view_of_mem hc' (List.nodup_cons.mp hnd).2 mn mp hq
          rw [List.length_append] at hlen
          exact getPathLoop_fuel fuel (h.unlink op2) (h.prev op2) (h.next op2) T' (h.prev op2 :: D') hW hndW rfl
            (phi_remove (by omega) (by omega) hf)
      · rw [if_neg hcoll]
        cases T with
        | nil =>
          rw [show h.next op2 = op by rw [hnext, ← hop, headD_snoc]; rfl]; exact base _ _
        | cons t T' =>
          rw [show h.next op2 = t from hnext]
          obtain ⟨v1, v2, v3, v4⟩ := view_advance hc hnd hop hf
          exact getPathLoop_fuel fuel h op t T' (X ++ [op2]) v1 v2 v3 v4
    · rw [if_neg hne]; exact ⟨_, rfl⟩

/-- **The classification loop of `CheckEdges`** walks the ring once (`op2 :: S`, back to `op`), touches only `edges_` / `op->edge`,
and enters only nodes it passes into edge lists -/
theorem edgeLoop_run (r : Rect) (op : Nat) : ∀ (S : List Nat) (fuel : Nat) (h : Heap) (es : UInt64) (op2 : Nat),
    Linked h.next h.prev (op2 :: S ++ [op]) → op ∉ S → S.length < fuel →
    ∃ h', edgeLoop r op fuel h es op2 = .ok h' ∧ SameRings h h' ∧
      ∀ e k, some k ∈ h'.edges e → some k ∈ h.edges e ∨ k ∈ op2 :: S
  | S, 0, _, _, _, _, _, hf => absurd hf (Nat.not_lt_zero _)
  | S, fuel + 1, h, es, op2, hl, hop, hf => by
    unfold edgeLoop
    simp only
    -- `h1` is the heap after the classification of `op2`
    have key : ∀ h1 : Heap, SameRings h h1 → (∀ e k, some k ∈ h1.edges e → some k ∈ h.edges e ∨ k = op2) →
        ∃ h', (if h1.next op2 ≠ op then edgeLoop r op fuel h1 (edgesForPt r (h.pt op2)) (h1.next op2) else .ok h1) = .ok h' ∧
          SameRings h h' ∧ ∀ e k, some k ∈ h'.edges e → some k ∈ h.edges e ∨ k ∈ op2 :: S := by
      intro h1 sr es1
      have sub1 : ∀ e k, some k ∈ h1.edges e → some k ∈ h.edges e ∨ k ∈ op2 :: S := fun e k hk =>
        (es1 e k hk).imp_right fun m => by rw [m]; exact List.mem_cons_self
      have hl1 : Linked h1.next h1.prev (op2 :: S ++ [op]) := by rw [sr.2.2.1, sr.2.2.2.1]; exact hl
      cases S with
      | nil => rw [if_neg (fun hne => hne hl1.1)]; exact ⟨h1, rfl, sr, sub1⟩
      | cons s S' =>
        have hs : s ≠ op := fun e => hop (e ▸ List.mem_cons_self)
        rw [show h1.next op2 = s from hl1.1, if_pos hs]
        obtain ⟨h', e, sr', sub'⟩ := edgeLoop_run r op S' fuel h1 (edgesForPt r (h.pt op2)) s (linked_tail hl1)
          (fun m => hop (List.mem_cons_of_mem _ m)) (by simp only [List.length_cons] at hf; omega)
        exact ⟨h', e, sr.trans sr', fun e' k hk => (sub' e' k hk).elim (sub1 e' k) fun m => Or.inr (List.mem_cons_of_mem _ m)⟩
    split
    · have := classify_spec op2 (es &&& edgesForPt r (h.pt op2)) [0, 1, 2, 3] h
      exact key _ this.1 this.2
    · exact key h (SameRings.refl _) (fun _ _ hk => Or.inl hk)

/-- a ring written from one of its nodes: a cycle without repetition that fits into `op_container_` -/
theorem RingsWF.rotate {h : Heap} {ring : Nat → List Nat} (w : RingsWF h ring) {s k : Nat} (hk : k ∈ ring s) :
    ∃ W, Cyc h.next h.prev (k :: W) ∧ (k :: W).Nodup ∧ (k :: W).Perm (ring s) ∧ W.length < h.n := by
  obtain ⟨W, hW, hp⟩ := cyc_rotate_first (w.cyc s (List.ne_nil_of_mem hk)) hk
  have hnd : (k :: W).Nodup := hp.nodup_iff.mpr (w.nodup s)
  exact ⟨W, hW, hnd, hp, nodup_length_le h.n _ hnd (fun x hx => w.lt s x (hp.mem_iff.mp hx))⟩

/-- the collinear pass of `CheckEdges` on the ring of slot `i` returns -/
theorem collinear_run {h : Heap} {ring : Nat → List Nat} (w : RingsWF h ring) {i op : Nat} (hr : h.results[i]? = some (some op)) :
    ∃ h1 op1 rr, collinearLoop (collFuel h) h op op = .ok (h1, op1, rr) ∧ CollFrame h h1 ∧
      CollOut h1 i ring op1 (∀ x ∈ ring i, h.collinearAt x = false) rr := by
  have hop := w.slot_some i op hr
  obtain ⟨W, hW, hnd, -, hlen⟩ := w.rotate hop
  obtain ⟨⟨h1, op1, rr⟩, hres⟩ := collinearLoop_fuel (collFuel h) h op op W [] (by rw [List.append_nil]; exact hW)
    (by rw [List.append_nil]; exact hnd) rfl (phi_lt_collFuel h _ _ (by simp only [List.length_nil]; omega) (by omega))
  exact ⟨h1, op1, rr, hres, collinearLoop_wf i _ h op op ring (by rw [withSlot_self h i _ hr]; exact w)
    (List.getElem?_eq_some_iff.mp hr).1 hop h1 op1 rr hres⟩

/-- **`CheckEdges()` on the heap `ExecuteInternal` leaves** (well-formed, at most one slot) returns, and what it does: nothing
if there is no ring; else the collinear pass leaves a heap `h1` that differs only in the links, and either the ring has vanished
or a subsequence `L` of it is left, which the classification pass walks once. -/
theorem checkEdges_run (r : Rect) (h : Heap) (ring : Nat → List Nat) (w : RingsWF h ring) (hlen : h.results.length ≤ 1) :
    ∃ h', checkEdges r h = .ok h' ∧
      ((ring 0 = [] ∧ h' = h) ∨ ∃ h1, CollFrame h h1 ∧
        ((RingsWF (withSlot h1 0 none) (upd ring 0 []) ∧ (¬ ∀ x ∈ ring 0, h.collinearAt x = false) ∧ h' = withSlot h1 0 none) ∨
          ∃ op1 L, L.Sublist (ring 0) ∧ op1 ∈ L ∧ RingsWF (withSlot h1 0 (some op1)) (upd ring 0 L) ∧
            ((∀ x ∈ ring 0, h.collinearAt x = false) → L = ring 0) ∧
            edgeLoop r op1 (h1.n + 1) (withSlot h1 0 (some op1)) (edgesForPt r (h1.pt (h1.prev op1))) op1 = .ok h' ∧
            SameRings (withSlot h1 0 (some op1)) h' ∧ ∀ e k, some k ∈ h'.edges e → some k ∈ h1.edges e ∨ k ∈ L)) := by
  unfold checkEdges
  rcases Nat.lt_or_ge h.results.length 1 with h0 | h1
  · rw [show h.results.length = 0 by omega]
    exact ⟨h, rfl, Or.inl ⟨w.slot_none 0 fun k hk => (by rw [List.getElem?_eq_none (by omega)] at hk; cases hk), rfl⟩⟩
  · rw [show h.results.length = 1 by omega]
    simp only [checkRings, checkRing]
    cases hr : h.results[0]? with
    | none => exact absurd (List.getElem?_eq_none_iff.mp hr) (by omega)
    | some v =>
      cases v with
      | none => exact ⟨h, rfl, Or.inl ⟨w.slot_none 0 fun k hk => (by rw [hr] at hk; cases hk), rfl⟩⟩
      | some op =>
        obtain ⟨h1, op1, rr, hres, fr, out⟩ := collinear_run w hr
        have h01 : 0 < h1.results.length := by rw [fr.results]; omega
        simp only [hres]
        cases rr with
        | none =>
          simp only [setResult_ok h1 0 none h01]
          exact ⟨_, rfl, Or.inr ⟨h1, fr, Or.inl ⟨out.1, out.2, rfl⟩⟩⟩
        | some z =>
          simp only [setResult_ok h1 0 (some op1) h01]
          obtain ⟨L, hL, hm, wL, hnc⟩ := out
          obtain ⟨W, hW, hnd, hp, hlenW⟩ := wL.rotate (s := 0) (by rw [upd_same]; exact hm)
          obtain ⟨h', e, sr, sub⟩ := edgeLoop_run r op1 W ((withSlot h1 0 (some op1)).n + 1) (withSlot h1 0 (some op1))
            (edgesForPt r ((withSlot h1 0 (some op1)).pt ((withSlot h1 0 (some op1)).prev op1))) op1 hW
            (List.nodup_cons.mp hnd).1 (Nat.lt_succ_of_lt hlenW)
          refine ⟨h', by rw [e], Or.inr ⟨h1, fr, Or.inr ⟨op1, L, hL, hm, wL, hnc, e, sr, fun e' k hk => (sub e' k hk).imp_right fun m => ?_⟩⟩⟩
          have := hp.mem_iff.mp m
          rwa [upd_same] at this

/-- what `GetPath` does not touch -/
def PathFrame (h h2 : Heap) : Prop :=
  h2.n = h.n ∧ h2.pt = h.pt ∧ h2.owner = h.owner ∧ h2.edge = h.edge ∧ h2.edges = h.edges ∧
    h2.results.length = h.results.length

/-- **`GetPath(results_[i])`** on a well-formed heap returns; the heap stays well-formed with the ring of slot `i` replaced by a
subsequence `L` of it, and the path is empty or consists of the points of `L`, in ring order, starting at some node `o` of `L`. -/
theorem getPath_run (h : Heap) (i : Nat) (ring : Nat → List Nat) (w : RingsWF h ring) (hi : i < h.results.length) :
    ∃ p h2, getPath h i = .ok (p, h2) ∧ PathFrame h h2 ∧ ∃ L, L.Sublist (ring i) ∧ RingsWF h2 (upd ring i L) ∧
      (p = [] ∨ ∃ X o Y, L = X ++ o :: Y ∧ p = (o :: (Y ++ X)).map h.pt) := by
  unfold getPath
  have same : ∃ p h2, (Except.ok (([] : Path), h) : Except TFault (Path × Heap)) = .ok (p, h2) ∧ PathFrame h h2 ∧
      ∃ L, L.Sublist (ring i) ∧ RingsWF h2 (upd ring i L) ∧ (p = [] ∨ ∃ X o Y, L = X ++ o :: Y ∧ p = (o :: (Y ++ X)).map h.pt) :=
    ⟨[], h, rfl, ⟨rfl, rfl, rfl, rfl, rfl, rfl⟩, ring i, List.Sublist.refl _, by rw [upd_self_eq]; exact w, Or.inl rfl⟩
  cases hr : h.results[i]? with
  | none => exact absurd (List.getElem?_eq_none_iff.mp hr) (by omega)
  | some v =>
    cases v with
    | none => exact same
    | some op =>
      simp only
      split
      · exact same
      · rename_i hnp
        have hop : op ∈ ring i := w.slot_some i op hr
        -- the collinear pass, started at `next op`
        obtain ⟨W, hW, hnd, -, hlen⟩ := w.rotate hop
        cases W with
        | nil =>
          have hl : Linked h.next h.prev [op, op] := hW
          exact absurd (hl.1.trans hl.2.1.symm) hnp
        | cons t T =>
          obtain ⟨⟨h1, rr⟩, hres⟩ := getPathLoop_fuel (collFuel h) h op t T [op] (cyc_rotate [op] _ hW)
            ((List.perm_append_comm (l₁ := [op])).nodup_iff.mp hnd) rfl
            (phi_lt_collFuel h _ _ (by simp only [List.length_cons, List.length_nil] at hlen ⊢; omega) (by omega))
          have hq : h.next op = t := cyc_head_next hW
          rw [hq, hres]
          obtain ⟨fr, o, L, rfl, hL, hm, wL⟩ := getPathLoop_wf i (collFuel h) h op t ring (by rw [withSlot_self h i _ hr]; exact w)
            hi (hq ▸ (w.next_mem hop).1) h1 rr hres
          obtain ⟨f1, f2, f3, f4, f5, f6⟩ := fr
          simp only [setResult_ok h1 i (some o) (f6 ▸ hi)]
          -- the copy loop walks the ring once, from `next o` to `o`
          obtain ⟨X, Y, eL⟩ := List.append_of_mem hm
          have cL := wL.cyc i (by rw [upd_same]; exact List.ne_nil_of_mem hm)
          rw [upd_same, eL] at cL
          have cR := cyc_rotate_at cL
          have hperm : (o :: (Y ++ X)).Perm L := by
            rw [eL]; simpa using List.perm_append_comm (l₁ := o :: Y) (l₂ := X)
          have hndR : (o :: (Y ++ X)).Nodup := hperm.nodup_iff.mpr (by have := wL.nodup i; rwa [upd_same] at this)
          have hlenR : (o :: (Y ++ X)).length ≤ h1.n := nodup_length_le h1.n _ hndR fun k hk =>
            wL.lt i k (by rw [upd_same]; exact hperm.mem_iff.mp hk)
          have hl : Linked (withSlot h1 i (some o)).next (withSlot h1 i (some o)).prev (o :: ((Y ++ X) ++ [o])) := cR
          rw [collectLoop_spec (withSlot h1 i (some o)) o (Y ++ X) _ _ (List.nodup_cons.mp hndR).1 (linked_tail hl)
            (linked_head_next hl) (by simp only [List.length_cons] at hlenR; show (Y ++ X).length < h1.n + 1; omega)]
          refine ⟨_, _, rfl, ⟨f1, f2, f3, f4, f5, by simp [withSlot, f6]⟩, L, hL, wL, Or.inr ⟨X, o, Y, eL, ?_⟩⟩
          show h1.pt o :: List.map h1.pt (Y ++ X) = _
          rw [f2]; rfl

/-- `p` is empty or the points of a subsequence of `c`, rotated -/
def PathOf (pt : Nat → Pt) (c : List Nat) (p : Path) : Prop :=
  p = [] ∨ ∃ L X o Y, L.Sublist c ∧ L = X ++ o :: Y ∧ p = (o :: (Y ++ X)).map pt

/-- **The loop over `results_`**: one `GetPath` per slot, in slot order, each on its own ring; empty paths are dropped. -/
theorem getPaths_run : ∀ (k i : Nat) (h : Heap) (ring : Nat → List Nat), RingsWF h ring → i + k ≤ h.results.length →
    ∃ ps h2, getPaths k i h = .ok (ps, h2) ∧ h2.n = h.n ∧ h2.pt = h.pt ∧
      ∃ g : Nat → Path, (∀ s, PathOf h.pt (ring s) (g s)) ∧ ps = ((List.range' i k).map g).filter (fun p => !p.isEmpty)
  | 0, i, h, ring, _, _ => ⟨[], h, rfl, rfl, rfl, fun _ => [], fun _ => Or.inl rfl, by simp⟩
  | k + 1, i, h, ring, w, hk => by
    obtain ⟨p, h1, hg, ⟨f1, f2, _, _, _, f6⟩, L, hL, wL, hp⟩ := getPath_run h i ring w (by omega)
    obtain ⟨ps', h2, hr, e1, e2, g, hg', eps⟩ := getPaths_run k (i + 1) h1 (upd ring i L) wL (by rw [f6]; omega)
    refine ⟨if p.isEmpty then ps' else p :: ps', h2, by simp only [Model.RCT.getPaths, hg, hr], by rw [e1, f1], by rw [e2, f2], fun s => if s = i then p else g s,
      fun s => ?_, ?_⟩
    · show PathOf h.pt (ring s) (if s = i then p else g s)
      by_cases hs : s = i
      · subst hs
        rw [if_pos rfl]
        exact hp.imp_right fun ⟨X, o, Y, eL, ep⟩ => ⟨L, X, o, Y, hL, eL, ep⟩
      · rw [if_neg hs]
        have := hg' s
        rwa [upd_ne _ _ hs, f2] at this
    · rw [List.range'_succ]
      have hmap : (List.range' (i + 1) k).map (fun s => if s = i then p else g s) = (List.range' (i + 1) k).map g :=
        List.map_congr_left fun s hs => if_neg (by have := List.mem_range'.mp hs; omega)
      simp only [List.map_cons, if_true, List.filter_cons]
      rw [hmap, ← eps]
      cases p <;> simp

end Clipper.Lemmas.RCT

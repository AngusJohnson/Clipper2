/-
C09 `lines_cover`: the loop analysis.  By induction on the fuel, every state the main loop of
`RectClipLines64::ExecuteInternal` (model `loop`) can be in produces exactly the `Add` calls described by `Tail`; then
from the loop to the whole of `ExecuteInternal` (model `emits`), including the special treatment of a first vertex on
the rectangle boundary.  Core Lean only.
-/
import ClipperVerif.Lemmas.RectLinesCover
namespace Clipper.Lemmas.RLV
open Clipper Clipper.Model.RC Clipper.Lemmas.RC Clipper.Lemmas.RCE Clipper.Lemmas.RCA Clipper.Lemmas.RCC Clipper.Lemmas.RLC
open Clipper.Lemmas.RLG

/-- What the loop entered with index `i` and location `loc` produces, seen from a vertex `s` in the closed half-plane
of `loc` (for `Inside`: in the closed rectangle) that is the vertex before `i` or — right after a crossing, when the
index has not moved — `i` itself: that vertex if it is `i` and the state is inside, then the `Tail` from the segment
after `s`, in the state of `loc`. -/
def LoopSpec (A : Arith) (r : Rect) (path : Path) (fuel : Nat) : Prop :=
  ∀ i loc es s v, 1 ≤ i → loop A r path fuel i loc = some es → path[s]? = some v → Ready r loc v →
    (s + 1 = i ∨ s = i) →
    ∃ es', es = (if loc = .inside ∧ s = i then [V i v] else []) ++ es' ∧
      Tail A r (s + 1) (decide (loc = .inside)) (path.drop s) es'

theorem inRect_false_of_outsideLoc {r : Rect} {q : Pt} {l : Location} (h : outsideLoc r q = some l) :
    inRect r q = false := by
  cases hi : inRect r q
  · rfl
  · rw [(outsideLoc_none_iff r q).mpr hi] at h; cases h

/-- **The segment `j-1 → j` at which a `GetNextLocation` scan stops**, vertex `j-1` being in the closed half-plane
of `loc`: the rest of the run, after the vertices added during the scan, is a `Tail` from that segment. -/
theorem iteration {A : Arith} (hA : SignExact A) (ht : IsectTotal A) {r : Rect} (hw : r.left < r.right)
    (hh : r.top < r.bottom) {path : Path} {fuel : Nat} (IH : LoopSpec A r path fuel) {i : Nat} (hi : 1 ≤ i)
    (hin : i < path.length) {loc : Location} {es : List Emit} (hb : loop A r path (fuel + 1) i loc = some es)
    {L' : Location} {j : Nat} {adds : List (Nat × Pt)} (hgg : getNextLocation r path loc i = (L', j, adds))
    (hprev : ∀ pj, path[j - 1]? = some pj → Ready r loc pj) :
    ∃ e', es = vertexEmits adds ++ e' ∧ Tail A r j (decide (loc = .inside)) (path.drop (j - 1)) e' := by
  have g := gnl_spec r path loc i
  rw [hgg] at g
  have hge : i ≤ j := g.ge
  have hle : j ≤ path.length := g.le (Nat.le_of_lt hin)
  by_cases hj : j < path.length
  · obtain ⟨cur, hc⟩ : ∃ cur, path[j]? = some cur := ⟨_, List.getElem?_eq_getElem hj⟩
    obtain ⟨prv, hp⟩ : ∃ prv, path[j - 1]? = some prv := ⟨_, List.getElem?_eq_getElem (by omega)⟩
    have hrp := hprev prv hp
    have hrc : Ready r L' cur := g.ready cur hc
    have hstop : ¬ Ready r loc cur := gnl_stop r path loc i cur (by rw [hgg]; exact hc)
    rw [loop_next A fuel hin hgg hc hp] at hb
    rw [drop_cons2 (by omega) hp hc]
    -- whether or not a crossing is found, the loop goes on in a state for which `j` is the vertex `s` of `LoopSpec`
    have next : ∀ {i' es2}, loop A r path fuel i' L' = some es2 → (j + 1 = i' ∨ j = i') →
        ∃ es', es2 = (if L' = .inside ∧ j = i' then [V i' cur] else []) ++ es' ∧
          Tail A r (j + 1) (decide (L' = .inside)) (cur :: path.drop (j + 1)) es' := fun {i' es2} h2 hi' => by
      rw [← drop_cons1 hc]; exact IH i' L' es2 j cur (by omega) h2 hc hrc hi'
    -- it suffices to name the contribution of the segment
    suffices h : ∃ e1 es', es = vertexEmits adds ++ (e1 ++ es') ∧
        clsNext r (decide (loc = .inside)) cur = decide (L' = .inside) ∧
        SegPart A r j prv cur (decide (loc = .inside)) (decide (L' = .inside)) e1 ∧
        Tail A r (j + 1) (decide (L' = .inside)) (cur :: path.drop (j + 1)) es' by
      obtain ⟨e1, es', rfl, hcls, h1, h2⟩ := h
      exact ⟨e1 ++ es', rfl, tail_cons A r j _ prv cur _ e1 es' (by rw [hcls]; exact h1) (by rw [hcls]; exact h2)⟩
    by_cases hl : loc = .inside
    · -- leaving the rectangle: the crossing is always found
      subst hl
      obtain ⟨hli, ho⟩ : L' ≠ .inside ∧ outsideLoc r cur = some L' := by
        have := gnl_from_inside r path i cur (by rw [hgg]; exact hc); rwa [hgg] at this
      have hx := exit_found hA ht hw hh ho ((outsideLoc_none_iff r prv).mp hrp) ⟨0, 0⟩
      rw [if_pos hx, if_neg hli, if_neg (by simp)] at hb
      obtain ⟨es2, h2, rfl⟩ := map_append_some hb
      obtain ⟨es', rfl, ht'⟩ := next h2 (Or.inr rfl)
      rw [if_neg (fun h => hli h.1), decide_eq_false hli] at *
      exact ⟨_, es', by simp, clsNext_notin true (inRect_false_of_outsideLoc ho), ⟨L', ho, hx, rfl⟩, ht'⟩
    · rw [decide_eq_false hl]
      by_cases hli : L' = .inside
      · -- entering it: `cur` is strictly inside, and the crossing is always found
        subst hli
        have hs : SI r cur := gnl_inside_strict r path loc i cur hl (by rw [hgg]; exact hc) (by rw [hgg])
        have hx := getIntersection_from_inside hA ht hs (ready_nsi hrp hl) ⟨0, 0⟩
        rw [if_pos hx, if_pos rfl] at hb
        obtain ⟨es2, h2, rfl⟩ := map_append_some hb
        obtain ⟨es', rfl, ht'⟩ := next h2 (Or.inr rfl)
        exact ⟨_, es', by simp, clsNext_sin false hs, ⟨hx, rfl⟩, ht'⟩
      · have hcls := clsNext_out_false (ready_nsi hrc hli)
        rw [decide_eq_false hli] at *
        by_cases hx : (getIntersection A r cur prv L' ⟨0, 0⟩).1 = true
        · -- passing right through
          rw [if_pos hx, if_neg hli, if_pos hl] at hb
          obtain ⟨es2, h2, rfl⟩ := map_append_some hb
          obtain ⟨es', rfl, ht'⟩ := next h2 (Or.inr rfl)
          rw [if_neg (fun h => hli h.1)] at *
          exact ⟨_, es', by simp, hcls, Or.inr ⟨L', loc, hli, hrc, hx, hl, hrp, hstop, rfl⟩, ht'⟩
        · -- remaining outside
          rw [if_neg hx] at hb
          obtain ⟨es2, h2, rfl⟩ := map_append_some hb
          obtain ⟨es', rfl, ht'⟩ := next h2 (Or.inl rfl)
          rw [if_neg (fun h => hli h.1)] at *
          exact ⟨[], es', by simp, hcls, Or.inl ⟨rfl, Or.inr ⟨L', hli, hrc, by simpa using hx⟩⟩, ht'⟩
  · rw [loop_done A fuel hin hgg hj] at hb
    cases hb
    exact ⟨[], (List.append_nil _).symm, (tailP_short (by rw [List.length_drop]; omega)).mpr rfl⟩

theorem loop_cover {A : Arith} (hA : SignExact A) (ht : IsectTotal A) {r : Rect} (hw : r.left < r.right)
    (hh : r.top < r.bottom) (path : Path) : ∀ fuel, LoopSpec A r path fuel := by
  intro fuel
  induction fuel with
  | zero => intro i loc es s v _ h; cases h
  | succ fuel IH =>
    intro i loc es s v hi h hv hr hs
    have hsl := getElem?_lt hv
    by_cases hin : i < path.length
    · cases hgg : getNextLocation r path loc i with
      | mk L' ja =>
      obtain ⟨j, adds⟩ := ja
      have g := gnl_spec r path loc i
      have hem := gnl_emits r path loc i
      rw [hgg] at g hem
      have hge : i ≤ j := g.ge
      have hle : j ≤ path.length := g.le (Nat.le_of_lt hin)
      have hsj : s + 1 ≤ j := by
        rcases hs with hs | hs
        · omega
        · exact hs ▸ g.adv v (hs ▸ hv) hr
      -- the scan: the vertices from `s` up to `j - 1` lie in the closed half-plane of `loc`
      have hrun : ∀ t q, s ≤ t → t < j → path[t]? = some q → Ready r loc q := by
        intro t q h1 h2 hq
        by_cases hts : t = s
        · rw [hts, hv] at hq; cases hq; exact hr
        · exact gnl_passed r path loc i t q (by omega) (by rw [hgg]; exact h2) hq
      obtain ⟨e', rfl, ht'⟩ := iteration hA ht hw hh IH hi hin h hgg
        (fun pj hpj => hrun (j - 1) pj (by omega) (by omega) hpj)
      have htail := tail_run A r loc (j - (s + 1)) (s + 1) (path.drop s) e'
        (fun t q h1 hq => hrun (s + t) q (by omega) (by omega) (by rwa [List.getElem?_drop] at hq))
        (by rw [List.length_drop]; omega)
        (by rw [List.drop_drop, show s + 1 + (j - (s + 1)) = j by omega, show s + (j - (s + 1)) = j - 1 by omega]
            exact ht')
      refine ⟨_, ?_, htail⟩
      rw [hem, List.drop_drop, ← List.append_assoc]
      congr 1
      by_cases hl : loc = .inside
      · simp only [hl, true_and, if_true]
        rcases hs with hs | hs
        · rw [if_neg (by omega), ← hs]; rfl
        · rw [if_pos hs, ← hs, drop_cons1 hv, show j - s = j - (s + 1) + 1 by omega]; rfl
      · simp only [hl, false_and, if_false, List.append_nil]
    · rw [loop_succ_ge _ _ _ _ _ _ hin] at h
      cases h
      exact ⟨[], by rw [if_neg (by omega)]; rfl, (tailP_short (by rw [List.length_drop]; omega)).mpr rfl⟩

theorem find_skip (c : Pt → Bool) (l : List Pt) : l[(l.takeWhile c).length]? = l.find? (fun q => !c q) := by
  induction l with
  | nil => rfl
  | cons a l ih =>
    rw [List.takeWhile_cons, List.find?_cons]
    cases hc : c a
    · rfl
    · simpa using ih

theorem loc_inside_iff (r : Rect) (q : Pt) : (getLocation r q).2 = .inside ↔ sInB r q = true :=
  (getLocation_snd_inside r q .inside).trans (sInB_iff r q).symm

theorem sInB_false_of_onBd {r : Rect} {p : Pt} (h : onBd r p = true) : sInB r p = false := by
  have hb := (onBd_iff r p).mp h
  cases hs : sInB r p
  · rfl
  · have := (sInB_iff r p).mp hs
    unfold SI at this
    unfold OnBoundary at hb
    omega

theorem ready_of_onBd {r : Rect} {p : Pt} (hne : r.isEmpty = false) (h : onBd r p = true) : Ready r .inside p :=
  (outsideLoc_none_iff r p).mpr (onBoundary_inRect ((onBd_iff r p).mp h) hne)

/-- **The run of `ExecuteInternal` on a polyline of at least two vertices is exactly the one `Cover` describes.** -/
theorem emits_cover {A : Arith} (hA : SignExact A) (ht : IsectTotal A) {r : Rect} (hw : r.left < r.right)
    (hh : r.top < r.bottom) (path : Path) (hlen : 2 ≤ path.length) :
    ∃ es, emits A r path = some es ∧ Cover A r path es := by
  have hne : r.isEmpty = false := by
    unfold Rect.isEmpty
    simp only [Bool.or_eq_false_iff, decide_eq_false_iff_not]; omega
  obtain ⟨es, he, _⟩ := emits_spec A r path hne
  refine ⟨es, he, ?_⟩
  have hP := loop_cover hA ht hw hh path (2 * path.length + 2)
  unfold emits at he
  rw [hne] at he
  have hl2 : ¬ path.length < 2 := by omega
  simp only [Bool.false_or, decide_eq_true_eq, hl2, if_false] at he
  match path, hlen, he, hP with
  | p0 :: rest, hlen, he, hP =>
    simp only at he
    show ∃ e2, es = (if cls0 r (p0 :: rest) = true then [V 0 p0] else []) ++ e2 ∧
      Tail A r 1 (cls0 r (p0 :: rest)) (p0 :: rest) e2
    -- the main loop, entered at index 1 with a location whose closed half-plane holds the first vertex and that is
    -- `Inside` exactly if the first vertex is of class in, does the rest
    have fin : ∀ loc, Ready r loc p0 → cls0 r (p0 :: rest) = decide (loc = .inside) →
        (loop A r (p0 :: rest) (2 * (p0 :: rest).length + 2) 1 loc).map
          ((if loc = .inside then [(⟨0, p0, false, .vertex⟩ : Emit)] else []) ++ ·) = some es →
        ∃ e2, es = (if cls0 r (p0 :: rest) = true then [V 0 p0] else []) ++ e2 ∧
          Tail A r 1 (cls0 r (p0 :: rest)) (p0 :: rest) e2 := by
      intro loc hr hc h
      obtain ⟨es2, h2, rfl⟩ := map_append_some h
      obtain ⟨es', rfl, ht'⟩ := hP 1 loc es2 0 p0 (Nat.le_refl 1) h2 rfl hr (Or.inl rfl)
      rw [hc]
      exact ⟨es', by simp [V], ht'⟩
    cases hg : getLocation r p0 with
    | mk notOn loc0 =>
      rw [hg] at he
      have hready : Ready r loc0 p0 := by
        have := getLocation_ready r p0 .inside
        rwa [hg] at this
      cases notOn with
      | true =>
        have hob : onBd r p0 = false := by unfold onBd; rw [hg]; rfl
        refine fin loc0 hready ?_ (by simpa using he)
        have := loc_inside_iff r p0
        rw [hg] at this
        show (sInB r p0 || (onBd r p0 && _)) = _
        rw [hob, Bool.false_and, Bool.or_false, Bool.eq_iff_iff, decide_eq_true_iff]
        exact this.symm
      | false =>
        simp only [Bool.not_false, if_true] at he
        have hob : onBd r p0 = true := by unfold onBd; rw [hg]; rfl
        have hloc0 : loc0 ≠ .inside := fun h => by
          have := (loc_inside_iff r p0).mp (by rw [hg]; exact h)
          rw [sInB_false_of_onBd hob] at this; cases this
        have hcls : cls0 r (p0 :: rest) = match rest.find? (fun q => !onBd r q) with
            | none => true
            | some q => sInB r q := by
          show (sInB r p0 || (onBd r p0 && _)) = _
          rw [sInB_false_of_onBd hob, hob]; rfl
        have hfind : (p0 :: rest)[skipWhile (fun p => !(getLocation r p).1) (p0 :: rest) 1]? =
            rest.find? (fun q => !onBd r q) := by
          unfold skipWhile
          rw [List.drop_succ_cons, List.drop_zero, Nat.add_comm, List.getElem?_cons_succ]
          exact find_skip (fun p => !(getLocation r p).1) rest
        rw [hfind] at he
        cases hq : rest.find? (fun q => !onBd r q) with
        | none =>
          -- every vertex lies on the boundary: all are added
          rw [hq] at he hcls
          cases he
          have hall : ∀ t q, t ≤ rest.length → (p0 :: rest)[t]? = some q → Ready r .inside q := by
            intro t q _ hq'
            refine ready_of_onBd hne ?_
            cases t with
            | zero => cases hq'; exact hob
            | succ t => simpa using List.find?_eq_none.mp hq q (List.mem_of_getElem? hq')
          have := tail_run A r .inside rest.length 1 (p0 :: rest) [] hall (by simp)
            ((tailP_short (by simp)).mpr rfl)
          rw [hcls]
          exact ⟨vertexEmits (indexFrom 1 rest), rfl, by simpa using this⟩
        | some q =>
          rw [hq] at he hcls
          have hin := loc_inside_iff r q
          by_cases hpi : (getLocation r q).2 = .inside
          · refine fin .inside (ready_of_onBd hne hob) ?_ (by simpa [hpi] using he)
            rw [hcls, decide_eq_true rfl]; exact hin.mp hpi
          · refine fin loc0 hready ?_ (by simpa [hpi] using he)
            rw [hcls, decide_eq_false hloc0]
            exact Bool.eq_false_iff.mpr (mt hin.mpr hpi)

end Clipper.Lemmas.RLV

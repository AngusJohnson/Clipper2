/- Which arm of `GetIntersection` answers, for sign-exact arithmetic.  Each side `L` sees the rectangle in its own
coordinates (`SideFrame`: first axis perpendicular to the edge `L`, pointing into the rectangle); in these the three arms
tried for `L` are the near edge, a guarded lateral edge and the other lateral edge.  The integer lemma `third_arm` says
when the last of them is reached, and with it the location a successful call reports consumes the point it was called
from, one configuration (`Special`) apart (`SideFrame.ready`).  Whether the call succeeds at all is the subject of
Lemmas/RectLinesMeet.lean.  Core Lean only. -/
import ClipperVerif.Lemmas.RectClipEnter
namespace Clipper.Lemmas.RCG
open Clipper Clipper.Model.RC Clipper.Lemmas.RC Clipper.Lemmas.RCA Clipper.Lemmas.RCE

/-- **the third arm is reached only in one configuration.**  `A < B` are the signed distances to the near and the far
edge line, `P < Q` the span of these two edges along the second axis (`P` the level of the guarded second arm, `Q` that
of the third arm).  `cur` at or beyond the first edge's line (`0 ≤ A`) and not beyond the third edge's line (`0 < Q`);
if the third arm succeeds then the first arm or the guarded second arm succeeds as well — except when `cur` and `prv`
both lie on the first edge's line, `cur` on the edge and `prv` at or beyond its far end. -/
theorem third_arm (A B P Q dx dy : Int) (hA : 0 ≤ A) (hAB : A < B) (hPQ : P < Q) (hQ : 0 < Q)
    (h3 : HitR Q A B dy dx) :
    HitR A P Q dx dy ∨ (0 < P ∧ HitR P A B dy dx) ∨ (A = 0 ∧ dx = 0 ∧ P ≤ 0 ∧ Q ≤ dy) := by
  have cA := Int.mul_comm A dy; have cB := Int.mul_comm B dy
  have cP := Int.mul_comm dx P; have cQ := Int.mul_comm dx Q
  obtain ⟨_, hb, hc⟩ := h3
  unfold Btw at hb hc
  have k1 : Q ≤ dy := by omega
  have e : dy * A < dy * B := Int.mul_lt_mul_of_pos_left hAB (by omega)
  have hAdx : A ≤ dx := by
    have e1 : A * Q ≤ A * dy := Int.mul_le_mul_of_nonneg_left k1 hA
    exact Int.le_of_mul_le_mul_right (a := Q) (by omega) hQ
  by_cases hdx0 : dx = 0
  · have hA0 : A = 0 := by omega
    subst hdx0; subst hA0
    by_cases hP : P ≤ 0
    · exact Or.inr (Or.inr ⟨rfl, rfl, hP, k1⟩)
    · exact Or.inr (Or.inl ⟨by omega, hitR_of_pos (by omega)⟩)
  · have e5 : dx * P < dx * Q := Int.mul_lt_mul_of_pos_left hPQ (by omega)
    have hAdy : 0 ≤ A * dy := Int.mul_nonneg hA (by omega)
    by_cases c1 : A * dy < dx * P
    · have hP : 0 < P := (Clipper.WindSpec.sign_mul (show 0 < dx by omega)).1.mp (by omega)
      exact Or.inr (Or.inl ⟨hP, hitR_of_pos (by omega)⟩)
    · exact Or.inl (hitR_of_pos (by omega))

/-- which of three arms answers -/
theorem tryArms3 (Z : Arith) (p p2 : Pt) (a1 a2 a3 : Arm) (loc : Location) (ip : Pt) :
    (Answers Z p p2 a1 ∧ ∃ q, SegFinds Z p p2 a1.a a1.b q ∧ tryArms Z p p2 [a1, a2, a3] loc ip = (true, a1.loc, q)) ∨
    (¬ Answers Z p p2 a1 ∧ Answers Z p p2 a2 ∧
      ∃ q, SegFinds Z p p2 a2.a a2.b q ∧ tryArms Z p p2 [a1, a2, a3] loc ip = (true, a2.loc, q)) ∨
    (¬ Answers Z p p2 a1 ∧ ¬ Answers Z p p2 a2 ∧ Answers Z p p2 a3 ∧
      ∃ q, SegFinds Z p p2 a3.a a3.b q ∧ tryArms Z p p2 [a1, a2, a3] loc ip = (true, a3.loc, q)) ∨
    (¬ Answers Z p p2 a1 ∧ ¬ Answers Z p p2 a2 ∧ ¬ Answers Z p p2 a3 ∧
      ∃ ip', tryArms Z p p2 [a1, a2, a3] loc ip = (false, loc, ip')) := by
  by_cases n1 : Answers Z p p2 a1
  · exact Or.inl ⟨n1, _, (tryArms_cons_pos n1 [a2, a3] loc ip).2, (tryArms_cons_pos n1 [a2, a3] loc ip).1⟩
  obtain ⟨ip1, e1⟩ := tryArms_cons_neg n1 [a2, a3] loc ip
  rw [e1]
  by_cases n2 : Answers Z p p2 a2
  · exact Or.inr (Or.inl ⟨n1, n2, _, (tryArms_cons_pos n2 [a3] loc ip1).2, (tryArms_cons_pos n2 [a3] loc ip1).1⟩)
  obtain ⟨ip2, e2⟩ := tryArms_cons_neg n2 [a3] loc ip1
  rw [e2]
  by_cases n3 : Answers Z p p2 a3
  · exact Or.inr (Or.inr (Or.inl ⟨n1, n2, n3, _, (tryArms_cons_pos n3 [] loc ip2).2, (tryArms_cons_pos n3 [] loc ip2).1⟩))
  obtain ⟨ip3, e3⟩ := tryArms_cons_neg n3 [] loc ip2
  exact Or.inr (Or.inr (Or.inr ⟨n1, n2, n3, ip3, e3⟩))

theorem crossZ_swap (e p1 p2 : Pt) : crossZ e p2 p1 = -crossZ e p1 p2 := by
  simp only [crossZ]; grind

/-- if `GetSegmentIntersection` succeeds without computing an intersection point (some cross product vanishes), it
reports the same point for the reversed segment -/
theorem segFinds_swap_pt {A : Arith} {p1 p2 p3 p4 q q' : Pt}
    (hz : crossZ p1 p3 p4 = 0 ∨ crossZ p2 p3 p4 = 0 ∨ crossZ p3 p1 p2 = 0 ∨ crossZ p4 p1 p2 = 0)
    (h : SegFinds (exactOf A) p1 p2 p3 p4 q) (h' : SegFinds (exactOf A) p2 p1 p3 p4 q') : q' = q := by
  simp only [SegFinds, exactOf, crossZ_swap p3 p1 p2, crossZ_swap p4 p1 p2, Int.neg_eq_zero, ne_eq] at h h'
  -- the two descriptions must be in mirror-image cases; both in the last one contradicts `hz`
  rcases h with ⟨_, _, _, e⟩ | ⟨_, _, _, e⟩ | ⟨_, _, _, ⟨_, _, e⟩ | ⟨_, _, _, e⟩ | ⟨_, _, _, e⟩⟩ <;>
    rcases h' with ⟨_, _, _, e'⟩ | ⟨_, _, _, e'⟩ | ⟨_, _, _, ⟨_, _, e'⟩ | ⟨_, _, _, e'⟩ | ⟨_, _, _, e'⟩⟩ <;>
    first
      | contradiction
      | rw [e, e']
      | (rcases hz with h | h | h | h <;> contradiction)

/-- the one configuration in which the third arm of `GetIntersection(cur, prv, L)` answers although `cur` is not
beyond that arm's edge: `cur` on the first arm's edge, `prv` on the same line at or beyond the edge's far end -/
def Special (r : Rect) : Location → Pt → Pt → Prop
  | .left, cur, prv => cur.x = r.left ∧ prv.x = r.left ∧ r.top ≤ cur.y ∧ cur.y < r.bottom ∧ r.bottom ≤ prv.y
  | .top, cur, prv => cur.y = r.top ∧ prv.y = r.top ∧ r.left ≤ cur.x ∧ cur.x < r.right ∧ r.right ≤ prv.x
  | .right, cur, prv => cur.x = r.right ∧ prv.x = r.right ∧ r.top ≤ cur.y ∧ cur.y < r.bottom ∧ r.bottom ≤ prv.y
  | .bottom, cur, prv => cur.y = r.bottom ∧ prv.y = r.bottom ∧ r.left ≤ cur.x ∧ cur.x < r.right ∧ r.right ≤ prv.x
  | .inside, _, _ => False

/-- the location the automaton is in when it meets the special configuration -/
def specialFrom : Location → Location
  | .left => .bottom | .top => .right | .right => .bottom | .bottom => .right | .inside => .inside

theorem hitR_neg1' {a a' p p' q q' dx dx' dy dy' : Int} (h : a' = -a ∧ p' = p ∧ q' = q ∧ dx' = -dx ∧ dy' = dy) :
    HitR a' p' q' dx' dy' ↔ HitR a p q dx dy := by
  rw [h.1, h.2.1, h.2.2.1, h.2.2.2.1, h.2.2.2.2]; exact hitR_neg1 a p q dx dy

theorem hitR_neg2' {a a' p p' q q' dx dx' dy dy' : Int} (h : a' = a ∧ p' = -q ∧ q' = -p ∧ dx' = dx ∧ dy' = -dy) :
    HitR a' p' q' dx' dy' ↔ HitR a p q dx dy := by
  rw [h.1, h.2.1, h.2.2.1, h.2.2.2.1, h.2.2.2.2]; exact hitR_neg2 a p q dx dy

/-- `GetIntersection(p, p2, L)` in the coordinates of the side `L`: first axis perpendicular to the edge `L` and pointing
into the rectangle, origin `p`.  `near < far` are the signed distances of the lines of the edge `L` and of the opposite
edge, `lo < hi` the levels of the two lateral edges, `(dx, dy)` the vector to `p2`.  The arms tried are `a1` = the edge
`L`, `a2` = the lateral edge at `lo`, tried only if `p` is beyond it, `a3` = the lateral edge at `hi`. -/
structure SideFrame (A : Arith) (r : Rect) (L : Location) (p p2 : Pt) where
  a1 : Arm
  a2 : Arm
  a3 : Arm
  near : Int
  far : Int
  lo : Int
  hi : Int
  dx : Int
  dy : Int
  arms_eq : arms r p L = [a1, a2, a3]
  g1 : a1.guard = true
  g2 : a2.guard = true ↔ 0 < lo
  g3 : a3.guard = true
  l1 : a1.loc = L
  h1 : (∃ q, SegFinds (exactOf A) p p2 a1.a a1.b q) ↔ HitR near lo hi dx dy
  h2 : (∃ q, SegFinds (exactOf A) p p2 a2.a a2.b q) ↔ HitR lo near far dy dx
  h3 : (∃ q, SegFinds (exactOf A) p p2 a3.a a3.b q) ↔ HitR hi near far dy dx
  /-- the third arm's edge for the reversed segment: it is the first arm of the call made from `specialFrom L` -/
  h3r : (∃ q, SegFinds (exactOf A) p2 p a3.a a3.b q) ↔ HitR (hi - dy) (near - dx) (far - dx) (-dy) (-dx)
  rev : ∃ rest, arms r p2 (specialFrom L) = a3 :: rest
  lt1 : near < far
  lt2 : lo < hi
  ready1 : Ready r L p ↔ 0 ≤ near
  ready2 : 0 < lo → Ready r a2.loc p
  ready3 : hi ≤ 0 → Ready r a3.loc p
  special : near = 0 → dx = 0 → lo ≤ 0 → 0 < hi → hi ≤ dy → Special r L p p2
  zero : near = 0 → dx = 0 → crossZ a3.a p p2 = 0 ∨ crossZ a3.b p p2 = 0

/-- the frame of each of the four sides -/
def sideFrame {A : Arith} (ht : IsectTotal A) (r : Rect) (hw : r.left < r.right) (hh : r.top < r.bottom)
    (p p2 : Pt) : (L : Location) → L ≠ .inside → SideFrame A r L p p2
  | .left, _ =>
    { a1 := ⟨true, r.c0, r.c3, .left⟩, a2 := ⟨decide (p.y < r.c0.y), r.c0, r.c1, .top⟩, a3 := ⟨true, r.c2, r.c3, .bottom⟩
      near := r.left - p.x, far := r.right - p.x, lo := r.top - p.y, hi := r.bottom - p.y
      dx := p2.x - p.x, dy := p2.y - p.y
      arms_eq := rfl, g1 := rfl, g3 := rfl, l1 := rfl
      g2 := by show decide (p.y < r.top) = true ↔ 0 < r.top - p.y; rw [decide_eq_true_eq]; omega
      h1 := hit_left ht r hh p p2, h2 := hit_top ht r hw p p2, h3 := hit_bottom ht r hw p p2
      h3r := (hit_bottom ht r hw p2 p).trans (hitR_congr (by omega))
      rev := ⟨_, rfl⟩
      lt1 := by omega, lt2 := by omega
      ready1 := by simp only [Ready]; omega
      ready2 := by simp only [Ready]; omega
      ready3 := by simp only [Ready]; omega
      special := by simp only [Special]; omega
      zero := fun h1 h2 => Or.inr (by
        simp only [crossZ, Rect.c3]
        rw [show p.x - r.left = 0 by omega, show p2.x - p.x = 0 by omega]; simp) }
  | .top, _ =>
    { a1 := ⟨true, r.c0, r.c1, .top⟩, a2 := ⟨decide (p.x < r.c0.x), r.c0, r.c3, .left⟩, a3 := ⟨true, r.c1, r.c2, .right⟩
      near := r.top - p.y, far := r.bottom - p.y, lo := r.left - p.x, hi := r.right - p.x
      dx := p2.y - p.y, dy := p2.x - p.x
      arms_eq := rfl, g1 := rfl, g3 := rfl, l1 := rfl
      g2 := by show decide (p.x < r.left) = true ↔ 0 < r.left - p.x; rw [decide_eq_true_eq]; omega
      h1 := hit_top ht r hw p p2, h2 := hit_left ht r hh p p2, h3 := hit_right ht r hh p p2
      h3r := (hit_right ht r hh p2 p).trans (hitR_congr (by omega))
      rev := ⟨_, rfl⟩
      lt1 := by omega, lt2 := by omega
      ready1 := by simp only [Ready]; omega
      ready2 := by simp only [Ready]; omega
      ready3 := by simp only [Ready]; omega
      special := by simp only [Special]; omega
      zero := fun h1 h2 => Or.inl (by
        simp only [crossZ, Rect.c1]
        rw [show p2.y - p.y = 0 by omega, show p.y - r.top = 0 by omega]; simp) }
  | .right, _ =>
    { a1 := ⟨true, r.c1, r.c2, .right⟩, a2 := ⟨decide (p.y < r.c1.y), r.c0, r.c1, .top⟩, a3 := ⟨true, r.c2, r.c3, .bottom⟩
      near := p.x - r.right, far := p.x - r.left, lo := r.top - p.y, hi := r.bottom - p.y
      dx := p.x - p2.x, dy := p2.y - p.y
      arms_eq := rfl, g1 := rfl, g3 := rfl, l1 := rfl
      g2 := by show decide (p.y < r.top) = true ↔ 0 < r.top - p.y; rw [decide_eq_true_eq]; omega
      h1 := (hit_right ht r hh p p2).trans (hitR_neg1' (by omega))
      h2 := (hit_top ht r hw p p2).trans (hitR_neg2' (by omega))
      h3 := (hit_bottom ht r hw p p2).trans (hitR_neg2' (by omega))
      h3r := (hit_bottom ht r hw p2 p).trans (hitR_neg2' (by omega))
      rev := ⟨_, rfl⟩
      lt1 := by omega, lt2 := by omega
      ready1 := by simp only [Ready]; omega
      ready2 := by simp only [Ready]; omega
      ready3 := by simp only [Ready]; omega
      special := by simp only [Special]; omega
      zero := fun h1 h2 => Or.inl (by
        simp only [crossZ, Rect.c2]
        rw [show p.x - r.right = 0 by omega, show p2.x - p.x = 0 by omega]; simp) }
  | .bottom, _ =>
    { a1 := ⟨true, r.c2, r.c3, .bottom⟩, a2 := ⟨decide (p.x < r.c3.x), r.c0, r.c3, .left⟩, a3 := ⟨true, r.c1, r.c2, .right⟩
      near := p.y - r.bottom, far := p.y - r.top, lo := r.left - p.x, hi := r.right - p.x
      dx := p.y - p2.y, dy := p2.x - p.x
      arms_eq := rfl, g1 := rfl, g3 := rfl, l1 := rfl
      g2 := by show decide (p.x < r.left) = true ↔ 0 < r.left - p.x; rw [decide_eq_true_eq]; omega
      h1 := (hit_bottom ht r hw p p2).trans (hitR_neg1' (by omega))
      h2 := (hit_left ht r hh p p2).trans (hitR_neg2' (by omega))
      h3 := (hit_right ht r hh p p2).trans (hitR_neg2' (by omega))
      h3r := (hit_right ht r hh p2 p).trans (hitR_neg2' (by omega))
      rev := ⟨_, rfl⟩
      lt1 := by omega, lt2 := by omega
      ready1 := by simp only [Ready]; omega
      ready2 := by simp only [Ready]; omega
      ready3 := by simp only [Ready]; omega
      special := by simp only [Special]; omega
      zero := fun h1 h2 => Or.inr (by
        simp only [crossZ, Rect.c2]
        rw [show p2.y - p.y = 0 by omega, show p.y - r.bottom = 0 by omega]; simp) }
  | .inside, h => absurd rfl h

namespace SideFrame
variable {A : Arith} {r : Rect} {L : Location} {p p2 : Pt}

theorem getIntersection_eq (F : SideFrame A r L p p2) (ip : Pt) :
    getIntersection (exactOf A) r p p2 L ip = tryArms (exactOf A) p p2 [F.a1, F.a2, F.a3] L ip := by
  unfold getIntersection; rw [F.arms_eq]

theorem ans1 (F : SideFrame A r L p p2) : Answers (exactOf A) p p2 F.a1 ↔ HitR F.near F.lo F.hi F.dx F.dy :=
  ⟨fun h => F.h1.mp h.2, fun h => ⟨F.g1, F.h1.mpr h⟩⟩

theorem ans2 (F : SideFrame A r L p p2) : Answers (exactOf A) p p2 F.a2 ↔ 0 < F.lo ∧ HitR F.lo F.near F.far F.dy F.dx :=
  ⟨fun h => ⟨F.g2.mp h.1, F.h2.mp h.2⟩, fun h => ⟨F.g2.mpr h.1, F.h2.mpr h.2⟩⟩

theorem ans3 (F : SideFrame A r L p p2) : Answers (exactOf A) p p2 F.a3 ↔ HitR F.hi F.near F.far F.dy F.dx :=
  ⟨fun h => F.h3.mp h.2, fun h => ⟨F.g3, F.h3.mpr h⟩⟩

/-- **readiness of the reported location.**  `p` is consumed from `L` and `GetIntersection(p, p2, L)` succeeds: then `p`
is also consumed from the location the call reports — except in the configuration `Special`, in which the reversed call
from `specialFrom L` reports the same point. -/
theorem ready (F : SideFrame A r L p p2) (ip : Pt) (hx : (getIntersection (exactOf A) r p p2 L ip).1 = true) (hr : Ready r L p) :
    Ready r (getIntersection (exactOf A) r p p2 L ip).2.1 p ∨
    (Special r L p p2 ∧ ∀ ip', (getIntersection (exactOf A) r p p2 L ip).2.2 =
      (getIntersection (exactOf A) r p2 p (specialFrom L) ip').2.2) := by
  have hn := F.ready1.mp hr
  rw [F.getIntersection_eq] at hx ⊢
  rcases tryArms3 (exactOf A) p p2 F.a1 F.a2 F.a3 L ip with ⟨_, q, _, e⟩ | ⟨_, a2, q, _, e⟩ | ⟨n1, n2, a3, q, hq, e⟩ |
      ⟨_, _, _, ip', e⟩ <;> rw [e] at hx ⊢
  · exact Or.inl (by rw [F.l1]; exact hr)
  · exact Or.inl (F.ready2 (F.ans2.mp a2).1)
  · by_cases hb : F.hi ≤ 0
    · exact Or.inl (F.ready3 hb)
    · rcases third_arm F.near F.far F.lo F.hi F.dx F.dy hn F.lt1 F.lt2 (by omega) (F.ans3.mp a3) with h | h | h
      · exact absurd (F.ans1.mpr h) n1
      · exact absurd (F.ans2.mpr h) n2
      · refine Or.inr ⟨F.special h.1 h.2.1 h.2.2.1 (by omega) h.2.2.2, fun ip' => ?_⟩
        -- the reversed call answers with its first arm, the same edge
        obtain ⟨rest, hrev⟩ := F.rev
        have hback : Answers (exactOf A) p2 p F.a3 :=
          ⟨F.g3, F.h3r.mpr ((hitR_swap _ _ _ _ _).mp (F.ans3.mp a3))⟩
        unfold getIntersection
        rw [hrev, (tryArms_cons_pos hback rest _ ip').1]
        exact (segFinds_swap_pt ((F.zero h.1 h.2.1).elim (fun z => Or.inr (Or.inr (Or.inl z)))
          (fun z => Or.inr (Or.inr (Or.inr z)))) hq (tryArms_cons_pos hback rest (specialFrom L) ip').2).symm
  · cases hx

end SideFrame

end Clipper.Lemmas.RCG

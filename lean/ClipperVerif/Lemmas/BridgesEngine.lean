/-
Helper definitions and lemmas for `Props/Bridges/Ael.lean` and `Props/Bridges/Sides.lean`.

The generated skeleton of a C++ function that also calls untranslated code is split by the translator into auxiliary
definitions `F.m<k>`, one per merged `if` / `switch` (their numbering follows the source order).  The lemmas `ie_m<k>_eq`
below characterise one block of `IntersectEdges` each in the vocabulary of the hand models (`Model/Ael.lean`,
`Model/AelSides.lean`); the bridge theorems assemble them.  The blocks of the closed branch's decision (`m17`, `m18`, `m25`–`m28`) have
no lemma: `intersectEdges_closed_bridge` opens them itself, against the one tree of `Model.decideActB`.  Core Lean only.
-/
import ClipperVerif.Lemmas.Bridges
import ClipperVerif.Generated.Engine
import ClipperVerif.Lemmas.Ael
import ClipperVerif.Model.AelSides
namespace Clipper.Lemmas.Bridges
open Clipper Clipper.Model

theorem gen_iabs (x : Int) : Gen.iabs x = iabs x := rfl

/-- `Gen.IsOdd` on a non-negative count is the parity test of the hand model -/
theorem isOdd_nat (n : Nat) : Gen.IsOdd (n : Int) = decide (n % 2 = 1) := by
  unfold Gen.IsOdd Gen.intAnd
  have h1 : ((n : Int) % 18446744073709551616).toNat = n % 18446744073709551616 := by omega
  rw [h1]
  have h2 : (1 : Int).toNat = 1 := rfl
  rw [h2, Nat.and_one_is_mod]
  have h3 : n % 18446744073709551616 % 2 = n % 2 := by omega
  rw [h3]
  rcases Nat.mod_two_eq_zero_or_one n with h | h <;> simp [h]

theorem in01_or (x : Int) : (decide (x = 0) || decide (x = 1)) = in01 x := rfl

theorem in01_bne (x : Int) : (x != 0 && x != 1) = !in01 x := by
  unfold in01; rw [Bool.not_or]; rfl

/-- the log entries of the continuation `a` (`Model.Act`) of "NOW PROCESS THE INTERSECTION" -/
def actLog (hot1 hot2 : Bool) : Act → Log
  | .nothing => []
  | .localMax => [("AddLocalMaxPoly(e1,e2,pt)", [])]
  | .maxThenMin => [("AddLocalMaxPoly(e1,e2,pt)", []), ("AddLocalMinPoly(e1,e2,pt,default)", [])]
  | .swap =>
    (if hot1 then [("AddOutPt(e1,pt)", [])] else []) ++ (if hot2 then [("AddOutPt(e2,pt)", [])] else []) ++
      [("SwapOutrecs(e1,e2)", [])]
  | .localMin => [("AddLocalMinPoly(e1,e2,pt,·)", [0])]

theorem actLog_ite (h1 h2 : Bool) (c : Prop) [Decidable c] (a b : Act) :
    actLog h1 h2 (if c then a else b) = if c then actLog h1 h2 a else actLog h1 h2 b := apply_ite (actLog h1 h2) c a b

/-- `if (IsJoined(e)) Split(e, pt);` -/
def splitLog (j : JoinWith) (tag : String) : Log := if j ≠ .noJoin then [(tag, [])] else []

/-- `AddLocalMinPoly(e1, e2, pt, false)` (the scalar argument `is_new` is logged as 0) -/
def lm : String × List Int := ("AddLocalMinPoly(e1,e2,pt,·)", [0])

theorem ie_m1_eq (j : JoinWith) (acts : Log) : Gen.IntersectEdges.m1 j acts = acts ++ splitLog j "Split(e2,pt)" := by
  cases j <;> simp [Gen.IntersectEdges.m1, Gen.IsJoined, splitLog]

theorem ie_m5_eq (j : JoinWith) (acts : Log) : Gen.IntersectEdges.m5 j acts = acts ++ splitLog j "Split(e1,pt)" := by
  cases j <;> simp [Gen.IntersectEdges.m5, Gen.IsJoined, splitLog]

/-- the translator emits `if (IsJoined(e2)) Split(e2, pt);` of the closed branch as a second copy of `m1` -/
theorem ie_m9_eq (j : JoinWith) (acts : Log) : Gen.IntersectEdges.m9 j acts = acts ++ splitLog j "Split(e2,pt)" :=
  ie_m1_eq j acts

/-- "UPDATE WINDING COUNTS..." is `Model.updateWinds` -/
theorem ie_m14_eq (fr : FillRule) (e1 e2 : Edge) (old : Int) :
    (Gen.IntersectEdges.m14 e1.pt e2.pt fr e1.wc e2.wc e2.dx e1.dx old e1.wc2 e2.wc2).2 =
      ((updateWinds fr e1 e2).1.wc, (updateWinds fr e1 e2).1.wc2, (updateWinds fr e1 e2).2.wc, (updateWinds fr e1 e2).2.wc2) := by
  by_cases hp : e1.pt = e2.pt <;> by_cases hfr : fr = .evenOdd <;>
    simp [Gen.IntersectEdges.m14, Gen.IntersectEdges.m12, Gen.IntersectEdges.m13, Gen.IntersectEdges.m10, Gen.IntersectEdges.m11,
      updateWinds, hp, hfr]

/-- the `switch (fillrule_)` computing `old_e1_windcnt`, `old_e2_windcnt` is `Model.oldWc` (`fillpos` is `FillRule::Positive`) -/
theorem ie_m16_eq (fr : FillRule) (a b : Int) :
    Gen.IntersectEdges.m16 fr a b .positive = (oldWc fr a, oldWc fr b) := by
  cases fr <;> simp [Gen.IntersectEdges.m16, Gen.IntersectEdges.m15, oldWc, Gen.iabs, iabs]

/-- the `switch (fillrule_)` computing `e1Wc2`, `e2Wc2` is `Model.oldWc` (the same text as `m16`) -/
theorem ie_m20_eq (fr : FillRule) (a b : Int) :
    Gen.IntersectEdges.m20 fr a b .positive = (oldWc fr a, oldWc fr b) := ie_m16_eq fr a b

/-- the `switch (cliptype_)` of the cold/cold same-type case is `Model.goSame` -/
theorem ie_m24_eq (ct : ClipType) (p1 : PathType) (y1 y2 : Int) (acts : Log) :
    Gen.IntersectEdges.m24 ct y1 y2 acts p1 = if goSame ct p1 y1 y2 then acts ++ [lm] else acts := by
  cases ct <;>
    simp [Gen.IntersectEdges.m24, Gen.IntersectEdges.m21, Gen.IntersectEdges.m22, Gen.IntersectEdges.m23, goSame, lm, and_assoc]

/-- does the open branch return before "toggle contribution"?  (the three tests of `Model.intersectOpen`) -/
def openSkip (ct : ClipType) (fr : FillRule) (ec : Edge) : Bool :=
  (iabs ec.wc != 1) || openSkipCt ct ec.pt ec.hot || openSkipFr fr ec.wc

theorem openSkip_eq (ct : ClipType) (fr : FillRule) (ec : Edge) : openSkip ct fr ec = !openToggles ⟨ct, fr⟩ ec := by
  simp only [openSkip, openToggles, Bool.not_not, decide_ne_bne]

/-- `Model.intersectOpen` flips the open edge's hot flag unless `openSkip` -/
theorem intersectOpen_eq_openSkip (ct : ClipType) (fr : FillRule) (eo ec : Edge) :
    intersectOpen ⟨ct, fr⟩ eo ec = if openSkip ct fr ec then eo else { eo with hot := !eo.hot } := by
  rw [intersectOpen_eq_toggles, openSkip_eq]; cases openToggles ⟨ct, fr⟩ ec <;> rfl

/-- `switch (cliptype_)` of the open branch (`edge_c = e2`) is `Model.openSkipCt` -/
theorem ie_m2_eq (ct : ClipType) (hot : Bool) (p : PathType) : Gen.IntersectEdges.m2 ct hot p = openSkipCt ct p hot := by
  cases ct <;> cases hot <;> cases p <;> simp [Gen.IntersectEdges.m2, Gen.IsHotEdge, openSkipCt]

/-- `switch (fillrule_)` of the open branch (`edge_c = e2`) is `Model.openSkipFr` -/
theorem ie_m3_eq (fr : FillRule) (w : Int) : Gen.IntersectEdges.m3 fr w = openSkipFr fr w := by
  cases fr <;> simp only [Gen.IntersectEdges.m3, openSkipFr, gen_iabs] <;> exact ite_ne_bne _ _

/-- the two `switch`es of the open branch with `edge_c = e1` are the same text as `m2`, `m3` -/
theorem ie_m6_eq (ct : ClipType) (hot : Bool) (p : PathType) : Gen.IntersectEdges.m6 ct hot p = openSkipCt ct p hot :=
  ie_m2_eq ct hot p

theorem ie_m7_eq (fr : FillRule) (w : Int) : Gen.IntersectEdges.m7 fr w = openSkipFr fr w := ie_m3_eq fr w

/-- what "toggle contribution" logs when the open edge is `e1`: a hot edge gives its output record up
(`AddOutPt`, the record's side and `e1.outrec` set to `nullptr`), a cold one joins the hot other side of its local minimum
(`e3`) or starts a new open path -/
def toggleLog1 (eoHot front atLocMin e3Hot : Bool) (dx : Int) : Log :=
  if eoHot then
    [("AddOutPt(e1,pt)", []),
     (if front then "e1_outrec_after1_front_edge := nullptr" else "e1_outrec_after1_back_edge := nullptr", []),
     ("e1_outrec := nullptr", [])]
  else if atLocMin && e3Hot then
    [("e1_outrec := e3_outrec_after1", []),
     (if dx > 0 then "SetSides(e3_outrec_after1,e1,e3)" else "SetSides(e3_outrec_after1,e3,e1)", [])]
  else [("StartOpenPath(e1,pt)", [])]

/-- the same when the open edge is `e2` -/
def toggleLog2 (eoHot front atLocMin e3Hot : Bool) (dx : Int) : Log :=
  if eoHot then
    [("AddOutPt(e2,pt)", []),
     (if front then "e2_outrec_after1_front_edge := nullptr" else "e2_outrec_after1_back_edge := nullptr", []),
     ("e2_outrec := nullptr", [])]
  else if atLocMin && e3Hot then
    [("e2_outrec := e3_outrec_after1", []),
     (if dx > 0 then "SetSides(e3_outrec_after1,e2,e3)" else "SetSides(e3_outrec_after1,e3,e2)", [])]
  else [("StartOpenPath(e2,pt)", [])]

/-- hot flag of the open edge after the logged steps: `…_outrec := nullptr` makes it cold, `StartOpenPath` / joining `e3`'s record hot -/
def hotAfterToggle (hot : Bool) (l : Log) : Bool := if l = [] then hot else !hot

/-- hand `Model.Join` of the C++ enum value `JoinWith` -/
def toJoin : JoinWith → Join
  | .noJoin => .none | .left => .left | .right => .right

end Clipper.Lemmas.Bridges

/- Helper lemmas for the geometry half of C18: consecutive pairs of a vertex list (`chain`), the closed-path edge
list as a chain, the Area loop, magnitude bounds for the exact-double regime and truncated division. Core Lean only. -/
import ClipperVerif.Model.Geom
import ClipperVerif.Lemmas.WindSpec
namespace Clipper.Lemmas.Geom
open Clipper Clipper.Model

/-- consecutive pairs `(p,l0),(l0,l1),…` -/
def chain : Pt → List Pt → List (Pt × Pt)
  | _, [] => []
  | p, c :: r => (p, c) :: chain c r

/-- last element of `p :: l` -/
def lastOf : Pt → List Pt → Pt
  | p, [] => p
  | _, c :: r => lastOf c r

@[simp] theorem chain_nil (p : Pt) : chain p [] = [] := rfl
@[simp] theorem chain_cons (p c : Pt) (r : List Pt) : chain p (c :: r) = (p, c) :: chain c r := rfl
@[simp] theorem lastOf_nil (p : Pt) : lastOf p [] = p := rfl
@[simp] theorem lastOf_cons (p c : Pt) (r : List Pt) : lastOf p (c :: r) = lastOf c r := rfl

theorem chain_append (p : Pt) (x y : List Pt) : chain p (x ++ y) = chain p x ++ chain (lastOf p x) y := by
  induction x generalizing p with
  | nil => simp
  | cons c r ih => simp [ih]

theorem lastOf_append (p : Pt) (x y : List Pt) : lastOf p (x ++ y) = lastOf (lastOf p x) y := by
  induction x generalizing p with
  | nil => simp
  | cons c r ih => simp [ih]

theorem edgesOf_cons (a : Pt) (rest : List Pt) : edgesOf (a :: rest) = chain a (rest ++ [a]) := by
  have h : ∀ (rest : List Pt) (a t : Pt), (a :: rest).zip (rest ++ [t]) = chain a (rest ++ [t]) := by
    intro rest
    induction rest with
    | nil => intro a t; rfl
    | cons r rs ih => intro a t; simp [ih]
  exact h rest a a

theorem getLast?_cons_eq_lastOf (a : Pt) (rest : List Pt) : (a :: rest).getLast? = some (lastOf a rest) := by
  induction rest generalizing a with
  | nil => rfl
  | cons r rs ih => rw [List.getLast?_cons_cons, ih]; rfl

/-- sum of the C++ summands along a chain -/
def areaSum (p : Pt) (l : List Pt) : Int := ((chain p l).map (fun e => areaTerm e.1 e.2)).sum
/-- sum of the shoelace summands along a chain -/
def shoeSum (p : Pt) (l : List Pt) : Int := ((chain p l).map (fun e => e.1.x * e.2.y - e.2.x * e.1.y)).sum

theorem areaSum_eq (p : Pt) (l : List Pt) :
    areaSum p l = shoeSum p l + (p.x * p.y - (lastOf p l).x * (lastOf p l).y) := by
  induction l generalizing p with
  | nil => simp [areaSum, shoeSum]
  | cons c r ih =>
    have h1 : areaSum p (c :: r) = areaTerm p c + areaSum c r := by simp [areaSum]
    have h2 : shoeSum p (c :: r) = (p.x * c.y - c.x * p.y) + shoeSum c r := by simp [shoeSum]
    rw [h1, h2, ih, lastOf_cons]
    simp only [areaTerm]
    grind

/-- the two-at-a-time loop adds exactly the chain sum, and never faults when the parity flag matches -/
theorem areaGo_eq (odd : Bool) : ∀ (l : List Pt) (it2 : Pt) (a : Int),
    (l.length % 2 == 1) = odd → areaGo odd it2 a l = some (a + areaSum it2 l)
  | [], it2, a, h => by
    have : odd = false := by simpa using h.symm
    subst this; simp [areaGo, areaSum]
  | [x], it2, a, h => by
    have : odd = true := by simpa using h.symm
    subst this; simp [areaGo, areaSum]
  | p :: q :: rest, it2, a, h => by
    have h' : (rest.length % 2 == 1) = odd := by
      rw [← h]; simp only [List.length_cons]; congr 1; omega
    rw [areaGo, areaGo_eq odd rest q _ h']
    simp [areaSum]
    omega

theorem shoelace2_eq_shoeSum (a : Pt) (rest : List Pt) :
    shoelace2 (a :: rest) = shoeSum (lastOf a rest) (a :: rest) := by
  simp only [shoelace2, edgesOf_cons, shoeSum, chain_cons, chain_append, List.map_append, List.sum_append,
    List.map_cons, List.sum_cons, List.map_nil, List.sum_nil, chain_nil]
  omega

theorem mul26 {x y : Int} (hx : x.natAbs ≤ 2^26) (hy : y.natAbs ≤ 2^26) : (x * y).natAbs ≤ 2^52 := by
  rw [Int.natAbs_mul]; exact Nat.le_trans (Nat.mul_le_mul hx hy) (by decide)

theorem diff26 {x y : Int} (hx : x.natAbs ≤ 2^25) (hy : y.natAbs ≤ 2^25) : (x - y).natAbs ≤ 2^26 := by omega

theorem sub53 {u w : Int} (hu : u.natAbs ≤ 2^52) (hw : w.natAbs ≤ 2^52) : (u - w).natAbs ≤ 2^53 := by omega

/-- truncated division does not fall below an integer lower bound of the exact quotient `X / D` (stated times `D * D`) -/
theorem le_trunc {D X lo q r : Int} (hq : D * q + r = X) (hr : r.natAbs < D.natAbs) (hlo : 0 ≤ (X - D * lo) * D) :
    lo ≤ q := by
  have hDD : D * D = ↑(D.natAbs * D.natAbs) := (Int.natAbs_mul_self (a := D)).symm
  have hrD : (r * D).natAbs < D.natAbs * D.natAbs := by
    rw [Int.natAbs_mul]; exact Nat.mul_lt_mul_of_pos_right hr (by omega)
  apply Int.not_lt.mp
  intro hlt
  have h1 : (X - D * lo) * D = D * D * (q - lo) + r * D := by rw [← hq]; grind
  have h2 : D * D * (q - lo) ≤ D * D * (-1) :=
    Int.mul_le_mul_of_nonneg_left (by omega) (by rw [hDD]; exact Int.natCast_nonneg _)
  generalize D * D * (q - lo) = t at *
  generalize r * D = u at *
  generalize D * D = s at *
  omega

theorem trunc_between {D X lo hi q r : Int} (hq : D * q + r = X) (hr : r.natAbs < D.natAbs)
    (hlo : 0 ≤ (X - D * lo) * D) (hhi : 0 ≤ (D * hi - X) * D) : lo ≤ q ∧ q ≤ hi := by
  refine ⟨le_trunc hq hr hlo, Int.neg_le_neg_iff.mp (le_trunc (D := D) (X := -X) (r := -r) ?_ ?_ ?_)⟩
  · rw [← hq]; grind
  · rwa [Int.natAbs_neg]
  · have : (-X - D * -hi) * D = (D * hi - X) * D := by grind
    rwa [this]

/-- the truncated quotient of `det·u + num·du` by `det`, for `0 < num/det < 1`: within one of the exact value `u + (num/det)·du`
and between `u` and `u + du` -/
theorem tdiv_between {det num : Int} (hpos : 0 < num * det) (hlt : num * det < det * det) (u du : Int) :
    (det * (det * u + num * du).tdiv det - (det * u + num * du)).natAbs < det.natAbs ∧
    min u (u + du) ≤ (det * u + num * du).tdiv det ∧ (det * u + num * du).tdiv det ≤ max u (u + du) := by
  have hd0 : det ≠ 0 := fun h => by rw [h, Int.mul_zero] at hpos; exact Int.lt_irrefl 0 hpos
  have hq := Int.mul_tdiv_add_tmod (det * u + num * du) det
  have hr : ((det * u + num * du).tmod det).natAbs < det.natAbs := by
    rw [Int.natAbs_tmod]; exact Nat.mod_lt _ (by omega)
  have e1 : (det * u + num * du - det * u) * det = num * det * du := by
    rw [show det * u + num * du - det * u = num * du by omega, Int.mul_right_comm]
  have e2 : (det * (u + du) - (det * u + num * du)) * det = (det * det - num * det) * du := by
    rw [Int.mul_add, show det * u + det * du - (det * u + num * du) = det * du - num * du by omega, ← Int.sub_mul,
      Int.mul_right_comm, Int.sub_mul]
  refine ⟨by omega, ?_⟩
  rcases Int.le_total 0 du with hdu | hdu
  · have hb := trunc_between (lo := u) (hi := u + du) hq hr
      (e1 ▸ Int.mul_nonneg (Int.le_of_lt hpos) hdu) (e2 ▸ Int.mul_nonneg (Int.le_of_lt (Int.sub_pos.mpr hlt)) hdu)
    omega
  · have hb := trunc_between (lo := u + du) (hi := u) hq hr
      (by rw [← Int.neg_sub, Int.neg_mul, e2, ← Int.mul_neg]
          exact Int.mul_nonneg (Int.le_of_lt (Int.sub_pos.mpr hlt)) (Int.neg_nonneg.mpr hdu))
      (by rw [← Int.neg_sub, Int.neg_mul, e1, ← Int.mul_neg]
          exact Int.mul_nonneg (Int.le_of_lt hpos) (Int.neg_nonneg.mpr hdu))
    omega

end Clipper.Lemmas.Geom

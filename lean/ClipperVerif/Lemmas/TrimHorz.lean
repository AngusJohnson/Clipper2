/-
What the loop of `TrimHorz` (`Model/TrimHorz.lean`) does, for `Props/C03Trim.lean` and for the model of `DoHorizontal`
(`Lemmas/SweepHorz.lean`, which calls it through `UpdateEdgeIntoAEL`).
-/
import ClipperVerif.Model.TrimHorz
namespace Clipper.Lemmas.TrimHorz
open Clipper.Model.TrimHorz

/-- **What the loop does** (`o` = its result): it passes over a prefix of `k` of the supplied vertices, all of them on the row of
the edge, so the edge stays horizontal; `vertex_top` advances by `k`; the new top is the last vertex passed, or the old top when
nothing was merged. -/
theorem loop_prefix (pc : Bool) (botX : Int) : ∀ (rest : List V) (topX topY : Int) (adv : Nat) (o : Out),
    loop pc botX topX topY adv rest = o →
    ∃ k, k ≤ rest.length ∧ o.adv = adv + k ∧ o.topY = topY ∧ (∀ v ∈ rest.take k, v.y = topY) ∧
      ((k = 0 ∧ o.topX = topX) ∨ ∃ j v, k = j + 1 ∧ rest[j]? = some v ∧ v.x = o.topX)
  | [], topX, topY, adv, _, rfl => ⟨0, Nat.le_refl _, rfl, rfl, fun _ h => (nomatch h), Or.inl ⟨rfl, rfl⟩⟩
  | v :: rest, topX, topY, adv, o, ho => by
    unfold loop at ho
    split at ho
    · subst ho; exact ⟨0, Nat.zero_le _, rfl, rfl, fun _ h => (nomatch h), Or.inl ⟨rfl, rfl⟩⟩
    · rename_i hy
      have hy' : v.y = topY := Decidable.of_not_not hy
      split at ho
      · subst ho; exact ⟨0, Nat.zero_le _, rfl, rfl, fun _ h => (nomatch h), Or.inl ⟨rfl, rfl⟩⟩
      · split at ho
        · subst ho
          exact ⟨1, Nat.succ_le_succ (Nat.zero_le _), rfl, hy', fun w hw => (List.mem_singleton.1 hw) ▸ hy',
            Or.inr ⟨0, v, rfl, rfl, rfl⟩⟩
        · obtain ⟨k, hk, h1, h2, h3, h4⟩ := loop_prefix pc botX rest v.x v.y (adv + 1) o ho
          refine ⟨k + 1, Nat.succ_le_succ hk, by rw [h1, Nat.add_right_comm, Nat.add_assoc], h2.trans hy', fun w hw => ?_, Or.inr ?_⟩
          · rcases List.mem_cons.1 hw with rfl | hw
            · exact hy'
            · exact (h3 w hw).trans hy'
          · rcases h4 with ⟨rfl, ht⟩ | ⟨j, w, rfl, hw, hx⟩
            · exact ⟨0, v, rfl, rfl, ht.symm⟩
            · exact ⟨j + 1, w, rfl, hw, hx⟩

/-- why the loop stops after `k` vertices (PreserveCollinear off): the supplied vertices are exhausted, or the next vertex leaves
the row, or the last vertex passed is a local maximum; no vertex passed before is one -/
theorem loop_stops (botX : Int) : ∀ (rest : List V) (topX topY : Int) (adv : Nat) (o : Out),
    loop false botX topX topY adv rest = o →
    ∃ k, o.adv = adv + k ∧ ((o.ranOff = true ∧ k = rest.length)
      ∨ (∃ v, rest[k]? = some v ∧ v.y ≠ topY ∧ ∀ w ∈ rest.take k, w.isMax = false)
      ∨ (∃ j v, k = j + 1 ∧ rest[j]? = some v ∧ v.isMax = true ∧ ∀ w ∈ rest.take j, w.isMax = false))
  | [], _, _, _, _, rfl => ⟨0, rfl, Or.inl ⟨rfl, rfl⟩⟩
  | v :: rest, topX, topY, adv, o, ho => by
    unfold loop at ho
    simp only [Bool.false_and, Bool.false_eq_true, if_false] at ho
    split at ho
    · rename_i hy
      subst ho
      exact ⟨0, rfl, Or.inr (Or.inl ⟨v, rfl, hy, fun _ h => (nomatch h)⟩)⟩
    · rename_i hy
      have hy' : v.y = topY := Decidable.of_not_not hy
      split at ho
      · rename_i hm
        subst ho
        exact ⟨1, rfl, Or.inr (Or.inr ⟨0, v, rfl, rfl, hm, fun _ h => (nomatch h)⟩)⟩
      · rename_i hm
        have hcons : ∀ {j : Nat}, (∀ w ∈ rest.take j, w.isMax = false) → ∀ w ∈ (v :: rest).take (j + 1), w.isMax = false :=
          fun hall w hw => (List.mem_cons.1 hw).elim (fun h => h ▸ Bool.eq_false_iff.2 hm) (hall w)
        obtain ⟨k, h1, h2⟩ := loop_stops botX rest v.x v.y (adv + 1) o ho
        refine ⟨k + 1, by rw [h1, Nat.add_right_comm, Nat.add_assoc], ?_⟩
        rcases h2 with h | ⟨w, hw, hwy, hall⟩ | ⟨j, w, rfl, hw, hwm, hall⟩
        · exact Or.inl ⟨h.1, congrArg (· + 1) h.2⟩
        · exact Or.inr (Or.inl ⟨w, hw, hy' ▸ hwy, hcons hall⟩)
        · exact Or.inr (Or.inr ⟨j + 1, w, rfl, hw, hwm, hcons hall⟩)

end Clipper.Lemmas.TrimHorz

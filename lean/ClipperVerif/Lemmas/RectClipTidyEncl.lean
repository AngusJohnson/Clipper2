/-
The "path encloses the rectangle" case of `ExecuteInternal`.  When the closing logic
adds the four corners (`first_cross_ == Inside`), the main loop has added nothing, so the raw ring consists of exactly the four
corners, no node of it is collinear with its neighbours, every node is registered in an edge list and all `ccw` lists are empty
(`rawHeap_enclosing`); this is what lets `CheckEdges` leave the four pre-registered entries alone (`checkEdges_lists_unchanged`).
Core Lean only.
-/
import ClipperVerif.Lemmas.RectClipTidyRaw
import ClipperVerif.Lemmas.RectClipAuto
import ClipperVerif.Lemmas.CleanUp
namespace Clipper.Lemmas.RCT
open Clipper Clipper.Model.RC Clipper.Model.RCT Clipper.Lemmas.RC Clipper.Lemmas.RCA

/-- one iteration: `first_cross_`, once set, stays; if it is still unset (`Inside`) after an iteration that started outside
with `crossing_loc == Inside`, the iteration added nothing and left the same situation -/
theorem astep_firstCross (A : Arith) (r : Rect) (path : Path) (c : Ctl) (es : List AEmit) (sl : List Location) (c' : Ctl)
    (h : astep A r path c = .next es sl c') :
    (c.firstCross ≠ .inside → c'.firstCross ≠ .inside) ∧
    (c.loc ≠ .inside → c.crossingLoc = .inside → c.firstCross = .inside → c'.firstCross = .inside →
      es = [] ∧ c'.loc ≠ .inside ∧ c'.crossingLoc = .inside) := by
  obtain ⟨_, _, _, _, _, rest, hes, _, _, _, hcross⟩ := astep_next h rfl
  rcases hcross with ⟨_, hfc, hcl⟩ | ⟨_, l, hl, hfc⟩
  · -- the first `GetIntersection` call failed: `first_cross_` is untouched
    refine ⟨fun hf => hfc ▸ hf, fun hloc hc _ _ => ?_⟩
    obtain ⟨a1, a2, a3⟩ := hcl hc
    exact ⟨by rw [hes, a1, gnl_adds_nil r path c.loc c.i hloc]; rfl, a3, a2⟩
  · -- it succeeded: `first_cross_`, if unset, is set to the side `l`
    rw [hfc]
    exact ⟨fun hf => by rw [if_neg hf]; exact hf, fun _ _ hf e => absurd e (by rw [if_pos hf]; exact hl)⟩

/-- along the main loop `first_cross_`, once set, stays set; and if it is still `Inside` when the loop ends (path started
outside), the loop has added nothing -/
theorem aloop_no_cross_no_adds (A : Arith) (r : Rect) (path : Path) (fuel : Nat) (c : Ctl) (o : LoopOut)
    (h : aloop A r path fuel c = .ok o) :
    (c.firstCross ≠ .inside → o.firstCross ≠ .inside) ∧
    (c.loc ≠ .inside → c.crossingLoc = .inside → c.firstCross = .inside → o.firstCross = .inside → o.es = []) := by
  refine aloop_induct (P := fun c o => (c.firstCross ≠ .inside → o.firstCross ≠ .inside) ∧
    (c.loc ≠ .inside → c.crossingLoc = .inside → c.firstCross = .inside → o.firstCross = .inside → o.es = []))
    ?_ ?_ ?_ fuel c o h
  · exact fun _ _ => ⟨fun hc => hc, fun _ _ _ _ => rfl⟩
  · intro c es loc _ hs
    refine ⟨fun hc => hc, fun hl _ _ _ => ?_⟩
    show es = []
    rw [(astep_done hs rfl).1, gnl_adds_nil r path c.loc c.i hl]; rfl
  · intro c es sl c' o' _ hs ih
    have st := astep_firstCross A r path c es sl c' hs
    refine ⟨fun hc => ih.1 (st.1 hc), fun hl hcl hfc ho => ?_⟩
    -- `first_cross_` was still unset after this iteration, or it would be set at the end
    have hc' : c'.firstCross = .inside := Classical.byContradiction fun hne => ih.1 hne ho
    obtain ⟨e1, e2, e3⟩ := st.2 hl hcl hfc hc'
    show es ++ o'.es = []
    rw [e1, ih.2 e2 e3 hc' ho]; rfl

/-- **the enclosing case adds exactly the four corners** -/
theorem enclosing_es (A : Arith) (pip : Pt → Path → Option PipResult) (r : Rect) (path : Path) (res : AResult)
    (h : executeInternalA A pip r path = .ok res) (henc : enclosing pip r path res = true) :
    res.es = cornerEmits path.length (if startLocsAreClockwise res.startLocs then r.asPath else r.asPath.reverse) := by
  unfold enclosing at henc
  simp only [Bool.and_eq_true, beq_iff_eq, bne_iff_ne, ne_eq] at henc
  obtain ⟨⟨⟨hfc, hsl⟩, hcont⟩, hp⟩ := henc
  rcases exec_cases h with ⟨_, rfl⟩ | ⟨_, _, _, _, rfl⟩ | ⟨_, loc0, o, fin, _, _, ho, hfin, rfl⟩
  · exact absurd rfl hsl
  · exact absurd rfl hsl
  · simp only at hfc hsl ⊢
    have hes := (aloop_no_cross_no_adds A r path (afuel path) ⟨0, loc0, .inside, .inside⟩ o ho).2 hsl rfl rfl hfc
    unfold afinish at hfin
    simp only [hfc, if_true, ne_eq, hsl, not_false_eq_true, hcont, hp] at hfin
    simp only [Except.ok.injEq] at hfin
    rw [hes, ← hfin]
    rfl

/-- one `Add(q); AddToEdge(edges_[2c], results_[0])` with a point different from the previous one -/
theorem addCorner_step (h : Heap) (p : Pt) (c : Nat) (inv : RawInv h) (hnew : h.n = 0 ∨ h.pt (h.n - 1) ≠ p) :
    ∃ h1, (∀ rest, addCorners h ((p, c) :: rest) = addCorners h1 rest) ∧ RawInv h1 ∧ h1.n = h.n + 1 ∧
      (∀ k, k < h.n → h1.pt k = h.pt k) ∧ h1.pt h.n = p ∧
      ((∀ k, k < h.n → h.edge k ≠ none) → ∀ k, k < h1.n → h1.edge k ≠ none) ∧
      (∀ m, h1.edges (m * 2 + 1) = h.edges (m * 2 + 1)) := by
  obtain ⟨h1, a, e1⟩ := addCorners_cons h p c inv
  have hn1 : h1.n = h.n + 1 := a.grows hnew
  -- `results_[0]` after the `Add` is the new node `h.n`
  have hlast : h1.n - 1 = h.n := by omega
  rw [hlast] at e1
  have sr := sameRings_addToEdge h1 (c * 2) h.n
  refine ⟨h1.addToEdge (c * 2) h.n, e1, addToEdge_rawInv h1 _ _ a.inv (by omega), by rw [sr.1]; exact hn1, ?_, ?_, ?_, ?_⟩
  · intro k hk; rw [sr.2.1]; exact a.old_pt k hk
  · rw [sr.2.1]; exact a.new_pt h.n (Nat.le_refl _) (by omega)
  · -- the new node gets its edge from `AddToEdge`, the old ones keep theirs
    intro hall k hk
    rw [sr.1, hn1] at hk
    have hold : ∀ k, k < h.n + 1 → k ≠ h.n → h1.edge k ≠ none := fun k hk e => by
      rw [a.old_edge k (by omega)]; exact hall k (by omega)
    unfold Heap.addToEdge
    split
    · rename_i e0 he0
      by_cases e : k = h.n
      · rw [e, he0]; exact Option.some_ne_none _
      · exact hold k hk e
    · by_cases e : k = h.n
      · subst e
        show upd h1.edge h.n _ h.n ≠ none
        rw [upd_same]; exact Option.some_ne_none _
      · show upd h1.edge h.n _ k ≠ none
        rw [upd_ne _ _ e]; exact hold k hk e
  · -- `AddToEdge` writes the even slot `2c` only
    intro m
    unfold Heap.addToEdge
    split
    · rw [a.edges]
    · show upd h1.edges (c * 2) _ (m * 2 + 1) = _
      rw [upd_ne _ _ (by omega : m * 2 + 1 ≠ c * 2), a.edges]

/-- an axis-parallel corner is not collinear -/
theorem cross_corner (a b c : Pt)
    (h : (a.x = b.x ∧ b.y = c.y ∧ a.y ≠ b.y ∧ b.x ≠ c.x) ∨ (a.y = b.y ∧ b.x = c.x ∧ a.x ≠ b.x ∧ b.y ≠ c.y)) :
    isCollinear a b c = false := by
  rw [Clipper.Lemmas.CleanUp.isCollinear_false_iff_cross]
  unfold cross
  rcases h with ⟨h1, h2, h3, h4⟩ | ⟨h1, h2, h3, h4⟩
  · rw [h1, ← h2]
    have : (b.x - b.x) * (b.y - a.y) - (b.y - a.y) * (c.x - b.x) = -((b.y - a.y) * (c.x - b.x)) := by simp
    rw [this]
    have := Int.mul_ne_zero (a := b.y - a.y) (b := c.x - b.x) (by omega) (by omega)
    omega
  · rw [← h1, ← h2]
    have : (b.x - a.x) * (c.y - a.y) - (a.y - a.y) * (b.x - a.x) = (b.x - a.x) * (c.y - a.y) := by simp
    rw [this]
    exact Int.mul_ne_zero (by omega) (by rw [h1]; omega)

/-- four points added in a row, each an axis-parallel corner with its neighbours (cyclically): a ring of four nodes none of
which is collinear with its neighbours -/
theorem four_corners_heap (q0 q1 q2 q3 : Pt) (k0 k1 k2 k3 : Nat) (t0 : isCollinear q3 q0 q1 = false)
    (t1 : isCollinear q0 q1 q2 = false) (t2 : isCollinear q1 q2 q3 = false) (t3 : isCollinear q2 q3 q0 = false)
    (d01 : q0 ≠ q1) (d12 : q1 ≠ q2) (d23 : q2 ≠ q3) :
    ∃ h, addCorners Heap.empty [(q0, k0), (q1, k1), (q2, k2), (q3, k3)] = .ok h ∧
      (∀ x, x < h.n → h.collinearAt x = false) ∧ (∀ k, k < h.n → h.edge k ≠ none) ∧ (∀ m, h.edges (m * 2 + 1) = []) := by
  obtain ⟨h1, s1, i1, n1, _, p1, g1, l1⟩ := addCorner_step Heap.empty q0 k0 rawInv_empty (Or.inl rfl)
  have n1' : h1.n = 1 := n1
  obtain ⟨h2, s2, i2, n2, o2, p2, g2, l2⟩ := addCorner_step h1 q1 k1 i1 (Or.inr (by rw [n1']; exact fun e => d01 (p1.symm.trans e)))
  have n2' : h2.n = 2 := by rw [n2, n1']
  have a0 : h2.pt 0 = q0 := by rw [o2 0 (by omega)]; exact p1
  have a1 : h2.pt 1 = q1 := by rw [← n1']; exact p2
  obtain ⟨h3, s3, i3, n3, o3, p3, g3, l3⟩ := addCorner_step h2 q2 k2 i2 (Or.inr (by rw [n2']; exact fun e => d12 (a1.symm.trans e)))
  have n3' : h3.n = 3 := by rw [n3, n2']
  have b0 : h3.pt 0 = q0 := by rw [o3 0 (by omega)]; exact a0
  have b1 : h3.pt 1 = q1 := by rw [o3 1 (by omega)]; exact a1
  have b2 : h3.pt 2 = q2 := by rw [← n2']; exact p3
  obtain ⟨h4, s4, i4, n4, o4, p4, g4, l4⟩ := addCorner_step h3 q3 k3 i3 (Or.inr (by rw [n3']; exact fun e => d23 (b2.symm.trans e)))
  have n4' : h4.n = 4 := by rw [n4, n3']
  have c0 : h4.pt 0 = q0 := by rw [o4 0 (by omega)]; exact b0
  have c1 : h4.pt 1 = q1 := by rw [o4 1 (by omega)]; exact b1
  have c2 : h4.pt 2 = q2 := by rw [o4 2 (by omega)]; exact b2
  have c3 : h4.pt 3 = q3 := by rw [← n3']; exact p4
  refine ⟨h4, by rw [s1, s2, s3, s4]; rfl, ?_,
    g4 (g3 (g2 (g1 (fun k hk => absurd hk (Nat.not_lt_zero k))))), fun m => by rw [l4, l3, l2, l1]; rfl⟩
  have hl := i4.link (by omega)
  rw [n4'] at hl
  have hl' : Linked h4.next h4.prev [0, 1, 2, 3, 0] := hl
  simp only [Linked] at hl'
  obtain ⟨x0, y1, x1, y2, x2, y3, x3, y0, _⟩ := hl'
  intro x hx
  rw [n4'] at hx
  unfold Heap.collinearAt
  have : x = 0 ∨ x = 1 ∨ x = 2 ∨ x = 3 := by omega
  rcases this with rfl | rfl | rfl | rfl
  · rw [y0, x0, c3, c0, c1]; exact t0
  · rw [y1, x1, c0, c1, c2]; exact t1
  · rw [y2, x2, c1, c2, c3]; exact t2
  · rw [y3, x3, c2, c3, c0]; exact t3

/-- **In the enclosing case the raw heap is the ring of the four corners, none of them collinear with its neighbours.** -/
theorem rawHeap_enclosing (A : Arith) (pip : Pt → Path → Option PipResult) (r : Rect) (hne : r.isEmpty = false)
    (path : Path) (res : AResult) (h : executeInternalA A pip r path = .ok res) (henc : enclosing pip r path res = true) :
    ∃ hp, rawHeap pip r path res = .ok hp ∧ (∀ x, x < hp.n → hp.collinearAt x = false) ∧
      (∀ k, k < hp.n → hp.edge k ≠ none) ∧ (∀ m, hp.edges (m * 2 + 1) = []) := by
  have hes := enclosing_es A pip r path res h henc
  have hd := nonempty_dims hne
  have hraw : rawHeap pip r path res = addCorners Heap.empty
      ((if startLocsAreClockwise res.startLocs then r.asPath else r.asPath.reverse).zip
        (if startLocsAreClockwise res.startLocs then [0, 1, 2, 3] else [3, 2, 1, 0])) := by
    unfold rawHeap
    simp only [henc, if_true, hes]
    cases startLocsAreClockwise res.startLocs <;>
      simp [cornerEmits, Rect.asPath, Heap.addAll]
  rw [hraw]
  have hv : r.top ≠ r.bottom := by omega
  have hh : r.left ≠ r.right := by omega
  cases startLocsAreClockwise res.startLocs
  · obtain ⟨hp, e, nc, g, l⟩ := four_corners_heap r.c3 r.c2 r.c1 r.c0 3 2 1 0
      (cross_corner _ _ _ (Or.inl ⟨rfl, rfl, hv, hh⟩)) (cross_corner _ _ _ (Or.inr ⟨rfl, rfl, hh, hv.symm⟩))
      (cross_corner _ _ _ (Or.inl ⟨rfl, rfl, hv.symm, hh.symm⟩)) (cross_corner _ _ _ (Or.inr ⟨rfl, rfl, hh.symm, hv⟩))
      (fun e => hh (congrArg Pt.x e)) (fun e => hv (congrArg Pt.y e).symm) (fun e => hh (congrArg Pt.x e).symm)
    exact ⟨hp, e, nc, g, l⟩
  · obtain ⟨hp, e, nc, g, l⟩ := four_corners_heap r.c0 r.c1 r.c2 r.c3 0 1 2 3
      (cross_corner _ _ _ (Or.inl ⟨rfl, rfl, hv.symm, hh⟩)) (cross_corner _ _ _ (Or.inr ⟨rfl, rfl, hh, hv⟩))
      (cross_corner _ _ _ (Or.inl ⟨rfl, rfl, hv, hh.symm⟩)) (cross_corner _ _ _ (Or.inr ⟨rfl, rfl, hh.symm, hv.symm⟩))
      (fun e => hh (congrArg Pt.x e)) (fun e => hv (congrArg Pt.y e)) (fun e => hh (congrArg Pt.x e).symm)
    exact ⟨hp, e, nc, g, l⟩

end Clipper.Lemmas.RCT

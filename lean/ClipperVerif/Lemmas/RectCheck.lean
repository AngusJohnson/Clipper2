/-
Helper lemmas for C02: crossing numbers of axis-parallel edges in terms of coordinate comparisons only
("locators"), the sorted-distinct grid, and existence of a probe in every cell.
-/
import ClipperVerif.Model.RectCheck
import ClipperVerif.Lemmas.WindSpec
namespace Clipper.RectCheck
open Clipper Clipper.WindSpec

def ind (b : Bool) : Int := if b then 1 else 0

/-- crossing contribution of an axis-parallel edge `a → b` for a point known only through its locators:
`lx g` = "the point's x is below grid value g", `ly g` likewise for y. -/
def crossB (lx ly : Int → Bool) (a b : Pt) : Int := ind (lx a.x) * (ind (ly b.y) - ind (ly a.y))

def windPathB (lx ly : Int → Bool) (path : Path) : Int :=
  ((edgesOf path).map (fun e => crossB lx ly e.1 e.2)).sum

def windB (lx ly : Int → Bool) (ps : Paths) : Int := (ps.map (windPathB lx ly)).sum

/-- locator of the coordinate `c` against grid values scaled by `k` -/
def loc (k c : Int) : Int → Bool := fun g => decide (c < k * g)

theorem crossing_scale_axis {a b : Pt} (k : Int) (p : Pt) (h : a.x = b.x ∨ a.y = b.y) :
    crossing p (Pt.scale k a) (Pt.scale k b) = crossB (loc k p.x) (loc k p.y) a b := by
  rw [crossing_axis (by rcases h with h | h <;> simp only [Pt.scale, h, true_or, or_true])]
  simp only [Pt.scale, crossB, loc, ind, above, decide_eq_true_eq]
  -- the two sides now differ in their `Decidable` instances only
  rfl

theorem axisEdge_parallel {e : Pt × Pt} (h : axisEdge e = true) : e.1.x = e.2.x ∨ e.1.y = e.2.y := by
  unfold axisEdge at h
  by_cases hx : e.1.x = e.2.x
  · exact Or.inl hx
  · right
    have : (e.1.x == e.2.x) = false := by simpa using hx
    rw [this] at h
    simpa using h

theorem windPath_scale_rect (k : Int) (p : Pt) {path : Path} (h : isRectPath path = true) :
    windPath (scalePath k path) p = windPathB (loc k p.x) (loc k p.y) path :=
  windPath_map_eq _ path p _ fun e he => crossing_scale_axis k p (axisEdge_parallel (List.all_eq_true.mp h e he))

theorem wind_scale_rect (k : Int) (p : Pt) {ps : Paths} (h : isRectilinear ps = true) :
    wind (scalePaths k ps) p = windB (loc k p.x) (loc k p.y) ps :=
  wind_map_eq _ ps p _ fun path hp => windPath_scale_rect k p (List.all_eq_true.mp h path hp)

theorem mem_xsOf {ps : Paths} {x : Int} : x ∈ xsOf ps ↔ ∃ path ∈ ps, ∃ v ∈ path, v.x = x := by
  simp only [xsOf, List.mem_flatMap, List.mem_map]

theorem mem_ysOf {ps : Paths} {y : Int} : y ∈ ysOf ps ↔ ∃ path ∈ ps, ∃ v ∈ path, v.y = y := by
  simp only [ysOf, List.mem_flatMap, List.mem_map]

theorem windB_congr {lx lx' ly ly' : Int → Bool} {ps : Paths}
    (hx : ∀ g ∈ xsOf ps, lx g = lx' g) (hy : ∀ g ∈ ysOf ps, ly g = ly' g) :
    windB lx ly ps = windB lx' ly' ps := by
  unfold windB
  congr 1
  apply List.map_congr_left
  intro path hp
  unfold windPathB
  congr 1
  apply List.map_congr_left
  intro e he
  obtain ⟨m1, m2⟩ := mem_edgesOf he
  have x1 := hx e.1.x (mem_xsOf.mpr ⟨path, hp, e.1, m1, rfl⟩)
  have y1 := hy e.1.y (mem_ysOf.mpr ⟨path, hp, e.1, m1, rfl⟩)
  have y2 := hy e.2.y (mem_ysOf.mpr ⟨path, hp, e.2, m2, rfl⟩)
  simp only [crossB, x1, y1, y2]

/-- The winding number of a scaled rectilinear path set depends on the point only through its locators at the vertex
coordinates. -/
theorem wind_scale_congr {X : Paths} (hr : isRectilinear X = true) {k k' : Int} {p p' : Pt}
    (hx : ∀ g ∈ xsOf X, loc k p.x g = loc k' p'.x g) (hy : ∀ g ∈ ysOf X, loc k p.y g = loc k' p'.y g) :
    wind (scalePaths k X) p = wind (scalePaths k' X) p' := by
  rw [wind_scale_rect k p hr, wind_scale_rect k' p' hr]
  exact windB_congr hx hy

theorem mem_insertU {a x : Int} {l : List Int} : x ∈ insertU a l ↔ x = a ∨ x ∈ l := by
  induction l with
  | nil => simp [insertU]
  | cons b r ih =>
    simp only [insertU]
    split
    · simp
    · split
      · rename_i h; subst h; simp
      · simp only [List.mem_cons, ih]
        constructor
        · rintro (h | h | h) <;> simp [h]
        · rintro (h | h | h) <;> simp [h]

theorem mem_sortU {x : Int} {l : List Int} : x ∈ sortU l ↔ x ∈ l := by
  induction l with
  | nil => simp [sortU]
  | cons a r ih =>
    have : sortU (a :: r) = insertU a (sortU r) := rfl
    rw [this, mem_insertU, ih]; simp

theorem sorted_insertU {a : Int} {l : List Int} (h : l.Pairwise (· < ·)) : (insertU a l).Pairwise (· < ·) := by
  induction l with
  | nil => simp [insertU]
  | cons b r ih =>
    simp only [insertU]
    rw [List.pairwise_cons] at h
    split
    · rename_i hab
      rw [List.pairwise_cons]
      refine ⟨?_, List.pairwise_cons.mpr h⟩
      intro y hy
      rcases List.mem_cons.mp hy with rfl | hy
      · exact hab
      · exact Int.lt_trans hab (h.1 y hy)
    · split
      · exact List.pairwise_cons.mpr h
      · rename_i h1 h2
        rw [List.pairwise_cons]
        refine ⟨?_, ih h.2⟩
        intro y hy
        rcases mem_insertU.mp hy with rfl | hy
        · omega
        · exact h.1 y hy

theorem sorted_sortU (l : List Int) : (sortU l).Pairwise (· < ·) := by
  induction l with
  | nil => simp [sortU]
  | cons a r ih => exact sorted_insertU ih

theorem mem_gridXs {subj clip sol : Paths} {g : Int} :
    g ∈ gridXs subj clip sol ↔ g ∈ xsOf subj ∨ g ∈ xsOf clip ∨ g ∈ xsOf sol := by
  simp only [gridXs, mem_sortU, List.mem_append]

theorem mem_gridYs {subj clip sol : Paths} {g : Int} :
    g ∈ gridYs subj clip sol ↔ g ∈ ysOf subj ∨ g ∈ ysOf clip ∨ g ∈ ysOf sol := by
  simp only [gridYs, mem_sortU, List.mem_append]

theorem head_le_of_mem {a g : Int} {r : List Int} (hs : (a :: r).Pairwise (· < ·)) (hg : g ∈ a :: r) : a ≤ g := by
  rcases List.mem_cons.mp hg with rfl | hg
  · exact Int.le_refl _
  · exact Int.le_of_lt ((List.pairwise_cons.mp hs).1 g hg)

/-- a locator is monotone: being below `g` implies being below every larger grid value -/
def Mono (lx : Int → Bool) : Prop := ∀ g g', g ≤ g' → lx g = true → lx g' = true

theorem mono_loc {k : Int} (hk : 0 < k) (c : Int) : Mono (loc k c) := by
  intro g g' hg h
  simp only [loc, decide_eq_true_eq] at *
  exact Int.lt_of_lt_of_le h (Int.mul_le_mul_of_nonneg_left hg (Int.le_of_lt hk))

theorem exists_mid {lx : Int → Bool} (hm : Mono lx) :
    ∀ (r : List Int) (a : Int), (a :: r).Pairwise (· < ·) → lx a = false →
      ∃ c ∈ mids (a :: r), ∀ g ∈ a :: r, lx g = loc 2 c g := by
  intro r
  induction r with
  | nil =>
    intro a _ ha
    refine ⟨2 * a + 1, List.mem_singleton_self _, fun g hg => ?_⟩
    rw [List.mem_singleton.mp hg, ha]
    exact (decide_eq_false (by omega)).symm
  | cons b r ih =>
    intro a hs ha
    rw [List.pairwise_cons] at hs
    have hab : a < b := hs.1 b List.mem_cons_self
    cases hb : lx b
    · -- the locator changes further right: the probe found there is right of `a` as well
      obtain ⟨c, hc, hall⟩ := ih b hs.2 hb
      refine ⟨c, List.mem_cons_of_mem _ hc, fun g hg => ?_⟩
      rcases List.mem_cons.mp hg with rfl | hg
      · have hcb : ¬ c < 2 * b := of_decide_eq_false ((hall b List.mem_cons_self).symm.trans hb)
        rw [ha]
        exact (decide_eq_false (by omega)).symm
      · exact hall g hg
    · -- the locator changes between `a` and `b`: probe their mid point
      refine ⟨a + b, List.mem_cons_self, fun g hg => ?_⟩
      rcases List.mem_cons.mp hg with rfl | hg
      · rw [ha]
        exact (decide_eq_false (by omega)).symm
      · have hbg := head_le_of_mem hs.2 hg
        rw [hm b g hbg hb]
        exact (decide_eq_true (by omega)).symm

theorem exists_probe {lx : Int → Bool} (hm : Mono lx) {l : List Int} (hs : l.Pairwise (· < ·)) :
    ∃ c ∈ probes l, ∀ g ∈ l, lx g = loc 2 c g := by
  cases l with
  | nil => exact ⟨0, List.mem_singleton_self _, fun _ h => absurd h List.not_mem_nil⟩
  | cons a r =>
    cases ha : lx a
    · obtain ⟨c, hc, hall⟩ := exists_mid hm r a hs ha
      exact ⟨c, List.mem_cons_of_mem _ hc, hall⟩
    · refine ⟨2 * a - 1, List.mem_cons_self, fun g hg => ?_⟩
      have hag := head_le_of_mem hs hg
      rw [hm a g hag ha]
      exact (decide_eq_true (by omega)).symm

theorem mem_gaps_mids {g : Int × Int} : ∀ {l : List Int}, g ∈ gaps l → g.1 ∈ mids l
  | [], h => by simp [gaps] at h
  | [_], h => by simp [gaps] at h
  | a :: b :: r, h => by
    simp only [gaps, List.mem_cons] at h
    simp only [mids, List.mem_cons]
    rcases h with h | h
    · left; rw [h]
    · right; exact mem_gaps_mids h

theorem mem_gaps_probes {g : Int × Int} {l : List Int} (h : g ∈ gaps l) : g.1 ∈ probes l := by
  cases l with
  | nil => simp [gaps] at h
  | cons a r => simp only [probes]; exact List.mem_cons_of_mem _ (mem_gaps_mids h)

theorem mem_cellCentres {xs ys : List Int} {cx cy : Int} (hx : cx ∈ probes xs) (hy : cy ∈ probes ys) :
    (⟨cx, cy⟩ : Pt) ∈ cellCentres xs ys := by
  simp only [cellCentres, List.mem_flatMap, List.mem_map]
  exact ⟨cx, hx, cy, hy, rfl⟩

end Clipper.RectCheck

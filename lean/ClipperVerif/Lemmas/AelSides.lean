/-
Lemmas for the side-bookkeeping model (`Model/AelSides.lean`): the automaton view of the invariant, the Boolean cores of the
`IntersectEdges` decision, `Split`, and invariant preservation for every event.  Property theorems are in `Props/C11Sides.lean`.
-/
import ClipperVerif.Model.AelSides
import ClipperVerif.Props.C01
namespace Clipper.Model
open Clipper

theorem drop_lt_length {α} (l : List α) (i : Nat) (a : α) (tl : List α) (h : l.drop i = a :: tl) : i < l.length := by
  apply Decidable.byContradiction; intro hc
  rw [List.drop_eq_nil_of_le (by omega)] at h; cases h

theorem take_length_of_drop {α} (l : List α) (i : Nat) (a : α) (tl : List α) (h : l.drop i = a :: tl) :
    (l.take i).length = i := by
  have := drop_lt_length l i a tl h
  simp [List.length_take]; omega

theorem getElem?_splice {α} (l : List α) (i : Nat) (a b : α) (rest : List α) (h : l.drop i = a :: b :: rest)
    (a' b' : α) (k : Nat) :
    (l.take i ++ a' :: b' :: rest)[k]? = if k = i then some a' else if k = i + 1 then some b' else l[k]? := by
  rw [List.getElem?_append, take_length_of_drop l i a _ h]
  split
  next hk => rw [List.getElem?_take_of_lt hk, if_neg (by omega), if_neg (by omega)]
  next hk =>
    obtain ⟨m, rfl⟩ : ∃ m, k = i + m := ⟨k - i, by omega⟩
    rw [Nat.add_sub_cancel_left, ← List.getElem?_drop, h]
    rcases m with _ | _ | m <;> simp <;> omega

theorem window_elems {α} (l : List α) (i : Nat) (a b : α) (rest : List α) (h : l.drop i = a :: b :: rest) :
    l[i]? = some a ∧ l[i + 1]? = some b := by
  have h0 := List.getElem?_drop (xs := l) (i := i) (j := 0)
  have h1 := List.getElem?_drop (xs := l) (i := i) (j := 1)
  rw [h] at h0 h1
  exact ⟨h0.symm, h1.symm⟩

theorem window_exists {α} (l : List α) (i : Nat) (h : i + 1 < l.length) : ∃ a b rest, l.drop i = a :: b :: rest := by
  refine ⟨l[i], l[i + 1], l.drop (i + 2), ?_⟩
  rw [List.drop_eq_getElem_cons (by omega), List.drop_eq_getElem_cons (by omega)]

theorem window_length {α} (l : List α) (i : Nat) (a b : α) (rest : List α) (h : l.drop i = a :: b :: rest) : i + 1 < l.length := by
  have := congrArg List.length h
  simp at this; omega

/-- state of the join automaton after a prefix (`none` = the prefix is already ill-formed) -/
def joinRun : Bool → List SEdge → Option Bool
  | p, [] => some p
  | p, x :: xs =>
    if p then (if x.join = .left then joinRun false xs else none)
    else
      match x.join with
      | .none => joinRun false xs
      | .right => joinRun true xs
      | .left => none

theorem joinOK_append (xs ys : List SEdge) : ∀ p, joinOKFrom p (xs ++ ys) = true ↔
    ∃ q, joinRun p xs = some q ∧ joinOKFrom q ys = true := by
  induction xs with
  | nil => intro p; simp [joinRun]
  | cons x xs ih =>
    intro p
    cases p <;> cases hj : x.join <;> simp [joinOKFrom, joinRun, hj, ih]

theorem joinRun_append (xs ys : List SEdge) : ∀ p, joinRun p (xs ++ ys) =
    match joinRun p xs with
    | some q => joinRun q ys
    | none => none := by
  induction xs with
  | nil => intro p; simp [joinRun]
  | cons x xs ih =>
    intro p
    cases p <;> cases hj : x.join <;> simp [joinRun, hj, ih]

/-- the state after a well-formed prefix says whether its last edge is joined to the right -/
theorem joinRun_last (xs : List SEdge) (p q : Bool) (h : joinRun p xs = some q) :
    q = match xs.getLast? with
        | some x => x.join == .right
        | none => p := by
  rcases List.eq_nil_or_concat xs with rfl | ⟨ys, y, rfl⟩
  · simp [joinRun] at h; simp [h]
  · rw [List.concat_eq_append] at h ⊢
    rw [joinRun_append] at h
    simp only [List.getLast?_append, List.getLast?_singleton]
    cases h1 : joinRun p ys with
    | none => simp [h1] at h
    | some p1 =>
      simp only [h1] at h
      cases p1 <;> cases hj : y.join <;> simp [joinRun, hj] at h <;> simp [h, hj]

/-- state of the alternation automaton after a prefix: the side expected of the next hot closed edge -/
def altRun : Bool → List SEdge → Option Bool
  | b, [] => some b
  | b, x :: xs =>
    match tracked x with
    | some f => if f = b then altRun (!b) xs else none
    | none => altRun b xs

theorem alt_append (xs ys : List SEdge) : ∀ b, altFrom b (xs ++ ys) = true ↔
    ∃ q, altRun b xs = some q ∧ altFrom q ys = true := by
  induction xs with
  | nil => intro b; simp [altRun]
  | cons x xs ih =>
    intro b
    cases ht : tracked x with
    | none => simp [altFrom, altRun, ht, ih]
    | some f =>
      by_cases hf : f = b
      · simp [altFrom, altRun, ht, ih, hf]
      · simp [altFrom, altRun, ht, hf]

theorem prevHot_append (xs ys : List SEdge) : prevHot (xs ++ ys) =
    match prevHot xs with
    | some f => some f
    | none => prevHot ys := by
  induction xs with
  | nil => simp [prevHot]
  | cons x xs ih =>
    cases ht : tracked x <;> simp [prevHot, ht, ih]

/-- **what `GetPrevHotEdge` + `OutrecIsAscending` see**: after a well-formed prefix the expected side is the opposite of the nearest hot
closed edge's side (and the start value when there is none) -/
theorem altRun_prevHot (pre : List SEdge) : ∀ b q, altRun b pre = some q →
    q = match prevHot pre.reverse with
        | some pf => !pf
        | none => b := by
  induction pre with
  | nil => intro b q h; simp [altRun] at h; simp [prevHot, h]
  | cons x xs ih =>
    intro b q h
    rw [List.reverse_cons, prevHot_append]
    cases ht : tracked x with
    | none =>
      simp only [altRun, ht] at h
      have := ih b q h
      cases hp : prevHot xs.reverse <;> simp [hp] at this ⊢ <;> simp [prevHot, ht, this]
    | some f =>
      simp only [altRun, ht] at h
      split at h
      case isFalse => cases h
      case isTrue hf =>
        have := ih (!b) q h
        cases hp : prevHot xs.reverse <;> simp [hp] at this ⊢ <;> simp [prevHot, ht, this, hf]

/-- what `JoinOutrecPaths` may do to a third edge: at most the index of its record changes (`Model.relabelFn`) -/
def ShapePres (g : SEdge → SEdge) : Prop :=
  ∀ x, (g x).e = x.e ∧ (g x).join = x.join ∧ (g x).orec.map (·.front) = x.orec.map (·.front)

theorem shapePres_id : ShapePres id := fun _ => ⟨rfl, rfl, rfl⟩

theorem shapePres_relabel (B : Nat) (f : Bool) (A : Nat) : ShapePres (relabelFn B f A) := by
  intro x
  unfold relabelFn
  cases hr : x.orec with
  | none => simp [hr]
  | some r =>
    by_cases hc : r.id = B ∧ r.front = f
    · simp [hc]
    · simp [hc, hr]

theorem tracked_shape {g : SEdge → SEdge} (hg : ShapePres g) (x : SEdge) : tracked (g x) = tracked x := by
  obtain ⟨h1, _, h3⟩ := hg x
  simp only [tracked, h1, h3]

theorem localOK_shape {g : SEdge → SEdge} (hg : ShapePres g) (x : SEdge) : localOK (g x) = localOK x := by
  obtain ⟨h1, h2, h3⟩ := hg x
  have h4 : (g x).orec.isSome = x.orec.isSome := by simpa using congrArg Option.isSome h3
  have h5 : (g x).orec.isNone = x.orec.isNone := by simpa using congrArg Option.isNone h3
  simp only [localOK, h1, h2, h4, h5]

theorem erase_map_shape {g : SEdge → SEdge} (hg : ShapePres g) (l : List SEdge) : erase (l.map g) = erase l := by
  simp only [erase, List.map_map]
  exact List.map_congr_left fun x _ => (hg x).1

theorem erase_splice (pre mid' rest : List SEdge) (g : SEdge → SEdge) (hg : ShapePres g) :
    erase (pre.map g ++ (mid' ++ rest.map g)) = erase pre ++ (erase mid' ++ erase rest) := by
  have h1 := erase_map_shape hg pre
  have h2 := erase_map_shape hg rest
  simp only [erase] at h1 h2 ⊢
  simp [h1, h2]

theorem altFrom_map_shape {g : SEdge → SEdge} (hg : ShapePres g) (l : List SEdge) : ∀ b, altFrom b (l.map g) = altFrom b l := by
  induction l with
  | nil => intro b; rfl
  | cons x xs ih => intro b; simp only [List.map_cons, altFrom, tracked_shape hg, ih]

theorem altRun_map_shape {g : SEdge → SEdge} (hg : ShapePres g) (l : List SEdge) : ∀ b, altRun b (l.map g) = altRun b l := by
  induction l with
  | nil => intro b; rfl
  | cons x xs ih => intro b; simp only [List.map_cons, altRun, tracked_shape hg, ih]

theorem joinOKFrom_map_shape {g : SEdge → SEdge} (hg : ShapePres g) (l : List SEdge) : ∀ p, joinOKFrom p (l.map g) = joinOKFrom p l := by
  induction l with
  | nil => intro p; rfl
  | cons x xs ih => intro p; simp only [List.map_cons, joinOKFrom, (hg x).2.1, ih]

theorem joinRun_map_shape {g : SEdge → SEdge} (hg : ShapePres g) (l : List SEdge) : ∀ p, joinRun p (l.map g) = joinRun p l := by
  induction l with
  | nil => intro p; rfl
  | cons x xs ih => intro p; simp only [List.map_cons, joinRun, (hg x).2.1, ih]

theorem prevHot_map_shape {g : SEdge → SEdge} (hg : ShapePres g) (l : List SEdge) : prevHot (l.map g) = prevHot l := by
  induction l with
  | nil => rfl
  | cons x xs ih => simp only [List.map_cons, prevHot, tracked_shape hg, ih]

theorem all_localOK_map_shape {g : SEdge → SEdge} (hg : ShapePres g) (l : List SEdge) :
    (l.map g).all localOK = l.all localOK := by
  induction l with
  | nil => rfl
  | cons x xs ih => simp only [List.map_cons, List.all_cons, localOK_shape hg, ih]

theorem addLocalMaxFn_shape (ra rb : Rec) (g : SEdge → SEdge) (h : addLocalMaxFn ra rb = .ok g) : ShapePres g := by
  unfold addLocalMaxFn at h
  split at h
  · cases h
  · split at h
    · cases h; exact shapePres_id
    · split at h <;> (cases h; exact shapePres_relabel _ _ _)

theorem addLocalMaxFn_ok (ra rb : Rec) (h : ra.front ≠ rb.front) : ∃ g, addLocalMaxFn ra rb = .ok g := by
  unfold addLocalMaxFn
  simp only [h, if_false]
  split
  · exact ⟨_, rfl⟩
  · split <;> exact ⟨_, rfl⟩

/-- the part of the invariant that is about the new fields -/
def Side (l : List SEdge) : Prop :=
  l.all localOK = true ∧ joinOKFrom false l = true ∧ altFrom true l = true

/-- **the side invariant** of an AEL: the C01 invariant on the erased list; a closed edge is hot iff it owns a record or is joined, never both;
joined edges come as adjacent pairs; the sides of the hot closed edges alternate front, back, front, … from the left -/
structure LInv (cfg : Cfg) (l : List SEdge) : Prop where
  inv : Inv cfg (erase l)
  side : Side l

def SInv (cfg : Cfg) (s : SState) : Prop := LInv cfg s.ael

/-- what the invariant says about the surroundings of a window of the list: the states `p`, `q` in which the two automata enter it and
the states `p2`, `q2` in which they have to leave it -/
structure Ctx (pre rest : List SEdge) (p q p2 q2 : Bool) : Prop where
  jpre : joinRun false pre = some p
  apre : altRun true pre = some q
  jrest : joinOKFrom p2 rest = true
  arest : altFrom q2 rest = true
  lpre : pre.all localOK = true
  lrest : rest.all localOK = true

theorem Ctx.map {pre rest : List SEdge} {p q p2 q2 : Bool} (c : Ctx pre rest p q p2 q2) {g : SEdge → SEdge}
    (hg : ShapePres g) : Ctx (pre.map g) (rest.map g) p q p2 q2 :=
  ⟨(joinRun_map_shape hg ..).trans c.jpre, (altRun_map_shape hg ..).trans c.apre, (joinOKFrom_map_shape hg ..).trans c.jrest,
    (altFrom_map_shape hg ..).trans c.arest, (all_localOK_map_shape hg _).trans c.lpre, (all_localOK_map_shape hg _).trans c.lrest⟩

theorem side_ctx (pre mid rest : List SEdge) : Side (pre ++ (mid ++ rest)) ↔
    ∃ p q p2 q2, Ctx pre rest p q p2 q2 ∧ joinRun p mid = some p2 ∧ altRun q mid = some q2 ∧ mid.all localOK = true := by
  simp only [Side, joinOK_append, alt_append, List.all_append, Bool.and_eq_true]
  constructor
  · rintro ⟨⟨l1, l2, l3⟩, ⟨p, hp, p2, hp2, h2⟩, q, hq, q2, hq2, h3⟩
    exact ⟨p, q, p2, q2, ⟨hp, hq, h2, h3, l1, l3⟩, hp2, hq2, l2⟩
  · rintro ⟨p, q, p2, q2, c, hp2, hq2, l2⟩
    exact ⟨⟨c.lpre, l2, c.lrest⟩, ⟨p, c.jpre, p2, hp2, c.jrest⟩, q, c.apre, q2, hq2, c.arest⟩

theorem side_rebuild {pre rest : List SEdge} {p q p2 q2 : Bool} (c : Ctx pre rest p q p2 q2)
    (mid' : List SEdge) (m1 : joinRun p mid' = some p2) (m2 : altRun q mid' = some q2)
    (m3 : mid'.all localOK = true) : Side (pre ++ (mid' ++ rest)) :=
  (side_ctx _ _ _).mpr ⟨p, q, p2, q2, c, m1, m2, m3⟩

/-- the expected side after a prefix, as `AddLocalMinPoly` computes it from `GetPrevHotEdge` -/
theorem minFront1_eq (pre : List SEdge) (q : Bool) (h : altRun true pre = some q) (isNew : Bool) :
    minFront1 (prevHot pre.reverse) isNew = (q == isNew) := by
  have := altRun_prevHot pre true q h
  cases hp : prevHot pre.reverse with
  | none => simp [hp] at this; subst this; cases isNew <;> rfl
  | some pf => simp [hp] at this; subst this; cases pf <;> cases isNew <;> rfl

def keyOf (x : SEdge) : Option (Nat × Bool) := x.orec.map (fun r => (r.id, r.front))

/-- how many edges of `l` claim side `k.2` of record `k.1` -/
def cnt (k : Nat × Bool) : List SEdge → Nat
  | [] => 0
  | x :: xs => (if keyOf x = some k then 1 else 0) + cnt k xs

/-- all record ids in use are below `n` and no two edges claim the same side of the same record -/
def RecsOK (n : Nat) (l : List SEdge) : Prop :=
  ∀ k : Nat × Bool, cnt k l ≤ 1 ∧ (n ≤ k.1 → cnt k l = 0)

theorem cnt_append (k : Nat × Bool) (l1 l2 : List SEdge) : cnt k (l1 ++ l2) = cnt k l1 + cnt k l2 := by
  induction l1 with
  | nil => simp [cnt]
  | cons x xs ih => simp only [List.cons_append, cnt, ih]; omega

theorem cnt_eq_count (k : Nat × Bool) (l : List SEdge) : cnt k l = (recKeys l).count k := by
  induction l with
  | nil => rfl
  | cons x xs ih =>
    unfold recKeys at ih ⊢
    cases hx : x.orec with
    | none => simp [cnt, keyOf, hx, ih]
    | some r =>
      simp only [cnt, keyOf, hx, Option.map_some, Option.some.injEq, List.filterMap_cons, List.count_cons, ih]
      by_cases hk : (r.id, r.front) = k
      · simp [hk]; omega
      · simp [hk]

theorem checkRecs_iff (s : SState) : checkRecs s = true ↔ RecsOK s.next s.ael := by
  unfold checkRecs RecsOK
  simp only [Bool.and_eq_true, List.all_eq_true, decide_eq_true_eq, List.nodup_iff_count]
  constructor
  · intro ⟨h1, h2⟩ k
    rw [cnt_eq_count]
    refine ⟨h2 k, fun hk => ?_⟩
    apply List.count_eq_zero.mpr
    intro hm; have := h1 k hm; omega
  · intro h
    refine ⟨fun k hk => ?_, fun k => by rw [← cnt_eq_count]; exact (h k).1⟩
    apply Decidable.byContradiction; intro hc
    have := (h k).2 (by omega)
    rw [cnt_eq_count] at this
    exact (List.count_eq_zero.mp this) hk

theorem recsOK_mono (n n' : Nat) (l : List SEdge) (hn : n ≤ n') (h : RecsOK n l) : RecsOK n' l :=
  fun k => ⟨(h k).1, fun hk => (h k).2 (by omega)⟩

/-- window replacement by a window whose keys are dominated, key by key -/
theorem recsOK_window (n : Nat) (pre mid mid' rest : List SEdge) (h : RecsOK n (pre ++ (mid ++ rest)))
    (hm : ∀ k, cnt k mid' ≤ cnt k mid) : RecsOK n (pre ++ (mid' ++ rest)) := by
  intro k
  have := h k
  have := hm k
  simp only [cnt_append] at *
  omega

/-- two edges with the keys of two others, in either order -/
theorem cnt_pair_le (k : Nat × Bool) (x y a b : SEdge)
    (h : (keyOf x = keyOf b ∧ keyOf y = keyOf a) ∨ (keyOf x = keyOf a ∧ keyOf y = keyOf b)) : cnt k [x, y] ≤ cnt k [a, b] := by
  simp only [cnt]
  rcases h with ⟨h1, h2⟩ | ⟨h1, h2⟩ <;> rw [h1, h2] <;> omega

/-- a window with two fresh keys `(n, f)`, `(n, !f)` in place of one without keys -/
theorem recsOK_fresh (n : Nat) (pre mid rest : List SEdge) (x y : SEdge) (f : Bool) (h : RecsOK n (pre ++ (mid ++ rest)))
    (hm : ∀ k, cnt k mid = 0) (hx : x.orec = some ⟨n, f⟩) (hy : y.orec = some ⟨n, !f⟩) :
    RecsOK (n + 1) (pre ++ (x :: y :: rest)) := by
  intro ⟨i, b⟩
  have h1 := h (i, b)
  have h2 := hm (i, b)
  simp only [cnt_append, cnt, keyOf, hx, hy, Option.map_some, Option.some.injEq, Prod.mk.injEq] at *
  by_cases hi : n = i
  · -- record `n` is new: only `x` and `y` claim it, on different sides
    subst hi
    have := h1.2 (Nat.le_refl _)
    cases f <;> cases b <;> simp <;> omega
  · simp only [hi, false_and, if_false]
    exact ⟨by omega, fun hk => by have := h1.2 (by omega); omega⟩

theorem keyOf_relabel (B : Nat) (f : Bool) (A : Nat) (x : SEdge) :
    keyOf (relabelFn B f A x) = if keyOf x = some (B, f) then some (A, f) else keyOf x := by
  unfold relabelFn keyOf
  cases hx : x.orec with
  | none => simp [hx]
  | some r =>
    by_cases hc : r.id = B ∧ r.front = f
    · simp [hc]
    · have : ¬ (r.id, r.front) = (B, f) := by intro e; simp at e; exact hc e
      simp [hc, hx, this]

theorem cnt_relabel (B : Nat) (f : Bool) (A : Nat) (hAB : A ≠ B) (k : Nat × Bool) (l : List SEdge) :
    cnt k (l.map (relabelFn B f A)) =
      if k = (A, f) then cnt (A, f) l + cnt (B, f) l else if k = (B, f) then 0 else cnt k l := by
  induction l with
  | nil => simp [cnt]
  | cons x xs ih =>
    simp only [List.map_cons, cnt, ih, keyOf_relabel]
    have hne : (A, f) ≠ (B, f) := by intro e; simp at e; exact hAB e
    by_cases h1 : keyOf x = some (B, f)
    · simp only [h1, if_true, Option.some.injEq]
      by_cases k1 : k = (A, f)
      · subst k1; simp [hne.symm]; omega
      · by_cases k2 : k = (B, f)
        · subst k2; simp [hne.symm, hAB]
        · simp [k1, k2, Ne.symm k1, Ne.symm k2]
    · simp only [h1, if_false]
      by_cases k1 : k = (A, f)
      · subst k1
        simp; omega
      · by_cases k2 : k = (B, f)
        · subst k2; simp [h1, k1]
        · simp [k1, k2]

/-- relabelling record `B`'s side `f` to a side `(A, f)` that nobody claims -/
theorem recsOK_relabel (n : Nat) (l : List SEdge) (A B : Nat) (f : Bool) (hAB : A ≠ B) (hA : A < n)
    (h0 : cnt (A, f) l = 0) (h : RecsOK n l) : RecsOK n (l.map (relabelFn B f A)) := by
  intro k
  have hB := h (B, f)
  rw [cnt_relabel B f A hAB]
  split
  next e => subst e; exact ⟨by omega, fun hn => absurd hn (by simp only; omega)⟩
  next =>
    split
    · exact ⟨Nat.zero_le _, fun _ => rfl⟩
    · exact h k

/-- `AddLocalMaxPoly` on the window `[a, b]`: the two edges lose their records, the surviving record inherits the other edge of the dying one -/
theorem recsOK_localMax (n : Nat) (pre rest mid' : List SEdge) (a b : SEdge) (ra rb : Rec) (g : SEdge → SEdge)
    (hra : a.orec = some ra) (hrb : b.orec = some rb) (hne : ra.front ≠ rb.front) (hg : addLocalMaxFn ra rb = .ok g)
    (hm : ∀ k, cnt k mid' = 0) (h : RecsOK n (pre ++ (a :: b :: rest))) :
    RecsOK n (pre.map g ++ (mid' ++ rest.map g)) := by
  -- without `a` and `b` nobody claims their keys, and both records exist
  have hL : RecsOK n (pre ++ ([] ++ rest)) := recsOK_window n pre [a, b] [] rest h fun k => Nat.zero_le _
  have key : ∀ r : Rec, cnt (r.id, r.front) [a, b] ≥ 1 → cnt (r.id, r.front) (pre ++ rest) = 0 ∧ r.id < n := by
    intro r hx
    have := h (r.id, r.front)
    have e : cnt (r.id, r.front) (a :: b :: rest) = cnt (r.id, r.front) [a, b] + cnt (r.id, r.front) rest :=
      cnt_append _ [a, b] rest
    simp only [cnt_append] at this ⊢
    exact ⟨by omega, by have := this.2; omega⟩
  obtain ⟨ha0, han⟩ := key ra (by simp [cnt, keyOf, hra])
  obtain ⟨hb0, hbn⟩ := key rb (by simp [cnt, keyOf, hrb])
  have fin : RecsOK n ((pre ++ rest).map g) → RecsOK n (pre.map g ++ (mid' ++ rest.map g)) := fun h1 =>
    recsOK_window n _ [] mid' _ (by rwa [List.map_append] at h1) fun k => Nat.le_of_eq (hm k)
  unfold addLocalMaxFn at hg
  simp only [hne, if_false] at hg
  split at hg
  · cases hg; exact fin (by rwa [List.map_id])
  next hid =>
    split at hg <;> cases hg
    · exact fin (recsOK_relabel n _ _ _ _ hid han ha0 hL)
    · exact fin (recsOK_relabel n _ _ _ _ (Ne.symm hid) hbn hb0 hL)

theorem splitPair_eq (i : Nat) (s : SState) (a b : SEdge) (rest : List SEdge) (h : s.ael.drop i = a :: b :: rest) :
    splitPair i s = .ok
      { ael := s.ael.take i ++ { a with join := .none, orec := some (minRecs (s.ael.take i) true s.next).1 } ::
                { b with join := .none, orec := some (minRecs (s.ael.take i) true s.next).2 } :: rest,
        next := s.next + 1 } := by
  have hlen := take_length_of_drop _ _ _ _ h
  simp only [splitPair, h, addLocalMin, List.drop_left' hlen, List.take_left' hlen]

/-- a joined pair in a list satisfying `Side`: it is entered and left with no join pending, both edges are closed and hot, neither
owns a record (so the alternation state passes through unchanged) -/
theorem joined_pair_ctx (pre : List SEdge) (a b : SEdge) (rest : List SEdge) (ha : a.join = .right)
    (hs : Side (pre ++ (a :: b :: rest))) :
    ∃ q, Ctx pre rest false q false q ∧ b.join = .left ∧ a.e.isOpen = false ∧ b.e.isOpen = false ∧
      a.orec = none ∧ b.orec = none ∧ a.e.hot = true ∧ b.e.hot = true := by
  obtain ⟨p, q, p2, q2, c, hp2, hq2, l2⟩ := (side_ctx pre [a, b] rest).mp hs
  simp only [List.all_cons, List.all_nil, Bool.and_true, Bool.and_eq_true] at l2
  obtain ⟨la, lb⟩ := l2
  cases p <;> cases hb : b.join <;> simp [joinRun, ha, hb] at hp2
  subst hp2
  have hao : a.e.isOpen = false := by
    cases ho : a.e.isOpen
    · rfl
    · simp [localOK, ho, ha] at la
  have hbo : b.e.isOpen = false := by
    cases ho : b.e.isOpen
    · rfl
    · simp [localOK, ho, hb] at lb
  have na : a.orec = none := by cases h : a.orec <;> simp [localOK, hao, ha, h] at la ⊢
  have nb : b.orec = none := by cases h : b.orec <;> simp [localOK, hbo, hb, h] at lb ⊢
  simp [altRun, tracked, hao, hbo, na, nb] at hq2
  subst hq2
  simp only [localOK, hao, hbo, ha, hb, na, nb, Bool.false_eq_true, if_false, Option.isSome_none, Bool.false_or,
    Option.isNone_none, Bool.true_or, Bool.and_true, beq_iff_eq] at la lb
  exact ⟨q, c, rfl, hao, hbo, na, nb, la.trans (by decide), lb.trans (by decide)⟩

/-- the representation invariant is carried from `s` to `s'` -/
def Recs (s s' : SState) : Prop := RecsOK s.next s.ael → RecsOK s'.next s'.ael

def JoinNoneAt (l : List SEdge) (k : Nat) : Prop := ∀ x, l[k]? = some x → x.join = .none

/-- what a successful `Split` guarantees -/
structure SplitPost (i : Nat) (s s' : SState) : Prop where
  side : Side s'.ael
  era : erase s'.ael = erase s.ael
  here : JoinNoneAt s'.ael i
  mono : ∀ k, JoinNoneAt s.ael k → JoinNoneAt s'.ael k
  recs : Recs s s'

theorem splitPair_post (i j : Nat) (s : SState) (a b : SEdge) (rest : List SEdge) (h : s.ael.drop j = a :: b :: rest)
    (ha : a.join = .right) (hs : Side s.ael) (hij : i = j ∨ i = j + 1) :
    ∃ s', splitPair j s = .ok s' ∧ SplitPost i s s' := by
  have hl := drop_split s.ael j _ h
  rw [hl] at hs
  obtain ⟨q, c, -, hao, hbo, na, nb, hha, hhb⟩ := joined_pair_ctx _ a b rest ha hs
  have hf : minFront1 (prevHot (s.ael.take j).reverse) true = q := by rw [minFront1_eq _ q c.apre, beq_true]
  refine ⟨_, splitPair_eq j s a b rest h, ?_, ?_, ?_, ?_, ?_⟩
  · -- the new record's front edge is the one the alternation expects
    refine side_rebuild c [_, _] (by simp [joinRun]) ?_ (by simp [localOK, hao, hbo, hha, hhb])
    simp [altRun, tracked, hao, hbo, hf, minRecs]
  · conv => rhs; rw [hl]
    simp [erase]
  · intro x hx
    simp only [getElem?_splice _ _ _ _ _ h] at hx
    rcases hij with rfl | rfl <;> simp at hx <;> subst hx <;> rfl
  · intro k hk x hx
    simp only [getElem?_splice _ _ _ _ _ h] at hx
    split at hx
    · cases hx; rfl
    · split at hx
      · cases hx; rfl
      · exact hk x hx
  · intro hr
    rw [hl] at hr
    exact recsOK_fresh s.next _ [a, b] rest _ _ _ hr (by intro k; simp [cnt, keyOf, na, nb]) rfl rfl

/-- under the invariant `if (IsJoined(e)) Split(e, pt)` never faults -/
theorem splitAt_spec (i : Nat) (s : SState) (hs : Side s.ael) (hi : i < s.ael.length) :
    ∃ s', splitAt i s = .ok s' ∧ SplitPost i s s' := by
  unfold splitAt
  rw [List.getElem?_eq_getElem hi]
  simp only
  have hd : s.ael.drop i = s.ael[i] :: s.ael.drop (i + 1) := List.drop_eq_getElem_cons hi
  have hs' := hs
  rw [drop_split _ _ _ hd] at hs'
  obtain ⟨p, q, p2, q2, c, hp2, -, -⟩ := (side_ctx _ [s.ael[i]] _).mp hs'
  cases hjj : s.ael[i].join with
  | none =>
    refine ⟨s, by simp, hs, rfl, ?_, fun k hk => hk, fun h => h⟩
    intro x hx
    rw [List.getElem?_eq_getElem hi] at hx
    cases hx; exact hjj
  | right =>
    -- the partner is the next edge
    simp only [reduceCtorEq, if_false, splitJoined]
    cases p <;> simp [joinRun, hjj] at hp2
    subst hp2
    cases hr : s.ael.drop (i + 1) with
    | nil => have := c.jrest; rw [hr] at this; simp [joinOKFrom] at this
    | cons b rest => exact splitPair_post i i s _ b rest (hr ▸ hd) hjj hs (Or.inl rfl)
  | left =>
    -- the partner is the previous edge, joined to the right
    simp only [reduceCtorEq, if_false, splitJoined]
    cases p <;> simp [joinRun, hjj] at hp2
    have hlast := joinRun_last _ _ _ c.jpre
    cases hg : (s.ael.take i).getLast? with
    | none => simp [hg] at hlast
    | some y =>
      simp only [hg] at hlast
      obtain ⟨ys, hys⟩ := List.getLast?_eq_some_iff.mp hg
      have hlen : (s.ael.take i).length = i := take_length_of_drop _ _ _ _ hd
      have hyl : ys.length + 1 = i := by rw [hys] at hlen; simpa using hlen
      have hi0 : i ≠ 0 := by omega
      simp only [hi0, if_false]
      have hd2 : s.ael.drop (i - 1) = y :: s.ael[i] :: s.ael.drop (i + 1) := by
        conv => lhs; rw [drop_split _ _ _ hd, hys]
        simp only [List.append_assoc]
        rw [List.drop_left' (by omega)]; rfl
      exact splitPair_post i (i - 1) s y _ _ hd2 (by simpa using hlast.symm) hs (Or.inr (by omega))

/-- the new `IsHotEdge` flags of `(e1, e2)` after each continuation -/
def actHot (a : Act) (h1 h2 : Bool) : Bool × Bool :=
  match a with
  | .nothing => (h1, h2)
  | .localMax => (false, false)
  | .maxThenMin => (true, true)
  | .swap => (h2, h1)
  | .localMin => (true, true)

theorem actHot_ite (c : Prop) [Decidable c] (a b : Act) (x y : Bool) :
    actHot (if c then a else b) x y = if c then actHot a x y else actHot b x y := by split <;> rfl

/-- `decideHotB` is the shadow of `decideActB`: the same chain of tests, with the hot flags each continuation leaves -/
theorem decideHotB_eq_act (h1 h2 i1 i2 q1 q2 dt nx go f1 sr : Bool) :
    decideHotB h1 h2 i1 i2 q1 q2 dt nx go = actHot (decideActB h1 h2 i1 i2 q1 q2 dt nx go f1 sr) h1 h2 := by
  cases h1 <;> cases h2 <;>
    simp only [decideHotB, decideActB, Bool.and_self, Bool.false_and, Bool.true_and, Bool.and_false, Bool.not_true,
      Bool.not_false, Bool.false_or, Bool.or_false, Bool.false_eq_true, if_false, if_true, actHot_ite] <;>
    simp only [actHot, ite_self]

/-- the hot/cold situation each continuation is written for -/
def actFits (h1 h2 : Bool) : Act → Prop
  | .nothing => (h1 && h2) = false
  | .localMax | .maxThenMin => h1 = true ∧ h2 = true
  | .swap => (h1 || h2) = true
  | .localMin => h1 = false ∧ h2 = false

/-- every continuation is chosen only in the situation it is written for -/
theorem decideActB_hot (h1 h2 i1 i2 q1 q2 dt nx go f1 sr : Bool) :
    actFits h1 h2 (decideActB h1 h2 i1 i2 q1 q2 dt nx go f1 sr) := by
  cases h1 <;> cases h2 <;>
    simp only [decideActB, Bool.and_self, Bool.false_and, Bool.true_and, Bool.and_false, Bool.not_true,
      Bool.not_false, Bool.false_or, Bool.or_false, Bool.false_eq_true, if_false, if_true, apply_ite (actFits _ _)] <;>
    simp [actFits]

theorem act_localMin : ∀ (h1 h2 i1 i2 q1 q2 dt nx go f1 sr : Bool),
    decideActB h1 h2 i1 i2 q1 q2 dt nx go f1 sr = .localMin → h1 = false ∧ h2 = false := by
  intro h1 h2 i1 i2 q1 q2 dt nx go f1 sr h
  have := decideActB_hot h1 h2 i1 i2 q1 q2 dt nx go f1 sr
  rwa [h] at this

theorem decideAct_hot (cfg : Cfg) (e1 e2 : Edge) (r1 r2 : Option Rec) :
    actFits r1.isSome r2.isSome (decideAct cfg e1 e2 r1 r2) := decideActB_hot ..

/-- the hot flags that `Model.intersectPair` (the model without sides) computes are those implied by the continuation chosen here -/
theorem intersectPair_hot (cfg : Cfg) (a b : SEdge) (ha : a.e.isOpen = false) (hb : b.e.isOpen = false)
    (hha : a.e.hot = a.orec.isSome) (hhb : b.e.hot = b.orec.isSome) :
    ((intersectPair cfg a.e b.e).1.hot, (intersectPair cfg a.e b.e).2.hot) =
      actHot (decideAct cfg (updateWinds cfg.fr a.e b.e).1 (updateWinds cfg.fr a.e b.e).2 a.orec b.orec) a.orec.isSome b.orec.isSome := by
  obtain ⟨-, -, -, u1, -, -, -, u2⟩ := updateWinds_fields cfg.fr a.e b.e
  rw [intersectPair_cc cfg ha hb, decideAct, ← decideHotB_eq_act, ← hha, ← hhb, ← u1, ← u2]
  rfl

/-- the alternation automaton on a window of two edges, as a function of what `tracked` says -/
def alt2 (q : Bool) (tx ty : Option Bool) : Option Bool :=
  match tx with
  | some f => if f = q then (match ty with | some f' => if f' = !q then some q else none | none => some (!q)) else none
  | none => match ty with | some f' => if f' = q then some (!q) else none | none => some q

theorem altRun_two (q : Bool) (x y : SEdge) : altRun q [x, y] = alt2 q (tracked x) (tracked y) := by
  cases hx : tracked x <;> cases hy : tracked y <;> simp [altRun, alt2, hx, hy]

/-- two hot edges pass the alternation iff the first has the expected side and the second the other one -/
theorem alt2_some_some {q fa fb q2 : Bool} (h : alt2 q (some fa) (some fb) = some q2) :
    fa = q ∧ fb = !q ∧ q2 = q ∧ fa ≠ fb := by
  cases fa <;> cases fb <;> cases q <;> simp [alt2] at h ⊢ <;> exact h

/-- two hot edges that pass the alternation can be handed to `AddLocalMaxPoly`: it does not fault, and what it does to
third edges keeps their shape; the alternation state is the same after the pair as before it -/
theorem localMax_of_alt {q q2 : Bool} {a b : SEdge} {ra rb : Rec} (hra : a.orec = some ra) (hrb : b.orec = some rb)
    (h : alt2 q (a.orec.map (·.front)) (b.orec.map (·.front)) = some q2) :
    q2 = q ∧ ra.front ≠ rb.front ∧ ∃ g, addLocalMaxFn ra rb = .ok g ∧ ShapePres g := by
  rw [hra, hrb] at h
  obtain ⟨-, -, hq, hne⟩ := alt2_some_some h
  obtain ⟨g, hg⟩ := addLocalMaxFn_ok ra rb hne
  exact ⟨hq, hne, g, hg, addLocalMaxFn_shape ra rb g hg⟩

/-- on one record `SwapOutrecs` exchanges front and back; for a front/back pair that is the same as exchanging the records -/
theorem swapOutrecs_eq {q q2 : Bool} (r1 r2 : Option Rec)
    (h : alt2 q (r1.map (·.front)) (r2.map (·.front)) = some q2) : swapOutrecs r1 r2 = (r2, r1) := by
  rcases r1 with _ | ⟨i1, f1⟩ <;> rcases r2 with _ | ⟨i2, f2⟩ <;> try rfl
  obtain ⟨rfl, rfl, -, -⟩ := alt2_some_some h
  simp only [swapOutrecs]
  split
  next hid => have : i1 = i2 := hid; subst this; simp
  next => rfl

theorem tracked_closed (x : SEdge) (ho : x.e.isOpen = false) : tracked x = x.orec.map (·.front) := by
  simp [tracked, ho]

theorem localOK_closed_unjoined (x : SEdge) (ho : x.e.isOpen = false) (hj : x.join = .none) :
    localOK x = (x.e.hot == x.orec.isSome) := by
  simp [localOK, ho, hj]

/-- a window of two closed, unjoined edges in a list satisfying `Side` -/
theorem pair_ctx (pre : List SEdge) (a b : SEdge) (rest : List SEdge) (hs : Side (pre ++ (a :: b :: rest)))
    (ha : a.e.isOpen = false) (hb : b.e.isOpen = false) (hja : a.join = .none) (hjb : b.join = .none) :
    ∃ q q2, Ctx pre rest false q false q2 ∧ alt2 q (a.orec.map (·.front)) (b.orec.map (·.front)) = some q2 ∧
      a.e.hot = a.orec.isSome ∧ b.e.hot = b.orec.isSome := by
  obtain ⟨p, q, p2, q2, c, hp2, hq2, l2⟩ := (side_ctx pre [a, b] rest).mp hs
  simp only [List.all_cons, List.all_nil, Bool.and_true, Bool.and_eq_true, localOK_closed_unjoined a ha hja,
    localOK_closed_unjoined b hb hjb, beq_iff_eq] at l2
  rw [altRun_two, tracked_closed a ha, tracked_closed b hb] at hq2
  cases p <;> simp [joinRun, hja, hjb] at hp2
  subst hp2
  exact ⟨q, q2, c, hq2, l2.1, l2.2⟩

/-- … and how such a window is put back: `Side`, and what remains once the side bookkeeping is forgotten -/
theorem pair_rebuild {pre rest : List SEdge} {q q2 : Bool} (c : Ctx pre rest false q false q2) {g : SEdge → SEdge}
    (hg : ShapePres g) (x y : SEdge)
    (hxo : x.e.isOpen = false) (hyo : y.e.isOpen = false) (hxj : x.join = .none) (hyj : y.join = .none)
    (halt : alt2 q (x.orec.map (·.front)) (y.orec.map (·.front)) = some q2)
    (hxh : x.e.hot = x.orec.isSome) (hyh : y.e.hot = y.orec.isSome) :
    Side (pre.map g ++ (x :: y :: rest.map g)) ∧
      erase (pre.map g ++ (x :: y :: rest.map g)) = erase pre ++ x.e :: y.e :: erase rest :=
  ⟨side_rebuild (c.map hg) [x, y] (by simp [joinRun, hxj, hyj])
    (by rw [altRun_two, tracked_closed x hxo, tracked_closed y hyo]; exact halt)
    (by simp [localOK_closed_unjoined x hxo hxj, localOK_closed_unjoined y hyo hyj, hxh, hyh]),
   erase_splice pre [x, y] rest g hg⟩

theorem minRecs_map_shape {g : SEdge → SEdge} (hg : ShapePres g) (pre : List SEdge) (isNew : Bool) (n : Nat) :
    minRecs (pre.map g) isNew n = minRecs pre isNew n := by
  simp only [minRecs, ← List.map_reverse, prevHot_map_shape hg]

/-- the closed branch of `IntersectEdges` on two closed, unjoined edges of a list satisfying `Side`: whichever continuation `decideAct`
chooses, it does not fault, `Side` holds again, and without the side fields the window is `Model.intersectPair`, swapped -/
theorem intersectCore_spec (cfg : Cfg) (pre : List SEdge) (a b : SEdge) (rest : List SEdge) (n : Nat)
    (hs : Side (pre ++ (a :: b :: rest))) (ha : a.e.isOpen = false) (hb : b.e.isOpen = false)
    (hja : a.join = .none) (hjb : b.join = .none) :
    ∃ s', intersectCore cfg pre a b rest n = .ok s' ∧ Side s'.ael ∧
      erase s'.ael = erase pre ++ (intersectPair cfg a.e b.e).2 :: (intersectPair cfg a.e b.e).1 :: erase rest ∧
      (RecsOK n (pre ++ (a :: b :: rest)) → RecsOK s'.next s'.ael) := by
  obtain ⟨q, q2, c, hq2, hha, hhb⟩ := pair_ctx pre a b rest hs ha hb hja hjb
  have hh := intersectPair_hot cfg a b ha hb hha hhb
  obtain ⟨-, f2, -, -, f5, -⟩ := intersectPair_fields cfg a.e b.e
  rw [ha] at f2; rw [hb] at f5
  have hfit := decideAct_hot cfg (updateWinds cfg.fr a.e b.e).1 (updateWinds cfg.fr a.e b.e).2 a.orec b.orec
  -- the swapped pair with new records `r1`, `r2`, in a context relabelled by `g`
  have frame := fun (g : SEdge → SEdge) (hg : ShapePres g) (r1 r2 : Option Rec) halt h1 h2 =>
    pair_rebuild c hg { b with e := (intersectPair cfg a.e b.e).2, orec := r2 }
      { a with e := (intersectPair cfg a.e b.e).1, orec := r1 } f5 f2 hjb hja halt h2 h1
  unfold intersectCore
  simp only
  cases hact : decideAct cfg (updateWinds cfg.fr a.e b.e).1 (updateWinds cfg.fr a.e b.e).2 a.orec b.orec <;>
    rw [hact] at hh hfit <;> simp only [actHot, Prod.mk.injEq] at hh
  case nothing =>
    have hnb : (a.orec.isSome && b.orec.isSome) = false := hfit
    obtain ⟨hS, hE⟩ := frame id shapePres_id a.orec b.orec
      (by revert hq2 hnb; cases a.orec <;> cases b.orec <;> simp [alt2]) hh.1 hh.2
    rw [List.map_id, List.map_id] at hS hE
    exact ⟨_, rfl, hS, hE, fun hr => recsOK_window n pre [a, b] [_, _] rest hr fun k => cnt_pair_le k _ _ _ _ (.inl ⟨rfl, rfl⟩)⟩
  case swap =>
    rw [swapOutrecs_eq _ _ hq2]
    obtain ⟨hS, hE⟩ := frame id shapePres_id b.orec a.orec hq2 hh.1 hh.2
    rw [List.map_id, List.map_id] at hS hE
    exact ⟨_, rfl, hS, hE, fun hr => recsOK_window n pre [a, b] [_, _] rest hr fun k => cnt_pair_le k _ _ _ _ (.inr ⟨rfl, rfl⟩)⟩
  case localMin =>
    obtain ⟨hna, hnb⟩ : a.orec.isSome = false ∧ b.orec.isSome = false := hfit
    have hf : minFront1 (prevHot pre.reverse) false = !q := by rw [minFront1_eq _ q c.apre]; cases q <;> rfl
    rw [Option.isSome_eq_false_iff, Option.isNone_iff_eq_none] at hna hnb
    obtain ⟨hS, hE⟩ := frame id shapePres_id (some (minRecs pre false n).1) (some (minRecs pre false n).2)
      (by revert hq2; simp [hna, hnb, alt2, minRecs, hf]) hh.1 hh.2
    rw [List.map_id, List.map_id] at hS hE
    exact ⟨_, rfl, hS, hE, fun hr => recsOK_fresh n pre [a, b] rest _ _ (minRecs pre false n).2.front hr
      (by intro k; simp [cnt, keyOf, hna, hnb]) rfl (by simp [minRecs])⟩
  case localMax =>
    obtain ⟨hsa, hsb⟩ : a.orec.isSome = true ∧ b.orec.isSome = true := hfit
    obtain ⟨ra, hra⟩ := Option.isSome_iff_exists.mp hsa
    obtain ⟨rb, hrb⟩ := Option.isSome_iff_exists.mp hsb
    obtain ⟨rfl, hne, g, hg, hgs⟩ := localMax_of_alt hra hrb hq2
    obtain ⟨hS, hE⟩ := frame g hgs none none rfl hh.1 hh.2
    simp only [hra, hrb, hg]
    exact ⟨_, rfl, hS, hE, fun hr => recsOK_localMax n pre rest [_, _] a b ra rb g hra hrb hne hg
      (by intro k; simp [cnt, keyOf]) hr⟩
  case maxThenMin =>
    obtain ⟨hsa, hsb⟩ : a.orec.isSome = true ∧ b.orec.isSome = true := hfit
    obtain ⟨ra, hra⟩ := Option.isSome_iff_exists.mp hsa
    obtain ⟨rb, hrb⟩ := Option.isSome_iff_exists.mp hsb
    obtain ⟨rfl, hne, g, hg, hgs⟩ := localMax_of_alt hra hrb hq2
    have hf : minFront1 (prevHot pre.reverse) false = !q2 := by
      rw [minFront1_eq _ _ c.apre]; cases q2 <;> rfl
    obtain ⟨hS, hE⟩ := frame g hgs (some (minRecs pre false n).1) (some (minRecs pre false n).2)
      (by simp [alt2, minRecs, hf]) hh.1 hh.2
    simp only [hra, hrb, hg, minRecs_map_shape hgs]
    refine ⟨_, rfl, hS, hE, fun hr => ?_⟩
    have h1 := recsOK_localMax n pre rest [] a b ra rb g hra hrb hne hg (by intro k; rfl) hr
    exact recsOK_fresh n (pre.map g) [] (rest.map g) _ _ (minRecs pre false n).2.front h1 (by intro k; rfl) rfl
      (by simp [minRecs])

/-- outcome of a step: `ok` states satisfy `P`, a rejected event says nothing, a fault never happens -/
def StepOK (r : Except Err SState) (P : SState → Prop) : Prop :=
  match r with
  | .ok s' => P s'
  | .error .reject => True
  | .error (.fault _) => False

theorem stepOK_bind (r : Except Err SState) (f : SState → Except Err SState) (P Q : SState → Prop)
    (h : StepOK r P) (hf : ∀ s1, P s1 → StepOK (f s1) Q) : StepOK (r >>= f) Q := by
  cases r with
  | ok s1 => exact hf s1 h
  | error e => cases e with
    | reject => trivial
    | fault f => exact h.elim

theorem stepOK_mono (r : Except Err SState) (P Q : SState → Prop) (h : StepOK r P) (hpq : ∀ s, P s → Q s) : StepOK r Q := by
  have := stepOK_bind r .ok P Q h hpq
  cases r <;> exact this

theorem splitAt_stepOK (i : Nat) (s : SState) (hs : Side s.ael) : StepOK (splitAt i s) (SplitPost i s) := by
  by_cases hi : i < s.ael.length
  · obtain ⟨s', h1, h2⟩ := splitAt_spec i s hs hi
    rw [h1]; exact h2
  · have : s.ael[i]? = none := List.getElem?_eq_none (by omega)
    simp [splitAt, this, StepOK]

theorem erase_length (l : List SEdge) : (erase l).length = l.length := by simp [erase]

theorem erase_window (l : List SEdge) (i : Nat) (a b : SEdge) (rest : List SEdge) (h : l.drop i = a :: b :: rest) :
    (erase l).drop i = a.e :: b.e :: erase rest ∧ (erase l).take i = erase (l.take i) := by
  simp only [erase, ← List.map_drop, ← List.map_take, h, List.map_cons, and_self]

/-- after any number of `Split`s (which keep the erased list) the window at `i` is still there, with the same base edges -/
theorem after_splits (i : Nat) (l l2 : List SEdge) (a0 b0 : SEdge) (rest0 : List SEdge) (h0 : l.drop i = a0 :: b0 :: rest0)
    (hera : erase l2 = erase l) :
    ∃ a b rest, l2.drop i = a :: b :: rest ∧ a.e = a0.e ∧ b.e = b0.e ∧ erase rest = erase rest0 ∧
      erase (l2.take i) = erase (l.take i) := by
  have hlen : l2.length = l.length := by rw [← erase_length l2, hera, erase_length]
  obtain ⟨a, b, rest, h2⟩ := window_exists l2 i (by rw [hlen]; exact window_length l i _ _ _ h0)
  obtain ⟨e1, e2⟩ := erase_window l i _ _ _ h0
  obtain ⟨e3, e4⟩ := erase_window l2 i _ _ _ h2
  rw [hera, e1] at e3
  rw [hera, e2] at e4
  simp only [List.cons.injEq] at e3
  exact ⟨a, b, rest, h2, e3.1.symm, e3.2.1.symm, e3.2.2.symm, e4.symm⟩

/-- `if (IsJoined(e1)) Split(e1, pt); if (IsJoined(e2)) Split(e2, pt);` for the window at `i`: what the continuation `k` may assume -/
theorem split2_stepOK (i : Nat) (s : SState) (hs : Side s.ael) (a0 b0 : SEdge) (rest0 : List SEdge)
    (h0 : s.ael.drop i = a0 :: b0 :: rest0) (k : SState → Except Err SState) (Q : SState → Prop)
    (hk : ∀ s2 a b rest, s2.ael.drop i = a :: b :: rest → a.e = a0.e → b.e = b0.e → erase rest = erase rest0 →
      erase (s2.ael.take i) = erase (s.ael.take i) → a.join = .none → b.join = .none →
      Side (s2.ael.take i ++ (a :: b :: rest)) → Recs s s2 → StepOK (k s2) Q) :
    StepOK (splitAt i s >>= fun s1 => splitAt (i + 1) s1 >>= k) Q := by
  refine stepOK_bind _ _ _ _ (splitAt_stepOK i s hs) fun s1 hp1 => ?_
  refine stepOK_bind _ _ _ _ (splitAt_stepOK (i + 1) s1 hp1.side) fun s2 hp2 => ?_
  obtain ⟨a, b, rest, h2, ea, eb, er, et⟩ := after_splits i s.ael s2.ael a0 b0 rest0 h0 (hp2.era.trans hp1.era)
  obtain ⟨we1, we2⟩ := window_elems _ _ _ _ _ h2
  exact hk s2 a b rest h2 ea eb er et (hp2.mono i hp1.here a we1) (hp2.here b we2)
    (drop_split _ _ _ h2 ▸ hp2.side) fun h => hp2.recs (hp1.recs h)

/-- an open edge and its neighbour change places: the open edge is neither joined nor tracked, so both automata pass
the window as before; `ea`, `eb` are the new base edges -/
theorem open_swap_side {pre rest : List SEdge} (a b : SEdge) (ea eb : Edge) (hs : Side (pre ++ (a :: b :: rest)))
    (hopen : a.e.isOpen = true ∨ b.e.isOpen = true)
    (hja : a.e.isOpen = false → a.join = .none ∧ ea = a.e) (hjb : b.e.isOpen = false → b.join = .none ∧ eb = b.e)
    (hea : ea.isOpen = a.e.isOpen) (heb : eb.isOpen = b.e.isOpen) :
    Side (pre ++ ({ b with e := eb } :: { a with e := ea } :: rest)) := by
  obtain ⟨p, q, p2, q2, c, hp2, hq2, l2⟩ := (side_ctx pre [a, b] rest).mp hs
  simp only [List.all_cons, List.all_nil, Bool.and_true, Bool.and_eq_true] at l2
  have key : ∀ (x : SEdge) (ex : Edge), localOK x = true → (x.e.isOpen = false → x.join = .none ∧ ex = x.e) →
      ex.isOpen = x.e.isOpen → x.join = .none ∧ tracked { x with e := ex } = tracked x ∧ localOK { x with e := ex } = true ∧
        (x.e.isOpen = true → tracked x = none) := by
    intro x ex hl hx hex
    cases ho : x.e.isOpen
    · obtain ⟨h1, rfl⟩ := hx ho; exact ⟨h1, rfl, hl, nofun⟩
    · simp only [localOK, ho, if_true, Bool.and_eq_true, beq_iff_eq] at hl
      exact ⟨hl.2, by simp [tracked, hex, ho], by simp [localOK, hex, ho, hl.1, hl.2], fun _ => by simp [tracked, ho]⟩
  obtain ⟨ja, ta, la, na⟩ := key a ea l2.1 hja hea
  obtain ⟨jb, tb, lb, nb⟩ := key b eb l2.2 hjb heb
  refine side_rebuild c [_, _] ?_ ?_ (by simp [la, lb])
  · simpa [joinRun, ja, jb] using hp2
  · rw [altRun_two, ta, tb]
    rw [altRun_two] at hq2
    rcases hopen with h | h
    · rw [na h] at hq2 ⊢; revert hq2; cases tracked b <;> simp [alt2]
    · rw [nb h] at hq2 ⊢; revert hq2; cases tracked a <;> simp [alt2]

/-- **`IntersectEdges` + `SwapPositionsInAEL`** keeps the side part of the invariant, never faults, and erases to the step `Model.intersect` of the model without sides -/
theorem intersectS_spec (cfg : Cfg) (i : Nat) (s : SState) (hs : Side s.ael) :
    StepOK (intersectS cfg i s) (fun s' => Side s'.ael ∧ intersect cfg i (erase s.ael) = some (erase s'.ael) ∧ Recs s s') := by
  unfold intersectS
  split
  next a0 b0 rest0 h0 =>
    obtain ⟨w1, w2⟩ := erase_window _ _ _ _ _ h0
    have hsim : ∀ l', l' = (erase s.ael).take i ++ (intersectPair cfg a0.e b0.e).2 :: (intersectPair cfg a0.e b0.e).1 :: erase rest0 →
        intersect cfg i (erase s.ael) = some l' := by
      intro l' hl'; simp only [intersect, w1, hl']
    split
    next hopen =>
      -- open branch: `Split` of the closed edge, if there is one
      refine stepOK_bind _ _ (fun s1 => Side s1.ael ∧ erase s1.ael = erase s.ael ∧
          ((a0.e.isOpen = false → JoinNoneAt s1.ael i) ∧ (b0.e.isOpen = false → JoinNoneAt s1.ael (i + 1))) ∧ Recs s s1) _ ?_ ?_
      · split
        next hboth =>
          simp only [Bool.and_eq_true] at hboth
          exact ⟨hs, rfl, ⟨fun h => by simp [h] at hboth, fun h => by simp [h] at hboth⟩, fun h => h⟩
        next hboth =>
          split
          next hao =>
            refine stepOK_mono _ _ _ (splitAt_stepOK (i + 1) s hs) fun s1 hp => ?_
            exact ⟨hp.side, hp.era, ⟨fun h => by simp [h] at hao, fun _ => hp.here⟩, hp.recs⟩
          next hao =>
            refine stepOK_mono _ _ _ (splitAt_stepOK i s hs) fun s1 hp => ?_
            refine ⟨hp.side, hp.era, ⟨fun _ => hp.here, fun h => ?_⟩, hp.recs⟩
            simp [hao, h] at hopen
      · intro s1 ⟨hs1, hera, hj, hrec1⟩
        obtain ⟨a, b, rest, h2, ea, eb, er, et⟩ := after_splits i s.ael s1.ael a0 b0 rest0 h0 hera
        obtain ⟨we1, we2⟩ := window_elems _ _ _ _ _ h2
        obtain ⟨f1, f2, f3, f4, f5, f6⟩ := intersectPair_fields cfg a.e b.e
        simp only [h2, StepOK]
        rw [drop_split _ _ _ h2] at hs1
        rw [← ea, ← eb, Bool.or_eq_true] at hopen
        refine ⟨open_swap_side a b _ _ hs1 hopen ?_ ?_ f2 f5, hsim _ ?_, fun hr => ?_⟩
        · intro h; exact ⟨hj.1 (ea ▸ h) a we1, by rw [intersectPair_co cfg h (hopen.resolve_left (by simp [h]))]⟩
        · intro h; exact ⟨hj.2 (eb ▸ h) b we2, by rw [intersectPair_oc cfg (hopen.resolve_right (by simp [h])) h]⟩
        · rw [ea, eb]
          simp only [erase, List.map_append, List.map_cons] at et er ⊢
          rw [et, er, List.map_take]
        · have h1 := hrec1 hr
          rw [drop_split _ _ _ h2] at h1
          exact recsOK_window s1.next _ [a, b] [_, _] rest h1 fun k => cnt_pair_le k _ _ _ _ (.inl ⟨rfl, rfl⟩)
    next hopen =>
      simp only [Bool.or_eq_true, not_or, Bool.not_eq_true] at hopen
      refine split2_stepOK i s hs a0 b0 rest0 h0 _ _ fun s2 a b rest h2 ea eb er et hja hjb hs2 hrec2 => ?_
      simp only [h2]
      obtain ⟨s', e1, e2, e3, e4⟩ := intersectCore_spec cfg (s2.ael.take i) a b rest s2.next hs2
        (ea ▸ hopen.1) (eb ▸ hopen.2) hja hjb
      rw [e1]
      refine ⟨e2, hsim _ ?_, fun hr => e4 (by rw [← drop_split _ _ _ h2]; exact hrec2 hr)⟩
      rw [e3, ea, eb, et, er, w2]
  next => trivial

/-- under the C01 invariant the two edges of a closed maxima pair are both hot or both cold: they are the same boundary
of their own type seen from its two sides, with the same other-type sum -/
theorem inv_pair_hot (cfg : Cfg) (l : Ael) (i : Nat) (e1 e2 : Edge) (rest : List Edge) (hd : l.drop i = e1 :: e2 :: rest)
    (hc : e1.pt = e2.pt ∧ e1.isOpen = e2.isOpen ∧ e1.dx + e2.dx = 0) (ho : e1.isOpen = false) (h : Inv cfg l) :
    e1.hot = e2.hot := by
  obtain ⟨hpt, hop, hdx⟩ := hc
  unfold Model.Inv at h
  rw [drop_split l i _ hd, invFrom_append] at h
  obtain ⟨k1, k2, -⟩ := h.2
  have h1 := edgeOK_hot cfg e1 _ _ (k1 ho)
  have h2 := edgeOK_hot cfg e2 _ _ (k2 (hop ▸ ho))
  rw [own_add, own_add, ← hpt, contrib_own e1 ho, contrib_other e1, Int.add_zero] at h2
  rw [h1, h2, show e2.dx = -e1.dx by omega, Int.add_neg_cancel_right, bne_comm]

/-- **`DoMaxima` / `DoHorizontal` pair removal** never faults under the invariant -/
theorem removePairS_spec (cfg : Cfg) (i : Nat) (s : SState) (hs : Side s.ael) (hinv : Inv cfg (erase s.ael)) :
    StepOK (removePairS i s) (fun s' => Side s'.ael ∧ removePair i (erase s.ael) = some (erase s'.ael) ∧ Recs s s') := by
  unfold removePairS
  split
  next a0 b0 rest0 h0 =>
    obtain ⟨w1, w2⟩ := erase_window _ _ _ _ _ h0
    split
    next hc =>
      have hsim : ∀ l', l' = (erase s.ael).take i ++ erase rest0 → removePair i (erase s.ael) = some l' := by
        intro l' hl'; simp only [removePair, w1, hc, and_self, if_true, hl']
      split
      next hao =>
        -- open pair: neither edge is tracked or joined
        have hbo : b0.e.isOpen = true := hc.2.1 ▸ hao
        have hl := drop_split _ _ _ h0
        have hs' := hs
        rw [hl] at hs'
        obtain ⟨p, q, p2, q2, c, hp2, hq2, l2⟩ := (side_ctx _ [a0, b0] rest0).mp hs'
        refine ⟨?_, hsim _ (by simp [erase, ← List.map_take]), fun hr => ?_⟩
        · simp only [List.all_cons, List.all_nil, Bool.and_true, Bool.and_eq_true] at l2
          have la := l2.1; have lb := l2.2
          simp [localOK, hao] at la
          simp [localOK, hbo] at lb
          rw [altRun_two] at hq2
          simp [tracked, hao, hbo, alt2] at hq2
          refine side_rebuild c [] ?_ (by simp [altRun, hq2]) rfl
          cases p <;> simp [joinRun, la.2, lb.2] at hp2 <;> simp [joinRun, hp2]
        · rw [hl] at hr
          exact recsOK_window s.next _ [a0, b0] [] rest0 hr (fun k => Nat.zero_le _)
      next hao =>
        simp only [Bool.not_eq_true] at hao
        have hbo : b0.e.isOpen = false := hc.2.1 ▸ hao
        refine split2_stepOK i s hs a0 b0 rest0 h0 _ _ fun s2 a b rest h2 ea eb er et hja hjb hs2 hrec2 => ?_
        simp only [h2]
        obtain ⟨q, q2, c, hq2, hha, hhb⟩ := pair_ctx _ a b rest hs2 (ea ▸ hao) (eb ▸ hbo) hja hjb
        -- both hot or both cold (C01 invariant)
        have hhot : a.e.hot = b.e.hot := by
          rw [ea, eb]
          exact inv_pair_hot cfg (erase s.ael) i a0.e b0.e (erase rest0) w1 hc hao hinv
        have hera' : (erase s.ael).take i ++ erase rest0 = erase (s2.ael.take i) ++ erase rest := by rw [w2, et, er]
        have hr2 : ∀ hr : RecsOK s.next s.ael, RecsOK s2.next (s2.ael.take i ++ (a :: b :: rest)) :=
          fun hr => drop_split _ _ _ h2 ▸ hrec2 hr
        cases hra : a.orec with
        | none =>
          cases hrb : b.orec with
          | none =>
            refine ⟨?_, hsim _ (by rw [hera']; simp [erase]), fun hr => ?_⟩
            · refine side_rebuild c [] rfl ?_ rfl
              simp [hra, hrb, alt2] at hq2; simp [altRun, hq2]
            · exact recsOK_window s2.next _ [a, b] [] rest (hr2 hr) (fun k => Nat.zero_le _)
          | some rb => rw [hha, hhb, hra, hrb] at hhot; simp at hhot
        | some ra =>
          cases hrb : b.orec with
          | none => rw [hha, hhb, hra, hrb] at hhot; simp at hhot
          | some rb =>
            obtain ⟨rfl, hne, g, hg, hgs⟩ := localMax_of_alt hra hrb hq2
            simp only [hg, StepOK]
            exact ⟨side_rebuild (c.map hgs) [] rfl rfl rfl, hsim _ (by rw [hera']; exact erase_splice _ [] rest g hgs),
              fun hr => recsOK_localMax s2.next _ rest [] a b ra rb g hra hrb hne hg (fun k => rfl) (hr2 hr)⟩
    next => trivial
  next => trivial

/-- **`CheckJoinLeft/Right`** never call `JoinOutrecPaths` on two edges of the same side -/
theorem joinS_spec (i : Nat) (s : SState) (hs : Side s.ael) :
    StepOK (joinS i s) (fun s' => Side s'.ael ∧ erase s'.ael = erase s.ael ∧ Recs s s') := by
  unfold joinS
  split
  next a b rest h0 =>
    split
    next => trivial
    next hopen =>
      simp only [Bool.or_eq_true, not_or, Bool.not_eq_true] at hopen
      have hl := drop_split _ _ _ h0
      cases hra : a.orec with
      | none => trivial
      | some ra =>
        cases hrb : b.orec with
        | none => trivial
        | some rb =>
          simp only
          -- an edge that owns a record is not joined
          have hs' := hs; rw [hl] at hs'
          obtain ⟨p, q, p2, q2, c0, hp2, hq2, l2⟩ := (side_ctx _ [a, b] rest).mp hs'
          simp only [List.all_cons, List.all_nil, Bool.and_true, Bool.and_eq_true] at l2
          have la := l2.1; have lb := l2.2
          simp [localOK, hopen.1, hra] at la
          simp [localOK, hopen.2, hrb] at lb
          obtain ⟨q, q2, c, hq2, -, -⟩ := pair_ctx _ a b rest hs' hopen.1 hopen.2 la.2 lb.2
          obtain ⟨rfl, hne, g, hg, hgs⟩ := localMax_of_alt hra hrb hq2
          have hnn : ¬(ra.id ≠ rb.id ∧ ra.front = rb.front) := fun h => hne h.2
          simp only [hnn, if_false, hg, StepOK]
          refine ⟨?_, ?_, fun hr => ?_⟩
          · refine side_rebuild (c.map hgs) [_, _] (by simp [joinRun]) (by simp [altRun, tracked]) ?_
            simp [localOK, hopen.1, hopen.2, la.1, lb.1]
          · refine (erase_splice _ [_, _] rest g hgs).trans ?_
            conv => rhs; rw [hl]
            simp [erase]
          · rw [hl] at hr
            exact recsOK_localMax s.next _ rest [_, _] a b ra rb g hra hrb hne hg (by intro k; simp [cnt, keyOf]) hr
  next => trivial

theorem splitS_spec (i : Nat) (s : SState) (hs : Side s.ael) :
    StepOK (splitS i s) (fun s' => Side s'.ael ∧ erase s'.ael = erase s.ael ∧ Recs s s') := by
  have h := splitAt_stepOK i s hs
  unfold splitS
  unfold splitAt at h
  split
  next x hx =>
    rw [hx] at h
    split
    · trivial
    next hj => simp only [hj, if_false] at h; exact stepOK_mono _ _ _ h fun s' p => ⟨p.side, p.era, p.recs⟩
  next => trivial

theorem addLocalMin_eq (i : Nat) (isNew : Bool) (pre : List SEdge) (a b : SEdge) (rest : List SEdge) (n : Nat) (hlen : pre.length = i) :
    addLocalMin i isNew ⟨pre ++ a :: b :: rest, n⟩ =
      ⟨pre ++ { a with orec := some (minRecs pre isNew n).1 } :: { b with orec := some (minRecs pre isNew n).2 } :: rest, n + 1⟩ := by
  simp only [addLocalMin, List.drop_left' hlen, List.take_left' hlen]

/-- the automaton states at an insertion point that does not separate a joined pair -/
theorem insert_ctx (pos : Nat) (l : List SEdge) (hs : Side l) (hsep : separatesJoin pos l = false) :
    ∃ q, Ctx (l.take pos) (l.drop pos) false q false q := by
  rw [← List.take_append_drop pos l] at hs
  obtain ⟨p, q, p2, q2, c, hp2, hq2, -⟩ := (side_ctx _ [] _).mp hs
  simp [joinRun] at hp2
  simp [altRun] at hq2
  subst hp2 hq2
  have hlast := joinRun_last _ _ _ c.jpre
  unfold separatesJoin at hsep
  have hpf : p = false := by
    revert hlast hsep
    cases (l.take pos).getLast? with
    | none => intro _ h1; simpa using h1
    | some x => intro h2 h1; exact h1.trans h2
  subst hpf
  exact ⟨q, c⟩

theorem insertPairS_spec (cfg : Cfg) (pos : Nat) (pt : PathType) (isOpen : Bool) (dxLeft : Int) (s : SState) (hs : Side s.ael) :
    StepOK (insertPairS cfg pos pt isOpen dxLeft s)
      (fun s' => Side s'.ael ∧ insertPair cfg pos pt isOpen dxLeft (erase s.ael) = some (erase s'.ael) ∧ Recs s s') := by
  unfold insertPairS
  split
  next hc =>
    obtain ⟨hpos, hdx, hsep⟩ := hc
    obtain ⟨q, c⟩ := insert_ctx pos s.ael hs hsep
    have hlen : (s.ael.take pos).length = pos := by simp [List.length_take]; omega
    have hsim : ∀ (x y : SEdge),
        x.e = { (newLeft cfg (erase (s.ael.take pos)) pt isOpen dxLeft).1 with hot := (newLeft cfg (erase (s.ael.take pos)) pt isOpen dxLeft).2 } →
        y.e = { pt := pt, isOpen := isOpen, dx := -dxLeft, wc := (newLeft cfg (erase (s.ael.take pos)) pt isOpen dxLeft).1.wc,
                wc2 := (newLeft cfg (erase (s.ael.take pos)) pt isOpen dxLeft).1.wc2, hot := (newLeft cfg (erase (s.ael.take pos)) pt isOpen dxLeft).2 } →
        insertPair cfg pos pt isOpen dxLeft (erase s.ael) = some (erase (s.ael.take pos ++ x :: y :: s.ael.drop pos)) := by
      intro x y hx hy
      have : pos ≤ (erase s.ael).length := by rw [erase_length]; exact hpos
      simp only [insertPair, this, hdx, and_self, if_true]
      simp only [erase, List.map_append, List.map_cons, hx, hy, List.map_take, List.map_drop]
    have g2 := (newLeft_fields cfg (erase (s.ael.take pos)) pt isOpen dxLeft).2.1
    have hr0 : ∀ hr : RecsOK s.next s.ael, RecsOK s.next (s.ael.take pos ++ ([] ++ s.ael.drop pos)) :=
      fun hr => by rw [List.nil_append, List.take_append_drop]; exact hr
    simp only [StepOK]
    split
    next hcon =>
      simp only [Bool.and_eq_true, Bool.not_eq_true'] at hcon
      obtain ⟨hcon, rfl⟩ := hcon
      rw [addLocalMin_eq pos true _ _ _ _ _ hlen]
      have hf : minFront1 (prevHot (s.ael.take pos).reverse) true = q := by rw [minFront1_eq _ q c.apre, beq_true]
      refine ⟨side_rebuild c [_, _] (by simp [joinRun]) ?_ (by simp [localOK, g2, hcon]), hsim _ _ rfl rfl,
        fun hr => recsOK_fresh _ _ [] _ _ _ _ (hr0 hr) (fun k => rfl) rfl rfl⟩
      rw [altRun_two]; simp [tracked, g2, minRecs, hf, alt2]
    next hcon =>
      refine ⟨side_rebuild c [_, _] (by simp [joinRun]) (by rw [altRun_two]; simp [tracked, alt2]) ?_, hsim _ _ rfl rfl,
        fun hr => recsOK_window _ _ [] [_, _] _ (hr0 hr) (by intro k; simp [cnt, keyOf])⟩
      simp only [Bool.and_eq_true, Bool.not_eq_true', not_and, Bool.not_eq_false] at hcon
      rcases Bool.eq_false_or_eq_true isOpen with ho | ho <;> subst ho
      · simp [localOK, g2]
      · cases hr : (newLeft cfg (erase (s.ael.take pos)) pt false dxLeft).2
        · simp [localOK, g2]
        · exact absurd (hcon hr) (by simp)
  next => trivial

theorem insertOneS_spec (cfg : Cfg) (pos : Nat) (pt : PathType) (dx : Int) (s : SState) (hs : Side s.ael) :
    StepOK (insertOneS cfg pos pt dx s)
      (fun s' => Side s'.ael ∧ insertOne cfg pos pt dx (erase s.ael) = some (erase s'.ael) ∧ Recs s s') := by
  unfold insertOneS
  split
  next hc =>
    obtain ⟨hpos, hdx, hsep⟩ := hc
    obtain ⟨q, c⟩ := insert_ctx pos s.ael hs hsep
    have g2 := (newLeft_fields cfg (erase (s.ael.take pos)) pt true dx).2.1
    refine ⟨side_rebuild c [_] (by simp [joinRun]) (by simp [altRun, tracked, g2]) (by simp [localOK, g2]), ?_, fun hr => ?_⟩
    · have : pos ≤ (erase s.ael).length := by rw [erase_length]; exact hpos
      simp only [insertOne, this, hdx, and_self, if_true]
      simp only [erase, List.map_append, List.map_cons, List.map_take, List.map_drop]
    · refine recsOK_window _ _ [] [_] _ ?_ (by intro k; simp [cnt, keyOf])
      rw [List.nil_append, List.take_append_drop]; exact hr
  next => trivial

theorem removeOneS_spec (i : Nat) (s : SState) (hs : Side s.ael) :
    StepOK (removeOneS i s) (fun s' => Side s'.ael ∧ removeOne i (erase s.ael) = some (erase s'.ael) ∧ Recs s s') := by
  unfold removeOneS
  split
  next x rest h0 =>
    split
    next ho =>
      have hl := drop_split _ _ _ h0
      have hs' := hs; rw [hl] at hs'
      obtain ⟨p, q, p2, q2, c, hp2, hq2, l2⟩ := (side_ctx _ [x] rest).mp hs'
      refine ⟨?_, ?_, fun hr => ?_⟩
      · simp [localOK, ho] at l2
        simp [altRun, tracked, ho] at hq2
        refine side_rebuild c [] ?_ (by simp [altRun, hq2]) rfl
        cases p <;> simp [joinRun, l2.2] at hp2 <;> simp [joinRun, hp2]
      · have : (erase s.ael).drop i = x.e :: erase rest := by simp only [erase, ← List.map_drop, h0, List.map_cons]
        simp only [removeOne, this, ho, if_true]
        simp [erase, List.map_take]
      · rw [hl] at hr
        exact recsOK_window s.next _ [x] [] rest hr (fun k => Nat.zero_le _)
    next => trivial
  next => trivial

theorem par_succ (n : Nat) : ((1 + n) % 2 == 1) = !(n % 2 == 1) := by
  rw [Nat.add_mod]
  rcases Nat.mod_two_eq_zero_or_one n with h | h <;> rw [h] <;> rfl

/-- parity of the hot closed edges of a stretch of the AEL, read off the two automata: every edge that owns a record flips the
alternation state, every joined edge flips the join state, and under `localOK` these are exactly the hot closed edges -/
theorem hot_parity (l : List SEdge) : ∀ (p b p' b' : Bool), joinRun p l = some p' → altRun b l = some b' → l.all localOK = true →
    (hotCount (erase l) % 2 == 1) = ((b != b') != (p != p')) := by
  induction l with
  | nil =>
    intro p b p' b' h1 h2 _
    simp [joinRun] at h1; simp [altRun] at h2; subst h1 h2
    simp [erase, hotCount]
  | cons x xs ih =>
    intro p b p' b' h1 h2 hl
    simp only [List.all_cons, Bool.and_eq_true] at hl
    obtain ⟨lx, lxs⟩ := hl
    simp only [erase, List.map_cons, hotCount] at ih ⊢
    cases ho : x.e.isOpen
    · -- closed edge
      simp only [localOK, ho, Bool.false_eq_true, if_false, Bool.and_eq_true, beq_iff_eq] at lx
      cases hj : x.join <;> cases hr : x.orec <;> simp [hj, hr] at lx
      all_goals
        simp only [altRun, tracked, ho, hr, Bool.false_eq_true, if_false, Option.map_none, Option.map_some] at h2
        simp only [joinRun, hj] at h1
        cases p <;> simp at h1
      · -- cold
        rw [show (if false = false ∧ x.e.hot = true then 1 else 0) = 0 by simp [lx], Nat.zero_add, ih _ _ _ _ h1 h2 lxs]
      all_goals
        rw [show (if false = false ∧ x.e.hot = true then 1 else 0) = 1 by simp [lx], par_succ]
      · -- owns a record
        split at h2
        next hf => rw [ih _ _ _ _ h1 h2 lxs]; cases b <;> cases b' <;> cases p' <;> rfl
        next => cases h2
      · -- joined left
        rw [ih _ _ _ _ h1 h2 lxs]; cases b <;> cases b' <;> cases p' <;> rfl
      · -- joined right
        rw [ih _ _ _ _ h1 h2 lxs]; cases b <;> cases b' <;> cases p' <;> rfl
    · -- open edge: not counted, not tracked, not joined
      simp only [localOK, ho, if_true, Bool.and_eq_true, beq_iff_eq] at lx
      simp only [altRun, tracked, ho, if_true] at h2
      simp only [joinRun, lx.2] at h1
      cases p <;> simp at h1
      rw [show (if true = false ∧ x.e.hot = true then 1 else 0) = 0 by simp, Nat.zero_add, ih _ _ _ _ h1 h2 lxs]

end Clipper.Model

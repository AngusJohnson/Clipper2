/- PointInPolygon, semantic part: the cyclic fold `pipCyc` (Model/Geom.lean) over the polygon `f :: seq`
computes `Spec.pipEvenOdd`, for every cross product `cp` that has the sign of the exact one (`pipCyc_spec`).
Core Lean only. -/
import ClipperVerif.Lemmas.GeomBasic
import ClipperVerif.Props.C13Spec
namespace Clipper.Lemmas.Geom
open Clipper Clipper.Model
open Clipper.WindSpec (sign_mul sign_mul_neg mul_eq_zero_iff_right cross_swap cross_eq cross_pos_of_left cross_neg_of_right)
open Clipper.Props.C13Spec (mirX cross_mirX windPath_mirrorX offSpan_of_not_onBoundary)

theorem cross_of_on {v w p : Pt} (hv : v.y = p.y) : cross v w p = (w.y - p.y) * (v.x - p.x) := by
  rw [cross_eq, hv, Int.sub_self, Int.zero_mul, Int.add_zero]

/-- left-ray counterpart of `Spec.crossing`: the edge `a → b` (half-open rule) crosses the horizontal line through
`p` strictly to the left of `p` -/
def lcross (p a b : Pt) : Bool :=
  (decide (a.y ≤ p.y ∧ p.y < b.y) && decide (cross a b p < 0)) ||
  (decide (b.y ≤ p.y ∧ p.y < a.y) && decide (0 < cross a b p))

theorem onSeg_iff (p a b : Pt) : onSeg p a b = true ↔ cross a b p = 0 ∧ min a.x b.x ≤ p.x ∧ p.x ≤ max a.x b.x ∧
    min a.y b.y ≤ p.y ∧ p.y ≤ max a.y b.y := by
  simp only [onSeg, Bool.and_eq_true, beq_iff_eq, decide_eq_true_eq, and_assoc]

theorem lcross_iff (p a b : Pt) : lcross p a b = true ↔
    (a.y ≤ p.y ∧ p.y < b.y ∧ cross a b p < 0) ∨ (b.y ≤ p.y ∧ p.y < a.y ∧ 0 < cross a b p) := by
  simp only [lcross, Bool.or_eq_true, Bool.and_eq_true, decide_eq_true_eq, and_assoc]

theorem eq_decide_iff {b : Bool} {q : Prop} [Decidable q] : b = decide q ↔ (b = true ↔ q) := by
  cases b <;> simp

theorem onSeg_comm (p a b : Pt) : onSeg p a b = onSeg p b a := by
  rw [Bool.eq_iff_iff, onSeg_iff, onSeg_iff, cross_swap a b p, Int.neg_eq_zero, Int.min_comm b.x, Int.max_comm b.x,
    Int.min_comm b.y, Int.max_comm b.y]

theorem lcross_comm (p a b : Pt) : lcross p a b = lcross p b a := by
  rw [Bool.eq_iff_iff, lcross_iff, lcross_iff, cross_swap a b p]; omega

-- the kinds of edge `v → w` relative to the horizontal line through `p`; "above" = smaller y, as in the C++, which uses
-- screen coordinates

theorem edge_same_side {p v w : Pt} (h : (v.y < p.y ∧ w.y < p.y) ∨ (p.y < v.y ∧ p.y < w.y)) :
    onSeg p v w = false ∧ lcross p v w = false := by
  rw [← Bool.not_eq_true, ← Bool.not_eq_true, onSeg_iff, lcross_iff]; omega

theorem edge_above_below {p v w : Pt} (hv : v.y < p.y) (hw : p.y < w.y) :
    onSeg p v w = decide (cross v w p = 0) ∧ lcross p v w = decide (cross v w p < 0) := by
  have s1 : p.x < v.x → p.x < w.x → 0 < cross v w p :=
    cross_pos_of_left (Int.le_of_lt hv) (Int.le_of_lt hw) (Int.lt_trans hv hw)
  have s2 : v.x < p.x → w.x < p.x → cross v w p < 0 :=
    cross_neg_of_right (Int.le_of_lt hv) (Int.le_of_lt hw) (Int.lt_trans hv hw)
  rw [eq_decide_iff, eq_decide_iff, onSeg_iff, lcross_iff]
  generalize cross v w p = d at *
  omega

theorem edge_on_below {p v w : Pt} (hv : v.y = p.y) (hw : p.y < w.y) :
    (cross v w p < 0 ↔ v.x < p.x) ∧ (cross v w p = 0 ↔ v.x = p.x) ∧
    onSeg p v w = decide (v.x = p.x) ∧ lcross p v w = decide (v.x < p.x) := by
  have hB : 0 < w.y - p.y := by omega
  have hs := sign_mul (e := v.x - p.x) hB
  have hz := mul_eq_zero_iff_right (e := v.x - p.x) (Int.ne_of_gt hB)
  rw [← cross_of_on hv] at hs hz
  rw [eq_decide_iff, eq_decide_iff, onSeg_iff, lcross_iff]
  generalize cross v w p = d at *
  omega

theorem edge_on_above {p v w : Pt} (hv : v.y = p.y) (hw : w.y < p.y) :
    (cross v w p < 0 ↔ p.x < v.x) ∧ (cross v w p = 0 ↔ v.x = p.x) ∧
    onSeg p v w = decide (v.x = p.x) ∧ lcross p v w = false := by
  have hB : w.y - p.y < 0 := by omega
  have hs := sign_mul_neg (e := v.x - p.x) hB
  have hz := mul_eq_zero_iff_right (e := v.x - p.x) (Int.ne_of_lt hB)
  rw [← cross_of_on hv] at hs hz
  rw [eq_decide_iff, ← Bool.not_eq_true (lcross p v w), onSeg_iff, lcross_iff]
  generalize cross v w p = d at *
  omega

theorem edge_on_on {p v w : Pt} (hv : v.y = p.y) (hw : w.y = p.y) :
    onSeg p v w = decide (min v.x w.x ≤ p.x ∧ p.x ≤ max v.x w.x) ∧ lcross p v w = false := by
  have hd : cross v w p = 0 := by rw [cross_of_on hv, hw, Int.sub_self, Int.zero_mul]
  rw [eq_decide_iff, ← Bool.not_eq_true (lcross p v w), onSeg_iff, lcross_iff, hd]
  omega

theorem edge_below_above {p v w : Pt} (hv : p.y < v.y) (hw : w.y < p.y) :
    onSeg p v w = decide (cross v w p = 0) ∧ lcross p v w = decide (0 < cross v w p) := by
  rw [onSeg_comm, lcross_comm, (edge_above_below hw hv).1, (edge_above_below hw hv).2]
  exact ⟨decide_eq_decide.mpr (by rw [cross_swap v w p, Int.neg_eq_zero]),
    decide_eq_decide.mpr (by rw [cross_swap v w p]; omega)⟩

theorem edge_above_on {p v w : Pt} (hv : v.y < p.y) (hw : w.y = p.y) :
    onSeg p v w = decide (w.x = p.x) ∧ lcross p v w = false := by
  rw [onSeg_comm, lcross_comm]; exact (edge_on_above hw hv).2.2

theorem edge_below_on {p v w : Pt} (hv : p.y < v.y) (hw : w.y = p.y) :
    onSeg p v w = decide (w.x = p.x) ∧ lcross p v w = decide (w.x < p.x) := by
  rw [onSeg_comm, lcross_comm]; exact (edge_on_below hw hv).2.2

def b2i (b : Bool) : Int := if b then 1 else 0

theorem tog_b2i (L : Bool) (q : Prop) [Decidable q] : (if q then 1 - b2i L else b2i L) = b2i (L ^^ decide q) := by
  by_cases h : q <;> cases L <;> simp [h, b2i]

/-- what `(is_above, val)` know at vertex `v` when `L` is the parity of the left crossings so far: `is_above` is the side of
`v`, or of the last vertex off the line; `val` is `L`, except that an edge that came up to the line on the left of `p` has
been counted by the half-open rule of `lcross` and not yet by the code -/
def Inv (p v : Pt) (ia : Bool) (val : Int) (L : Bool) : Prop :=
  (v.y < p.y → ia = true ∧ val = b2i L) ∧
  (p.y < v.y → ia = false ∧ val = b2i L) ∧
  (v.y = p.y → v.x ≠ p.x ∧ val = b2i (L ^^ (!ia && decide (v.x < p.x))))

theorem Inv.above {p w : Pt} (L : Bool) (h : w.y < p.y) : Inv p w true (b2i L) L :=
  ⟨fun _ => ⟨rfl, rfl⟩, fun h' => absurd h' (Int.lt_asymm h), fun h' => absurd (h' ▸ h) (Int.lt_irrefl _)⟩

theorem Inv.below {p w : Pt} (L : Bool) (h : p.y < w.y) : Inv p w false (b2i L) L :=
  ⟨fun h' => absurd h' (Int.lt_asymm h), fun _ => ⟨rfl, rfl⟩, fun h' => absurd (h' ▸ h) (Int.lt_irrefl _)⟩

theorem Inv.on {p w : Pt} (ia L : Bool) (hy : w.y = p.y) (hx : w.x ≠ p.x) :
    Inv p w ia (b2i (L ^^ (!ia && decide (w.x < p.x)))) L :=
  ⟨fun h' => absurd hy (Int.ne_of_lt h'), fun h' => absurd hy.symm (Int.ne_of_lt h'), fun _ => ⟨hx, rfl⟩⟩

theorem Inv.le_of_above {p v : Pt} {val : Int} {L : Bool} (h : Inv p v true val L) : v.y ≤ p.y :=
  Int.not_lt.mp fun hv => Bool.noConfusion (h.2.1 hv).1

theorem Inv.le_of_below {p v : Pt} {val : Int} {L : Bool} (h : Inv p v false val L) : p.y ≤ v.y :=
  Int.not_lt.mp fun hv => Bool.noConfusion (h.1 hv).1

theorem scanStep_same {cp} {p v w : Pt} {ia : Bool} {val : Int}
    (h : if ia then w.y < p.y else w.y > p.y) : scanStep cp p v w ia val = some (ia, val) := by
  simp [scanStep, h]

theorem scanStep_on {cp} {p v w : Pt} {ia : Bool} {val : Int} (h : w.y = p.y) :
    scanStep cp p v w ia val =
      if w.x = p.x ∨ (w.y = v.y ∧ (decide (p.x < v.x) != decide (p.x < w.x))) then none else some (ia, val) := by
  have h1 : ¬ (if ia then w.y < p.y else w.y > p.y) := by cases ia <;> simp <;> omega
  rw [scanStep, if_neg h1, vertexStep, if_pos h]
  by_cases c : w.x = p.x ∨ (w.y = v.y ∧ (decide (p.x < v.x) != decide (p.x < w.x)))
  · rw [if_pos c, if_pos c]
  · rw [if_neg c, if_neg c]

/-- `cp` has the sign of the exact cross product — all that `PointInPolygon` asks of its `CrossProduct` -/
def SignCorrect (cp : Pt → Pt → Pt → Int) : Prop :=
  ∀ a b c, (cp a b c = 0 ↔ cross a b c = 0) ∧ (cp a b c < 0 ↔ cross a b c < 0)

theorem signCorrect_crossProduct : SignCorrect crossProduct := fun a b c => by
  have e : crossProduct a b c = cross a b c := by simp only [crossProduct, cross]; grind
  rw [e]; exact ⟨Iff.rfl, Iff.rfl⟩

theorem scanStep_sign {cp} (h : SignCorrect cp) (p v w : Pt) (ia : Bool) (val : Int) :
    scanStep cp p v w ia val = scanStep cross p v w ia val := by
  simp only [scanStep, vertexStep, (h v w p).1, decide_eq_decide.mpr (h v w p).2]

theorem pipClose_sign {cp} (h : SignCorrect cp) (p l f : Pt) (sa ia : Bool) (val : Int) :
    pipClose cp p l f sa ia val = pipClose cross p l f sa ia val := by
  simp only [pipClose, (h l f p).1, decide_eq_decide.mpr (h l f p).2]

/-- crossing from above to below: the x-shortcuts agree with the cross product -/
theorem scanStep_down {cp} (hcp : SignCorrect cp) {p v w : Pt} {val : Int} (hv : v.y ≤ p.y) (hw : p.y < w.y) :
    scanStep cp p v w true val =
      if cross v w p = 0 then none else some (false, if cross v w p < 0 then 1 - val else val) := by
  have s1 : p.x < w.x ∧ p.x < v.x → 0 < cross v w p :=
    fun h => cross_pos_of_left hv (Int.le_of_lt hw) (Int.lt_of_le_of_lt hv hw) h.2 h.1
  have s2 : p.x > v.x ∧ p.x > w.x → cross v w p < 0 :=
    fun h => cross_neg_of_right hv (Int.le_of_lt hw) (Int.lt_of_le_of_lt hv hw) h.1 h.2
  have h1 : ¬ (w.y < p.y) := by omega
  have h2 : ¬ (w.y = p.y) := by omega
  rw [scanStep_sign hcp]
  simp only [scanStep, vertexStep, if_true, h1, h2, if_false]
  generalize cross v w p = d at *
  by_cases c1 : p.x < w.x ∧ p.x < v.x
  · have := s1 c1
    simp [c1, show ¬ d = 0 by omega, show ¬ d < 0 by omega]
  · by_cases c2 : p.x > v.x ∧ p.x > w.x
    · have := s2 c2
      simp [c1, c2, show ¬ d = 0 by omega, show d < 0 by omega]
    · simp only [c1, c2, if_false]
      by_cases h3 : d = 0
      · simp [h3]
      · by_cases h4 : d < 0 <;> simp [h3, h4]

theorem scanStep_up {cp} (hcp : SignCorrect cp) {p v w : Pt} {val : Int} (hv : p.y ≤ v.y) (hw : w.y < p.y) :
    scanStep cp p v w false val =
      if cross v w p = 0 then none else some (true, if 0 < cross v w p then 1 - val else val) := by
  have s1 : p.x < w.x ∧ p.x < v.x → cross v w p < 0 := fun h => by
    have := cross_pos_of_left (Int.le_of_lt hw) hv (Int.lt_of_lt_of_le hw hv) h.1 h.2
    rw [cross_swap w v p]; omega
  have s2 : p.x > v.x ∧ p.x > w.x → 0 < cross v w p := fun h => by
    have := cross_neg_of_right (Int.le_of_lt hw) hv (Int.lt_of_lt_of_le hw hv) h.2 h.1
    rw [cross_swap w v p]; omega
  have h1 : ¬ (w.y > p.y) := by omega
  have h2 : ¬ (w.y = p.y) := by omega
  rw [scanStep_sign hcp]
  simp only [scanStep, vertexStep, h1, h2, if_false]
  generalize cross v w p = d at *
  by_cases c1 : p.x < w.x ∧ p.x < v.x
  · have := s1 c1
    simp [c1, show ¬ d = 0 by omega, show ¬ 0 < d by omega]
  · by_cases c2 : p.x > v.x ∧ p.x > w.x
    · have := s2 c2
      simp [c1, c2, show ¬ d = 0 by omega, show 0 < d by omega]
    · simp only [c1, c2, if_false]
      by_cases h3 : d = 0
      · simp [h3]
      · by_cases h4 : d < 0
        · simp [h3, h4, show ¬ 0 < d by omega]
        · simp [h3, h4, show 0 < d by omega]

/-- one vertex of the scan: it reports `IsOn` exactly when `p` lies on the edge `v → w`, and otherwise hands the invariant on to
`w` with the edge's left crossing added to the parity -/
theorem scanStep_inv {cp} (hcp : SignCorrect cp) {p v w : Pt} {ia : Bool} {val : Int} {L : Bool} (hinv : Inv p v ia val L) :
    match scanStep cp p v w ia val with
    | none => onSeg p v w = true
    | some (ia', val') => onSeg p v w = false ∧ Inv p w ia' val' (L ^^ lcross p v w) := by
  rcases Int.lt_trichotomy w.y p.y with hw | hw | hw
  · -- `w` strictly above
    cases ia with
    | true =>
      rw [scanStep_same (ia := true) hw]
      rcases Int.lt_or_eq_of_le hinv.le_of_above with hv | hv
      · obtain ⟨e1, e2⟩ := edge_same_side (Or.inl ⟨hv, hw⟩)
        rw [e2, Bool.xor_false, (hinv.1 hv).2]
        exact ⟨e1, Inv.above L hw⟩
      · obtain ⟨hx, hval⟩ := hinv.2.2 hv
        obtain ⟨-, -, e1, e2⟩ := edge_on_above hv hw
        rw [e2, Bool.xor_false, hval, e1, Bool.not_true, Bool.false_and, Bool.xor_false]
        exact ⟨decide_eq_false hx, Inv.above L hw⟩
    | false =>
      rw [scanStep_up hcp hinv.le_of_below hw]
      rcases Int.lt_or_eq_of_le hinv.le_of_below with hv | hv
      · obtain ⟨e1, e2⟩ := edge_below_above hv hw
        rw [e1, e2, (hinv.2.1 hv).2]
        by_cases hd : cross v w p = 0
        · rw [if_pos hd]; exact decide_eq_true hd
        · rw [if_neg hd, tog_b2i]; exact ⟨decide_eq_false hd, Inv.above _ hw⟩
      · obtain ⟨hx, hval⟩ := hinv.2.2 hv.symm
        obtain ⟨s1, s2, e1, e2⟩ := edge_on_above hv.symm hw
        have h3 : (0 < cross v w p) ↔ v.x < p.x := by omega
        rw [if_neg (mt s2.mp hx), e1, e2, Bool.xor_false, hval, Bool.not_false, Bool.true_and, tog_b2i,
          decide_eq_decide.mpr h3, Bool.xor_assoc, Bool.xor_self, Bool.xor_false]
        exact ⟨decide_eq_false hx, Inv.above _ hw⟩
  · -- `w` on the line
    rw [scanStep_on hw]
    rcases Int.lt_trichotomy v.y p.y with hv | hv | hv
    · obtain ⟨e1, e2⟩ := edge_above_on hv hw
      obtain ⟨rfl, hval⟩ := hinv.1 hv
      rw [e1, e2, Bool.xor_false, hval]
      by_cases c : w.x = p.x
      · rw [if_pos (Or.inl c)]; exact decide_eq_true c
      · rw [if_neg (by omega)]
        refine ⟨decide_eq_false c, ?_⟩
        have := Inv.on true L hw c
        rwa [Bool.not_true, Bool.false_and, Bool.xor_false] at this
    · obtain ⟨e1, e2⟩ := edge_on_on hv hw
      obtain ⟨hx, hval⟩ := hinv.2.2 hv
      rw [e1, e2, Bool.xor_false, hval]
      by_cases c : w.x = p.x ∨ (w.y = v.y ∧ (decide (p.x < v.x) != decide (p.x < w.x)))
      · rw [if_pos c]; simp at c ⊢; omega
      · rw [if_neg c]
        simp at c
        have h3 : decide (v.x < p.x) = decide (w.x < p.x) := decide_eq_decide.mpr (by omega)
        rw [h3]
        exact ⟨decide_eq_false (by omega), Inv.on ia L hw c.1⟩
    · obtain ⟨e1, e2⟩ := edge_below_on hv hw
      obtain ⟨rfl, hval⟩ := hinv.2.1 hv
      rw [e1, e2, hval]
      by_cases c : w.x = p.x
      · rw [if_pos (Or.inl c)]; exact decide_eq_true c
      · rw [if_neg (by omega)]
        refine ⟨decide_eq_false c, ?_⟩
        have := Inv.on false (L ^^ decide (w.x < p.x)) hw c
        rwa [Bool.not_false, Bool.true_and, Bool.xor_assoc, Bool.xor_self, Bool.xor_false] at this
  · -- `w` strictly below
    cases ia with
    | false =>
      rw [scanStep_same (ia := false) hw]
      rcases Int.lt_or_eq_of_le hinv.le_of_below with hv | hv
      · obtain ⟨e1, e2⟩ := edge_same_side (Or.inr ⟨hv, hw⟩)
        rw [e2, Bool.xor_false, (hinv.2.1 hv).2]
        exact ⟨e1, Inv.below L hw⟩
      · obtain ⟨hx, hval⟩ := hinv.2.2 hv.symm
        obtain ⟨-, -, e1, e2⟩ := edge_on_below hv.symm hw
        rw [e2, hval, e1, Bool.not_false, Bool.true_and]
        exact ⟨decide_eq_false hx, Inv.below _ hw⟩
    | true =>
      rw [scanStep_down hcp hinv.le_of_above hw]
      rcases Int.lt_or_eq_of_le hinv.le_of_above with hv | hv
      · obtain ⟨e1, e2⟩ := edge_above_below hv hw
        rw [e1, e2, (hinv.1 hv).2]
        by_cases hd : cross v w p = 0
        · rw [if_pos hd]; exact decide_eq_true hd
        · rw [if_neg hd, tog_b2i]; exact ⟨decide_eq_false hd, Inv.below _ hw⟩
      · obtain ⟨hx, hval⟩ := hinv.2.2 hv
        obtain ⟨s1, s2, e1, e2⟩ := edge_on_below hv hw
        rw [if_neg (mt s2.mp hx), e1, e2, hval, Bool.not_true, Bool.false_and, Bool.xor_false, tog_b2i,
          decide_eq_decide.mpr s1]
        exact ⟨decide_eq_false hx, Inv.below _ hw⟩

/-- a scan that does not stop ends at the last vertex -/
theorem scan_last (cp : Pt → Pt → Pt → Int) (p : Pt) :
    ∀ (xs : List Pt) (pr : Pt) (ia : Bool) (val : Int) (r : Pt × Bool × Int),
      pipScan cp p pr ia val xs = some r → r.1 = lastOf pr xs
  | [], pr, ia, val, r, h => by simp only [pipScan] at h; cases h; rfl
  | x :: xs, pr, ia, val, r, h => by
    simp only [pipScan] at h
    cases hst : scanStep cp p pr x ia val with
    | none => rw [hst] at h; cases h
    | some st => rw [hst] at h; exact scan_last cp p xs x st.1 st.2 r h

/-- parity of left crossings along the chain `v, seq` -/
def lpar (p : Pt) : Pt → List Pt → Bool
  | _, [] => false
  | v, w :: r => lcross p v w ^^ lpar p w r

theorem pipScan_inv {cp} (hcp : SignCorrect cp) {p : Pt} :
    ∀ (seq : List Pt) (v : Pt) (ia : Bool) (val : Int) (L : Bool), Inv p v ia val L →
    match pipScan cp p v ia val seq with
    | none => ∃ e ∈ chain v seq, onSeg p e.1 e.2 = true
    | some (l, ia', val') => (∀ e ∈ chain v seq, onSeg p e.1 e.2 = false) ∧ Inv p l ia' val' (L ^^ lpar p v seq)
  | [], v, ia, val, L, h => by simpa [pipScan, lpar] using h
  | w :: r, v, ia, val, L, h => by
    have hs := scanStep_inv hcp (w := w) h
    rw [pipScan]
    cases hstep : scanStep cp p v w ia val with
    | none =>
      rw [hstep] at hs
      exact ⟨(v, w), by simp, hs⟩
    | some st =>
      obtain ⟨ia', val'⟩ := st
      rw [hstep] at hs
      obtain ⟨hon, hinv⟩ := hs
      have ih := pipScan_inv hcp r w ia' val' _ hinv
      simp only
      cases hrec : pipScan cp p w ia' val' r with
      | none =>
        rw [hrec] at ih
        obtain ⟨e, he, heon⟩ := ih
        exact ⟨e, by simp [he], heon⟩
      | some res =>
        obtain ⟨l, ia2, val2⟩ := res
        rw [hrec] at ih
        obtain ⟨hall, hinv2⟩ := ih
        refine ⟨?_, ?_⟩
        · intro e he
          simp only [chain_cons, List.mem_cons] at he
          rcases he with rfl | he
          · exact hon
          · exact hall e he
        · simpa [lpar, Bool.xor_assoc] using hinv2

/-- the closing edge `l → f` is treated like the others, only without the x-shortcuts -/
theorem pipClose_eq {cp} (hcp : SignCorrect cp) {p l f : Pt} {ia : Bool} {val : Int} {L : Bool} (hf : f.y ≠ p.y)
    (hinv : Inv p l ia val L) :
    pipClose cp p l f (decide (f.y < p.y)) ia val =
      match scanStep cp p l f ia val with
      | none => .isOn
      | some (_, val') => if val' = 0 then .isOutside else .isInside := by
  rw [pipClose_sign hcp]
  cases ia <;> rcases Int.lt_or_gt_of_ne hf with h | h
  · rw [scanStep_up hcp hinv.le_of_below h, pipClose, decide_eq_true h]
    by_cases h3 : cross l f p = 0
    · simp [h3]
    · by_cases h4 : cross l f p < 0
      · simp [h3, h4, show ¬ 0 < cross l f p by omega]
      · simp [h3, h4, show 0 < cross l f p by omega]
  · rw [scanStep_same (ia := false) h, pipClose, decide_eq_false (by omega)]; rfl
  · rw [scanStep_same (ia := true) h, pipClose, decide_eq_true h]; rfl
  · rw [scanStep_down hcp hinv.le_of_above h, pipClose, decide_eq_false (by omega)]
    by_cases h3 : cross l f p = 0
    · simp [h3]
    · by_cases h4 : cross l f p < 0 <;> simp [h3, h4]

theorem pipScan_append (cp : Pt → Pt → Pt → Int) (p : Pt) (ys : List Pt) :
    ∀ (xs : List Pt) (pr : Pt) (ia : Bool) (val : Int),
      pipScan cp p pr ia val (xs ++ ys) =
        match pipScan cp p pr ia val xs with
        | none => none
        | some (_, ia', val') => pipScan cp p (lastOf pr xs) ia' val' ys
  | [], pr, ia, val => rfl
  | x :: xs, pr, ia, val => by
    simp only [List.cons_append, pipScan, lastOf_cons]
    cases scanStep cp p pr x ia val with
    | none => rfl
    | some st => exact pipScan_append cp p ys xs x st.1 st.2

theorem inv_start {p f : Pt} (hf : f.y ≠ p.y) : Inv p f (decide (f.y < p.y)) 0 false := by
  rcases Int.lt_or_gt_of_ne hf with h | h
  · rw [decide_eq_true h]; exact Inv.above false h
  · rw [decide_eq_false (show ¬ f.y < p.y by omega)]; exact Inv.below false h

/-- the cyclic fold is the scan of the closed chain `f, seq, f` -/
theorem pipCyc_eq_scan {cp} (hcp : SignCorrect cp) {p f : Pt} (seq : List Pt) (hf : f.y ≠ p.y) :
    pipCyc cp p f seq =
      match pipScan cp p f (decide (f.y < p.y)) 0 (seq ++ [f]) with
      | none => .isOn
      | some (_, _, val) => if val = 0 then .isOutside else .isInside := by
  have hs := pipScan_inv hcp seq f _ 0 false (inv_start hf)
  rw [pipCyc, pipScan_append]
  cases hscan : pipScan cp p f (decide (f.y < p.y)) 0 seq with
  | none => rfl
  | some r =>
    obtain ⟨l, ia, val⟩ := r
    obtain rfl : l = lastOf f seq := scan_last cp p _ _ _ _ _ hscan
    rw [hscan] at hs
    obtain ⟨-, hinv⟩ := hs
    simp only [pipScan]
    rw [pipClose_eq hcp hf hinv]
    cases scanStep cp p (lastOf f seq) f ia val <;> rfl

/-- the ray towards −x is the ray towards +x of the mirror image -/
theorem crossing_mirX_mod2 (p a b : Pt) : crossing (mirX p) (mirX a) (mirX b) % 2 = b2i (lcross p a b) := by
  unfold crossing lcross b2i
  rw [cross_mirX]
  simp only [mirX, gt_iff_lt, Int.neg_pos, Int.neg_neg_iff_pos]
  by_cases c1 : a.y ≤ p.y ∧ p.y < b.y
  · have c2 : ¬ (b.y ≤ p.y ∧ p.y < a.y) := by omega
    by_cases c3 : cross a b p < 0 <;> simp [c1, c2, c3]
  · by_cases c2 : b.y ≤ p.y ∧ p.y < a.y
    · by_cases c3 : 0 < cross a b p <;> simp [c1, c2, c3]
    · simp [c1, c2]

theorem add_mod2 {x y : Int} {a b : Bool} (hx : x % 2 = b2i a) (hy : y % 2 = b2i b) : (x + y) % 2 = b2i (a ^^ b) := by
  rw [Int.add_emod, hx, hy]; cases a <;> cases b <;> rfl

theorem lpar_mod2 (p : Pt) : ∀ (l : List Pt) (v : Pt),
    ((chain v l).map (fun e => crossing (mirX p) (mirX e.1) (mirX e.2))).sum % 2 = b2i (lpar p v l)
  | [], v => rfl
  | w :: r, v => by
    rw [chain_cons, List.map_cons, List.sum_cons, lpar]
    exact add_mod2 (crossing_mirX_mod2 p v w) (lpar_mod2 p r w)

theorem pipCode_inj {r s : PipResult} (h : pipCode r = pipCode s) : r = s := by
  cases r <;> cases s <;> simp [pipCode] at h ⊢

/-- The cyclic fold computes `Spec.pipEvenOdd`.  The scan reports `IsOn` iff an edge passes through `p`, and otherwise its
`val` is the parity of the crossings to the left of `p` (`pipScan_inv`), which are the crossings of the Spec's ray in the mirror image;
for a closed path with no edge through `p` the mirror image has the opposite winding number (`C13Spec.windPath_mirrorX`). -/
theorem pipCyc_spec {cp} (hcp : SignCorrect cp) {p f : Pt} (seq : List Pt) (hf : f.y ≠ p.y) :
    pipCode (pipCyc cp p f seq) = pipEvenOdd (f :: seq) p := by
  have hs := pipScan_inv hcp (seq ++ [f]) f _ 0 false (inv_start hf)
  rw [pipCyc_eq_scan hcp seq hf, pipEvenOdd]
  cases hscan : pipScan cp p f (decide (f.y < p.y)) 0 (seq ++ [f]) with
  | none =>
    rw [hscan] at hs
    obtain ⟨e, he, heon⟩ := hs
    have hb : onBoundary (f :: seq) p = true := by
      rw [onBoundary, edgesOf_cons]; exact List.any_eq_true.mpr ⟨e, he, heon⟩
    rw [if_pos hb]; rfl
  | some res =>
    have hl : res.1 = f := by rw [scan_last cp p _ _ _ _ _ hscan, lastOf_append, lastOf_cons, lastOf_nil]
    rw [hscan] at hs
    obtain ⟨hall, i1, i2, -⟩ := hs
    have hb : onBoundary (f :: seq) p = false := by
      rw [onBoundary, edgesOf_cons]; exact List.any_eq_false.mpr fun e he => by rw [hall e he]; decide
    have hm := windPath_mirrorX (f :: seq) p (offSpan_of_not_onBoundary (ps := [f :: seq])
      (fun _ h => List.mem_singleton.mp h ▸ hb) _ (List.mem_singleton_self _))
    rw [WindSpec.windPath_map_eq mirX _ _ _ fun _ _ => rfl, edgesOf_cons] at hm
    have hpar := lpar_mod2 p (seq ++ [f]) f
    have hodd : windPath (f :: seq) p % 2 = b2i (lpar p f (seq ++ [f])) := by rw [hm] at hpar; omega
    have hval : res.2.2 = b2i (lpar p f (seq ++ [f])) := by
      rw [← Bool.false_xor (lpar p f (seq ++ [f]))]
      rcases Int.lt_or_gt_of_ne hf with h | h
      · exact (i1 (hl ▸ h)).2
      · exact (i2 (hl ▸ h)).2
    rw [hb, if_neg Bool.false_ne_true, hodd]
    simp only [hval]
    cases lpar p f (seq ++ [f]) <;> rfl

theorem pipEvenOdd_rotate (x y : List Pt) (p : Pt) : pipEvenOdd (x ++ y) p = pipEvenOdd (y ++ x) p := by
  have hp := WindSpec.edgesOf_rotate_perm y x
  have h1 : onBoundary (x ++ y) p = onBoundary (y ++ x) p := hp.any_eq
  have h2 : windPath (x ++ y) p = windPath (y ++ x) p := WindSpec.sum_perm (hp.map _)
  simp only [pipEvenOdd, h1, h2]

theorem pipCyc_rot {cp} (hcp : SignCorrect cp) {p f : Pt} (x y : List Pt) (hf : f.y ≠ p.y) :
    pipCode (pipCyc cp p f (y ++ x)) = pipEvenOdd (x ++ f :: y) p := by
  rw [pipCyc_spec hcp _ hf, pipEvenOdd_rotate x]; rfl

end Clipper.Lemmas.Geom

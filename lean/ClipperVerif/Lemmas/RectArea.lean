/-
Discrete Green theorem for rectilinear closed paths: twice the shoelace area equals the sum over the bounded
grid cells of (winding number at the cell centre) · 2 · (cell area).
-/
import ClipperVerif.Lemmas.RectCheck
namespace Clipper.RectCheck
open Clipper Clipper.WindSpec

theorem ind_true : ind true = 1 := rfl
theorem ind_false : ind false = 0 := rfl

/-- `Σ` over the bounded cells of `F centre · 2 · width · height` (centres in doubled coordinates) -/
def cellSum (F : Pt → Int) (xs ys : List Int) : Int :=
  ((gaps xs).map (fun gx => ((gaps ys).map (fun gy => F ⟨gx.1, gy.1⟩ * (2 * (gx.2 * gy.2)))).sum)).sum

theorem cellSum_zero (xs ys : List Int) : cellSum (fun _ => 0) xs ys = 0 := by
  unfold cellSum
  simp only [Int.zero_mul, sum_map_zero]

theorem cellSum_add (F G : Pt → Int) (xs ys : List Int) :
    cellSum (fun c => F c + G c) xs ys = cellSum F xs ys + cellSum G xs ys := by
  unfold cellSum
  rw [← sum_map_add]
  congr 1
  apply List.map_congr_left
  intro gx _
  rw [← sum_map_add]
  congr 1
  apply List.map_congr_left
  intro gy _
  exact Int.add_mul _ _ _

theorem cellSum_list {α : Type} (L : List α) (F : α → Pt → Int) (xs ys : List Int) :
    cellSum (fun c => (L.map (fun i => F i c)).sum) xs ys = (L.map (fun i => cellSum (F i) xs ys)).sum := by
  induction L with
  | nil => simp only [List.map_nil, List.sum_nil]; exact cellSum_zero xs ys
  | cons i r ih =>
    simp only [List.map_cons, List.sum_cons]
    rw [cellSum_add, ih]

/-- `g.1 < 2 * X` says that the gap with doubled mid point `g.1` lies left of the grid value `X`: the sum is the total width of the
gaps left of `X`. -/
theorem gapsum (X : Int) : ∀ (r : List Int) (x0 : Int), (x0 :: r).Pairwise (· < ·) →
    (X ≤ x0 → ((gaps (x0 :: r)).map (fun g => ind (decide (g.1 < 2 * X)) * g.2)).sum = 0) ∧
    (X ∈ x0 :: r → ((gaps (x0 :: r)).map (fun g => ind (decide (g.1 < 2 * X)) * g.2)).sum = X - x0) := by
  intro r
  induction r with
  | nil =>
    intro x0 _
    exact ⟨fun _ => rfl, fun hX => by rw [List.mem_singleton.mp hX, Int.sub_self]; rfl⟩
  | cons c r ih =>
    intro x0 hs
    have hs' := List.pairwise_cons.mp hs
    have h0c : x0 < c := hs'.1 c List.mem_cons_self
    obtain ⟨ih0, ih1⟩ := ih c hs'.2
    have left : X ≤ x0 → ((gaps (x0 :: c :: r)).map (fun g => ind (decide (g.1 < 2 * X)) * g.2)).sum = 0 := by
      intro hX
      have hd : decide (x0 + c < 2 * X) = false := decide_eq_false (by omega)
      simp only [gaps, List.map_cons, List.sum_cons, ih0 (by omega), hd, ind_false, Int.zero_mul, Int.add_zero]
    refine ⟨left, fun hX => ?_⟩
    rcases List.mem_cons.mp hX with rfl | hX'
    · rw [left (Int.le_refl _), Int.sub_self]
    · have hcX := head_le_of_mem hs'.2 hX'
      have hd : decide (x0 + c < 2 * X) = true := decide_eq_true (by omega)
      simp only [gaps, List.map_cons, List.sum_cons, ih1 hX', hd, ind_true, Int.one_mul]
      omega

theorem cellSum_mul (f g : Int → Int) (xs ys : List Int) :
    cellSum (fun c => f c.x * g c.y) xs ys =
      2 * (((gaps xs).map (fun gx => f gx.1 * gx.2)).sum * ((gaps ys).map (fun gy => g gy.1 * gy.2)).sum) := by
  have inner : ∀ gx ∈ gaps xs, ((gaps ys).map (fun gy => f gx.1 * g gy.1 * (2 * (gx.2 * gy.2)))).sum
      = 2 * (f gx.1 * gx.2) * ((gaps ys).map (fun gy => g gy.1 * gy.2)).sum := by
    intro gx _
    rw [← sum_map_mul_left]
    exact congrArg List.sum (List.map_congr_left fun gy _ => by ac_rfl)
  unfold cellSum
  rw [List.map_congr_left inner, sum_map_mul_right, sum_map_mul_left, Int.mul_assoc]

theorem cellSum_edge {x0 y0 : Int} {rx ry : List Int} (hx : (x0 :: rx).Pairwise (· < ·))
    (hy : (y0 :: ry).Pairwise (· < ·)) {a b : Pt} (ax : a.x ∈ x0 :: rx) (ay : a.y ∈ y0 :: ry)
    (bY : b.y ∈ y0 :: ry) :
    cellSum (fun c => crossB (loc 2 c.x) (loc 2 c.y) a b) (x0 :: rx) (y0 :: ry)
      = 2 * ((a.x - x0) * (b.y - a.y)) := by
  have hY : ((gaps (y0 :: ry)).map (fun gy => (ind (decide (gy.1 < 2 * b.y)) - ind (decide (gy.1 < 2 * a.y))) * gy.2)).sum
      = b.y - a.y := by
    simp only [Int.sub_mul]
    rw [sum_map_sub, (gapsum b.y ry y0 hy).2 bY, (gapsum a.y ry y0 hy).2 ay]
    omega
  simp only [crossB, loc]
  rw [cellSum_mul (fun x => ind (decide (x < 2 * a.x))) (fun y => ind (decide (y < 2 * b.y)) - ind (decide (y < 2 * a.y))),
    (gapsum a.x rx x0 hx).2 ax, hY]

/-- potential whose increments account for the difference between the shoelace term and the cell term -/
def Gf (x0 : Int) (v : Pt) : Int := -(v.x * v.y) + 2 * x0 * v.y

theorem edge_shoelace (x0 : Int) {a b : Pt} (h : a.x = b.x ∨ a.y = b.y) :
    a.x * b.y - b.x * a.y = 2 * ((a.x - x0) * (b.y - a.y)) + (Gf x0 b - Gf x0 a) := by
  unfold Gf
  rcases h with h | h
  · rw [← h]; grind
  · rw [← h]; grind

theorem shoelace_rect (x0 : Int) {path : Path} (h : isRectPath path = true) :
    shoelace2 path = ((edgesOf path).map (fun e => 2 * ((e.1.x - x0) * (e.2.y - e.1.y)))).sum := by
  unfold shoelace2
  have e : ∀ e ∈ edgesOf path, e.1.x * e.2.y - e.2.x * e.1.y
      = 2 * ((e.1.x - x0) * (e.2.y - e.1.y)) + (Gf x0 e.2 - Gf x0 e.1) := by
    intro e he
    exact edge_shoelace x0 (axisEdge_parallel (List.all_eq_true.mp h e he))
  rw [List.map_congr_left e, sum_map_add, edges_telescope]
  omega

theorem cellSum_path {xs ys : List Int} (hx : xs.Pairwise (· < ·)) (hy : ys.Pairwise (· < ·))
    {path : Path} (hr : isRectPath path = true)
    (vx : ∀ v ∈ path, v.x ∈ xs) (vy : ∀ v ∈ path, v.y ∈ ys) :
    cellSum (fun c => windPathB (loc 2 c.x) (loc 2 c.y) path) xs ys = shoelace2 path := by
  cases path with
  | nil => simp only [windPathB, edgesOf, List.map_nil, List.sum_nil, shoelace2]; exact cellSum_zero xs ys
  | cons v rest =>
    have hvx := vx v List.mem_cons_self
    have hvy := vy v List.mem_cons_self
    cases xs with
    | nil => simp at hvx
    | cons x0 rx =>
      cases ys with
      | nil => simp at hvy
      | cons y0 ry =>
        rw [shoelace_rect x0 hr]
        unfold windPathB
        rw [cellSum_list]
        apply congrArg
        apply List.map_congr_left
        intro e he
        obtain ⟨m1, m2⟩ := mem_edgesOf he
        exact cellSum_edge hx hy (vx _ m1) (vy _ m1) (vy _ m2)

theorem cellSum_paths {xs ys : List Int} (hx : xs.Pairwise (· < ·)) (hy : ys.Pairwise (· < ·))
    {ps : Paths} (hr : isRectilinear ps = true)
    (vx : ∀ g ∈ xsOf ps, g ∈ xs) (vy : ∀ g ∈ ysOf ps, g ∈ ys) :
    cellSum (fun c => wind (scalePaths 2 ps) c) xs ys = shoelace2s ps := by
  have e : (fun c => wind (scalePaths 2 ps) c) = (fun c => windB (loc 2 c.x) (loc 2 c.y) ps) := by
    funext c; exact wind_scale_rect 2 c hr
  rw [e]
  unfold windB shoelace2s
  rw [cellSum_list]
  apply congrArg
  apply List.map_congr_left
  intro path hp
  exact cellSum_path hx hy (List.all_eq_true.mp hr path hp)
    (fun v hv => vx v.x (mem_xsOf.mpr ⟨path, hp, v, hv, rfl⟩))
    (fun v hv => vy v.y (mem_ysOf.mpr ⟨path, hp, v, hv, rfl⟩))

end Clipper.RectCheck

/-
Helpers for Props/C04Inside: the executable model of `PointInOpPolygon` / `GetCleanPath` / `Path1InsidePath2`
(`Model/HorzJoins.lean`) against the exact even-odd rule of C18 (`Spec.pipEvenOdd`, `Lemmas/PipScan.lean`).
The ring-walking `PointInOpPolygon` is the same cyclic fold as `PointInPolygon` (`pipCyc`) on the rotation of the ring that
starts at the first vertex off the horizontal through the point, with `CrossProductSign` (exact, `Generated/Core.lean`) in
place of `CrossProduct`; the vote loop is a function of the list of classifications (`decideVotes`) with a closed form in
terms of the `score` of prefixes; `GetCleanPath` returns a sublist of the ring and is the identity on rings without
axis-parallel collinear triples.  Core Lean only.
-/
import ClipperVerif.Model.HorzJoins
import ClipperVerif.Lemmas.PipRefine
import ClipperVerif.Props.C18
namespace Clipper.Lemmas.Path1Inside
open Clipper Clipper.Model Clipper.Model.HorzJoins Clipper.Lemmas.Geom

/-- `CrossProductSign(a, b, c)` on points -/
def cpS (a b c : Pt) : Int := Clipper.Gen.CrossProductSign a.x a.y b.x b.y c.x c.y

theorem signCorrect_cpS : SignCorrect cpS := fun a b c => by
  rw [cpS, Props.C18.crossProductSign_int128_exact, Props.C18.crossSign, Int.sign_eq_zero_iff_zero, Int.sign_neg_iff]
  exact signCorrect_crossProduct a b c

/-- one vertex of the main loop of `PointInOpPolygon` is one vertex of the main loop of `PointInPolygon` -/
theorem pipOpStep_eq (pt p v : Pt) (ia : Bool) (val : Int) :
    pipOpStep pt p v ia val = scanStep cpS pt p v ia val := by
  unfold pipOpStep scanStep vertexStep
  by_cases hskip : (if ia then v.y < pt.y else v.y > pt.y)
  · have : ((ia && decide (v.y < pt.y)) || (!ia && decide (v.y > pt.y))) = true := by
      cases ia <;> simpa using hskip
    rw [if_pos this, if_pos hskip]
  · have : ¬ (((ia && decide (v.y < pt.y)) || (!ia && decide (v.y > pt.y))) = true) := by
      cases ia <;> simpa using hskip
    rw [if_neg this, if_neg hskip]
    by_cases hy : v.y = pt.y
    · rw [if_pos hy, if_pos hy]
      by_cases hon : v.x = pt.x ∨ (v.y = p.y ∧ (decide (pt.x < p.x) != decide (pt.x < v.x)) = true)
      · have : (decide (v.x = pt.x) || (decide (v.y = p.y) && (decide (pt.x < p.x) != decide (pt.x < v.x)))) = true := by
          simpa using hon
        rw [if_pos this, if_pos hon]
      · have : ¬ ((decide (v.x = pt.x) || (decide (v.y = p.y) && (decide (pt.x < p.x) != decide (pt.x < v.x)))) = true) := by
          simpa using hon
        rw [if_neg this, if_neg hon]
    · rw [if_neg hy, if_neg hy]
      by_cases hl : pt.x < v.x ∧ pt.x < p.x
      · have : (decide (pt.x < v.x) && decide (pt.x < p.x)) = true := by simpa using hl
        rw [if_pos this, if_pos hl]
      · have : ¬ ((decide (pt.x < v.x) && decide (pt.x < p.x)) = true) := by simpa using hl
        rw [if_neg this, if_neg hl]
        by_cases hr : pt.x > p.x ∧ pt.x > v.x
        · have : (decide (pt.x > p.x) && decide (pt.x > v.x)) = true := by simpa using hr
          rw [if_pos this, if_pos hr]
        · have : ¬ ((decide (pt.x > p.x) && decide (pt.x > v.x)) = true) := by simpa using hr
          rw [if_neg this, if_neg hr]
          show (if cpS p v pt = 0 then none
            else some (!ia, if (decide (cpS p v pt < 0) == ia) = true then 1 - val else val)) = _
          by_cases hz : cpS p v pt = 0
          · simp [hz]
          · by_cases hs : (decide (cpS p v pt < 0) == ia) = true <;> simp [hz, hs]

theorem pipOpScan_eq (pt : Pt) : ∀ (rest : List Pt) (p : Pt) (ia : Bool) (val : Int),
    pipOpScan pt p ia val rest = pipScan cpS pt p ia val rest
  | [], p, ia, val => rfl
  | v :: rest, p, ia, val => by
    rw [pipOpScan, pipScan, pipOpStep_eq]
    cases scanStep cpS pt p v ia val with
    | none => rfl
    | some st => exact pipOpScan_eq pt rest v st.1 st.2

/-- `PointInOpPolygon` on a ring whose rotation starting at the first off-line vertex is `f :: rest` -/
theorem pointInOpPolygon_eq_cyc (pt : Pt) (ring : List Pt) (k : Nat) (f : Pt) (rest : List Pt)
    (hn : 3 ≤ ring.length) (hk : ring.findIdx? (fun q => q.y != pt.y) = some k) (hr : rotL ring k = f :: rest) :
    pointInOpPolygon pt ring = pipCyc cpS pt f rest := by
  unfold pointInOpPolygon
  simp only [if_neg (Nat.not_lt.mpr hn), hk, hr, pipOpScan_eq, pipCyc]
  cases pipScan cpS pt f (decide (f.y < pt.y)) 0 rest <;> rfl

/-- the degenerate rings: fewer than three vertices, or all vertices on the horizontal through the point — `IsOutside`
whatever the geometry -/
theorem pointInOpPolygon_degenerate (pt : Pt) (ring : List Pt) (h : ring.length < 3 ∨ ∀ v ∈ ring, v.y = pt.y) :
    pointInOpPolygon pt ring = .isOutside := by
  unfold pointInOpPolygon
  by_cases hn : ring.length < 3
  · simp [hn]
  · have hall : ∀ v ∈ ring, v.y = pt.y := by rcases h with h | h; exact absurd h hn; exact h
    have : ring.findIdx? (fun q => q.y != pt.y) = none := by
      rw [List.findIdx?_eq_none_iff]
      intro x hx; simpa using hall x hx
    simp [hn, this]

theorem sum_eq_zero_of_all_zero : ∀ (l : List Int), (∀ x ∈ l, x = 0) → l.sum = 0
  | [], _ => rfl
  | x :: r, h => by
    rw [List.sum_cons, h x List.mem_cons_self, sum_eq_zero_of_all_zero r (fun y hy => h y (List.mem_cons_of_mem _ hy))]
    rfl

/-- a ring that does not reach across the horizontal through `p` has crossing number 0 -/
theorem windPath_eq_zero {ring : List Pt} {p : Pt} (h : (∀ v ∈ ring, v.y ≤ p.y) ∨ (∀ v ∈ ring, p.y < v.y)) :
    windPath ring p = 0 := by
  apply sum_eq_zero_of_all_zero
  intro x hx
  obtain ⟨e, he, rfl⟩ := List.mem_map.mp hx
  obtain ⟨h1, h2⟩ := WindSpec.mem_edgesOf he
  have : (e.1.y ≤ p.y ∧ e.2.y ≤ p.y) ∨ (p.y < e.1.y ∧ p.y < e.2.y) :=
    h.imp (fun h => ⟨h _ h1, h _ h2⟩) (fun h => ⟨h _ h1, h _ h2⟩)
  exact WindSpec.crossing_same_side (by omega)

/-- fewer than three vertices: the crossing number is even -/
theorem windPath_short (ring : List Pt) (p : Pt) (h : ring.length < 3) : windPath ring p % 2 = 0 := by
  match ring, h with
  | [], _ => rfl
  | [a], _ =>
    rw [windPath_eq_zero ((Int.lt_or_le p.y a.y).symm.imp (fun h v hv => List.mem_singleton.mp hv ▸ h)
      (fun h v hv => List.mem_singleton.mp hv ▸ h))]
    rfl
  | [a, b], _ =>
    -- the two edges `a → b` and `b → a` cancel
    show (crossing p a b + (crossing p b a + 0)) % 2 = 0
    rw [Props.C13Spec.crossing_swap p a b]; omega
  | _ :: _ :: _ :: _, h => simp at h; omega

theorem off_or_flat (ring : List Pt) (q : Pt) : (∃ v ∈ ring, v.y ≠ q.y) ∨ ∀ v ∈ ring, v.y = q.y := by
  by_cases h : ∃ v ∈ ring, v.y ≠ q.y
  · exact Or.inl h
  · exact Or.inr fun v hv => Decidable.byContradiction fun hne => h ⟨v, hv, hne⟩

/-- a point strictly above or strictly below every vertex is strictly outside -/
theorem pipEvenOdd_of_off {ring : List Pt} {q : Pt} (h : (∀ v ∈ ring, v.y < q.y) ∨ (∀ v ∈ ring, q.y < v.y)) :
    pipEvenOdd ring q = 2 := by
  have hb : onBoundary ring q = false := by
    unfold onBoundary
    rw [List.any_eq_false]
    intro e he
    obtain ⟨h1, h2⟩ := WindSpec.mem_edgesOf he
    have : (e.1.y < q.y ∧ e.2.y < q.y) ∨ (q.y < e.1.y ∧ q.y < e.2.y) :=
      h.imp (fun h => ⟨h _ h1, h _ h2⟩) (fun h => ⟨h _ h1, h _ h2⟩)
    exact Bool.eq_false_iff.mp (edge_same_side this).1
  have hw := windPath_eq_zero (h.imp_left fun h v hv => Int.le_of_lt (h v hv))
  simp [pipEvenOdd, hb, hw]

/-- what one vertex adds to `outside_cnt`: `++` for `IsOutside`, `--` for `IsInside`, nothing for `IsOn` -/
def voteOf : PipResult → Int
  | .isOutside => 1
  | .isInside => -1
  | .isOn => 0

/-- `outside_cnt` after the vertices with classifications `cls`: #outside − #inside -/
def score : List PipResult → Int
  | [] => 0
  | c :: cs => voteOf c + score cs

/-- **the vote loop on the sequence of classifications** (ring1's vertices in traversal order from `op1`):
`some b` = the loop was left because `|outside_cnt|` reached `2`, and `b = (outside_cnt < 0)`; `none` = every vertex was
visited with `|outside_cnt| < 2` throughout (the location is "still equivocal") -/
def decideVotes : Int → List PipResult → Option Bool
  | _, [] => none
  | cnt, c :: rest =>
    let cnt' := cnt + voteOf c
    if cnt'.natAbs < 2 then decideVotes cnt' rest else some (decide (cnt' < 0))

theorem voteOf_range (c : PipResult) : voteOf c = 1 ∨ voteOf c = -1 ∨ voteOf c = 0 := by
  cases c <;> simp [voteOf]

theorem score_take_zero (c : Int) (cls : List PipResult) : c + score (cls.take 0) = c := by
  rw [List.take_zero, score, Int.add_zero]

theorem score_take_succ (c : Int) (x : PipResult) (cs : List PipResult) (k : Nat) :
    c + score ((x :: cs).take (k + 1)) = c + voteOf x + score (cs.take k) := by
  rw [List.take_succ_cons, score, Int.add_assoc]

/-- the vote loop against the running counts `c + score (cls.take k)`: it stops at the first `k` where the count leaves
`(-2, 2)`, which it does at `±2` because a vote moves it by at most one -/
theorem decideVotes_spec : ∀ (cls : List PipResult) (c : Int), c.natAbs < 2 →
    match decideVotes c cls with
    | some b => ∃ k, k ≤ cls.length ∧ c + score (cls.take k) = (if b then -2 else 2) ∧
        ∀ j, j < k → (c + score (cls.take j)).natAbs < 2
    | none => ∀ k, k ≤ cls.length → (c + score (cls.take k)).natAbs < 2
  | [], c, hc => fun k _ => by rwa [List.take_nil, score, Int.add_zero]
  | x :: rest, c, hc => by
    have ih := decideVotes_spec rest (c + voteOf x)
    rw [decideVotes]
    by_cases hlt : (c + voteOf x).natAbs < 2
    · rw [if_pos hlt]
      cases hd : decideVotes (c + voteOf x) rest with
      | none =>
        have ih := hd ▸ ih hlt
        intro k hk
        cases k with
        | zero => rwa [score_take_zero]
        | succ k => rw [score_take_succ]; exact ih k (Nat.le_of_succ_le_succ hk)
      | some b =>
        obtain ⟨k, hk, hs, hall⟩ := hd ▸ ih hlt
        refine ⟨k + 1, Nat.succ_le_succ hk, by rw [score_take_succ]; exact hs, fun j hj => ?_⟩
        cases j with
        | zero => rwa [score_take_zero]
        | succ j => rw [score_take_succ]; exact hall j (Nat.lt_of_succ_lt_succ hj)
    · rw [if_neg hlt]
      have hv := voteOf_range x
      refine ⟨1, Nat.succ_le_succ (Nat.zero_le _), ?_, fun j hj => ?_⟩
      · rw [score_take_succ, score_take_zero]
        by_cases hneg : c + voteOf x < 0
        · rw [decide_eq_true hneg, if_pos rfl]; omega
        · rw [decide_eq_false hneg, if_neg (by decide)]; omega
      · obtain rfl : j = 0 := by omega
        rwa [score_take_zero]

theorem not_small_two : ∀ b : Bool, ¬ (if b then (-2 : Int) else 2).natAbs < 2 := by decide

theorem two_inj : ∀ b b' : Bool, (if b then (-2 : Int) else 2) = (if b' then -2 else 2) → b = b' := by decide

/-- closed form of the vote loop: it stops with answer `b` iff some prefix of the classification sequence has score
exactly `−2` (`b = true`, two more inside than outside) resp. `+2` (`b = false`), and every shorter prefix has `|score| < 2` -/
theorem decideVotes_eq_some_iff (cls : List PipResult) (c : Int) (hc : c.natAbs < 2) (b : Bool) :
    decideVotes c cls = some b ↔
      ∃ k, k ≤ cls.length ∧ c + score (cls.take k) = (if b then -2 else 2) ∧
        ∀ j, j < k → (c + score (cls.take j)).natAbs < 2 := by
  have hs := decideVotes_spec cls c hc
  constructor
  · intro h; rw [h] at hs; exact hs
  · rintro ⟨k, hk, hsum, hall⟩
    cases hd : decideVotes c cls with
    | none => exact absurd (hsum ▸ (hd ▸ hs) k hk) (not_small_two b)
    | some b' =>
      obtain ⟨k', _, hsum', hall'⟩ := hd ▸ hs
      -- `k` and `k'` are both the first index at which the count is not small
      rcases Nat.lt_trichotomy k k' with h | rfl | h
      · exact absurd (hsum ▸ hall' k h) (not_small_two b)
      · exact congrArg some (two_inj b' b (hsum'.symm.trans hsum))
      · exact absurd (hsum' ▸ hall k' h) (not_small_two b')

theorem decideVotes_eq_none_iff (cls : List PipResult) (c : Int) (hc : c.natAbs < 2) :
    decideVotes c cls = none ↔ ∀ k, k ≤ cls.length → (c + score (cls.take k)).natAbs < 2 := by
  have hs := decideVotes_spec cls c hc
  constructor
  · intro h; rw [h] at hs; exact hs
  · intro hall
    cases hd : decideVotes c cls with
    | none => rfl
    | some b =>
      obtain ⟨k, hk, hsum, _⟩ := hd ▸ hs
      exact absurd (hsum ▸ hall k hk) (not_small_two b)

theorem insideVotes_cons (ring2 : List Pt) (c : Int) (q : Pt) (rest : List Pt) :
    insideVotes ring2 c (q :: rest) =
      if (c + voteOf (pointInOpPolygon q ring2)).natAbs < 2 then insideVotes ring2 (c + voteOf (pointInOpPolygon q ring2)) rest
      else c + voteOf (pointInOpPolygon q ring2) := by
  rw [insideVotes]
  cases pointInOpPolygon q ring2 <;> simp [voteOf, Int.sub_eq_add_neg] <;> rfl

/-- the model's loop is `decideVotes` on the classifications `PointInOpPolygon(op->pt, op2)` -/
theorem insideVotes_spec (ring2 : List Pt) : ∀ (ring1 : List Pt) (c : Int), c.natAbs < 2 →
    match decideVotes c (ring1.map (fun q => pointInOpPolygon q ring2)) with
    | some b => (insideVotes ring2 c ring1).natAbs > 1 ∧ decide (insideVotes ring2 c ring1 < 0) = b
    | none => ¬ (insideVotes ring2 c ring1).natAbs > 1
  | [], c, hc => by simp only [List.map_nil, decideVotes, insideVotes]; omega
  | q :: rest, c, hc => by
    rw [insideVotes_cons]
    simp only [List.map_cons, decideVotes]
    by_cases hlt : (c + voteOf (pointInOpPolygon q ring2)).natAbs < 2
    · simp only [hlt, if_true]
      exact insideVotes_spec ring2 rest _ hlt
    · simp only [hlt, if_false]
      exact ⟨by omega, trivial⟩

/-- the removal condition of `GetCleanPath`: `c` has the same `x` (or the same `y`) as its successor `nx` and as `pv` -/
def axisCollinear (pv c nx : Pt) : Prop := (c.x = nx.x ∧ c.x = pv.x) ∨ (c.y = nx.y ∧ c.y = pv.y)

instance (pv c nx : Pt) : Decidable (axisCollinear pv c nx) := by unfold axisCollinear; exact inferInstance

/-- the ring successor of the last element of `rest` is `first` -/
def nextOr (first : Pt) : List Pt → Pt
  | [] => first
  | q :: _ => q

theorem cleanRest_cons (first pv c : Pt) (rest : List Pt) :
    cleanRest first pv (c :: rest) =
      if axisCollinear pv c (nextOr first rest) then cleanRest first pv rest else c :: cleanRest first c rest := by
  have key : ∀ (nx : Pt) (A B : List Pt),
      (if (c.x ≠ nx.x ∨ c.x ≠ pv.x) ∧ (c.y ≠ nx.y ∨ c.y ≠ pv.y) then A else B) =
        if axisCollinear pv c nx then B else A := by
    intro nx A B
    by_cases h : axisCollinear pv c nx
    · have h' := h
      unfold axisCollinear at h'
      have : ¬ ((c.x ≠ nx.x ∨ c.x ≠ pv.x) ∧ (c.y ≠ nx.y ∨ c.y ≠ pv.y)) := by omega
      rw [if_neg this, if_pos h]
    · have h' := h
      unfold axisCollinear at h'
      have : (c.x ≠ nx.x ∨ c.x ≠ pv.x) ∧ (c.y ≠ nx.y ∨ c.y ≠ pv.y) := by omega
      rw [if_pos this, if_neg h]
  cases rest with
  | nil => rw [cleanRest.eq_2]; exact key first _ _
  | cons q r => rw [cleanRest.eq_3]; exact key q _ _

theorem cleanRest_sublist (first : Pt) : ∀ (l : List Pt) (pv : Pt), (cleanRest first pv l).Sublist l
  | [], _ => by simp [cleanRest]
  | c :: rest, pv => by
    rw [cleanRest_cons]
    split
    · exact (cleanRest_sublist first rest pv).trans (List.sublist_cons_self c rest)
    · exact (cleanRest_sublist first rest c).cons_cons c

theorem cleanStart_lt (a : Array Pt) (n : Nat) : ∀ (f k : Nat), k < n → cleanStart a n f k < n
  | 0, k, h => by simpa [cleanStart] using h
  | f + 1, k, h => by
    rw [cleanStart]
    split
    · exact h
    · split
      · split
        · exact cleanStart_lt a n f (k + 1) (by omega)
        · exact h
      · exact h

/-- every vertex of `l` (with predecessor `pv`, ring successor of the last one = `first`) fails the removal condition -/
def ChainClean (first : Pt) : Pt → List Pt → Prop
  | _, [] => True
  | pv, c :: rest => ¬ axisCollinear pv c (nextOr first rest) ∧ ChainClean first c rest

theorem cleanRest_id (first : Pt) : ∀ (l : List Pt) (pv : Pt), ChainClean first pv l → cleanRest first pv l = l
  | [], _, _ => by simp [cleanRest]
  | c :: rest, pv, h => by
    rw [cleanRest_cons, if_neg h.1, cleanRest_id first rest c h.2]

/-- a ring without axis-parallel collinear triples, cyclically: no vertex has the same `x` (or the same `y`) as both its
predecessor and its successor -/
def AxisClean : List Pt → Prop
  | [] => True
  | f :: rest => (rest = [] ∨ ¬ axisCollinear (lastOf f rest) f (nextOr f rest)) ∧ ChainClean f f rest

theorem cleanStart_zero (f q : Pt) (r : List Pt) (h : ¬ axisCollinear (lastOf f (q :: r)) f q) :
    cleanStart (f :: q :: r).toArray (f :: q :: r).length (f :: q :: r).length 0 = 0 := by
  have hn : (f :: q :: r).length = (r.length + 1) + 1 := by simp
  rw [hn, cleanStart]
  have h1 : ¬ (0 + 1 ≥ r.length + 1 + 1) := by omega
  rw [if_neg h1]
  have hmod : (0 + (r.length + 1 + 1) - 1) % (r.length + 1 + 1) = r.length + 1 := by
    rw [Nat.zero_add, Nat.add_sub_cancel]; exact Nat.mod_eq_of_lt (by omega)
  have hlast : (f :: q :: r).toArray[r.length + 1]? = some (lastOf f (q :: r)) := by
    have := getLast?_cons_eq_lastOf f (q :: r)
    rw [List.getLast?_eq_getElem?] at this
    simpa using this
  rw [hmod, hlast]
  simp only [List.getElem?_toArray, List.getElem?_cons_zero, Nat.zero_add, List.getElem?_cons_succ]
  unfold axisCollinear at h
  rw [if_neg h]

end Clipper.Lemmas.Path1Inside

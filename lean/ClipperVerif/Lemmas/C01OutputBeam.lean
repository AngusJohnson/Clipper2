/-
One scanbeam of the decorated run, and the induction over the scanbeams: the decorated
events are accepted by the ring model, the side state follows the AEL of the scanbeam model at all three stages, and the events are
geometric; then the whole run from the empty state (`sweepP_empty`).  Core Lean only.
-/
import ClipperVerif.Lemmas.C01OutputSweep
import ClipperVerif.Props.C01Region
namespace Clipper.Lemmas.C01Output
open Clipper Clipper.Model Clipper.Model.AelOrder Clipper.Model.SweepOrder Clipper.Model.SweepEvents Clipper.Model.SweepPoints
open Clipper.Lemmas.SweepOrder Clipper.Lemmas.C01Region Clipper.Props.C01Sweep Clipper.Props.C01Region
open Clipper.Props.C01RegionRings (baseOps baseOf)

/-- what is proved of one scanbeam `r` of the decorated run that starts in the state `r0` of the ring model, the scanbeam model's AEL being
`ael`; `q` is the same scanbeam of the derived run of `Model/SweepEvents.lean` -/
structure BeamP (cfg : Cfg) (lab : Lab) (D : Int) (E : GEdge → Prop) (r0 : RState) (ael : List GEdge) (r : BeamRunP) (q : BeamRun)
    (rI rX rT : RState) : Prop where
  runIns : runR cfg r0 r.evIns = .ok rI
  trIns : Tracks lab (erase rI.s.ael) r.snap.inserted
  runIsect : runR cfg rI r.evIsect = .ok rX
  trIsect : Tracks lab (erase rX.s.ael) r.snap.afterIsect
  runTop : runR cfg rX r.evTop = .ok rT
  trTop : Tracks lab (erase rT.s.ael) r.snap.afterTop
  gIns : GRun D E ael r.evIns r.snap.inserted
  gIsect : GRun D E r.snap.inserted r.evIsect r.snap.afterIsect
  gTop : GRun D E r.snap.afterIsect r.evTop r.snap.afterTop
  plI : Plain rI.s.ael ∧ Reach cfg rI
  plX : Plain rX.s.ael ∧ Reach cfg rX
  plT : Plain rT.s.ael ∧ Reach cfg rT
  snap : q.snap = r.snap
  eraseIns : baseOps r.evIns = q.evIns
  swaps : ∃ is, baseOps r.evIsect = is.map .intersect ∧ applySwaps is r.snap.inserted = some r.snap.afterIsect
  eraseTop : baseOps r.evTop = q.evTop
  plainOps : ∀ op ∈ r.events, PlainOp op
  heights : ∀ op ∈ r.evIsect, D * r.snap.y1 < op.pt.y ∧ op.pt.y ≤ D * r.snap.y0
  hIns : ∀ op ∈ r.evIns, op.pt.y = D * r.snap.y0
  hTop : ∀ op ∈ r.evTop, op.pt.y = D * r.snap.y1
  chain : YChain (D * r.snap.y0) r.events

theorem beamP (cfg : Cfg) (hct : cfg.ct ≠ .noClip) (D : Int) (hD : 0 < D) (edges : List GEdge) (valid : Int → GEdge → GEdge → Bool)
    (cx : GEdge → Int → Int) (next : GEdge → Option GEdge) (mins : Int → List (GEdge × GEdge)) (lab : Lab) (ael : List GEdge)
    (y0 y1 : Int) (r0 : RState)
    (hup : AllUp edges) (hnx : NextOK edges next mins) (hn : Near cx)
    (hdx : DxOK edges lab) (hnl : NextLab edges next lab) (hst : Starts edges next mins)
    (hb : BeamOK edges valid next mins y0 y1) (hr : BeamR edges next mins lab y0 y1)
    (h0 : AelAt edges mins y0 ael) (hc : CompleteAt edges mins y0 ael)
    (hre : Reach cfg r0) (hP : Plain r0.s.ael) (ht : Tracks lab (erase r0.s.ael) ael)
    (hden : ∀ c ∈ geoSwaps (beamStep valid cx next mins ael y0 y1).afterIsect (beamStep valid cx next mins ael y0 y1).inserted,
      (crossQ c.2.1 c.2.2).d ∣ D) :
    ∃ rI rX rT, BeamP cfg lab D (· ∈ edges) r0 ael (beamRunP D valid cx next mins lab ael y0 y1)
      (beamRun valid cx next mins lab ael y0 y1) rI rX rT := by
  let s := beamStep valid cx next mins ael y0 y1
  obtain ⟨⟨i1, i2⟩, ⟨b1, _, b3⟩, c1⟩ := scanbeam_keeps_sorted edges valid cx next mins ael y0 y1 hup hnx hn hb h0
  obtain ⟨hnb, hml, hmx⟩ := hr
  have hmem := inserted_mem edges valid cx next mins ael y0 y1 hup hb h0 i2
  obtain ⟨hy, hm, hgm, hv, _, hgt⟩ := hb
  obtain ⟨hI, _⟩ := completeAt_step edges valid cx next mins ael y0 y1 hup hnx hst hnb hy i2 hc
  have hs0 : ael.Pairwise (ltU y0) :=
    h0.sorted.imp_of_mem (fun {a b} ha hb h => ltU_of_xlt (hup a (h0.mem a ha).1) (hup b (h0.mem b hb).1) h.1)
  have hfresh : ∀ e ∈ ael, e ∉ boundsOf (mins y0) := by
    intro e he hin
    obtain ⟨p, hp, hep⟩ := mem_boundsOf.1 hin
    obtain ⟨_, _, hbot, hby, _⟩ := hm.1 p hp
    have : e.bot.y = y0 := by rcases hep with rfl | rfl; exact hby; rw [← hbot]; exact hby
    exact (h0.mem e he).2.2 this hin
  have gI := gRun_ins D edges (valid y0) y0 lab hup hv (mins y0) ael hm.1 hm.2 hgm hs0
    (fun e he => ⟨(h0.mem e he).1, (h0.mem e he).2.1⟩) hfresh
  obtain ⟨lI, rI', tI⟩ := insEvents_tracks cfg (valid y0) lab (mins y0) ael (erase r0.s.ael) ht (fun p hp =>
    ⟨hml p hp, hdx p.1 (hm.1 p hp).1⟩)
  have len : ∀ {r : RState} {es : List GEdge}, Tracks lab (erase r.s.ael) es → r.s.ael.length = es.length :=
    fun h => (List.length_map _).symm.trans (tracks_length h)
  obtain ⟨rI, runI, eI, pI, reI⟩ := runR_lift cfg hct _ r0 _ _ lI gI (len ht) hre hP (by rw [baseOps_insEventsP]; exact rI')
  have hsched := geoSwaps_spec y0 y1 hy _ _ i1 b3 b1
  have halive : ∀ e ∈ s.inserted, e.top.y ≤ y1 ∧ y0 ≤ e.bot.y := by
    intro e he
    obtain ⟨_, h2, h3⟩ := hmem e he
    unfold AliveAbove at h2; unfold AliveBelow at h3
    omega
  have gX := gRun_sched D hD (· ∈ edges) y0 y1 hy _ _ _ hsched halive hden
  have hsw := sched_applySwaps _ _ _ hsched
  have hsw' := congrArg (Option.map (List.map (labKey lab))) hsw
  have tI' : Tracks lab lI s.inserted := tI
  rw [← applySwaps_map, ← tI'] at hsw'
  obtain ⟨lX, rX', tX⟩ := run_intersects cfg _ lI _ hsw'
  have tX' : Tracks lab lX s.afterIsect := tX
  obtain ⟨rX, runX, eX, pX, reX⟩ := runR_lift cfg hct (isectEventsP D s.afterIsect s.inserted) rI _ _ lX gX (len (eI ▸ tI)) reI pI (by rw [baseOps_isectEventsP, eI]; exact rX')
  have hmemX : ∀ e ∈ s.afterIsect, e ∈ edges ∧ AliveBelow y1 e :=
    fun e he => ⟨(hmem e (b1.mem_iff.1 he)).1, (hmem e (b1.mem_iff.1 he)).2.2⟩
  have hclosed : ∀ a ∈ s.afterIsect, isMax next y1 a = true → ∀ b ∈ edges, AliveBelow y1 b →
      b.top = a.top → b ∈ s.afterIsect := by
    intro a _ _ b hbe hba _
    have := hnb b hbe
    exact b1.mem_iff.2 (hI b hbe (by unfold AliveAbove; unfold AliveBelow at hba; omega))
  have hadj := maxAdj_of_sorted edges next lab y1 hup hgt hmx _ _ (Nat.le_refl _) b3 hmemX hclosed
  obtain ⟨lT, rT', tT⟩ := (topEvents_tracks cfg next y1 lab s.afterIsect [] lX 0 rfl
    (fun e he e' h => hnl e (hmemX e he).1 e' h)).1 tX' hadj
  obtain ⟨gT, hTop'⟩ := (gRun_top D edges next mins y1 lab hup hnx s.afterIsect [] 0 rfl (fun e he => (hmemX e he).1)).1 hadj
  obtain ⟨rT, runT, eT, pT, reT⟩ := runR_lift cfg hct (topEventsP D next y1 s.afterIsect) rX _ _ lT gT (len (eX ▸ tX')) reX pX
    (by unfold topEventsP; rw [baseOps_topEventsAuxP, eX]; exact rT')
  have hh := sched_heights D hD y0 y1 hy _ _ _ hsched halive hden
  have hIns' := heights_insEventsP D (valid y0) lab y0 (mins y0) ael (fun p hp => ⟨(hm.1 p hp).2.2.1, (hm.1 p hp).2.2.2.1⟩)
  have hy01 : D * y1 ≤ D * y0 := Int.mul_le_mul_of_nonneg_left (Int.le_of_lt hy) (Int.le_of_lt hD)
  have hgeo := geo_heights y1 _ b3 (s.inserted.length * s.inserted.length) s.inserted y0 1 Int.one_pos (by rw [Int.mul_one]; exact hy)
    (fun e he => ⟨b1.mem_iff.2 he, hup e (hmem e he).1⟩) (i1.imp (fun h => leAt_of_ltAbove y0 h))
  exact ⟨rI, rX, rT,
    { runIns := runI, trIns := eI ▸ tI, runIsect := runX, trIsect := eX ▸ tX', runTop := runT, trTop := eT ▸ tT,
      gIns := gI, gIsect := gX, gTop := gT,
      plI := ⟨pI, reI⟩, plX := ⟨pX, reX⟩, plT := ⟨pT, reT⟩, snap := rfl,
      eraseIns := baseOps_insEventsP D (valid y0) lab (mins y0) ael,
      swaps := ⟨_, baseOps_isectEventsP D _ _, hsw⟩,
      eraseTop := baseOps_topEventsAuxP D next y1 false 0 _,
      plainOps := plainOp_of_gRun (gRun_append D _ _ _ _ _ _ (gRun_append D _ _ _ _ _ _ gI gX) gT),
      heights := hh, hIns := hIns', hTop := hTop',
      chain := by
        show YChain (D * y0) (_ ++ _ ++ _)
        rw [List.append_assoc]
        refine yChain_append _ _ _ (D * y0) (yChain_const _ _ hIns') ?_ (fun op ho => Int.le_of_eq (hIns' op ho).symm) (Int.le_refl _)
        exact yChain_append _ _ _ (D * y1) (yChain_of_heights D hD _ y0 1 _ Int.one_pos (scaled_int D y0) hgeo hden)
          (yChain_const _ _ hTop') (fun op ho => Int.le_of_lt (hh op ho).1) hy01 }⟩

theorem beamRunsP_cons (D : Int) (valid : Int → GEdge → GEdge → Bool) (cx : GEdge → Int → Int) (next : GEdge → Option GEdge)
    (mins : Int → List (GEdge × GEdge)) (lab : Lab) (ael : List GEdge) (y0 y1 : Int) (rest : List Int) :
    beamRunsP D valid cx next mins lab ael (y0 :: y1 :: rest) =
      beamRunP D valid cx next mins lab ael y0 y1 ::
        beamRunsP D valid cx next mins lab (beamStep valid cx next mins ael y0 y1).afterTop (y1 :: rest) := rfl

theorem runR_events (cfg : Cfg) {lab : Lab} {D : Int} {E : GEdge → Prop} {r0 : RState} {ael : List GEdge} {r : BeamRunP} {q : BeamRun}
    {rI rX rT : RState} (h : BeamP cfg lab D E r0 ael r q rI rX rT) : runR cfg r0 r.events = .ok rT := by
  simp only [BeamRunP.events, Clipper.Props.C01Rings.runR_append, h.runIns, h.runIsect, h.runTop]

theorem gRun_events {cfg : Cfg} {lab : Lab} {D : Int} {E : GEdge → Prop} {r0 : RState} {ael : List GEdge} {r : BeamRunP} {q : BeamRun}
    {rI rX rT : RState} (h : BeamP cfg lab D E r0 ael r q rI rX rT) : GRun D E ael r.events r.snap.afterTop :=
  gRun_append D E _ _ _ _ _ (gRun_append D E _ _ _ _ _ h.gIns h.gIsect) h.gTop

/-- what is proved of the whole decorated run from the state `r0` / the AEL `ael` -/
structure SweepP (cfg : Cfg) (lab : Lab) (D : Int) (edges : List GEdge) (valid : Int → GEdge → GEdge → Bool) (cx : GEdge → Int → Int)
    (next : GEdge → Option GEdge) (mins : Int → List (GEdge × GEdge)) (r0 : RState) (ael : List GEdge) (ys : List Int) : Prop where
  /-- the whole list is accepted and geometric -/
  all : ∃ rEnd aelEnd, runR cfg r0 ((beamRunsP D valid cx next mins lab ael ys).flatMap BeamRunP.events) = .ok rEnd ∧
    GRun D (· ∈ edges) ael ((beamRunsP D valid cx next mins lab ael ys).flatMap BeamRunP.events) aelEnd ∧
    Plain rEnd.s.ael ∧ Reach cfg rEnd ∧ Tracks lab (erase rEnd.s.ael) aelEnd
  /-- every scanbeam -/
  beams : ∀ (pre : List BeamRunP) (r : BeamRunP) (post : List BeamRunP), beamRunsP D valid cx next mins lab ael ys = pre ++ r :: post →
    ∃ r1 aelr y0 y1 rI rX rT, runR cfg r0 (pre.flatMap BeamRunP.events) = .ok r1 ∧
      GRun D (· ∈ edges) ael (pre.flatMap BeamRunP.events) aelr ∧
      r = beamRunP D valid cx next mins lab aelr y0 y1 ∧
      BeamP cfg lab D (· ∈ edges) r1 aelr r (beamRun valid cx next mins lab aelr y0 y1) rI rX rT ∧
      BeamFacts edges r.snap ∧ (∀ op ∈ pre.flatMap BeamRunP.events, D * r.snap.y0 ≤ op.pt.y) ∧
      (∀ op ∈ post.flatMap BeamRunP.events, op.pt.y ≤ D * r.snap.y1) ∧ (∀ y, ys.head? = some y → r.snap.y0 ≤ y) ∧
      (∃ aelEnd, GRun D (· ∈ edges) r.snap.afterTop (post.flatMap BeamRunP.events) aelEnd) ∧
      (∀ c ∈ geoSwaps r.snap.afterIsect r.snap.inserted, (crossQ c.2.1 c.2.2).d ∣ D) ∧ (post = [] → ys.getLast? = some r.snap.y1)
  plainOps : ∀ op ∈ (beamRunsP D valid cx next mins lab ael ys).flatMap BeamRunP.events, PlainOp op
  /-- the whole list is in bottom-up order, starting at the first scanline -/
  chain : ∀ y, ys.head? = some y → YChain (D * y) ((beamRunsP D valid cx next mins lab ael ys).flatMap BeamRunP.events)

theorem sweepP (cfg : Cfg) (hct : cfg.ct ≠ .noClip) (D : Int) (hD : 0 < D) (edges : List GEdge) (valid : Int → GEdge → GEdge → Bool)
    (cx : GEdge → Int → Int) (next : GEdge → Option GEdge) (mins : Int → List (GEdge × GEdge)) (lab : Lab)
    (hup : AllUp edges) (hnx : NextOK edges next mins) (hn : Near cx)
    (hdx : DxOK edges lab) (hnl : NextLab edges next lab) (hst : Starts edges next mins) :
    ∀ (ys : List Int) (ael : List GEdge) (r0 : RState), SweepOK edges valid next mins ys → SweepR edges next mins lab ys →
      (∀ y, ys.head? = some y → AelAt edges mins y ael ∧ CompleteAt edges mins y ael) →
      Reach cfg r0 → Plain r0.s.ael → Tracks lab (erase r0.s.ael) ael →
      (∀ s ∈ sweepFrom valid cx next mins ael ys, ∀ c ∈ geoSwaps s.afterIsect s.inserted, (crossQ c.2.1 c.2.2).d ∣ D) →
      SweepP cfg lab D edges valid cx next mins r0 ael ys := by
  -- fewer than two scanlines: no scanbeam, no event
  have short : ∀ (ys : List Int) (ael : List GEdge) (r0 : RState), beamRunsP D valid cx next mins lab ael ys = [] → Reach cfg r0 →
      Plain r0.s.ael → Tracks lab (erase r0.s.ael) ael → SweepP cfg lab D edges valid cx next mins r0 ael ys := by
    intro ys ael r0 h hre hP ht
    refine ⟨?_, ?_, ?_, ?_⟩ <;> rw [h]
    · exact ⟨r0, ael, rfl, rfl, hP, hre, ht⟩
    · intro pre r post h'; cases pre <;> cases h'
    · intro op ho; cases ho
    · intro y _; trivial
  intro ys
  induction ys with
  | nil => intro ael r0 _ _ _ hre hP ht _; exact short [] ael r0 rfl hre hP ht
  | cons y0 t ih =>
    intro ael r0 hok hrr h0 hre hP ht hden
    cases t with
    | nil => exact short [y0] ael r0 rfl hre hP ht
    | cons y1 rest =>
      obtain ⟨hb, hrest⟩ := hok
      obtain ⟨hr, hrrest⟩ := hrr
      rw [sweepFrom_cons] at hden
      obtain ⟨rI, rX, rT, hbp⟩ := beamP cfg hct D hD edges valid cx next mins lab ael y0 y1 r0 hup hnx hn hdx hnl hst hb hr
        (h0 y0 rfl).1 (h0 y0 rfl).2 hre hP ht (fun c hc => hden _ (by simp) c hc)
      obtain ⟨_, hfacts, c1, hC⟩ := beam_tracked cfg edges valid cx next mins lab ael y0 y1 (erase r0.s.ael) hup hnx hn hdx hnl hst
        hb hr (h0 y0 rfl).1 (h0 y0 rfl).2 ht
      have hy01 : D * y1 ≤ D * y0 := Int.mul_le_mul_of_nonneg_left (Int.le_of_lt hb.1) (Int.le_of_lt hD)
      -- no event of the scanbeam is above its top scanline
      have hlow : ∀ op ∈ (beamRunP D valid cx next mins lab ael y0 y1).events, D * y1 ≤ op.pt.y := by
        intro op ho
        rcases List.mem_append.1 ho with ho | ho
        · rcases List.mem_append.1 ho with ho | ho
          · rw [hbp.hIns op ho]; exact hy01
          · exact Int.le_of_lt (hbp.heights op ho).1
        · rw [hbp.hTop op ho]; exact Int.le_refl _
      have hsub := ih (beamStep valid cx next mins ael y0 y1).afterTop rT hrest hrrest
        (fun y hy => by cases hy; exact ⟨c1, hC⟩) hbp.plT.2 hbp.plT.1 hbp.trTop
        (fun s hs c hc => hden s (by simp [hs]) c hc)
      obtain ⟨rEnd, aelEnd, e1, e2, e3, e4, e5⟩ := hsub.all
      -- the events of this scanbeam in front of those of the others
      have hrun : ∀ (ops : List ROp) (r : RState), runR cfg rT ops = .ok r →
          runR cfg r0 ((beamRunP D valid cx next mins lab ael y0 y1).events ++ ops) = .ok r :=
        fun ops r h => by rw [Clipper.Props.C01Rings.runR_append, runR_events cfg hbp]; exact h
      have hgrun : ∀ (ops : List ROp) (es : List GEdge), GRun D (· ∈ edges) (beamStep valid cx next mins ael y0 y1).afterTop ops es →
          GRun D (· ∈ edges) ael ((beamRunP D valid cx next mins lab ael y0 y1).events ++ ops) es :=
        fun ops es h => gRun_append D _ _ _ _ _ _ (gRun_events hbp) h
      refine ⟨?_, ?_, ?_, ?_⟩ <;> rw [beamRunsP_cons]
      · exact ⟨rEnd, aelEnd, hrun _ _ e1, hgrun _ _ e2, e3, e4, e5⟩
      · intro pre r post h
        cases pre with
        | nil =>
          cases h
          exact ⟨r0, ael, y0, y1, rI, rX, rT, rfl, rfl, rfl, hbp, hfacts, (fun _ h => by cases h),
            yChain_le _ _ (hsub.chain y1 rfl), (fun y hy => by cases hy; exact Int.le_refl _), ⟨aelEnd, e2⟩,
            (fun c hc => hden _ (List.mem_cons_self ..) c hc), fun hp => by
              cases rest with
              | nil => rfl
              | cons y2 r2 => rw [beamRunsP_cons] at hp; cases hp⟩
        | cons p0 pre' =>
          obtain ⟨h1, h2⟩ := List.cons.inj h
          subst h1
          obtain ⟨r1, aelr, y0', y1', rI', rX', rT', f1, f2, f3, f4, f5, lo, hi, hy, hg, hd, hl⟩ := hsub.beams pre' r post h2
          have hle : D * r.snap.y0 ≤ D * y1 := Int.mul_le_mul_of_nonneg_left (hy y1 rfl) (Int.le_of_lt hD)
          refine ⟨r1, aelr, y0', y1', rI', rX', rT', hrun _ _ f1, hgrun _ _ f2, f3, f4, f5, fun op ho => ?_, hi,
            (fun y hy' => by cases hy'; exact Int.le_trans (hy y1 rfl) (Int.le_of_lt hb.1)), hg, hd,
            fun hp => by rw [List.getLast?_cons_cons]; exact hl hp⟩
          rcases List.mem_append.1 ho with ho | ho
          · exact Int.le_trans hle (hlow op ho)
          · exact lo op ho
      · intro op ho
        rcases List.mem_append.1 ho with ho | ho
        · exact hbp.plainOps op ho
        · exact hsub.plainOps op ho
      · intro y hy
        cases hy
        exact yChain_append _ _ (D * y0) (D * y1) hbp.chain (hsub.chain y1 rfl) hlow hy01

theorem den_of_sweep {valid : Int → GEdge → GEdge → Bool} {cx : GEdge → Int → Int} {next : GEdge → Option GEdge}
    {mins : Int → List (GEdge × GEdge)} {ys : List Int} {D : Int} (h : DenOK D (sweepDens valid cx next mins ys)) :
    ∀ s ∈ sweepFrom valid cx next mins [] ys, ∀ c ∈ geoSwaps s.afterIsect s.inserted, (crossQ c.2.1 c.2.2).d ∣ D := by
  intro s hs c hc
  apply h.2
  simp only [sweepDens, List.mem_flatMap, List.mem_map]
  exact ⟨s, hs, c, hc, rfl⟩

theorem sweepP_empty (cfg : Cfg) (hct : cfg.ct ≠ .noClip) (D : Int) (edges : List GEdge) (valid : Int → GEdge → GEdge → Bool)
    (cx : GEdge → Int → Int) (next : GEdge → Option GEdge) (mins : Int → List (GEdge × GEdge)) (lab : Lab) (ys : List Int)
    (hup : AllUp edges) (hnx : NextOK edges next mins) (hn : Near cx) (hok : SweepOK edges valid next mins ys)
    (hR : HypR edges next mins lab ys) (hD : DenOK D (sweepDens valid cx next mins ys)) :
    SweepP cfg lab D edges valid cx next mins RState.empty [] ys := by
  obtain ⟨_, hdx, hnl, hst, htop, hrr⟩ := hR
  have h0 : ∀ y, ys.head? = some y → AelAt edges mins y [] ∧ CompleteAt edges mins y [] := by
    intro y hy
    refine ⟨aelAt_nil edges mins y, ?_⟩
    cases ys with
    | nil => simp at hy
    | cons y' t =>
      simp at hy; subst hy
      exact completeAt_start edges next mins y' hup hnx hst htop
  exact sweepP cfg hct D hD.1 edges valid cx next mins lab hup hnx hn hdx hnl hst ys [] RState.empty hok hrr h0
    ⟨[], rfl⟩ (fun x hx => by cases hx) (by simp [RState.empty, SState.empty, erase, Tracks])
    (den_of_sweep hD)

end Clipper.Lemmas.C01Output

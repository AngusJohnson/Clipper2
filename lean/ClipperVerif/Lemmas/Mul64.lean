/- Helper lemmas for C18: the 64x64 -> 128 multiply, and comparing integers given as sign and magnitude. -/
import ClipperVerif.Generated.Core
import ClipperVerif.Generated.Portable
namespace Clipper.Lemmas

theorem u64_lo (x : UInt64) : (x &&& 4294967295).toNat = x.toNat % 2^32 := by
  rw [UInt64.toNat_and]; exact Nat.and_two_pow_sub_one_eq_mod x.toNat 32

theorem u64_hi (x : UInt64) : (x >>> 32).toNat = x.toNat / 2^32 := by
  rw [UInt64.toNat_shiftRight]; simp [Nat.shiftRight_eq_div_pow]

theorem u64_shl_or (x y : UInt64) (hx : x.toNat < 2^32) (hy : y.toNat < 2^32) :
    ((x <<< 32) ||| y).toNat = x.toNat * 2^32 + y.toNat := by
  rw [UInt64.toNat_or, UInt64.toNat_shiftLeft]
  have h32 : (32 : UInt64).toNat % 64 = 32 := by decide
  rw [h32, Nat.shiftLeft_eq]
  have : x.toNat * 2^32 % 2^64 = x.toNat * 2^32 := Nat.mod_eq_of_lt (by omega)
  rw [this, ← Nat.shiftLeft_eq, ← Nat.shiftLeft_add_eq_or_of_lt hy]

theorem u64_lo_lt (x : UInt64) : (x &&& 4294967295).toNat < 2^32 := by
  rw [u64_lo]; exact Nat.mod_lt _ (by decide)

theorem u64_hi_lt (x : UInt64) : (x >>> 32).toNat < 2^32 := by
  rw [u64_hi]; exact Nat.div_lt_of_lt_mul x.toNat_lt

/-- a product of two 32-bit numbers plus a 32-bit number does not wrap -/
theorem u64_mul_add (x y c : UInt64) (hx : x.toNat < 2^32) (hy : y.toNat < 2^32) (hc : c.toNat < 2^32) :
    (x * y + c).toNat = x.toNat * y.toNat + c.toNat := by
  have h : x.toNat * y.toNat ≤ (2^32 - 1) * (2^32 - 1) := Nat.mul_le_mul (by omega) (by omega)
  rw [UInt64.toNat_add, UInt64.toNat_mul]
  generalize x.toNat * y.toNat = p at h
  omega

theorem u64_mul (x y : UInt64) (hx : x.toNat < 2^32) (hy : y.toNat < 2^32) :
    (x * y).toNat = x.toNat * y.toNat := by
  have := u64_mul_add x y 0 hx hy (by decide)
  simpa using this

/-- schoolbook multiplication in base `2^32`, with the carries of `Multiply`: `p1 … p4` are the four limb products -/
theorem limbs_exact (p1 p2 p3 p4 : Nat) :
    (p4 + (p2 + p1 / 2^32) / 2^32 + (p3 + (p2 + p1 / 2^32) % 2^32) / 2^32) * 2^64 +
      ((p3 + (p2 + p1 / 2^32) % 2^32) % 2^32 * 2^32 + p1 % 2^32) = p4 * 2^64 + (p2 + p3) * 2^32 + p1 := by
  omega

theorem mul_limbs (a b : Nat) : a * b =
    (a / 2^32) * (b / 2^32) * 2^64 + ((a / 2^32) * (b % 2^32) + (a % 2^32) * (b / 2^32)) * 2^32 + (a % 2^32) * (b % 2^32) := by
  have ea := Nat.div_add_mod a (2^32)
  have eb := Nat.div_add_mod b (2^32)
  generalize a / 2^32 = ah at *
  generalize a % 2^32 = al at *
  generalize b / 2^32 = bh at *
  generalize b % 2^32 = bl at *
  subst ea eb
  grind

theorem sign_cases (z : Int) : (z < 0 ∧ z.sign = -1) ∨ (z = 0 ∧ z.sign = 0) ∨ (0 < z ∧ z.sign = 1) := by
  rcases Int.lt_trichotomy z 0 with h | h | h
  · exact Or.inl ⟨h, Int.sign_eq_neg_one_of_neg h⟩
  · exact Or.inr (Or.inl ⟨h, h ▸ Int.sign_zero⟩)
  · exact Or.inr (Or.inr ⟨h, Int.sign_eq_one_of_pos h⟩)

theorem int_eq_iff_sign_natAbs (x y : Int) : x = y ↔ x.sign = y.sign ∧ x.natAbs = y.natAbs := by
  constructor
  · rintro rfl; exact ⟨rfl, rfl⟩
  · rintro ⟨h1, h2⟩
    rw [← Int.sign_mul_natAbs x, ← Int.sign_mul_natAbs y, h1, h2]

theorem sign_sub_of_ne {x y : Int} (h : x ≠ y) : (x - y).sign = if y < x then 1 else -1 := by
  split
  · exact Int.sign_eq_one_of_pos (by omega)
  · exact Int.sign_eq_neg_one_of_neg (by omega)

/-- numbers of different sign compare like their signs -/
theorem sign_sub_of_sign_ne {x y : Int} (h : x.sign ≠ y.sign) : (x - y).sign = if x.sign > y.sign then 1 else -1 := by
  have hx := sign_cases x
  have hy := sign_cases y
  have : y < x ↔ x.sign > y.sign := by omega
  simp only [sign_sub_of_ne (fun e => h (congrArg Int.sign e)), this]

/-- numbers of the same sign compare like their magnitudes, negative ones in reverse -/
theorem sign_sub_of_sign_eq {x y : Int} (hs : x.sign = y.sign) (hne : x.natAbs ≠ y.natAbs) :
    (x - y).sign = if x.sign > 0 then (if x.natAbs > y.natAbs then 1 else -1)
      else -(if x.natAbs > y.natAbs then 1 else -1) := by
  have hx := sign_cases x
  have hy := sign_cases y
  rw [sign_sub_of_ne (by omega)]
  by_cases hp : x.sign > 0
  · have : y < x ↔ x.natAbs > y.natAbs := by omega
    simp only [hp, this, if_true]
  · have : y < x ↔ ¬ x.natAbs > y.natAbs := by omega
    simp only [hp, this, if_false, ite_not]; split <;> rfl

/-- the high digit decides, whatever the base -/
theorem radix_lt {B h l h' : Nat} (hl : l < B) (c : h < h') : h * B + l < h' * B := by
  have := Nat.mul_le_mul_right B c
  rw [Nat.succ_mul] at this
  omega

end Clipper.Lemmas

import ClipperVerif.Model.IntersectList
import ClipperVerif.Lemmas.Inversions
/-! The loop model of `ProcessIntersectList` on a node list that is a permutation of the inversions of the AEL order: some inversion
is adjacent, so the scan finds a node, and exchanging it removes exactly that inversion. -/
namespace Clipper.Lemmas.IntersectList
open Clipper.Model.IntersectList Clipper.Lemmas.Inversions

theorem adjacent_append (l₁ l₂ : List Nat) (a b : Nat) : adjacent (l₁ ++ a :: b :: l₂) (a, b) = true := by
  induction l₁ with
  | nil => rw [List.nil_append, adjacent, beq_self_eq_true, beq_self_eq_true]; rfl
  | cons c l₁ ih =>
    obtain ⟨y, t, e⟩ : ∃ y t, l₁ ++ a :: b :: l₂ = y :: t := by cases l₁ <;> exact ⟨_, _, rfl⟩
    rw [List.cons_append, e, adjacent, ← e, ih, Bool.or_true]

theorem adjacent_mem (l : List Nat) (n : Nat × Nat) (h : adjacent l n = true) : n.1 ∈ l ∧ n.2 ∈ l := by
  fun_induction adjacent l n with
  | case1 x y t n ih =>
    simp only [Bool.or_eq_true, Bool.and_eq_true, beq_iff_eq] at h
    rcases h with (⟨rfl, rfl⟩ | ⟨rfl, rfl⟩) | h
    · exact ⟨List.mem_cons_self, List.mem_cons_of_mem _ List.mem_cons_self⟩
    · exact ⟨List.mem_cons_of_mem _ List.mem_cons_self, List.mem_cons_self⟩
    · exact ⟨List.mem_cons_of_mem _ (ih h).1, List.mem_cons_of_mem _ (ih h).2⟩
  | case2 => cases h

/-- an adjacent node that is an inversion of a list of distinct keys sits as `… a, b …` and `swapIn` exchanges exactly it -/
theorem adjacent_inversion_shape (π : List Nat) (a b : Nat) (hnd : π.Nodup) (hs : [a, b].Sublist π)
    (hadj : adjacent π (a, b) = true) :
    ∃ l₁ l₂, π = l₁ ++ a :: b :: l₂ ∧ swapIn π (a, b) = l₁ ++ b :: a :: l₂ := by
  induction π with
  | nil => cases hadj
  | cons x t ih =>
    cases t with
    | nil => cases hadj
    | cons y t =>
      obtain ⟨hx, hndt⟩ := List.nodup_cons.1 hnd
      rw [adjacent] at hadj
      rw [swapIn]
      by_cases hc : ((x == a && y == b) || (x == b && y == a)) = true
      · rw [if_pos hc]
        simp only [Bool.or_eq_true, Bool.and_eq_true, beq_iff_eq] at hc
        rcases hc with ⟨rfl, rfl⟩ | ⟨rfl, rfl⟩
        · exact ⟨[], t, rfl, rfl⟩
        · exact (not_both_orders hnd hs (List.cons_sublist_cons.2 (List.cons_sublist_cons.2 (List.nil_sublist t)))).elim
      · rw [if_neg hc]
        rw [Bool.eq_false_iff.2 hc, Bool.false_or] at hadj
        -- `a` is not the head: it occurs in the tail
        have hs' : [a, b].Sublist (y :: t) := by
          rcases List.sublist_cons_iff.1 hs with hs | ⟨r, hr, _⟩
          · exact hs
          · exact absurd ((List.cons.inj hr).1 ▸ (adjacent_mem _ _ hadj).1) hx
        obtain ⟨l₁, l₂, he, hsw⟩ := ih hndt hs' hadj
        exact ⟨x :: l₁, l₂, congrArg (x :: ·) he, congrArg (x :: ·) hsw⟩

theorem scanSwap_spec {α : Type} [BEq α] [LawfulBEq α] (p : α → Bool) (n : α) (rest : List α) (h : ∃ m ∈ rest, p m = true) :
    ∃ m rest', scanSwap p n rest = some (m, rest') ∧ p m = true ∧ m ∈ rest ∧ rest'.Perm (n :: rest.erase m) ∧
      rest'.length = rest.length := by
  induction rest with
  | nil => obtain ⟨m, hm, _⟩ := h; simp at hm
  | cons c t ih =>
    by_cases hc : p c = true
    · exact ⟨c, n :: t, by simp [scanSwap, hc], hc, by simp, by simp, by simp⟩
    · have h' : ∃ m ∈ t, p m = true := by
        obtain ⟨m, hm, hp⟩ := h
        rcases List.mem_cons.mp hm with rfl | hm
        · exact absurd hp hc
        · exact ⟨m, hm, hp⟩
      obtain ⟨m, rest', he, hp, hm, hperm, hlen⟩ := ih h'
      have hne : c ≠ m := fun e => hc (e ▸ hp)
      refine ⟨m, c :: rest', by simp [scanSwap, hc, he], hp, List.mem_cons_of_mem _ hm, ?_, by simp [hlen]⟩
      rw [List.erase_cons_tail (by simpa using hne)]
      exact (List.Perm.cons c hperm).trans (List.Perm.swap n c _)

/-- **the modelled loop never runs the scan past the end**, whatever order `lt` of the keys is the target (in order is transitive,
`lt` asymmetric): started on a list of distinct keys with the node list a permutation of its inversions, `process` returns normally, with
the keys in target order. -/
theorem process_ok (lt : Nat → Nat → Bool) (htrans : ∀ a b c, lt b a = false → lt c b = false → lt c a = false)
    (hasymm : ∀ a b, lt b a = true → lt a b = false) (fuel : Nat) (π : List Nat) (nodes : List (Nat × Nat))
    (hf : fuel = nodes.length) (hnd : π.Nodup) (hinv : nodes.Perm (invBy lt id π)) :
    ∃ π', process fuel π nodes = .ok π' ∧ π'.Pairwise (fun a b => lt b a = false) ∧ π'.Perm π := by
  induction fuel generalizing π nodes with
  | zero =>
    cases List.length_eq_zero_iff.1 hf.symm
    exact ⟨π, rfl, (invBy_eq_nil_iff lt id π).1 hinv.symm.eq_nil, List.Perm.refl _⟩
  | succ fuel ih =>
    match nodes, hf, hinv with
    | [], hf, _ => cases hf
    | n :: rest, hf, hinv =>
      -- the step for a chosen adjacent node `m` with remaining list `rest'`
      have step : ∀ (m : Nat × Nat) (rest' : List (Nat × Nat)), m ∈ n :: rest → adjacent π m = true →
          rest'.Perm ((n :: rest).erase m) → rest'.length = rest.length →
          ∃ π', process fuel (swapIn π m) rest' = .ok π' ∧ π'.Pairwise (fun a b => lt b a = false) ∧ π'.Perm π := by
        intro m rest' hm hadj hperm hl
        -- every node is an inversion
        obtain ⟨a, b, hsub, hlt, rfl⟩ := (mem_invBy lt id π m).1 (hinv.subset hm)
        obtain ⟨l₁, l₂, he, hsw⟩ := adjacent_inversion_shape π a b hnd hsub hadj
        rw [show swapIn π (id a, id b) = _ from hsw]
        have hp2 : ((n :: rest).erase (a, b)).Perm (invBy lt id (l₁ ++ b :: a :: l₂)) :=
          ((List.perm_cons_erase hm).symm.trans ((he ▸ hinv).trans (invBy_swap_perm lt id l₁ l₂ a b hlt (hasymm a b hlt)))).cons_inv
        have hswperm : (l₁ ++ b :: a :: l₂).Perm π := he ▸ List.Perm.append_left l₁ (List.Perm.swap _ _ l₂)
        obtain ⟨π', hok, hsorted, hpp⟩ := ih (l₁ ++ b :: a :: l₂) rest' (by rw [hl]; exact Nat.succ.inj hf)
          (hswperm.nodup_iff.2 hnd) (hperm.trans hp2)
        exact ⟨π', hok, hsorted, hpp.trans hswperm⟩
      by_cases hadj : adjacent π n = true
      · simp only [process, hadj, if_true]
        exact step n rest List.mem_cons_self hadj (by rw [List.erase_cons_head]) rfl
      · -- some inversion is adjacent; it is a node, not `n`, so it is in `rest`
        have hN : invBy lt id π ≠ [] := fun h => List.cons_ne_nil _ _ (h ▸ hinv).eq_nil
        obtain ⟨l₁, a, b, l₂, he, hlt⟩ := exists_adjacent_invBy lt id htrans π hN
        have hab : (a, b) ∈ n :: rest := hinv.symm.subset
          (he ▸ (invBy_swap_perm lt id l₁ l₂ a b hlt (hasymm a b hlt)).symm.subset List.mem_cons_self)
        have hadjab : adjacent π (a, b) = true := he ▸ adjacent_append l₁ l₂ a b
        have hrest : ∃ m ∈ rest, adjacent π m = true := by
          rcases List.mem_cons.1 hab with h | h
          · exact absurd (h ▸ hadjab) hadj
          · exact ⟨(a, b), h, hadjab⟩
        obtain ⟨m, rest', hsc, hpm, hmr, hperm, hl⟩ := scanSwap_spec (adjacent π) n rest hrest
        simp only [process, Bool.not_eq_true _ ▸ hadj, Bool.false_eq_true, if_false, hsc]
        have hne : n ≠ m := fun e => hadj (e ▸ hpm)
        exact step m rest' (List.mem_cons_of_mem _ hmr) hpm (by rwa [List.erase_cons_tail (by simpa using hne)]) hl

end Clipper.Lemmas.IntersectList

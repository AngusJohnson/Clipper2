/-
State-level invariants of `BuildTree64` and the specification of `recursiveCheckOwners`.
-/
import ClipperVerif.Lemmas.OwnerStep
import ClipperVerif.Lemmas.OwnerTree
namespace Clipper.Model.Owner
open Clipper

/-- non-empty bounds were computed by `CheckBounds` from the cleaned path, and the outrec is alive -/
def BInv (clean : Nat → CleanRes) (T : Table) : Prop :=
  ∀ (j : Nat) (r : OutRec), T[j]? = some r → r.bounds.isEmpty = false →
    r.hasPts = true ∧ clean j = .path r.path ∧ r.bounds = getBounds r.path

/-- the tree invariant: every placed outrec has its node, and its owner's node is the parent -/
def TInv (inside : Nat → Nat → Bool) (S : St) : Prop :=
  ∀ (c : Nat) (r : OutRec) (a : List Nat), S.recs[c]? = some r → r.polypath = some a →
    (∃ n : Tree, S.tree.at? a = some n ∧ n.path = r.path) ∧ r.bounds.isEmpty = false ∧
    ((r.owner = none ∧ ∃ k : Nat, a = [k]) ∨
     (∃ (p : Nat) (rp : OutRec) (pa : List Nat) (k : Nat), r.owner = some p ∧ S.recs[p]? = some rp ∧
        rp.polypath = some pa ∧ a = pa ++ [k] ∧ rp.bounds.contains r.bounds = true ∧ inside c p = true))

def GInv (clean : Nat → CleanRes) (inside : Nat → Nat → Bool) (S : St) : Prop :=
  Acyclic S.recs ∧ BInv clean S.recs ∧ TInv inside S

/-- state-level frame: records change as in `RecStep`, a placed outrec keeps `polypath` and `owner`, and the nodes of
the tree keep their addresses and polygons -/
def StepS (clean : Nat → CleanRes) (S S' : St) : Prop :=
  S'.recs.size = S.recs.size ∧
  (∀ (j : Nat) (r : OutRec), S.recs[j]? = some r → ∃ r' : OutRec, S'.recs[j]? = some r' ∧ RecStep clean j r r' ∧
    (r.polypath.isSome → r'.polypath = r.polypath ∧ r'.owner = r.owner)) ∧
  (∀ (b : List Nat) (n : Tree), S.tree.at? b = some n → ∃ n' : Tree, S'.tree.at? b = some n' ∧ n'.path = n.path)

/-- every outrec that owns a node is in `C` -/
def PlacedC (C : Nat → Prop) (T : Table) : Prop :=
  ∀ (c : Nat) (r : OutRec), T[c]? = some r → r.polypath.isSome = true → C c

section
variable {clean : Nat → CleanRes} {inside : Nat → Nat → Bool} {C : Nat → Prop}

theorem StepS.refl (S : St) : StepS clean S S :=
  ⟨rfl, fun _ r h => ⟨r, h, RecStep.refl _ _ _, fun _ => ⟨rfl, rfl⟩⟩, fun _ n h => ⟨n, h, rfl⟩⟩

theorem StepS.trans {A B D : St} (h1 : StepS clean A B) (h2 : StepS clean B D) : StepS clean A D := by
  obtain ⟨a1, a3, a4⟩ := h1
  obtain ⟨b1, b3, b4⟩ := h2
  refine ⟨b1.trans a1, fun j r hj => ?_, fun b n hb => ?_⟩
  · obtain ⟨r', hr', s1, p1⟩ := a3 j r hj
    obtain ⟨r'', hr'', s2, p2⟩ := b3 j r' hr'
    refine ⟨r'', hr'', s1.trans s2, fun hs => ?_⟩
    obtain ⟨e1, e2⟩ := p1 hs
    obtain ⟨f1, f2⟩ := p2 (e1 ▸ hs)
    exact ⟨f1.trans e1, f2.trans e2⟩
  · obtain ⟨n', hn', e⟩ := a4 b n hb
    obtain ⟨n'', hn'', e'⟩ := b4 b n' hn'
    exact ⟨n'', hn'', e'.trans e⟩

/-- what every part of `BuildTree64` that works inside the `owner`/`splits`-closed set `C` does to the state: the invariants
are kept, records outside `C` are untouched, `C` stays closed and keeps all placed outrecs -/
structure Frame (clean : Nat → CleanRes) (inside : Nat → Nat → Bool) (C : Nat → Prop) (S S' : St) : Prop where
  stepS : StepS clean S S'
  ginv : GInv clean inside S'
  pinv : PInv S → PInv S'
  nonC : NonC C S.recs S'.recs
  ownC : OwnC C S.recs → OwnC C S'.recs
  placedC : PlacedC C S.recs → PlacedC C S'.recs

theorem Frame.refl {S : St} (hG : GInv clean inside S) : Frame clean inside C S S :=
  ⟨.refl _, hG, id, fun _ _ => rfl, id, id⟩

theorem Frame.trans {A B D : St} (h1 : Frame clean inside C A B) (h2 : Frame clean inside C B D) :
    Frame clean inside C A D :=
  ⟨h1.stepS.trans h2.stepS, h2.ginv, fun h => h2.pinv (h1.pinv h), fun j hj => (h2.nonC j hj).trans (h1.nonC j hj),
    fun h => h2.ownC (h1.ownC h), fun h => h2.placedC (h1.placedC h)⟩

/-! ### a table-level step as a step of the state: no outrec whose owner changes is placed yet -/

theorem BInv.step {io : Option Nat} {T T' : Table} (hB : BInv clean T) (h : Step clean io T T') : BInv clean T' := by
  intro j r' hj hne
  obtain ⟨r, hr, rs, _, _⟩ := h.back hj
  cases he : r.bounds.isEmpty with
  | true => exact rs.fill he hne
  | false =>
    obtain ⟨a, b, c⟩ := hB j r hr he
    obtain ⟨e1, e2, e3⟩ := rs.keep he
    exact ⟨e3 ▸ a, e2 ▸ b, by rw [e1, e2]; exact c⟩

theorem PlacedC.step {io : Option Nat} {T T' : Table} (h : PlacedC C T) (hs : Step clean io T T') : PlacedC C T' := by
  intro c r' hc hp
  obtain ⟨r, hr, _, pp, _⟩ := hs.back hc
  exact h c r hr (pp ▸ hp)

theorem StepS.of_step {S : St} {T1 : Table} {io : Option Nat} (h : Step clean io S.recs T1)
    (hio : ∀ (k : Nat) (r : OutRec), io = some k → S.recs[k]? = some r → r.polypath = none) :
    StepS clean S { S with recs := T1 } := by
  refine ⟨h.1, fun j r hj => ?_, fun _ n hb => ⟨n, hb, rfl⟩⟩
  obtain ⟨r', hr', rs, pp, ow⟩ := h.2 j r hj
  refine ⟨r', hr', rs, fun hs => ⟨pp, ow fun e => ?_⟩⟩
  rw [hio j r e.symm hj] at hs
  cases hs

theorem TInv.table_step {S : St} {T1 : Table} {io : Option Nat} (hT : TInv inside S) (h : Step clean io S.recs T1)
    (hio : ∀ (k : Nat) (r : OutRec), io = some k → S.recs[k]? = some r → r.polypath = none) :
    TInv inside { S with recs := T1 } := by
  intro c r1 a hc hpa
  obtain ⟨r, hr, rs, pp, ow⟩ := h.back hc
  have hra : r.polypath = some a := pp ▸ hpa
  have hci : some c ≠ io := fun e => by rw [hio c r e.symm hr] at hra; cases hra
  obtain ⟨⟨n, hn, hnp⟩, hne, hdis⟩ := hT c r a hr hra
  obtain ⟨e1, e2, _⟩ := rs.keep hne
  refine ⟨⟨n, hn, hnp.trans e2.symm⟩, e1 ▸ hne, ?_⟩
  rcases hdis with ⟨ho, hk⟩ | ⟨p, rp, pa, k, ho, hp, hppa, hak, hcont, hins⟩
  · exact Or.inl ⟨(ow hci).trans ho, hk⟩
  · obtain ⟨rp', hrp', rsp, ppp, _⟩ := h.2 p rp hp
    obtain ⟨_, hpne, _⟩ := hT p rp pa hp hppa
    obtain ⟨g1, _, _⟩ := rsp.keep hpne
    exact Or.inr ⟨p, rp', pa, k, (ow hci).trans ho, hrp', ppp.trans hppa, hak, by rw [g1, e1]; exact hcont, hins⟩

theorem placedPaths_table_step {S : St} {T1 : Table} {io : Option Nat}
    (hT : TInv inside S) (h : Step clean io S.recs T1) : placedPaths T1 = placedPaths S.recs := by
  unfold placedPaths
  rw [h.1]
  apply filterMap_range_congr
  intro j hj
  obtain ⟨r, hj'⟩ := exists_getElem? hj
  obtain ⟨r', hr', rs, pp, _⟩ := h.2 j _ hj'
  unfold placedPath
  rw [hr', hj']
  simp only [pp]
  cases hp : r.polypath with
  | none => rfl
  | some a =>
    obtain ⟨_, hne, _⟩ := hT j _ a hj' hp
    simp [(rs.keep hne).2.1]

theorem Frame.of_good {S : St} {T1 : Table} {i : Nat} {io : Option Nat} (hG : GInv clean inside S)
    (h : Good clean C i io S.recs T1)
    (hio : ∀ (k : Nat) (r : OutRec), io = some k → S.recs[k]? = some r → r.polypath = none) :
    Frame clean inside C S { S with recs := T1 } :=
  ⟨.of_step h.step hio, ⟨h.acyc hG.1, hG.2.1.step h.step, hG.2.2.table_step h.step hio⟩,
    fun hP => by
      show (polyTreeToPaths S.tree).Perm (placedPaths T1)
      rw [placedPaths_table_step hG.2.2 h.step]; exact hP,
    h.nonC, h.ownC, fun hP => hP.step h.step⟩

theorem Reach.of_step {T T1 : Table} {i : Nat} (h : Step clean (some i) T T1) {j : Nat} (hr : Reach T j i) :
    Reach T1 j i := by
  induction hr with
  | refl => exact Reach.refl _
  | @step j' k' o' r' hj ho _ ih =>
    by_cases hji : j' = k'
    · subst hji; exact Reach.refl _
    · obtain ⟨r1, hr1, _, _, ow⟩ := h.2 _ _ hj
      exact Reach.step hr1 ((ow (by simpa using hji)).trans ho) (ih h)

/-- what the parent pointer passed to `AddChild` must satisfy -/
def ParentOK (inside : Nat → Nat → Bool) (S : St) (i : Nat) (r1 : OutRec) (pa : List Nat) : Prop :=
  (pa = [] ∧ r1.owner = none) ∨
  (∃ (o : Nat) (ro : OutRec), r1.owner = some o ∧ S.recs[o]? = some ro ∧ ro.polypath = some pa ∧
    ro.bounds.contains r1.bounds = true ∧ inside i o = true)

structure PlaceConcl (clean : Nat → CleanRes) (inside : Nat → Nat → Bool) (C : Nat → Prop) (S : St) (i : Nat)
    (S' : St) : Prop extends Frame clean inside C S S' where
  openPaths : S'.openPaths = S.openPaths
  others : ∀ (j : Nat), j ≠ i → S'.recs[j]? = S.recs[j]?
  placed : ∃ r' : OutRec, S'.recs[i]? = some r' ∧ r'.polypath.isSome = true

theorem place_spec {S : St} {i : Nat} {r1 : OutRec} {pa a : List Nat} {tr : Tree} (hCi : C i)
    (hG : GInv clean inside S) (hi : S.recs[i]? = some r1) (hnp : r1.polypath = none)
    (hne : r1.bounds.isEmpty = false) (hadd : addChild S.tree pa r1.path = some (tr, a))
    (hpar : ParentOK inside S i r1 pa) :
    PlaceConcl clean inside C S i
      { S with recs := S.recs.modify i (fun x => { x with polypath := some a }), tree := tr } := by
  obtain ⟨hA, hB, hT⟩ := hG
  -- the new table differs from the old one at `i` only, where `polypath` is set
  have hsize := Array.size_modify (xs := S.recs) (i := i) (f := fun x => { x with polypath := some a })
  have hother := fun (j : Nat) (hj : j ≠ i) =>
    modify_ne (T := S.recs) (fun x => { x with polypath := some a }) (Ne.symm hj)
  have hself := modify_self (fun x => { x with polypath := some a }) hi
  generalize S.recs.modify i (fun x => { x with polypath := some a }) = T' at *
  have hfrom : ∀ {j : Nat} {r' : OutRec}, T'[j]? = some r' →
      (j = i ∧ r' = { r1 with polypath := some a }) ∨ (j ≠ i ∧ S.recs[j]? = some r') := by
    intro j r' hj
    by_cases hji : j = i
    · subst hji; exact Or.inl ⟨rfl, Option.some.inj (hj.symm.trans hself)⟩
    · exact Or.inr ⟨hji, (hother j hji).symm.trans hj⟩
  -- an outrec that has a polypath is not `i`
  have hne_i : ∀ {p : Nat} {rp : OutRec} {pa : List Nat}, S.recs[p]? = some rp → rp.polypath = some pa → p ≠ i := by
    rintro p rp pa hp hppa rfl
    cases hi.symm.trans hp
    cases hnp.symm.trans hppa
  refine ⟨⟨⟨hsize, fun j r hj => ?_, fun b n hb => addChild_at_old hadd hb⟩, ⟨?_, ?_, ?_⟩, fun hP => ?_,
    fun j hj => hother j fun e => hj (e ▸ hCi), fun hC j r' hj => ?_, fun hP j r' hj hp => ?_⟩, rfl, hother, ⟨_, hself, rfl⟩⟩
  · by_cases hji : j = i
    · subst hji
      cases hi.symm.trans hj
      exact ⟨_, hself, .of_eq rfl rfl rfl rfl rfl, fun hs => by rw [hnp] at hs; cases hs⟩
    · exact ⟨r, (hother j hji).trans hj, .refl _ _ _, fun _ => ⟨rfl, rfl⟩⟩
  · refine hA.of_same_owner fun j r' hj => ?_
    rcases hfrom hj with ⟨rfl, rfl⟩ | ⟨_, hr⟩
    · exact ⟨r1, hi, rfl⟩
    · exact ⟨r', hr, rfl⟩
  · intro j r' hj hne'
    rcases hfrom hj with ⟨rfl, rfl⟩ | ⟨_, hr⟩
    · exact hB j r1 hi hne'
    · exact hB j r' hr hne'
  · intro c r' a' hc hpa'
    rcases hfrom hc with ⟨rfl, rfl⟩ | ⟨hci, hc⟩
    · cases hpa'
      refine ⟨⟨_, addChild_at_new hadd, rfl⟩, hne, ?_⟩
      obtain ⟨k, hk⟩ := addChild_addr hadd
      rcases hpar with ⟨rfl, ho⟩ | ⟨o, ro, ho, hro, hropa, hcont, hins⟩
      · exact Or.inl ⟨ho, k, hk⟩
      · exact Or.inr ⟨o, ro, pa, k, ho, (hother o (hne_i hro hropa)).trans hro, hropa, hk, hcont, hins⟩
    · obtain ⟨⟨n, hn, hnp'⟩, hne', hdis⟩ := hT c r' a' hc hpa'
      obtain ⟨n', hn', e⟩ := addChild_at_old hadd hn
      refine ⟨⟨n', hn', e.trans hnp'⟩, hne', hdis.imp_right ?_⟩
      rintro ⟨p, rp, pa', k, ho, hp, hppa, h⟩
      exact ⟨p, rp, pa', k, ho, (hother p (hne_i hp hppa)).trans hp, hppa, h⟩
  · have hup := filterMap_range_update (placedPath S.recs) (placedPath T') i r1.path
      (by simp [placedPath, hi, hnp]) (by simp [placedPath, hself])
      (fun j hj => by simp only [placedPath, hother j hj]) S.recs.size (getElem?_lt hi)
    show (polyTreeToPaths tr).Perm ((List.range T'.size).filterMap _)
    rw [hsize]
    exact ((addChild_polyTreeToPaths' hadd).trans (hP.cons _)).trans hup.symm
  · rcases hfrom hj with ⟨rfl, rfl⟩ | ⟨_, hr⟩
    · exact hC j r1 hi
    · exact hC j r' hr
  · rcases hfrom hj with ⟨rfl, _⟩ | ⟨_, hr⟩
    · exact hCi
    · exact hP j r' hr hp

/-- `outrec->polypath = outrec->owner->polypath->AddChild(outrec->path);` -/
def rcoPlace (S2 : St) (i o : Nat) : Option St :=
  match S2.recs[o]?, S2.recs[i]? with
  | some orc2, some r2' =>
    match orc2.polypath with
    | none => none
    | some pa =>
      match addChild S2.tree pa r2'.path with
      | none => none
      | some (tr, a) =>
        some { S2 with recs := S2.recs.modify i (fun x => { x with polypath := some a }), tree := tr }
  | _, _ => none

/-- `RecursiveCheckOwners` after its owner loop, which left the table `T1` -/
def rcoAfter (clean : Nat → CleanRes) (inside : Nat → Nat → Bool) (f : Nat) (S : St) (T1 : Table) (i : Nat) : Option St :=
  match T1[i]? with
  | none => none
  | some r1 =>
    match r1.owner with
    | none =>
      match addChild S.tree [] r1.path with
      | none => none
      | some (tr, a) =>
        some { S with recs := T1.modify i (fun x => { x with polypath := some a }), tree := tr }
    | some o =>
      match T1[o]? with
      | none => none
      | some orc =>
        match (if orc.polypath.isNone then recursiveCheckOwners clean inside f { S with recs := T1 } o
               else some { S with recs := T1 }) with
        | none => none
        | some S2 => rcoPlace S2 i o

theorem rco_unfold (clean : Nat → CleanRes) (inside : Nat → Nat → Bool) (f : Nat) (S : St) (i : Nat) :
    recursiveCheckOwners clean inside (f + 1) S i =
      match S.recs[i]? with
      | none => none
      | some r =>
        if r.polypath.isSome || r.bounds.isEmpty then some S
        else match ownerLoop clean inside f S.recs i with
          | none => none
          | some T1 => rcoAfter clean inside f S T1 i := by
  rw [recursiveCheckOwners]; rfl

/-- an outrec with empty bounds is left alone (`if (outrec->polypath || outrec->bounds.IsEmpty()) return;`) -/
theorem rco_empty {f : Nat} {S S2 : St} {o : Nat} {orc : OutRec}
    (h : recursiveCheckOwners clean inside f S o = some S2) (ho : S.recs[o]? = some orc)
    (he : orc.bounds.isEmpty = true) : S2 = S := by
  cases f with
  | zero => cases h
  | succ f =>
    rw [rco_unfold] at h
    simp only [ho, he, Bool.or_true, if_true, Option.some.injEq] at h
    exact h.symm

/-- what `RecursiveCheckOwners(outrec i, …)` achieves; `C` is a set of outrecs closed under `owner` and `splits` -/
structure RcoSpec (clean : Nat → CleanRes) (inside : Nat → Nat → Bool) (C : Nat → Prop) (i : Nat) (S S' : St) :
    Prop extends Frame clean inside C S S' where
  openPaths : S'.openPaths = S.openPaths
  /-- the outrecs from which `i` is reached along `owner` (the pending calls) keep owner and polypath -/
  unchanged : ∀ (j : Nat) (r : OutRec), j ≠ i → Reach S.recs j i → S.recs[j]? = some r →
    ∃ r' : OutRec, S'.recs[j]? = some r' ∧ r'.owner = r.owner ∧ r'.polypath = r.polypath
  placed : ∀ r : OutRec, S.recs[i]? = some r → r.bounds.isEmpty = false →
    ∃ r' : OutRec, S'.recs[i]? = some r' ∧ r'.polypath.isSome = true

theorem RcoSpec.refl_of {i : Nat} {S : St} (hG : GInv clean inside S)
    (h : ∀ r : OutRec, S.recs[i]? = some r → r.bounds.isEmpty = false → r.polypath.isSome = true) :
    RcoSpec clean inside C i S S :=
  ⟨.refl hG, rfl, fun _ r _ _ hj => ⟨r, hj, rfl, rfl⟩, fun r hr hne => ⟨r, hr, h r hr hne⟩⟩

theorem isSome_false_eq_none {α : Type} {o : Option α} (h : o.isSome = false) : o = none := by
  cases o <;> simp_all

/-- the state after the owner loop of `RecursiveCheckOwners(outrec i, …)`: `i` is still unplaced with the same bounds,
and its owner, if any, passed the containment test -/
structure AfterLoop (clean : Nat → CleanRes) (inside : Nat → Nat → Bool) (C : Nat → Prop) (i : Nat) (S : St)
    (r : OutRec) (T1 : Table) : Prop extends Frame clean inside C S { S with recs := T1 } where
  good : Good clean C i (some i) S.recs T1
  rec1 : ∃ r1 : OutRec, T1[i]? = some r1 ∧ r1.polypath = none ∧ r1.bounds = r.bounds ∧
    (r1.owner = none ∨ ∃ (o : Nat) (orc : OutRec), r1.owner = some o ∧ T1[o]? = some orc ∧ i ≠ o ∧
      orc.bounds.contains r1.bounds = true ∧ inside i o = true)

theorem afterLoop {f i : Nat} {S : St} {r : OutRec} {T1 : Table} (hi : C i) (hG : GInv clean inside S)
    (hC : OwnC C S.recs) (hr : S.recs[i]? = some r) (hnp : r.polypath = none) (hne : r.bounds.isEmpty = false)
    (hol : ownerLoop clean inside f S.recs i = some T1) : AfterLoop clean inside C i S r T1 := by
  obtain ⟨hgood, hdisj⟩ := ownerLoop_spec hi f _ _ hol hC
  have hf : Frame clean inside C S { S with recs := T1 } := .of_good hG hgood (by
    rintro _ r' ⟨⟩ hr'
    cases hr.symm.trans hr'
    exact hnp)
  refine ⟨hf, hgood, ?_⟩
  obtain ⟨r1, hr1, rs1, pp1, _⟩ := hgood.step.2 i r hr
  refine ⟨r1, hr1, pp1.trans hnp, (rs1.keep hne).1, ?_⟩
  rcases hdisj with ⟨ri, hri, hnone⟩ | ⟨ri, o, orc, hri, hown, horc, hok⟩
  · cases hr1.symm.trans hri
    exact Or.inl hnone
  · cases hr1.symm.trans hri
    exact Or.inr ⟨o, orc, hown, horc, fun e => hf.ginv.1.not_reachP_self i ⟨r1, i, hr1, e ▸ hown, Reach.refl _⟩, hok⟩

/-- putting the three phases (owner loop, recursive call on the owner, `AddChild`) together -/
theorem rco_assemble {i : Nat} {S S2 S' : St} {r : OutRec} {T1 : Table}
    (h1 : AfterLoop clean inside C i S r T1)
    (h12 : Frame clean inside C { S with recs := T1 } S2) (ho12 : S2.openPaths = S.openPaths)
    (hun : ∀ (j : Nat) (r : OutRec), j ≠ i → Reach T1 j i → T1[j]? = some r →
      ∃ r' : OutRec, S2.recs[j]? = some r' ∧ r'.owner = r.owner ∧ r'.polypath = r.polypath)
    (hpl : PlaceConcl clean inside C S2 i S') : RcoSpec clean inside C i S S' := by
  refine ⟨(h1.toFrame.trans h12).trans hpl.toFrame, hpl.openPaths.trans ho12, ?_, fun _ _ _ => hpl.placed⟩
  intro j r hji hreach hj
  obtain ⟨r1, hr1, _, pp, ow⟩ := h1.good.step.2 j r hj
  obtain ⟨r2, hr2, e1, e2⟩ := hun j r1 hji (hreach.of_step h1.good.step) hr1
  exact ⟨r2, (hpl.others j hji).trans hr2, e1.trans (ow (by simpa using hji)), e2.trans pp⟩

theorem rcoPlace_spec {S2 S' : St} {i o : Nat} {r2 : OutRec} (hCi : C i)
    (h : rcoPlace S2 i o = some S') (hG : GInv clean inside S2)
    (hi : S2.recs[i]? = some r2) (hnp : r2.polypath = none) (hne : r2.bounds.isEmpty = false)
    (hown : r2.owner = some o) (hins : inside i o = true)
    (hcont : ∀ ro : OutRec, S2.recs[o]? = some ro → ro.polypath.isSome = true → ro.bounds.contains r2.bounds = true) :
    PlaceConcl clean inside C S2 i S' := by
  unfold rcoPlace at h
  split at h
  · rename_i orc2 r2' ho2 hi2
    cases hi.symm.trans hi2
    split at h
    · cases h
    · rename_i pa hpa
      split at h
      · cases h
      · rename_i tr a hadd
        cases h
        exact place_spec hCi hG hi hnp hne hadd
          (Or.inr ⟨o, orc2, hown, ho2, hpa, hcont orc2 ho2 (by simp [hpa]), hins⟩)
  · cases h

theorem rco_spec : ∀ (f : Nat) (S : St) (i : Nat) (S' : St), recursiveCheckOwners clean inside f S i = some S' →
    GInv clean inside S → C i → OwnC C S.recs → RcoSpec clean inside C i S S' := by
  intro f
  induction f with
  | zero => intro S i S' h; cases h
  | succ f IH =>
    intro S i S' h hG hi hC
    rw [rco_unfold] at h
    split at h
    · cases h
    · rename_i r hr
      split at h
      · rename_i hcond
        cases h
        refine .refl_of hG (fun r' hr' hne => ?_)
        cases hr.symm.trans hr'
        simpa [hne] using hcond
      · rename_i hcond
        simp only [Bool.or_eq_true, not_or, Bool.not_eq_true] at hcond
        have hnp : r.polypath = none := isSome_false_eq_none hcond.1
        split at h
        · cases h
        · rename_i T1 hol
          have h1 := afterLoop hi hG hC hr hnp hcond.2 hol
          obtain ⟨r1, hr1, hnp1, hb1, hown⟩ := h1.rec1
          have hne1 : r1.bounds.isEmpty = false := hb1 ▸ hcond.2
          have hC1 := h1.ownC hC
          unfold rcoAfter at h
          simp only [hr1] at h
          rcases hown with hown | ⟨o, orc, hown, horc, hio, hcont, hins⟩
          · -- no owner: child of the root
            simp only [hown] at h
            split at h
            · cases h
            · rename_i tr a hadd
              cases h
              exact rco_assemble h1 (.refl h1.ginv) rfl (fun j rj _ _ hj => ⟨rj, hj, rfl, rfl⟩)
                (place_spec (S := { S with recs := T1 }) hi h1.ginv hr1 hnp1 hne1 hadd (Or.inl ⟨rfl, hown⟩))
          · simp only [hown, horc] at h
            have ho : C o := (hC1 i r1 hr1 hi).1 o hown
            -- the recursive call on the owner, if it is not placed yet
            obtain ⟨S2, hspec, hbnd, h⟩ : ∃ S2 : St, RcoSpec clean inside C o { S with recs := T1 } S2 ∧
                (∀ ro : OutRec, S2.recs[o]? = some ro → ro.polypath.isSome = true → ro.bounds = orc.bounds) ∧
                rcoPlace S2 i o = some S' := by
              split at h
              · cases h
              rename_i S2 hrec
              split at hrec
              · rename_i hc
                have hspec := IH _ _ _ hrec h1.ginv ho hC1
                refine ⟨S2, hspec, fun ro hro hsome => ?_, h⟩
                cases he : orc.bounds.isEmpty with
                | true =>
                  cases rco_empty hrec horc he
                  cases horc.symm.trans hro
                  rw [Option.isNone_iff_eq_none.mp hc] at hsome
                | false =>
                  obtain ⟨ro', hro', rs', _⟩ := hspec.stepS.2.1 o orc horc
                  cases hro.symm.trans hro'
                  exact (rs'.keep he).1
              · rename_i hc
                cases hrec
                refine ⟨_, .refl_of h1.ginv (fun r' hr' _ => ?_), fun ro hro _ => ?_, h⟩
                · cases horc.symm.trans hr'
                  cases hp : orc.polypath with
                  | none => exact absurd (by rw [hp]; rfl) hc
                  | some _ => rfl
                · cases horc.symm.trans hro
                  rfl
            obtain ⟨r2, hr2, eo2, ep2⟩ := hspec.unchanged i r1 hio (Reach.step hr1 hown (Reach.refl _)) hr1
            obtain ⟨r2', hr2', rs2, _⟩ := hspec.stepS.2.1 i r1 hr1
            cases hr2.symm.trans hr2'
            obtain ⟨eb2, _, _⟩ := rs2.keep hne1
            refine rco_assemble h1 hspec.toFrame hspec.openPaths ?_
              (rcoPlace_spec hi h hspec.ginv hr2 (ep2.trans hnp1) (eb2 ▸ hne1) (eo2.trans hown) hins
                (fun ro hro hsome => by rw [hbnd ro hro hsome, eb2]; exact hcont))
            intro j rj hji hreach hj
            have hjo : j ≠ o := by
              rintro rfl
              exact h1.ginv.1.not_reachP_self i ⟨r1, j, hr1, hown, hreach⟩
            exact hspec.unchanged j rj hjo (hreach.tail hr1 hown) hj

end

end Clipper.Model.Owner

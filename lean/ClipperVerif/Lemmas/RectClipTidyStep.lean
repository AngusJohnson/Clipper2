/-
One iteration of the `TidyEdges` loop (`tidyStep`) on a well-formed heap: the five ways through an iteration (`tidyStep_cases`),
the split / rejoin in the loop's own terms (`tidySplice_wf`), preservation of `RingsWF` and of "edge-list entries are live", no
fault; then the loop and `TidyEdges` as a whole.
Core Lean only.
-/
import ClipperVerif.Lemmas.RectClipTidyRelist
namespace Clipper.Lemmas.RCT
open Clipper Clipper.Model.RC Clipper.Model.RCT

theorem takeWhile_stop {α : Type} (p : α → Bool) : ∀ (l : List α),
    (l.takeWhile p).length ≤ l.length ∧ ∀ x, l[(l.takeWhile p).length]? = some x → p x = false
  | [] => by simp
  | a :: l => by
    by_cases h : p a = true
    · have ih := takeWhile_stop p l
      simp only [List.takeWhile_cons, h, if_true, List.length_cons, List.getElem?_cons_succ]
      exact ⟨by omega, ih.2⟩
    · have hf : p a = false := by simpa using h
      simp only [List.takeWhile_cons, hf, Bool.false_eq_true, if_false, List.length_nil, List.length_cons,
        List.getElem?_cons_zero, Option.some.injEq]
      refine ⟨by omega, ?_⟩
      intro x hx; subst hx; exact hf

theorem scanCcw_spec (h : Heap) (ccw : List (Option Nat)) (j : Nat) (hj : j ≤ ccw.length) :
    j ≤ scanCcw h ccw j ∧ scanCcw h ccw j ≤ ccw.length ∧
      ∀ x, ccw[scanCcw h ccw j]? = some x → skipEntry h x = false := by
  have := takeWhile_stop (skipEntry h) (ccw.drop j)
  unfold scanCcw
  refine ⟨by omega, ?_, ?_⟩
  · have := this.1; rw [List.length_drop] at this; omega
  · intro x hx
    apply this.2 x
    rw [List.getElem?_drop]; exact hx

theorem tidyStep_cases (idx : Nat) (s : TState) (hj : s.j ≤ (s.h.edges (idx * 2 + 1)).length) {P : TStep → Prop}
    (done : P .done)
    (skip : s.i < (s.h.edges (idx * 2)).length → P (.next .skipCw ⟨s.h.setEdge (idx * 2) s.i none, s.i + 1, 0⟩))
    (exhausted : s.i < (s.h.edges (idx * 2)).length → P (.next .ccwExhausted ⟨s.h, s.i + 1, 0⟩))
    (noOverlap : ∀ j, s.j ≤ j → j < (s.h.edges (idx * 2 + 1)).length → P (.next .noOverlap ⟨s.h, s.i, j + 1⟩))
    (splice : ∀ cwI ccwJ j, (s.h.edges (idx * 2))[s.i]? = some (some cwI) → (s.h.edges (idx * 2 + 1))[j]? = some (some ccwJ) →
      s.j ≤ j →
      hasOverlap (idx == 1 || idx == 3) s.h (if (idx == 1 || idx == 2) then s.h.prev cwI else cwI)
        (if (idx == 1 || idx == 2) then cwI else s.h.prev cwI) (if (idx == 1 || idx == 2) then ccwJ else s.h.prev ccwJ)
        (if (idx == 1 || idx == 2) then s.h.prev ccwJ else ccwJ) = true →
      P (match tidySplice (idx == 1 || idx == 2) s.h cwI ccwJ (if (idx == 1 || idx == 2) then s.h.prev cwI else cwI)
          (if (idx == 1 || idx == 2) then cwI else s.h.prev cwI) (if (idx == 1 || idx == 2) then ccwJ else s.h.prev ccwJ)
          (if (idx == 1 || idx == 2) then s.h.prev ccwJ else ccwJ) with
        | .error f => .fault f
        | .ok (h5, op, op2, rejoin) =>
          tidyRelist (idx * 2) (idx * 2 + 1) (idx == 1 || idx == 2) (idx == 1 || idx == 3) h5 s.i j op op2 rejoin)) :
    P (tidyStep idx s) := by
  unfold tidyStep
  by_cases hi : s.i < (s.h.edges (idx * 2)).length
  · rw [if_pos hi, List.getElem?_eq_getElem hi]
    dsimp only
    by_cases hsk : skipEntry s.h ((s.h.edges (idx * 2))[s.i]'hi) = true
    · rw [if_pos hsk]; exact skip hi
    rw [if_neg hsk]
    cases hcw : (s.h.edges (idx * 2))[s.i]'hi with
    | none => rw [hcw] at hsk; exact absurd rfl hsk
    | some cwI =>
      dsimp only
      have sc := scanCcw_spec s.h _ s.j hj
      by_cases hjl : scanCcw s.h (s.h.edges (idx * 2 + 1)) s.j = (s.h.edges (idx * 2 + 1)).length
      · rw [if_pos hjl]; exact exhausted hi
      have hjlt : scanCcw s.h (s.h.edges (idx * 2 + 1)) s.j < (s.h.edges (idx * 2 + 1)).length := by omega
      rw [if_neg hjl, List.getElem?_eq_getElem hjlt]
      cases hccw : (s.h.edges (idx * 2 + 1))[scanCcw s.h (s.h.edges (idx * 2 + 1)) s.j]'hjlt with
      | none => exact absurd (sc.2.2 none (by rw [List.getElem?_eq_getElem hjlt, hccw])) (by simp [skipEntry])
      | some ccwJ =>
        dsimp only
        by_cases hov : hasOverlap (idx == 1 || idx == 3) s.h (if (idx == 1 || idx == 2) then s.h.prev cwI else cwI)
            (if (idx == 1 || idx == 2) then cwI else s.h.prev cwI) (if (idx == 1 || idx == 2) then ccwJ else s.h.prev ccwJ)
            (if (idx == 1 || idx == 2) then s.h.prev ccwJ else ccwJ) = true
        · rw [hov, if_neg (by simp)]
          exact splice cwI ccwJ _ (by rw [List.getElem?_eq_getElem hi, hcw]) (by rw [List.getElem?_eq_getElem hjlt, hccw]) sc.1 hov
        · rw [Bool.not_eq_true] at hov
          rw [hov]
          exact noOverlap _ sc.1 hjlt
  · rw [if_neg hi]; exact done

/-- the two assignments of rings to slots have the same live nodes: nothing was dropped, nothing invented -/
def SameNodes (ring' ring : Nat → List Nat) : Prop := ∀ k, (∃ t, k ∈ ring' t) ↔ ∃ t, k ∈ ring t

theorem SameNodes.refl (ring : Nat → List Nat) : SameNodes ring ring := fun _ => Iff.rfl

theorem SameNodes.trans {r1 r2 r3 : Nat → List Nat} (h12 : SameNodes r1 r2) (h23 : SameNodes r2 r3) : SameNodes r1 r3 :=
  fun k => (h12 k).trans (h23 k)

/-- replacing the rings of two slots by lists with the same members between them keeps the set of live nodes -/
theorem sameNodes_upd2 {ring : Nat → List Nat} {a b : Nat} {A B : List Nat} (hab : a ≠ b)
    (hm : ∀ k, k ∈ A ∨ k ∈ B ↔ k ∈ ring a ∨ k ∈ ring b) : SameNodes (upd (upd ring a A) b B) ring := by
  intro k
  constructor
  · rintro ⟨t, ht⟩
    by_cases h1 : t = b
    · subst h1; rw [upd_same] at ht
      exact ((hm k).mp (Or.inr ht)).elim (fun m => ⟨_, m⟩) (fun m => ⟨_, m⟩)
    · rw [upd_ne _ _ h1] at ht
      by_cases h2 : t = a
      · subst h2; rw [upd_same] at ht
        exact ((hm k).mp (Or.inl ht)).elim (fun m => ⟨_, m⟩) (fun m => ⟨_, m⟩)
      · rw [upd_ne _ _ h2] at ht; exact ⟨t, ht⟩
  · rintro ⟨t, ht⟩
    by_cases h : t = a ∨ t = b
    · have : k ∈ ring a ∨ k ∈ ring b := by
        rcases h with rfl | rfl
        · exact Or.inl ht
        · exact Or.inr ht
      rcases (hm k).mpr this with m | m
      · exact ⟨a, by rw [upd_ne _ _ hab, upd_same]; exact m⟩
      · exact ⟨b, by rw [upd_same]; exact m⟩
    · exact ⟨t, by rw [upd_ne _ _ (fun e => h (Or.inr e)), upd_ne _ _ (fun e => h (Or.inl e))]; exact ht⟩

/-- what both a split and a rejoin at the entries `a`, `b` leave untouched, and what they do to `prev`: the two nodes exchange
their predecessors -/
structure SpliceFrame (h h5 : Heap) (a b : Nat) : Prop where
  n : h5.n = h.n
  pt : h5.pt = h.pt
  edges : h5.edges = h.edges
  prev : h5.prev = upd (upd h.prev a (h.prev b)) b (h.prev a)

theorem SpliceFrame.symm {h h5 : Heap} {a b : Nat} (hab : a ≠ b) (fr : SpliceFrame h h5 a b) : SpliceFrame h h5 b a :=
  ⟨fr.n, fr.pt, fr.edges, by rw [fr.prev, upd_comm _ hab]⟩

theorem SpliceFrame.prev_left {h h5 : Heap} {a b : Nat} (hab : a ≠ b) (fr : SpliceFrame h h5 a b) : h5.prev a = h.prev b := by
  rw [fr.prev, upd_ne _ _ hab, upd_same]

theorem SpliceFrame.prev_right {h h5 : Heap} {a b : Nat} (fr : SpliceFrame h h5 a b) : h5.prev b = h.prev a := by
  rw [fr.prev, upd_same]

theorem SpliceFrame.prev_other {h h5 : Heap} {a b : Nat} (fr : SpliceFrame h h5 a b) {k : Nat} (ha : k ≠ a) (hb : k ≠ b) :
    h5.prev k = h.prev k := by
  rw [fr.prev, upd_ne _ _ hb, upd_ne _ _ ha]

/-- **Split or rejoin in block coordinates** (see `split_lists`): `α`, `β` are the nodes whose `next` is rerouted, `hU`, `hV` their
old successors; the flag `isRejoining` of the code is `owner_idx` of the two nodes being different. -/
theorem splice_generic (h : Heap) (ring : Nat → List Nat) (w : RingsWF h ring) (α β sa sb : Nat)
    (hα : α ∈ ring sa) (hβ : β ∈ ring sb) (hne : α ≠ β) (hU hV : Nat) (ehU : hU = h.next β) (ehV : hV = h.next α)
    (q1 q2 q1a : Nat) (hq1a : q1a = hU ∨ q1a = α)
    (hq : (q2 ∈ ring sa ∧ q1 ∈ ring sb) ∨ (q2 ∈ ring sb ∧ q1 ∈ ring sa)) :
    ∃ h1 h3 h5 ring', splicePre h (decide (sb ≠ sa)) q1 q2 = .ok h1 ∧
      splicePost (relinked h1 α β hU hV) (decide (sb ≠ sa)) q1a = .ok h3 ∧ spliceSlots h3 hV hU = .ok h5 ∧
      RingsWF h5 ring' ∧ SpliceFrame h h5 hV hU ∧ SameNodes ring' ring := by
  have pU : h.prev hU = β := by rw [ehU]; exact (w.next_mem hβ).2
  have pV : h.prev hV = α := by rw [ehV]; exact (w.next_mem hα).2
  have fr : ∀ (ow : Nat → Nat) (rs : List (Option Nat)),
      SpliceFrame h { relinked h α β hU hV with owner := ow, results := rs } hV hU := fun _ _ => ⟨rfl, rfl, rfl, by rw [pU, pV]; rfl⟩
  by_cases hs : sb = sa
  · subst hs
    obtain ⟨U, V, hp, hUm, hαm, hVm, hβm, hrest⟩ := splice_split h ring w α β sb hα hβ hne q1a hU hV ehU ehV
    obtain ⟨h3, e3, e5, w5⟩ := hrest (by rcases hq1a with rfl | rfl; exact hUm; exact hαm)
    rw [show decide (sb ≠ sb) = false by simp]
    refine ⟨h, h3, _, _, rfl, e3, e5, w5, fr _ _, sameNodes_upd2 (Nat.ne_of_lt (w.slot_lt hα)) fun k => ?_⟩
    rw [ring_at_length w, ← hp.mem_iff, List.mem_append]
    simp only [List.not_mem_nil, or_false]
    exact Or.comm
  · have hsa : sa ≠ sb := fun e => hs e.symm
    rw [show decide (sb ≠ sa) = true by simp [hs]]
    rcases hq with ⟨m2, m1⟩ | ⟨m2, m1⟩
    · obtain ⟨h1, e1, e5, J, pJ, _, _, w5⟩ :=
        splice_rejoin h ring w α β sa sb hα hβ hsa q1 q2 hU hV sa sb ehU ehV (Or.inl ⟨rfl, rfl⟩) m2 m1
      refine ⟨h1, _, _, _, e1, rfl, e5, w5, fr _ _, sameNodes_upd2 hsa fun k => ?_⟩
      rw [pJ.mem_iff, List.mem_append]
      simp only [List.not_mem_nil, false_or]
      exact Or.comm
    · obtain ⟨h1, e1, e5, J, pJ, _, _, w5⟩ :=
        splice_rejoin h ring w α β sa sb hα hβ hsa q1 q2 hU hV sb sa ehU ehV (Or.inr ⟨rfl, rfl⟩) m2 m1
      refine ⟨h1, _, _, _, e1, rfl, e5, w5, fr _ _, sameNodes_upd2 hs fun k => ?_⟩
      rw [pJ.mem_iff, List.mem_append]
      simp only [List.not_mem_nil, false_or]

theorem spliceLink_true (h : Heap) (p1 p1a p2 p2a : Nat) :
    spliceLink true h p1 p1a p2 p2a = relinked h p2a p1 p1a p2 := rfl

theorem spliceLink_false (h : Heap) (p1 p1a p2 p2a : Nat) :
    spliceLink false h p1 p1a p2 p2a = relinked h p1a p2 p2a p1 := rfl

/-- **`tidySplice` on a well-formed heap**, with the arguments the loop passes (on sides 1 and 2, `cwIsTowardLarger`:
`p1 = cw[i]->prev`, `p1a = cw[i]`, `p2 = ccw[j]`, `p2a = ccw[j]->prev`; on sides 0 and 3 the roles of a node and its predecessor
are exchanged): it does not fault, keeps the rings well-formed and the set of live nodes, and `cw[i]` and `ccw[j]` exchange
their predecessors. -/
theorem tidySplice_wf (tl : Bool) (h : Heap) (ring : Nat → List Nat) (w : RingsWF h ring) (cwI ccwJ sc sj : Nat)
    (hc : cwI ∈ ring sc) (hj : ccwJ ∈ ring sj) (hne : cwI ≠ ccwJ) :
    ∃ h5 rj ring', tidySplice tl h cwI ccwJ (if tl then h.prev cwI else cwI) (if tl then cwI else h.prev cwI)
        (if tl then ccwJ else h.prev ccwJ) (if tl then h.prev ccwJ else ccwJ) =
          .ok (h5, if tl then ccwJ else cwI, if tl then cwI else ccwJ, rj) ∧
      RingsWF h5 ring' ∧ SpliceFrame h h5 cwI ccwJ ∧ SameNodes ring' ring := by
  have a1 := w.prev_mem hc
  have a2 := w.prev_mem hj
  have hne' : h.prev cwI ≠ h.prev ccwJ := fun e => hne (by rw [← a1.2, ← a2.2, e])
  cases tl with
  | true =>
    obtain ⟨h1, h3, h5, ring', e1, e3, e5, w5, fr, lv⟩ :=
      splice_generic h ring w (h.prev ccwJ) (h.prev cwI) sj sc a2.1 a1.1 hne'.symm cwI ccwJ a1.2.symm a2.2.symm
        (h.prev cwI) ccwJ cwI (Or.inl rfl) (Or.inl ⟨hj, a1.1⟩)
    refine ⟨h5, decide (sc ≠ sj), ring', ?_, w5, fr.symm hne.symm, lv⟩
    unfold tidySplice
    simp only [w.owner sc cwI hc, w.owner sj ccwJ hj, e1, spliceLink_true, e3, if_true, e5]
  | false =>
    obtain ⟨h1, h3, h5, ring', e1, e3, e5, w5, fr, lv⟩ :=
      splice_generic h ring w (h.prev cwI) (h.prev ccwJ) sc sj a1.1 a2.1 hne' ccwJ cwI a2.2.symm a1.2.symm
        cwI (h.prev ccwJ) (h.prev cwI) (Or.inr rfl) (Or.inr ⟨a2.1, hc⟩)
    refine ⟨h5, decide (sc ≠ sj), ring', ?_, w5, fr, lv⟩
    have hd : decide (sc ≠ sj) = decide (sj ≠ sc) := decide_eq_decide.mpr ne_comm
    unfold tidySplice
    simp only [w.owner sc cwI hc, w.owner sj ccwJ hj, hd, e1, spliceLink_false, e3, Bool.false_eq_true, if_false, e5]

theorem hasOverlap_ne {isHorz : Bool} {h : Heap} {p1 p1a p2 p2a : Nat} (ho : hasOverlap isHorz h p1 p1a p2 p2a = true) :
    p1 ≠ p2a := by
  intro e
  subst e
  unfold hasOverlap Gen.HasHorzOverlap Gen.HasVertOverlap at ho
  split at ho <;> simp only [Bool.and_eq_true, decide_eq_true_eq] at ho <;> omega

theorem RelistOut.placed_sub {cwE ccwE : Nat} {cwTL isHorz : Bool} {h5 : Heap} {i j op op2 : Nat} {s' : TState}
    {pcw pccw : List Nat} (ro : RelistOut cwE ccwE cwTL isHorz h5 i j op op2 s' pcw pccw) {x : Nat} (hx : x ∈ pcw ++ pccw) :
    x = op ∨ x = op2 := by
  rcases ro.placed with p | p | ⟨p | p, _⟩ <;> rw [p] at hx <;> simp only [List.mem_cons, List.not_mem_nil, or_false] at hx
  · exact Or.inl hx
  · exact Or.inr hx
  · exact hx
  · exact hx.symm

/-- every entry after the relisting step is an old entry or one of the two nodes `op`, `op2` -/
theorem RelistOut.entries {cwE ccwE : Nat} {cwTL isHorz : Bool} {h5 : Heap} {i j op op2 : Nat} {s' : TState} {pcw pccw : List Nat}
    (ro : RelistOut cwE ccwE cwTL isHorz h5 i j op op2 s' pcw pccw) {e k : Nat} (hk : some k ∈ s'.h.edges e) :
    some k ∈ h5.edges e ∨ k = op ∨ k = op2 := by
  by_cases e1 : e = cwE
  · subst e1
    exact (ro.memcw k hk).imp mem_of_mem_set_none fun m => ro.placed_sub (List.mem_append_left _ m)
  · by_cases e2 : e = ccwE
    · subst e2
      exact (ro.memccw k hk).imp mem_of_mem_set_none fun m => ro.placed_sub (List.mem_append_right _ m)
    · exact Or.inl ((ro.others e e1 e2).mem hk)

/-- **One iteration of the `TidyEdges` loop on a well-formed heap**: it does not fault, keeps `op_container_` and every point,
keeps the rings well-formed and the edge-list entries live, and the set of nodes in live rings is the same afterwards. -/
theorem tidyStep_inv (idx : Nat) (s : TState) (ring : Nat → List Nat) (inv : TInv s.h ring)
    (hj : s.j ≤ (s.h.edges (idx * 2 + 1)).length) :
    tidyStep idx s = .done ∨ ∃ b s' ring', tidyStep idx s = .next b s' ∧ TInv s'.h ring' ∧
      s'.h.n = s.h.n ∧ s'.h.pt = s.h.pt ∧ SameNodes ring' ring ∧
      s'.j ≤ (s'.h.edges (idx * 2 + 1)).length := by
  refine tidyStep_cases idx s hj (P := fun t => t = .done ∨ ∃ b s' ring', t = .next b s' ∧ TInv s'.h ring' ∧
      s'.h.n = s.h.n ∧ s'.h.pt = s.h.pt ∧ SameNodes ring' ring ∧
      s'.j ≤ (s'.h.edges (idx * 2 + 1)).length) (Or.inl rfl) (fun _ => Or.inr ?_) (fun _ => Or.inr ?_) (fun j _ hjl => Or.inr ?_) ?_
  · refine ⟨_, _, ring, rfl, ⟨inv.w.of_sameRings (sameRings_setEdge _ _ _ _), fun e k hk => inv.el e k ?_⟩, rfl, rfl,
      SameNodes.refl _, Nat.zero_le _⟩
    rw [edges_setEdge] at hk
    split at hk
    · rename_i he; exact he ▸ mem_of_mem_set_none hk
    · exact hk
  · exact ⟨_, _, ring, rfl, inv, rfl, rfl, SameNodes.refl _, Nat.zero_le _⟩
  · exact ⟨_, _, ring, rfl, inv, rfl, rfl, SameNodes.refl _, hjl⟩
  · intro cwI ccwJ j hcw hccw _ hov
    obtain ⟨scs, hcs⟩ := inv.el _ _ (List.mem_of_getElem? hcw)
    obtain ⟨sjs, hjs⟩ := inv.el _ _ (List.mem_of_getElem? hccw)
    have hne : cwI ≠ ccwJ := fun e => hasOverlap_ne hov (by rw [e])
    obtain ⟨h5, rj, ring', e5, w5, ⟨f1, f2, f3, _⟩, lv⟩ := tidySplice_wf (idx == 1 || idx == 2) s.h ring inv.w cwI ccwJ scs sjs hcs hjs hne
    obtain ⟨b, s', pcw, pccw, er, ro⟩ := tidyRelist_out (idx * 2) (idx * 2 + 1) (by omega) (idx == 1 || idx == 2) (idx == 1 || idx == 3)
      h5 s.i j (if (idx == 1 || idx == 2) then ccwJ else cwI) (if (idx == 1 || idx == 2) then cwI else ccwJ) rj
      (by rw [f3]; exact (List.getElem?_eq_some_iff.mp hcw).1) (by rw [f3]; exact (List.getElem?_eq_some_iff.mp hccw).1)
    rw [e5]
    refine Or.inr ⟨b, s', ring', er, ⟨w5.of_sameRings ro.same, fun e k hk => (lv k).mpr ?_⟩, by rw [ro.same.1, f1],
      by rw [ro.same.2.1, f2], lv, ro.jle⟩
    rcases ro.entries hk with m | m
    · exact inv.el e k (f3 ▸ m)
    · have : k = cwI ∨ k = ccwJ := by rcases m with rfl | rfl <;> split <;> simp
      rcases this with rfl | rfl
      · exact ⟨_, hcs⟩
      · exact ⟨_, hjs⟩

/-- the whole loop, any fuel: the only possible fault is running out of fuel; a finished run keeps the invariant -/
theorem tidyLoop_inv (idx : Nat) : ∀ (fuel : Nat) (s : TState) (ring : Nat → List Nat), TInv s.h ring →
    s.j ≤ (s.h.edges (idx * 2 + 1)).length →
    (∀ h' bs, tidyLoop idx fuel s = .ok (h', bs) → ∃ ring', TInv h' ring' ∧ h'.n = s.h.n ∧ h'.pt = s.h.pt ∧
      SameNodes ring' ring) ∧
    (∀ f, tidyLoop idx fuel s = .error f → f = .fuel)
  | 0, s, ring, _, _ =>
    ⟨fun _ _ e => by simp [tidyLoop] at e, fun f e => by simp only [tidyLoop, Except.error.injEq] at e; exact e.symm⟩
  | fuel + 1, s, ring, inv, hj => by
    rw [tidyLoop]
    rcases tidyStep_inv idx s ring inv hj with hd | ⟨b, s', ring', hn, inv', e1, e2, lv, hj'⟩
    · simp only [hd]
      refine ⟨fun h' bs e => ?_, fun f e => nomatch e⟩
      cases e
      exact ⟨ring, inv, rfl, rfl, SameNodes.refl _⟩
    · simp only [hn]
      have ih := tidyLoop_inv idx fuel s' ring' inv' hj'
      cases hl : tidyLoop idx fuel s' with
      | error f' => dsimp only; exact ⟨fun _ _ e => (nomatch e), fun f e => (by cases e; exact ih.2 f' hl)⟩
      | ok r =>
        dsimp only
        refine ⟨fun h' bs e => ?_, fun f e => nomatch e⟩
        cases e
        obtain ⟨ring'', inv'', f1, f2, lv'⟩ := ih.1 r.1 r.2 hl
        exact ⟨ring'', inv'', by rw [f1, e1], by rw [f2, e2], lv'.trans lv⟩

/-- `TidyEdges(idx, edges_[2 idx], edges_[2 idx + 1])` -/
theorem tidyEdges_inv (idx : Nat) (h : Heap) (ring : Nat → List Nat) (inv : TInv h ring) :
    (∀ h', tidyEdges idx h = .ok h' → ∃ ring', TInv h' ring' ∧ h'.n = h.n ∧ h'.pt = h.pt ∧
      SameNodes ring' ring) ∧
    (∀ f, tidyEdges idx h = .error f → f = .fuel) := by
  unfold tidyEdges tidyEdgesB
  split
  · refine ⟨fun h' e => ?_, fun f e => nomatch e⟩
    cases e
    exact ⟨ring, inv, rfl, rfl, SameNodes.refl _⟩
  · have ih := tidyLoop_inv idx (tidyFuel idx h) ⟨h, 0, 0⟩ ring inv (Nat.zero_le _)
    cases hl : tidyLoop idx (tidyFuel idx h) ⟨h, 0, 0⟩ with
    | error f' => exact ⟨fun _ e => (nomatch e), fun f e => (by cases e; exact ih.2 f' hl)⟩
    | ok r =>
      refine ⟨fun h' e => ?_, fun f e => nomatch e⟩
      cases e
      exact ih.1 r.1 r.2 hl

end Clipper.Lemmas.RCT

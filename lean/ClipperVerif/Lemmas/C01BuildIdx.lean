/-
The index plumbing: `Model.SweepOrder.build` of closed paths satisfying the input-only precondition `InputGP` has the abstract corner
structure `Wf` of `Lemmas/C01BuildWf.lean` (`build_wf`).  A corner of `corners off p` is `((mkEdge i u v, mkEdge j v w), v)` for a cyclic
triple `u v w` of consecutive vertices (`ptCorners p`; `edgesOf p = p.zip (p.rotateLeft 1)`), with its two label rows in
`pathLabels off t p` (`corners_mem`); `allCorners` is what `buildFrom` filters into `nextTbl` / `allMins`.  Core Lean only.
-/
import ClipperVerif.Lemmas.C01BuildWf
import ClipperVerif.Lemmas.C01BuildScan
import ClipperVerif.Lemmas.C01RegionCore
namespace Clipper.Lemmas.C01Build
open Clipper Clipper.Model Clipper.Model.SweepOrder Clipper.Model.SweepEvents
open Clipper.Lemmas.C01Region

/-- the cyclic triples of consecutive vertices of a closed path, as pairs of consecutive directed edges `((u, v), (v, w))` -/
def ptCorners (p : Path) : List ((Pt × Pt) × (Pt × Pt)) := (edgesOf p).zip ((edgesOf p).rotateLeft 1)

/-- if `v` is a local minimum (both neighbours strictly above it; y grows downwards), the two edges leaving it are not collinear -/
def NoSpikeAtMin (u v w : Pt) : Prop := u.y < v.y → w.y < v.y → (u.x - v.x) * (v.y - w.y) ≠ (w.x - v.x) * (v.y - u.y)
instance (u v w : Pt) : Decidable (NoSpikeAtMin u v w) := by unfold NoSpikeAtMin; infer_instance

/-- one closed path: at least 3 vertices, no horizontal edge (cyclically; in particular consecutive vertices differ), no spike at a
local minimum -/
def PathGP (p : Path) : Prop := 3 ≤ p.length ∧ ∀ q ∈ ptCorners p, q.1.1.y ≠ q.1.2.y ∧ NoSpikeAtMin q.1.1 q.1.2 q.2.2
instance (p : Path) : Decidable (PathGP p) := by unfold PathGP; infer_instance

/-- **the precondition on the input**: every path is `PathGP`, and all vertices of all paths are pairwise different -/
def InputGP (subj clip : Paths) : Prop := (∀ p ∈ subj ++ clip, PathGP p) ∧ (subj ++ clip).flatten.Nodup
instance (subj clip : Paths) : Decidable (InputGP subj clip) := by unfold InputGP; infer_instance

theorem rot1_cons {α : Type} (a b : α) (t : List α) : (a :: b :: t).rotateLeft 1 = (b :: t) ++ [a] := by simp [List.rotateLeft]

theorem rot1_perm {α : Type} (l : List α) : (l.rotateLeft 1).Perm l := by
  cases l with
  | nil => simp [List.rotateLeft]
  | cons a l =>
    cases l with
    | nil => simp [List.rotateLeft]
    | cons b t => rw [rot1_cons]; exact List.perm_append_comm (l₁ := b :: t) (l₂ := [a])

theorem rot1_length {α : Type} (l : List α) : (l.rotateLeft 1).length = l.length := (rot1_perm l).length_eq

/-- the cyclic successor of an index -/
def sc (n i : Nat) : Nat := if i + 1 < n then i + 1 else 0

theorem rot1_get {α : Type} (l : List α) (hl : 2 ≤ l.length) (i : Nat) (hi : i < l.length) :
    (l.rotateLeft 1)[i]? = l[sc l.length i]? := by
  cases l with
  | nil => simp at hl
  | cons a l =>
    cases l with
    | nil => simp at hl
    | cons b t =>
      rw [rot1_cons]
      unfold sc
      simp only [List.length_cons] at hi ⊢
      by_cases h : i + 1 < t.length + 1 + 1
      · rw [if_pos h, List.getElem?_append_left (by simp only [List.length_cons]; omega)]
        simp
      · rw [if_neg h, List.getElem?_append_right (by simp only [List.length_cons]; omega)]
        have : i - (b :: t).length = 0 := by simp only [List.length_cons]; omega
        rw [this]; simp

theorem lt_of_get {α : Type} {l : List α} {i : Nat} {a : α} (h : l[i]? = some a) : i < l.length := by
  obtain ⟨h', _⟩ := List.getElem?_eq_some_iff.1 h; exact h'

/-- no edge of a path in general position is horizontal: every edge is the first edge of a cyclic triple -/
theorem pathGP_edges {p : Path} (hp : PathGP p) : ∀ uv ∈ edgesOf p, uv.1.y ≠ uv.2.y := by
  intro uv hmem
  obtain ⟨k, hk⟩ := List.mem_iff_getElem?.1 hmem
  have hkr : k < ((edgesOf p).rotateLeft 1).length := by rw [rot1_length]; exact lt_of_get hk
  have : (uv, ((edgesOf p).rotateLeft 1)[k]) ∈ ptCorners p :=
    List.mem_iff_getElem?.2 ⟨k, by unfold ptCorners; rw [List.getElem?_zip_eq_some]; exact ⟨hk, List.getElem?_eq_getElem hkr⟩⟩
  exact (hp.2 _ this).1

theorem edgesOf_eq (p : Path) (hl : 2 ≤ p.length) : edgesOf p = p.zip (p.rotateLeft 1) := by
  cases p with
  | nil => simp at hl
  | cons a l =>
    cases l with
    | nil => simp at hl
    | cons b t => rw [rot1_cons]; rfl

theorem edgesOf_length (p : Path) (hl : 2 ≤ p.length) : (edgesOf p).length = p.length := by
  rw [edgesOf_eq p hl, List.length_zip, rot1_length]; omega

theorem edgesOf_get (p : Path) (hl : 2 ≤ p.length) (i : Nat) (uv : Pt × Pt) :
    (edgesOf p)[i]? = some uv ↔ p[i]? = some uv.1 ∧ p[sc p.length i]? = some uv.2 := by
  rw [edgesOf_eq p hl, List.getElem?_zip_eq_some]
  constructor
  · intro ⟨h1, h2⟩
    rw [rot1_get p hl i (lt_of_get h1)] at h2
    exact ⟨h1, h2⟩
  · intro ⟨h1, h2⟩
    rw [rot1_get p hl i (lt_of_get h1)]
    exact ⟨h1, h2⟩

theorem pathEdges_length (off : Nat) (p : Path) : (pathEdges off p).length = (edgesOf p).length := by simp [pathEdges]

theorem pathEdges_get (off : Nat) (p : Path) (i : Nat) :
    (pathEdges off p)[i]? = ((edgesOf p)[i]?).map (fun uv => mkEdge (off + i) uv.1 uv.2) := by
  simp only [pathEdges, List.getElem?_map, List.getElem?_zipIdx, Option.map_map]
  cases (edgesOf p)[i]? <;> simp

theorem pathLabels_get (off : Nat) (t : PathType) (p : Path) (i : Nat) :
    (pathLabels off t p)[i]? = ((edgesOf p)[i]?).map (fun uv => (mkEdge (off + i) uv.1 uv.2, t, if uv.1.y > uv.2.y then 1 else -1)) := by
  simp only [pathLabels, List.getElem?_map, List.getElem?_zipIdx, Option.map_map]
  cases (edgesOf p)[i]? <;> simp

theorem mkEdge_id (i : Nat) (a b : Pt) : (mkEdge i a b).id = i := by unfold mkEdge; split <;> rfl

/-- what is proved of one corner of a path: a cyclic triple `u, c.2, w` of consecutive vertices, the edge arriving, the edge leaving, and their
rows in the label table -/
def CornerSpec (p : Path) (t : PathType) (rows : List (SEdge × PathType × Int)) (c : Corner) : Prop :=
  ∃ (i j : Nat) (u w : Pt), i ≠ j ∧ c.1.1 = mkEdge i u c.2 ∧ c.1.2 = mkEdge j c.2 w ∧ ((u, c.2), (c.2, w)) ∈ ptCorners p ∧ c.2 ∈ p ∧
    (c.1.1, t, if u.y > c.2.y then 1 else -1) ∈ rows ∧ (c.1.2, t, if c.2.y > w.y then 1 else -1) ∈ rows

theorem cornerSpec_mono {p : Path} {t : PathType} {rows rows' : List (SEdge × PathType × Int)} {c : Corner}
    (hsub : ∀ r ∈ rows, r ∈ rows') (h : CornerSpec p t rows c) : CornerSpec p t rows' c := by
  obtain ⟨i, j, u, w, h1, h2, h3, h4, h5, h6, h7⟩ := h
  exact ⟨i, j, u, w, h1, h2, h3, h4, h5, hsub _ h6, hsub _ h7⟩

theorem corners_mem (off : Nat) (t : PathType) (p : Path) (hn : 3 ≤ p.length) (c : Corner) (hc : c ∈ corners off p) :
    CornerSpec p t (pathLabels off t p) c := by
  have h2l : 2 ≤ p.length := by omega
  have hel := edgesOf_length p h2l
  have hpl : (pathEdges off p).length = p.length := by rw [pathEdges_length, hel]
  obtain ⟨i, hi⟩ := List.mem_iff_getElem?.1 hc
  simp only [corners] at hi
  rw [List.getElem?_zip_eq_some, List.getElem?_zip_eq_some] at hi
  obtain ⟨⟨h1, h2⟩, h3⟩ := hi
  have hil : i < p.length := by have := lt_of_get h1; rwa [hpl] at this
  rw [rot1_get _ (by rw [hpl]; omega) i (by rw [hpl]; exact hil), hpl] at h2
  rw [rot1_get p h2l i hil] at h3
  have hjl : sc p.length i < p.length := lt_of_get h3
  rw [pathEdges_get, Option.map_eq_some_iff] at h1 h2
  obtain ⟨⟨u, v⟩, g1, g2⟩ := h1
  obtain ⟨⟨v', w⟩, g3, g4⟩ := h2
  have k1 := (edgesOf_get p h2l i (u, v)).1 g1
  have k2 := (edgesOf_get p h2l (sc p.length i) (v', w)).1 g3
  have ev : v = c.2 := by have := k1.2; rw [h3] at this; simpa using this.symm
  have ev' : v' = c.2 := by have := k2.1; rw [h3] at this; simpa using this.symm
  subst ev
  subst ev'
  refine ⟨off + i, off + sc p.length i, u, w, ?_, g2.symm, g4.symm, ?_, List.mem_iff_getElem?.2 ⟨_, h3⟩, ?_, ?_⟩
  · unfold sc; split <;> omega
  · refine List.mem_iff_getElem?.2 ⟨i, ?_⟩
    unfold ptCorners
    rw [List.getElem?_zip_eq_some]
    refine ⟨g1, ?_⟩
    rw [rot1_get _ (by rw [hel]; omega) i (by rw [hel]; exact hil), hel]
    exact g3
  · refine List.mem_iff_getElem?.2 ⟨i, ?_⟩
    rw [pathLabels_get, g1, ← g2]; rfl
  · refine List.mem_iff_getElem?.2 ⟨sc p.length i, ?_⟩
    rw [pathLabels_get, g3, ← g4]; rfl

theorem corners_map_v (off : Nat) (p : Path) (hn : 2 ≤ p.length) : (corners off p).map (·.2) = p.rotateLeft 1 := by
  simp only [corners]
  refine List.map_snd_zip ?_
  rw [List.length_zip, rot1_length, rot1_length, pathEdges_length, edgesOf_length p hn]; omega

theorem corners_map_pair (off : Nat) (p : Path) (hn : 2 ≤ p.length) :
    (corners off p).map (·.1) = (pathEdges off p).zip ((pathEdges off p).rotateLeft 1) := by
  simp only [corners]
  refine List.map_fst_zip ?_
  rw [List.length_zip, rot1_length, rot1_length, pathEdges_length, edgesOf_length p hn]; omega

theorem corners_map_in (off : Nat) (p : Path) (hn : 2 ≤ p.length) : (corners off p).map (·.1.1) = pathEdges off p := by
  have : (corners off p).map (·.1.1) = ((corners off p).map (·.1)).map (·.1) := by rw [List.map_map]; rfl
  rw [this, corners_map_pair off p hn]
  exact List.map_fst_zip (by rw [rot1_length]; omega)

theorem corners_map_out (off : Nat) (p : Path) (hn : 2 ≤ p.length) : (corners off p).map (·.1.2) = (pathEdges off p).rotateLeft 1 := by
  have : (corners off p).map (·.1.2) = ((corners off p).map (·.1)).map (·.2) := by rw [List.map_map]; rfl
  rw [this, corners_map_pair off p hn]
  exact List.map_snd_zip (by rw [rot1_length]; omega)

theorem pathEdges_ids (off : Nat) (p : Path) : (pathEdges off p).map (·.id) = (List.range' 0 (edgesOf p).length).map (off + ·) := by
  have : List.range' 0 (edgesOf p).length = (edgesOf p).zipIdx.map Prod.snd := (List.zipIdx_map_snd 0 _).symm
  rw [this]
  simp only [pathEdges, List.map_map]
  apply List.map_congr_left
  intro a _
  simp [mkEdge_id]

theorem pathEdges_id_range (off : Nat) (p : Path) : ∀ e ∈ pathEdges off p, off ≤ e.id ∧ e.id < off + (edgesOf p).length := by
  intro e he
  have : e.id ∈ (pathEdges off p).map (·.id) := List.mem_map_of_mem (f := (·.id)) he
  rw [pathEdges_ids, List.mem_map] at this
  obtain ⟨k, hk, hke⟩ := this
  have := List.mem_range'_1.1 hk
  omega

theorem pathEdges_ids_nodup (off : Nat) (p : Path) : ((pathEdges off p).map (·.id)).Nodup := by
  rw [pathEdges_ids]
  unfold List.Nodup
  rw [List.pairwise_map]
  exact (List.nodup_range' (s := 0) (n := (edgesOf p).length)).imp (fun hne h => hne (by omega))

/-- the corners of all paths with at least 3 vertices (offsets as in `buildFrom`) -/
def allCorners : Nat → Paths → List Corner
  | _, [] => []
  | off, p :: ps => (if p.length < 3 then [] else corners off p) ++ allCorners (off + p.length) ps

theorem buildFrom_skip (off : Nat) (p : Path) (ps : Paths) (h : p.length < 3) :
    buildFrom off (p :: ps) = buildFrom (off + p.length) ps := by simp [buildFrom, h]

theorem buildFrom_edges_cons (off : Nat) (p : Path) (ps : Paths) (h : ¬ p.length < 3) :
    (buildFrom off (p :: ps)).edges = pathEdges off p ++ (buildFrom (off + p.length) ps).edges := by simp [buildFrom, h]

theorem buildFrom_fromCorners : ∀ (ps : Paths) (off : Nat),
    (buildFrom off ps).nextTbl = (allCorners off ps).filterMap cornerNext ∧
    (buildFrom off ps).allMins = (allCorners off ps).filterMap cornerMin := by
  intro ps
  induction ps with
  | nil => intro off; simp [buildFrom, allCorners]
  | cons p ps ih =>
    intro off
    by_cases h : p.length < 3
    · rw [buildFrom_skip off p ps h]
      simp only [allCorners, if_pos h, List.nil_append]
      exact ih _
    · simp only [buildFrom, allCorners, if_neg h, List.filterMap_append, (ih (off + p.length)).1, (ih (off + p.length)).2]
      constructor <;> first | rfl | trivial

theorem buildFrom_ids : ∀ (ps : Paths) (off : Nat),
    (∀ e ∈ (buildFrom off ps).edges, off ≤ e.id) ∧ ((buildFrom off ps).edges.map (·.id)).Nodup := by
  intro ps
  induction ps with
  | nil => intro off; simp [buildFrom]
  | cons p ps ih =>
    intro off
    obtain ⟨i1, i2⟩ := ih (off + p.length)
    by_cases h : p.length < 3
    · rw [buildFrom_skip off p ps h]
      exact ⟨fun e he => by have := i1 e he; omega, i2⟩
    · rw [buildFrom_edges_cons off p ps h]
      have hel := edgesOf_length p (by omega)
      constructor
      · intro e he
        rcases List.mem_append.1 he with he | he
        · exact (pathEdges_id_range off p e he).1
        · have := i1 e he; omega
      · rw [List.map_append, List.nodup_append]
        refine ⟨pathEdges_ids_nodup off p, i2, ?_⟩
        intro a ha b hb
        obtain ⟨e, he, rfl⟩ := List.mem_map.1 ha
        obtain ⟨e', he', rfl⟩ := List.mem_map.1 hb
        have := (pathEdges_id_range off p e he).2
        have := i1 e' he'
        omega

theorem allCorners_vs : ∀ (ps : Paths) (off : Nat), ps.flatten.Nodup →
    ((allCorners off ps).map (·.2)).Nodup ∧ ∀ c ∈ allCorners off ps, c.2 ∈ ps.flatten := by
  intro ps
  induction ps with
  | nil => intro off _; simp [allCorners]
  | cons p ps ih =>
    intro off hnd
    rw [List.flatten_cons, List.nodup_append] at hnd
    obtain ⟨n1, n2, n3⟩ := hnd
    obtain ⟨i1, i2⟩ := ih (off + p.length) n2
    by_cases h : p.length < 3
    · simp only [allCorners, if_pos h, List.nil_append, List.flatten_cons]
      exact ⟨i1, fun c hc => List.mem_append_right _ (i2 c hc)⟩
    · simp only [allCorners, if_neg h, List.flatten_cons]
      have hv := corners_map_v off p (by omega)
      constructor
      · rw [List.map_append, List.nodup_append, hv]
        refine ⟨(rot1_perm p).nodup_iff.2 n1, i1, ?_⟩
        intro a ha b hb
        obtain ⟨c, hc, rfl⟩ := List.mem_map.1 hb
        exact n3 a ((rot1_perm p).mem_iff.1 ha) _ (i2 c hc)
      · intro c hc
        rcases List.mem_append.1 hc with hc | hc
        · have : c.2 ∈ (corners off p).map (·.2) := List.mem_map_of_mem (f := (·.2)) hc
          rw [hv] at this
          exact List.mem_append_left _ ((rot1_perm p).mem_iff.1 this)
        · exact List.mem_append_right _ (i2 c hc)

theorem allCorners_spec (t : PathType) : ∀ (ps : Paths) (off : Nat), ∀ c ∈ allCorners off ps,
    ∃ p ∈ ps, 3 ≤ p.length ∧ CornerSpec p t (labelsFrom off t ps) c := by
  intro ps
  induction ps with
  | nil => intro off c hc; simp [allCorners] at hc
  | cons p ps ih =>
    intro off c hc
    by_cases h : p.length < 3
    · simp only [allCorners, if_pos h, List.nil_append] at hc
      obtain ⟨q, hq, h3, hs⟩ := ih _ c hc
      refine ⟨q, List.mem_cons_of_mem _ hq, h3, cornerSpec_mono ?_ hs⟩
      intro r hr
      simp only [labelsFrom, List.mem_append]
      exact Or.inr hr
    · simp only [allCorners, if_neg h, List.mem_append] at hc
      rcases hc with hc | hc
      · refine ⟨p, List.mem_cons_self .., by omega, cornerSpec_mono ?_ (corners_mem off t p (by omega) c hc)⟩
        intro r hr
        simp only [labelsFrom, if_neg h, List.mem_append]
        exact Or.inl hr
      · obtain ⟨q, hq, h3, hs⟩ := ih _ c hc
        refine ⟨q, List.mem_cons_of_mem _ hq, h3, cornerSpec_mono ?_ hs⟩
        intro r hr
        simp only [labelsFrom, List.mem_append]
        exact Or.inr hr

theorem allCorners_inout : ∀ (ps : Paths) (off : Nat), ∀ e ∈ (buildFrom off ps).edges,
    (∃ c ∈ allCorners off ps, c.1.1 = e) ∧ (∃ c ∈ allCorners off ps, c.1.2 = e) := by
  intro ps
  induction ps with
  | nil => intro off e he; simp [buildFrom] at he
  | cons p ps ih =>
    intro off e he
    by_cases h : p.length < 3
    · rw [buildFrom_skip off p ps h] at he
      simp only [allCorners, if_pos h, List.nil_append]
      exact ih _ e he
    · rw [buildFrom_edges_cons off p ps h] at he
      simp only [allCorners, if_neg h]
      rcases List.mem_append.1 he with he | he
      · have h1 : e ∈ (corners off p).map (·.1.1) := by rw [corners_map_in off p (by omega)]; exact he
        have h2 : e ∈ (corners off p).map (·.1.2) := by
          rw [corners_map_out off p (by omega)]; exact (rot1_perm _).mem_iff.2 he
        obtain ⟨c, hc, hce⟩ := List.mem_map.1 h1
        obtain ⟨c', hc', hce'⟩ := List.mem_map.1 h2
        exact ⟨⟨c, List.mem_append_left _ hc, hce⟩, ⟨c', List.mem_append_left _ hc', hce'⟩⟩
      · obtain ⟨⟨c, hc, hce⟩, ⟨c', hc', hce'⟩⟩ := ih _ e he
        exact ⟨⟨c, List.mem_append_right _ hc, hce⟩, ⟨c', List.mem_append_right _ hc', hce'⟩⟩

theorem allCorners_append : ∀ (a b : Paths) (off : Nat), allCorners off (a ++ b) = allCorners off a ++ allCorners (off + totalLen a) b := by
  intro a
  induction a with
  | nil => intro b off; simp [allCorners, totalLen]
  | cons p ps ih =>
    intro b off
    have e : off + totalLen (p :: ps) = off + p.length + totalLen ps := by simp [totalLen]; omega
    simp only [List.cons_append, allCorners, ih, e, List.append_assoc]

theorem in_fields (e : SEdge) (i : Nat) (u v : Pt) (he : e = mkEdge i u v) (h : u.y ≠ v.y) :
    e.Up ∧ (e.top = v ∨ e.bot = v) ∧ ((if u.y > v.y then (1 : Int) else -1) = if e.top = v then 1 else -1) ∧
    (e.bot = v → e.top = u ∧ u.y < v.y) := by
  subst he
  unfold mkEdge
  by_cases h' : u.y > v.y
  · rw [if_pos h']
    refine ⟨by unfold SEdge.Up; dsimp only; omega, Or.inl rfl, by simp [h'], ?_⟩
    intro hb
    dsimp only at hb
    rw [hb] at h'; omega
  · rw [if_neg h']
    have hne : u ≠ v := fun e => h (by rw [e])
    exact ⟨by unfold SEdge.Up; dsimp only; omega, Or.inr rfl, by simp [h', hne], fun _ => ⟨rfl, by omega⟩⟩

theorem out_fields (e : SEdge) (j : Nat) (v w : Pt) (he : e = mkEdge j v w) (h : v.y ≠ w.y) :
    e.Up ∧ (e.top = v ∨ e.bot = v) ∧ ((if v.y > w.y then (1 : Int) else -1) = if e.bot = v then 1 else -1) ∧
    (e.bot = v → e.top = w ∧ w.y < v.y) := by
  subst he
  unfold mkEdge
  by_cases h' : v.y > w.y
  · rw [if_pos h']
    exact ⟨by unfold SEdge.Up; dsimp only; omega, Or.inr rfl, by simp [h'], fun _ => ⟨rfl, by omega⟩⟩
  · rw [if_neg h']
    have hne : w ≠ v := fun e => h (by rw [e])
    refine ⟨by unfold SEdge.Up; dsimp only; omega, Or.inl rfl, by simp [h', hne], ?_⟩
    intro hb
    dsimp only at hb
    exact absurd hb hne

theorem cornerSpec_fields {p : Path} {t : PathType} {rows : List (SEdge × PathType × Int)} {c : Corner} {lab : Lab}
    (hp : PathGP p) (hs : CornerSpec p t rows c) (hlab : ∀ r ∈ rows, lab r.1 = r.2) :
    c.1.1 ≠ c.1.2 ∧ c.1.1.Up ∧ c.1.2.Up ∧ (c.1.1.top = c.2 ∨ c.1.1.bot = c.2) ∧ (c.1.2.top = c.2 ∨ c.1.2.bot = c.2) ∧
    (lab c.1.1).1 = (lab c.1.2).1 ∧ (lab c.1.1).2 = (if c.1.1.top = c.2 then 1 else -1) ∧
    (lab c.1.2).2 = (if c.1.2.bot = c.2 then 1 else -1) ∧
    (c.1.1.bot = c.2 → c.1.2.bot = c.2 → ¬ (SweepOrder.run c.1.1 * exD c.1.2 = SweepOrder.run c.1.2 * exD c.1.1)) := by
  obtain ⟨i, j, u, w, hij, e1, e2, hq, _, r1, r2⟩ := hs
  obtain ⟨hy1, hsp⟩ := hp.2 _ hq
  -- `ptCorners p` pairs consecutive edges, so `(c.2, w)` is an edge of `p`
  have hy2 : c.2.y ≠ w.y := pathGP_edges hp (c.2, w) ((rot1_perm _).mem_iff.1 (List.of_mem_zip hq).2)
  simp only at hy1 hy2 hsp
  have l1 := hlab _ r1
  have l2 := hlab _ r2
  simp only at l1 l2
  have hne : c.1.1 ≠ c.1.2 := by
    intro h
    have := congrArg SEdge.id h
    rw [e1, e2, mkEdge_id, mkEdge_id] at this
    exact hij this
  obtain ⟨a1, a2, a3, a4⟩ := in_fields c.1.1 i u c.2 e1 hy1
  obtain ⟨b1, b2, b3, b4⟩ := out_fields c.1.2 j c.2 w e2 hy2
  refine ⟨hne, a1, b1, a2, b2, by rw [l1, l2], by rw [l1]; exact a3, by rw [l2]; exact b3, ?_⟩
  intro hb1 hb2
  obtain ⟨t1, y1⟩ := a4 hb1
  obtain ⟨t2, y2⟩ := b4 hb2
  unfold SweepOrder.run exD
  rw [t1, t2, hb1, hb2]
  exact hsp y1 y2

theorem build_edges (ps : Paths) : (build ps).edges = (buildFrom 0 ps).edges := rfl

theorem build_fromCorners (ps : Paths) : FromCorners (build ps) (allCorners 0 ps) :=
  ⟨(buildFrom_fromCorners ps 0).1, (buildFrom_fromCorners ps 0).2⟩

/-- the vertex of every corner is a vertex of a path with at least 3 vertices: its height is a scanline -/
theorem allCorners_height (ps : Paths) : ∀ c ∈ allCorners 0 ps, c.2.y ∈ (build ps).ys := by
  intro c hc
  obtain ⟨p, hp, h3, hs⟩ := allCorners_spec .subject ps 0 c hc
  obtain ⟨_, _, _, _, _, _, _, _, hm, _⟩ := hs
  exact (scanlinesOf_mem ps c.2.y).2 ⟨p, hp, h3, c.2, hm, rfl⟩

/-- **`build` of an input in `InputGP` has the corner structure `Wf`** -/
theorem build_wf (subj clip : Paths) (h : InputGP subj clip) :
    Wf (build (subj ++ clip)).edges (allCorners 0 (subj ++ clip)) (labOf subj clip) := by
  obtain ⟨hgp, hnd⟩ := h
  have hids := (buildFrom_ids (subj ++ clip) 0).2
  have hnodup : (build (subj ++ clip)).edges.Nodup := nodup_of_nodup_map (·.id) _ hids
  have hrow := labOf_row subj clip hnodup
  -- every corner with its path, its type and its rows in the label table
  have hspec : ∀ c ∈ allCorners 0 (subj ++ clip), ∃ p ∈ subj ++ clip, ∃ t, CornerSpec p t (labelTbl subj clip) c := by
    intro c hc
    rw [allCorners_append, Nat.zero_add, List.mem_append] at hc
    rcases hc with hc | hc
    · obtain ⟨p, hp, _, hs⟩ := allCorners_spec .subject subj 0 c hc
      exact ⟨p, List.mem_append_left _ hp, .subject, cornerSpec_mono (fun r hr => by
        simp only [labelTbl, List.mem_append]; exact Or.inl hr) hs⟩
    · obtain ⟨p, hp, _, hs⟩ := allCorners_spec .clip clip _ c hc
      exact ⟨p, List.mem_append_right _ hp, .clip, cornerSpec_mono (fun r hr => by
        simp only [labelTbl, List.mem_append]; exact Or.inr hr) hs⟩
  refine ⟨hids, (allCorners_vs (subj ++ clip) 0 hnd).1, ?_, ?_, ?_, ?_⟩
  · intro c hc
    obtain ⟨p, hp, t, hs⟩ := hspec c hc
    obtain ⟨f1, f2, f3, f4, f5, f6, f7, f8, _⟩ := cornerSpec_fields (hgp p hp) hs hrow
    obtain ⟨_, _, _, _, _, _, _, _, _, r1, r2⟩ := hs
    have m1 : c.1.1 ∈ (build (subj ++ clip)).edges := by
      rw [← labelTbl_fst]; exact List.mem_map_of_mem (f := fun q : SEdge × PathType × Int => q.1) r1
    have m2 : c.1.2 ∈ (build (subj ++ clip)).edges := by
      rw [← labelTbl_fst]; exact List.mem_map_of_mem (f := fun q : SEdge × PathType × Int => q.1) r2
    exact ⟨m1, m2, f1, f2, f3, f4, f5, f6, f7, f8⟩
  · intro c hc
    obtain ⟨p, hp, t, hs⟩ := hspec c hc
    exact (cornerSpec_fields (hgp p hp) hs hrow).2.2.2.2.2.2.2.2
  · intro e he
    exact (allCorners_inout (subj ++ clip) 0 e he).1
  · intro e he
    exact (allCorners_inout (subj ++ clip) 0 e he).2

end Clipper.Lemmas.C01Build

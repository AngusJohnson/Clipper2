/-
Lemmas about the ring assembly model `Model/AelRings.lean` (theorems: `Props/C01Rings.lean`).  In order:
* what each primitive does to the output, as a case list (`addPt_cases`, `addOutPt_cases`, `handOver_cases`, `finish_cases`,
  `joinPaths_cases`, `logSeg_cases`) with its readings on the length, the log and the segments;
* `PrimPres`: a property kept by every primitive; it is kept by every event (`pres_outStep`, at the end of the file);
* the properties one by one: `PermOK` (no point created or lost), `LiveAt`, `NoLost`, `EndsOK` (the ghost end points), `SegsOK` (ring
  neighbours are logged segments; closing and joining need the closing pair logged: `MaxPost`, `closeOrJoin_spec`);
* `OInv`, the invariant of the run of events, and which record ids stay in use (`KeysFrom`, `localMax_keys`);
* `LogFrom`: where the log entries of an event come from.
-/
import ClipperVerif.Model.AelRings
import ClipperVerif.Lemmas.AelSides
import ClipperVerif.Lemmas.Neighbours
namespace Clipper.Model

theorem mem_of_get {α} (l : List α) (i : Nat) (x : α) (h : l[i]? = some x) : x ∈ l := List.mem_of_getElem? h

theorem lt_of_get {α} {l : List α} {i : Nat} {x : α} (h : l[i]? = some x) : i < l.length := by
  rcases Nat.lt_or_ge i l.length with h' | h'
  · exact h'
  · rw [List.getElem?_eq_none h'] at h; cases h

theorem get_set {α} {l : List α} {id : Nat} {g : α} (hg : l[id]? = some g) (g' : α) (k : Nat) :
    (l.set id g')[k]? = if k = id then some g' else l[k]? := by
  rw [List.getElem?_set, if_pos (lt_of_get hg)]
  by_cases e : k = id
  · rw [if_pos e, if_pos e.symm]
  · rw [if_neg e, if_neg (Ne.symm e)]

theorem of_ite {α} {P : α → Prop} {c : Prop} [Decidable c] {a b : α} (ha : c → P a) (hb : ¬c → P b) : P (if c then a else b) := by
  by_cases h : c
  · rw [if_pos h]; exact ha h
  · rw [if_neg h]; exact hb h

theorem perm_swap3 {α} (a b c : List α) : (a ++ (b ++ c)).Perm (b ++ (a ++ c)) := by
  rw [← List.append_assoc, ← List.append_assoc]
  exact List.Perm.append_right c List.perm_append_comm

/-- replacing element `id` of a list of lists: the old element on the left balances the new one on the right -/
theorem flatMap_set {α β} (f : α → List β) (l : List α) : ∀ (id : Nat) (r r' : α), l[id]? = some r →
    (f r ++ (l.set id r').flatMap f).Perm (f r' ++ l.flatMap f) := by
  induction l with
  | nil => intro id r r' h; cases h
  | cons x xs ih =>
    intro id r r' h
    cases id with
    | zero =>
      cases h
      simp only [List.set_cons_zero, List.flatMap_cons]
      exact perm_swap3 _ _ _
    | succ k =>
      simp only [List.set_cons_succ, List.flatMap_cons]
      exact (perm_swap3 _ _ _).trans (((ih k r r' h).append_left (f x)).trans (perm_swap3 _ _ _))

theorem rotate_perm {α} (pts : List α) (b : α) (h : pts.getLast? = some b) : (b :: pts.dropLast).Perm pts := by
  obtain ⟨d, rfl⟩ := List.getLast?_eq_some_iff.mp h
  rw [List.dropLast_concat]
  exact (List.perm_append_singleton b d).symm

theorem getLast?_cons_ne (a : Pt) (l : List Pt) (h : l ≠ []) : (a :: l).getLast? = l.getLast? := by
  cases l with
  | nil => exact absurd rfl h
  | cons b t => exact List.getLast?_cons_cons

theorem head?_append_ne (l m : List Pt) (h : l ≠ []) : (l ++ m).head? = l.head? := by
  cases l with
  | nil => exact absurd rfl h
  | cons b t => rfl

theorem getLast?_append_ne (l m : List Pt) (h : m ≠ []) : (l ++ m).getLast? = m.getLast? := by
  rw [List.getLast?_append, List.getLast?_eq_some_getLast h]; rfl

theorem endPt_none (f : Bool) (pts : List Pt) (h : endPt f pts = none) : pts = [] := by
  cases f <;> simp [endPt] at h <;> exact h

theorem endPt_some_ne (f : Bool) (pts : List Pt) (p : Pt) (h : endPt f pts = some p) : pts ≠ [] := by
  intro hn; subst hn; cases f <;> cases h

theorem endPt_of_ne (f : Bool) (pts : List Pt) (h : pts ≠ []) : ∃ p, endPt f pts = some p := by
  cases hp : endPt f pts with
  | none => exact absurd (endPt_none f pts hp) h
  | some p => exact ⟨p, rfl⟩

theorem setLast_pts (r : Ring) (f : Bool) (pt : Pt) : (r.setLast f pt).pts = r.pts := by
  cases f <;> rfl
theorem setLast_stat (r : Ring) (f : Bool) (pt : Pt) : (r.setLast f pt).stat = r.stat := by
  cases f <;> rfl

/-- the three outcomes of `AddOutPt` on one ring: the end point is `pt` already and only the ghost `last` changes; the point is put next to
the end point `p ≠ pt` and the segment logged; the ring was empty -/
theorem addPt_cases (f : Bool) (pt : Pt) (r : Ring) :
    (endPt f r.pts = some pt ∧ addPt f pt r = (r.setLast f pt, .dup, [])) ∨
    (∃ p, endPt f r.pts = some p ∧ pt ≠ p ∧
      addPt f pt r = ({ r.setLast f pt with pts := if f then pt :: r.pts else r.pts ++ [pt] }, .added, [⟨r.run f, p, pt, .extend⟩])) ∨
    (r.pts = [] ∧ addPt f pt r = ({ r.setLast f pt with pts := [pt] }, .added, [])) := by
  unfold addPt
  cases hp : endPt f r.pts with
  | none => exact Or.inr (Or.inr ⟨endPt_none f r.pts hp, rfl⟩)
  | some p =>
    by_cases e : pt = p
    · subst e; exact Or.inl ⟨rfl, if_pos rfl⟩
    · exact Or.inr (Or.inl ⟨p, rfl, e, if_neg e⟩)

theorem addPt_spec (f : Bool) (pt : Pt) (r : Ring) :
    ((addPt f pt r).2.1 = .dup ∧ (addPt f pt r).1.pts = r.pts ∧ endPt f r.pts = some pt) ∨
    ((addPt f pt r).2.1 = .added ∧ (addPt f pt r).1.pts = (if f then pt :: r.pts else r.pts ++ [pt]) ∧ endPt f r.pts ≠ some pt) := by
  rcases addPt_cases f pt r with ⟨h, e⟩ | ⟨p, h, hne, e⟩ | ⟨h, e⟩ <;> rw [e]
  · exact Or.inl ⟨rfl, setLast_pts _ _ _, h⟩
  · exact Or.inr ⟨rfl, rfl, by rw [h]; intro hh; cases hh; exact hne rfl⟩
  · exact Or.inr ⟨rfl, by rw [h]; cases f <;> rfl, by rw [h]; cases f <;> intro hh <;> cases hh⟩

/-- afterwards the end `f` is `pt`; the other end is as before, unless the ring was empty -/
theorem addPt_end (f f' : Bool) (pt : Pt) (r : Ring) (hne : f' ≠ f → r.pts ≠ []) :
    endPt f' (addPt f pt r).1.pts = if f' = f then some pt else endPt f' r.pts := by
  rcases addPt_spec f pt r with ⟨_, h2, h3⟩ | ⟨_, h2, _⟩ <;> rw [h2]
  · split
    · next e => rw [e]; exact h3
    · rfl
  · cases f <;> cases f'
    · exact List.getLast?_concat
    · exact head?_append_ne _ _ (hne Bool.noConfusion)
    · exact getLast?_cons_ne _ _ (hne Bool.noConfusion)
    · rfl

theorem addPt_stat (f : Bool) (pt : Pt) (r : Ring) : (addPt f pt r).1.stat = r.stat := by
  rcases addPt_cases f pt r with ⟨_, e⟩ | ⟨_, _, _, e⟩ | ⟨_, e⟩ <;> rw [e] <;> exact setLast_stat _ _ _

theorem addPt_pts_ne (f : Bool) (pt : Pt) (r : Ring) : (addPt f pt r).1.pts ≠ [] := by
  rcases addPt_spec f pt r with ⟨_, h2, h3⟩ | ⟨_, h2, _⟩
  · rw [h2]; exact endPt_some_ne _ _ _ h3
  · rw [h2]; cases f
    · exact List.append_ne_nil_of_right_ne_nil _ (List.cons_ne_nil _ _)
    · exact List.cons_ne_nil _ _

theorem addPt_kind_ne (f : Bool) (pt : Pt) (r : Ring) : (addPt f pt r).2.1 ≠ .lost := by
  rcases addPt_spec f pt r with ⟨h1, _⟩ | ⟨h1, _⟩ <;> rw [h1] <;> exact EmitKind.noConfusion

/- Each primitive either leaves the output alone or does what its name says to one or two rings it finds.  The invariants below are proved
from these descriptions, not from the definitions. -/

/-- what `JoinOutrecPaths(e1, e2)` makes of the surviving ring `ra`: the points of `rb` in front (`IsFront(e1)`) or behind, with that end's ghosts -/
def Ring.joined (ra : Ring) (f : Bool) (rb : Ring) : Ring :=
  if f then { ra with pts := rb.pts ++ ra.pts, frun := rb.frun, flast := rb.flast }
  else { ra with pts := ra.pts ++ rb.pts, brun := rb.brun, blast := rb.blast }

theorem addOutPt_live (id : Nat) (f : Bool) (pt : Pt) (o : Out) (r : Ring) (hr : o.rings[id]? = some r) (hl : r.stat = .live) :
    addOutPt id f pt o =
      { o with rings := o.rings.set id (addPt f pt r).1, log := ⟨pt, (addPt f pt r).2.1⟩ :: o.log, segs := (addPt f pt r).2.2 ++ o.segs } := by
  unfold addOutPt
  rw [hr]
  exact if_pos hl

theorem addOutPt_dead (id : Nat) (f : Bool) (pt : Pt) (o : Out) (h : ∀ r, o.rings[id]? = some r → r.stat ≠ .live) :
    addOutPt id f pt o = { o with log := ⟨pt, .lost⟩ :: o.log } := by
  unfold addOutPt
  cases hr : o.rings[id]? with
  | none => rfl
  | some r => exact if_neg (h r hr)

theorem addOutPt_cases (id : Nat) (f : Bool) (pt : Pt) (o : Out) :
    (∃ r, o.rings[id]? = some r ∧ r.stat = .live ∧ addOutPt id f pt o =
      { o with rings := o.rings.set id (addPt f pt r).1, log := ⟨pt, (addPt f pt r).2.1⟩ :: o.log, segs := (addPt f pt r).2.2 ++ o.segs }) ∨
    ((∀ r, o.rings[id]? = some r → r.stat ≠ .live) ∧ addOutPt id f pt o = { o with log := ⟨pt, .lost⟩ :: o.log }) := by
  by_cases h : ∃ r, o.rings[id]? = some r ∧ r.stat = .live
  · obtain ⟨r, hr, hl⟩ := h
    exact Or.inl ⟨r, hr, hl, addOutPt_live id f pt o r hr hl⟩
  · have h' : ∀ r, o.rings[id]? = some r → r.stat ≠ .live := fun r hr hl => h ⟨r, hr, hl⟩
    exact Or.inr ⟨h', addOutPt_dead id f pt o h'⟩

theorem handOver_cases (id : Nat) (f : Bool) (o : Out) :
    (∃ r, o.rings[id]? = some r ∧ handOver id f o =
      { o with rings := o.rings.set id (if f then { r with frun := o.nrun } else { r with brun := o.nrun }), nrun := o.nrun + 1 }) ∨
    (o.rings[id]? = none ∧ handOver id f o = o) := by
  unfold handOver
  cases hr : o.rings[id]? with
  | none => exact Or.inr ⟨rfl, rfl⟩
  | some r => exact Or.inl ⟨r, rfl, rfl⟩

theorem finish_cases (id : Nat) (f : Bool) (o : Out) :
    (∃ r pts', o.rings[id]? = some r ∧ pts'.Perm r.pts ∧ (f = true → pts' = r.pts) ∧
      (∀ b, r.pts.getLast? = some b → f = false → pts' = b :: r.pts.dropLast) ∧
      finish id f o = { o with rings := o.rings.set id { r with stat := .done, pts := pts' } }) ∨
    finish id f o = o := by
  unfold finish
  cases hr : o.rings[id]? with
  | none => exact Or.inr rfl
  | some r =>
    refine Or.inl ⟨r, _, rfl, ?_, fun hf => if_pos hf, fun b hb hf => ?_, rfl⟩
    · split
      · exact List.Perm.refl _
      · split
        · next b hb => exact rotate_perm _ _ hb
        · exact List.Perm.refl _
    · rw [if_neg (by rw [hf]; exact Bool.false_ne_true), hb]

theorem joinPaths_of_live (A B : Nat) (f : Bool) (o : Out) (ra rb : Ring) (hA : o.rings[A]? = some ra) (hB : o.rings[B]? = some rb)
    (hne : A ≠ B) (hla : ra.stat = .live) (hlb : rb.stat = .live) :
    joinPaths A B f o = { o with rings := (o.rings.set A (ra.joined f rb)).set B { rb with pts := [], stat := .gone } } := by
  unfold joinPaths
  rw [hA, hB]
  exact if_pos ⟨hne, hla, hlb⟩

theorem joinPaths_cases (A B : Nat) (f : Bool) (o : Out) :
    (∃ ra rb, o.rings[A]? = some ra ∧ o.rings[B]? = some rb ∧ A ≠ B ∧ ra.stat = .live ∧ rb.stat = .live ∧
      joinPaths A B f o = { o with rings := (o.rings.set A (ra.joined f rb)).set B { rb with pts := [], stat := .gone } }) ∨
    joinPaths A B f o = o := by
  by_cases h : ∃ ra rb, o.rings[A]? = some ra ∧ o.rings[B]? = some rb ∧ A ≠ B ∧ ra.stat = .live ∧ rb.stat = .live
  · obtain ⟨ra, rb, hA, hB, hne, hla, hlb⟩ := h
    exact Or.inl ⟨ra, rb, hA, hB, hne, hla, hlb, joinPaths_of_live A B f o ra rb hA hB hne hla hlb⟩
  · refine Or.inr ?_
    unfold joinPaths
    split
    · next ra rb hA hB => exact if_neg (fun hc => h ⟨ra, rb, hA, hB, hc⟩)
    · rfl

theorem logSeg_cases (k : SegKind) (i1 : Nat) (f1 : Bool) (i2 : Nat) (f2 : Bool) (o : Out) :
    (∃ r1 r2 p q, o.rings[i1]? = some r1 ∧ o.rings[i2]? = some r2 ∧ endPt f1 r1.pts = some p ∧ endPt f2 r2.pts = some q ∧
      logSeg k i1 f1 i2 f2 o = { o with segs := ⟨r1.run f1, p, q, k⟩ :: o.segs }) ∨
    logSeg k i1 f1 i2 f2 o = o := by
  unfold logSeg
  split
  · next r1 r2 h1 h2 =>
    split
    · next p q hp hq => exact Or.inl ⟨r1, r2, p, q, h1, h2, hp, hq, rfl⟩
    · exact Or.inr rfl
  · exact Or.inr rfl

theorem addOutPt_rings (id : Nat) (f : Bool) (pt : Pt) (o : Out) :
    (addOutPt id f pt o).rings = match o.rings[id]? with
      | some r => if r.stat = .live then o.rings.set id (addPt f pt r).1 else o.rings
      | none => o.rings := by
  unfold addOutPt
  cases h : o.rings[id]? with
  | none => rfl
  | some r => by_cases hl : r.stat = .live <;> simp [hl]

theorem addOutPt_segs_sub (id : Nat) (f : Bool) (pt : Pt) (o : Out) : ∀ sg ∈ o.segs, sg ∈ (addOutPt id f pt o).segs := by
  intro sg h
  rcases addOutPt_cases id f pt o with ⟨r, _, _, e⟩ | ⟨_, e⟩ <;> rw [e]
  · exact List.mem_append_right _ h
  · exact h

theorem logSeg_rings (k : SegKind) (i1 : Nat) (f1 : Bool) (i2 : Nat) (f2 : Bool) (o : Out) : (logSeg k i1 f1 i2 f2 o).rings = o.rings := by
  rcases logSeg_cases k i1 f1 i2 f2 o with ⟨_, _, _, _, _, _, _, _, e⟩ | e <;> rw [e]

theorem logSeg_log (k : SegKind) (i1 : Nat) (f1 : Bool) (i2 : Nat) (f2 : Bool) (o : Out) : (logSeg k i1 f1 i2 f2 o).log = o.log := by
  rcases logSeg_cases k i1 f1 i2 f2 o with ⟨_, _, _, _, _, _, _, _, e⟩ | e <;> rw [e]

theorem logSeg_segs_sub (k : SegKind) (i1 : Nat) (f1 : Bool) (i2 : Nat) (f2 : Bool) (o : Out) : ∀ sg ∈ o.segs, sg ∈ (logSeg k i1 f1 i2 f2 o).segs := by
  intro sg h
  rcases logSeg_cases k i1 f1 i2 f2 o with ⟨_, _, _, _, _, _, _, _, e⟩ | e <;> rw [e]
  · exact List.mem_cons_of_mem _ h
  · exact h

theorem addOutPt_segs (id : Nat) (f : Bool) (pt : Pt) (o : Out) (sg : Seg) (h : sg ∈ (addOutPt id f pt o).segs) :
    sg ∈ o.segs ∨ ∃ g, o.rings[id]? = some g ∧ g.stat = .live ∧ sg.run = g.run f ∧ some sg.p = endPt f g.pts ∧ sg.q = pt ∧ sg.kind = .extend := by
  rcases addOutPt_cases id f pt o with ⟨g, hg, hl, e⟩ | ⟨_, e⟩ <;> rw [e] at h
  · rcases List.mem_append.mp h with h | h
    · rcases addPt_cases f pt g with ⟨_, e'⟩ | ⟨p, hp, _, e'⟩ | ⟨_, e'⟩ <;> rw [e'] at h
      · cases h
      · cases List.mem_singleton.mp h; exact Or.inr ⟨g, hg, hl, rfl, hp.symm, rfl, rfl⟩
      · cases h
    · exact Or.inl h
  · exact Or.inl h

theorem logSeg_segs (kd : SegKind) (i1 : Nat) (f1 : Bool) (i2 : Nat) (f2 : Bool) (o : Out) (sg : Seg) (h : sg ∈ (logSeg kd i1 f1 i2 f2 o).segs) :
    sg ∈ o.segs ∨ ∃ r1 r2, o.rings[i1]? = some r1 ∧ o.rings[i2]? = some r2 ∧ some sg.p = endPt f1 r1.pts ∧ some sg.q = endPt f2 r2.pts ∧ sg.kind = kd := by
  rcases logSeg_cases kd i1 f1 i2 f2 o with ⟨r1, r2, _, _, h1, h2, hp, hq, e⟩ | e <;> rw [e] at h
  · rcases List.mem_cons.mp h with rfl | h
    · exact Or.inr ⟨r1, r2, h1, h2, hp.symm, hq.symm, rfl⟩
    · exact Or.inl h
  · exact Or.inl h

theorem logSeg_has (k : SegKind) (i1 : Nat) (f1 : Bool) (i2 : Nat) (f2 : Bool) (o : Out) (r1 r2 : Ring) (p q : Pt)
    (h1 : o.rings[i1]? = some r1) (h2 : o.rings[i2]? = some r2) (hp : endPt f1 r1.pts = some p) (hq : endPt f2 r2.pts = some q) :
    ∃ sg ∈ (logSeg k i1 f1 i2 f2 o).segs, sg.p = p ∧ sg.q = q := by
  unfold logSeg
  simp only [h1, h2, hp, hq]
  exact ⟨_, List.mem_cons_self, rfl, rfl⟩

theorem length_newRec (pt : Pt) (o : Out) : (newRec pt o).rings.length = o.rings.length + 1 := List.length_append
theorem length_addOutPt (id : Nat) (f : Bool) (pt : Pt) (o : Out) : (addOutPt id f pt o).rings.length = o.rings.length := by
  rcases addOutPt_cases id f pt o with ⟨r, _, _, e⟩ | ⟨_, e⟩ <;> rw [e]
  exact List.length_set
theorem length_handOver (id : Nat) (f : Bool) (o : Out) : (handOver id f o).rings.length = o.rings.length := by
  rcases handOver_cases id f o with ⟨r, _, e⟩ | ⟨_, e⟩ <;> rw [e]
  exact List.length_set
theorem length_finish (id : Nat) (f : Bool) (o : Out) : (finish id f o).rings.length = o.rings.length := by
  rcases finish_cases id f o with ⟨r, _, _, _, _, _, e⟩ | e <;> rw [e]
  exact List.length_set
theorem length_joinPaths (A B : Nat) (f : Bool) (o : Out) : (joinPaths A B f o).rings.length = o.rings.length := by
  rcases joinPaths_cases A B f o with ⟨ra, rb, _, _, _, _, _, e⟩ | e <;> rw [e]
  exact List.length_set.trans List.length_set

theorem log_handOver (id : Nat) (f : Bool) (o : Out) : (handOver id f o).log = o.log := by
  rcases handOver_cases id f o with ⟨r, _, e⟩ | ⟨_, e⟩ <;> rw [e]
theorem log_finish (id : Nat) (f : Bool) (o : Out) : (finish id f o).log = o.log := by
  rcases finish_cases id f o with ⟨r, _, _, _, _, _, e⟩ | e <;> rw [e]
theorem log_joinPaths (A B : Nat) (f : Bool) (o : Out) : (joinPaths A B f o).log = o.log := by
  rcases joinPaths_cases A B f o with ⟨ra, rb, _, _, _, _, _, e⟩ | e <;> rw [e]
theorem segs_handOver (id : Nat) (f : Bool) (o : Out) : (handOver id f o).segs = o.segs := by
  rcases handOver_cases id f o with ⟨r, _, e⟩ | ⟨_, e⟩ <;> rw [e]
theorem segs_finish (id : Nat) (f : Bool) (o : Out) : (finish id f o).segs = o.segs := by
  rcases finish_cases id f o with ⟨r, _, _, _, _, _, e⟩ | e <;> rw [e]
theorem segs_joinPaths (A B : Nat) (f : Bool) (o : Out) : (joinPaths A B f o).segs = o.segs := by
  rcases joinPaths_cases A B f o with ⟨ra, rb, _, _, _, _, _, e⟩ | e <;> rw [e]

/-- a property of the output that every primitive preserves, for the point `pt` of the event; every event then preserves it (`pres_outStep`) -/
structure PrimPres (pt : Pt) (P : Out → Prop) : Prop where
  newRec : ∀ o, P o → P (newRec pt o)
  addOutPt : ∀ id f o, P o → P (addOutPt id f pt o)
  handOver : ∀ id f o, P o → P (handOver id f o)
  finish : ∀ id f o, P o → P (finish id f o)
  joinPaths : ∀ A B f o, P o → P (joinPaths A B f o)
  logSeg : ∀ k i1 f1 i2 f2 o, P o → P (logSeg k i1 f1 i2 f2 o)

theorem allPts_cons (r : Ring) (rs : List Ring) : allPts (r :: rs) = r.pts ++ allPts rs := List.flatMap_cons
theorem allPts_append (a b : List Ring) : allPts (a ++ b) = allPts a ++ allPts b := List.flatMap_append

theorem allPts_set (l : List Ring) (id : Nat) (r r' : Ring) (h : l[id]? = some r) :
    (r.pts ++ allPts (l.set id r')).Perm (r'.pts ++ allPts l) := flatMap_set (·.pts) l id r r' h

theorem allPts_set_add (l : List Ring) (id : Nat) (r r' : Ring) (X : List Pt) (h : l[id]? = some r) (hp : r'.pts.Perm (X ++ r.pts)) :
    (allPts (l.set id r')).Perm (X ++ allPts l) := by
  have h2 : (r'.pts ++ allPts l).Perm (r.pts ++ (X ++ allPts l)) :=
    ((hp.append_right (allPts l)).trans (by rw [List.append_assoc]; exact perm_swap3 _ _ _))
  exact (List.perm_append_left_iff r.pts).mp ((allPts_set l id r r' h).trans h2)

/-- the points for which an `OutPt` was created -/
def keptPts (log : List Emit) : List Pt := (log.filter Emit.kept).map (·.pt)

/-- conservation: the points in the rings are the points for which an `OutPt` was created -/
def PermOK (o : Out) : Prop := (allPts o.rings).Perm (keptPts o.log)

theorem joined_pts_perm (ra rb : Ring) (f : Bool) : (ra.joined f rb).pts.Perm (rb.pts ++ ra.pts) := by
  cases f
  · exact List.perm_append_comm
  · exact List.Perm.refl _

/-- no primitive creates or loses a point: what `AddOutPt` puts into a ring it also logs as kept, everything else rearranges -/
theorem permOK_prim (pt : Pt) : PrimPres pt PermOK := by
  unfold PermOK
  refine ⟨fun o h => ?_, fun id f o h => ?_, fun id f o h => ?_, fun id f o h => ?_, fun A B f o h => ?_, fun k i1 f1 i2 f2 o h => ?_⟩
  · show (allPts (o.rings ++ [_])).Perm (pt :: keptPts o.log)
    rw [allPts_append]
    exact (List.perm_append_singleton pt _).trans (h.cons pt)
  · rcases addOutPt_cases id f pt o with ⟨r, hr, _, e⟩ | ⟨_, e⟩ <;> rw [e]
    · -- a suppressed point changes neither side, an added one both
      rcases addPt_cases f pt r with ⟨_, e⟩ | ⟨_, _, _, e⟩ | ⟨hnil, e⟩ <;> rw [e]
      · exact (allPts_set_add _ _ r _ [] hr (by rw [setLast_pts]; exact List.Perm.refl _)).trans h
      · refine (allPts_set_add _ _ r _ [pt] hr ?_).trans (h.cons pt)
        cases f
        · exact List.perm_append_singleton pt _
        · exact List.Perm.refl _
      · exact (allPts_set_add _ _ r _ [pt] hr (by rw [hnil]; exact List.Perm.refl _)).trans (h.cons pt)
    · exact h
  · rcases handOver_cases id f o with ⟨r, hr, e⟩ | ⟨_, e⟩ <;> rw [e]
    · exact (allPts_set_add _ _ r _ [] hr (by cases f <;> exact List.Perm.refl _)).trans h
    · exact h
  · rcases finish_cases id f o with ⟨r, pts', hr, hp, _, _, e⟩ | e <;> rw [e]
    · exact (allPts_set_add _ _ r _ [] hr hp).trans h
    · exact h
  · rcases joinPaths_cases A B f o with ⟨ra, rb, hA, hB, hAB, _, _, e⟩ | e <;> rw [e]
    · have hB' : (o.rings.set A (ra.joined f rb))[B]? = some rb := by rw [List.getElem?_set_ne hAB]; exact hB
      have h1 := allPts_set_add o.rings A ra (ra.joined f rb) rb.pts hA (joined_pts_perm ra rb f)
      have h2 := allPts_set _ B rb { rb with pts := [], stat := .gone } hB'
      exact ((List.perm_append_left_iff rb.pts).mp (h2.trans h1)).trans h
    · exact h
  · rw [logSeg_rings, logSeg_log]; exact h

/-- record `id` is a ring under construction with at least one point -/
def LiveAt (rings : List Ring) (id : Nat) : Prop := ∃ g, rings[id]? = some g ∧ g.stat = .live ∧ g.pts ≠ []

theorem liveAt_set (l : List Ring) (id id' : Nat) (r' : Ring) (h : LiveAt l id')
    (hr : id' = id → r'.stat = .live ∧ r'.pts ≠ []) : LiveAt (l.set id r') id' := by
  obtain ⟨g, hg, h1, h2⟩ := h
  by_cases e : id' = id
  · subst e
    exact ⟨r', by rw [List.getElem?_set_self (lt_of_get hg)], (hr rfl).1, (hr rfl).2⟩
  · exact ⟨g, by rw [List.getElem?_set_ne (fun h => e h.symm)]; exact hg, h1, h2⟩

theorem liveAt_newRec_old (pt : Pt) (o : Out) (id : Nat) (h : LiveAt o.rings id) : LiveAt (newRec pt o).rings id := by
  obtain ⟨g, hg, h1, h2⟩ := h
  exact ⟨g, (List.getElem?_append_left (lt_of_get hg)).trans hg, h1, h2⟩

theorem liveAt_newRec_new (pt : Pt) (o : Out) : LiveAt (newRec pt o).rings o.rings.length :=
  ⟨_, (List.getElem?_append_right (Nat.le_refl _)).trans (by rw [Nat.sub_self]; rfl), rfl, List.cons_ne_nil _ _⟩

theorem liveAt_addOutPt (id : Nat) (f : Bool) (pt : Pt) (o : Out) (id' : Nat) (h : LiveAt o.rings id') :
    LiveAt (addOutPt id f pt o).rings id' := by
  rcases addOutPt_cases id f pt o with ⟨r, _, hl, e⟩ | ⟨_, e⟩ <;> rw [e]
  · exact liveAt_set _ _ _ _ h (fun _ => ⟨(addPt_stat _ _ _).trans hl, addPt_pts_ne _ _ _⟩)
  · exact h

theorem liveAt_handOver (id : Nat) (f : Bool) (o : Out) (id' : Nat) (h : LiveAt o.rings id') : LiveAt (handOver id f o).rings id' := by
  rcases handOver_cases id f o with ⟨r, hr, e⟩ | ⟨_, e⟩ <;> rw [e]
  · refine liveAt_set _ _ _ _ h (fun e => ?_)
    subst e
    obtain ⟨g, hg, h1, h2⟩ := h
    rw [hr] at hg; cases hg
    cases f <;> exact ⟨h1, h2⟩
  · exact h

theorem liveAt_finish (id : Nat) (f : Bool) (o : Out) (id' : Nat) (h : LiveAt o.rings id') (hne : id' ≠ id) : LiveAt (finish id f o).rings id' := by
  rcases finish_cases id f o with ⟨r, _, _, _, _, _, e⟩ | e <;> rw [e]
  · exact liveAt_set _ _ _ _ h (fun e => absurd e hne)
  · exact h

theorem joined_stat (ra rb : Ring) (f : Bool) : (ra.joined f rb).stat = ra.stat := by cases f <;> rfl

theorem joined_pts_ne (ra rb : Ring) (f : Bool) (h : ra.pts ≠ []) : (ra.joined f rb).pts ≠ [] := by
  cases f
  · exact List.append_ne_nil_of_left_ne_nil h _
  · exact List.append_ne_nil_of_right_ne_nil _ h

theorem liveAt_joinPaths (A B : Nat) (f : Bool) (o : Out) (id' : Nat) (h : LiveAt o.rings id') (hne : id' ≠ B) : LiveAt (joinPaths A B f o).rings id' := by
  rcases joinPaths_cases A B f o with ⟨ra, rb, hA, _, _, _, _, e⟩ | e <;> rw [e]
  · refine liveAt_set _ _ _ _ (liveAt_set _ _ _ _ h (fun e => ?_)) (fun e => absurd e hne)
    subst e
    obtain ⟨g, hg, h1, h2⟩ := h
    rw [hA] at hg; cases hg
    exact ⟨(joined_stat _ _ _).trans h1, joined_pts_ne _ _ _ h2⟩
  · exact h

def NoLost (o : Out) : Prop := ∀ e ∈ o.log, e.kind ≠ .lost

theorem noLost_newRec (pt : Pt) (o : Out) (h : NoLost o) : NoLost (newRec pt o) := by
  intro e he
  rcases List.mem_cons.mp he with rfl | he
  · exact EmitKind.noConfusion
  · exact h e he

theorem noLost_addOutPt (id : Nat) (f : Bool) (pt : Pt) (o : Out) (h : NoLost o) (hl : LiveAt o.rings id) : NoLost (addOutPt id f pt o) := by
  obtain ⟨g, hg, h1, _⟩ := hl
  rcases addOutPt_cases id f pt o with ⟨r, _, _, e⟩ | ⟨hn, _⟩
  · rw [e]
    intro x hx
    rcases List.mem_cons.mp hx with rfl | hx
    · exact addPt_kind_ne _ _ _
    · exact h x hx
  · exact absurd h1 (hn g hg)

/-- when no point was lost, the kept log entries are those that are not suppressed duplicates -/
theorem PermOK.not_dup {o : Out} (hp : PermOK o) (hn : NoLost o) :
    (allPts o.rings).Perm ((o.log.filter (fun e => e.kind != .dup)).map (·.pt)) := by
  have : o.log.filter Emit.kept = o.log.filter (fun e => e.kind != .dup) := by
    apply List.filter_congr
    intro e he
    have := hn e he
    cases hk : e.kind <;> simp [Emit.kept, hk] at this ⊢
  rw [← this]; exact hp

theorem PermOK.mem_log {o : Out} (h : PermOK o) {g : Ring} (hg : g ∈ o.rings) {p : Pt} (hp : p ∈ g.pts) : ∃ e ∈ o.log, e.pt = p := by
  obtain ⟨e, he, rfl⟩ := List.mem_map.mp (h.subset (List.mem_flatMap.mpr ⟨g, hg, hp⟩))
  exact ⟨e, (List.mem_filter.mp he).1, rfl⟩

/-- the end points of a ring under construction are the last points emitted at its two ends -/
def EndsOK (o : Out) : Prop := ∀ g ∈ o.rings, g.stat = .live → endPt true g.pts = some g.flast ∧ endPt false g.pts = some g.blast

theorem endsOK_addPt (f : Bool) (pt : Pt) (r : Ring) (h : endPt true r.pts = some r.flast ∧ endPt false r.pts = some r.blast) :
    endPt true (addPt f pt r).1.pts = some (addPt f pt r).1.flast ∧ endPt false (addPt f pt r).1.pts = some (addPt f pt r).1.blast := by
  have hne : r.pts ≠ [] := endPt_some_ne _ _ _ h.1
  obtain ⟨h1, h2⟩ := h
  rcases addPt_cases f pt r with ⟨hp, e⟩ | ⟨p, _, _, e⟩ | ⟨hnil, _⟩
  · -- suppressed: the end point is `pt`, which is also what the ghost now says
    rw [e]
    cases f
    · exact ⟨h1, hp⟩
    · exact ⟨hp, h2⟩
  · rw [e]
    cases f
    · exact ⟨(head?_append_ne _ _ hne).trans h1, List.getLast?_concat⟩
    · exact ⟨rfl, (getLast?_cons_ne _ _ hne).trans h2⟩
  · exact absurd hnil hne

theorem endsOK_set (o : Out) (id : Nat) (g' : Ring) (h : EndsOK o)
    (hg : g'.stat = .live → endPt true g'.pts = some g'.flast ∧ endPt false g'.pts = some g'.blast) :
    ∀ g ∈ o.rings.set id g', g.stat = .live → endPt true g.pts = some g.flast ∧ endPt false g.pts = some g.blast := by
  intro g hm hl
  rcases List.mem_or_eq_of_mem_set hm with hm | rfl
  · exact h g hm hl
  · exact hg hl

theorem endsOK_prim (pt : Pt) : PrimPres pt EndsOK := by
  refine ⟨fun o h g hg hl => ?_, fun id f o h => ?_, fun id f o h => ?_, fun id f o h => ?_, fun A B f o h => ?_, fun k i1 f1 i2 f2 o h g hg hl => ?_⟩
  · rcases List.mem_append.mp hg with hg | hg
    · exact h g hg hl
    · cases List.mem_singleton.mp hg; exact ⟨rfl, rfl⟩
  · rcases addOutPt_cases id f pt o with ⟨r, hr, hlive, e⟩ | ⟨_, e⟩ <;> rw [e]
    · exact endsOK_set o id _ h (fun _ => endsOK_addPt f pt r (h r (mem_of_get _ _ _ hr) hlive))
    · exact h
  · rcases handOver_cases id f o with ⟨r, hr, e⟩ | ⟨_, e⟩ <;> rw [e]
    · exact endsOK_set o id _ h (fun hl => by cases f <;> exact h r (mem_of_get _ _ _ hr) hl)
    · exact h
  · rcases finish_cases id f o with ⟨r, _, _, _, _, _, e⟩ | e <;> rw [e]
    · exact endsOK_set o id _ h (fun hl => nomatch hl)
    · exact h
  · rcases joinPaths_cases A B f o with ⟨ra, rb, hA, hB, _, hla, hlb, e⟩ | e <;> rw [e]
    · refine endsOK_set ⟨_, o.log, o.segs, o.nrun⟩ B _ (endsOK_set o A _ h fun _ => ?_) (fun hl => nomatch hl)
      -- the joined ring has the `f` end of `rb` and the other end of `ra`
      have ha := h ra (mem_of_get _ _ _ hA) hla
      have hb := h rb (mem_of_get _ _ _ hB) hlb
      have hane := endPt_some_ne _ _ _ ha.1
      have hbne := endPt_some_ne _ _ _ hb.1
      cases f
      · exact ⟨(head?_append_ne _ _ hane).trans ha.1, (getLast?_append_ne _ _ hbne).trans hb.2⟩
      · exact ⟨(head?_append_ne _ _ hbne).trans hb.1, (getLast?_append_ne _ _ hane).trans ha.2⟩
    · exact h
  · rw [logSeg_rings] at hg
    exact h g hg hl

theorem linPairs_cons_cons (a b : Pt) (t : List Pt) : linPairs (a :: b :: t) = (a, b) :: linPairs (b :: t) := by simp [linPairs]

theorem mem_linPairs_append (xs ys : List Pt) (pq : Pt × Pt) :
    pq ∈ linPairs (xs ++ ys) ↔ pq ∈ linPairs xs ∨ pq ∈ linPairs ys ∨ (∃ a b, xs.getLast? = some a ∧ ys.head? = some b ∧ pq = (a, b)) := by
  induction xs with
  | nil => simp [linPairs]
  | cons a t ih =>
    cases t with
    | nil =>
      cases ys with
      | nil => simp [linPairs]
      | cons b u =>
        simp only [List.cons_append, List.nil_append, linPairs_cons_cons, List.mem_cons, List.getLast?_singleton, List.head?_cons]
        constructor
        · rintro (h | h)
          · right; right; exact ⟨a, b, rfl, rfl, h⟩
          · right; left; exact h
        · rintro (h | h | ⟨a', b', h1, h2, h3⟩)
          · simp [linPairs] at h
          · right; exact h
          · cases h1; cases h2; left; exact h3
    | cons a' t' =>
      simp only [List.cons_append, linPairs_cons_cons, List.mem_cons, List.getLast?_cons_cons]
      simp only [List.cons_append] at ih
      rw [ih]
      constructor
      · rintro (h | h | h | h)
        · left; left; exact h
        · left; right; exact h
        · right; left; exact h
        · right; right; exact h
      · rintro ((h | h) | h | h)
        · left; exact h
        · right; left; exact h
        · right; right; left; exact h
        · right; right; right; exact h

theorem zip_append_singleton {α β} (xs : List α) (c : α) : ∀ (ys : List β), xs.length = ys.length → (xs ++ [c]).zip ys = xs.zip ys := by
  induction xs with
  | nil => intro ys h; cases ys with
    | nil => rfl
    | cons _ _ => simp at h
  | cons x t ih => intro ys h; cases ys with
    | nil => simp at h
    | cons y u => simp at h; simp [ih u h]

theorem cycPairs_eq_lin (a : Pt) (rest : List Pt) : cycPairs (a :: rest) = linPairs ((a :: rest) ++ [a]) := by
  simp only [cycPairs, linPairs, List.cons_append]
  have := zip_append_singleton (a :: rest) a (rest ++ [a]) (by simp)
  simpa using this.symm

theorem mem_cycPairs (l : List Pt) (pq : Pt × Pt) :
    pq ∈ cycPairs l ↔ pq ∈ linPairs l ∨ (∃ a b, l.getLast? = some a ∧ l.head? = some b ∧ pq = (a, b)) := by
  cases l with
  | nil => simp [cycPairs, linPairs]
  | cons a rest =>
    rw [cycPairs_eq_lin, mem_linPairs_append]
    simp [linPairs]

/-- the pair is in the segment log, in one of the two orientations -/
def Covered (segs : List Seg) (pq : Pt × Pt) : Prop := ∃ sg ∈ segs, segMatches sg pq = true

theorem covered_mono (s1 s2 : List Seg) (pq : Pt × Pt) (h : ∀ sg ∈ s1, sg ∈ s2) (hc : Covered s1 pq) : Covered s2 pq := by
  obtain ⟨sg, h1, h2⟩ := hc; exact ⟨sg, h sg h1, h2⟩

theorem covered_of_seg (segs : List Seg) (sg : Seg) (h : sg ∈ segs) (p q : Pt) (hp : sg.p = p) (hq : sg.q = q) : Covered segs (p, q) ∧ Covered segs (q, p) := by
  subst hp; subst hq
  exact ⟨⟨sg, h, by simp [segMatches]⟩, ⟨sg, h, by simp [segMatches]⟩⟩

/-- the neighbour pairs of a ring: cyclic when it is finished, linear while it is under construction -/
def pairsOf (g : Ring) : List (Pt × Pt) :=
  match g.stat with
  | .done => cycPairs g.pts
  | _ => linPairs g.pts

/-- every pair of ring neighbours is in the segment log -/
def SegsOK (o : Out) : Prop := ∀ g ∈ o.rings, ∀ pq ∈ pairsOf g, Covered o.segs pq

theorem pairsOf_live (g : Ring) (h : g.stat = .live) : pairsOf g = linPairs g.pts := by
  unfold pairsOf; rw [h]

theorem linPairs_sub_pairsOf (g : Ring) (pq : Pt × Pt) (h : pq ∈ linPairs g.pts) : pq ∈ pairsOf g := by
  unfold pairsOf
  split
  · exact (mem_cycPairs _ _).mpr (Or.inl h)
  · exact h

theorem pairsOf_congr (g g' : Ring) (h1 : g'.pts = g.pts) (h2 : g'.stat = g.stat) : pairsOf g' = pairsOf g := by
  unfold pairsOf; rw [h1, h2]

theorem mem_linPairs_push (f : Bool) (pt : Pt) (pts : List Pt) (pq : Pt × Pt) (h : pq ∈ linPairs (if f then pt :: pts else pts ++ [pt])) :
    pq ∈ linPairs pts ∨ ∃ p, endPt f pts = some p ∧ (pq = (pt, p) ∨ pq = (p, pt)) := by
  cases f
  · rcases (mem_linPairs_append pts [pt] pq).mp h with h | h | ⟨a, b, h1, h2, rfl⟩
    · exact Or.inl h
    · cases h
    · cases h2; exact Or.inr ⟨a, h1, Or.inr rfl⟩
  · rcases (mem_linPairs_append [pt] pts pq).mp h with h | h | ⟨a, b, h1, h2, rfl⟩
    · cases h
    · exact Or.inl h
    · cases h1; exact Or.inr ⟨b, h2, Or.inl rfl⟩

theorem segsOK_newRec (pt : Pt) (o : Out) (h : SegsOK o) : SegsOK (newRec pt o) := by
  intro g hg pq hpq
  rcases List.mem_append.mp hg with hg | hg
  · exact h g hg pq hpq
  · cases List.mem_singleton.mp hg; cases hpq

theorem segsOK_addOutPt (id : Nat) (f : Bool) (pt : Pt) (o : Out) (h : SegsOK o) : SegsOK (addOutPt id f pt o) := by
  rcases addOutPt_cases id f pt o with ⟨r, hr, hlive, e⟩ | ⟨_, e⟩ <;> rw [e]
  · intro g hg pq hpq
    rcases List.mem_or_eq_of_mem_set hg with hg | rfl
    · exact covered_mono _ _ _ (fun _ hs => List.mem_append_right _ hs) (h g hg pq hpq)
    · rw [pairsOf_live _ ((addPt_stat f pt r).trans hlive)] at hpq
      have hr' : ∀ pq ∈ linPairs r.pts, Covered o.segs pq :=
        fun pq hpq => h r (mem_of_get _ _ _ hr) pq (by rw [pairsOf_live r hlive]; exact hpq)
      show Covered ((addPt f pt r).2.2 ++ o.segs) pq
      rcases addPt_cases f pt r with ⟨_, e⟩ | ⟨p, hp, _, e⟩ | ⟨_, e⟩ <;> rw [e] at hpq ⊢
      · exact hr' pq (by rw [setLast_pts] at hpq; exact hpq)
      · -- the one new pair is the segment just logged
        have hseg := covered_of_seg ([⟨r.run f, p, pt, .extend⟩] ++ o.segs) ⟨r.run f, p, pt, .extend⟩ List.mem_cons_self p pt rfl rfl
        rcases mem_linPairs_push f pt r.pts pq hpq with hpq | ⟨p', hp', rfl | rfl⟩
        · exact covered_mono _ _ _ (fun _ hs => List.mem_cons_of_mem _ hs) (hr' pq hpq)
        · rw [hp] at hp'; cases hp'; exact hseg.2
        · rw [hp] at hp'; cases hp'; exact hseg.1
      · cases hpq
  · exact h

theorem segsOK_handOver (id : Nat) (f : Bool) (o : Out) (h : SegsOK o) : SegsOK (handOver id f o) := by
  rcases handOver_cases id f o with ⟨r, hr, e⟩ | ⟨_, e⟩ <;> rw [e]
  · intro g hg pq hpq
    rcases List.mem_or_eq_of_mem_set hg with hg | rfl
    · exact h g hg pq hpq
    · exact h r (mem_of_get _ _ _ hr) pq (by cases f <;> exact hpq)
  · exact h

theorem segsOK_logSeg (k : SegKind) (i1 : Nat) (f1 : Bool) (i2 : Nat) (f2 : Bool) (o : Out) (h : SegsOK o) : SegsOK (logSeg k i1 f1 i2 f2 o) := by
  intro g hg pq hpq
  rw [logSeg_rings] at hg
  exact covered_mono _ _ _ (logSeg_segs_sub k i1 f1 i2 f2 o) (h g hg pq hpq)

/-- the neighbour predicates of `Lemmas/Neighbours.lean`, read on the model's lists of pairs -/
theorem linPairs_iff_mem (Q : Pt → Pt → Prop) : ∀ l, Lemmas.CleanUp.LinPairs Q l ↔ ∀ pq ∈ linPairs l, Q pq.1 pq.2
  | [] => ⟨fun _ _ h => (nomatch h), fun _ => trivial⟩
  | [_] => ⟨fun _ _ h => (nomatch h), fun _ => trivial⟩
  | a :: b :: t => by rw [Lemmas.CleanUp.LinPairs, linPairs_cons_cons, List.forall_mem_cons, linPairs_iff_mem Q (b :: t)]

theorem cycPairs_iff_mem (Q : Pt → Pt → Prop) (l : List Pt) : Lemmas.CleanUp.CycPairs Q l ↔ ∀ pq ∈ cycPairs l, Q pq.1 pq.2 := by
  cases l with
  | nil => exact ⟨fun _ _ h => (nomatch h), fun _ => trivial⟩
  | cons a rest => rw [cycPairs_eq_lin]; exact linPairs_iff_mem Q _

/-- closing a ring: the pair (back end, front end) must already be in the log -/
theorem segsOK_finish (id : Nat) (f : Bool) (o : Out) (h : SegsOK o)
    (hclose : ∀ g, o.rings[id]? = some g → ∀ a b, endPt false g.pts = some a → endPt true g.pts = some b → Covered o.segs (a, b)) :
    SegsOK (finish id f o) := by
  rcases finish_cases id f o with ⟨r, pts', hr, hperm, hf1, hf2, e⟩ | e <;> rw [e]
  · intro g hg pq hpq
    rcases List.mem_or_eq_of_mem_set hg with hg | rfl
    · exact h g hg pq hpq
    · have key : ∀ pq ∈ cycPairs r.pts, Covered o.segs pq := by
        intro pq hpq
        rcases (mem_cycPairs _ _).mp hpq with hpq | ⟨a, b, h1, h2, rfl⟩
        · exact h r (mem_of_get _ _ _ hr) pq (linPairs_sub_pairsOf r pq hpq)
        · exact hclose r hr a b h1 h2
      have hpq' : pq ∈ cycPairs pts' := hpq
      cases f
      · -- `outrec.pts` moves to the back end: the same cycle, read from one point earlier
        cases hb : r.pts.getLast? with
        | none =>
          have : pts' = [] := List.Perm.eq_nil ((List.getLast?_eq_none_iff.mp hb) ▸ hperm)
          rw [this] at hpq'; cases hpq'
        | some b =>
          obtain ⟨d, hd⟩ := List.getLast?_eq_some_iff.mp hb
          rw [hf2 b hb rfl, hd, List.dropLast_concat] at hpq'
          rw [hd] at key
          exact (cycPairs_iff_mem _ _).mp (Lemmas.CleanUp.rot_swap _ (Lemmas.CleanUp.cycPairs_rot1 _) d [b] ((cycPairs_iff_mem (fun a b => Covered o.segs (a, b)) _).mpr key)) pq hpq'
      · rw [hf1 rfl] at hpq'; exact key pq hpq'
  · exact h

/-- `JoinOutrecPaths`: the seam between the `f` end of `A` and the other end of `B` must already be in the log -/
theorem segsOK_joinPaths (A B : Nat) (f : Bool) (o : Out) (h : SegsOK o)
    (hseam : ∀ ga gb, o.rings[A]? = some ga → o.rings[B]? = some gb → ∀ a b, endPt f ga.pts = some a → endPt (!f) gb.pts = some b →
      Covered o.segs (a, b) ∧ Covered o.segs (b, a)) :
    SegsOK (joinPaths A B f o) := by
  rcases joinPaths_cases A B f o with ⟨ra, rb, hA, hB, _, hla, hlb, e⟩ | e <;> rw [e]
  · intro g hg pq hpq
    rcases List.mem_or_eq_of_mem_set hg with hg | rfl
    · rcases List.mem_or_eq_of_mem_set hg with hg | rfl
      · exact h g hg pq hpq
      · have ha : ∀ pq ∈ linPairs ra.pts, Covered o.segs pq := fun pq hpq => h ra (mem_of_get _ _ _ hA) pq (linPairs_sub_pairsOf ra pq hpq)
        have hb : ∀ pq ∈ linPairs rb.pts, Covered o.segs pq := fun pq hpq => h rb (mem_of_get _ _ _ hB) pq (linPairs_sub_pairsOf rb pq hpq)
        have hs := hseam ra rb hA hB
        rw [pairsOf_live _ ((joined_stat ra rb f).trans hla)] at hpq
        cases f
        · rcases (mem_linPairs_append _ _ _).mp hpq with hpq | hpq | ⟨a, b, h1, h2, rfl⟩
          · exact ha pq hpq
          · exact hb pq hpq
          · exact (hs a b h1 h2).1
        · rcases (mem_linPairs_append _ _ _).mp hpq with hpq | hpq | ⟨a, b, h1, h2, rfl⟩
          · exact hb pq hpq
          · exact ha pq hpq
          · exact (hs b a h2 h1).2
    · cases hpq
  · exact h

/-- the record that `AddLocalMaxPoly` / `JoinOutrecPaths` empties or closes -/
def deadId (ra rb : Rec) : Nat := if ra.id = rb.id then ra.id else if ra.id < rb.id then rb.id else ra.id

/-- what the ring part of an `AddLocalMaxPoly`-like step guarantees -/
structure MaxPost (ra rb : Rec) (o o' : Out) : Prop where
  len : o'.rings.length = o.rings.length
  live : ∀ id', LiveAt o.rings id' → id' ≠ deadId ra rb → LiveAt o'.rings id'
  nolost : NoLost o'
  segs : SegsOK o'

theorem rec_eq (k r : Rec) (h1 : k.id = r.id) (h2 : k.front = r.front) : k = r := by
  cases k; cases r; simp at h1 h2; simp [h1, h2]

theorem addLocalMaxFn_fronts (ra rb : Rec) (g : SEdge → SEdge) (hg : addLocalMaxFn ra rb = .ok g) : ra.front ≠ rb.front := by
  intro e; unfold addLocalMaxFn at hg; rw [if_pos e] at hg; cases hg

/-- `AddLocalMaxPoly(e1, e2)` / the join of `CheckJoinLeft/Right` on two different records `ra`, `rb`, seen from the record `s` that
survives (the one with the smaller index) and the record `d` that dies: which edge is `e1` no longer matters -/
theorem max_pair (ra rb : Rec) (hne : ra.id ≠ rb.id) :
    ∃ s d, ((s = ra ∧ d = rb) ∨ (s = rb ∧ d = ra)) ∧ s.id ≠ d.id ∧ deadId ra rb = d.id ∧
      (∀ g, addLocalMaxFn ra rb = .ok g → g = relabelFn d.id s.front s.id) ∧
      ∀ o, (if ra.id < rb.id then joinPaths ra.id rb.id ra.front o else joinPaths rb.id ra.id rb.front o) = joinPaths s.id d.id s.front o := by
  have hg : ∀ g, addLocalMaxFn ra rb = .ok g →
      (if ra.id < rb.id then .ok (relabelFn rb.id ra.front ra.id) else .ok (relabelFn ra.id rb.front rb.id)) = (Except.ok g : Except Fault _) := by
    intro g h
    unfold addLocalMaxFn at h
    by_cases hf : ra.front = rb.front
    · rw [if_pos hf] at h; cases h
    · rw [if_neg hf, if_neg hne] at h; exact h
  by_cases lt : ra.id < rb.id
  · refine ⟨ra, rb, Or.inl ⟨rfl, rfl⟩, hne, by rw [deadId, if_neg hne, if_pos lt], fun g h => ?_, fun o => if_pos lt⟩
    have := hg g h; rw [if_pos lt] at this; cases this; rfl
  · refine ⟨rb, ra, Or.inr ⟨rfl, rfl⟩, Ne.symm hne, by rw [deadId, if_neg hne, if_neg lt], fun g h => ?_, fun o => if_neg lt⟩
    have := hg g h; rw [if_neg lt] at this; cases this; rfl

theorem other_side (s d k : Rec) (hf : s.front ≠ d.front) (hid : k.id = d.id) (hk : k.front ≠ s.front) : k = d := by
  refine rec_eq k d hid ?_
  revert hf hk; cases s.front <;> cases d.front <;> cases k.front <;> simp

/-- closing or joining after the end points of `(ra.id, ra.front)` and `(rb.id, rb.front)` have been logged as a pair -/
theorem closeOrJoin_spec (ra rb : Rec) (o : Out) (hf : ra.front ≠ rb.front) (hn : NoLost o) (hs : SegsOK o)
    (hlog : ∀ ga gb, o.rings[ra.id]? = some ga → o.rings[rb.id]? = some gb → ∀ p q, endPt ra.front ga.pts = some p → endPt rb.front gb.pts = some q →
      Covered o.segs (p, q) ∧ Covered o.segs (q, p)) :
    MaxPost ra rb o (if ra.id = rb.id then finish ra.id ra.front o
      else if ra.id < rb.id then joinPaths ra.id rb.id ra.front o else joinPaths rb.id ra.id rb.front o) := by
  have hbf : rb.front = !ra.front := by revert hf; cases ra.front <;> cases rb.front <;> simp
  by_cases e : ra.id = rb.id
  · rw [if_pos e]
    refine {
      len := length_finish _ _ _
      live := fun id' hl hne => liveAt_finish _ _ _ _ hl (by rw [deadId, if_pos e] at hne; exact hne)
      nolost := fun x hx => hn x (log_finish ra.id ra.front o ▸ hx)
      segs := segsOK_finish _ _ _ hs fun g hg a b ha hb => ?_ }
    have hg' : o.rings[rb.id]? = some g := by rw [← e]; exact hg
    cases hfa : ra.front with
    | true => rw [hfa] at hbf; exact (hlog g g hg hg' b a (by rw [hfa]; exact hb) (by rw [hbf]; exact ha)).2
    | false => rw [hfa] at hbf; exact (hlog g g hg hg' a b (by rw [hfa]; exact ha) (by rw [hbf]; exact hb)).1
  · obtain ⟨s, d, hp, _, hdead, _, hj⟩ := max_pair ra rb e
    rw [if_neg e, hj]
    -- the logged pair, read from the surviving record's side
    have hlog' : ∀ gs gd, o.rings[s.id]? = some gs → o.rings[d.id]? = some gd → ∀ p q, endPt s.front gs.pts = some p →
        endPt (!s.front) gd.pts = some q → Covered o.segs (p, q) ∧ Covered o.segs (q, p) := by
      rcases hp with ⟨rfl, rfl⟩ | ⟨rfl, rfl⟩
      · intro gs gd hgs hgd p q hp hq; exact hlog gs gd hgs hgd p q hp (by rw [hbf]; exact hq)
      · intro gs gd hgs hgd p q hp hq
        exact (hlog gd gs hgd hgs q p (by rw [hbf, Bool.not_not] at hq; exact hq) hp).symm
    exact {
      len := length_joinPaths _ _ _ _
      live := fun id' hl hne => liveAt_joinPaths _ _ _ _ _ hl (hdead ▸ hne)
      nolost := fun x hx => hn x (log_joinPaths s.id d.id s.front o ▸ hx)
      segs := segsOK_joinPaths _ _ _ _ hs hlog' }

theorem maxPost_trans_pre (ra rb : Rec) (o o1 o' : Out) (hlen : o1.rings.length = o.rings.length)
    (hlive : ∀ id', LiveAt o.rings id' → LiveAt o1.rings id') (h : MaxPost ra rb o1 o') : MaxPost ra rb o o' :=
  ⟨by rw [h.len, hlen], fun id' hl hne => h.live id' (hlive id' hl) hne, h.nolost, h.segs⟩

theorem localMaxOut_spec (kind : SegKind) (ra rb : Rec) (pt : Pt) (o : Out) (hA : LiveAt o.rings ra.id)
    (hf : ra.front ≠ rb.front) (hn : NoLost o) (hs : SegsOK o) : MaxPost ra rb o (localMaxOut kind ra rb pt o) := by
  unfold localMaxOut
  simp only
  have hn0 := noLost_addOutPt ra.id ra.front pt o hn hA
  have hs0 := segsOK_addOutPt ra.id ra.front pt o hs
  have hr1 := logSeg_rings kind rb.id rb.front ra.id ra.front (addOutPt ra.id ra.front pt o)
  refine maxPost_trans_pre ra rb o (logSeg kind rb.id rb.front ra.id ra.front (addOutPt ra.id ra.front pt o)) _ ?_ ?_ ?_
  · rw [hr1, length_addOutPt]
  · intro id' hl; rw [hr1]; exact liveAt_addOutPt _ _ _ _ _ hl
  · refine closeOrJoin_spec ra rb _ hf ?_ (segsOK_logSeg _ _ _ _ _ _ hs0) ?_
    · intro x hx; rw [logSeg_log] at hx; exact hn0 x hx
    · intro ga gb hga hgb p q hp hq
      rw [hr1] at hga hgb
      obtain ⟨sg, h1, h2, h3⟩ := logSeg_has kind rb.id rb.front ra.id ra.front _ gb ga q p hgb hga hq hp
      have := covered_of_seg _ sg h1 q p h2 h3
      exact ⟨this.2, this.1⟩

/-- `CheckJoinLeft/Right` with two records: the pair of end points is logged, then `JoinOutrecPaths` -/
theorem joinSeamOut_spec (ra rb : Rec) (o : Out) (hne : ra.id ≠ rb.id) (hf : ra.front ≠ rb.front) (hn : NoLost o) (hs : SegsOK o) :
    MaxPost ra rb o (if ra.id < rb.id then joinPaths ra.id rb.id ra.front (logSeg .joinSeam ra.id ra.front rb.id rb.front o)
      else joinPaths rb.id ra.id rb.front (logSeg .joinSeam ra.id ra.front rb.id rb.front o)) := by
  have hr1 := logSeg_rings .joinSeam ra.id ra.front rb.id rb.front o
  have key := closeOrJoin_spec ra rb (logSeg .joinSeam ra.id ra.front rb.id rb.front o) hf
    (by intro x hx; rw [logSeg_log] at hx; exact hn x hx) (segsOK_logSeg _ _ _ _ _ _ hs) (by
      intro ga gb hga hgb p q hp hq
      rw [hr1] at hga hgb
      obtain ⟨sg, h1, h2, h3⟩ := logSeg_has .joinSeam ra.id ra.front rb.id rb.front _ ga gb p q hga hgb hp hq
      exact covered_of_seg _ sg h1 p q h2 h3)
  simp only [hne, if_false] at key
  refine maxPost_trans_pre ra rb o _ _ (by rw [hr1]) (by intro id' hl; rw [hr1]; exact hl) ?_
  by_cases lt : ra.id < rb.id
  · simp only [lt, if_true] at key ⊢; exact key
  · simp only [lt, if_false] at key ⊢; exact key

/-- as many rings as records; every edge that owns a record owns a live, non-empty ring; no point was lost; all ring neighbours are logged -/
structure OInv (n : Nat) (l : List SEdge) (o : Out) : Prop where
  len : o.rings.length = n
  hot : ∀ x ∈ l, ∀ k, x.orec = some k → LiveAt o.rings k.id
  nolost : NoLost o
  segs : SegsOK o

/-- record ids in use in `l'` are in use in `l` -/
def KeysFrom (l l' : List SEdge) : Prop := ∀ x ∈ l', ∀ k, x.orec = some k → ∃ y ∈ l, ∃ k', y.orec = some k' ∧ k'.id = k.id

theorem oinv_keys (n : Nat) (l l' : List SEdge) (o : Out) (h : OInv n l o) (hl : KeysFrom l l') : OInv n l' o := by
  refine ⟨h.len, ?_, h.nolost, h.segs⟩
  intro x hx k hk
  obtain ⟨y, hy, k', hk', e⟩ := hl x hx k hk
  rw [← e]; exact h.hot y hy k' hk'

theorem oinv_newRec (n : Nat) (l l' : List SEdge) (o : Out) (pt : Pt) (h : OInv n l o)
    (hl : ∀ x ∈ l', ∀ k, x.orec = some k → k.id = n ∨ ∃ y ∈ l, ∃ k', y.orec = some k' ∧ k'.id = k.id) : OInv (n + 1) l' (newRec pt o) := by
  refine ⟨by rw [length_newRec, h.len], ?_, noLost_newRec pt o h.nolost, segsOK_newRec pt o h.segs⟩
  intro x hx k hk
  rcases hl x hx k hk with e | ⟨y, hy, k', hk', e⟩
  · rw [e, ← h.len]; exact liveAt_newRec_new pt o
  · rw [← e]; exact liveAt_newRec_old pt o _ (h.hot y hy k' hk')

theorem oinv_maxPost (n : Nat) (l l' : List SEdge) (ra rb : Rec) (o o' : Out) (h : OInv n l o) (hm : MaxPost ra rb o o')
    (hl : ∀ x ∈ l', ∀ k, x.orec = some k → k.id ≠ deadId ra rb ∧ ∃ y ∈ l, ∃ k', y.orec = some k' ∧ k'.id = k.id) : OInv n l' o' := by
  refine ⟨by rw [hm.len, h.len], ?_, hm.nolost, hm.segs⟩
  intro x hx k hk
  obtain ⟨hne, y, hy, k', hk', e⟩ := hl x hx k hk
  exact hm.live _ (by rw [← e]; exact h.hot y hy k' hk') hne

theorem mem_window {α} (pre rest : List α) (a b x : α) (h : x ∈ pre ++ a :: b :: rest) : x ∈ pre ++ rest ∨ x = a ∨ x = b := by
  simp only [List.mem_append, List.mem_cons] at h ⊢
  rcases h with h | h | h | h
  · left; left; exact h
  · right; left; exact h
  · right; right; exact h
  · left; right; exact h

theorem mem_window_of {α} (pre rest : List α) (a b x : α) (h : x ∈ pre ++ rest) : x ∈ pre ++ a :: b :: rest := by
  simp only [List.mem_append, List.mem_cons] at h ⊢
  rcases h with h | h
  · left; exact h
  · right; right; right; exact h

theorem cnt_pos_of_mem (k : Nat × Bool) (l : List SEdge) (x : SEdge) (hx : x ∈ l) (hk : keyOf x = some k) : 1 ≤ cnt k l := by
  induction l with
  | nil => cases hx
  | cons y t ih =>
    simp only [cnt]
    rcases List.mem_cons.mp hx with rfl | hx
    · simp [hk]
    · have := ih hx; omega

theorem keyOf_of_orec (x : SEdge) (k : Rec) (h : x.orec = some k) : keyOf x = some (k.id, k.front) := by simp [keyOf, h]

theorem recs_no_dup (n : Nat) (pre rest : List SEdge) (a b : SEdge) (h : RecsOK n (pre ++ a :: b :: rest)) (x : SEdge) (hx : x ∈ pre ++ rest)
    (k : Rec) (hk : x.orec = some k) : a.orec ≠ some k ∧ b.orec ≠ some k := by
  have h1 := (h (k.id, k.front)).1
  have h2 := cnt_pos_of_mem (k.id, k.front) (pre ++ rest) x hx (keyOf_of_orec x k hk)
  simp only [cnt_append, cnt] at h1 h2
  constructor
  · intro ha; rw [keyOf_of_orec a k ha] at h1; simp at h1; omega
  · intro hb; rw [keyOf_of_orec b k hb] at h1; simp at h1; omega

theorem localMax_keys (n : Nat) (pre rest : List SEdge) (a b : SEdge) (ra rb : Rec) (g : SEdge → SEdge)
    (h : RecsOK n (pre ++ a :: b :: rest)) (ha : a.orec = some ra) (hb : b.orec = some rb) (hg : addLocalMaxFn ra rb = .ok g) :
    ∀ x ∈ pre.map g ++ rest.map g, ∀ k, x.orec = some k →
      k.id ≠ deadId ra rb ∧ ∃ y ∈ pre ++ a :: b :: rest, ∃ k', y.orec = some k' ∧ k'.id = k.id := by
  intro x' hx' k hk
  rw [← List.map_append] at hx'
  obtain ⟨x, hx, rfl⟩ := List.mem_map.mp hx'
  have hxl : x ∈ pre ++ a :: b :: rest := mem_window_of _ _ _ _ _ hx
  have hal : a ∈ pre ++ a :: b :: rest := List.mem_append_right _ List.mem_cons_self
  have hbl : b ∈ pre ++ a :: b :: rest := List.mem_append_right _ (List.mem_cons_of_mem _ List.mem_cons_self)
  -- a third edge holds neither `ra` nor `rb`
  have third : ∀ r, x.orec = some r → r ≠ ra ∧ r ≠ rb := fun r hr =>
    ⟨fun e => (recs_no_dup n pre rest a b h x hx r hr).1 (e ▸ ha), fun e => (recs_no_dup n pre rest a b h x hx r hr).2 (e ▸ hb)⟩
  have hf := addLocalMaxFn_fronts ra rb g hg
  by_cases e : ra.id = rb.id
  · -- one record: it is closed, nothing is relabelled
    have : g = id := by unfold addLocalMaxFn at hg; rw [if_neg hf, if_pos e] at hg; cases hg; rfl
    subst this
    refine ⟨fun hid => ?_, x, hxl, k, hk, rfl⟩
    rw [deadId, if_pos e] at hid
    by_cases hfk : k.front = ra.front
    · exact (third k hk).1 (rec_eq k ra hid hfk)
    · exact (third k hk).2 (other_side ra rb k hf (hid.trans e) hfk)
  · obtain ⟨s, d, hp, hsd, hdead, hgs, _⟩ := max_pair ra rb e
    rw [hgs g hg] at hk
    rw [hdead]
    have hfs : s.front ≠ d.front := by rcases hp with ⟨rfl, rfl⟩ | ⟨rfl, rfl⟩; exact hf; exact Ne.symm hf
    have hs : ∃ y ∈ pre ++ a :: b :: rest, y.orec = some s := by
      rcases hp with ⟨rfl, rfl⟩ | ⟨rfl, rfl⟩
      · exact ⟨a, hal, ha⟩
      · exact ⟨b, hbl, hb⟩
    unfold relabelFn at hk
    cases hxo : x.orec with
    | none => simp [hxo] at hk
    | some r =>
      simp only [hxo] at hk
      split at hk
      · -- the other edge of the dying record now holds that side of the survivor
        obtain ⟨y, hy, hys⟩ := hs
        cases hk
        exact ⟨hsd, y, hy, s, hys, rfl⟩
      · next hc =>
        rw [hxo] at hk; cases hk
        refine ⟨fun hid => ?_, x, hxl, k, hxo, rfl⟩
        have : k = d := other_side s d k hfs hid (fun hh => hc ⟨hid, hh⟩)
        rcases hp with ⟨_, rfl⟩ | ⟨_, rfl⟩
        · exact (third k hxo).2 this
        · exact (third k hxo).1 this

section pres
variable {pt : Pt} {P : Out → Prop} (hp : PrimPres pt P)
include hp

theorem pres_localMaxOut (k : SegKind) (ra rb : Rec) (o : Out) (h : P o) : P (localMaxOut k ra rb pt o) :=
  have h1 := hp.logSeg k rb.id rb.front ra.id ra.front _ (hp.addOutPt ra.id ra.front o h)
  of_ite (fun _ => hp.finish _ _ _ h1) (fun _ => of_ite (fun _ => hp.joinPaths _ _ _ _ h1) (fun _ => hp.joinPaths _ _ _ _ h1))

theorem pres_addOn (r : Option Rec) (o : Out) (h : P o) : P (addOn r pt o) := by
  cases r with
  | none => exact h
  | some x => exact hp.addOutPt _ _ _ h

theorem pres_handOn (r : Option Rec) (o : Out) (h : P o) : P (handOn r o) := by
  cases r with
  | none => exact h
  | some x => exact hp.handOver _ _ _ h

theorem pres_swapOut (r1 r2 : Option Rec) (o : Out) (h : P o) : P (swapOut r1 r2 pt o) :=
  pres_handOn hp _ _ (pres_handOn hp _ _ (pres_addOn hp _ _ (pres_addOn hp _ _ h)))

theorem pres_coreOut (cfg : Cfg) (a b : SEdge) (o : Out) (h : P o) : P (coreOut cfg a b pt o) := by
  unfold coreOut
  simp only
  split
  · exact h
  · exact pres_swapOut hp _ _ _ h
  · exact hp.newRec _ h
  · split
    · exact pres_localMaxOut hp _ _ _ _ h
    · exact h
  · split
    · exact hp.newRec _ (pres_localMaxOut hp _ _ _ _ h)
    · exact h

theorem pres_splitOut (i : Nat) (s : SState) (o : Out) (h : P o) : P (splitOut i pt s o) := by
  unfold splitOut
  split
  · exact of_ite (fun _ => h) (fun _ => hp.newRec _ h)
  · exact h

theorem pres_twoSplitsOut (i : Nat) (s : SState) (o : Out) (h : P o) : P (twoSplitsOut i pt s o).1 := by
  unfold twoSplitsOut
  have h1 := pres_splitOut hp i s o h
  simp only
  split
  · next s1 _ =>
    have h2 := pres_splitOut hp (i + 1) s1 _ h1
    split
    · split <;> exact h2
    · exact h2
  · exact h1

theorem pres_intersectOut (cfg : Cfg) (i : Nat) (s : SState) (o : Out) (h : P o) : P (intersectOut cfg i pt s o) := by
  unfold intersectOut
  split
  · refine of_ite (fun _ => of_ite (fun _ => h) (fun _ => of_ite (fun _ => pres_splitOut hp _ _ _ h) (fun _ => pres_splitOut hp _ _ _ h))) (fun _ => ?_)
    have h2 := pres_twoSplitsOut hp i s o h
    split
    · next o2 a b heq => rw [heq] at h2; exact pres_coreOut hp _ _ _ _ h2
    · next o2 heq => rw [heq] at h2; exact h2
  · exact h

theorem pres_removePairOut (i : Nat) (s : SState) (o : Out) (h : P o) : P (removePairOut i pt s o) := by
  unfold removePairOut
  split
  · refine of_ite (fun _ => h) (fun _ => ?_)
    have h2 := pres_twoSplitsOut hp i s o h
    split
    · next o2 a b heq =>
      rw [heq] at h2
      split
      · exact pres_localMaxOut hp _ _ _ _ h2
      · exact h2
    · next o2 heq => rw [heq] at h2; exact h2
  · exact h

theorem pres_joinOut (i : Nat) (s : SState) (o : Out) (h : P o) : P (joinOut i pt s o) := by
  unfold joinOut
  split
  · split
    · exact of_ite (fun _ => pres_localMaxOut hp _ _ _ _ h)
        (fun _ => of_ite (fun _ => hp.joinPaths _ _ _ _ (hp.logSeg _ _ _ _ _ _ h)) (fun _ => hp.joinPaths _ _ _ _ (hp.logSeg _ _ _ _ _ _ h)))
    · exact h
  · exact h

theorem pres_updateOut (i : Nat) (s : SState) (o : Out) (h : P o) : P (updateOut i pt s o) := by
  unfold updateOut
  split
  · exact of_ite (fun _ => h) (fun _ => pres_addOn hp _ _ h)
  · exact h

theorem pres_insertPairOut (cfg : Cfg) (pos : Nat) (t : PathType) (isOpen : Bool) (dx : Int) (s : SState) (o : Out) (h : P o) :
    P (insertPairOut cfg pos t isOpen dx pt s o) :=
  of_ite (fun _ => hp.newRec _ h) (fun _ => h)

end pres

/-- the point an event carries -/
def ROp.pt : ROp → Pt
  | .base _ p => p
  | .join _ p => p
  | .split _ p => p
  | .update _ p => p

/-- every ring effect of an event is a composition of primitives applied to the event's point -/
theorem pres_outStep (cfg : Cfg) (s : SState) (o : Out) (op : ROp) (P : Out → Prop) (hp : PrimPres op.pt P) (h : P o) :
    P (outStep cfg s o op) := by
  cases op with
  | base b p =>
    cases b with
    | insertPair pos t isOpen dx => exact pres_insertPairOut hp _ _ _ _ _ _ _ h
    | insertOne _ _ _ => exact h
    | intersect i => exact pres_intersectOut hp _ _ _ _ h
    | removePair i => exact pres_removePairOut hp _ _ _ h
    | removeOne _ => exact h
  | join i p => exact pres_joinOut hp _ _ _ h
  | split i p => exact pres_splitOut hp _ _ _ h
  | update i p => exact pres_updateOut hp _ _ _ h

/-- provenance of log entries: every entry is old or carries the event's point -/
def LogFrom (log0 : List Emit) (pt : Pt) (o : Out) : Prop := ∀ e ∈ o.log, e ∈ log0 ∨ e.pt = pt

theorem logFrom_prim (log0 : List Emit) (pt : Pt) : PrimPres pt (LogFrom log0 pt) := by
  have cons : ∀ (o : Out) (k : EmitKind), LogFrom log0 pt o → ∀ e ∈ (⟨pt, k⟩ : Emit) :: o.log, e ∈ log0 ∨ e.pt = pt := by
    intro o k h e he
    rcases List.mem_cons.mp he with rfl | he
    · exact Or.inr rfl
    · exact h e he
  refine ⟨fun o h => cons o _ h, ?_, ?_, ?_, ?_, ?_⟩
  · intro id f o h
    rcases addOutPt_cases id f pt o with ⟨r, _, _, e⟩ | ⟨_, e⟩ <;> rw [e] <;> exact cons o _ h
  · intro id f o h e he; rw [log_handOver] at he; exact h e he
  · intro id f o h e he; rw [log_finish] at he; exact h e he
  · intro A B f o h e he; rw [log_joinPaths] at he; exact h e he
  · intro k i1 f1 i2 f2 o h e he; rw [logSeg_log] at he; exact h e he

end Clipper.Model

/-
THE AEL OF THE EXACT SCANBEAM MODEL IS IN LEFT-TO-RIGHT ORDER AT EVERY HEIGHT INSIDE A SCANBEAM.
`Model/SweepPoints.geo` exchanges the adjacent pairs that are in the wrong order for the top of the scanbeam bottom-up by exact crossing point.
A list in (non-strict) scanline order at one height is in scanline order at every height above it below which none of its inversions crosses
(`Lemmas/C01OutputMono.sorted_at`).  Here, for an ARBITRARY rational height `yn/yd` inside the scanbeam: the schedule splits into the exchanges whose crossing lies at or
below that height and those strictly above it, and the list reached after the first part is in scanline order at `yn/yd` (`geo_split`);
transferred to the decorated events and the geometric runs `GRun` (`isect_split_sorted`).  Core Lean only.
-/
import ClipperVerif.Lemmas.C01OutputSweep
namespace Clipper.Lemmas.C01Crown
open Clipper Clipper.Model Clipper.Model.AelOrder Clipper.Model.SweepOrder Clipper.Model.SweepEvents Clipper.Model.SweepPoints
open Clipper.Lemmas.SweepOrder Clipper.Lemmas.C01Region Clipper.Lemmas.C01Output

theorem schedOK_split {P : GEdge → GEdge → Prop} : ∀ (a b : List (Nat × GEdge × GEdge)) (cur cur' : List GEdge),
    SchedOK P cur (a ++ b) cur' → ∃ mid, SchedOK P cur a mid ∧ SchedOK P mid b cur' := by
  intro a
  induction a with
  | nil => intro b cur cur' h; exact ⟨cur, rfl, h⟩
  | cons c rest ih =>
    intro b cur cur' h
    obtain ⟨pre, post, h1, h2, h3, h4⟩ := h
    obtain ⟨mid, m1, m2⟩ := ih b _ cur' h4
    exact ⟨mid, ⟨pre, post, h1, h2, h3, m1⟩, m2⟩

theorem schedOK_append {P : GEdge → GEdge → Prop} : ∀ (a b : List (Nat × GEdge × GEdge)) (cur mid cur' : List GEdge),
    SchedOK P cur a mid → SchedOK P mid b cur' → SchedOK P cur (a ++ b) cur' := by
  intro a
  induction a with
  | nil => intro b cur mid cur' h1 h2; simp only [SchedOK] at h1; subst h1; exact h2
  | cons c rest ih =>
    intro b cur mid cur' h h'
    obtain ⟨pre, post, h1, h2, h3, h4⟩ := h
    exact ⟨pre, post, h1, h2, h3, ih b _ mid cur' h4 h'⟩

theorem schedOK_perm {P : GEdge → GEdge → Prop} : ∀ (evs : List (Nat × GEdge × GEdge)) (cur cur' : List GEdge),
    SchedOK P cur evs cur' → cur'.Perm cur := by
  intro evs
  induction evs with
  | nil => intro cur cur' h; simp only [SchedOK] at h; subst h; exact List.Perm.refl _
  | cons c rest ih =>
    intro cur cur' h
    obtain ⟨pre, post, h1, _, _, h4⟩ := h
    refine (ih _ cur' h4).trans ?_
    rw [h1]
    exact List.Perm.append_left pre (List.Perm.swap _ _ post)

theorem no_adjInv_target (y1 : Int) (T : List GEdge) (hT : T.Pairwise (ltBelow y1)) : ∀ c ∈ adjInv T 0 T, False := by
  intro c hc
  rw [mem_adjInv] at hc
  obtain ⟨pre, post, h1, _, h3⟩ := hc
  have ha : c.2.1 ∈ T := by rw [h1]; simp
  have hb : c.2.2 ∈ T := by rw [h1]; simp
  have hba : ltBelow y1 c.2.2 c.2.1 := rel_of_rank T hT hb ha h3
  have hT' := hT
  rw [h1] at hT'
  exact ltBelow_asymm hba (pairwise_window pre _ _ post hT')

/-- every crossing height of a schedule with non-increasing heights is at or above the starting level -/
theorem heights_all : ∀ (l : List (Nat × GEdge × GEdge)) (hn hd : Int), 0 < hd → HeightsSorted hn hd l →
    ∀ c ∈ l, 0 < (crossQ c.2.1 c.2.2).d ∧ (crossQ c.2.1 c.2.2).yn * hd ≤ hn * (crossQ c.2.1 c.2.2).d := by
  intro l
  induction l with
  | nil => intro _ _ _ _ c hc; cases hc
  | cons c0 rest ih =>
    intro hn hd hd0 h c hc
    obtain ⟨dpos, hle, hrest⟩ := h
    rcases List.mem_cons.1 hc with rfl | hc
    · exact ⟨dpos, hle⟩
    · obtain ⟨p1, p2⟩ := ih _ _ dpos hrest c hc
      exact ⟨p1, fle_trans p1 dpos hd0 p2 hle⟩

/-- **geo_split.**  The list `cur` (members of the target `T`, which is sorted just below `y1`) in non-strict scanline order at the level
`hn/hd' > y1`, a height `yn/yd` with `y1 < yn/yd ≤ hn/hd'`, and the bottom-up schedule `geo T n cur` reaches `T`: the schedule splits into
the exchanges whose crossing is strictly below `yn/yd` and those whose crossing is at or above it, and the list reached after the first part
is in non-strict scanline order at `yn/yd`: `sorted_at` only asks that no adjacent inversion crosses strictly below the height. -/
theorem geo_split (y1 : Int) (T : List GEdge) (hT : T.Pairwise (ltBelow y1)) (P : GEdge → GEdge → Prop)
    (yn yd : Int) (hd : 0 < yd) (hlo : y1 * yd < yn) :
    ∀ (n : Nat) (cur : List GEdge) (hn hd' : Int), 0 < hd' → y1 * hd' < hn → yn * hd' ≤ hn * yd →
      (∀ e ∈ cur, e ∈ T ∧ e.Up) → cur.Pairwise (fun u v => leAt hn hd' u v = true) → SchedOK P cur (geo T n cur) T →
      ∃ (e1 e2 : List (Nat × GEdge × GEdge)) (mid : List GEdge), geo T n cur = e1 ++ e2 ∧ SchedOK P cur e1 mid ∧ SchedOK P mid e2 T ∧
        (∀ c ∈ e1, 0 < (crossQ c.2.1 c.2.2).d ∧ yn * (crossQ c.2.1 c.2.2).d < (crossQ c.2.1 c.2.2).yn * yd) ∧
        (∀ c ∈ e2, 0 < (crossQ c.2.1 c.2.2).d ∧ (crossQ c.2.1 c.2.2).yn * yd ≤ yn * (crossQ c.2.1 c.2.2).d) ∧
        mid.Pairwise (fun u v => leAt yn yd u v = true) := by
  intro n
  induction n with
  | zero =>
    intro cur hn hd' hd0 hlev hle hmem hJ hS
    have hS' : cur = T := hS
    refine ⟨[], [], cur, rfl, rfl, hS, (fun c hc => by cases hc), (fun c hc => by cases hc), ?_⟩
    refine sorted_at y1 T hT cur hn hd' hd0 hmem hJ yn yd hd hle hlo ?_
    intro c' hc'
    rw [hS'] at hc'
    exact (no_adjInv_target y1 T hT c' hc').elim
  | succ n ih =>
    intro cur hn hd' hd0 hlev hle hmem hJ hS
    have hH := geo_heights y1 T hT (n + 1) cur hn hd' hd0 hlev hmem hJ
    cases hpk : pickBest (adjInv T 0 cur) with
    | none =>
      simp only [geo, hpk] at hS ⊢
      refine ⟨[], [], cur, rfl, rfl, hS, (fun c hc => by cases hc), (fun c hc => by cases hc), ?_⟩
      refine sorted_at y1 T hT cur hn hd' hd0 hmem hJ yn yd hd hle hlo ?_
      intro c' hc'
      rw [pickBest_none _ hpk] at hc'
      cases hc'
    | some c =>
      simp only [geo, hpk] at hS hH ⊢
      have hcm := pickBest_mem _ c hpk
      obtain ⟨_, f2, f3, f4, f5⟩ := cand_facts y1 T hT cur hn hd' hd0 hlev hmem hJ c hcm
      have hdet : det c.2.1 c.2.2 < 0 := f2
      have hpos : ∀ c' ∈ adjInv T 0 cur, 0 < (crossQ c'.2.1 c'.2.2).d :=
        fun c' hc' => (cand_facts y1 T hT cur hn hd' hd0 hlev hmem hJ c' hc').2.2.1
      have hmax := pickBest_max _ c hpk hpos
      have hS0 := hS
      obtain ⟨pre, post, h1, h2, h3, h4⟩ := hS
      have hsw : swapL c.1 cur = pre ++ c.2.2 :: c.2.1 :: post := by
        rw [h1, ← h2, swapL_window]
      by_cases hcase : yn * (crossQ c.2.1 c.2.2).d < (crossQ c.2.1 c.2.2).yn * yd
      · -- the crossing of `c` is at or below the height: exchange and go on from the new level
        have hJc : cur.Pairwise (fun u v => leAt (crossQ c.2.1 c.2.2).yn (crossQ c.2.1 c.2.2).d u v = true) :=
          sorted_at y1 T hT cur hn hd' hd0 hmem hJ _ _ f3 f4 f5 (fun c' hc' => hmax c' hc')
        rw [hsw] at h4 ⊢
        obtain ⟨e1, e2, mid, g1, g2, g3, g4, g5, g6⟩ := ih (pre ++ c.2.2 :: c.2.1 :: post) _ _ f3 f5 (Int.le_of_lt hcase)
          (fun e he => hmem e (by rw [h1]; exact ((List.Perm.swap _ _ post).append_left pre).mem_iff.1 he)) (by
            rw [h1] at hJc
            refine pairwise_swap pre _ _ post hJc ?_
            rw [leAt_iff_g _ _ _ _ f3, (gAt_cross c.2.1 c.2.2 hdet).2]
            exact Int.le_refl _) h4
        refine ⟨c :: e1, e2, mid, by rw [g1]; rfl, ⟨pre, post, h1, h2, h3, g2⟩, g3, ?_, g5, g6⟩
        intro c' hc'
        rcases List.mem_cons.1 hc' with rfl | hc'
        · exact ⟨f3, hcase⟩
        · exact g4 c' hc'
      · -- the crossing of `c` is strictly above the height: so are all later ones, and the list is in order at the height
        have hcase' : (crossQ c.2.1 c.2.2).yn * yd ≤ yn * (crossQ c.2.1 c.2.2).d := by omega
        refine ⟨[], c :: geo T n (swapL c.1 cur), cur, rfl, rfl, hS0, (fun c hc => by cases hc), ?_, ?_⟩
        · intro c' hc'
          rcases List.mem_cons.1 hc' with rfl | hc'
          · exact ⟨f3, hcase'⟩
          · obtain ⟨p1, p2⟩ := heights_all _ _ _ f3 hH.2.2 c' hc'
            exact ⟨p1, fle_trans p1 f3 hd p2 hcase'⟩
        · refine sorted_at y1 T hT cur hn hd' hd0 hmem hJ yn yd hd hle hlo ?_
          intro c' hc' hbelow
          exact hmax c' hc' (fle_lt_trans f3 hd (hpos c' hc') hcase' hbelow)

/-- a height `cyn/d`, given in the coordinates scaled by `D` as `py = cyn·D/d`, compared with `yn/yd` -/
theorem scaled_le_iff {yn yd cyn d py D : Int} (hd : 0 < d) (hD : 0 < D) (e : py * d = cyn * D) :
    py * yd ≤ D * yn ↔ cyn * yd ≤ yn * d := by
  have e1 : py * yd * d = cyn * yd * D := by rw [Int.mul_right_comm, e, Int.mul_right_comm]
  have e2 : D * yn * d = yn * d * D := by ac_rfl
  rw [← Int.mul_le_mul_right hd, e1, e2, Int.mul_le_mul_right hD]

/-- **isect_split_sorted.**  Split the intersection events of a scanbeam at the rational height `yn/yd` strictly inside it: the events `a`
strictly below it come first, the events `b` at it or above it last; the geometric AEL `es` reached after `a` is a permutation of `inserted`
in (non-strict) left-to-right order by exact x at the height `yn/yd` (edges that cross at that very height still stand in their order
below it, with equal x). -/
theorem isect_split_sorted (D : Int) (hD : 0 < D) (E : GEdge → Prop) (y0 y1 : Int) (hy : y1 < y0) (inserted T : List GEdge)
    (hI : inserted.Pairwise (ltAbove y0)) (hT : T.Pairwise (ltBelow y1)) (hp : T.Perm inserted)
    (hal : ∀ e ∈ inserted, e.Up ∧ e.top.y ≤ y1 ∧ y0 ≤ e.bot.y)
    (hdv : ∀ c ∈ geoSwaps T inserted, (crossQ c.2.1 c.2.2).d ∣ D)
    (yn yd : Int) (hd : 0 < yd) (hlo : y1 * yd < yn) (hhi : yn < y0 * yd) :
    ∃ (a b : List ROp) (es : List GEdge), isectEventsP D T inserted = a ++ b ∧
      (∀ op ∈ a, D * yn < op.pt.y * yd) ∧ (∀ op ∈ b, op.pt.y * yd ≤ D * yn) ∧
      GRun D E inserted a es ∧ GRun D E es b T ∧ es.Perm inserted ∧
      es.Pairwise (fun u v => leAt yn yd u v = true) := by
  have hmem : ∀ e ∈ inserted, e ∈ T ∧ e.Up := fun e he => ⟨hp.mem_iff.2 he, (hal e he).1⟩
  have hJ : inserted.Pairwise (fun u v => leAt y0 1 u v = true) := hI.imp (fun h => leAt_of_ltAbove y0 h)
  obtain ⟨e1, e2, mid, g1, g2, g3, g4, g5, g6⟩ := geo_split y1 T hT (Crosses y0 y1) yn yd hd hlo _ inserted y0 1 (by omega) (by omega)
    (by omega) hmem hJ (geoSwaps_spec y0 y1 hy inserted T hI hT hp)
  have hgs : geoSwaps T inserted = e1 ++ e2 := g1
  have hpm : mid.Perm inserted := schedOK_perm _ _ _ g2
  have hev : isectEventsP D T inserted =
      e1.map (fun c => ROp.base (.intersect c.1) ((crossQ c.2.1 c.2.2).toPt D)) ++
        e2.map (fun c => ROp.base (.intersect c.1) ((crossQ c.2.1 c.2.2).toPt D)) := by
    unfold isectEventsP
    rw [hgs, List.map_append]
  have hdv1 : ∀ c ∈ e1, (crossQ c.2.1 c.2.2).d ∣ D := fun c hc => hdv c (by rw [hgs]; exact List.mem_append_left _ hc)
  have hdv2 : ∀ c ∈ e2, (crossQ c.2.1 c.2.2).d ∣ D := fun c hc => hdv c (by rw [hgs]; exact List.mem_append_right _ hc)
  refine ⟨_, _, mid, hev, ?_, ?_, gRun_sched D hD E y0 y1 hy e1 inserted mid g2 (fun e he => (hal e he).2) hdv1,
    gRun_sched D hD E y0 y1 hy e2 mid T g3 (fun e he => (hal e (hpm.mem_iff.1 he)).2) hdv2, hpm, g6⟩
  · intro op hop
    obtain ⟨c, hc, rfl⟩ := List.mem_map.1 hop
    obtain ⟨dpos, hlt⟩ := g4 c hc
    exact Int.not_le.1 (fun h => Int.not_le.2 hlt ((scaled_le_iff dpos hD (toPt_y D _ dpos (hdv1 c hc))).1 h))
  · intro op hop
    obtain ⟨c, hc, rfl⟩ := List.mem_map.1 hop
    obtain ⟨dpos, hle⟩ := g5 c hc
    exact (scaled_le_iff dpos hD (toPt_y D _ dpos (hdv2 c hc))).2 hle

end Clipper.Lemmas.C01Crown

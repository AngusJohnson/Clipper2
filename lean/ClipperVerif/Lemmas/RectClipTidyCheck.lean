/-
Unlinking a node (`UnlinkOp`, `UnlinkOpBack`) and the collinear-removal loop of `CheckEdges` on well-formed heaps: what they leave,
whatever the fuel; the classification of one node.
Core Lean only.
-/
import ClipperVerif.Lemmas.RectClipTidyRelist
namespace Clipper.Lemmas.RCT
open Clipper Clipper.Model.RC Clipper.Model.RCT
open Clipper.Model.HorzJoins (cycR_append_iff cycR_rot cycR_close)

/-- `results_[i] := v` -/
def withSlot (h : Heap) (i : Nat) (v : Option Nat) : Heap := { h with results := h.results.set i v }

theorem withSlot_results (h : Heap) {i : Nat} (v : Option Nat) (hi : i < h.results.length) (s : Nat) :
    (withSlot h i v).results[s]? = if i = s then some v else h.results[s]? := by
  show (h.results.set i v)[s]? = _
  rw [List.getElem?_set]
  by_cases e : i = s
  · subst e; simp [hi]
  · simp [e]

theorem withSlot_get (h : Heap) (i : Nat) (v : Option Nat) (hi : i < h.results.length) :
    (withSlot h i v).results[i]? = some v := by
  rw [withSlot_results h v hi, if_pos rfl]

theorem withSlot_self (h : Heap) (i : Nat) (v : Option Nat) (hv : h.results[i]? = some v) : withSlot h i v = h := by
  obtain ⟨hi, e⟩ := List.getElem?_eq_some_iff.mp hv
  subst e
  unfold withSlot
  rw [List.set_getElem_self hi]

theorem setResult_ok (h : Heap) (i : Nat) (v : Option Nat) (hi : i < h.results.length) :
    h.setResult i v = .ok (withSlot h i v) := by
  simp [Heap.setResult, hi, withSlot]

/-- moving the pointer of slot `i` to another node of its ring keeps the heap well-formed -/
theorem withSlot_move {h : Heap} {ring : Nat → List Nat} {i a b : Nat} (w : RingsWF (withSlot h i (some a)) ring)
    (hi : i < h.results.length) (hb : b ∈ ring i) : RingsWF (withSlot h i (some b)) ring := by
  have rs := fun v => withSlot_results h v hi
  refine ⟨fun s k hk => ?_, fun s hs => w.slot_none s fun k hk => ?_, w.cyc, w.nodup, w.owner, w.lt⟩
  · rw [rs] at hk
    split at hk
    · rename_i e; exact e ▸ Option.some.inj (Option.some.inj hk) ▸ hb
    · rename_i e; exact w.slot_some s k (by rw [rs, if_neg e]; exact hk)
  · rw [rs] at hk
    split at hk
    · rename_i e; exact hs b (by rw [rs, if_pos e])
    · rename_i e; exact hs k (by rw [rs, if_neg e]; exact hk)

/-- giving up slot `i` -/
theorem withSlot_drop {h : Heap} {ring : Nat → List Nat} {i a : Nat} (w : RingsWF (withSlot h i (some a)) ring)
    (hi : i < h.results.length) : RingsWF (withSlot h i none) (upd ring i []) := by
  refine RingsWF.of_slots fun s => ?_
  by_cases e : s = i
  · subst e
    rw [upd_same]
    exact .nil fun k hk => by rw [withSlot_results h none hi, if_pos rfl] at hk; cases hk
  · rw [upd_ne _ _ e]
    exact (w.slot s).frame (by rw [withSlot_results h none hi, withSlot_results h (some a) hi, if_neg (Ne.symm e), if_neg (Ne.symm e)])
      rfl (fun _ _ => rfl) (fun _ _ => rfl) (fun _ _ => rfl)

theorem unlink_eq (h : Heap) (x : Nat) :
    h.unlink x = { h with next := upd h.next (h.prev x) (h.next x), prev := upd h.prev (h.next x) (h.prev x) } := by
  unfold Heap.unlink
  simp only
  have : upd h.next (h.prev x) (h.next x) x = h.next x := by
    simp only [upd_apply]; split <;> rfl
  rw [this]

/-- unlinking `x` from a cycle: `next (prev x) := next x; prev (next x) := prev x;` -/
theorem unlink_lists {nx pv : Nat → Nat} (A : List Nat) (x : Nat) (B : List Nat) (hnd : (A ++ x :: B).Nodup)
    (h : Cyc nx pv (A ++ x :: B)) (hne : A ++ B ≠ []) :
    Cyc (upd nx (pv x) (nx x)) (upd pv (nx x) (pv x)) (A ++ B) ∧ pv x ∈ A ++ B ∧ nx x ∈ A ++ B := by
  -- read from `x`, the rest `B ++ A` runs from `s = next x` to `p = prev x`
  have hndR : (B ++ A).Nodup :=
    (List.nodup_cons.1 ((List.perm_append_comm (l₁ := x :: B) (l₂ := A)).nodup_iff.2 hnd)).2
  have hne' : B ++ A ≠ [] := by simpa [and_comm] using hne
  have hs := List.head?_eq_some_head hne'
  have hp := List.getLast?_eq_some_getLast hne'
  have mem : ∀ k, k ∈ B ++ A → k ∈ A ++ B := fun k => List.perm_append_comm.mem_iff.1
  obtain ⟨_, ⟨e1, _⟩, cU, ⟨_, e2⟩⟩ := (cycR_append_iff (A := [x]) (hA := x) (lA := x) rfl rfl hs hp).1 (cycR_rot A (x :: B) (cyc_cycR.1 h).2)
  have c := cycR_close (r' := Link (upd nx (pv x) (nx x)) (upd pv (nx x) (pv x))) hndR hs hp cU
    (fun a b h1 h2 hl => ⟨(upd_ne _ _ (e2 ▸ h1)).trans hl.1, (upd_ne _ _ (e1 ▸ h2)).trans hl.2⟩)
    ⟨by rw [e2, e1]; exact upd_same .., by rw [e1, e2]; exact upd_same ..⟩
  exact ⟨cyc_cycR.2 ⟨hne, cycR_rot B A c⟩, e2 ▸ mem _ (List.mem_of_getLast? hp), e1 ▸ mem _ (List.mem_of_head? hs)⟩

/-- **Unlinking a node.**  `x` is a node of ring `s` that is not alone in it and not the node `results_[s]` points to:
after `op->prev->next = op->next; op->next->prev = op->prev;` the heap is well-formed with `x` erased from the ring. -/
theorem unlink_wf {h : Heap} {ring : Nat → List Nat} (w : RingsWF h ring) {s x : Nat} (hx : x ∈ ring s)
    (hne : h.next x ≠ x) (hslot : h.results[s]? ≠ some (some x)) :
    RingsWF (h.unlink x) (upd ring s ((ring s).erase x)) ∧ h.prev x ∈ (ring s).erase x ∧ h.next x ∈ (ring s).erase x := by
  obtain ⟨A, B, hAB⟩ := List.append_of_mem hx
  have hnd := w.nodup s
  rw [hAB] at hnd
  have hxA : x ∉ A := by
    intro m
    exact (List.nodup_append.mp hnd).2.2 x m x (by simp) rfl
  have hxB : x ∉ B := (List.nodup_cons.mp (List.nodup_append.mp hnd).2.1).1
  have herase : (ring s).erase x = A ++ B := by
    rw [hAB, List.erase_append_right _ hxA, List.erase_cons_head]
  have hcyc := w.cyc s (List.ne_nil_of_mem hx)
  rw [hAB] at hcyc
  have hABne : A ++ B ≠ [] := by
    intro e
    simp only [List.append_eq_nil_iff] at e
    obtain ⟨rfl, rfl⟩ := e
    have : Linked h.next h.prev [x, x] := hcyc
    exact hne this.1
  obtain ⟨c', mp, mn⟩ := unlink_lists A x B hnd hcyc hABne
  rw [herase]
  refine ⟨?_, mp, mn⟩
  rw [unlink_eq]
  have memS : ∀ k, k ∈ A ++ B → k ∈ ring s := by
    intro k hk; rw [hAB]
    simp only [List.mem_append, List.mem_cons] at hk ⊢
    rcases hk with hk | hk
    · exact Or.inl hk
    · exact Or.inr (Or.inr hk)
  refine RingsWF.of_slots fun t => ?_
  by_cases e : t = s
  · subst e
    rw [upd_same]
    exact ⟨fun k hk => herase ▸ (List.mem_erase_of_ne fun e : k = x => hslot (e ▸ hk)).mpr (w.slot_some t k hk),
      fun ht => absurd (w.slot_none t ht ▸ hx) List.not_mem_nil, fun _ => c', herase ▸ (w.nodup t).erase x,
      fun k hk => w.owner t k (memS k hk), fun k hk => w.lt t k (memS k hk)⟩
  · rw [upd_ne _ _ e]
    exact (w.slot t).frame rfl rfl (fun k hk => upd_ne _ _ fun e' => e (w.disjoint hk (e' ▸ memS _ mp)))
      (fun k hk => upd_ne _ _ fun e' => e (w.disjoint hk (e' ▸ memS _ mn))) (fun _ _ => rfl)

theorem unlinkOpBack_spec (h : Heap) (x : Nat) :
    h.unlinkOpBack x = if h.next x = x then (none, h) else (some (h.prev x), h.unlink x) := by
  unfold Heap.unlinkOpBack
  split
  · rfl
  · rename_i hne
    rw [unlink_eq]
    have : upd h.prev (h.next x) (h.prev x) x = h.prev x := by
      simp only [upd_apply]; split <;> rfl
    simp only [this]

theorem unlinkOp_spec (h : Heap) (x : Nat) :
    h.unlinkOp x = if h.next x = x then (none, h) else (some (h.next x), h.unlink x) := by
  unfold Heap.unlinkOp
  split
  · rfl
  · rw [unlink_eq]
    have : upd h.next (h.prev x) (h.next x) x = h.next x := by
      simp only [upd_apply]; split <;> rfl
    simp only [this]

/-- what the collinear pass of `CheckEdges` leaves untouched -/
structure CollFrame (h h1 : Heap) : Prop where
  n : h1.n = h.n
  pt : h1.pt = h.pt
  owner : h1.owner = h.owner
  edge : h1.edge = h.edge
  edges : h1.edges = h.edges
  results : h1.results = h.results

theorem CollFrame.refl (h : Heap) : CollFrame h h := ⟨rfl, rfl, rfl, rfl, rfl, rfl⟩

theorem CollFrame.trans {a b c : Heap} (h1 : CollFrame a b) (h2 : CollFrame b c) : CollFrame a c := by
  obtain ⟨a1, a2, a3, a4, a5, a6⟩ := h1
  obtain ⟨b1, b2, b3, b4, b5, b6⟩ := h2
  exact ⟨b1.trans a1, b2.trans a2, b3.trans a3, b4.trans a4, b5.trans a5, b6.trans a6⟩

theorem collFrame_unlink (h : Heap) (x : Nat) : CollFrame h (h.unlink x) := ⟨rfl, rfl, rfl, rfl, rfl, rfl⟩

/-- outcome of the collinear pass on the ring of slot `i`: the ring `L` that is left is a subsequence of the old one -/
def CollOut (h1 : Heap) (i : Nat) (ring : Nat → List Nat) (op1 : Nat) (nc : Prop) : Option Nat → Prop
  | none => RingsWF (withSlot h1 i none) (upd ring i []) ∧ ¬ nc
  | some _ => ∃ L, L.Sublist (ring i) ∧ op1 ∈ L ∧ RingsWF (withSlot h1 i (some op1)) (upd ring i L) ∧ (nc → L = ring i)

/-- one iteration of the collinear pass of `CheckEdges`; the two copies of the removal code in the C++ (for `op2 == op` and
`op2 != op`) differ only in the node `op` continues with -/
theorem collinearLoop_succ (fuel : Nat) (h : Heap) (op op2 : Nat) :
    collinearLoop (fuel + 1) h op op2 =
      if h.collinearAt op2 then
        if h.next op2 = op2 then .ok (h, op, none)
        else
          let op' := if op2 = op then (h.unlink op2).prev (h.prev op2) else op
          if h.prev op2 ≠ op' then collinearLoop fuel (h.unlink op2) op' (h.prev op2) else .ok (h.unlink op2, op', some (h.prev op2))
      else if h.next op2 ≠ op then collinearLoop fuel h op (h.next op2) else .ok (h, op, some (h.next op2)) := by
  rw [collinearLoop]
  by_cases hc : h.collinearAt op2 = true
  · rw [if_pos hc, if_pos hc, unlinkOpBack_spec]
    by_cases hs : h.next op2 = op2
    · rw [if_pos hs, if_pos hs]; split <;> rfl
    · rw [if_neg hs, if_neg hs]
      by_cases ho : op2 = op
      · rw [if_pos ho, if_pos ho]
      · rw [if_neg ho, if_neg ho]
  · rw [if_neg hc, if_neg hc]

/-- **The collinear pass of `CheckEdges`** (first `do … while` loop), any fuel.  `results_[i]` is treated as the loop variable
`op` (the C++ writes it back after the loop). -/
theorem collinearLoop_wf (i : Nat) : ∀ (fuel : Nat) (h : Heap) (op op2 : Nat) (ring : Nat → List Nat),
    RingsWF (withSlot h i (some op)) ring → i < h.results.length → op2 ∈ ring i →
    ∀ h1 op1 r, collinearLoop fuel h op op2 = .ok (h1, op1, r) →
      CollFrame h h1 ∧ CollOut h1 i ring op1 (∀ x ∈ ring i, h.collinearAt x = false) r
  | 0, h, op, op2, ring, _, _, _ => fun _ _ _ e => by simp [collinearLoop] at e
  | fuel + 1, h, op, op2, ring, w, hi, h2 => by
    have hop : op ∈ ring i := w.slot_some i op (withSlot_get h i _ hi)
    -- a run that ends here
    have stop : ∀ {h' : Heap} {op' : Nat} {q : Option Nat},
        CollFrame h h' → CollOut h' i ring op' (∀ x ∈ ring i, h.collinearAt x = false) q →
        ∀ h1 op1 r, (Except.ok (h', op', q) : Except TFault (Heap × Nat × Option Nat)) = .ok (h1, op1, r) →
          CollFrame h h1 ∧ CollOut h1 i ring op1 (∀ x ∈ ring i, h.collinearAt x = false) r := by
      intro h' op' q fr out h1 op1 r e
      cases e; exact ⟨fr, out⟩
    rw [collinearLoop_succ]
    by_cases hcoll : h.collinearAt op2 = true
    · -- collinear: unlink op2
      rw [if_pos hcoll]
      have hnc : ¬ (∀ x ∈ ring i, h.collinearAt x = false) := fun hall => by rw [hall op2 h2] at hcoll; cases hcoll
      by_cases hself : h.next op2 = op2
      · -- the ring vanishes
        rw [if_pos hself]; exact stop (q := none) (CollFrame.refl _) ⟨withSlot_drop w hi, hnc⟩
      rw [if_neg hself]
      -- move the slot pointer away from op2, unlink, and continue
      have hpm := w.prev_mem h2
      have hslot : (withSlot h i (some (h.prev op2))).results[i]? ≠ some (some op2) := by
        rw [withSlot_get h i _ hi]
        intro e
        have : h.next (h.prev op2) = op2 := hpm.2
        rw [Option.some.inj (Option.some.inj e)] at this
        exact hself this
      obtain ⟨w1, mp, mn⟩ := unlink_wf (withSlot_move w hi hpm.1) h2 hself hslot
      have w1' : RingsWF (withSlot (h.unlink op2) i (some (h.prev op2))) (upd ring i ((ring i).erase op2)) := w1
      have hi' : i < (h.unlink op2).results.length := hi
      have sub : ((ring i).erase op2).Sublist (ring i) := List.erase_sublist
      -- the node the loop variable `op` continues with is still in the ring
      have ho : (if op2 = op then (h.unlink op2).prev (h.prev op2) else op) ∈ (ring i).erase op2 := by
        split
        · have := (w1'.prev_mem (s := i) (k := h.prev op2) (by rw [upd_same]; exact mp)).1
          rwa [upd_same] at this
        · rename_i hne2; exact (List.mem_erase_of_ne (fun e => hne2 e.symm)).mpr hop
      have w2 := withSlot_move w1' hi' (b := if op2 = op then (h.unlink op2).prev (h.prev op2) else op) (by rw [upd_same]; exact ho)
      dsimp only
      generalize (if op2 = op then (h.unlink op2).prev (h.prev op2) else op) = op' at ho w2 ⊢
      by_cases hq : h.prev op2 ≠ op'
      · rw [if_pos hq]
        have ih := collinearLoop_wf i fuel (h.unlink op2) op' (h.prev op2) _ w2 hi' (by rw [upd_same]; exact mp)
        intro h1 op1 r e
        obtain ⟨fr, out⟩ := ih h1 op1 r e
        refine ⟨(collFrame_unlink h op2).trans fr, ?_⟩
        cases r with
        | none => exact ⟨by simpa only [upd_upd] using out.1, hnc⟩
        | some z =>
          obtain ⟨L, hL, hm, wL, _⟩ := out
          simp only [upd_same, upd_upd] at hL wL
          exact ⟨L, hL.trans sub, hm, wL, fun hall => absurd hall hnc⟩
      · rw [if_neg hq]
        exact stop (q := some (h.prev op2)) (collFrame_unlink h op2) ⟨_, sub, ho, w2, fun hall => absurd hall hnc⟩
    · -- not collinear: advance
      rw [if_neg hcoll]
      have hn : h.next op2 ∈ ring i := (w.next_mem h2).1
      split
      · exact collinearLoop_wf i fuel h op (h.next op2) ring w hi hn
      · exact stop (q := some (h.next op2)) (CollFrame.refl _) ⟨ring i, List.Sublist.refl _, hop, by rw [upd_self_eq]; exact w, fun _ => rfl⟩

/-- the classification of `op2` touches only `edges_` / `op->edge`, and the only node it can enter is `op2` -/
theorem classify_spec (op2 : Nat) (c : UInt64) : ∀ (js : List Nat) (h : Heap),
    SameRings h (js.foldl (fun hh j => classifyOne hh op2 c j) h) ∧
      ∀ e k, some k ∈ (js.foldl (fun hh j => classifyOne hh op2 c j) h).edges e → some k ∈ h.edges e ∨ k = op2
  | [], h => ⟨SameRings.refl _, fun _ _ hk => Or.inl hk⟩
  | j :: js, h => by
    have one : SameRings h (classifyOne h op2 c j) ∧
        ∀ e k, some k ∈ (classifyOne h op2 c j).edges e → some k ∈ h.edges e ∨ k = op2 := by
      unfold classifyOne
      split
      · split <;> exact ⟨sameRings_addToEdge _ _ _, fun e k hk => (mem_edges_addToEdge hk).imp_right (·.1)⟩
      · exact ⟨SameRings.refl _, fun _ _ hk => Or.inl hk⟩
    have ih := classify_spec op2 c js (classifyOne h op2 c j)
    exact ⟨one.1.trans ih.1, fun e k hk => (ih.2 e k hk).elim (one.2 e k) Or.inr⟩

end Clipper.Lemmas.RCT

/-
The edge lists of `TidyEdges` as lists: weighted sums over a list (`wsum`, `occ`), lists some of whose entries were replaced by
`nullptr` (`Below`), what `cw[i] = …`, `UncoupleEdge` and `AddToEdge` do to the lists, and the relisting part of an iteration
("lots of work to get ready for the next loop") in a form that is uniform over its eight arms (`RelistOut`).
Core Lean only.
-/
import ClipperVerif.Lemmas.RectClipTidyWF
namespace Clipper.Lemmas.RCT
open Clipper Clipper.Model.RC Clipper.Model.RCT

/-- sum of a weight over the entries of an edge list -/
def wsum (f : Option Nat → Nat) (l : List (Option Nat)) : Nat := (l.map f).sum

theorem wsum_nil (f : Option Nat → Nat) : wsum f [] = 0 := rfl
theorem wsum_cons (f : Option Nat → Nat) (a : Option Nat) (l : List (Option Nat)) : wsum f (a :: l) = f a + wsum f l := by
  simp [wsum]
theorem wsum_append (f : Option Nat → Nat) (l1 l2 : List (Option Nat)) : wsum f (l1 ++ l2) = wsum f l1 + wsum f l2 := by
  simp [wsum]

theorem wsum_set (f : Option Nat → Nat) : ∀ (l : List (Option Nat)) (i : Nat) (v e : Option Nat), l[i]? = some e →
    wsum f (l.set i v) + f e = wsum f l + f v
  | [], i, v, e, h => by simp at h
  | a :: l, 0, v, e, h => by
    simp only [List.getElem?_cons_zero, Option.some.injEq] at h
    subst h
    simp only [List.set_cons_zero, wsum_cons]; omega
  | a :: l, i + 1, v, e, h => by
    simp only [List.getElem?_cons_succ] at h
    have := wsum_set f l i v e h
    simp only [List.set_cons_succ, wsum_cons]; omega

theorem wsum_set_none (f : Option Nat → Nat) (hf : f none = 0) (l : List (Option Nat)) (k : Nat) (v : Option Nat)
    (hk : k < l.length) : wsum f (l.set k v) = wsum f (l.set k none) + f v := by
  have e1 := wsum_set f l k v (l[k]'hk) (List.getElem?_eq_getElem hk)
  have e2 := wsum_set f l k none (l[k]'hk) (List.getElem?_eq_getElem hk)
  rw [hf] at e2; omega

theorem wsum_congr {f g : Option Nat → Nat} {l : List (Option Nat)} (h : ∀ e ∈ l, f e = g e) : wsum f l = wsum g l := by
  induction l with
  | nil => rfl
  | cons a l ih =>
    simp only [wsum_cons]
    rw [h a (by simp), ih (fun e he => h e (List.mem_cons_of_mem _ he))]

/-- how often node `k` occurs in a list -/
def occ (k : Nat) (l : List (Option Nat)) : Nat := wsum (fun e => if e = some k then 1 else 0) l

theorem occ_pos_iff (k : Nat) : ∀ (l : List (Option Nat)), 0 < occ k l ↔ some k ∈ l
  | [] => by simp [occ, wsum_nil]
  | a :: l => by
    have ih := occ_pos_iff k l
    unfold occ at ih ⊢
    simp only [wsum_cons, List.mem_cons]
    by_cases h : a = some k
    · simp only [h, if_true, true_or, iff_true]; omega
    · have h' : ¬ some k = a := fun e => h e.symm
      simp only [h, if_false, Nat.zero_add, h', false_or]; exact ih

theorem occ_zero_iff (k : Nat) (l : List (Option Nat)) : occ k l = 0 ↔ some k ∉ l := by
  rw [← occ_pos_iff]; omega

theorem occ_set_none (k : Nat) (l : List (Option Nat)) (i X : Nat) (hX : l[i]? = some (some X)) :
    occ k (l.set i none) + (if X = k then 1 else 0) = occ k l := by
  have := wsum_set (fun e => if e = some k then 1 else 0) l i none (some X) hX
  simpa only [occ, Option.some.injEq, reduceCtorEq, if_false, Nat.add_zero] using this

/-- sum of a weight over the placed nodes -/
def psum (f : Option Nat → Nat) (l : List Nat) : Nat := (l.map (fun k => f (some k))).sum

theorem psum_nil (f : Option Nat → Nat) : psum f [] = 0 := rfl
theorem psum_cons (f : Option Nat → Nat) (a : Nat) (l : List Nat) : psum f (a :: l) = f (some a) + psum f l := by
  simp [psum]
theorem psum_append (f : Option Nat → Nat) (l1 l2 : List Nat) : psum f (l1 ++ l2) = psum f l1 + psum f l2 := by
  simp [psum]

theorem wsum_map_some (f : Option Nat → Nat) (l : List Nat) : wsum f (l.map some) = psum f l := by
  simp [wsum, psum, Function.comp_def]

theorem psum_toList (f : Option Nat → Nat) (hf : f none = 0) (v : Option Nat) : psum f v.toList = f v := by
  cases v with
  | none => exact hf.symm
  | some x => simp [psum]

/-- `l'` is `l` with some entries replaced by `nullptr` -/
def Below (l' l : List (Option Nat)) : Prop := l'.length = l.length ∧ ∀ m : Nat, l'[m]? = l[m]? ∨ l'[m]? = some none

theorem Below.refl (l : List (Option Nat)) : Below l l := ⟨rfl, fun _ => Or.inl rfl⟩

theorem below_nullFirst (op : Nat) : ∀ (l : List (Option Nat)), Below (nullFirst op l) l
  | [] => Below.refl _
  | x :: l => by
    simp only [nullFirst]
    split
    · exact ⟨rfl, fun m => by cases m with | zero => right; rfl | succ m => left; rfl⟩
    · have ih := below_nullFirst op l
      exact ⟨by simp [ih.1], fun m => by cases m with | zero => left; rfl | succ m => simpa using ih.2 m⟩

theorem below_set_none (l : List (Option Nat)) (i : Nat) : Below (l.set i none) l := by
  refine ⟨by simp, fun m => ?_⟩
  rw [List.getElem?_set]
  split
  · split
    · right; rfl
    · rename_i e1 e2; left; rw [← e1]; rw [List.getElem?_eq_none (by omega)]
  · left; rfl

theorem Below.set {l' l : List (Option Nat)} (hb : Below l' l) (j : Nat) (v : Option Nat) : Below (l'.set j v) (l.set j v) := by
  refine ⟨by simp [hb.1], fun m => ?_⟩
  rw [List.getElem?_set, List.getElem?_set, hb.1]
  split
  · left; rfl
  · exact hb.2 m

theorem Below.mem {l' l : List (Option Nat)} (hb : Below l' l) {k : Nat} (hk : some k ∈ l') : some k ∈ l := by
  rcases List.mem_iff_getElem?.mp hk with ⟨m, hm⟩
  rcases hb.2 m with e | e
  · exact List.mem_iff_getElem?.mpr ⟨m, by rw [← e]; exact hm⟩
  · rw [e] at hm; cases hm

theorem Below.wsum_le (f : Option Nat → Nat) (hf : f none = 0) : ∀ {l' l : List (Option Nat)}, Below l' l → wsum f l' ≤ wsum f l
  | [], [], _ => Nat.le_refl _
  | [], _ :: _, hb => by have := hb.1; simp at this
  | _ :: _, [], hb => by have := hb.1; simp at this
  | a :: l', b :: l, hb => by
    have ih := Below.wsum_le f hf (l' := l') (l := l) ⟨by simpa using hb.1, fun m => by simpa using hb.2 (m + 1)⟩
    have h0 := hb.2 0
    simp only [List.getElem?_cons_zero, Option.some.injEq] at h0
    simp only [wsum_cons]
    rcases h0 with e | e
    · rw [e]; omega
    · rw [e, hf]; omega

theorem wsum_nullFirst_le (f : Option Nat → Nat) (hf : f none = 0) (op : Nat) : ∀ (l : List (Option Nat)),
    wsum f (nullFirst op l) ≤ wsum f l :=
  fun l => (below_nullFirst op l).wsum_le f hf

theorem mem_of_mem_set_none {l : List (Option Nat)} {i k : Nat} (hm : some k ∈ l.set i none) : some k ∈ l :=
  (below_set_none l i).mem hm

/-- an entry of `l` with `l[k] := v` is `v` or an entry at another position -/
theorem mem_set_none {l : List (Option Nat)} {k : Nat} {v : Option Nat} {x : Nat} (hm : some x ∈ l.set k v) :
    v = some x ∨ some x ∈ l.set k none := by
  rcases List.mem_iff_getElem?.mp hm with ⟨m, hm'⟩
  rw [List.getElem?_set] at hm'
  split at hm'
  · split at hm'
    · left; simpa using hm'
    · cases hm'
  · rename_i e
    exact Or.inr (List.mem_iff_getElem?.mpr ⟨m, by rw [List.getElem?_set, if_neg e]; exact hm'⟩)

theorem edges_setEdge (h : Heap) (e k : Nat) (v : Option Nat) (e' : Nat) :
    (h.setEdge e k v).edges e' = if e' = e then (h.edges e).set k v else h.edges e' := rfl

/-- `a[k1] = v1; b[k2] = v2;` for two different lists -/
theorem edges_setEdge2 (h : Heap) {e1 e2 : Nat} (hne : e1 ≠ e2) (k1 k2 : Nat) (v1 v2 : Option Nat) :
    ((h.setEdge e1 k1 v1).setEdge e2 k2 v2).edges e1 = (h.edges e1).set k1 v1 ∧
    ((h.setEdge e1 k1 v1).setEdge e2 k2 v2).edges e2 = (h.edges e2).set k2 v2 ∧
    ∀ e, e ≠ e1 → e ≠ e2 → ((h.setEdge e1 k1 v1).setEdge e2 k2 v2).edges e = h.edges e := by
  refine ⟨?_, ?_, fun e n1 n2 => ?_⟩
  · rw [edges_setEdge, if_neg hne, edges_setEdge, if_pos rfl]
  · rw [edges_setEdge, if_pos rfl, edges_setEdge, if_neg (Ne.symm hne)]
  · rw [edges_setEdge, if_neg n2, edges_setEdge, if_neg n1]

/-- `UncoupleEdge(X)`: `X->edge` is null afterwards and every list only has entries nulled -/
theorem uncouple_facts (h : Heap) (X : Nat) :
    (h.uncoupleEdge X).edge X = none ∧ ∀ e, Below ((h.uncoupleEdge X).edges e) (h.edges e) := by
  unfold Heap.uncoupleEdge
  split
  · rename_i hn; exact ⟨hn, fun e => Below.refl _⟩
  · refine ⟨upd_same _ _ _, fun e => ?_⟩
    simp only [upd_apply]
    split
    · rename_i he; subst he; exact below_nullFirst _ _
    · exact Below.refl _

theorem addToEdge_of_none (h : Heap) (e X : Nat) (hn : h.edge X = none) (e' : Nat) :
    (h.addToEdge e X).edges e' = if e' = e then h.edges e ++ [some X] else h.edges e' := by
  unfold Heap.addToEdge
  rw [hn]
  rfl

/-- an entry after `AddToEdge(edges_[t], op)` is an old entry or the new one -/
theorem mem_edges_addToEdge {h : Heap} {t op e k : Nat} (hk : some k ∈ (h.addToEdge t op).edges e) :
    some k ∈ h.edges e ∨ (k = op ∧ e = t) := by
  unfold Heap.addToEdge at hk
  split at hk
  · exact Or.inl hk
  · simp only [upd_apply] at hk
    split at hk
    · rename_i he
      rcases List.mem_append.mp hk with m | m
      · exact Or.inl (he ▸ m)
      · simp only [List.mem_singleton, Option.some.injEq] at m
        exact Or.inr ⟨m, he⟩
    · exact Or.inl hk

/-- the nodes an arm of the relisting step writes into the two lists: `op`, or `op2`, or both — and both only if neither of the two
links has length zero (the field `placed` of `RelistOut`, as a predicate of the list) -/
def Placed (h5 : Heap) (op op2 : Nat) (l : List Nat) : Prop :=
  l = [op] ∨ l = [op2] ∨ ((l = [op, op2] ∨ l = [op2, op]) ∧ h5.pt op ≠ h5.pt (h5.prev op) ∧ h5.pt op2 ≠ h5.pt (h5.prev op2))

/-- what an arm of the relisting step leaves: `pcw` / `pccw` are the nodes written into the `cw` / `ccw` list (at `cw[i]`,
`ccw[j]` or appended); everything else in the two lists is an old entry at a position other than `i` resp. `j` -/
structure RelistOut (cwE ccwE : Nat) (cwTL isHorz : Bool) (h5 : Heap) (i j op op2 : Nat) (s' : TState) (pcw pccw : List Nat) :
    Prop where
  same : SameRings h5 s'.h
  memcw : ∀ k, some k ∈ s'.h.edges cwE → some k ∈ (h5.edges cwE).set i none ∨ k ∈ pcw
  memccw : ∀ k, some k ∈ s'.h.edges ccwE → some k ∈ (h5.edges ccwE).set j none ∨ k ∈ pccw
  sums : ∀ f : Option Nat → Nat, f none = 0 → wsum f (s'.h.edges cwE) + wsum f (s'.h.edges ccwE) ≤
    wsum f ((h5.edges cwE).set i none) + wsum f ((h5.edges ccwE).set j none) + psum f pcw + psum f pccw
  lens : (s'.h.edges cwE).length + (s'.h.edges ccwE).length + 1 ≤
    (h5.edges cwE).length + (h5.edges ccwE).length + (pcw ++ pccw).length
  dcw : ∀ k ∈ pcw, isLarger isHorz h5 k = cwTL
  dccw : ∀ k ∈ pccw, isLarger isHorz h5 k ≠ cwTL
  placed : (pcw ++ pccw = [op]) ∨ (pcw ++ pccw = [op2]) ∨
    (((pcw ++ pccw = [op, op2]) ∨ (pcw ++ pccw = [op2, op])) ∧
      h5.pt op ≠ h5.pt (h5.prev op) ∧ h5.pt op2 ≠ h5.pt (h5.prev op2))
  ile : s'.i ≤ (s'.h.edges cwE).length
  jle : s'.j ≤ (s'.h.edges ccwE).length
  others : ∀ e, e ≠ cwE → e ≠ ccwE → Below (s'.h.edges e) (h5.edges e)

section arms
variable {cwE ccwE : Nat} {cwTL isHorz : Bool} {h5 : Heap} {i j op op2 : Nat}

/-- The common shape of all arms.  The final heap `hh` has the rings of `h5`; its `cw` list is the old one with `cw[i] := vcw`,
possibly some entries nulled by `UncoupleEdge`, and the nodes `acw` appended by `AddToEdge`; likewise its `ccw` list; the other
lists only have entries nulled. -/
theorem RelistOut.of_lists (hi : i < (h5.edges cwE).length) (hj : j < (h5.edges ccwE).length) {hh : Heap} {i' j' : Nat}
    (sr : SameRings h5 hh) {vcw vccw : Option Nat} {acw accw pcw pccw : List Nat} {lcw lccw : List (Option Nat)}
    (hpcw : pcw = vcw.toList ++ acw) (hpccw : pccw = vccw.toList ++ accw) (hv : 1 ≤ (vcw.toList ++ vccw.toList).length)
    (ecw : hh.edges cwE = lcw ++ acw.map some) (bcw : Below lcw ((h5.edges cwE).set i vcw))
    (eccw : hh.edges ccwE = lccw ++ accw.map some) (bccw : Below lccw ((h5.edges ccwE).set j vccw))
    (oth : ∀ e, e ≠ cwE → e ≠ ccwE → Below (hh.edges e) (h5.edges e))
    (dcw : ∀ k ∈ pcw, isLarger isHorz h5 k = cwTL) (dccw : ∀ k ∈ pccw, isLarger isHorz h5 k ≠ cwTL)
    (placed : Placed h5 op op2 (pcw ++ pccw))
    (hi' : i' ≤ i + 1) (hj' : j' ≤ j + 1) :
    RelistOut cwE ccwE cwTL isHorz h5 i j op op2 ⟨hh, i', j'⟩ pcw pccw := by
  subst hpcw hpccw
  have mem : ∀ {l lb : List (Option Nat)} {a : List Nat} {v : Option Nat} {m k : Nat}, Below l (lb.set m v) →
      some k ∈ l ++ a.map some → some k ∈ lb.set m none ∨ k ∈ v.toList ++ a := by
    intro l lb a v m k b hk
    rcases List.mem_append.mp hk with hk | hk
    · rcases mem_set_none (b.mem hk) with e | e
      · exact Or.inr (by simp [e])
      · exact Or.inl e
    · exact Or.inr (List.mem_append_right _ (by simpa using hk))
  have sum : ∀ (f : Option Nat → Nat), f none = 0 → ∀ {l lb : List (Option Nat)} {a : List Nat} {v : Option Nat} {m : Nat},
      m < lb.length → Below l (lb.set m v) → wsum f (l ++ a.map some) ≤ wsum f (lb.set m none) + psum f (v.toList ++ a) := by
    intro f hf l lb a v m hm b
    have := b.wsum_le f hf
    rw [wsum_set_none f hf _ _ _ hm] at this
    rw [wsum_append, wsum_map_some, psum_append, psum_toList f hf]
    omega
  simp only [List.length_append] at hv
  refine ⟨sr, fun k hk => mem bcw (ecw ▸ hk), fun k hk => mem bccw (eccw ▸ hk), fun f hf => ?_, ?_, dcw, dccw, placed, ?_, ?_, oth⟩
  · have := sum f hf (a := acw) hi bcw
    have := sum f hf (a := accw) hj bccw
    simp only [ecw, eccw]; omega
  · simp only [ecw, eccw, List.length_append, List.length_map, bcw.1, bccw.1, List.length_set]; omega
  · simp only [ecw, List.length_append, bcw.1, List.length_set]; omega
  · simp only [eccw, List.length_append, bccw.1, List.length_set]; omega

/-- arms 0, 1 and 3: only `cw[i] = vcw; ccw[j] = vccw;` -/
theorem RelistOut.of_set (hi : i < (h5.edges cwE).length) (hj : j < (h5.edges ccwE).length) {hh : Heap} {i' j' : Nat}
    {vcw vccw : Option Nat} (hv : 1 ≤ (vcw.toList ++ vccw.toList).length)
    (he : hh.edges cwE = (h5.edges cwE).set i vcw ∧ hh.edges ccwE = (h5.edges ccwE).set j vccw ∧
      ∀ e, e ≠ cwE → e ≠ ccwE → hh.edges e = h5.edges e) (sr : SameRings h5 hh)
    (dcw : ∀ k ∈ vcw.toList, isLarger isHorz h5 k = cwTL) (dccw : ∀ k ∈ vccw.toList, isLarger isHorz h5 k ≠ cwTL)
    (placed : Placed h5 op op2 (vcw.toList ++ vccw.toList))
    (hi' : i' ≤ i + 1) (hj' : j' ≤ j + 1) :
    RelistOut cwE ccwE cwTL isHorz h5 i j op op2 ⟨hh, i', j'⟩ vcw.toList vccw.toList :=
  RelistOut.of_lists hi hj sr (acw := []) (accw := []) (List.append_nil _).symm (List.append_nil _).symm hv
    (by rw [he.1]; exact (List.append_nil _).symm) (Below.refl _) (by rw [he.2.1]; exact (List.append_nil _).symm) (Below.refl _)
    (fun e n1 n2 => by rw [he.2.2 e n1 n2]; exact Below.refl _) dcw dccw placed hi' hj'

/-- arms 0 and 1: `cw[i] = X; ccw[j++] = nullptr;` if `X` heads the way of the `cw` list, else `ccw[j] = X; cw[i++] = nullptr;` -/
theorem relist_one (hne : cwE ≠ ccwE) (hi : i < (h5.edges cwE).length) (hj : j < (h5.edges ccwE).length) (X : Nat)
    (hX : X = op ∨ X = op2) (b1 b2 : Branch) :
    ∃ b s' pcw pccw, (if isLarger isHorz h5 X = cwTL
        then TStep.next b1 ⟨(h5.setEdge cwE i (some X)).setEdge ccwE j none, i, j + 1⟩
        else TStep.next b2 ⟨(h5.setEdge ccwE j (some X)).setEdge cwE i none, i + 1, j⟩) = .next b s' ∧
      RelistOut cwE ccwE cwTL isHorz h5 i j op op2 s' pcw pccw := by
  have placed : Placed h5 op op2 [X] := by
    rcases hX with rfl | rfl
    · exact Or.inl rfl
    · exact Or.inr (Or.inl rfl)
  by_cases hl : isLarger isHorz h5 X = cwTL
  · rw [if_pos hl]
    exact ⟨_, _, _, _, rfl, RelistOut.of_set hi hj (vcw := some X) (vccw := none) (Nat.le_refl 1) (edges_setEdge2 h5 hne _ _ _ _)
      ((sameRings_setEdge _ _ _ _).trans (sameRings_setEdge _ _ _ _)) (fun k hk => by rw [List.mem_singleton.mp hk]; exact hl)
      (fun k hk => by cases hk) placed (by omega) (by omega)⟩
  · rw [if_neg hl]
    have p := edges_setEdge2 h5 (Ne.symm hne) j i (some X) none
    exact ⟨_, _, _, _, rfl, RelistOut.of_set hi hj (vcw := none) (vccw := some X) (Nat.le_refl 1) ⟨p.2.1, p.1, fun e n1 n2 => p.2.2 e n2 n1⟩
      ((sameRings_setEdge _ _ _ _).trans (sameRings_setEdge _ _ _ _)) (fun k hk => by cases hk)
      (fun k hk => by rw [List.mem_singleton.mp hk]; exact hl) placed (by omega) (by omega)⟩

/-- arm 2, both links head the way of the `cw` list: `cw[i] = op; UncoupleEdge(op2); AddToEdge(cw, op2); ccw[j++] = nullptr;` -/
theorem relist_two_cw (hne : cwE ≠ ccwE) (hi : i < (h5.edges cwE).length) (hj : j < (h5.edges ccwE).length)
    (h1 : isLarger isHorz h5 op = cwTL) (h2 : isLarger isHorz h5 op2 = cwTL)
    (hp1 : h5.pt op ≠ h5.pt (h5.prev op)) (hp2 : h5.pt op2 ≠ h5.pt (h5.prev op2)) :
    RelistOut cwE ccwE cwTL isHorz h5 i j op op2
      ⟨((((h5.setEdge cwE i (some op)).uncoupleEdge op2).addToEdge cwE op2).setEdge ccwE j none), i, j + 1⟩ [op, op2] [] := by
  have uf := uncouple_facts (h5.setEdge cwE i (some op)) op2
  have ea := addToEdge_of_none ((h5.setEdge cwE i (some op)).uncoupleEdge op2) cwE op2 uf.1
  refine RelistOut.of_lists hi hj
    ((((sameRings_setEdge _ _ _ _).trans (sameRings_uncouple _ _)).trans (sameRings_addToEdge _ _ _)).trans (sameRings_setEdge _ _ _ _))
    (vcw := some op) (vccw := none) (acw := [op2]) (accw := []) rfl rfl (Nat.le_refl 1)
    (lcw := ((h5.setEdge cwE i (some op)).uncoupleEdge op2).edges cwE)
    (lccw := (((h5.setEdge cwE i (some op)).uncoupleEdge op2).edges ccwE).set j none) ?_ ?_ ?_ ?_ ?_ ?_ (fun k hk => by cases hk)
    (Or.inr (Or.inr ⟨Or.inl rfl, hp1, hp2⟩)) (by omega) (by omega)
  · rw [edges_setEdge, if_neg hne, ea, if_pos rfl]; rfl
  · have := uf.2 cwE; rwa [edges_setEdge, if_pos rfl] at this
  · rw [edges_setEdge, if_pos rfl, ea, if_neg (Ne.symm hne)]; exact (List.append_nil _).symm
  · have := uf.2 ccwE; rw [edges_setEdge, if_neg (Ne.symm hne)] at this; exact this.set j none
  · intro e n1 n2
    rw [edges_setEdge, if_neg n2, ea, if_neg n1]
    have := uf.2 e; rwa [edges_setEdge, if_neg n1] at this
  · intro k hk
    rcases List.mem_cons.mp hk with rfl | hk
    · exact h1
    · rw [List.mem_singleton.mp hk]; exact h2

/-- arm 2, both links head the way of the `ccw` list:
`cw[i++] = nullptr; ccw[j] = op2; UncoupleEdge(op); AddToEdge(ccw, op); j = 0;` -/
theorem relist_two_ccw (hne : cwE ≠ ccwE) (hi : i < (h5.edges cwE).length) (hj : j < (h5.edges ccwE).length)
    (h1 : isLarger isHorz h5 op ≠ cwTL) (h2 : isLarger isHorz h5 op2 ≠ cwTL)
    (hp1 : h5.pt op ≠ h5.pt (h5.prev op)) (hp2 : h5.pt op2 ≠ h5.pt (h5.prev op2)) :
    RelistOut cwE ccwE cwTL isHorz h5 i j op op2
      ⟨((((h5.setEdge cwE i none).setEdge ccwE j (some op2)).uncoupleEdge op).addToEdge ccwE op), i + 1, 0⟩ [] [op2, op] := by
  have uf := uncouple_facts ((h5.setEdge cwE i none).setEdge ccwE j (some op2)) op
  have ea := addToEdge_of_none (((h5.setEdge cwE i none).setEdge ccwE j (some op2)).uncoupleEdge op) ccwE op uf.1
  have p := edges_setEdge2 h5 hne i j none (some op2)
  refine RelistOut.of_lists hi hj
    ((((sameRings_setEdge _ _ _ _).trans (sameRings_setEdge _ _ _ _)).trans (sameRings_uncouple _ _)).trans (sameRings_addToEdge _ _ _))
    (vcw := none) (vccw := some op2) (acw := []) (accw := [op]) rfl rfl (Nat.le_refl 1)
    (lcw := (((h5.setEdge cwE i none).setEdge ccwE j (some op2)).uncoupleEdge op).edges cwE)
    (lccw := (((h5.setEdge cwE i none).setEdge ccwE j (some op2)).uncoupleEdge op).edges ccwE) ?_ ?_ ?_ ?_ ?_ (fun k hk => by cases hk) ?_
    (Or.inr (Or.inr ⟨Or.inr rfl, hp1, hp2⟩)) (by omega) (by omega)
  · rw [ea, if_neg hne]; exact (List.append_nil _).symm
  · have := uf.2 cwE; rwa [p.1] at this
  · rw [ea, if_pos rfl]; rfl
  · have := uf.2 ccwE; rwa [p.2.1] at this
  · intro e n1 n2
    rw [ea, if_neg n2]
    have := uf.2 e; rwa [p.2.2 e n1 n2] at this
  · intro k hk
    rcases List.mem_cons.mp hk with rfl | hk
    · exact h2
    · rw [List.mem_singleton.mp hk]; exact h1

end arms

/-- **The relisting step, uniformly over its arms** -/
theorem tidyRelist_out (cwE ccwE : Nat) (hne : cwE ≠ ccwE) (cwTL isHorz : Bool) (h5 : Heap) (i j op op2 : Nat) (rj : Bool)
    (hi : i < (h5.edges cwE).length) (hj : j < (h5.edges ccwE).length) :
    ∃ b s' pcw pccw, tidyRelist cwE ccwE cwTL isHorz h5 i j op op2 rj = .next b s' ∧
      RelistOut cwE ccwE cwTL isHorz h5 i j op op2 s' pcw pccw := by
  unfold tidyRelist
  by_cases hd1 : h5.next op = h5.prev op ∨ h5.pt op = h5.pt (h5.prev op)
  · rw [if_pos hd1]; exact relist_one hne hi hj op2 (Or.inr rfl) _ _
  rw [if_neg hd1]
  by_cases hd2 : h5.next op2 = h5.prev op2 ∨ h5.pt op2 = h5.pt (h5.prev op2)
  · rw [if_pos hd2]; exact relist_one hne hi hj op (Or.inl rfl) _ _
  rw [if_neg hd2]
  have hp1 : h5.pt op ≠ h5.pt (h5.prev op) := fun e => hd1 (Or.inr e)
  have hp2 : h5.pt op2 ≠ h5.pt (h5.prev op2) := fun e => hd2 (Or.inr e)
  have sr2 : ∀ e k v e' k' v', SameRings h5 ((h5.setEdge e k v).setEdge e' k' v') := fun _ _ _ _ _ _ =>
    (sameRings_setEdge _ _ _ _).trans (sameRings_setEdge _ _ _ _)
  by_cases hsame : isLarger isHorz h5 op = isLarger isHorz h5 op2
  · rw [if_pos hsame]
    by_cases hl : isLarger isHorz h5 op = cwTL
    · rw [if_pos hl]; exact ⟨_, _, _, _, rfl, relist_two_cw hne hi hj hl (hsame ▸ hl) hp1 hp2⟩
    · rw [if_neg hl]; exact ⟨_, _, _, _, rfl, relist_two_ccw hne hi hj hl (hsame ▸ hl) hp1 hp2⟩
  · rw [if_neg hsame]
    dsimp only
    -- arm 3: the two links head opposite ways; each node goes to the list of its direction
    by_cases hl : isLarger isHorz h5 op = cwTL
    · have hl2 : isLarger isHorz h5 op2 ≠ cwTL := fun e => hsame (hl.trans e.symm)
      rw [if_pos hl, if_neg hl2]
      exact ⟨_, _, _, _, rfl, RelistOut.of_set hi hj (vcw := some op) (vccw := some op2) (by simp) (edges_setEdge2 h5 hne _ _ _ _)
        (sr2 _ _ _ _ _ _) (fun k hk => by rw [List.mem_singleton.mp hk]; exact hl)
        (fun k hk => by rw [List.mem_singleton.mp hk]; exact hl2) (Or.inr (Or.inr ⟨Or.inl rfl, hp1, hp2⟩)) (by omega) (by omega)⟩
    · have hl2 : isLarger isHorz h5 op2 = cwTL := by
        cases h1 : isLarger isHorz h5 op <;> cases h2 : isLarger isHorz h5 op2 <;> cases cwTL <;> simp_all
      rw [if_neg hl, if_pos hl2]
      have p := edges_setEdge2 h5 (Ne.symm hne) j i (some op) (some op2)
      exact ⟨_, _, _, _, rfl, RelistOut.of_set hi hj (vcw := some op2) (vccw := some op) (by simp)
        ⟨p.2.1, p.1, fun e n1 n2 => p.2.2 e n2 n1⟩ (sr2 _ _ _ _ _ _) (fun k hk => by rw [List.mem_singleton.mp hk]; exact hl2)
        (fun k hk => by rw [List.mem_singleton.mp hk]; exact hl) (Or.inr (Or.inr ⟨Or.inr rfl, hp1, hp2⟩)) (by omega) (by omega)⟩

end Clipper.Lemmas.RCT

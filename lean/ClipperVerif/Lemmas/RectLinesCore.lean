/-
Pure integer geometry behind `GetIntersection` (clipper.rectclip.cpp) called from an outside location:
a segment starting in the closed half-plane beyond one side of a rectangle meets the closed rectangle iff it hits
one of the three rectangle edges that `GetIntersection` tries (the second one under its guard).

Everything is stated in *offsets from the first end point* `p` of the segment `p q`:
`u0 = left - p.x`, `u1 = right - p.x`, `a0 = top - p.y`, `a1 = bottom - p.y`, `dx = q.x - p.x`, `dy = q.y - p.y`,
so that translation invariance is built in and the mirror images / the transposed cases are instances of one lemma.
The chain is `HitR` (an edge is hit, Lemmas/RectClipCompleteGeom.lean) ⇒ `ParamO` (a common point exists) ⇒ `MeetsO`
(no separating axis) ⇒ `Arms` (one of the three edges tried is hit), the last step for a start point beyond a side.
A call from a point strictly inside is the same step seen from the far end of the segment (`reach_arms`).
Core Lean only.
-/
import ClipperVerif.Lemmas.RectClipCompleteGeom
namespace Clipper.Lemmas.RLC
open Clipper.Lemmas.RCG

/-- `x` and `y` have weakly opposite signs -/
def WOpp (x y : Int) : Prop := (x ≤ 0 ∧ 0 ≤ y) ∨ (y ≤ 0 ∧ 0 ≤ x)

/-- all four corners strictly on the same side of the line of the segment -/
def AllSame (g00 g10 g11 g01 : Int) : Prop :=
  (0 < g00 ∧ 0 < g10 ∧ 0 < g11 ∧ 0 < g01) ∨ (g00 < 0 ∧ g10 < 0 ∧ g11 < 0 ∧ g01 < 0)

/-- The closed segment from the origin to `(dx, dy)` meets the closed rectangle `[u0, u1] × [a0, a1]`
(separating-axis form: no side line of the rectangle and not the line of the segment separates them). -/
def MeetsO (u0 u1 a0 a1 dx dy : Int) : Prop :=
  ¬ (0 < u0 ∧ dx < u0) ∧ ¬ (u1 < 0 ∧ u1 < dx) ∧ ¬ (0 < a0 ∧ dy < a0) ∧ ¬ (a1 < 0 ∧ a1 < dy) ∧
  ¬ AllSame (u0 * dy - a0 * dx) (u1 * dy - a0 * dx) (u1 * dy - a1 * dx) (u0 * dy - a1 * dx)

/-- some point `(s/t)·(dx, dy)`, `0 ≤ s ≤ t`, of the segment lies in `[u0, u1] × [a0, a1]` -/
def ParamO (u0 u1 a0 a1 dx dy : Int) : Prop :=
  ∃ s t : Int, 0 < t ∧ 0 ≤ s ∧ s ≤ t ∧ t * u0 ≤ s * dx ∧ s * dx ≤ t * u1 ∧ t * a0 ≤ s * dy ∧ s * dy ≤ t * a1

/-- The three edges of `[u0, u1] × [a0, a1]` that `GetIntersection` tries from a location beyond the side `{c} × [a0, a1]`
(`c = u0` or `c = u1`): that side, the adjacent side at `a0` if the start point lies before it, the adjacent side at
`a1`. -/
def Arms (c u0 u1 a0 a1 dx dy : Int) : Prop :=
  HitR c a0 a1 dx dy ∨ (0 < a0 ∧ HitR a0 u0 u1 dy dx) ∨ HitR a1 u0 u1 dy dx

theorem wopp_neg {x y : Int} : WOpp (-x) (-y) ↔ WOpp x y := by unfold WOpp; omega

theorem nonneg_of_mul_nonneg_left {a b : Int} (ha : 0 < a) (h : 0 ≤ a * b) : 0 ≤ b :=
  Int.nonneg_of_mul_nonneg_right h ha
theorem nonpos_of_mul_nonpos_left {a b : Int} (ha : a < 0) (h : a * b ≤ 0) : 0 ≤ b := by
  have := nonneg_of_mul_nonneg_left (a := -a) (b := b) (by omega) (by rw [Int.neg_mul]; omega)
  exact this

theorem neg_cross (x y d e : Int) : (-x) * e - y * (-d) = -(x * e - y * d) := by
  rw [Int.neg_mul, Int.mul_neg]; omega
/-- the corner `(x, y)` seen from the other end `(d, e)` of the segment -/
theorem cross_rev (x y d e : Int) : (x - d) * (-e) - (y - e) * (-d) = -(x * e - y * d) := by grind

theorem allSame_neg {a b c d : Int} : AllSame (-a) (-b) (-c) (-d) ↔ AllSame a b c d := by unfold AllSame; omega

theorem meetsO_transpose {u0 u1 a0 a1 dx dy : Int} : MeetsO a0 a1 u0 u1 dy dx ↔ MeetsO u0 u1 a0 a1 dx dy := by
  have e : AllSame (a0 * dx - u0 * dy) (a1 * dx - u0 * dy) (a1 * dx - u1 * dy) (a0 * dx - u1 * dy) ↔
      AllSame (u0 * dy - a0 * dx) (u1 * dy - a0 * dx) (u1 * dy - a1 * dx) (u0 * dy - a1 * dx) := by
    unfold AllSame; omega
  unfold MeetsO
  rw [e]
  constructor <;> rintro ⟨h1, h2, h3, h4, h5⟩ <;> exact ⟨h3, h4, h1, h2, h5⟩

theorem meetsO_mirror {u0 u1 a0 a1 dx dy : Int} : MeetsO (-u1) (-u0) a0 a1 (-dx) dy ↔ MeetsO u0 u1 a0 a1 dx dy := by
  have e : AllSame (-(u1 * dy - a0 * dx)) (-(u0 * dy - a0 * dx)) (-(u0 * dy - a1 * dx)) (-(u1 * dy - a1 * dx)) ↔
      AllSame (u0 * dy - a0 * dx) (u1 * dy - a0 * dx) (u1 * dy - a1 * dx) (u0 * dy - a1 * dx) := by
    unfold AllSame; omega
  unfold MeetsO
  simp only [neg_cross]
  rw [e, ← and_assoc, ← and_assoc (a := ¬ (0 < u0 ∧ dx < u0))]
  exact and_congr (by omega) Iff.rfl

/-- the same segment and rectangle in offsets from the other end point -/
theorem meetsO_rev {u0 u1 a0 a1 dx dy : Int} :
    MeetsO (u0 - dx) (u1 - dx) (a0 - dy) (a1 - dy) (-dx) (-dy) ↔ MeetsO u0 u1 a0 a1 dx dy := by
  unfold MeetsO
  simp only [cross_rev, allSame_neg]
  exact and_congr (by omega) (and_congr (by omega) (and_congr (by omega) (and_congr (by omega) Iff.rfl)))

theorem paramO_transpose {u0 u1 a0 a1 dx dy : Int} : ParamO a0 a1 u0 u1 dy dx ↔ ParamO u0 u1 a0 a1 dx dy := by
  constructor <;> rintro ⟨s, t, h1, h2, h3, h4, h5, h6, h7⟩ <;> exact ⟨s, t, h1, h2, h3, h6, h7, h4, h5⟩

theorem paramO_mirror {u0 u1 a0 a1 dx dy : Int} (h : ParamO (-u1) (-u0) a0 a1 (-dx) dy) :
    ParamO u0 u1 a0 a1 dx dy := by
  obtain ⟨s, t, h⟩ := h
  simp only [Int.mul_neg] at h
  exact ⟨s, t, by omega⟩

/-- the common point is the one with parameter `c / dx` -/
theorem hitR_param {u0 u1 a0 a1 c dx dy : Int} (ha : a0 < a1) (hc0 : u0 ≤ c) (hc1 : c ≤ u1)
    (h : HitR c a0 a1 dx dy) : ParamO u0 u1 a0 a1 dx dy := by
  have pos : ∀ {u0 u1 c dx : Int}, u0 ≤ c → c ≤ u1 → 0 < dx → HitR c a0 a1 dx dy → ParamO u0 u1 a0 a1 dx dy := by
    intro u0 u1 c dx hc0 hc1 hdx h
    obtain ⟨-, h1, h2⟩ := h
    unfold Btw at h1 h2
    have f0 := Int.mul_lt_mul_of_pos_left ha hdx
    have f1 := Int.mul_le_mul_of_nonneg_left hc0 (Int.le_of_lt hdx)
    have f2 := Int.mul_le_mul_of_nonneg_left hc1 (Int.le_of_lt hdx)
    have c1 := Int.mul_comm dx c
    exact ⟨c, dx, by omega⟩
  rcases Int.lt_or_gt_of_ne h.1 with hd | hd
  · exact paramO_mirror (pos (c := -c) (by omega) (by omega) (by omega) ((hitR_neg1 c a0 a1 dx dy).mpr h))
  · exact pos hc0 hc1 hd h

theorem arms_param {c u0 u1 a0 a1 dx dy : Int} (hu : u0 < u1) (ha : a0 < a1) (hc0 : u0 ≤ c) (hc1 : c ≤ u1)
    (h : Arms c u0 u1 a0 a1 dx dy) : ParamO u0 u1 a0 a1 dx dy := by
  rcases h with h | ⟨_, h⟩ | h
  · exact hitR_param ha hc0 hc1 h
  · exact paramO_transpose.mp (hitR_param hu (Int.le_refl _) (Int.le_of_lt ha) h)
  · exact paramO_transpose.mp (hitR_param hu (Int.le_of_lt ha) (Int.le_refl _) h)

theorem sep_of_param {s t u dx : Int} (ht : 0 < t) (hs : 0 ≤ s) (hst : s ≤ t) (h : t * u ≤ s * dx) :
    ¬ (0 < u ∧ dx < u) := by
  rintro ⟨hu, hd⟩
  have f1 := Int.mul_le_mul_of_nonneg_right hst (Int.le_of_lt hu)
  have f3 := Int.mul_pos ht hu
  rcases Int.lt_or_eq_of_le hs with hs' | hs'
  · have f2 := Int.mul_lt_mul_of_pos_left hd hs'
    omega
  · rw [← hs', Int.zero_mul] at h; omega

theorem sep_of_param' {s t u dx : Int} (ht : 0 < t) (hs : 0 ≤ s) (hst : s ≤ t) (h : s * dx ≤ t * u) :
    ¬ (u < 0 ∧ u < dx) := by
  have := sep_of_param (u := -u) (dx := -dx) ht hs hst (by rw [Int.mul_neg, Int.mul_neg]; omega)
  omega

/-- the four corners of a rectangle around the origin are not strictly on one side of a line through the origin -/
theorem not_allSame_around {x0 x1 y0 y1 d e : Int} (hx0 : x0 ≤ 0) (hx1 : 0 ≤ x1) (hy0 : y0 ≤ 0) (hy1 : 0 ≤ y1) :
    ¬ AllSame (x0 * e - y0 * d) (x1 * e - y0 * d) (x1 * e - y1 * d) (x0 * e - y1 * d) := by
  unfold AllSame
  -- two opposite corners are weakly on opposite sides; which two depends on the quadrant of `(d, e)`
  rcases Int.le_total 0 d with hd | hd <;> rcases Int.le_total 0 e with he | he
  · have := Int.mul_nonneg hx1 he; have := Int.mul_nonpos_of_nonpos_of_nonneg hy0 hd
    have := Int.mul_nonpos_of_nonpos_of_nonneg hx0 he; have := Int.mul_nonneg hy1 hd
    omega
  · have := Int.mul_nonneg_of_nonpos_of_nonpos hx0 he; have := Int.mul_nonpos_of_nonpos_of_nonneg hy0 hd
    have := Int.mul_nonpos_of_nonneg_of_nonpos hx1 he; have := Int.mul_nonneg hy1 hd
    omega
  · have := Int.mul_nonneg hx1 he; have := Int.mul_nonpos_of_nonneg_of_nonpos hy1 hd
    have := Int.mul_nonpos_of_nonpos_of_nonneg hx0 he; have := Int.mul_nonneg_of_nonpos_of_nonpos hy0 hd
    omega
  · have := Int.mul_nonneg_of_nonpos_of_nonpos hx0 he; have := Int.mul_nonpos_of_nonneg_of_nonpos hy1 hd
    have := Int.mul_nonpos_of_nonneg_of_nonpos hx1 he; have := Int.mul_nonneg_of_nonpos_of_nonpos hy0 hd
    omega

theorem scale_cross (t s u a d e : Int) : t * (u * e - a * d) = (t * u - s * d) * e - (t * a - s * e) * d := by
  grind

theorem allSame_scale {t a b c d : Int} (ht : 0 < t) (h : AllSame a b c d) :
    AllSame (t * a) (t * b) (t * c) (t * d) := by
  rcases h with ⟨h1, h2, h3, h4⟩ | ⟨h1, h2, h3, h4⟩
  · exact Or.inl ⟨Int.mul_pos ht h1, Int.mul_pos ht h2, Int.mul_pos ht h3, Int.mul_pos ht h4⟩
  · exact Or.inr ⟨Int.mul_neg_of_pos_of_neg ht h1, Int.mul_neg_of_pos_of_neg ht h2,
      Int.mul_neg_of_pos_of_neg ht h3, Int.mul_neg_of_pos_of_neg ht h4⟩

theorem paramO_meets {u0 u1 a0 a1 dx dy : Int} (h : ParamO u0 u1 a0 a1 dx dy) : MeetsO u0 u1 a0 a1 dx dy := by
  obtain ⟨s, t, ht, hs, hst, h1, h2, h3, h4⟩ := h
  refine ⟨sep_of_param ht hs hst h1, sep_of_param' ht hs hst h2, sep_of_param ht hs hst h3,
    sep_of_param' ht hs hst h4, fun hA => ?_⟩
  -- scaled by `t` and moved to the common point, the rectangle lies around the origin
  apply not_allSame_around (x0 := t * u0 - s * dx) (x1 := t * u1 - s * dx) (y0 := t * a0 - s * dy)
    (y1 := t * a1 - s * dy) (d := dx) (e := dy) (by omega) (by omega) (by omega) (by omega)
  simp only [← scale_cross]
  exact allSame_scale ht hA

theorem hit_meets {c u0 u1 a0 a1 dx dy : Int} (ha : a0 < a1) (hc0 : u0 ≤ c) (hc1 : c ≤ u1)
    (h : HitR c a0 a1 dx dy) : MeetsO u0 u1 a0 a1 dx dy :=
  paramO_meets (hitR_param ha hc0 hc1 h)

theorem hitT_meets {c u0 u1 a0 a1 dx dy : Int} (hu : u0 < u1) (hc0 : a0 ≤ c) (hc1 : c ≤ a1)
    (h : HitR c u0 u1 dy dx) : MeetsO u0 u1 a0 a1 dx dy :=
  meetsO_transpose.mp (hit_meets hu hc0 hc1 h)

theorem arms_meets {c u0 u1 a0 a1 dx dy : Int} (hu : u0 < u1) (ha : a0 < a1) (hc0 : u0 ≤ c) (hc1 : c ≤ u1)
    (h : Arms c u0 u1 a0 a1 dx dy) : MeetsO u0 u1 a0 a1 dx dy :=
  paramO_meets (arms_param hu ha hc0 hc1 h)

theorem meetsO_of_end_in {u0 u1 a0 a1 dx dy : Int} (h1 : u0 ≤ dx) (h2 : dx ≤ u1) (h3 : a0 ≤ dy) (h4 : dy ≤ a1) :
    MeetsO u0 u1 a0 a1 dx dy :=
  paramO_meets ⟨1, 1, by omega⟩

/-- the start point lies on the line of the low side, the segment points away from the rectangle -/
theorem meets_start {u1 a0 a1 dx dy : Int} (hu : 0 < u1) (ha : a0 < a1) (hd : dx < 0)
    (M : MeetsO 0 u1 a0 a1 dx dy) : a0 ≤ 0 ∧ 0 ≤ a1 := by
  obtain ⟨-, -, sT, sB, nA⟩ := M
  rw [Int.zero_mul] at nA
  constructor
  · apply Int.not_lt.mp
    intro hc
    have f1 := Int.mul_neg_of_pos_of_neg hc hd
    have f2 := Int.mul_neg_of_pos_of_neg (show 0 < a1 by omega) hd
    have f3 := Int.mul_pos hu (show 0 < dy by omega)
    exact nA (Or.inl (by omega))
  · apply Int.not_lt.mp
    intro hc
    have f1 := Int.mul_pos_of_neg_of_neg (show a0 < 0 by omega) hd
    have f2 := Int.mul_pos_of_neg_of_neg hc hd
    have f3 := Int.mul_neg_of_pos_of_neg hu (show dy < 0 by omega)
    exact nA (Or.inr (by omega))

theorem hitR_start {a0 a1 dx dy : Int} (hd : dx ≠ 0) (h : a0 ≤ 0 ∧ 0 ≤ a1) : HitR 0 a0 a1 dx dy := by
  refine ⟨hd, by unfold Btw; omega, ?_⟩
  rw [Int.zero_mul, ← Int.mul_zero dx, btw_mul hd]
  exact Or.inl h

theorem hitR_end {c a0 a1 dy : Int} (hc : c ≠ 0) (h : a0 ≤ dy ∧ dy ≤ a1) : HitR c a0 a1 c dy :=
  ⟨hc, by unfold Btw; omega, (btw_mul hc).mpr (Or.inl h)⟩

/-- the second adjacent edge, once the line is known to pass the low edge on its high side -/
theorem adj_high {u0 u1 a1 dx dy : Int} (ha1 : a1 < 0) (hdy : dy ≤ a1)
    (g01 : 0 < u0 * dy - a1 * dx) (g11 : u1 * dy - a1 * dx ≤ 0) : HitR a1 u0 u1 dy dx := by
  have := Int.mul_comm dy u0
  have := Int.mul_comm dy u1
  exact ⟨by omega, Or.inr ⟨hdy, by omega⟩, Or.inr (by omega)⟩

/-- the first (guarded) adjacent edge, once the line is known to pass the low edge on its low side: mirror image -/
theorem adj_low {u0 u1 a0 dx dy : Int} (ha0 : 0 < a0) (hdy : a0 ≤ dy)
    (g00 : u0 * dy - a0 * dx < 0) (g10 : 0 ≤ u1 * dy - a0 * dx) : HitR a0 u0 u1 dy dx :=
  (hitR_neg1 a0 u0 u1 dy dx).mp (adj_high (by omega) (by omega) (by rw [Int.mul_neg, Int.neg_mul]; omega)
    (by rw [Int.mul_neg, Int.neg_mul]; omega))

/-- **Core, completeness direction.**  The segment starts at the origin, which is in the closed half-plane
`x ≤ u0` beyond the low side of the rectangle `[u0, u1] × [a0, a1]`, is not contained in the line of that side, and
meets the rectangle.  Then it hits the low edge, or starts below `a0` and hits the edge `y = a0`, or hits the edge
`y = a1`. -/
theorem meets_arms {u0 u1 a0 a1 dx dy : Int} (hu : u0 < u1) (ha : a0 < a1) (h0 : 0 ≤ u0)
    (hne : ¬ (u0 = 0 ∧ dx = 0)) (M : MeetsO u0 u1 a0 a1 dx dy) : Arms u0 u0 u1 a0 a1 dx dy := by
  rcases Int.lt_trichotomy dx u0 with hd | hd | hd
  · -- the end point is beyond the side as well: the start point must be on the edge
    have hu0 : u0 = 0 := by have := M.1; omega
    subst hu0
    exact Or.inl (hitR_start (by omega) (meets_start hu ha hd M))
  · -- the end point is on the line of the side: seen from there, the previous case
    subst hd
    have M' := meetsO_rev.mpr M
    rw [Int.sub_self] at M'
    have := meets_start (by omega) (by omega) (by omega) M'
    exact Or.inl (hitR_end (by omega) (by omega))
  · -- the segment goes across the line of the side, `g0 > g1` being the cross products at the two ends of the edge
    obtain ⟨-, -, sT, sB, nA⟩ := M
    have hdx : 0 < dx := by omega
    have f0 := Int.mul_lt_mul_of_pos_right ha hdx
    have ex : ∀ a, u1 * dy - a * dx - (u0 * dy - a * dx) = (u1 - u0) * dy := fun a => by rw [Int.sub_mul]; omega
    by_cases w1 : 0 < u0 * dy - a1 * dx
    · -- it passes the side beyond its high end
      have g11 : u1 * dy - a1 * dx ≤ 0 := Int.not_lt.mp fun hc => nA (Or.inl (by omega))
      have hdy : dy < 0 := Int.neg_of_mul_neg_right (show (u1 - u0) * dy < 0 by have := ex a1; omega) (by omega)
      have f1 := Int.mul_nonpos_of_nonneg_of_nonpos h0 (Int.le_of_lt hdy)
      have ha1 : a1 < 0 := Int.neg_of_mul_neg_left (show a1 * dx < 0 by omega) hdx
      exact Or.inr (Or.inr (adj_high ha1 (by omega) w1 g11))
    · by_cases w0 : u0 * dy - a0 * dx < 0
      · -- it passes the side before its low end
        have g10 : 0 ≤ u1 * dy - a0 * dx := Int.not_lt.mp fun hc => nA (Or.inr (by omega))
        have hdy : 0 < dy := Int.pos_of_mul_pos_right (show 0 < (u1 - u0) * dy by have := ex a0; omega) (by omega)
        have f1 := Int.mul_nonneg h0 (Int.le_of_lt hdy)
        have ha0 : 0 < a0 := Int.pos_of_mul_pos_left (show 0 < a0 * dx by omega) hdx
        exact Or.inr (Or.inl ⟨ha0, adj_low ha0 (by omega) w0 g10⟩)
      · -- it passes through the edge
        have := Int.mul_comm dx a0
        have := Int.mul_comm dx a1
        exact Or.inl ⟨by omega, Or.inl (by omega), Or.inl (by omega)⟩

/-- **Core.**  From a start point in the closed half-plane beyond the low side (and not along the line of that
side) the three arms succeed exactly when segment and rectangle meet. -/
theorem low_iff {u0 u1 a0 a1 dx dy : Int} (hu : u0 < u1) (ha : a0 < a1) (h0 : 0 ≤ u0) (hne : ¬ (u0 = 0 ∧ dx = 0)) :
    Arms u0 u0 u1 a0 a1 dx dy ↔ MeetsO u0 u1 a0 a1 dx dy :=
  ⟨arms_meets hu ha (Int.le_refl _) (Int.le_of_lt hu), meets_arms hu ha h0 hne⟩

/-- mirror image: start point beyond the high side -/
theorem high_iff {u0 u1 a0 a1 dx dy : Int} (hu : u0 < u1) (ha : a0 < a1) (h0 : u1 ≤ 0) (hne : ¬ (u1 = 0 ∧ dx = 0)) :
    Arms u1 u0 u1 a0 a1 dx dy ↔ MeetsO u0 u1 a0 a1 dx dy := by
  have h := low_iff (u0 := -u1) (u1 := -u0) (a0 := a0) (a1 := a1) (dx := -dx) (dy := dy) (by omega) ha (by omega)
    (by omega)
  unfold Arms at h
  rw [hitR_neg1, hitR_neg2, hitR_neg2, meetsO_mirror] at h
  exact h

/-- transposed: start point beyond the low side in the second coordinate -/
theorem lowT_iff {u0 u1 a0 a1 dx dy : Int} (hu : u0 < u1) (ha : a0 < a1) (h0 : 0 ≤ a0) (hne : ¬ (a0 = 0 ∧ dy = 0)) :
    Arms a0 a0 a1 u0 u1 dy dx ↔ MeetsO u0 u1 a0 a1 dx dy :=
  (low_iff ha hu h0 hne).trans meetsO_transpose

/-- transposed mirror image: start point beyond the high side in the second coordinate -/
theorem highT_iff {u0 u1 a0 a1 dx dy : Int} (hu : u0 < u1) (ha : a0 < a1) (h0 : a1 ≤ 0) (hne : ¬ (a1 = 0 ∧ dy = 0)) :
    Arms a1 a0 a1 u0 u1 dy dx ↔ MeetsO u0 u1 a0 a1 dx dy :=
  (high_iff ha hu h0 hne).trans meetsO_transpose

theorem meetsO_param {u0 u1 a0 a1 dx dy : Int} (hu : u0 < u1) (ha : a0 < a1) (M : MeetsO u0 u1 a0 a1 dx dy) :
    ParamO u0 u1 a0 a1 dx dy := by
  by_cases h1 : 0 < u0
  · exact arms_param hu ha (by omega) (by omega) ((low_iff hu ha (by omega) (by omega)).mpr M)
  by_cases h2 : u1 < 0
  · exact arms_param hu ha (by omega) (by omega) ((high_iff hu ha (by omega) (by omega)).mpr M)
  by_cases h3 : 0 < a0
  · exact paramO_transpose.mp
      (arms_param ha hu (by omega) (by omega) ((lowT_iff hu ha (by omega) (by omega)).mpr M))
  by_cases h4 : a1 < 0
  · exact paramO_transpose.mp
      (arms_param ha hu (by omega) (by omega) ((highT_iff hu ha (by omega) (by omega)).mpr M))
  exact ⟨0, 1, by omega⟩

/-- from a point strictly inside, a segment that reaches the line of the near edge meets that edge or, before it, one of
the two lateral edges: seen from its far end, which lies beyond the near side, it meets the rectangle -/
theorem reach_arms (A B P Q dx dy : Int) (hA : A < 0) (hB : 0 < B) (hP : P < 0) (hQ : 0 < Q) (hd : dx ≤ A) :
    HitR A P Q dx dy ∨ HitR P A B dy dx ∨ HitR Q A B dy dx := by
  have M : MeetsO (A - dx) (B - dx) (P - dy) (Q - dy) (-dx) (-dy) :=
    meetsO_of_end_in (by omega) (by omega) (by omega) (by omega)
  rcases meets_arms (by omega) (by omega) (by omega) (by omega) M with h | ⟨-, h⟩ | h
  · exact Or.inl ((hitR_swap _ _ _ _ _).mpr h)
  · exact Or.inr (Or.inl ((hitR_swap _ _ _ _ _).mpr h))
  · exact Or.inr (Or.inr ((hitR_swap _ _ _ _ _).mpr h))

/-- **The combinatorial core of completeness from inside.**  `A < 0 < B`, `P < 0 < Q` are the signed distances of a point
strictly inside to the four edge lines, `(dx, dy)` the vector to a point that is not strictly inside: the segment meets
one of the four edges.  (One case, `reach_arms`, and its three mirror images.) -/
theorem inside_hits (A B P Q dx dy : Int) (hA : A < 0) (hB : 0 < B) (hP : P < 0) (hQ : 0 < Q)
    (hout : ¬ (A < dx ∧ dx < B ∧ P < dy ∧ dy < Q)) :
    HitR A P Q dx dy ∨ HitR P A B dy dx ∨ HitR B P Q dx dy ∨ HitR Q A B dy dx := by
  by_cases h1 : dx ≤ A
  · rcases reach_arms A B P Q dx dy hA hB hP hQ h1 with h | h | h
    · exact Or.inl h
    · exact Or.inr (Or.inl h)
    · exact Or.inr (Or.inr (Or.inr h))
  by_cases h2 : B ≤ dx
  · rcases reach_arms (-B) (-A) P Q (-dx) dy (by omega) (by omega) hP hQ (by omega) with h | h | h
    · exact Or.inr (Or.inr (Or.inl ((hitR_neg1 _ _ _ _ _).mp h)))
    · exact Or.inr (Or.inl ((hitR_neg2 _ _ _ _ _).mp h))
    · exact Or.inr (Or.inr (Or.inr ((hitR_neg2 _ _ _ _ _).mp h)))
  by_cases h3 : dy ≤ P
  · rcases reach_arms P Q A B dy dx hP hQ hA hB h3 with h | h | h
    · exact Or.inr (Or.inl h)
    · exact Or.inl h
    · exact Or.inr (Or.inr (Or.inl h))
  · rcases reach_arms (-Q) (-P) A B (-dy) dx (by omega) (by omega) hA hB (by omega) with h | h | h
    · exact Or.inr (Or.inr (Or.inr ((hitR_neg1 _ _ _ _ _).mp h)))
    · exact Or.inl ((hitR_neg2 _ _ _ _ _).mp h)
    · exact Or.inr (Or.inr (Or.inl ((hitR_neg2 _ _ _ _ _).mp h)))

end Clipper.Lemmas.RLC

/-
For `Props/C01Region.lean`: the label table of a built input, sums over labelled edge lists, and the core of
the region theorem (coverage_1d read geometrically).  Core Lean only.
-/
import ClipperVerif.Lemmas.C01RegionWind
import ClipperVerif.Lemmas.C01RegionSweep
import ClipperVerif.Props.C01
namespace Clipper.Lemmas.C01Region
open Clipper Clipper.WindSpec Clipper.Model Clipper.Model.AelOrder Clipper.Model.SweepOrder Clipper.Model.SweepEvents
open Clipper.Lemmas.SweepOrder

theorem pathLabels_fst (off : Nat) (t : PathType) (p : Path) : (pathLabels off t p).map (·.1) = pathEdges off p := by
  simp [pathLabels, pathEdges, List.map_map, Function.comp_def]

theorem buildFrom_edges (t : PathType) : ∀ (ps : Paths) (off : Nat),
    (buildFrom off ps).edges = (labelsFrom off t ps).map (·.1) := by
  intro ps
  induction ps with
  | nil => intro off; rfl
  | cons p ps ih =>
    intro off
    simp only [buildFrom, labelsFrom]
    by_cases h : p.length < 3
    · simp [h, ih]
    · simp [h, ih, pathLabels_fst]

theorem buildFrom_edges_append (clip : Paths) : ∀ (subj : Paths) (off : Nat),
    (buildFrom off (subj ++ clip)).edges =
      (labelsFrom off .subject subj).map (·.1) ++ (buildFrom (off + totalLen subj) clip).edges := by
  intro subj
  induction subj with
  | nil => intro off; simp [labelsFrom, totalLen]
  | cons p ps ih =>
    intro off
    have e : off + totalLen (p :: ps) = off + p.length + totalLen ps := by simp [totalLen]; omega
    simp only [List.cons_append, buildFrom, labelsFrom, e]
    by_cases h : p.length < 3
    · simp [h, ih]
    · simp [h, ih, pathLabels_fst]

/-- **the label table lists exactly the edges of `build (subj ++ clip)`, in order** -/
theorem labelTbl_fst (subj clip : Paths) : (labelTbl subj clip).map (·.1) = (build (subj ++ clip)).edges := by
  show _ = (buildFrom 0 (subj ++ clip)).edges
  rw [buildFrom_edges_append, buildFrom_edges .clip]
  simp [labelTbl]

theorem labelsFrom_pt (t : PathType) : ∀ (ps : Paths) (off : Nat), ∀ r ∈ labelsFrom off t ps, r.2.1 = t := by
  intro ps
  induction ps with
  | nil => intro off r hr; simp [labelsFrom] at hr
  | cons p ps ih =>
    intro off r hr
    simp only [labelsFrom, List.mem_append] at hr
    rcases hr with hr | hr
    · split at hr
      · simp at hr
      · simp only [pathLabels, List.mem_map] at hr
        obtain ⟨_, _, rfl⟩ := hr
        rfl
    · exact ih _ r hr

theorem find_of_nodup {β : Type} : ∀ (tbl : List (SEdge × β)), (tbl.map (·.1)).Nodup → ∀ r ∈ tbl,
    tbl.find? (fun q => q.1 == r.1) = some r := by
  intro tbl
  induction tbl with
  | nil => intro _ r hr; cases hr
  | cons q tbl ih =>
    intro hnd r hr
    simp only [List.map_cons, List.nodup_cons] at hnd
    rcases List.mem_cons.1 hr with rfl | hr
    · simp
    · have hne : ¬ q.1 = r.1 := fun h => hnd.1 (h ▸ List.mem_map_of_mem (f := (·.1)) hr)
      have hb : (q.1 == r.1) = false := by simpa using hne
      rw [List.find?_cons, hb]
      exact ih hnd.2 r hr

/-- the labelling reads the table -/
theorem labOf_row (subj clip : Paths) (hnd : (build (subj ++ clip)).edges.Nodup) :
    ∀ r ∈ labelTbl subj clip, labOf subj clip r.1 = r.2 := by
  intro r hr
  rw [← labelTbl_fst] at hnd
  simp only [labOf, find_of_nodup _ hnd r hr]

/-- winding sum of type `t` over a list of sweep edges under a labelling -/
def labSum (lab : Lab) (t : PathType) (es : List SEdge) : Int :=
  (es.map (fun e => if (lab e).1 = t then (lab e).2 else 0)).sum

theorem sumT_tracks (lab : Lab) (t : PathType) : ∀ (l : Ael) (es : List SEdge), Tracks lab l es → sumT t l = labSum lab t es := by
  intro l
  induction l with
  | nil =>
    intro es h
    have : es = [] := by cases es with
      | nil => rfl
      | cons _ _ => simp [Tracks] at h
    subst this; rfl
  | cons x l ih =>
    intro es h
    cases es with
    | nil => simp [Tracks] at h
    | cons e es =>
      simp only [Tracks, List.map_cons, List.cons.injEq] at h
      obtain ⟨hk, hr⟩ := h
      simp only [key, labKey, Prod.mk.injEq] at hk
      simp only [sumT, labSum, List.map_cons, List.sum_cons, contrib, hk.1, hk.2.1, hk.2.2, and_true]
      rw [ih es hr]; rfl

theorem tracks_take {lab : Lab} {l : Ael} {es : List SEdge} (h : Tracks lab l es) (k : Nat) : Tracks lab (l.take k) (es.take k) := by
  unfold Tracks at *
  rw [List.map_take, List.map_take, h]

theorem labSum_perm (lab : Lab) (t : PathType) {es es' : List SEdge} (h : es.Perm es') : labSum lab t es = labSum lab t es' :=
  sum_perm (h.map _)

theorem sum_filter_ite {α : Type} (p : α → Bool) (f : α → Int) : ∀ (l : List α),
    (l.map (fun a => if p a = true then f a else 0)).sum = ((l.filter p).map f).sum := by
  intro l
  induction l with
  | nil => rfl
  | cons a l ih =>
    by_cases h : p a = true
    · simp [h, ih]
    · simp [h, ih]

theorem hotEdges_nil (l : Ael) : hotEdges l [] = [] := by cases l <;> rfl

theorem hotEdges_cons (e : Edge) (l : Ael) (s : SEdge) (es : List SEdge) :
    hotEdges (e :: l) (s :: es) = if e.isOpen = false ∧ e.hot = true then s :: hotEdges l es else hotEdges l es := by
  unfold hotEdges
  rw [List.zip_cons_cons, List.filter_cons]
  cases e.isOpen <;> cases e.hot <;> rfl

/-- number of hot closed edges of the L2 state whose sweep edge is strictly left of the point -/
def hotLeftCount (xn yn yd : Int) : Ael → List SEdge → Nat
  | e :: l, s :: es => (if e.isOpen = false ∧ e.hot = true ∧ leftOfPt s xn yn yd then 1 else 0) + hotLeftCount xn yn yd l es
  | _, _ => 0

theorem hotLeftCount_eq (xn yn yd : Int) : ∀ (l : Ael) (es : List SEdge),
    hotLeftCount xn yn yd l es = ((hotEdges l es).filter (fun e => decide (leftOfPt e xn yn yd))).length
  | [], _ => rfl
  | _ :: _, [] => by rw [hotEdges_nil]; rfl
  | e :: l, s :: es => by
    rw [hotEdges_cons, hotLeftCount, hotLeftCount_eq xn yn yd l es]
    by_cases hc : e.isOpen = false ∧ e.hot = true
    · rw [if_pos hc, List.filter_cons]
      by_cases hl : leftOfPt s xn yn yd
      · rw [if_pos ⟨hc.1, hc.2, hl⟩, if_pos (decide_eq_true hl), List.length_cons, Nat.add_comm]
      · rw [if_neg (fun h => hl h.2.2), if_neg (by simpa using hl), Nat.zero_add]
    · rw [if_neg hc, if_neg (fun h => hc ⟨h.1, h.2.1⟩), Nat.zero_add]

theorem hotLeftCount_none (xn yn yd : Int) : ∀ (l : Ael) (es : List SEdge), (∀ s ∈ es, ¬ leftOfPt s xn yn yd) →
    hotLeftCount xn yn yd l es = 0 := by
  intro l
  induction l with
  | nil => intro es _; simp [hotLeftCount]
  | cons e l ih =>
    intro es h
    cases es with
    | nil => simp [hotLeftCount]
    | cons s es =>
      simp only [hotLeftCount, h s (by simp), and_false, if_false, Nat.zero_add]
      exact ih es (fun x hx => h x (by simp [hx]))

/-- in a list along which "left of the point" is downward closed, the edges left of the point are a prefix, and the hot edges
left of the point are the hot edges of that prefix -/
theorem left_prefix (xn yn yd : Int) : ∀ (es : List SEdge) (l : Ael), l.length = es.length →
    es.Pairwise (fun a b => leftOfPt b xn yn yd → leftOfPt a xn yn yd) →
    ∃ k, es.filter (fun e => decide (leftOfPt e xn yn yd)) = es.take k ∧ hotLeftCount xn yn yd l es = hotCount (l.take k) := by
  intro es
  induction es with
  | nil => intro l _ _; exact ⟨0, rfl, by cases l <;> simp [hotLeftCount, hotCount]⟩
  | cons s es ih =>
    intro l hl hp
    cases l with
    | nil => simp at hl
    | cons e l =>
      rw [List.pairwise_cons] at hp
      by_cases hs : leftOfPt s xn yn yd
      · obtain ⟨k, h1, h2⟩ := ih l (by simpa using hl) hp.2
        refine ⟨k + 1, by simp [hs, h1], ?_⟩
        simp only [hotLeftCount, List.take_succ_cons, hotCount, h2, hs, and_true]
      · have hnone : ∀ x ∈ es, ¬ leftOfPt x xn yn yd := fun x hx hxl => hs (hp.1 x hx hxl)
        refine ⟨0, ?_, ?_⟩
        · have : es.filter (fun e => decide (leftOfPt e xn yn yd)) = [] :=
            List.filter_eq_nil_iff.2 (fun x hx => by simpa using hnone x hx)
          simp [hs, this]
        · simp only [hotLeftCount, hs, and_false, if_false, Nat.zero_add, List.take_zero, hotCount]
          exact hotLeftCount_none xn yn yd l es hnone

/-- **the core: `coverage_1d` read geometrically.**  An L2 state `l` satisfying the invariant that tracks a list `es` of sweep
edges along which "left of the point" is downward closed (e.g. sorted by x on the scanline of the point): the point is in the region
`inR` of the winding sums of the edges to its left IFF an odd number of hot edges is to its left. -/
theorem region_core (cfg : Cfg) (lab : Lab) (l : Ael) (es : List SEdge) (xn yn yd : Int)
    (hinv : Inv cfg l) (htr : Tracks lab l es)
    (hp : es.Pairwise (fun a b => leftOfPt b xn yn yd → leftOfPt a xn yn yd)) :
    inR cfg.ct cfg.fr (labSum lab .subject (es.filter (fun e => decide (leftOfPt e xn yn yd))))
        (labSum lab .clip (es.filter (fun e => decide (leftOfPt e xn yn yd)))) =
      decide (hotLeftCount xn yn yd l es % 2 = 1) := by
  obtain ⟨k, h1, h2⟩ := left_prefix xn yn yd es l (tracks_length htr) hp
  rw [h1, h2, ← sumT_tracks lab .subject _ _ (tracks_take htr k), ← sumT_tracks lab .clip _ _ (tracks_take htr k)]
  exact Clipper.Props.C01.coverage_1d cfg l hinv k

section SortMem
variable {α : Type} {le : α → α → Bool}

/-- a sorted list is left alone: no transposition, same list -/
theorem insertBefore_of_sorted (a : α) (l : List α) (h : ∀ x ∈ l, le a x = true) : insertBefore le a l = a :: l := by
  cases l with
  | nil => rfl
  | cons b l => simp [insertBefore, h b (by simp)]

theorem insSwaps_of_sorted (k : Nat) (a : α) (l : List α) (h : ∀ x ∈ l, le a x = true) : insSwaps le k a l = [] := by
  cases l with
  | nil => rfl
  | cons b l => simp [insSwaps, h b (by simp)]

theorem sort_of_sorted : ∀ (l : List α) (k : Nat), l.Pairwise (fun x y => le x y) →
    stableSort le l = l ∧ sortSwaps le k l = [] := by
  intro l
  induction l with
  | nil => intro k _; exact ⟨rfl, rfl⟩
  | cons a l ih =>
    intro k h
    rw [List.pairwise_cons] at h
    obtain ⟨e1, e2⟩ := ih (k + 1) h.2
    refine ⟨?_, ?_⟩
    · rw [stableSort_cons, e1]; exact insertBefore_of_sorted a l h.1
    · simp only [sortSwaps, e2, e1, List.nil_append]; exact insSwaps_of_sorted k a l h.1

end SortMem

theorem xDen_pos {e : SEdge} (h : e.Up) {yd : Int} (hd : 0 < yd) : 0 < xDen e.bot e.top yd := by
  unfold xDen; exact Int.mul_pos (by unfold SEdge.Up at h; omega) hd

theorem leAt_iff (yn yd : Int) (a b : SEdge) :
    leAt yn yd a b = true ↔ xNum a.bot a.top yn yd * xDen b.bot b.top yd ≤ xNum b.bot b.top yn yd * xDen a.bot a.top yd := by
  unfold leAt xLt; rw [decide_eq_true_iff]; omega

theorem leAt_trans {yn yd : Int} (hd : 0 < yd) (a b c : SEdge) (ha : a.Up) (hb : b.Up) (hc : c.Up)
    (h1 : leAt yn yd a b = true) (h2 : leAt yn yd b c = true) : leAt yn yd a c = true := by
  rw [leAt_iff] at *
  exact fle_trans (xDen_pos ha hd) (xDen_pos hb hd) (xDen_pos hc hd) h1 h2

theorem leAt_total (yn yd : Int) (a b : SEdge) : (leAt yn yd a b || leAt yn yd b a) = true := by
  simp only [Bool.or_eq_true, leAt_iff]; omega

/-- an edge left of (or at) an edge that is left of the point is left of the point -/
theorem leftOfPt_of_leAt {xn yn yd : Int} (hd : 0 < yd) {a b : SEdge} (ha : a.Up) (hb : b.Up)
    (h : leAt yn yd a b = true) (hl : leftOfPt b xn yn yd) : leftOfPt a xn yn yd := by
  rw [leAt_iff] at h
  -- as fractions: `x_a ≤ x_b < xn / yd`; `xDen e yd` is `exD e * yd`
  have h2 : xNum b.bot b.top yn yd * yd < xn * xDen b.bot b.top yd :=
    (Int.mul_assoc xn (exD b) yd) ▸ Int.mul_lt_mul_of_pos_right hl hd
  have h3 : xNum a.bot a.top yn yd * yd < xn * exD a * yd :=
    (Int.mul_assoc xn (exD a) yd).symm ▸ fle_lt_trans (xDen_pos ha hd) (xDen_pos hb hd) hd h h2
  exact Int.lt_of_mul_lt_mul_right h3 (Int.le_of_lt hd)

/-- the edges of a scanbeam sorted at a height: a permutation, in non-strict left-to-right order -/
theorem sortedAt_facts {yn yd : Int} (hd : 0 < yd) (es : List SEdge) (hup : ∀ e ∈ es, e.Up) :
    (sortedAt yn yd es).Perm es ∧ (sortedAt yn yd es).Pairwise (fun a b => leAt yn yd a b = true) :=
  ⟨stableSort_perm es, stableSort_sorted_mem (fun e => e.Up) (fun a b c ha hb hc => leAt_trans hd a b c ha hb hc)
    (fun a b _ _ => leAt_total yn yd a b) es hup⟩

theorem closed_of_sorted {xn yn yd : Int} (hd : 0 < yd) (es : List SEdge) (hup : ∀ e ∈ es, e.Up)
    (h : es.Pairwise (fun a b => leAt yn yd a b = true)) :
    es.Pairwise (fun a b => leftOfPt b xn yn yd → leftOfPt a xn yn yd) :=
  h.imp_of_mem (fun {a b} ha hb hab hl => leftOfPt_of_leAt hd (hup a ha) (hup b hb) hab hl)

theorem hotEdges_sublist : ∀ (l : Ael) (es : List SEdge), (hotEdges l es).Sublist es
  | [], _ => List.nil_sublist _
  | _ :: _, [] => by rw [hotEdges_nil]; exact List.Sublist.refl _
  | e :: l, s :: es => by
    rw [hotEdges_cons]
    split
    · exact List.Sublist.cons_cons _ (hotEdges_sublist l es)
    · exact List.Sublist.cons _ (hotEdges_sublist l es)

theorem hotEdges_length : ∀ (l : Ael) (es : List SEdge), l.length = es.length → (hotEdges l es).length = hotCount l
  | [], _, _ => rfl
  | _ :: _, [], h => by cases h
  | e :: l, s :: es, h => by
    have ih := hotEdges_length l es (Nat.succ.inj h)
    rw [hotEdges_cons, hotCount]
    split
    · rw [List.length_cons, ih, Nat.add_comm]
    · rw [ih, Nat.zero_add]

theorem hot_of_inv (cfg : Cfg) : ∀ (l l' : Ael) (s c : Int), InvFrom cfg s c l → InvFrom cfg s c l' →
    l.map key = l'.map key → (∀ e ∈ l, e.isOpen = false) → l.map (·.hot) = l'.map (·.hot) := by
  intro l
  induction l with
  | nil => intro l' s c _ _ hk _; cases l' with
    | nil => rfl
    | cons _ _ => simp at hk
  | cons e l ih =>
    intro l' s c h h' hk ho
    cases l' with
    | nil => simp at hk
    | cons e' l' =>
      simp only [List.map_cons, List.cons.injEq] at hk ⊢
      obtain ⟨hke, hkl⟩ := hk
      simp only [key, Prod.mk.injEq] at hke
      obtain ⟨k1, k2, k3⟩ := hke
      have hoe : e.isOpen = false := ho e (by simp)
      have hoe' : e'.isOpen = false := by rw [← k2]; exact hoe
      obtain ⟨hd, hw, hh⟩ := h.1 hoe
      obtain ⟨hd', hw', hh'⟩ := h'.1 hoe'
      have b1 := icc_boundary cfg.ct cfg.fr e.pt e.wc e.dx e.wc2 _ _ hd hw
      have b2 := icc_boundary cfg.ct cfg.fr e'.pt e'.wc e'.dx e'.wc2 _ _ hd' hw'
      have hc1 : ∀ t, contrib t e' = contrib t e := fun t => contrib_congr t e e' k1.symm k2.symm k3.symm
      refine ⟨?_, ?_⟩
      · rw [hh, hh', b1, b2, ← k1, ← k3]
      · have h2 := h'.2
        rw [hc1, hc1] at h2
        exact ih l' _ _ h.2 h2 hkl (fun x hx => ho x (by simp [hx]))

end Clipper.Lemmas.C01Region

/-
The well-formedness predicate `RingsWF` of a `RectClip64` heap, the effect of `SetNewOwner`, and the split / rejoin step of
`TidyEdges` (`tidySplice`) on well-formed heaps, in block coordinates; the invariant `TInv` of the `TidyEdges` loop and the heap
operations that leave the rings alone (`SameRings`).
Core Lean only.
-/
import ClipperVerif.Lemmas.RectClipTidy
namespace Clipper.Lemmas.RCT
open Clipper Clipper.Model.RC Clipper.Model.RCT
open Clipper.Model.HorzJoins (exists_head?_snoc nodup_length_le)

/-- **Well-formed rings.**  `ring s` lists, in `next` order, the nodes of the ring that `results_[s]` points into
(`[]` for a null or absent slot).  Rings are doubly linked cycles, a slot points into its own ring, every node of ring `s` has
`owner_idx = s` (so different slots have disjoint rings), and all ring nodes are nodes of `op_container_`. -/
structure RingsWF (h : Heap) (ring : Nat → List Nat) : Prop where
  slot_some : ∀ s k, h.results[s]? = some (some k) → k ∈ ring s
  slot_none : ∀ s, (∀ k, h.results[s]? ≠ some (some k)) → ring s = []
  cyc : ∀ s, ring s ≠ [] → Cyc h.next h.prev (ring s)
  nodup : ∀ s, (ring s).Nodup
  owner : ∀ s k, k ∈ ring s → h.owner k = s
  lt : ∀ s k, k ∈ ring s → k < h.n

/-- node `k` is in a ring that `results_` knows -/
def Live (h : Heap) (ring : Nat → List Nat) (k : Nat) : Prop := k ∈ ring (h.owner k)

theorem RingsWF.live_iff {h : Heap} {ring : Nat → List Nat} (w : RingsWF h ring) (k : Nat) :
    Live h ring k ↔ ∃ s, k ∈ ring s := by
  constructor
  · intro hk; exact ⟨_, hk⟩
  · rintro ⟨s, hs⟩; unfold Live; rw [w.owner s k hs]; exact hs

theorem RingsWF.slot_lt {h : Heap} {ring : Nat → List Nat} (w : RingsWF h ring) {s k : Nat} (hk : k ∈ ring s) :
    s < h.results.length := by
  apply Classical.byContradiction
  intro hn
  have : ring s = [] := w.slot_none s (by
    intro k' hk'
    have : h.results[s]? = none := List.getElem?_eq_none (by omega)
    rw [this] at hk'; cases hk')
  rw [this] at hk; cases hk

/-- the slot a split appends, `results_.size()`, has no ring yet -/
theorem ring_at_length {h : Heap} {ring : Nat → List Nat} (w : RingsWF h ring) : ring h.results.length = [] :=
  w.slot_none _ (by intro k hk; rw [List.getElem?_eq_none (Nat.le_refl _)] at hk; cases hk)

theorem RingsWF.slot_exists {h : Heap} {ring : Nat → List Nat} (w : RingsWF h ring) {s k : Nat} (hk : k ∈ ring s) :
    ∃ r, h.results[s]? = some (some r) := by
  apply Classical.byContradiction
  intro hn
  have : ring s = [] := w.slot_none s (fun k' hk' => hn ⟨k', hk'⟩)
  rw [this] at hk; cases hk

theorem RingsWF.disjoint {h : Heap} {ring : Nat → List Nat} (w : RingsWF h ring) {s t k : Nat}
    (hs : k ∈ ring s) (ht : k ∈ ring t) : s = t := by
  rw [← w.owner s k hs, w.owner t k ht]

theorem RingsWF.next_mem {h : Heap} {ring : Nat → List Nat} (w : RingsWF h ring) {s k : Nat} (hk : k ∈ ring s) :
    h.next k ∈ ring s ∧ h.prev (h.next k) = k :=
  cyc_next_mem (w.cyc s (List.ne_nil_of_mem hk)) hk

theorem RingsWF.prev_mem {h : Heap} {ring : Nat → List Nat} (w : RingsWF h ring) {s k : Nat} (hk : k ∈ ring s) :
    h.prev k ∈ ring s ∧ h.next (h.prev k) = k :=
  cyc_prev_mem (w.cyc s (List.ne_nil_of_mem hk)) hk

/-- what `RingsWF` asks of one slot `s` and its ring `L` -/
def SlotOK (h : Heap) (s : Nat) (L : List Nat) : Prop :=
  (∀ k, h.results[s]? = some (some k) → k ∈ L) ∧ ((∀ k, h.results[s]? ≠ some (some k)) → L = []) ∧
    (L ≠ [] → Cyc h.next h.prev L) ∧ L.Nodup ∧ (∀ k ∈ L, h.owner k = s) ∧ (∀ k ∈ L, k < h.n)

theorem RingsWF.slot {h : Heap} {ring : Nat → List Nat} (w : RingsWF h ring) (s : Nat) : SlotOK h s (ring s) :=
  ⟨w.slot_some s, w.slot_none s, w.cyc s, w.nodup s, w.owner s, w.lt s⟩

theorem RingsWF.of_slots {h : Heap} {ring : Nat → List Nat} (hs : ∀ s, SlotOK h s (ring s)) : RingsWF h ring :=
  ⟨fun s => (hs s).1, fun s => (hs s).2.1, fun s => (hs s).2.2.1, fun s => (hs s).2.2.2.1, fun s => (hs s).2.2.2.2.1,
    fun s => (hs s).2.2.2.2.2⟩

/-- a null or absent slot has no ring -/
theorem SlotOK.nil {h : Heap} {s : Nat} (hr : ∀ k, h.results[s]? ≠ some (some k)) : SlotOK h s [] :=
  ⟨fun k hk => absurd hk (hr k), fun _ => rfl, fun e => absurd rfl e, List.nodup_nil, fun _ hk => absurd hk List.not_mem_nil,
    fun _ hk => absurd hk List.not_mem_nil⟩

/-- a slot that points to the node `r` of the duplicate-free cycle `L` -/
theorem SlotOK.of_some {h : Heap} {s r : Nat} {L : List Nat} (hr : h.results[s]? = some (some r)) (hm : r ∈ L)
    (c : Cyc h.next h.prev L) (nd : L.Nodup) (ow : ∀ k ∈ L, h.owner k = s) (lt : ∀ k ∈ L, k < h.n) : SlotOK h s L :=
  ⟨fun _ hk => Option.some.inj (Option.some.inj (hr.symm.trans hk)) ▸ hm, fun hs => absurd hr (hs r), fun _ => c, nd, ow, lt⟩

/-- a slot that no write touches: `results_[s]` and the fields of the nodes of its ring are the same -/
theorem SlotOK.frame {h h' : Heap} {s : Nat} {L : List Nat} (o : SlotOK h s L) (hres : h'.results[s]? = h.results[s]?)
    (hn : h'.n = h.n) (hnx : ∀ x ∈ L, h'.next x = h.next x) (hpv : ∀ x ∈ L, h'.prev x = h.prev x)
    (how : ∀ x ∈ L, h'.owner x = h.owner x) : SlotOK h' s L := by
  obtain ⟨o1, o2, o3, o4, o5, o6⟩ := o
  exact ⟨hres ▸ o1, hres ▸ o2, fun hL => cyc_congr (o3 hL) hnx hpv, o4, fun k hk => (how k hk).trans (o5 k hk),
    fun k hk => hn ▸ o6 k hk⟩

theorem setOwnerLoop_spec (x idx : Nat) : ∀ (L : List Nat) (fuel : Nat) (h : Heap) (op2 : Nat),
    x ∉ L → Linked h.next h.prev (L ++ [x]) → op2 = (L ++ [x]).headD x → L.length < fuel →
    setOwnerLoop x idx fuel h op2 = .ok { h with owner := fun k => if k ∈ L then idx else h.owner k }
  | [], fuel, h, op2, _, _, ho, hf => by
    cases fuel with
    | zero => omega
    | succ f =>
      simp only [List.nil_append, List.headD_cons] at ho
      subst ho
      simp [setOwnerLoop]
  | y :: L, fuel, h, op2, hx, hl, ho, hf => by
    cases fuel with
    | zero => simp at hf
    | succ f =>
      simp only [List.cons_append, List.headD_cons] at ho
      subst ho
      have hne : op2 ≠ x := by
        intro e; exact hx (by simp [e])
      simp only [setOwnerLoop, ne_eq, hne, not_false_eq_true, if_true]
      have hx' : x ∉ L := fun m => hx (List.mem_cons_of_mem _ m)
      have hl' : Linked h.next h.prev (L ++ [x]) := linked_tail hl
      have := setOwnerLoop_spec x idx L f { h with owner := upd h.owner op2 idx } (h.next op2) hx' hl' (linked_head_next hl)
        (by simp at hf; omega)
      rw [this]
      congr 1
      have : (fun k => if k ∈ L then idx else upd h.owner op2 idx k) =
          (fun k => if k ∈ op2 :: L then idx else h.owner k) := by
        funext k
        by_cases hk : k ∈ L
        · simp [hk]
        · by_cases hk2 : k = op2
          · simp [hk2]
          · simp [hk, hk2, upd_ne]
      simp only [this]

/-- `SetNewOwner(x, idx)` on a well-formed cycle `c ∋ x` sets `owner_idx` of exactly the nodes of `c` and terminates -/
theorem setNewOwner_spec (h : Heap) (c : List Nat) (x idx : Nat) (hc : Cyc h.next h.prev c) (hnd : c.Nodup)
    (hlt : ∀ k ∈ c, k < h.n) (hx : x ∈ c) :
    h.setNewOwner x idx = .ok { h with owner := fun k => if k ∈ c then idx else h.owner k } := by
  obtain ⟨W, hW, hp⟩ := cyc_rotate_first hc hx
  have hndW : (x :: W).Nodup := hp.nodup_iff.mpr hnd
  have hlen : (x :: W).length ≤ h.n := nodup_length_le h.n _ hndW (fun k hk => hlt k (hp.mem_iff.mp hk))
  unfold Heap.setNewOwner
  have hl : Linked h.next h.prev (x :: (W ++ [x])) := hW
  have := setOwnerLoop_spec x idx W (h.n + 1) { h with owner := upd h.owner x idx } (h.next x)
    (List.nodup_cons.mp hndW).1 (linked_tail hl) (linked_head_next hl) (by simp at hlen; omega)
  rw [this]
  congr 1
  have : (fun k => if k ∈ W then idx else upd h.owner x idx k) = (fun k => if k ∈ c then idx else h.owner k) := by
    funext k
    have hm : k ∈ c ↔ k = x ∨ k ∈ W := by rw [← hp.mem_iff]; simp
    by_cases hk : k ∈ W
    · simp [hk, hm]
    · by_cases hk2 : k = x
      · subst hk2; simp [hx]
      · simp [hk, hk2, hm, upd_ne]
  simp only [this]

theorem results_split (res : List (Option Nat)) (s : Nat) (hs : s < res.length) (a b c : Nat) (t : Nat) :
    (((res ++ [some a]).set s (some b)).set res.length (some c))[t]? =
      if t = res.length then some (some c) else if t = s then some (some b) else res[t]? := by
  rw [List.getElem?_set, List.getElem?_set]
  simp only [List.length_set, List.length_append, List.length_cons, List.length_nil]
  by_cases h1 : t = res.length
  · subst h1; simp
  · have e1 : ¬ res.length = t := fun e => h1 e.symm
    simp only [e1, if_false, h1]
    by_cases h2 : t = s
    · subst h2
      have : t < res.length + (0 + 1) := by omega
      simp [this]
    · have e2 : ¬ s = t := fun e => h2 e.symm
      simp only [e2, if_false, h2]
      by_cases h3 : t < res.length
      · exact List.getElem?_append_left h3
      · have : (res ++ [some a])[t]? = none := List.getElem?_eq_none (by simp; omega)
        rw [this, List.getElem?_eq_none (by omega)]

/-- the heap after the four pointer writes of a split / rejoin, in block coordinates (see `split_lists`) -/
def relinked (h : Heap) (α β hU hV : Nat) : Heap :=
  { h with next := upd (upd h.next β hV) α hU, prev := upd (upd h.prev hV β) hU α }

/-- the heap after a split: `U` re-owned by the fresh slot, both slots set -/
def splitHeap (h : Heap) (α β hU hV q1a s : Nat) (U : List Nat) : Heap :=
  { relinked h α β hU hV with
    owner := fun k => if k ∈ U then h.results.length else h.owner k
    results := ((h.results ++ [some q1a]).set s (some hV)).set h.results.length (some hU) }

/-- **Split.**  `α ≠ β` are nodes of one ring `ring s`; the four pointer writes make `next β` follow `α` and `next α`
follow `β`.  The ring falls into the block `U` from `next β` to `α` and the block `V` from `next α` to `β`; `SetNewOwner` on a
node `q1a` of `U` with the fresh index `results_.size()` and the two `results_[…] = …` writes re-establish
well-formedness with `U` in the new slot and `V` in the old one. -/
theorem splice_split (h : Heap) (ring : Nat → List Nat) (w : RingsWF h ring) (α β s : Nat)
    (hα : α ∈ ring s) (hβ : β ∈ ring s) (hne : α ≠ β) (q1a hU hV : Nat) (ehU' : hU = h.next β) (ehV' : hV = h.next α) :
    ∃ U V : List Nat, (U ++ V).Perm (ring s) ∧ hU ∈ U ∧ α ∈ U ∧ hV ∈ V ∧ β ∈ V ∧
      (q1a ∈ U → ∃ h3, splicePost (relinked h α β hU hV) false q1a = .ok h3 ∧
        spliceSlots h3 hV hU = .ok (splitHeap h α β hU hV q1a s U) ∧
        RingsWF (splitHeap h α β hU hV q1a s U) (upd (upd ring s V) h.results.length U)) := by
  have hcyc := w.cyc s (List.ne_nil_of_mem hα)
  obtain ⟨W, hW, hp⟩ := cyc_rotate_last hcyc hβ
  have hαW : α ∈ W := by
    have : α ∈ W ++ [β] := hp.mem_iff.mpr hα
    simp only [List.mem_append, List.mem_singleton] at this
    rcases this with h | h
    · exact h
    · exact absurd h hne
  obtain ⟨U0, V0, rfl⟩ := List.append_of_mem hαW
  have e0 : U0 ++ α :: V0 ++ [β] = U0 ++ [α] ++ (V0 ++ [β]) := by simp
  rw [e0] at hW hp
  have hnd : (U0 ++ [α] ++ (V0 ++ [β])).Nodup := hp.nodup_iff.mpr (w.nodup s)
  obtain ⟨u, hu⟩ := exists_head?_snoc U0 α
  obtain ⟨v, hv⟩ := exists_head?_snoc V0 β
  obtain ⟨eV, eU, cU, cV⟩ := split_lists hnd hu List.getLast?_concat hv List.getLast?_concat hW
  obtain rfl : hU = u := ehU'.trans eU
  obtain rfl : hV = v := ehV'.trans eV
  have hUm := List.mem_of_head? hu
  have hVm := List.mem_of_head? hv
  have ndU : (U0 ++ [α]).Nodup := (List.nodup_append.mp hnd).1
  have ndV : (V0 ++ [β]).Nodup := (List.nodup_append.mp hnd).2.1
  have hdis : ∀ x ∈ U0 ++ [α], ∀ y ∈ V0 ++ [β], x ≠ y := (List.nodup_append.mp hnd).2.2
  have memS : ∀ k, k ∈ U0 ++ [α] ∨ k ∈ V0 ++ [β] ↔ k ∈ ring s := by
    intro k; rw [← hp.mem_iff]; exact List.mem_append.symm
  refine ⟨U0 ++ [α], V0 ++ [β], hp, hUm, by simp, hVm, by simp, ?_⟩
  intro hq
  have slt : s < h.results.length := w.slot_lt hα
  -- SetNewOwner(q1a, new_idx)
  have hlt : ∀ k ∈ U0 ++ [α], k < h.n := fun k hk => w.lt s k ((memS k).mp (Or.inl hk))
  have hpost := setNewOwner_spec ({ relinked h α β hU hV with results := h.results ++ [some q1a] } : Heap) (U0 ++ [α]) q1a h.results.length
    cU ndU hlt hq
  refine ⟨_, hpost, ?_, ?_⟩
  · -- the two results_ writes
    have o1 : ¬ hV ∈ U0 ++ [α] := fun m => hdis hV m hV hVm rfl
    have oV : h.owner hV = s := w.owner s hV ((memS hV).mp (Or.inr hVm))
    have l1 : s < h.results.length + (0 + 1) := by omega
    simp only [spliceSlots, Heap.setResult, relinked, o1, if_false, oV, List.length_append, List.length_cons, List.length_nil,
      l1, if_true, hUm, List.length_set, splitHeap]
    simp
  · have rs : ∀ t, (splitHeap h α β hU hV q1a s (U0 ++ [α])).results[t]? =
        if t = h.results.length then some (some hU) else if t = s then some (some hV) else h.results[t]? :=
      fun t => results_split h.results s slt q1a hV hU t
    refine RingsWF.of_slots fun t => ?_
    by_cases h1 : t = h.results.length
    · -- the fresh slot holds `U`
      subst h1
      rw [upd_same]
      exact .of_some (by rw [rs, if_pos rfl]) hUm cU ndU (fun k hk => if_pos hk) hlt
    rw [upd_ne _ _ h1]
    by_cases h2 : t = s
    · -- the old slot keeps `V`
      subst h2
      rw [upd_same]
      exact .of_some (by rw [rs, if_neg h1, if_pos rfl]) hVm cV ndV
        (fun k hk => (if_neg fun m => hdis k m k hk rfl).trans (w.owner t k ((memS k).mp (Or.inr hk))))
        fun k hk => w.lt t k ((memS k).mp (Or.inr hk))
    · -- the other slots are not touched
      rw [upd_ne _ _ h2]
      have notS : ∀ x ∈ ring t, x ∉ ring s := fun x hx hs => h2 (w.disjoint hx hs)
      refine (w.slot t).frame (by rw [rs, if_neg h1, if_neg h2]) rfl (fun x hx => ?_) (fun x hx => ?_) (fun x hx => ?_)
      · exact (upd_ne _ _ fun e : x = α => notS x hx (e ▸ hα)).trans (upd_ne _ _ fun e : x = β => notS x hx (e ▸ hβ))
      · exact (upd_ne _ _ fun e : x = hU => notS x hx (e ▸ (memS hU).mp (Or.inl hUm))).trans
          (upd_ne _ _ fun e : x = hV => notS x hx (e ▸ (memS hV).mp (Or.inr hVm)))
      · exact if_neg fun m => notS x hx ((memS x).mp (Or.inl m))

theorem results_rejoin (res : List (Option Nat)) (sk sp : Nat) (hk : sk < res.length) (hp : sp < res.length)
    (b c : Nat) (t : Nat) :
    (((res.set sk none).set sp (some b)).set sp (some c))[t]? =
      if t = sp then some (some c) else if t = sk then some none else res[t]? := by
  rw [List.getElem?_set, List.getElem?_set, List.getElem?_set]
  simp only [List.length_set]
  by_cases h1 : t = sp
  · subst h1; simp [hp]
  · have e1 : ¬ sp = t := fun e => h1 e.symm
    simp only [e1, if_false, h1]
    by_cases h2 : t = sk
    · subst h2; simp [hk]
    · have e2 : ¬ sk = t := fun e => h2 e.symm
      simp only [e2, if_false, h2]

/-- the heap after a rejoin: the ring `Ck` of slot `sk` re-owned by slot `sp`, slot `sk` cleared, slot `sp` set -/
def rejoinHeap (h : Heap) (α β hU hV sk sp : Nat) (Ck : List Nat) : Heap :=
  { relinked h α β hU hV with
    owner := fun k => if k ∈ Ck then sp else h.owner k
    results := ((h.results.set sk none).set sp (some hV)).set sp (some hU) }

/-- **Rejoin.**  `α` and `β` are nodes of two different rings; `q2` is a node of the ring whose slot `sk` is given up, `q1` a
node of the ring whose slot `sp` survives.  `results_[q2->owner_idx] = nullptr; SetNewOwner(q2, q1->owner_idx)`, the four
pointer writes and the two `results_[…] = …` writes re-establish well-formedness with one ring — all nodes of both —
in slot `sp` and nothing in slot `sk`. -/
theorem splice_rejoin (h : Heap) (ring : Nat → List Nat) (w : RingsWF h ring) (α β sa sb : Nat)
    (hα : α ∈ ring sa) (hβ : β ∈ ring sb) (hne : sa ≠ sb) (q1 q2 hU hV sk sp : Nat)
    (ehU' : hU = h.next β) (ehV' : hV = h.next α)
    (hs : (sk = sa ∧ sp = sb) ∨ (sk = sb ∧ sp = sa)) (hq2 : q2 ∈ ring sk) (hq1 : q1 ∈ ring sp) :
    ∃ h1, splicePre h true q1 q2 = .ok h1 ∧
      spliceSlots (relinked h1 α β hU hV) hV hU = .ok (rejoinHeap h α β hU hV sk sp (ring sk)) ∧
      ∃ J : List Nat, J.Perm (ring sb ++ ring sa) ∧ hU ∈ J ∧ hV ∈ J ∧
        RingsWF (rejoinHeap h α β hU hV sk sp (ring sk)) (upd (upd ring sk []) sp J) := by
  have hkp : sk ≠ sp := by rcases hs with ⟨rfl, rfl⟩ | ⟨rfl, rfl⟩; exact hne; exact hne.symm
  have oq2 : h.owner q2 = sk := w.owner sk q2 hq2
  have oq1 : h.owner q1 = sp := w.owner sp q1 hq1
  have lk : sk < h.results.length := w.slot_lt hq2
  have lp : sp < h.results.length := w.slot_lt hq1
  -- SetNewOwner on the ring of q2
  have hpre := setNewOwner_spec ({ h with results := h.results.set sk none } : Heap) (ring sk) q2 sp
    (w.cyc sk (List.ne_nil_of_mem hq2)) (w.nodup sk) (w.lt sk) hq2
  -- the two cycles, rotated
  obtain ⟨A0, hA, pA⟩ := cyc_rotate_last (w.cyc sb (List.ne_nil_of_mem hβ)) hβ
  obtain ⟨B0, hB, pB⟩ := cyc_rotate_last (w.cyc sa (List.ne_nil_of_mem hα)) hα
  have hdisj : ∀ x ∈ A0 ++ [β], ∀ y ∈ B0 ++ [α], x ≠ y := by
    intro x hx y hy e
    subst e
    exact hne (w.disjoint (pB.mem_iff.mp hy) (pA.mem_iff.mp hx))
  have hnd : (A0 ++ [β] ++ (B0 ++ [α])).Nodup :=
    List.nodup_append.mpr ⟨pA.nodup_iff.mpr (w.nodup sb), pB.nodup_iff.mpr (w.nodup sa), hdisj⟩
  obtain ⟨u, hu⟩ := exists_head?_snoc A0 β
  obtain ⟨v, hv⟩ := exists_head?_snoc B0 α
  obtain ⟨eU, eV, cJ⟩ := join_lists hnd hu List.getLast?_concat hv List.getLast?_concat hA hB
  obtain rfl : hU = u := ehU'.trans eU
  obtain rfl : hV = v := ehV'.trans eV
  have hUm := List.mem_of_head? hu
  have hVm := List.mem_of_head? hv
  have memJ : ∀ k, k ∈ A0 ++ [β] ++ (B0 ++ [α]) ↔ k ∈ ring sb ∨ k ∈ ring sa := by
    intro k; rw [List.mem_append, pA.mem_iff, pB.mem_iff]
  have memJ' : ∀ k, k ∈ A0 ++ [β] ++ (B0 ++ [α]) ↔ k ∈ ring sk ∨ k ∈ ring sp := by
    intro k; rw [memJ]
    rcases hs with ⟨rfl, rfl⟩ | ⟨rfl, rfl⟩
    · exact Or.comm
    · exact Iff.rfl
  have hUJ : hU ∈ ring sk ∨ hU ∈ ring sp := (memJ' hU).mp (List.mem_append.mpr (Or.inl hUm))
  have hVJ : hV ∈ ring sk ∨ hV ∈ ring sp := (memJ' hV).mp (List.mem_append.mpr (Or.inr hVm))
  have ownAfter : ∀ k, (k ∈ ring sk ∨ k ∈ ring sp) → (if k ∈ ring sk then sp else h.owner k) = sp := by
    intro k hk
    rcases hk with hk | hk
    · simp [hk]
    · split
      · rfl
      · exact w.owner sp k hk
  refine ⟨_, by simpa [splicePre, Heap.setResult, oq2, lk, oq1] using hpre, ?_, A0 ++ [β] ++ (B0 ++ [α]), ?_, ?_, ?_, ?_⟩
  · simp only [spliceSlots, Heap.setResult, relinked, ownAfter hV hVJ, ownAfter hU hUJ, List.length_set, lp, if_true,
      rejoinHeap]
  · exact List.Perm.append pA pB
  · exact List.mem_append.mpr (Or.inl hUm)
  · exact List.mem_append.mpr (Or.inr hVm)
  · have rs : ∀ t, (rejoinHeap h α β hU hV sk sp (ring sk)).results[t]? =
        if t = sp then some (some hU) else if t = sk then some none else h.results[t]? :=
      fun t => results_rejoin h.results sk sp lk lp hV hU t
    refine RingsWF.of_slots fun t => ?_
    by_cases h1 : t = sp
    · -- the surviving slot holds the joined ring
      subst h1
      rw [upd_same]
      exact .of_some (by rw [rs, if_pos rfl]) (List.mem_append.mpr (Or.inl hUm)) cJ hnd
        (fun k hk => ownAfter k ((memJ' k).mp hk)) fun k hk => ((memJ' k).mp hk).elim (w.lt sk k) (w.lt t k)
    rw [upd_ne _ _ h1]
    by_cases h2 : t = sk
    · -- the slot given up is empty
      subst h2
      rw [upd_same]
      exact .nil fun k ht => by rw [rs, if_neg h1, if_pos rfl] at ht; cases ht
    · -- the other slots are not touched
      rw [upd_ne _ _ h2]
      have notJ : ∀ x ∈ ring t, ¬ (x ∈ ring sk ∨ x ∈ ring sp) := fun x hx hj =>
        hj.elim (fun m => h2 (w.disjoint hx m)) (fun m => h1 (w.disjoint hx m))
      refine (w.slot t).frame (by rw [rs, if_neg h1, if_neg h2]) rfl (fun x hx => ?_) (fun x hx => ?_) (fun x hx => ?_)
      · exact (upd_ne _ _ fun e : x = α => notJ x hx (e ▸ (memJ' α).mp (by simp))).trans
          (upd_ne _ _ fun e : x = β => notJ x hx (e ▸ (memJ' β).mp (by simp)))
      · exact (upd_ne _ _ fun e : x = hU => notJ x hx (e ▸ hUJ)).trans (upd_ne _ _ fun e : x = hV => notJ x hx (e ▸ hVJ))
      · exact if_neg fun m => notJ x hx (Or.inl m)

/-- invariant of the `TidyEdges` loop: well-formed rings, and every entry of every edge list is a node of a live ring -/
structure TInv (h : Heap) (ring : Nat → List Nat) : Prop where
  w : RingsWF h ring
  el : ∀ e k, some k ∈ h.edges e → ∃ s, k ∈ ring s

/-- `h'` differs from `h` at most in `edges_` and the `edge` fields -/
def SameRings (h h' : Heap) : Prop :=
  h'.n = h.n ∧ h'.pt = h.pt ∧ h'.next = h.next ∧ h'.prev = h.prev ∧ h'.owner = h.owner ∧ h'.results = h.results

theorem SameRings.refl (h : Heap) : SameRings h h := ⟨rfl, rfl, rfl, rfl, rfl, rfl⟩

theorem SameRings.trans {a b c : Heap} (h1 : SameRings a b) (h2 : SameRings b c) : SameRings a c := by
  obtain ⟨a1, a2, a3, a4, a5, a6⟩ := h1
  obtain ⟨b1, b2, b3, b4, b5, b6⟩ := h2
  exact ⟨b1.trans a1, b2.trans a2, b3.trans a3, b4.trans a4, b5.trans a5, b6.trans a6⟩

theorem sameRings_setEdge (h : Heap) (e k : Nat) (v : Option Nat) : SameRings h (h.setEdge e k v) :=
  ⟨rfl, rfl, rfl, rfl, rfl, rfl⟩

theorem sameRings_uncouple (h : Heap) (op : Nat) : SameRings h (h.uncoupleEdge op) := by
  unfold Heap.uncoupleEdge; split <;> exact ⟨rfl, rfl, rfl, rfl, rfl, rfl⟩

theorem sameRings_addToEdge (h : Heap) (e op : Nat) : SameRings h (h.addToEdge e op) := by
  unfold Heap.addToEdge; split <;> exact ⟨rfl, rfl, rfl, rfl, rfl, rfl⟩

theorem RingsWF.of_sameRings {h h' : Heap} {ring : Nat → List Nat} (w : RingsWF h ring) (s : SameRings h h') :
    RingsWF h' ring := by
  obtain ⟨e1, _, e3, e4, e5, e6⟩ := s
  exact ⟨by rw [e6]; exact w.slot_some, by rw [e6]; exact w.slot_none, by rw [e3, e4]; exact w.cyc, w.nodup,
    by rw [e5]; exact w.owner, by rw [e1]; exact w.lt⟩

end Clipper.Lemmas.RCT

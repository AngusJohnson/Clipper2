/-
`ProcessHorzJoins` on a well-formed heap, paths and polytree mode.  Two-ring branch: the merged ring is owned by `or1`; the `OutPt`s
that resolved to `or2` now resolve to `or1` through the emptied `or2`.  Same-ring branch: it runs through, and one of the two rings
is owned by `or1`, the other by the new record; which one depends on `or1->pts` and, under `using_polytree_`, on `Path1InsidePath2`
(`splitBranch_spec`).  Hence one iteration, and the whole list, keep a heap well formed, and each branch runs through without a
fault (`splitBranch_spec`, `mergeBranch_total`; under `using_polytree_`, for an acyclic owner graph: `SetOwner`).  Helper file of `Props/C02Horz.lean`.  Core Lean only.
-/
import ClipperVerif.Lemmas.HorzJoinsOwner
import ClipperVerif.Lemmas.HorzJoinsWF
namespace Clipper.Model.HorzJoins
open Clipper

theorem recView_toTable (H : Heap) (k : Nat) :
    recView H k = ((toTable H)[k]?).map (fun r => (r.hasPts, if r.hasPts then none else r.owner)) := by
  rw [toTable_get]; unfold recView; cases H.recs[k]? <;> simp [toOwnerRec]

/-- what the two-ring branch does to the record table, as far as `GetRealOutRec` can see: `or2` is emptied and handed to `or1`,
nothing else changes; no `OutPt` is written -/
theorem mergeBranch_view {tree : Bool} {H H' : Heap} {r1 r2 p1 : Nat} (hne : r1 ≠ r2) (h1 : livePts H r1 = some p1)
    (h : mergeBranch tree H (some r1) (some r2) = .ok H') :
    H'.ops = H.ops ∧ H'.recs.size = H.recs.size ∧
    (∀ k, k ≠ r2 → recView H' k = recView H k ∧ livePts H' k = livePts H k) ∧ recView H' r2 = some (false, some r1) := by
  unfold mergeBranch at h
  simp only [bind_ok] at h
  obtain ⟨H1, e1, h⟩ := h
  obtain ⟨hi2, o1, z1, g1⟩ := updRec_ok e1
  -- after `or2->pts = nullptr`
  have k1 : ∀ k, k ≠ r2 → H1.recs[k]? = H.recs[k]? := fun k hk => by rw [g1 k, if_neg hk]
  obtain ⟨rc2, hrc2⟩ := rec_of_lt hi2
  have d1 : H1.recs[r2]? = some { rc2 with pts := none } := by rw [g1 r2, if_pos rfl, hrc2]; rfl
  cases tree with
  | false =>
    simp only [Bool.false_eq_true, if_false] at h
    obtain ⟨_, o2, z2, g2⟩ := updRec_ok h
    refine ⟨o2.trans o1, z2.trans z1, fun k hk => view_of_fields (by rw [g2 k, if_neg hk, k1 k hk]), ?_⟩
    unfold recView; rw [g2 r2, if_pos rfl, d1]; rfl
  | true =>
    simp only [if_true, bind_ok] at h
    obtain ⟨H2, e2, e3⟩ := h
    have oo := setOwner_onlyOwners e2
    obtain ⟨_, ⟨ri, hri, hown⟩, hsame, _⟩ := Owner.setOwner_spec' (setOwner_view e2)
    obtain ⟨_, _, _, o3, z3, fr⟩ := moveSplits_spec (Ne.symm hne) e3
    -- `MoveSplits` writes `splits` only, `SetOwner` `owner`s only
    have v3 : ∀ k, recView H' k = recView H2 k ∧ livePts H' k = livePts H2 k := fun k =>
      view_of_fields (map_forget (fr k) fun r => (r.pts, r.owner))
    have p2 : ∀ k, (H2.recs[k]?).map (fun r : ORec => r.pts) = (H1.recs[k]?).map (fun r : ORec => r.pts) := fun k =>
      map_forget (oo.2.2 k) (·.pts)
    have l2 : ∀ k, livePts H2 k = livePts H1 k := fun k => by
      have := congrArg (·.bind id) (p2 k)
      rwa [Option.bind_map, Option.bind_map] at this
    refine ⟨(o3.trans oo.1).trans o1, (z3.trans oo.2.1).trans z1, fun k hk => ?_, ?_⟩
    · have hl : livePts H' k = livePts H k := by rw [(v3 k).2, l2 k]; unfold livePts; rw [k1 k hk]
      refine ⟨?_, hl⟩
      by_cases hk1 : k = r1
      · rw [hk1] at hl ⊢; rw [recView_of_livePts (hl.trans h1), recView_of_livePts h1]
      · rw [(v3 k).1, recView_toTable, hsame k hk hk1, ← recView_toTable]; unfold recView; rw [k1 k hk]
    · obtain ⟨rc2, hrc2, hp2⟩ := Option.map_eq_some_iff.1 ((p2 r2).trans (by rw [d1]; rfl))
      rw [toTable_get, hrc2] at hri
      rw [(v3 r2).1, recView_dead hrc2 (by rw [hp2]; rfl), ← hown, ← Option.some.inj hri]; rfl

/-- records whose `pts` lie on disjoint rings are different records -/
theorem rec_ne_of_disjoint {H : Heap} {c1 c2 : List Nat} (hdis : ∀ a ∈ c1, a ∉ c2) {r1 r2 p1 p2 : Nat}
    (h1 : livePts H r1 = some p1) (hp1 : p1 ∈ c1) (h2 : livePts H r2 = some p2) (hp2 : p2 ∈ c2) : r1 ≠ r2 := by
  rintro rfl
  rw [h1] at h2; cases h2
  exact hdis _ hp1 hp2

/-- on a well-formed heap the two-ring iteration is the surgery followed by the merge branch for the two owning records -/
theorem processJoin_eq_merge (inside : List Pt → List Pt → Bool) (tree : Bool) {H : Heap} {j : HorzJoin}
    {X Y : List Nat} {rest : List (List Nat)} (R : Rings H ((j.op1 :: X) :: (j.op2 :: Y) :: rest))
    (K : RecsOK H ((j.op1 :: X) :: (j.op2 :: Y) :: rest)) :
    ∃ Hs r1 r2 p1 p2, r1 ≠ r2 ∧ livePts H r1 = some p1 ∧ p1 ∈ j.op1 :: X ∧ livePts H r2 = some p2 ∧ p2 ∈ j.op2 :: Y ∧
      (∀ i ∈ j.op1 :: X, ∀ o, orecOf H i = some o → realOf H o = .ok (some r1)) ∧
      (∀ i ∈ j.op2 :: Y, ∀ o, orecOf H i = some o → realOf H o = .ok (some r2)) ∧
      orecOf Hs = orecOf H ∧ Hs.recs = H.recs ∧
      processJoin inside tree H j = mergeBranch tree Hs (some r1) (some r2) := by
  have hc1 : (j.op1 :: X) ∈ (j.op1 :: X) :: (j.op2 :: Y) :: rest := List.mem_cons_self
  have hc2 : (j.op2 :: Y) ∈ (j.op1 :: X) :: (j.op2 :: Y) :: rest := List.mem_cons_of_mem _ List.mem_cons_self
  obtain ⟨r1, p1, hp1, hp1c, hall1⟩ := K.ring_rec _ hc1
  obtain ⟨r2, p2, hp2, hp2c, hall2⟩ := K.ring_rec _ hc2
  have hnd : ((j.op1 :: X) ++ ((j.op2 :: Y) ++ rest.flatten)).Nodup := R.nodup
  have hne : r1 ≠ r2 :=
    rec_ne_of_disjoint (fun a ha hb => (List.nodup_append.1 hnd).2.2 a ha a (List.mem_append_left _ hb) rfl) hp1 hp1c hp2 hp2c
  obtain ⟨n1, hn1⟩ := node_of_lt (R.mem_lt hc1 List.mem_cons_self)
  obtain ⟨n2, hn2⟩ := node_of_lt (R.mem_lt hc2 List.mem_cons_self)
  have e1 := hall1 j.op1 List.mem_cons_self n1.orec (orecOf_some.2 ⟨n1, hn1, rfl⟩)
  have e2 := hall2 j.op2 List.mem_cons_self n2.orec (orecOf_some.2 ⟨n2, hn2, rfl⟩)
  obtain ⟨Hs, b1, b2, hs, _, _, _, eos, _, ers, _⟩ := splice_rings_diff R
  refine ⟨Hs, r1, r2, p1, p2, hne, hp1, hp1c, hp2, hp2c, hall1, hall2, eos, ers, ?_⟩
  simp only [processJoin, bind, Except.bind, node_ok.2 hn1, node_ok.2 hn2, e1, e2, hs]
  rw [if_neg (fun e => hne (Option.some.inj e))]

/-- **the two-ring branch keeps a heap well formed**: the merged ring is owned by `or1` -/
theorem processJoin_merge_wf {inside : List Pt → List Pt → Bool} {tree : Bool} {H H' : Heap} {j : HorzJoin}
    {X Y : List Nat} {rest : List (List Nat)} (R : Rings H ((j.op1 :: X) :: (j.op2 :: Y) :: rest))
    (K : RecsOK H ((j.op1 :: X) :: (j.op2 :: Y) :: rest)) (h : processJoin inside tree H j = .ok H') :
    RecsOK H' ((j.op1 :: j.op2 :: (Y ++ X)) :: rest) := by
  obtain ⟨Hs, r1, r2, p1, p2, hne, hp1, hp1c, hp2, hp2c, hall1, hall2, eos, ers, e⟩ := processJoin_eq_merge inside tree R K
  rw [e] at h
  obtain ⟨eops, _, hk, hr2v⟩ := mergeBranch_view hne ((livePts_of_recs ers r1).trans hp1) h
  have eo : orecOf H' = orecOf H := (orecOf_of_ops eops).trans eos
  have hk' : ∀ k, k ≠ r2 → recView H' k = recView H k ∧ livePts H' k = livePts H k := fun k hk2 =>
    ⟨(hk k hk2).1.trans (recView_of_recs ers k), (hk k hk2).2.trans (livePts_of_recs ers k)⟩
  -- what resolved to `or2` resolves to `or1`, everything else as before
  have kill : ∀ {o r}, realOf H o = .ok (some r) → realOf H' o = .ok (some (if r = r2 then r1 else r)) := fun hr =>
    res_iff.2 (Res.kill (recView_of_livePts hp2) (fun k hk2 => (hk' k hk2).1) hr2v
      ((hk' r1 hne).1.trans (recView_of_livePts hp1)) (res_iff.1 hr))
  have hsplit : ∀ i, i ∈ j.op1 :: j.op2 :: (Y ++ X) ↔ i ∈ (j.op1 :: X) ++ (j.op2 :: Y) := fun i =>
    (List.Perm.cons j.op1 (List.perm_append_comm (l₁ := j.op2 :: Y) (l₂ := X))).mem_iff
  have hnd : ((j.op1 :: X) ++ ((j.op2 :: Y) ++ rest.flatten)).Nodup := R.nodup
  constructor
  · intro c hc
    rcases List.mem_cons.1 hc with rfl | hc
    · refine ⟨r1, p1, (hk' r1 hne).2.trans hp1, (hsplit p1).2 (List.mem_append_left _ hp1c), fun i hi o hio => ?_⟩
      rw [eo] at hio
      rcases List.mem_append.1 ((hsplit i).1 hi) with hi' | hi'
      · simpa only [if_neg hne] using kill (hall1 i hi' o hio)
      · simpa only [if_pos] using kill (hall2 i hi' o hio)
    · obtain ⟨r, p, hp, hpc, hall⟩ := K.ring_rec c (List.mem_cons_of_mem _ (List.mem_cons_of_mem _ hc))
      have hr2' : r ≠ r2 := rec_ne_of_disjoint (fun a ha hb => (List.nodup_append.1 (List.nodup_append.1 hnd).2.1).2.2 a hb a
        (List.mem_flatten.2 ⟨c, hc, ha⟩) rfl) hp hpc hp2 hp2c
      refine ⟨r, p, (hk' r hr2').2.trans hp, hpc, fun i hi o hio => ?_⟩
      rw [eo] at hio
      simpa only [if_neg hr2'] using kill (hall i hi o hio)
  · intro r rc p hrc hp
    have hl : livePts H' r = some p := livePts_some.2 ⟨rc, hrc, hp⟩
    have hr2' : r ≠ r2 := fun e => by
      rw [e] at hl; rw [recView_of_livePts hl] at hr2v; cases hr2v
    obtain ⟨rc0, hrc0, hp0⟩ := livePts_some.1 ((hk' r hr2').2.symm.trans hl)
    obtain ⟨o, ho, hre⟩ := K.rec_ring r rc0 p hrc0 hp0
    exact ⟨o, by rw [eo]; exact ho, by simpa only [if_neg hr2'] using kill hre⟩

/-- the state of the same-ring branch after the surgery (heap `Hs`): the ring of record `r` has been cut into `A`, which now
belongs to `r`, and `B`, which belongs to the new record `|outrec_list_|`; nothing else shows a change -/
structure SplitPost (Hs H' : Heap) (r : Nat) (A B : List Nat) : Prop where
  links : SameLinks Hs H'
  size : H'.recs.size = Hs.recs.size + 1
  view : ∀ k, k < Hs.recs.size → recView H' k = recView Hs k
  pts : ∀ k, k < Hs.recs.size → k ≠ r → livePts H' k = livePts Hs k
  ptsA : ∃ p ∈ A, livePts H' r = some p
  ptsB : ∃ p ∈ B, livePts H' Hs.recs.size = some p
  orecA : ∀ i ∈ A, orecOf H' i = some r ∨ orecOf H' i = orecOf Hs i
  orecB : ∀ i ∈ B, orecOf H' i = some Hs.recs.size
  orecC : ∀ i, i ∉ A → i ∉ B → orecOf H' i = orecOf Hs i

theorem SplitPost.of_view {Hs H3 H' : Heap} {r : Nat} {A B : List Nat} (P : SplitPost Hs H3 r A B) (hops : H'.ops = H3.ops)
    (hsz : H'.recs.size = H3.recs.size) (hv : ∀ k, recView H' k = recView H3 k ∧ livePts H' k = livePts H3 k) :
    SplitPost Hs H' r A B := by
  have eo := orecOf_of_ops hops
  exact {
    links := P.links.trans (SameLinks.of_ops_eq hops)
    size := hsz.trans P.size
    view := fun k hk => (hv k).1.trans (P.view k hk)
    pts := fun k hk hkr => (hv k).2.trans (P.pts k hk hkr)
    ptsA := by rw [(hv r).2]; exact P.ptsA
    ptsB := by rw [(hv _).2]; exact P.ptsB
    orecA := by rw [eo]; exact P.orecA
    orecB := by rw [eo]; exact P.orecB
    orecC := by rw [eo]; exact P.orecC }

theorem SplitPost.recsOK {Hs H' : Heap} {r pr : Nat} {A B c : List Nat} {rest : List (List Nat)} (P : SplitPost Hs H' r A B)
    (R : Rings Hs (A :: B :: rest)) (K : RecsOK Hs (c :: rest)) (hc : ∀ i, i ∈ c ↔ i ∈ A ∨ i ∈ B)
    (hr : livePts Hs r = some pr) (hprc : pr ∈ c)
    (hown : ∀ i ∈ c, ∀ o, orecOf Hs i = some o → realOf Hs o = .ok (some r)) : RecsOK H' (A :: B :: rest) := by
  have hnd : (A ++ (B ++ rest.flatten)).Nodup := R.nodup
  have hdisj : ∀ c' ∈ rest, ∀ a ∈ c', a ∉ A ∧ a ∉ B := fun c' hc' a ha =>
    have hm := List.mem_flatten.2 ⟨c', hc', ha⟩
    ⟨fun h => (List.nodup_append.1 hnd).2.2 a h a (List.mem_append_right _ hm) rfl,
     fun h => (List.nodup_append.1 (List.nodup_append.1 hnd).2.1).2.2 a h a hm rfl⟩
  have mono : ∀ {o k}, realOf Hs o = .ok (some k) → realOf H' o = .ok (some k) := fun h => res_iff.2 ((res_iff.1 h).mono P.view)
  obtain ⟨pA, hpA, hlA⟩ := P.ptsA
  obtain ⟨pB, hpB, hlB⟩ := P.ptsB
  have hA : ∀ i ∈ A, ∃ o, orecOf H' i = some o ∧ realOf H' o = .ok (some r) := fun i hi => by
    rcases P.orecA i hi with e | e
    · exact ⟨r, e, res_iff.2 (Res.self hlA)⟩
    · obtain ⟨n, hn⟩ := node_of_lt (R.mem_lt List.mem_cons_self hi)
      have ho : orecOf Hs i = some n.orec := orecOf_some.2 ⟨n, hn, rfl⟩
      exact ⟨n.orec, e.trans ho, mono (hown i ((hc i).2 (Or.inl hi)) _ ho)⟩
  constructor
  · intro c' hc'
    rcases List.mem_cons.1 hc' with rfl | hc'
    · refine ⟨r, pA, hlA, hpA, fun i hi o hio => ?_⟩
      obtain ⟨o', ho', hres⟩ := hA i hi
      rw [ho'] at hio; cases hio; exact hres
    rcases List.mem_cons.1 hc' with rfl | hc'
    · refine ⟨_, pB, hlB, hpB, fun i hi o hio => ?_⟩
      rw [P.orecB i hi] at hio; cases hio; exact res_iff.2 (Res.self hlB)
    · obtain ⟨k, p, hp, hpc, hall⟩ := K.ring_rec c' (List.mem_cons_of_mem _ hc')
      have hkr : k ≠ r := rec_ne_of_disjoint (fun a ha hac => ((hc a).1 hac).elim (hdisj c' hc' a ha).1 (hdisj c' hc' a ha).2) hp hpc hr hprc
      refine ⟨k, p, (P.pts k (lt_of_livePts hp) hkr).trans hp, hpc, fun i hi o hio => ?_⟩
      rw [P.orecC i (hdisj c' hc' i hi).1 (hdisj c' hc' i hi).2] at hio
      exact mono (hall i hi o hio)
  · intro k rc p hrc hp
    have hl : livePts H' k = some p := livePts_some.2 ⟨rc, hrc, hp⟩
    by_cases hkr : k = r
    · rw [hkr, hlA] at hl; cases hl
      rw [hkr]; exact hA pA hpA
    by_cases hkN : k = Hs.recs.size
    · rw [hkN, hlB] at hl; cases hl
      rw [hkN]; exact ⟨_, P.orecB pB hpB, res_iff.2 (Res.self hlB)⟩
    · -- an old record: its `pts` are unchanged and lie outside `c`
      have hklt : k < Hs.recs.size := by have := lt_of_rec hrc; rw [P.size] at this; omega
      obtain ⟨rc0, hrc0, hp0⟩ := livePts_some.1 ((P.pts k hklt hkr).symm.trans hl)
      obtain ⟨o, ho, hre⟩ := K.rec_ring k rc0 p hrc0 hp0
      have hpc : p ∉ c := fun hpc => hkr ((res_iff.1 hre).det (res_iff.1 (hown p hpc o ho)))
      exact ⟨o, (P.orecC p (fun h => hpc ((hc p).2 (Or.inl h))) (fun h => hpc ((hc p).2 (Or.inr h)))).trans ho, mono hre⟩

theorem fixOutRecPts_of_mem {H : Heap} {rs : List (List Nat)} (R : Rings H rs) {c : List Nat} (hc : c ∈ rs) {ri a : Nat}
    (hl : livePts H ri = some a) (ha : a ∈ c) :
    ∃ H', fixOutRecPts H ri = .ok H' ∧ SameLinks H H' ∧ H'.recs = H.recs ∧
      orecOf H' = fun i => if i ∈ c then some ri else orecOf H i := by
  obtain ⟨A, B, rfl⟩ := List.append_of_mem hc
  obtain ⟨pre, post, rfl⟩ := List.append_of_mem ha
  obtain ⟨rc, hrc, hp⟩ := livePts_some.1 hl
  obtain ⟨H', h, sl, er, eo⟩ := fixOutRecPts_spec (R.perm' List.perm_middle).rot_head List.mem_cons_self hrc hp
  refine ⟨H', h, sl, er, ?_⟩
  rw [eo]; funext i
  have : i ∈ a :: post.append pre ↔ i ∈ pre ++ a :: post := (List.perm_append_comm (l₁ := a :: post) (l₂ := pre)).mem_iff
  simp only [this]

/-- `or2 = NewOutRec(); or2->pts = op1b; FixOutRecPts(or2);` when `op1b = x0` heads the ring `x0 :: X'` -/
theorem split_prefix {Hs : Heap} {rs : List (List Nat)} {x0 : Nat} {X' : List Nat} (R : Rings Hs rs) (hc : (x0 :: X') ∈ rs) :
    ∃ H1 H2, (newOutRec Hs).1.updRec Hs.recs.size (fun x => { x with pts := some x0 }) = .ok H1 ∧
      fixOutRecPts H1 Hs.recs.size = .ok H2 ∧ SameLinks Hs H2 ∧ H2.recs.size = Hs.recs.size + 1 ∧
      (∀ k, k < Hs.recs.size → recView H2 k = recView Hs k ∧ livePts H2 k = livePts Hs k) ∧
      livePts H2 Hs.recs.size = some x0 ∧
      orecOf H2 = (fun i => if i ∈ x0 :: X' then some Hs.recs.size else orecOf Hs i) := by
  obtain ⟨H1, h1⟩ := updRec_of_lt (newOutRec Hs).1 (fun x => { x with pts := some x0 }) (i := Hs.recs.size) (by simp [newOutRec])
  obtain ⟨_, o1, z1, g1⟩ := updRec_ok h1
  have sl1 : SameLinks Hs H1 := SameLinks.of_ops_eq o1
  have hN : livePts H1 Hs.recs.size = some x0 := by unfold livePts; rw [g1]; simp [newOutRec]
  obtain ⟨H2, h2, sl2, er2, eo2⟩ := fixOutRecPts_of_mem (R.of_sameLinks sl1) hc hN List.mem_cons_self
  refine ⟨H1, H2, h1, h2, sl1.trans sl2, by rw [er2, z1]; simp [newOutRec], fun k hk => view_of_fields ?_,
    (livePts_of_recs er2 _).trans hN, by rw [eo2, orecOf_of_ops o1]; rfl⟩
  rw [er2, g1 k, if_neg (Nat.ne_of_lt hk)]
  simp [newOutRec, Array.getElem?_push, Nat.ne_of_lt hk]

/-- `if (or1->pts->outrec == or2) { or1->pts = j.op1; or1->pts->outrec = or1; }` -/
theorem keepPts_spec {H : Heap} {o1 o2 op1 p : Nat} (hl : livePts H o1 = some p) (hp : p < H.ops.size) (hop : op1 < H.ops.size) :
    ∃ H', keepPts H o1 o2 op1 = .ok H' ∧
      ((orecOf H p = some o2 ∧ SameLinks H H' ∧ H'.recs.size = H.recs.size ∧
          (∀ k, recView H' k = recView H k ∧ livePts H' k = if k = o1 then some op1 else livePts H k) ∧
          orecOf H' = upd (orecOf H) op1 o1) ∨
       (orecOf H p ≠ some o2 ∧ H' = H)) := by
  obtain ⟨np, hnp⟩ := node_of_lt hp
  have ho : orecOf H p = some np.orec := orecOf_some.2 ⟨np, hnp, rfl⟩
  unfold keepPts
  simp only [ptsOfRec_ok hl, node_ok.2 hnp]
  by_cases e : np.orec = o2
  · rw [if_pos e]
    obtain ⟨H1, h1⟩ := updRec_of_lt H (fun x => { x with pts := some op1 }) (lt_of_livePts hl)
    obtain ⟨_, o1', z1, _⟩ := updRec_ok h1
    obtain ⟨H', h'⟩ := updNode_of_lt H1 (fun x => { x with orec := o1 }) (i := op1) (by rw [o1']; exact hop)
    obtain ⟨_, _, eo, _, er, _⟩ := upd_orec_eqs h'
    refine ⟨H', by rw [h1]; exact h', Or.inl ⟨by rw [ho, e], (sameLinks_updRec h1).trans (sameLinks_updOrec h'), by rw [er, z1],
      fun k => ?_, by rw [eo, orecOf_of_ops o1']⟩⟩
    rw [recView_of_recs er, livePts_of_recs er]; exact updRec_pts_view h1 hl k
  · rw [if_neg e]; exact ⟨H, rfl, Or.inr ⟨by rw [ho]; exact fun h => e (Option.some.inj h), rfl⟩⟩

/-- up to and including `keepPts`: `or1` owns the ring containing `op1` (its `pts` is moved there if it was on `X`), the new
record owns `X` -/
theorem split_upto_keepPts {Hs : Heap} {R1 X' : List Nat} {rest : List (List Nat)} {r pr x0 op1 : Nat}
    (R : Rings Hs (R1 :: (x0 :: X') :: rest)) (hop1 : op1 ∈ R1) (hr : livePts Hs r = some pr) (hprc : pr ∈ R1 ∨ pr ∈ x0 :: X') :
    ∃ H1 H2 H3, (newOutRec Hs).1.updRec Hs.recs.size (fun x => { x with pts := some x0 }) = .ok H1 ∧
      fixOutRecPts H1 Hs.recs.size = .ok H2 ∧ keepPts H2 r Hs.recs.size op1 = .ok H3 ∧ SplitPost Hs H3 r R1 (x0 :: X') := by
  have hcX : (x0 :: X') ∈ R1 :: (x0 :: X') :: rest := List.mem_cons_of_mem _ List.mem_cons_self
  obtain ⟨H1, H2, h1, h2, sl2, z2, v2, hN2, eo2⟩ := split_prefix R hcX
  have hrlt := lt_of_livePts hr
  have hnd : (R1 ++ ((x0 :: X') ++ rest.flatten)).Nodup := R.nodup
  have hR1X : ∀ a ∈ R1, a ∉ x0 :: X' := fun a ha hb => (List.nodup_append.1 hnd).2.2 a ha a (List.mem_append_left _ hb) rfl
  obtain ⟨H3, h3, hcase⟩ := keepPts_spec (o2 := Hs.recs.size) (op1 := op1) ((v2 r hrlt).2.trans hr)
    (sl2.2.2.2 ▸ hprc.elim (R.mem_lt List.mem_cons_self) (R.mem_lt hcX)) (sl2.2.2.2 ▸ R.mem_lt List.mem_cons_self hop1)
  refine ⟨H1, H2, H3, h1, h2, h3, ?_⟩
  rcases hcase with ⟨_, sl3, z3, v3, eo3⟩ | ⟨hne, rfl⟩
  · -- `or1->pts` moves to `op1`
    exact {
      links := sl2.trans sl3, size := z3.trans z2, view := fun k hk => (v3 k).1.trans (v2 k hk).1
      pts := fun k hk hkr => by rw [(v3 k).2, if_neg hkr]; exact (v2 k hk).2
      ptsA := ⟨op1, hop1, by rw [(v3 r).2, if_pos rfl]⟩
      ptsB := ⟨x0, List.mem_cons_self, by rw [(v3 _).2, if_neg (Nat.ne_of_gt hrlt)]; exact hN2⟩
      orecA := fun i hi => by
        rw [eo3]
        by_cases e : i = op1
        · left; rw [e, upd_same]
        · right; rw [upd_ne _ _ e, eo2]; exact if_neg (hR1X i hi)
      orecB := fun i hi => by rw [eo3, upd_ne _ _ (fun (e : i = op1) => hR1X i (e ▸ hop1) hi), eo2]; exact if_pos hi
      orecC := fun i hA hB => by rw [eo3, upd_ne _ _ (fun (e : i = op1) => hA (e ▸ hop1)), eo2]; exact if_neg hB }
  · -- it stays: it was not on `X`
    have hprX : pr ∉ x0 :: X' := fun hx => hne (by rw [eo2]; exact if_pos hx)
    exact {
      links := sl2, size := z2, view := fun k hk => (v2 k hk).1, pts := fun k hk _ => (v2 k hk).2
      ptsA := ⟨pr, hprc.resolve_right hprX, (v2 r hrlt).2.trans hr⟩, ptsB := ⟨x0, List.mem_cons_self, hN2⟩
      orecA := fun i hi => Or.inr (by rw [eo2]; exact if_neg (hR1X i hi))
      orecB := fun i hi => by rw [eo2]; exact if_pos hi
      orecC := fun i _ hB => by rw [eo2]; exact if_neg hB }

/-- the swap of the split branch under `using_polytree_` (`Path1InsidePath2(or1->pts, or2->pts)`): `or1` takes the ring `X`,
the new record the ring containing `op1`; both rings are relabelled by `FixOutRecPts` -/
theorem SplitPost.swap {Hs H3 : Heap} {R1 X : List Nat} {rest : List (List Nat)} {r pA pB : Nat}
    (P : SplitPost Hs H3 r R1 X) (R : Rings Hs (R1 :: X :: rest)) (hrlt : r < Hs.recs.size)
    (hA : livePts H3 r = some pA) (hpA : pA ∈ R1) (hB : livePts H3 Hs.recs.size = some pB) (hpB : pB ∈ X) (b : Bool) :
    ∃ H4, splitOwnerChoice H3 r Hs.recs.size pA pB true b = .ok H4 ∧ SplitPost Hs H4 r X R1 := by
  have hrN : r ≠ Hs.recs.size := Nat.ne_of_lt hrlt
  have hXm : X ∈ R1 :: X :: rest := List.mem_cons_of_mem _ List.mem_cons_self
  obtain ⟨Ha, e1⟩ := updRec_of_lt H3 (fun x => { x with pts := some pB }) (i := r) (by rw [P.size]; omega)
  have va := updRec_pts_view e1 hA
  obtain ⟨_, oa, za, _⟩ := updRec_ok e1
  obtain ⟨Hb, e2⟩ := updRec_of_lt Ha (fun x => { x with pts := some pA }) (i := Hs.recs.size) (by rw [za, P.size]; omega)
  have vb := updRec_pts_view e2 ((va _).2.trans (by rw [if_neg hrN.symm]; exact hB))
  obtain ⟨_, ob, zb, _⟩ := updRec_ok e2
  have slb : SameLinks Hs Hb := (P.links.trans (SameLinks.of_ops_eq oa)).trans (SameLinks.of_ops_eq ob)
  have hbr : livePts Hb r = some pB := by rw [(vb r).2, if_neg hrN, (va r).2, if_pos rfl]
  obtain ⟨Hc, e3, slc, erc, eoc⟩ := fixOutRecPts_of_mem (R.of_sameLinks slb) hXm hbr hpB
  have hcN : livePts Hc Hs.recs.size = some pA := by rw [livePts_of_recs erc, (vb _).2, if_pos rfl]
  obtain ⟨Hd, e4, sld, erd, eod⟩ := fixOutRecPts_of_mem (R.of_sameLinks (slb.trans slc)) List.mem_cons_self hcN hpA
  obtain ⟨H4, e5⟩ := updRec_of_lt Hd (fun x => { x with owner := some r }) (i := Hs.recs.size)
    (by rw [erd, erc, zb, za, P.size]; omega)
  obtain ⟨_, o5, z5, _⟩ := updRec_ok e5
  have v5 := updRec_owner_view e5 ((livePts_of_recs erd _).trans hcN)
  -- the table: `or1` and the new record have exchanged their `pts`; the `outrec` fields: `R1` and `X` are relabelled
  have hv : ∀ k, recView H4 k = recView H3 k := fun k => by
    rw [(v5 k).1, recView_of_recs erd, recView_of_recs erc, (vb k).1, (va k).1]
  have hp : ∀ k, livePts H4 k = if k = Hs.recs.size then some pA else if k = r then some pB else livePts H3 k := fun k => by
    rw [(v5 k).2, livePts_of_recs erd, livePts_of_recs erc, (vb k).2, (va k).2]
  have ho : orecOf H4 = fun i => if i ∈ R1 then some Hs.recs.size else if i ∈ X then some r else orecOf H3 i := by
    rw [orecOf_of_ops o5, eod, eoc, orecOf_of_ops ob, orecOf_of_ops oa]
  have hnd : (R1 ++ (X ++ rest.flatten)).Nodup := R.nodup
  have hR1X : ∀ a ∈ X, a ∉ R1 := fun a ha hb => (List.nodup_append.1 hnd).2.2 a hb a (List.mem_append_left _ ha) rfl
  refine ⟨H4, by simp only [splitOwnerChoice, if_true, e1, e2, e3, e4]; exact e5, ?_⟩
  exact {
    links := ((slb.trans slc).trans sld).trans (SameLinks.of_ops_eq o5)
    size := by rw [z5, erd, erc, zb, za, P.size]
    view := fun k hk => (hv k).trans (P.view k hk)
    pts := fun k hk hkr => by rw [hp k, if_neg (Nat.ne_of_lt hk), if_neg hkr]; exact P.pts k hk hkr
    ptsA := ⟨pB, hpB, by rw [hp r, if_neg hrN, if_pos rfl]⟩
    ptsB := ⟨pA, hpA, by rw [hp _, if_pos rfl]⟩
    orecA := fun i hi => Or.inl (by rw [ho]; exact (if_neg (hR1X i hi)).trans (if_pos hi))
    orecB := fun i hi => by rw [ho]; exact if_pos hi
    orecC := fun i hX hR => by rw [ho]; exact ((if_neg hR).trans (if_neg hX)).trans (P.orecC i hR hX) }

/-- from `keepPts` to the end of the branch: the `owner` of the new record is set, under `using_polytree_` possibly after the
swap, and `or1->splits` gains the new record -/
theorem split_finish (inside : List Pt → List Pt → Bool) (tree : Bool) {Hs H3 : Heap} {R1 X : List Nat} {rest : List (List Nat)}
    {r : Nat} (R : Rings Hs (R1 :: X :: rest)) (hrlt : r < Hs.recs.size) (P : SplitPost Hs H3 r R1 X) :
    ∃ H', (if tree then splitOwners inside H3 r Hs.recs.size
        else H3.updRec Hs.recs.size (fun x => { x with owner := some r })) = .ok H' ∧
      (SplitPost Hs H' r R1 X ∨ SplitPost Hs H' r X R1) := by
  obtain ⟨pA, hpA, hA⟩ := P.ptsA
  obtain ⟨pB, hpB, hB⟩ := P.ptsB
  -- writing the `owner` of the new record shows nothing: it has `pts`
  have own : ∀ ow, ∃ H', H3.updRec Hs.recs.size (fun x => { x with owner := ow }) = .ok H' ∧ SplitPost Hs H' r R1 X := fun ow => by
    obtain ⟨H', e⟩ := updRec_of_lt H3 (fun x => { x with owner := ow }) (i := Hs.recs.size) (by rw [P.size]; omega)
    exact ⟨H', e, P.of_view (updRec_ok e).2.1 (updRec_ok e).2.2.1 (updRec_owner_view e hB)⟩
  cases tree with
  | false =>
    obtain ⟨H', e, P'⟩ := own (some r)
    exact ⟨H', e, Or.inl P'⟩
  | true =>
    have R3 := R.of_sameLinks P.links
    obtain ⟨ps1, hps1⟩ := ringPts_total R3 (R3.mem_lt List.mem_cons_self hpA)
    obtain ⟨ps2, hps2⟩ := ringPts_total R3 (R3.mem_lt (List.mem_cons_of_mem _ List.mem_cons_self) hpB)
    obtain ⟨H4, e4, P4⟩ : ∃ H4, splitOwnerChoice H3 r Hs.recs.size pA pB (inside ps1 ps2) (!inside ps1 ps2 && inside ps2 ps1) = .ok H4 ∧
        (SplitPost Hs H4 r R1 X ∨ SplitPost Hs H4 r X R1) := by
      cases inside ps1 ps2 with
      | true =>
        obtain ⟨H4, e, P'⟩ := P.swap R hrlt hA hpA hB hpB (!true && inside ps2 ps1)
        exact ⟨H4, e, Or.inr P'⟩
      | false =>
        obtain ⟨rc, hrc, _⟩ := livePts_some.1 hA
        obtain ⟨H4, e, P'⟩ : ∃ H4, splitOwnerChoice H3 r Hs.recs.size pA pB false (!false && inside ps2 ps1) = .ok H4 ∧
            SplitPost Hs H4 r R1 X := by
          cases inside ps2 ps1 with
          | true => simpa [splitOwnerChoice] using own (some r)
          | false => simpa [splitOwnerChoice, orec_ok.2 hrc] using own rc.owner
        exact ⟨H4, e, Or.inl P'⟩
    -- `or1->splits` gains the new record
    have z4 : H4.recs.size = Hs.recs.size + 1 := P4.elim (·.size) (·.size)
    obtain ⟨H', e5⟩ := updRec_of_lt H4 (fun x => { x with splits := some (x.splits.getD [] ++ [Hs.recs.size]) }) (i := r)
      (by rw [z4]; omega)
    have v5 := updRec_view e5 (fun _ _ => ⟨rfl, fun _ => rfl⟩)
    refine ⟨H', ?_, P4.imp (·.of_view (updRec_ok e5).2.1 (updRec_ok e5).2.2.1 v5) (·.of_view (updRec_ok e5).2.1 (updRec_ok e5).2.2.1 v5)⟩
    simp only [if_true, splitOwners, bind, Except.bind, ptsOfRec_ok hA, ptsOfRec_ok hB, hps1, hps2, e4, e5]

/-- **the same-ring branch after the surgery**, on a heap of rings in which record `r`, with `pts` on `R1` or `X`, is to be
split (`op1` on `R1`, `op1b = x0` the head of `X`): it runs through, and leaves `r` with one of the two rings and the new record
with the other -/
theorem splitBranch_spec (inside : List Pt → List Pt → Bool) (tree : Bool) {Hs : Heap} {j : HorzJoin} {R1 X' : List Nat}
    {rest : List (List Nat)} {r pr x0 : Nat} (R : Rings Hs (R1 :: (x0 :: X') :: rest)) (hop1 : j.op1 ∈ R1)
    (hr : livePts Hs r = some pr) (hprc : pr ∈ R1 ∨ pr ∈ x0 :: X') :
    ∃ H', splitBranch inside tree Hs j (some r) x0 = .ok H' ∧
      (SplitPost Hs H' r R1 (x0 :: X') ∨ SplitPost Hs H' r (x0 :: X') R1) := by
  obtain ⟨H1, H2, H3, h1, h2, h3, P⟩ := split_upto_keepPts R hop1 hr hprc
  obtain ⟨H', h4, P'⟩ := split_finish inside tree R (lt_of_livePts hr) P
  have hN : (newOutRec Hs).2 = Hs.recs.size := rfl
  exact ⟨H', by simp only [splitBranch, hN, bind, Except.bind, h1, h2, h3]; exact h4, P'⟩

/-- on a well-formed heap the same-ring iteration is the surgery followed by the split branch for the owning record -/
theorem processJoin_eq_split (inside : List Pt → List Pt → Bool) (tree : Bool) {H : Heap} {j : HorzJoin}
    {x0 : Nat} {X' Y : List Nat} {rest : List (List Nat)}
    (R : Rings H ((j.op1 :: (x0 :: X') ++ j.op2 :: Y) :: rest))
    (K : RecsOK H ((j.op1 :: (x0 :: X') ++ j.op2 :: Y) :: rest)) :
    ∃ Hs r pr, Rings Hs ((j.op1 :: j.op2 :: Y) :: (x0 :: X') :: rest) ∧ orecOf Hs = orecOf H ∧ Hs.recs = H.recs ∧
      Hs.ops.size = H.ops.size ∧ livePts H r = some pr ∧ pr ∈ j.op1 :: (x0 :: X') ++ j.op2 :: Y ∧
      (∀ i ∈ j.op1 :: (x0 :: X') ++ j.op2 :: Y, ∀ o, orecOf H i = some o → realOf H o = .ok (some r)) ∧
      processJoin inside tree H j = splitBranch inside tree Hs j (some r) x0 := by
  have hc : (j.op1 :: (x0 :: X') ++ j.op2 :: Y) ∈ (j.op1 :: (x0 :: X') ++ j.op2 :: Y) :: rest := List.mem_cons_self
  have m2 : j.op2 ∈ j.op1 :: (x0 :: X') ++ j.op2 :: Y := List.mem_cons_of_mem _ (List.mem_append_right _ List.mem_cons_self)
  obtain ⟨r, pr, hrp, hprc, hall⟩ := K.ring_rec _ hc
  obtain ⟨xl, hxl⟩ := exists_getLast?_cons x0 X'
  obtain ⟨Hs, hs, Rs, eos, _, ers, ess⟩ := splice_rings_same R (x0 := x0) rfl hxl
  obtain ⟨n1, hn1⟩ := node_of_lt (R.mem_lt hc List.mem_cons_self)
  obtain ⟨n2, hn2⟩ := node_of_lt (R.mem_lt hc m2)
  have e1 := hall j.op1 List.mem_cons_self n1.orec (orecOf_some.2 ⟨n1, hn1, rfl⟩)
  have e2 := hall j.op2 m2 n2.orec (orecOf_some.2 ⟨n2, hn2, rfl⟩)
  refine ⟨Hs, r, pr, Rs, eos, ers, ess, hrp, hprc, hall, ?_⟩
  simp only [processJoin, bind, Except.bind, node_ok.2 hn1, node_ok.2 hn2, e1, e2, hs, if_true]

/-- **the same-ring branch keeps a heap well formed** (`X ≠ []`, i.e. `op1->next != op2`): whichever of the two rings ends up
with `or1`, the other belongs to the new record -/
theorem processJoin_split_wf {inside : List Pt → List Pt → Bool} {tree : Bool} {H H' : Heap} {j : HorzJoin}
    {x0 : Nat} {X' Y : List Nat} {rest : List (List Nat)}
    (R : Rings H ((j.op1 :: (x0 :: X') ++ j.op2 :: Y) :: rest))
    (K : RecsOK H ((j.op1 :: (x0 :: X') ++ j.op2 :: Y) :: rest)) (h : processJoin inside tree H j = .ok H') :
    RecsOK H' ((j.op1 :: j.op2 :: Y) :: (x0 :: X') :: rest) := by
  obtain ⟨Hs, r, pr, Rs, eos, ers, _, hrp, hprc, hall, e⟩ := processJoin_eq_split inside tree R K
  have hmem : ∀ i, i ∈ j.op1 :: (x0 :: X') ++ j.op2 :: Y ↔ i ∈ j.op1 :: j.op2 :: Y ∨ i ∈ x0 :: X' := fun i =>
    (List.Perm.cons j.op1 (List.perm_append_comm (l₁ := x0 :: X') (l₂ := j.op2 :: Y))).mem_iff.trans
      (List.mem_append (s := j.op1 :: j.op2 :: Y) (t := x0 :: X'))
  have hrs : livePts Hs r = some pr := (livePts_of_recs ers r).trans hrp
  obtain ⟨H'', e', P⟩ := splitBranch_spec inside tree (j := j) Rs List.mem_cons_self hrs ((hmem pr).1 hprc)
  rw [e, e'] at h; cases h
  have hown : ∀ i ∈ j.op1 :: (x0 :: X') ++ j.op2 :: Y, ∀ o, orecOf Hs i = some o → realOf Hs o = .ok (some r) :=
    fun i hi o hio => by rw [realOf_congr ers]; exact hall i hi o (eos ▸ hio)
  rcases P with P | P
  · exact P.recsOK Rs (K.of_eqs ers eos) hmem hrs hprc hown
  · exact (P.recsOK (Rs.perm' (List.Perm.swap _ _ _)) (K.of_eqs ers eos) (fun i => (hmem i).trans or_comm) hrs hprc hown).relist
      fun c hc => ⟨c, (List.Perm.swap _ _ _).mem_iff.1 hc, List.Perm.refl c⟩

/-- **one iteration of `ProcessHorzJoins` keeps a heap well formed**, in paths and in polytree mode, whatever
`Path1InsidePath2` answers — provided the join is not the degenerate one with `op1->next == op2` (after which two records would
share one ring). -/
theorem processJoin_wf {inside : List Pt → List Pt → Bool} {tree : Bool} {H H' : Heap} {j : HorzJoin}
    (W : WF H) (h1 : j.op1 < H.ops.size) (h2 : j.op2 < H.ops.size) (hne : j.op1 ≠ j.op2)
    (hnd : nextOf H j.op1 ≠ some j.op2) (h : processJoin inside tree H j = .ok H') : WF H' := by
  obtain ⟨rs, R, K⟩ := W
  rcases R.focus2 h1 h2 hne with ⟨X, Y, rest, R1, L, _⟩ | ⟨X, Y, rest, R1, L, _⟩
  · cases X with
    | nil =>
      exfalso
      have := (R1.ring _ (by simp)).next_head (a := j.op1) (b := j.op2) (t := Y)
      exact hnd this.1
    | cons x0 X' =>
      have K1 := K.relist L
      exact ⟨_, (processJoin_split_rings R1 (by simp) h).1, processJoin_split_wf R1 K1 h⟩
  · have K1 := K.relist L
    exact ⟨_, (processJoin_merge_rings R1 h).1, processJoin_merge_wf R1 K1 h⟩

/-- no join of the list is degenerate when its turn comes -/
def NonDegenerate (inside : List Pt → List Pt → Bool) (tree : Bool) : Heap → List HorzJoin → Prop
  | _, [] => True
  | H, j :: js => nextOf H j.op1 ≠ some j.op2 ∧ ∀ H1, processJoin inside tree H j = .ok H1 → NonDegenerate inside tree H1 js

/-- **`ProcessHorzJoins` keeps a heap well formed**: `processJoin_wf` along the list of joins -/
theorem processHorzJoins_wf {inside : List Pt → List Pt → Bool} {tree : Bool} :
    ∀ (js : List HorzJoin) (H H' : Heap), WF H → JoinsOK H js → NonDegenerate inside tree H js →
      processHorzJoins inside tree H js = .ok H' → WF H'
  | [], H, H', W, _, _, h => by simp only [processHorzJoins, Except.ok.injEq] at h; subst h; exact W
  | j :: js, H, H', W, ok, nd, h => by
    unfold processHorzJoins at h
    cases h1 : processJoin inside tree H j with
    | error e => simp [h1] at h
    | ok H1 =>
      simp only [h1] at h
      obtain ⟨hv1, hv2, hne⟩ := ok.2.2 j (by simp)
      obtain ⟨_, _, _, hs, sl⟩ := processJoin_frame h1
      exact processHorzJoins_wf js H1 H' (processJoin_wf W hv1 hv2 hne nd.1 h1)
        (ok.tail (sl.2.2.2.trans (splice_ok_eqs hs).2.2.2.2.2.2.2)) (nd.2 H1 h1) h

/-- when `SetOwner` returns on the view `toTable`, it returns on the heap (the converse of `setOwner_view`, as far as termination
goes) -/
theorem setOwner_of_view {H : Heap} {i no : Nat} {T' : Owner.Table}
    (h : Owner.setOwner (toTable H) ((toTable H).size + 2) i no = some T') : ∃ H', setOwner H i no = .ok H' := by
  unfold Owner.setOwner at h
  rw [toTable_size] at h
  cases h1 : Owner.skipDeadOwners (toTable H) (H.recs.size + 2) no with
  | none => simp [h1] at h
  | some T1 =>
    simp only [h1] at h
    obtain ⟨H1, e1, rfl⟩ := (skipDeadOwners_view no _ H).2 T1 h1
    cases h2 : Owner.isValidOwner (toTable H1) (H.recs.size + 2) i (some no) with
    | none => simp [h2] at h
    | some valid =>
      simp only [h2] at h
      have e2 := (isValidOwner_view H1 i _ _ valid).2 h2
      cases h3 : (toTable H1)[i]? with
      | none => simp [h3] at h
      | some r' =>
        rw [toTable_get] at h3
        cases h3' : H1.recs[i]? with
        | none => simp [h3'] at h3
        | some r =>
          have hi : i < H1.recs.size := lt_of_rec h3'
          -- new_owner is in the table: skipDeadOwners read it
          have hno : no < H1.recs.size := by
            rw [(skipDeadOwners_onlyOwners _ _ _ _ e1).2.1]
            unfold skipDeadOwners at e1
            cases ho : H.orec no with
            | error e => simp [ho] at e1
            | ok rn => exact lt_of_rec (orec_ok.1 ho)
          unfold setOwner
          simp only [bind, Except.bind, e1, e2, orec_ok.2 h3']
          unfold breakCycle
          cases valid with
          | true =>
            simp only [if_true]
            exact updRec_of_lt H1 _ hi
          | false =>
            simp only [Bool.false_eq_true, if_false]
            obtain ⟨H2, h2'⟩ := updRec_of_lt H1 (fun x => { x with owner := r.owner }) hno
            rw [h2']
            simp only
            exact updRec_of_lt H2 _ (by rw [(updRec_ok h2').2.2.1]; exact hi)

/-- `MoveSplits` on two valid records never faults -/
theorem moveSplits_total {H : Heap} {a b : Nat} (ha : a < H.recs.size) (hb : b < H.recs.size) : ∃ H', moveSplits H a b = .ok H' := by
  unfold moveSplits
  obtain ⟨rca, hra⟩ := rec_of_lt ha
  simp only [bind, Except.bind, orec_ok.2 hra]
  cases rca.splits with
  | none => exact ⟨H, rfl⟩
  | some fs =>
    simp only
    obtain ⟨H1, h1⟩ := updRec_of_lt H (fun x => { x with splits := some (x.splits.getD [] ++ fs) }) hb
    rw [h1]
    simp only
    exact updRec_of_lt H1 _ (by rw [(updRec_ok h1).2.2.1]; exact ha)

/-- the two-ring branch terminates (under `using_polytree_`: for an acyclic owner graph with in-range owners) -/
theorem mergeBranch_total {tree : Bool} {H : Heap} {r1 r2 : Nat} (h1 : r1 < H.recs.size) (h2 : r2 < H.recs.size)
    (hA : tree = true → Owner.Acyclic (toTable H) ∧ Owner.OwnersInRange (toTable H)) :
    ∃ H', mergeBranch tree H (some r1) (some r2) = .ok H' := by
  obtain ⟨H1, e1⟩ := updRec_of_lt H (fun x => { x with pts := none }) h2
  have z1 := (updRec_ok e1).2.2.1
  unfold mergeBranch
  simp only [bind, Except.bind, e1]
  cases tree with
  | false =>
    simp only [Bool.false_eq_true, if_false]
    exact updRec_of_lt H1 _ (by rw [z1]; exact h2)
  | true =>
    simp only [if_true]
    obtain ⟨hAc, hO⟩ := hA rfl
    have eT := toTable_updRec (g' := fun x => { x with hasPts := false }) e1 fun _ => rfl
    -- emptying `or2` changes no owner
    have hown : ∀ (j : Nat) (r' : Owner.OutRec), (toTable H1)[j]? = some r' →
        ∃ r, (toTable H)[j]? = some r ∧ r.owner = r'.owner := fun j r' hj => by
      rw [eT] at hj
      exact Owner.modify_field (·.owner) hj fun _ => rfl
    have hO1 : Owner.OwnersInRange (toTable H1) := fun j r' o hj ho => by
      obtain ⟨r, hr, e⟩ := hown j r' hj
      rw [toTable_size, z1, ← toTable_size]
      exact hO j r o hr (e.trans ho)
    obtain ⟨T', hs⟩ := Option.ne_none_iff_exists'.1 (Owner.setOwner_total (hAc.of_same_owner hown) hO1 (i := r2) (no := r1)
      (by rw [toTable_size, z1]; exact h2) (by rw [toTable_size, z1]; exact h1))
    obtain ⟨H2, e2⟩ := setOwner_of_view hs
    have z2 := (setOwner_onlyOwners e2).2.1
    rw [e2]
    exact moveSplits_total (by rw [z2, z1]; exact h2) (by rw [z2, z1]; exact h1)

end Clipper.Model.HorzJoins

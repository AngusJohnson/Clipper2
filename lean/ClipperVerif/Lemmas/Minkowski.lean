/- Helper lemmas for Props/C19: the two loops of `detail::Minkowski` as recursions over the *elements*
(instead of indices), and the passage from those recursions to the zip/flatMap closed form. -/
import ClipperVerif.Model.Minkowski
namespace Clipper.Lemmas.Minkowski
open Clipper Clipper.Model.Minkowski

/-- quads of one path edge as a recursion over two rows of `tmp` with the previous column carried along -/
def rowQuads (isPos : Path → Bool) : Pt × Pt → Path → Path → Paths
  | (a, b), d :: l1, c :: l2 => orient isPos [a, b, c, d] :: rowQuads isPos (d, c) l1 l2
  | _, _, _ => []

/-- the inner loop, started at column `s` with `k` columns to go -/
theorem inner_spec (isPos : Path → Bool) (tmp : Paths) (g i n : Nat) (rg ri : Path)
    (hg : tmp[g]? = some rg) (hi : tmp[i]? = some ri) (hlg : rg.length = n) (hli : ri.length = n) :
    ∀ (k s h : Nat) (res : Paths) (a b : Pt), s + k = n → rg[h]? = some a → ri[h]? = some b →
      inner isPos tmp g i (List.range' s k) (h, res)
        = some (if k = 0 then h else n - 1, res ++ rowQuads isPos (a, b) (rg.drop s) (ri.drop s)) := by
  intro k
  induction k with
  | zero =>
    intro s h res a b hs _ _
    have h1 : rg.drop s = [] := List.drop_eq_nil_of_le (by omega)
    have h2 : ri.drop s = [] := List.drop_eq_nil_of_le (by omega)
    simp [inner, h1, h2, rowQuads]
  | succ k ih =>
    intro s h res a b hs ha hb
    have hsg : s < rg.length := by omega
    have hsi : s < ri.length := by omega
    simp only [List.range'_succ, inner, mkQuad, hg, hi, ha, hb, List.getElem?_eq_getElem hsi, List.getElem?_eq_getElem hsg]
    rw [ih (s + 1) s _ rg[s] ri[s] (by omega) (List.getElem?_eq_getElem hsg) (List.getElem?_eq_getElem hsi),
      List.drop_eq_getElem_cons hsg, List.drop_eq_getElem_cons hsi]
    simp only [rowQuads, List.append_assoc, List.singleton_append, Nat.add_one_ne_zero, if_false]
    congr 2
    split <;> omega

/-- all quads as a recursion over the rows of `tmp`, previous row carried along -/
def allQuads (isPos : Path → Bool) : Path → Paths → Paths
  | _, [] => []
  | rg, ri :: rest =>
    (match rg.getLast?, ri.getLast? with
     | some a, some b => rowQuads isPos (a, b) rg ri
     | _, _ => []) ++ allQuads isPos ri rest

/-- the outer loop, started at row `s` with `k` rows to go; all rows have length `n > 0` -/
theorem outer_spec (isPos : Path → Bool) (tmp : Paths) (n : Nat) (hn : 0 < n)
    (hrows : ∀ r ∈ tmp, r.length = n) :
    ∀ (k s g : Nat) (res : Paths) (rg : Path), s + k = tmp.length → tmp[g]? = some rg →
      ∃ g', outer isPos tmp n (List.range' s k) (g, n - 1, res)
        = some (g', n - 1, res ++ allQuads isPos rg (tmp.drop s)) := by
  intro k
  induction k with
  | zero =>
    intro s g res rg hs _
    have h1 : tmp.drop s = [] := List.drop_eq_nil_of_le (by omega)
    exact ⟨g, by simp [outer, h1, allQuads]⟩
  | succ k ih =>
    intro s g res rg hs hg
    have hst : s < tmp.length := by omega
    have hi : tmp[s]? = some tmp[s] := List.getElem?_eq_getElem hst
    have hlg : rg.length = n := hrows rg (List.mem_of_getElem? hg)
    have hli : tmp[s].length = n := hrows _ (List.getElem_mem hst)
    obtain ⟨a, hga⟩ : ∃ a, rg[n - 1]? = some a :=
      ⟨_, List.getElem?_eq_getElem (l := rg) (i := n - 1) (by omega)⟩
    obtain ⟨b, hib⟩ : ∃ b, tmp[s][n - 1]? = some b :=
      ⟨_, List.getElem?_eq_getElem (l := tmp[s]) (i := n - 1) (by omega)⟩
    have hinner := inner_spec isPos tmp g s n rg tmp[s] hg hi hlg hli n 0 (n - 1) res a b (by omega) hga hib
    rw [List.range'_succ, outer, hinner]
    simp only
    have hn0 : ¬ n = 0 := by omega
    simp only [hn0, if_false]
    obtain ⟨g', hg'⟩ := ih (s + 1) s (res ++ rowQuads isPos (a, b) (rg.drop 0) (tmp[s].drop 0))
      tmp[s] (by omega) hi
    refine ⟨g', ?_⟩
    rw [hg', List.drop_eq_getElem_cons hst]
    have e1 : rg.getLast? = some a := by
      rw [List.getLast?_eq_getElem?, hlg]; exact hga
    have e2 : tmp[s].getLast? = some b := by
      rw [List.getLast?_eq_getElem?, hli]; exact hib
    simp [allQuads, e1, e2]

open Clipper.Spec.Minkowski in
theorem shift_eq_pm : shift = pm := rfl

open Clipper.Spec.Minkowski in
/-- one row pair in closed form: consecutive pattern points `(prev, cur)` -/
theorem rowQuads_map (isPos : Path → Bool) (isSum : Bool) (pg pi : Pt) :
    ∀ (pattern : Path) (q0 : Pt),
      rowQuads isPos (shift isSum pg q0, shift isSum pi q0) (pattern.map (shift isSum pg)) (pattern.map (shift isSum pi))
        = ((q0 :: pattern).zip pattern).map (fun d => orient isPos (quadAt isSum pg pi d.1 d.2)) := by
  intro pattern
  induction pattern with
  | nil => intro q0; simp [rowQuads]
  | cons q rest ih =>
    intro q0
    simp only [List.map_cons, rowQuads, List.zip_cons_cons]
    rw [ih q]
    simp [quadAt, shift_eq_pm]

open Clipper.Spec.Minkowski in
/-- all rows in closed form: consecutive path points `(prev, cur)` -/
theorem allQuads_map (isPos : Path → Bool) (isSum : Bool) (pattern : Path) :
    ∀ (rest : Path) (pg : Pt),
      allQuads isPos (translate isSum pattern pg) (rest.map (translate isSum pattern))
        = ((pg :: rest).zip rest).flatMap (fun e =>
            (cyclicEdges pattern).map (fun d => orient isPos (quadAt isSum e.1 e.2 d.1 d.2))) := by
  intro rest
  induction rest with
  | nil => intro pg; simp [allQuads]
  | cons p rest ih =>
    intro pg
    simp only [List.map_cons, allQuads, List.zip_cons_cons, List.flatMap_cons]
    rw [ih p]
    congr 1
    simp only [translate, List.getLast?_map, cyclicEdges]
    cases hz : pattern.getLast? with
    | none => simp
    | some z => simp only [Option.map_some]; exact rowQuads_map isPos isSum pg p pattern z

end Clipper.Lemmas.Minkowski

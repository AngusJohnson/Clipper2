/-
The marshalling model (`Model/Export.lean`): every writer is `putAll` of the documented encoding (`encPath`, `encBody`,
`encPolyPath`) and fills its block exactly; every reader, described by what lies ahead of its cursor (`a.drop pos = consumed ++ rest`),
returns what was encoded.  Core Lean only.
-/
import ClipperVerif.Model.Export
namespace Clipper.Model.Export

theorem bind_ok {α β : Type} (a : α) (f : α → M β) : ((Except.ok a : M α) >>= f) = f a := rfl
theorem bind_error {α β : Type} (e : Fault) (f : α → M β) : ((Except.error e : M α) >>= f) = .error e := rfl

theorem putAll_append (w : Wr) (xs ys : List Int) :
    putAll w (xs ++ ys) = putAll w xs >>= fun w' => putAll w' ys := by
  induction xs generalizing w with
  | nil => rfl
  | cons x xs ih => simp only [List.cons_append, putAll, bind_assoc, ih]

theorem putAll_ok (pre rest xs : List Int) (h : xs.length ≤ rest.length) :
    putAll ⟨pre ++ rest, pre.length⟩ xs = .ok ⟨pre ++ xs ++ rest.drop xs.length, pre.length + xs.length⟩ := by
  induction xs generalizing pre rest with
  | nil => simp [putAll]
  | cons x xs ih =>
    cases rest with
    | nil => simp at h
    | cons r rest' =>
      have hlt : pre.length < (pre ++ r :: rest').length := by simp
      simp only [putAll, Wr.put, hlt, if_true, bind_ok]
      have hset : (pre ++ r :: rest').set pre.length x = (pre ++ [x]) ++ rest' := by
        simp [List.set_append_right]
      have hlen : pre.length + 1 = (pre ++ [x]).length := by simp
      rw [hset, hlen, ih (pre ++ [x]) rest' (by simpa using h)]
      simp [Nat.add_assoc, Nat.add_comm 1]

theorem foldlM_writeVtx (p : VPath) (w : Wr) : p.foldlM writeVtx w = putAll w p.flatten := by
  induction p generalizing w with
  | nil => rfl
  | cons v p ih => simp only [List.foldlM_cons, List.flatten_cons, putAll_append, writeVtx, ih]

theorem writePath_eq (w : Wr) (p : VPath) : writePath w p = putAll w (encPath p) := by
  unfold writePath encPath
  split
  · rfl
  · simp only [putAll, foldlM_writeVtx]

theorem foldlM_writePath (ps : VPaths) (w : Wr) : ps.foldlM writePath w = putAll w (encBody ps) := by
  induction ps generalizing w with
  | nil => rfl
  | cons p ps ih => simp only [List.foldlM_cons, encBody, List.map_cons, List.flatten_cons, putAll_append, writePath_eq, ih]

theorem flatten_length_of_dim {dim : Nat} {p : VPath} (h : ∀ v ∈ p, v.length = dim) :
    p.flatten.length = p.length * dim := by
  induction p with
  | nil => simp
  | cons v p ih =>
    have hv : v.length = dim := h v (by simp)
    have := ih (fun v hv => h v (by simp [hv]))
    simp [List.flatten_cons, hv, this, Nat.add_mul, Nat.add_comm]

theorem encPath_length {dim : Nat} {p : VPath} (h : ∀ v ∈ p, v.length = dim) :
    (encPath p).length = if p.length = 0 then 0 else p.length * dim + 2 := by
  unfold encPath
  by_cases h0 : p.length = 0
  · simp [h0]
  · simp [h0, flatten_length_of_dim h]

theorem countStep_fold (dim : Nat) (ps : VPaths) (h : WellDim dim ps) (c l : Nat) :
    ps.foldl (countStep dim) (c, l) = (c + (ps.filter (· ≠ [])).length, l + (encBody ps).length) := by
  induction ps generalizing c l with
  | nil => simp [encBody]
  | cons p ps ih =>
    have hp : ∀ v ∈ p, v.length = dim := h p (by simp)
    have hps : WellDim dim ps := fun q hq => h q (by simp [hq])
    simp only [List.foldl_cons, encBody, List.map_cons, List.flatten_cons, List.length_append]
    cases p with
    | nil => simpa [countStep, encPath, encBody] using ih hps c l
    | cons v p' =>
      have hl := encPath_length hp
      simp only [List.length_cons, Nat.add_one_ne_zero, if_false] at hl
      rw [show countStep dim (c, l) (v :: p') = (c + 1, l + ((p'.length + 1) * dim + 2)) by simp [countStep]]
      rw [ih hps]
      simp [hl, encBody, Nat.add_assoc, Nat.add_comm 1]

theorem getPathCountAndCPathsArrayLen_eq (dim : Nat) (ps : VPaths) (h : WellDim dim ps) :
    getPathCountAndCPathsArrayLen dim ps = ((ps.filter (· ≠ [])).length, (encBody ps).length + 2) := by
  unfold getPathCountAndCPathsArrayLen
  rw [countStep_fold dim ps h]; simp [Nat.add_comm]

theorem flatCPaths_length (ps : VPaths) : (flatCPaths ps).length = (encBody ps).length + 2 := by
  simp [flatCPaths]

theorem putAll_alloc (xs : List Int) : putAll (Wr.alloc xs.length) xs = .ok ⟨xs, xs.length⟩ := by
  simpa [Wr.alloc] using putAll_ok [] (List.replicate xs.length 0) xs (by simp)

theorem createCPathsW_eq (dim : Nat) (ps : VPaths) (h : WellDim dim ps) :
    createCPathsW dim ps = .ok ⟨flatCPaths ps, (flatCPaths ps).length⟩ := by
  have key := putAll_alloc (flatCPaths ps)
  rw [flatCPaths_length] at key ⊢
  simpa only [createCPathsW, getPathCountAndCPathsArrayLen_eq dim ps h, foldlM_writePath, flatCPaths, putAll] using key

theorem drop_append_length {a u v : List Int} {pos : Nat} (h : a.drop pos = u ++ v) : a.drop (pos + u.length) = v := by
  rw [← List.drop_drop, h, List.drop_left]

theorem rd_drop {a : List Int} {pos : Nat} {x : Int} {rest : List Int} (h : a.drop pos = x :: rest) : rd a pos = .ok x := by
  have : a[pos]? = some x := by rw [← Nat.add_zero pos, ← List.getElem?_drop, h]; rfl
  rw [rd, this]

theorem toCount_nat (n : Nat) : toCount (n : Int) = .ok n := by
  simp [toCount]

theorem readN_drop {a : List Int} (xs : List Int) {rest : List Int} {pos : Nat} (h : a.drop pos = xs ++ rest) :
    readN a xs.length pos = .ok (xs, pos + xs.length) := by
  induction xs generalizing pos with
  | nil => rfl
  | cons x xs ih =>
    have h' : a.drop (pos + 1) = xs ++ rest := drop_append_length (u := [x]) h
    simp only [List.length_cons, readN, rd_drop h, ih h', bind_ok, Nat.add_assoc, Nat.add_comm 1]; rfl

theorem readVerts_drop {dim : Nat} {a : List Int} (p : VPath) {rest : List Int} {pos : Nat}
    (h : a.drop pos = p.flatten ++ rest) (hd : ∀ v ∈ p, v.length = dim) :
    readVerts dim a p.length pos = .ok (p, pos + p.flatten.length) := by
  induction p generalizing pos with
  | nil => rfl
  | cons v p ih =>
    obtain rfl : v.length = dim := hd v (by simp)
    rw [List.flatten_cons, List.append_assoc] at h
    simp only [List.length_cons, readVerts, readN_drop v h, bind_ok,
      ih (drop_append_length h) (fun u hu => hd u (by simp [hu])), List.flatten_cons, List.length_append, Nat.add_assoc]; rfl

theorem encPath_ne_nil {p : VPath} (hne : p ≠ []) : encPath p = (p.length : Int) :: 0 :: p.flatten := by
  have : p.length ≠ 0 := by simpa using hne
  simp [encPath, this]

theorem readPaths_drop {dim : Nat} {a : List Int} (ps : VPaths) {rest : List Int} {pos : Nat}
    (h : a.drop pos = encBody ps ++ rest) (hd : WellDim dim ps) :
    readPaths dim a (ps.filter (· ≠ [])).length pos = .ok (ps.filter (· ≠ []), pos + (encBody ps).length) := by
  induction ps generalizing pos with
  | nil => rfl
  | cons p ps ih =>
    have hps : WellDim dim ps := fun q hq => hd q (by simp [hq])
    by_cases hne : p = []
    · subst hne; simpa [encBody, encPath] using ih (by simpa [encBody, encPath] using h) hps
    · have hb : encBody (p :: ps) = [(p.length : Int), 0] ++ (p.flatten ++ encBody ps) := by
        simp [encBody, encPath_ne_nil hne]
      rw [hb, List.append_assoc] at h
      have h2 : a.drop (pos + 2) = p.flatten ++ (encBody ps ++ rest) := by
        rw [List.append_assoc] at h; exact drop_append_length h
      have hf : (p :: ps).filter (· ≠ []) = p :: ps.filter (· ≠ []) := by simp [hne]
      simp only [hf, List.length_cons, readPaths, rd_drop h, bind_ok, toCount_nat,
        readVerts_drop p h2 (hd p (by simp)), ih (drop_append_length h2) hps, hb, List.length_append, List.length_nil]
      congr 2; omega

theorem convertCPathsPos_flat (dim : Nat) (ps : VPaths) (h : WellDim dim ps) :
    convertCPathsPos dim (some (flatCPaths ps)) = .ok (ps.filter (· ≠ []), (flatCPaths ps).length) := by
  have h1 : rd (flatCPaths ps) 1 = .ok (((ps.filter (· ≠ [])).length : Nat) : Int) := rd_drop (rest := encBody ps) rfl
  have h2 := readPaths_drop (a := flatCPaths ps) (pos := 2) ps (List.append_nil _).symm h
  simp only [convertCPathsPos, h1, bind_ok, toCount_nat, h2, flatCPaths_length, Nat.add_comm 2]

mutual
theorem createCPolyPath_eq : (t : PPath) → (w : Wr) → createCPolyPath t w = putAll w (encPolyPath t)
  | .node poly kids, w => by
    simp only [createCPolyPath, encPolyPath, putAll, foldlM_writeVtx, putAll_append, createCPolyPathList_eq kids]
theorem createCPolyPathList_eq : (ts : List PPath) → (w : Wr) → createCPolyPathList ts w = putAll w (encPolyPathList ts)
  | [], _ => rfl
  | t :: ts, w => by
    simp only [createCPolyPathList, encPolyPathList, putAll_append, createCPolyPath_eq t]
    exact bind_congr (createCPolyPathList_eq ts)
end

mutual
theorem encPolyPath_length (dim : Nat) : (t : PPath) → t.WellDim dim → (encPolyPath t).length = getPolyPathArrayLen dim t
  | .node poly kids, h => by
    simp only [PPath.WellDim] at h
    simp only [encPolyPath, getPolyPathArrayLen, List.length_cons, List.length_append,
      flatten_length_of_dim h.1, encPolyPathList_length dim kids h.2]
    omega
theorem encPolyPathList_length (dim : Nat) : (ts : List PPath) → PPath.WellDimList dim ts →
    (encPolyPathList ts).length = getPolyPathArrayLenList dim ts
  | [], _ => by simp [encPolyPathList, getPolyPathArrayLenList]
  | t :: ts, h => by
    simp only [PPath.WellDimList] at h
    simp only [encPolyPathList, getPolyPathArrayLenList, List.length_append,
      encPolyPath_length dim t h.1, encPolyPathList_length dim ts h.2]
end

mutual
def PPath.depth : PPath → Nat
  | .node _ kids => 1 + PPath.depthList kids
def PPath.depthList : List PPath → Nat
  | [] => 0
  | t :: ts => max (PPath.depth t) (PPath.depthList ts)
end

mutual
theorem depth_le_length : (t : PPath) → t.depth ≤ (encPolyPath t).length
  | .node poly kids => by
    have := depthList_le_length kids
    simp only [PPath.depth, encPolyPath, List.length_cons, List.length_append]; omega
theorem depthList_le_length : (ts : List PPath) → PPath.depthList ts ≤ (encPolyPathList ts).length
  | [] => by simp [PPath.depthList]
  | t :: ts => by
    have := depth_le_length t; have := depthList_le_length ts
    simp only [PPath.depthList, encPolyPathList, List.length_append]; omega
end

mutual
theorem readPolyPath_drop {dim : Nat} {a : List Int} : (t : PPath) → ∀ (fuel : Nat) {rest : List Int} {pos : Nat},
    a.drop pos = encPolyPath t ++ rest → t.WellDim dim → t.depth ≤ fuel →
    readPolyPath dim a fuel pos = .ok (t, pos + (encPolyPath t).length)
  | .node poly kids, fuel, rest, pos, h, hwd, hfuel => by
    simp only [PPath.WellDim] at hwd
    simp only [PPath.depth] at hfuel
    cases fuel with
    | zero => omega
    | succ f =>
      have h1 : a.drop (pos + 1) = (kids.length : Int) :: (poly.flatten ++ encPolyPathList kids ++ rest) :=
        drop_append_length (u := [(poly.length : Int)]) h
      have h2 : a.drop (pos + 2) = poly.flatten ++ (encPolyPathList kids ++ rest) := by
        rw [← List.append_assoc]; exact drop_append_length (u := [(kids.length : Int)]) h1
      simp only [readPolyPath, rd_drop h, rd_drop h1, bind_ok, toCount_nat, readVerts_drop poly h2 hwd.1,
        readMany_drop kids f (drop_append_length h2) hwd.2 (by omega), encPolyPath, List.length_cons, List.length_append]
      congr 2; omega
theorem readMany_drop {dim : Nat} {a : List Int} : (ts : List PPath) → ∀ (fuel : Nat) {rest : List Int} {pos : Nat},
    a.drop pos = encPolyPathList ts ++ rest → PPath.WellDimList dim ts → PPath.depthList ts ≤ fuel →
    readMany (readPolyPath dim a fuel) ts.length pos = .ok (ts, pos + (encPolyPathList ts).length)
  | [], _, _, _, _, _, _ => rfl
  | t :: ts, fuel, rest, pos, h, hwd, hfuel => by
    simp only [PPath.WellDimList] at hwd
    simp only [PPath.depthList] at hfuel
    rw [encPolyPathList, List.append_assoc] at h
    simp only [List.length_cons, readMany, readPolyPath_drop t fuel h hwd.1 (by omega), bind_ok,
      readMany_drop ts fuel (drop_append_length h) hwd.2 (by omega), encPolyPathList, List.length_append, Nat.add_assoc]
    rfl
end

theorem readPolyPath_ok (dim : Nat) : (t : PPath) → ∀ (fuel : Nat) (pre post : List Int) (pos : Nat),
    pos = pre.length → t.WellDim dim → t.depth ≤ fuel →
    readPolyPath dim (pre ++ encPolyPath t ++ post) fuel pos = .ok (t, pos + (encPolyPath t).length) :=
  fun t fuel pre post _ hpos hwd hfuel =>
    readPolyPath_drop t fuel (rest := post) (by subst hpos; rw [List.append_assoc, List.drop_left]) hwd hfuel

theorem flatCPolyTree_length (t : PPath) : (flatCPolyTree t).length = (encPolyPathList t.kids).length + 2 := by
  simp [flatCPolyTree]

theorem readPolyTreePos_flat (dim : Nat) (kids : List PPath) (h : PPath.WellDimList dim kids) :
    readPolyTreePos dim (some (flatCPolyTree (.node [] kids))) = .ok (.node [] kids, (flatCPolyTree (.node [] kids)).length) := by
  have h1 : rd (flatCPolyTree (.node [] kids)) 1 = .ok (kids.length : Int) := rd_drop (rest := encPolyPathList kids) rfl
  have hfuel : PPath.depthList kids ≤ (flatCPolyTree (.node [] kids)).length := by
    have := depthList_le_length kids
    rw [flatCPolyTree_length]; exact Nat.le_add_right_of_le this
  have h2 := readMany_drop (a := flatCPolyTree (.node [] kids)) (pos := 2) kids _ (List.append_nil _).symm h hfuel
  simp only [readPolyTreePos, h1, bind_ok, toCount_nat, h2]
  rw [flatCPolyTree_length, Nat.add_comm 2]; rfl

/-- `CreateCPolyTree64` on a tree with children whose root carries no polygon (every `PolyTree64` the export layer
builds): never leaves its block, fills it exactly, and produces the documented layout -/
theorem createCPolyTreeW_eq (dim : Nat) (kids : List PPath) (hk : kids ≠ []) (h : PPath.WellDimList dim kids) :
    createCPolyTreeW dim (.node [] kids) = .ok (some ⟨flatCPolyTree (.node [] kids), (flatCPolyTree (.node [] kids)).length⟩) := by
  have hk' : kids.length ≠ 0 := by simpa using hk
  have hlen : getPolyPathArrayLen dim (.node [] kids) = (encPolyPathList kids).length + 2 := by
    simp [getPolyPathArrayLen, encPolyPathList_length dim kids h, Nat.add_comm]
  have key := putAll_alloc (flatCPolyTree (.node [] kids))
  rw [flatCPolyTree_length] at key ⊢
  simp only [flatCPolyTree, PPath.kids, putAll] at key ⊢
  simp only [createCPolyTreeW, PPath.kids, hk', if_false, hlen, createCPolyPathList_eq, ← bind_assoc, key, bind_ok]
  rfl

theorem scaleVtx_length (k : Int) (v : Vtx) : (scaleVtx k v).length = v.length := by
  unfold scaleVtx; split <;> simp

theorem writePathScaled_eq (k : Int) (w : Wr) (p : VPath) :
    writePathScaled k w p = writePath w (p.map (scaleVtx k)) := by
  simp only [writePathScaled, writePath, List.length_map, List.foldlM_map]

theorem countStep_map (dim : Nat) (f : Vtx → Vtx) (ps : VPaths) (acc : Nat × Nat) :
    (ps.map (·.map f)).foldl (countStep dim) acc = ps.foldl (countStep dim) acc := by
  induction ps generalizing acc with
  | nil => rfl
  | cons p ps ih => simp only [List.map_cons, List.foldl_cons]; rw [show countStep dim acc (p.map f) = countStep dim acc p by simp [countStep]]; exact ih _

/-- `CreateCPathsDFromPaths64(paths, scale)` is the plain writer applied to the scaled vertices -/
theorem createCPathsDFromPaths64_eq (dim : Nat) (k : Int) (ps : VPaths) :
    createCPathsDFromPaths64 dim k ps = createCPathsD dim (ps.map (·.map (scaleVtx k))) := by
  unfold createCPathsDFromPaths64 createCPathsDFromPaths64W createCPathsD createCPaths createCPathsW getPathCountAndCPathsArrayLen
  by_cases h0 : ps.length = 0
  · simp [h0, Except.map]
  · simp only [h0, if_false, List.length_map, countStep_map]
    have : ∀ w : Wr, ps.foldlM (writePathScaled k) w = (ps.map (·.map (scaleVtx k))).foldlM writePath w := by
      intro w; rw [List.foldlM_map]; congr 1; funext w p; exact writePathScaled_eq k w p
    show (_ <$> _ : M CArr) = _ <$> (_ <$> (_ : M Wr))
    simp only [this, bind_pure_comp, Functor.map_map, map_bind]
    rfl

theorem wellDim_scale (dim : Nat) (k : Int) (ps : VPaths) (h : WellDim dim ps) : WellDim dim (ps.map (·.map (scaleVtx k))) := by
  intro p hp v hv
  simp only [List.mem_map] at hp
  obtain ⟨q, hq, rfl⟩ := hp
  simp only [List.mem_map] at hv
  obtain ⟨u, hu, rfl⟩ := hv
  rw [scaleVtx_length]; exact h q hq u hu

end Clipper.Model.Export

/-
Combinatorics of circular doubly linked lists, independent of the heap representation: a link structure is a pair of partial
functions `nx pv : Nat → Option Nat` (`->next`, `->prev`); a *ring* is a duplicate-free list `c = a :: t` whose consecutive
elements are linked both ways, the last one back to `a`.  Pointer surgery is function update (`upd`).

A ring is a closed chain (`CycR`, `Lemmas/Chain.lean`) under the relation `LinkF nx pv`, without repetition and non-empty
(`isRingF_cycR`): a chain together with the link from its last element to its first (`isRingF_iff`); through two stretches `P`, `Q`
the two chains and the two links between them (`isRingF_append_iff`).  Every surgery of the join pass writes the `next` of the last
and the `prev` of the first node of two disjoint chains, which keeps every other link (`linkF_upd4`), and closes each chain on itself
(`splice_same`, by `cycR_split`: a ring falls apart) or the two into one ring (`ring_of_chains`, by `cycR_merge`: two rings merge, a
node is inserted).  At the end of the file closed chains are used once more, under "the edge is horizontal or vertical" (`RectRing`).

Used by `Lemmas/HorzJoins.lean` (which reads `nx`/`pv` off the heap of `Model/HorzJoins.lean`).  Core Lean only.
-/
import ClipperVerif.Spec.Basic
import ClipperVerif.Lemmas.Chain
namespace Clipper.Model.HorzJoins
open Clipper

abbrev PF := Nat → Option Nat

/-- `f[i] := v` -/
def upd (f : PF) (i v : Nat) : PF := fun j => if j = i then some v else f j

@[simp] theorem upd_same (f : PF) (i v : Nat) : upd f i v i = some v := by simp [upd]
theorem upd_ne (f : PF) {i j : Nat} (v : Nat) (h : j ≠ i) : upd f i v j = f j := by simp [upd, h]

theorem upd_self {f : PF} {i v : Nat} (h : f i = some v) : upd f i v = f := by
  funext j
  by_cases hj : j = i
  · rw [hj, upd_same, h]
  · rw [upd_ne _ _ hj]

theorem upd_comm (f : PF) {i j : Nat} (v w : Nat) (h : i ≠ j) : upd (upd f i v) j w = upd (upd f j w) i v := by
  funext k
  by_cases hk : k = j
  · subst hk; rw [upd_same, upd_ne _ _ (Ne.symm h), upd_same]
  · rw [upd_ne _ _ hk]
    by_cases hi : k = i
    · subst hi; rw [upd_same, upd_same]
    · rw [upd_ne _ _ hi, upd_ne _ _ hi, upd_ne _ _ hk]

/-- `a->next == b && b->prev == a` -/
def LinkF (nx pv : PF) (a b : Nat) : Prop := nx a = some b ∧ pv b = some a

/-- consecutive elements are linked -/
def ChainF (nx pv : PF) : List Nat → Prop
  | [] => True
  | [_] => True
  | a :: b :: r => LinkF nx pv a b ∧ ChainF nx pv (b :: r)

@[simp] theorem chainF_nil (nx pv : PF) : ChainF nx pv [] = True := rfl
@[simp] theorem chainF_single (nx pv : PF) (a : Nat) : ChainF nx pv [a] = True := rfl
@[simp] theorem chainF_cons2 (nx pv : PF) (a b : Nat) (r : List Nat) :
    ChainF nx pv (a :: b :: r) = (LinkF nx pv a b ∧ ChainF nx pv (b :: r)) := rfl

theorem chainF_eq_chainR (nx pv : PF) : ∀ (l : List Nat), ChainF nx pv l = ChainR (LinkF nx pv) l
  | [] => rfl
  | [_] => rfl
  | a :: b :: r => by rw [chainF_cons2, chainR_cons2, chainF_eq_chainR nx pv (b :: r)]

theorem chainF_append (nx pv : PF) (l1 : List Nat) (m : Nat) (l2 : List Nat) :
    ChainF nx pv (l1 ++ m :: l2) ↔ ChainF nx pv (l1 ++ [m]) ∧ ChainF nx pv (m :: l2) := by
  simp only [chainF_eq_chainR]; exact chainR_append _ l1 m l2

theorem chainF_snoc_last {nx pv : PF} {z x : Nat} {l : List Nat} (hx : l.getLast? = some x) :
    ChainF nx pv (l ++ [z]) ↔ ChainF nx pv l ∧ LinkF nx pv x z := by
  simp only [chainF_eq_chainR]; exact chainR_snoc_last hx

theorem chainF_append_iff {nx pv : PF} {P Q : List Nat} {z h : Nat} (hz : P.getLast? = some z) (hh : Q.head? = some h) :
    ChainF nx pv (P ++ Q) ↔ ChainF nx pv P ∧ LinkF nx pv z h ∧ ChainF nx pv Q := by
  simp only [chainF_eq_chainR]; exact chainR_append_iff hz hh

theorem chainF_reverse {nx pv : PF} (l : List Nat) (h : ChainF nx pv l) : ChainF pv nx l.reverse := by
  rw [chainF_eq_chainR] at h ⊢
  exact chainR_mono _ (fun _ _ _ _ hl => ⟨hl.2, hl.1⟩) (chainR_reverse l h)

/-- `c` is a ring: no repetition, consecutive elements linked, the last linked to the first -/
def IsRingF (nx pv : PF) : List Nat → Prop
  | [] => False
  | a :: t => (a :: t).Nodup ∧ ChainF nx pv (a :: t ++ [a])

theorem IsRingF.nodup {nx pv : PF} : ∀ {c : List Nat}, IsRingF nx pv c → c.Nodup
  | [], h => h.elim
  | _ :: _, h => h.1

theorem IsRingF.ne_nil {nx pv : PF} : ∀ {c : List Nat}, IsRingF nx pv c → c ≠ []
  | [], h => h.elim
  | _ :: _, _ => by simp

theorem isRingF_cycR {nx pv : PF} {c : List Nat} : IsRingF nx pv c ↔ c ≠ [] ∧ c.Nodup ∧ CycR (LinkF nx pv) c := by
  cases c with
  | nil => simp [IsRingF]
  | cons a t => simp [IsRingF, CycR, chainF_eq_chainR]

/-- a ring is a duplicate-free chain whose last element is linked to its first -/
theorem isRingF_iff {nx pv : PF} {c : List Nat} {h z : Nat} (hh : c.head? = some h) (hz : c.getLast? = some z) :
    IsRingF nx pv c ↔ c.Nodup ∧ ChainF nx pv c ∧ LinkF nx pv z h := by
  obtain ⟨t, rfl⟩ := List.head?_eq_some_iff.1 hh
  exact and_congr_right fun _ => chainF_snoc_last hz

theorem IsRingF.chain {nx pv : PF} {c : List Nat} (h : IsRingF nx pv c) : ChainF nx pv c := by
  cases c with
  | nil => exact h.elim
  | cons a t =>
    obtain ⟨z, hz⟩ := exists_getLast?_cons a t
    exact ((isRingF_iff rfl hz).1 h).2.1

/-- a ring through the stretches `P` and `Q`: the two chains and the links from the end of each to the start of the other -/
theorem isRingF_append_iff {nx pv : PF} {P Q : List Nat} {hP lP hQ lQ : Nat}
    (hhP : P.head? = some hP) (hlP : P.getLast? = some lP) (hhQ : Q.head? = some hQ) (hlQ : Q.getLast? = some lQ) :
    IsRingF nx pv (P ++ Q) ↔
      (P ++ Q).Nodup ∧ ChainF nx pv P ∧ LinkF nx pv lP hQ ∧ ChainF nx pv Q ∧ LinkF nx pv lQ hP := by
  rw [isRingF_iff (c := P ++ Q) (h := hP) (z := lQ) (by simp [hhP]) (by simp [hlQ]), chainF_append_iff hlP hhQ]
  simp only [and_assoc]

theorem isRingF_rot {nx pv : PF} (a b : List Nat) (h : IsRingF nx pv (a ++ b)) : IsRingF nx pv (b ++ a) := by
  rw [isRingF_cycR] at h ⊢
  exact ⟨by simpa [and_comm] using h.1, List.perm_append_comm.nodup_iff.1 h.2.1, cycR_rot a b h.2.2⟩

theorem IsRingF.next_head {nx pv : PF} {a b : Nat} {t : List Nat} (h : IsRingF nx pv (a :: b :: t)) : LinkF nx pv a b :=
  h.2.1

theorem IsRingF.single {nx pv : PF} {a : Nat} (h : IsRingF nx pv [a]) : LinkF nx pv a a :=
  h.2.1

theorem IsRingF.last_first {nx pv : PF} {a : Nat} {t : List Nat} {z : Nat} (h : IsRingF nx pv (a :: t ++ [z])) : LinkF nx pv z a :=
  ((isRingF_iff (c := a :: t ++ [z]) rfl List.getLast?_concat).1 h).2.2

theorem IsRingF.link_succ {nx pv : PF} {pre post : List Nat} {a s : Nat} (h : IsRingF nx pv (pre ++ a :: post))
    (hs : (post ++ pre ++ [a]).head? = some s) : LinkF nx pv a s :=
  ((isRingF_iff hs List.getLast?_concat).1 (isRingF_rot [a] (post ++ pre) (isRingF_rot pre (a :: post) h))).2.2

theorem IsRingF.link_pred {nx pv : PF} {pre post : List Nat} {a p : Nat} (h : IsRingF nx pv (pre ++ a :: post))
    (hp : (a :: post ++ pre).getLast? = some p) : LinkF nx pv p a :=
  ((isRingF_iff rfl hp).1 (isRingF_rot pre (a :: post) h)).2.2

theorem IsRingF.next_mem {nx pv : PF} {c : List Nat} (h : IsRingF nx pv c) {a : Nat} (ha : a ∈ c) :
    ∃ b ∈ c, LinkF nx pv a b :=
  (isRingF_cycR.1 h).2.2.succ_mem ha

theorem IsRingF.prev_mem {nx pv : PF} {c : List Nat} (h : IsRingF nx pv c) {a : Nat} (ha : a ∈ c) :
    ∃ b ∈ c, LinkF nx pv b a :=
  (isRingF_cycR.1 h).2.2.pred_mem ha

/-- a ring is closed under `->prev` -/
theorem IsRingF.closed_prev {nx pv : PF} {c : List Nat} (h : IsRingF nx pv c) {a b : Nat} (ha : a ∈ c) (hb : pv a = some b) : b ∈ c := by
  obtain ⟨b', hb', hl⟩ := h.prev_mem ha
  cases hl.2.symm.trans hb
  exact hb'

theorem isRingF_congr {nx pv nx' pv' : PF} {c : List Nat} (h : IsRingF nx pv c)
    (hn : ∀ a ∈ c, nx' a = nx a) (hp : ∀ a ∈ c, pv' a = pv a) : IsRingF nx' pv' c := by
  rw [isRingF_cycR] at h ⊢
  exact ⟨h.1, h.2.1, cycR_mono (fun a b ha hb hl => ⟨(hn a ha).trans hl.1, (hp b hb).trans hl.2⟩) h.2.2⟩

theorem isRingF_reverse {nx pv : PF} {a : Nat} {t : List Nat} (h : IsRingF nx pv (a :: t)) : IsRingF pv nx (a :: t.reverse) := by
  refine ⟨?_, ?_⟩
  · have := h.1
    simp only [List.nodup_cons, List.mem_reverse] at this ⊢
    exact ⟨this.1, ((List.reverse_perm t).nodup_iff).2 this.2⟩
  · simpa using chainF_reverse _ h.2

/-- what two writes to `next` and two to `prev` leave of `LinkF` -/
theorem linkF_upd4 {nx pv : PF} {a1 a2 b1 b2 v1 v2 w1 w2 : Nat} (a b : Nat) (h1 : a ≠ a1) (h2 : a ≠ a2) (h3 : b ≠ b1) (h4 : b ≠ b2)
    (hl : LinkF nx pv a b) : LinkF (upd (upd nx a2 v2) a1 v1) (upd (upd pv b2 w2) b1 w1) a b :=
  ⟨by rw [upd_ne _ _ h1, upd_ne _ _ h2]; exact hl.1, by rw [upd_ne _ _ h3, upd_ne _ _ h4]; exact hl.2⟩

/-- two disjoint chains closed into one ring (`lastP->next = firstQ; lastQ->next = firstP;` and the `prev`s accordingly) -/
theorem ring_of_chains {nx pv : PF} {P Q : List Nat} {hP lP hQ lQ : Nat} (hnd : (P ++ Q).Nodup)
    (hhP : P.head? = some hP) (hlP : P.getLast? = some lP) (hhQ : Q.head? = some hQ) (hlQ : Q.getLast? = some lQ)
    (cP : ChainF nx pv P) (cQ : ChainF nx pv Q) :
    IsRingF (upd (upd nx lP hQ) lQ hP) (upd (upd pv hQ lP) hP lQ) (P ++ Q) := by
  obtain ⟨_, _, dis⟩ := List.nodup_append.1 hnd
  have e1 : lP ≠ lQ := dis lP (List.mem_of_getLast? hlP) lQ (List.mem_of_getLast? hlQ)
  have e2 : hQ ≠ hP := (dis hP (List.mem_of_head? hhP) hQ (List.mem_of_head? hhQ)).symm
  rw [chainF_eq_chainR] at cP cQ
  exact isRingF_cycR.2 ⟨by simp [List.ne_nil_of_mem (List.mem_of_head? hhP)], hnd,
    cycR_merge hnd hhP hlP hhQ hlQ (fun a b h1 h2 => linkF_upd4 a b h2 h1) cP cQ
      ⟨by rw [upd_ne _ _ e1, upd_same], by rw [upd_ne _ _ e2, upd_same]⟩ ⟨upd_same .., upd_same ..⟩⟩

/-- `DuplicateOp(op, true)` on the ring `op :: rest`: the node `new` (not in the ring) is linked in behind `op`;
`s` is `op->next` before the call. -/
theorem ring_insert_after {nx pv : PF} {op new s : Nat} {rest : List Nat}
    (h : IsRingF nx pv (op :: rest)) (hs : nx op = some s) (hnew : new ∉ op :: rest) :
    IsRingF (upd (upd nx new s) op new) (upd (upd pv new op) s new) (op :: new :: rest) := by
  -- the chain `rest ++ [op]` from `s` to `op` and the chain `[new]` are closed into one ring
  have hr := isRingF_rot [op] rest h
  obtain ⟨s', hs'⟩ := exists_head?_snoc rest op
  have hl : (rest ++ [op]).getLast? = some op := List.getLast?_concat
  obtain ⟨_, hc, hlink⟩ := (isRingF_iff hs' hl).1 hr
  obtain rfl : s = s' := Option.some.inj (hs.symm.trans hlink.1)
  have hsub : ∀ a, a ∈ rest ++ [op] → a ∈ op :: rest := fun a => (List.perm_append_comm (l₁ := rest) (l₂ := [op])).mem_iff.1
  have hnd : ([new] ++ (rest ++ [op])).Nodup := List.nodup_cons.2 ⟨fun hm => hnew (hsub _ hm), hr.nodup⟩
  have := ring_of_chains (nx := nx) (pv := pv) (P := [new]) (hP := new) (lP := new) hnd rfl rfl hs' hl trivial hc
  have hsn : s ≠ new := fun e => hnew (e ▸ hsub s (List.mem_of_head? hs'))
  rw [upd_comm pv _ _ hsn] at this
  exact isRingF_rot ([new] ++ rest) [op] this

/-- `DuplicateOp(op, false)` on the ring `op :: rest`: `new` is linked in in front of `op`, i.e. at the end of the list;
`p` is `op->prev` before the call.  (The mirror image of `ring_insert_after`: reverse the ring.) -/
theorem ring_insert_before {nx pv : PF} {op new p : Nat} {rest : List Nat}
    (h : IsRingF nx pv (op :: rest)) (hp : pv op = some p) (hnew : new ∉ op :: rest) :
    IsRingF (upd (upd nx new op) p new) (upd (upd pv new p) op new) (op :: rest ++ [new]) := by
  have := isRingF_reverse (ring_insert_after (isRingF_reverse h) hp (by simpa using hnew))
  simpa using this

/-- both join ops on one ring `op1 :: X ++ op2 :: Y` with `X ≠ []`: after

    op1->next = op2; op2->prev = op1; op1b->prev = op2b; op2b->next = op1b;      (op1b = x0 = head X, op2b = xl = last X)

the ring has fallen into `op1 :: op2 :: Y` and `X`. -/
theorem splice_same {nx pv : PF} {op1 op2 x0 xl : Nat} {X Y : List Nat}
    (h : IsRingF nx pv (op1 :: X ++ op2 :: Y)) (hx0 : X.head? = some x0) (hxl : X.getLast? = some xl) :
    IsRingF (upd (upd nx op1 op2) xl x0) (upd (upd pv op2 op1) x0 xl) (op1 :: op2 :: Y) ∧
    IsRingF (upd (upd nx op1 op2) xl x0) (upd (upd pv op2 op1) x0 xl) X ∧ LinkF nx pv op1 x0 ∧ LinkF nx pv xl op2 := by
  -- read from `x0`, the ring is the chain `X` followed by the chain `op2 :: Y ++ [op1]`; each is closed on itself
  have hr : IsRingF nx pv (X ++ (op2 :: Y ++ [op1])) := by simpa using isRingF_rot [op1] (X ++ op2 :: Y) h
  have hh : (op2 :: Y ++ [op1]).head? = some op2 := rfl
  have hl : (op2 :: Y ++ [op1]).getLast? = some op1 := List.getLast?_concat
  obtain ⟨_, hnd, hc⟩ := isRingF_cycR.1 hr
  obtain ⟨ndX, ndY, dis⟩ := List.nodup_append.1 hnd
  obtain ⟨cX, l2, cY, l1⟩ := (cycR_append_iff hx0 hxl hh hl).1 hc
  have e1 : op1 ≠ xl := (dis xl (List.mem_of_getLast? hxl) op1 (by simp)).symm
  have e2 : op2 ≠ x0 := (dis x0 (List.mem_of_head? hx0) op2 (by simp)).symm
  obtain ⟨rX, rY⟩ := cycR_split hnd hx0 hxl hh hl (fun a b => linkF_upd4 a b) cX cY ⟨upd_same .., upd_same ..⟩
    ⟨by rw [upd_ne _ _ e1, upd_same], by rw [upd_ne _ _ e2, upd_same]⟩
  exact ⟨isRingF_rot (op2 :: Y) [op1] (isRingF_cycR.2 ⟨by simp, ndY, rY⟩),
    isRingF_cycR.2 ⟨List.ne_nil_of_mem (List.mem_of_head? hx0), ndX, rX⟩, l1, l2⟩

/-- the join ops on two different rings `op1 :: X` and `op2 :: Y`: the same four writes (`op1b = head (X ++ [op1])`,
`op2b = last (op2 :: Y)`) give the single ring `op1 :: op2 :: Y ++ X`. -/
theorem splice_diff {nx pv : PF} {op1 op2 x0 yl : Nat} {X Y : List Nat}
    (h1 : IsRingF nx pv (op1 :: X)) (h2 : IsRingF nx pv (op2 :: Y)) (hdis : ∀ a ∈ op1 :: X, ∀ b ∈ op2 :: Y, a ≠ b)
    (hx0 : (X ++ [op1]).head? = some x0) (hyl : (op2 :: Y).getLast? = some yl) :
    IsRingF (upd (upd nx op1 op2) yl x0) (upd (upd pv op2 op1) x0 yl) (op1 :: op2 :: (Y ++ X)) ∧
    LinkF nx pv op1 x0 ∧ LinkF nx pv yl op2 := by
  -- the chain `X ++ [op1]` from `x0` to `op1` and the chain `op2 :: Y` from `op2` to `yl`
  have hl : (X ++ [op1]).getLast? = some op1 := List.getLast?_concat
  obtain ⟨nd1, c1, l1⟩ := (isRingF_iff hx0 hl).1 (isRingF_rot [op1] X h1)
  obtain ⟨nd2, c2, l2⟩ := (isRingF_iff rfl hyl).1 h2
  have hnd : ((X ++ [op1]) ++ (op2 :: Y)).Nodup :=
    List.nodup_append.2 ⟨nd1, nd2, fun a ha => hdis a ((List.perm_append_comm.mem_iff).1 ha)⟩
  have := ring_of_chains hnd hx0 hl rfl hyl c1 c2
  exact ⟨by simpa using isRingF_rot X (op1 :: op2 :: Y) (by simpa using this), l1, l2⟩

/-- the two nodes carry points sharing a coordinate: the edge between them is horizontal or vertical (or degenerate) -/
def Aligned (P : Nat → Option Pt) (a b : Nat) : Prop :=
  ∃ p q, P a = some p ∧ P b = some q ∧ (p.x = q.x ∨ p.y = q.y)

/-- the two nodes carry points with the same `y` -/
def SameY (P : Nat → Option Pt) (a b : Nat) : Prop :=
  ∃ p q, P a = some p ∧ P b = some q ∧ p.y = q.y

theorem SameY.aligned {P : Nat → Option Pt} {a b : Nat} (h : SameY P a b) : Aligned P a b := by
  obtain ⟨p, q, hp, hq, e⟩ := h; exact ⟨p, q, hp, hq, Or.inr e⟩

theorem Aligned.congr {P P' : Nat → Option Pt} {a b a' b' : Nat} (h : Aligned P a b) (ha : P' a' = P a) (hb : P' b' = P b) :
    Aligned P' a' b' := by
  obtain ⟨p, q, hp, hq, e⟩ := h; exact ⟨p, q, ha.trans hp, hb.trans hq, e⟩

/-- every edge of the closed ring `c` is horizontal or vertical -/
def RectRing (P : Nat → Option Pt) : List Nat → Prop
  | [] => True
  | a :: t => ChainR (Aligned P) (a :: t ++ [a])

theorem rectRing_cycR {P : Nat → Option Pt} {c : List Nat} : RectRing P c ↔ CycR (Aligned P) c := by
  cases c <;> rfl

theorem rectRing_iff {P : Nat → Option Pt} {c : List Nat} {h z : Nat} (hh : c.head? = some h) (hz : c.getLast? = some z) :
    RectRing P c ↔ ChainR (Aligned P) c ∧ Aligned P z h :=
  rectRing_cycR.trans (cycR_iff hh hz)

theorem rectRing_append_iff {P : Nat → Option Pt} {A B : List Nat} {hA lA hB lB : Nat}
    (hhA : A.head? = some hA) (hlA : A.getLast? = some lA) (hhB : B.head? = some hB) (hlB : B.getLast? = some lB) :
    RectRing P (A ++ B) ↔ ChainR (Aligned P) A ∧ Aligned P lA hB ∧ ChainR (Aligned P) B ∧ Aligned P lB hA :=
  rectRing_cycR.trans (cycR_append_iff hhA hlA hhB hlB)

theorem rectRing_rot {P : Nat → Option Pt} (a b : List Nat) (h : RectRing P (a ++ b)) : RectRing P (b ++ a) :=
  rectRing_cycR.2 (cycR_rot a b (rectRing_cycR.1 h))

theorem rectRing_congr {P P' : Nat → Option Pt} {c : List Nat} (h : RectRing P c) (hP : ∀ i ∈ c, P' i = P i) : RectRing P' c :=
  rectRing_cycR.2 (cycR_mono (fun x y hx hy hxy => hxy.congr (hP x hx) (hP y hy)) (rectRing_cycR.1 h))

/-- **split**: the ring `op1 :: X ++ op2 :: Y` is cut into `op1 :: op2 :: Y` and `X`; the two new edges `op1 → op2` and
`last X → head X` are horizontal, so both pieces are rectilinear if the ring was. -/
theorem rect_split {P : Nat → Option Pt} {op1 op2 x0 xl : Nat} {X Y : List Nat}
    (h : RectRing P (op1 :: X ++ op2 :: Y)) (hx0 : X.head? = some x0) (hxl : X.getLast? = some xl)
    (f1 : SameY P op1 op2) (f2 : SameY P xl x0) :
    RectRing P (op1 :: op2 :: Y) ∧ RectRing P X := by
  have hr : RectRing P (X ++ (op2 :: Y ++ [op1])) := by simpa using rectRing_rot [op1] (X ++ op2 :: Y) h
  have hl : (op2 :: Y ++ [op1]).getLast? = some op1 := List.getLast?_concat
  obtain ⟨cX, _, cY, _⟩ := (rectRing_append_iff hx0 hxl rfl hl).1 hr
  exact ⟨rectRing_rot (op2 :: Y) [op1] ((rectRing_iff rfl hl).2 ⟨cY, f1.aligned⟩), (rectRing_iff hx0 hxl).2 ⟨cX, f2.aligned⟩⟩

/-- **merge**: the rings `op1 :: X` and `op2 :: Y` become `op1 :: op2 :: Y ++ X`; the two new edges `op1 → op2` and
`last (op2 :: Y) → head (X ++ [op1])` are horizontal. -/
theorem rect_merge {P : Nat → Option Pt} {op1 op2 x0 yl : Nat} {X Y : List Nat}
    (h1 : RectRing P (op1 :: X)) (h2 : RectRing P (op2 :: Y))
    (hx0 : (X ++ [op1]).head? = some x0) (hyl : (op2 :: Y).getLast? = some yl)
    (f1 : SameY P op1 op2) (f2 : SameY P yl x0) :
    RectRing P (op1 :: op2 :: (Y ++ X)) := by
  have hl : (X ++ [op1]).getLast? = some op1 := List.getLast?_concat
  have c1 := ((rectRing_iff hx0 hl).1 (rectRing_rot [op1] X h1)).1
  have c2 := ((rectRing_iff rfl hyl).1 h2).1
  have := (rectRing_append_iff hx0 hl rfl hyl).2 ⟨c1, f1.aligned, c2, f2.aligned⟩
  simpa using rectRing_rot X (op1 :: op2 :: Y) (by simpa using this)

/-- a duplicated node (same point as `op`, linked in next to it) keeps a ring rectilinear -/
theorem rect_dup_after {P P' : Nat → Option Pt} {op new : Nat} {pre post : List Nat}
    (h : RectRing P (pre ++ op :: post)) (hP : ∀ i ∈ pre ++ op :: post, P' i = P i) (hnew : P' new = P op)
    (hop : ∃ p, P op = some p) :
    RectRing P' (pre ++ op :: new :: post) := by
  obtain ⟨p, hp⟩ := hop
  have hopm : op ∈ pre ++ op :: post := List.mem_append_right _ List.mem_cons_self
  -- read from `op->next`, the ring is the chain `post ++ pre ++ [op]`, which `new` joins at the front
  have hr : RectRing P' (post ++ pre ++ [op]) :=
    rectRing_rot [op] (post ++ pre) (rectRing_rot pre (op :: post) (rectRing_congr h hP))
  obtain ⟨s, hs⟩ := exists_head?_snoc (post ++ pre) op
  have hl : (post ++ pre ++ [op]).getLast? = some op := List.getLast?_concat
  obtain ⟨c, e⟩ := (rectRing_iff hs hl).1 hr
  have := (rectRing_append_iff (A := [new]) (hA := new) (lA := new) rfl rfl hs hl).2
    ⟨trivial, e.congr ((hP op hopm).trans hnew.symm).symm rfl, c, p, p, (hP op hopm).trans hp, hnew.trans hp, Or.inl rfl⟩
  simpa using rectRing_rot (op :: new :: post) pre (by simpa using rectRing_rot ([new] ++ (post ++ pre)) [op] (by simpa using this))

theorem rect_dup_before {P P' : Nat → Option Pt} {op new : Nat} {pre post : List Nat}
    (h : RectRing P (pre ++ op :: post)) (hP : ∀ i ∈ pre ++ op :: post, P' i = P i) (hnew : P' new = P op)
    (hop : ∃ p, P op = some p) :
    RectRing P' (pre ++ new :: op :: post) := by
  obtain ⟨p, hp⟩ := hop
  have hopm : op ∈ pre ++ op :: post := List.mem_append_right _ List.mem_cons_self
  -- read from `op`, the ring is the chain `op :: post ++ pre`, which `new` joins at the end
  have hr : RectRing P' (op :: post ++ pre) := rectRing_rot pre (op :: post) (rectRing_congr h hP)
  obtain ⟨z, hz⟩ := exists_getLast?_cons op (post ++ pre)
  obtain ⟨c, e⟩ := (rectRing_iff rfl hz).1 hr
  have := (rectRing_append_iff (B := [new]) (hB := new) (lB := new) rfl hz rfl rfl).2
    ⟨c, e.congr rfl ((hP op hopm).trans hnew.symm).symm, trivial, p, p, hnew.trans hp, (hP op hopm).trans hp, Or.inl rfl⟩
  simpa using rectRing_rot (op :: post) (pre ++ [new]) (by simpa using this)

end Clipper.Model.HorzJoins

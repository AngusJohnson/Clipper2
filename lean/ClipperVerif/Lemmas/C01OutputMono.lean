/-
The bottom-up schedule is bottom-up.  `Model/SweepPoints.geo` exchanges, among the adjacent
pairs that are in the wrong order for the top of the scanbeam, the one whose crossing point is lowest.  Here: the crossing heights it produces
never increase (`geo_heights`).  Invariant: the current list is in (non-strict) left-to-right order on the scanline of the last crossing
processed (`sorted_at`); hence every remaining inversion crosses at or above that scanline, and — the order on one scanline being transitive —
the lowest remaining crossing is between NEIGHBOURS.  Core Lean only.
-/
import ClipperVerif.Lemmas.C01OutputSched
import ClipperVerif.Lemmas.C01RegionCore
namespace Clipper.Lemmas.C01Output
open Clipper Clipper.Model Clipper.Model.AelOrder Clipper.Model.SweepOrder Clipper.Model.SweepEvents Clipper.Model.SweepPoints
open Clipper.Lemmas.SweepOrder Clipper.Lemmas.C01Region

/-- sign of `x_b − x_a` at the rational height `yn/yd` (`yd > 0`), in terms of the scaled distance at height 0 and the slope difference:
`yd ·` the affine function `t ↦ delta 0 − t·sigma` of `Lemmas/C01OutputGeom.affine_root` at `t = yn/yd` -/
def gAt (a b : GEdge) (yn yd : Int) : Int := yd * delta 0 a b - yn * sigma a b

theorem leAt_iff_g (a b : GEdge) (yn yd : Int) (hd : 0 < yd) : leAt yn yd a b = true ↔ 0 ≤ gAt a b yn yd := by
  unfold leAt gAt
  rw [decide_eq_true_iff, xGt_iff_G 0 a b yn yd hd, Int.zero_mul, Int.zero_sub, Int.neg_mul]
  omega

/-- a pair in scanline order at the height `hn/hd` but NOT at the height `cn/cd ≤ hn/hd` (above `y1`): it is strictly reversed at `y1`, and it
crosses STRICTLY BELOW the height `cn/cd` -/
theorem cross_strictly_below (u v : GEdge) (y1 hn hd cn cd : Int) (hd0 : 0 < hd) (cd0 : 0 < cd) (hlev : cn * hd ≤ hn * cd)
    (hc1 : y1 * cd < cn) (hle : 0 ≤ gAt u v hn hd) (hnot : gAt u v cn cd < 0) :
    delta y1 u v < 0 ∧ 0 < (crossQ u v).d ∧ cn * (crossQ u v).d < (crossQ u v).yn * cd := by
  obtain ⟨hs, lo, _⟩ := affine_root cd0 hd0 hlev hnot hle
  obtain ⟨q1, q2⟩ := crossQ_of_neg u v hs
  rw [delta_at, q1, q2]
  exact ⟨affine_neg_below hs cd0 hc1 hnot, Int.neg_pos_of_neg hs, lo⟩

/-- the converse of `rel_of_rank`: members of a list sorted by `ltBelow y1` are ranked by it -/
theorem rank_of_ltBelow (y1 : Int) (T : List GEdge) (hT : T.Pairwise (ltBelow y1)) {u v : GEdge} (hu : u ∈ T) (hv : v ∈ T)
    (h : ltBelow y1 u v) : rank T u < rank T v := by
  rcases Nat.lt_trichotomy (rank T u) (rank T v) with h' | h' | h'
  · exact h'
  · have := rank_inj T hu hv h'
    subst this
    exact absurd h (ltBelow_irrefl y1 u)
  · exact absurd (rel_of_rank T hT hv hu h') (ltBelow_asymm h)

theorem pairwise_of_adjacent {α : Type} {R : α → α → Prop} {S : α → Prop} (htrans : ∀ a b c, S a → S b → S c → R a b → R b c → R a c) :
    ∀ (l : List α), (∀ x ∈ l, S x) → (∀ p u v s, l = p ++ u :: v :: s → R u v) → l.Pairwise R := by
  intro l
  induction l with
  | nil => intro _ _; exact List.Pairwise.nil
  | cons a t ih =>
    intro hS hadj
    have hSt : ∀ x ∈ t, S x := fun x hx => hS x (by simp [hx])
    have iht := ih hSt (fun p u v s h => hadj (a :: p) u v s (by simp [h]))
    rw [List.pairwise_cons]
    refine ⟨?_, iht⟩
    cases t with
    | nil => intro x hx; cases hx
    | cons b t' =>
      have hab : R a b := hadj [] a b t' rfl
      rw [List.pairwise_cons] at iht
      intro x hx
      rcases List.mem_cons.1 hx with rfl | hx
      · exact hab
      · exact htrans a b x (hS a (by simp)) (hS b (by simp)) (hS x (by simp [hx])) hab (iht.1 x hx)

/-- `p` is strictly lower than `q` (larger y) -/
def yLower (p q : QPt) : Prop := q.yn * p.d < p.yn * q.d

theorem not_yLower_of_not_lowerQ {p q : QPt} (h : lowerQ p q = false) : ¬ yLower p q := by
  unfold lowerQ at h
  unfold yLower
  simp only [Bool.or_eq_false_iff, decide_eq_false_iff_not] at h
  omega

theorem le_of_lowerQ {p q : QPt} (h : lowerQ p q = true) : q.yn * p.d ≤ p.yn * q.d := by
  unfold lowerQ at h
  simp only [Bool.or_eq_true, Bool.and_eq_true, decide_eq_true_eq] at h
  rcases h with h | ⟨h, _⟩ <;> omega

theorem not_yLower_self (p : QPt) : ¬ yLower p p := Int.lt_irrefl _

theorem not_yLower_trans {p q r : QPt} (hp : 0 < p.d) (hq : 0 < q.d) (hr : 0 < r.d) (h1 : ¬ yLower p q) (h2 : ¬ yLower q r) :
    ¬ yLower p r :=
  Int.not_lt.2 (fle_trans hp hq hr (Int.not_lt.1 h1) (Int.not_lt.1 h2))

/-- the candidate `pickBest` returns is not strictly higher than any other candidate (all denominators positive) -/
theorem pickBest_max (l : List (Nat × GEdge × GEdge)) (c : Nat × GEdge × GEdge) (h : pickBest l = some c)
    (hpos : ∀ c' ∈ l, 0 < (crossQ c'.2.1 c'.2.2).d) : ∀ c' ∈ l, ¬ yLower (crossQ c'.2.1 c'.2.2) (crossQ c.2.1 c.2.2) := by
  cases l with
  | nil => cases h
  | cons c0 cs =>
    cases h
    exact foldl_pick_max (α := Nat × GEdge × GEdge) (fun c' best => lowerQ (crossQ c'.2.1 c'.2.2) (crossQ best.2.1 best.2.2))
      (fun c' c => ¬ yLower (crossQ c'.2.1 c'.2.2) (crossQ c.2.1 c.2.2)) (fun c => 0 < (crossQ c.2.1 c.2.2).d)
      (fun _ => not_yLower_self _) (fun _ _ _ => not_yLower_trans) (fun _ _ h => Int.not_lt.2 (le_of_lowerQ h))
      (fun _ _ => not_yLower_of_not_lowerQ) cs c0 hpos

/-- the crossing heights of a schedule never increase, starting at or above (`y` not larger than) the level `hn/hd` -/
def HeightsSorted : Int → Int → List (Nat × GEdge × GEdge) → Prop
  | _, _, [] => True
  | hn, hd, c :: rest => 0 < (crossQ c.2.1 c.2.2).d ∧ (crossQ c.2.1 c.2.2).yn * hd ≤ hn * (crossQ c.2.1 c.2.2).d ∧
      HeightsSorted (crossQ c.2.1 c.2.2).yn (crossQ c.2.1 c.2.2).d rest

theorem gAt_cross (a b : GEdge) (h : det a b < 0) : gAt a b (crossQ a b).yn (crossQ a b).d = 0 ∧ gAt b a (crossQ a b).yn (crossQ a b).d = 0 := by
  obtain ⟨q1, q2⟩ := crossQ_of_neg a b h
  have e1 : delta 0 b a = -(delta 0 a b) := by unfold delta; omega
  have e2 : sigma b a = -(sigma a b) := by unfold sigma; omega
  unfold gAt
  rw [q1, q2, e1, e2, Int.neg_mul_neg, Int.neg_mul_neg, Int.neg_mul, Int.neg_mul, Int.mul_comm]
  exact ⟨Int.sub_self _, Int.sub_self _⟩

/-- an adjacent pair of a list in scanline order at the level `hn/hd > y1` that is in the wrong order for the target: it is strictly reversed
at `y1` and crosses at or above the level -/
theorem cand_facts (y1 : Int) (T : List GEdge) (hT : T.Pairwise (ltBelow y1)) (cur : List GEdge) (hn hd : Int) (hd0 : 0 < hd)
    (hlev : y1 * hd < hn) (hmem : ∀ e ∈ cur, e ∈ T ∧ e.Up) (hJ : cur.Pairwise (fun u v => leAt hn hd u v = true))
    (c : Nat × GEdge × GEdge) (hc : c ∈ adjInv T 0 cur) :
    delta y1 c.2.1 c.2.2 < 0 ∧ sigma c.2.1 c.2.2 < 0 ∧ 0 < (crossQ c.2.1 c.2.2).d ∧
      (crossQ c.2.1 c.2.2).yn * hd ≤ hn * (crossQ c.2.1 c.2.2).d ∧ y1 * (crossQ c.2.1 c.2.2).d < (crossQ c.2.1 c.2.2).yn := by
  obtain ⟨pre, post, h1, _, h3⟩ := (mem_adjInv T cur 0 c).1 hc
  have ha := hmem c.2.1 (by rw [h1]; simp)
  have hb := hmem c.2.2 (by rw [h1]; simp)
  have hlt : ltBelow y1 c.2.2 c.2.1 := rel_of_rank T hT hb.1 ha.1 h3
  rw [h1] at hJ
  have hle := (leAt_iff_g _ _ hn hd hd0).1 (pairwise_window pre _ _ post hJ)
  unfold gAt at hle
  have hinv : delta y1 c.2.1 c.2.2 < 0 := by
    rcases hlt with h | ⟨hx, hs⟩
    · exact (xgt_iff_delta y1 _ _).1 h
    · -- same x at `y1` and `c.2.1` turning to the left of `c.2.2`: the pair would be out of order at the level
      exfalso
      have d0 := (xeq_iff_delta y1 _ _).1 (xeq_symm hx)
      have := Int.mul_neg_of_pos_of_neg (Int.sub_pos_of_lt hlev) (Int.neg_neg_of_pos ((slt_iff_sigma _ _).1 hs))
      rw [delta_at] at d0
      have e := affine_diff (delta 0 c.2.1 c.2.2) (sigma c.2.1 c.2.2) y1 1 hn hd
      simp only [Int.one_mul, Int.mul_one, d0, Int.mul_zero] at e
      omega
  have hinv' := hinv
  rw [delta_at, ← Int.one_mul (delta 0 c.2.1 c.2.2)] at hinv'
  obtain ⟨hs, lo, hi⟩ := affine_root Int.one_pos hd0 (by omega) hinv' hle
  obtain ⟨q1, q2⟩ := crossQ_of_neg _ _ hs
  rw [q1, q2]
  rw [Int.mul_one] at lo
  exact ⟨hinv, hs, Int.neg_pos_of_neg hs, hi, lo⟩

/-- The list `cur` (members of the target `T`, which is sorted just below `y1`) in non-strict scanline order at the level `hn/hd`; a height
`cn/cd` at or above the level and strictly below `y1`'s scanline (`y1 < cn/cd ≤ hn/hd`) such that no adjacent pair in the wrong order for the
target crosses strictly below `cn/cd`: the list is in non-strict scanline order at `cn/cd` as well. -/
theorem sorted_at (y1 : Int) (T : List GEdge) (hT : T.Pairwise (ltBelow y1)) (cur : List GEdge) (hn hd : Int) (hd0 : 0 < hd)
    (hmem : ∀ e ∈ cur, e ∈ T ∧ e.Up) (hJ : cur.Pairwise (fun u v => leAt hn hd u v = true))
    (cn cd : Int) (cd0 : 0 < cd) (hle : cn * hd ≤ hn * cd) (hc1 : y1 * cd < cn)
    (hno : ∀ c' ∈ adjInv T 0 cur, ¬ (cn * (crossQ c'.2.1 c'.2.2).d < (crossQ c'.2.1 c'.2.2).yn * cd)) :
    cur.Pairwise (fun u v => leAt cn cd u v = true) := by
  refine pairwise_of_adjacent (S := fun e => e.Up)
    (fun a b d ha hb hd' h1' h2' => leAt_trans cd0 a b d ha hb hd' h1' h2') cur (fun e he => (hmem e he).2) ?_
  intro p u v s hsplit
  apply Classical.byContradiction
  intro hnot
  have hu := hmem u (by rw [hsplit]; simp)
  have hv := hmem v (by rw [hsplit]; simp)
  have hg : gAt u v cn cd < 0 := by
    apply Int.not_le.1
    intro hge
    exact hnot ((leAt_iff_g u v _ _ cd0).2 hge)
  have hJ' := hJ
  rw [hsplit] at hJ'
  have hle' := (leAt_iff_g u v hn hd hd0).1 (pairwise_window p u v s hJ')
  obtain ⟨g1, _, g3⟩ := cross_strictly_below u v y1 hn hd cn cd hd0 cd0 hle hc1 hle' hg
  have hr : rank T v < rank T u := rank_of_ltBelow y1 T hT hv.1 hu.1 (Or.inl ((xgt_iff_delta y1 u v).2 g1))
  have hcand : (p.length, u, v) ∈ adjInv T 0 cur := by
    rw [mem_adjInv]; exact ⟨p, s, hsplit, by simp, hr⟩
  exact hno _ hcand g3

/-- **geo_heights.**  The list `cur` (members of the target `T`, which is sorted just below `y1`) in non-strict scanline order at the level
`hn/hd > y1`: the crossing heights of the bottom-up schedule start at or above that level and never increase. -/
theorem geo_heights (y1 : Int) (T : List GEdge) (hT : T.Pairwise (ltBelow y1)) : ∀ (n : Nat) (cur : List GEdge) (hn hd : Int), 0 < hd →
    y1 * hd < hn → (∀ e ∈ cur, e ∈ T ∧ e.Up) → cur.Pairwise (fun u v => leAt hn hd u v = true) →
    HeightsSorted hn hd (geo T n cur) := by
  intro n
  induction n with
  | zero => intro cur hn hd _ _ _ _; trivial
  | succ n ih =>
    intro cur hn hd hd0 hlev hmem hJ
    simp only [geo]
    cases hpk : pickBest (adjInv T 0 cur) with
    | none => trivial
    | some c =>
      have hcm := pickBest_mem _ c hpk
      obtain ⟨f1, f2, f3, f4, f5⟩ := cand_facts y1 T hT cur hn hd hd0 hlev hmem hJ c hcm
      have hdet : det c.2.1 c.2.2 < 0 := f2
      obtain ⟨pre, post, h1, h2, _⟩ := (mem_adjInv T cur 0 c).1 hcm
      refine ⟨f3, f4, ?_⟩
      have hJc := sorted_at y1 T hT cur hn hd hd0 hmem hJ _ _ f3 f4 f5 (pickBest_max _ c hpk
        (fun c' hc' => (cand_facts y1 T hT cur hn hd hd0 hlev hmem hJ c' hc').2.2.1))
      have hsw : swapL c.1 cur = pre ++ c.2.2 :: c.2.1 :: post := by
        rw [h1, ← h2, Nat.zero_add, swapL_window]
      rw [hsw]
      refine ih _ _ _ f3 f5 ?_ ?_
      · exact fun e he => hmem e (h1 ▸ mem_swap_window.1 he)
      · rw [h1] at hJc
        refine pairwise_swap pre _ _ post hJc ?_
        rw [leAt_iff_g _ _ _ _ f3, (gAt_cross c.2.1 c.2.2 hdet).2]
        exact Int.le_refl _

end Clipper.Lemmas.C01Output

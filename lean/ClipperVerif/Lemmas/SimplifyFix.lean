/- SimplifyPath, the `for (;;)` loop (helper lemmas for Props/C20.lean): it ends normally within `len + 1` iterations;
for an open path with `epsSqr < MAX_DBL` it never flags an end point (`SOpen`); `distSqr` stays current for every
remaining vertex (`DistCurrent`), so that on exit no remaining vertex is removable (`FixOk`). -/
import ClipperVerif.Lemmas.Simplify
namespace Clipper.Lemmas.PathUtil
open Clipper Clipper.Model.PathUtil

variable {D : Type} {ops : DistOps D} {path : List Pt} {eps : D} {closed : Bool}

/-- every iteration that continues flags exactly one more vertex and moves to an unflagged one -/
theorem simplifyStep_sinv {flags f' : List Bool} {dist d' : List D} {curr c' : Nat} (hinv : SInv path.length flags curr)
    (h : simplifyStep ops path eps closed (path.length - 1) flags dist curr = .cont f' d' c') :
    SInv path.length f' c' ∧ f'.count false + 1 = flags.count false := by
  have hc := simplifyStep_cases ops path eps closed flags dist curr hinv
  rw [h] at hc
  obtain ⟨c, k, P, N, p2, n3, _, _, hP, hN, _, _, _, rfl, rfl, _⟩ := hc
  have hk := flagAt_false_lt flags k hN.2.2.2.1
  refine ⟨⟨by rw [List.length_set]; exact hinv.1, hN.2.1, ?_⟩, count_set_true flags k hN.2.2.2.1⟩
  rw [flagAt_set _ _ _ hk, if_neg hN.2.2.1]
  exact hN.2.2.2.2.1

/-- With fuel above the number of unflagged vertices the loop ends normally: no fault, fuel not exhausted. -/
theorem simplifyLoop_terminates (ops : DistOps D) (path : List Pt) (eps : D) (closed : Bool) :
    ∀ (fuel : Nat) (flags : List Bool) (dist : List D) (curr : Nat),
      SInv path.length flags curr → flags.count false < fuel →
      ∃ f', simplifyLoop ops path eps closed (path.length - 1) fuel flags dist curr = some f' := by
  intro fuel
  induction fuel with
  | zero => intro flags dist curr _ h; omega
  | succ fuel ih =>
    intro flags dist curr hinv hfuel
    have hc := simplifyStep_cases ops path eps closed flags dist curr hinv
    rw [simplifyLoop]
    cases hs : simplifyStep ops path eps closed (path.length - 1) flags dist curr with
    | exit => exact ⟨flags, rfl⟩
    | fault => rw [hs] at hc; exact hc.elim
    | cont f1 d1 c1 =>
      obtain ⟨hinv1, hcount⟩ := simplifyStep_sinv hinv hs
      exact ih f1 d1 c1 hinv1 (by omega)

/-- An invariant of the iterations holds, for some `distSqr` and position, of the flags the loop returns, and the
iteration from that state is the one that left the loop. -/
theorem simplifyLoop_exit (ops : DistOps D) (path : List Pt) (eps : D) (closed : Bool)
    (I : List Bool → List D → Nat → Prop)
    (hI : ∀ flags dist curr f' d' c', I flags dist curr →
      simplifyStep ops path eps closed (path.length - 1) flags dist curr = .cont f' d' c' → I f' d' c') :
    ∀ (fuel : Nat) (flags : List Bool) (dist : List D) (curr : Nat) (f : List Bool), I flags dist curr →
      simplifyLoop ops path eps closed (path.length - 1) fuel flags dist curr = some f →
      ∃ dist' curr', I f dist' curr' ∧
        simplifyStep ops path eps closed (path.length - 1) f dist' curr' = .exit := by
  intro fuel
  induction fuel with
  | zero => intro flags dist curr f _ h; cases h
  | succ fuel ih =>
    intro flags dist curr f hinv h
    rw [simplifyLoop] at h
    cases hs : simplifyStep ops path eps closed (path.length - 1) flags dist curr with
    | exit => rw [hs] at h; cases h; exact ⟨dist, curr, hinv, hs⟩
    | fault => rw [hs] at h; cases h
    | cont f1 d1 c1 => rw [hs] at h; exact ih f1 d1 c1 f (hI _ _ _ _ _ _ hinv hs) h

theorem simplifyInit_inv (n : Nat) (hn : 0 < n) : SInv n (List.replicate n false) 0 :=
  ⟨List.length_replicate, by omega, flagAt_replicate n 0 hn⟩

/-- extra invariant for open paths: both end points unflagged and their `distSqr` still `MAX_DBL` -/
def SOpen (ops : DistOps D) (high : Nat) (flags : List Bool) (dist : List D) : Prop :=
  flagAt flags 0 = false ∧ flagAt flags high = false ∧
  distAt ops dist 0 = ops.maxD ∧ distAt ops dist high = ops.maxD

theorem distAt_distUpdate_end (ops : DistOps D) (path : List Pt) (high : Nat) (dist : List D) (P N p2 n3 j : Nat)
    (hj : j = 0 ∨ j = high) :
    distAt ops (distUpdate ops path false high dist P N p2 n3) j = distAt ops dist j := by
  unfold distUpdate
  simp only [Bool.false_or]
  have h1 : distAt ops (if (N != high && N != 0) = true
      then dist.set N (ops.dist2 (nth path N) (nth path P) (nth path n3)) else dist) j = distAt ops dist j := by
    split
    · rename_i hg
      exact distAt_set_ne ops dist N j _ (by simp at hg; omega)
    · rfl
  split
  · rename_i hg
    rw [distAt_set_ne ops _ P j _ (by simp at hg; omega)]; exact h1
  · exact h1

/-- The vertex an iteration flags has `distSqr ≤ epsSqr < MAX_DBL`, so it is not an end point. -/
theorem simplifyStep_sopen (htot : ∀ a b, ops.le a b = true ∨ ops.le b a = true)
    (htr : ∀ a b c, ops.le a b = true → ops.le b c = true → ops.le a c = true)
    (hmax : ops.le ops.maxD eps = false)
    {flags f' : List Bool} {dist d' : List D} {curr c' : Nat} (hinv : SInv path.length flags curr)
    (hopen : SOpen ops (path.length - 1) flags dist)
    (h : simplifyStep ops path eps false (path.length - 1) flags dist curr = .cont f' d' c') :
    SOpen ops (path.length - 1) f' d' := by
  have hc := simplifyStep_cases ops path eps false flags dist curr hinv
  rw [h] at hc
  obtain ⟨c, k, P, N, p2, n3, hcd, hsel, _, hN, _, _, _, rfl, rfl, rfl⟩ := hc
  have hkd : ops.le (distAt ops dist k) eps = true := by
    rcases hsel with rfl | hsel
    · exact hcd
    · exact htr _ _ _ ((htot _ _).resolve_right (by rw [hsel]; exact nofun)) hcd
  have hk := flagAt_false_lt flags k hN.2.2.2.1
  have hk0 : k ≠ 0 := fun e => by rw [e, hopen.2.2.1, hmax] at hkd; cases hkd
  have hkh : k ≠ path.length - 1 := fun e => by rw [e, hopen.2.2.2, hmax] at hkd; cases hkd
  refine ⟨?_, ?_, ?_, ?_⟩
  · rw [flagAt_set _ _ _ hk, if_neg hk0]; exact hopen.1
  · rw [flagAt_set _ _ _ hk, if_neg hkh]; exact hopen.2.1
  · rw [distAt_distUpdate_end _ _ _ _ _ _ _ _ _ (Or.inl rfl)]; exact hopen.2.2.1
  · rw [distAt_distUpdate_end _ _ _ _ _ _ _ _ _ (Or.inr rfl)]; exact hopen.2.2.2

theorem simplifyInit_open (ops : DistOps D) (path : List Pt) (hn : 2 ≤ path.length) :
    SOpen ops (path.length - 1) (List.replicate path.length false) (simplifyInitDist ops path false) := by
  refine ⟨flagAt_replicate _ _ (by omega), flagAt_replicate _ _ (by omega), ?_, ?_⟩
  · unfold distAt simplifyInitDist
    rw [List.getD_eq_getElem?_getD, List.getElem?_map, List.getElem?_range (by omega)]
    rfl
  · unfold distAt simplifyInitDist
    rw [List.getD_eq_getElem?_getD, List.getElem?_map, List.getElem?_range (by omega)]
    simp only [Option.map_some, Option.getD_some]
    rw [if_neg (by omega)]; simp

/-- `distSqr` is current: for every remaining vertex `i` (interior ones only, for an open path) with remaining
neighbours `p` and `n`, `distSqr[i] = PerpendicDistFromLineSqrd(path[i], path[p], path[n])` -/
def DistCurrent (ops : DistOps D) (path : List Pt) (closed : Bool) (high : Nat) (flags : List Bool)
    (dist : List D) : Prop :=
  ∀ p i n, Nbr high flags p i → Nbr high flags i n → (closed = true ∨ (i ≠ 0 ∧ i ≠ high)) →
    distAt ops dist i = ops.dist2 (nth path i) (nth path p) (nth path n)

/-- what holds when the loop exits: every remaining vertex (interior, for an open path) whose two remaining
neighbours are different vertices is farther than epsilon from the line through them -/
def FixOk (ops : DistOps D) (path : List Pt) (eps : D) (closed : Bool) (high : Nat) (flags : List Bool) : Prop :=
  ∀ p i n, Nbr high flags p i → Nbr high flags i n → p ≠ n → (closed = true ∨ (i ≠ 0 ∧ i ≠ high)) →
    ops.le (ops.dist2 (nth path i) (nth path p) (nth path n)) eps = false

theorem distAt_distUpdate (ops : DistOps D) (path : List Pt) (closed : Bool) (high : Nat) (dist : List D)
    (P N p2 n3 i : Nat) (hN : N < dist.length) (hP : P < dist.length) :
    distAt ops (distUpdate ops path closed high dist P N p2 n3) i =
      if (closed || (P != 0 && P != high)) = true ∧ i = P then ops.dist2 (nth path P) (nth path p2) (nth path N)
      else if (closed || (N != high && N != 0)) = true ∧ i = N then ops.dist2 (nth path N) (nth path P) (nth path n3)
      else distAt ops dist i := by
  simp only [distUpdate]
  generalize (closed || (P != 0 && P != high)) = g2
  generalize (closed || (N != high && N != 0)) = g1
  cases g1 <;> cases g2 <;> simp only [Bool.false_eq_true, if_false, if_true, false_and, true_and]
  · by_cases hi : i = P
    · rw [if_pos hi, hi, distAt_set_eq ops _ _ _ hP]
    · rw [if_neg hi, distAt_set_ne ops _ _ _ _ (fun e => hi e.symm)]
  · by_cases hi : i = N
    · rw [if_pos hi, hi, distAt_set_eq ops _ _ _ hN]
    · rw [if_neg hi, distAt_set_ne ops _ _ _ _ (fun e => hi e.symm)]
  · by_cases hi : i = P
    · rw [if_pos hi, hi, distAt_set_eq ops _ _ _ (by rw [List.length_set]; exact hP)]
    · rw [if_neg hi, distAt_set_ne ops _ _ _ _ (fun e => hi e.symm)]
      by_cases hi2 : i = N
      · rw [if_pos hi2, hi2, distAt_set_eq ops _ _ _ hN]
      · rw [if_neg hi2, distAt_set_ne ops _ _ _ _ (fun e => hi2 e.symm)]

theorem length_distUpdate (ops : DistOps D) (path : List Pt) (closed : Bool) (high : Nat) (dist : List D)
    (P N p2 n3 : Nat) : (distUpdate ops path closed high dist P N p2 n3).length = dist.length := by
  unfold distUpdate
  split <;> split <;> simp only [List.length_set]

/-- One iteration keeps `distSqr` current: after `k` is flagged its neighbours `P`, `N` become neighbours of each
other, and theirs are exactly the two entries recomputed. -/
theorem simplifyStep_current {flags f' : List Bool} {dist d' : List D} {curr c' : Nat} (hinv : SInv path.length flags curr)
    (hpl : 0 < path.length) (hdl : dist.length = path.length)
    (hcur : DistCurrent ops path closed (path.length - 1) flags dist)
    (h : simplifyStep ops path eps closed (path.length - 1) flags dist curr = .cont f' d' c') :
    d'.length = path.length ∧ DistCurrent ops path closed (path.length - 1) f' d' := by
  have hc := simplifyStep_cases ops path eps closed flags dist curr hinv
  rw [h] at hc
  obtain ⟨c, k, P, N, p2, n3, _, _, hP, hN, hPN, hp2, hn3, rfl, rfl, rfl⟩ := hc
  refine ⟨by rw [length_distUpdate]; exact hdl, fun p' i n' h1 h2 hg => ?_⟩
  have hk := flagAt_false_lt flags k hN.2.2.2.1
  have hfk : flagAt (flags.set k true) k = true := by rw [flagAt_set _ _ _ hk, if_pos rfl]
  have hp'k : p' ≠ k := fun e => by rw [e] at h1; rw [h1.2.2.2.1] at hfk; cases hfk
  have hn'k : n' ≠ k := fun e => by rw [e] at h2; rw [h2.2.2.2.2.1] at hfk; cases hfk
  have hgd : ∀ j, i = j → (closed || (j != 0 && j != path.length - 1)) = true ∧
      (closed || (j != path.length - 1 && j != 0)) = true := by
    intro j e; subst e
    rcases hg with h | h
    · rw [h]; exact ⟨rfl, rfl⟩
    · simp [h.1, h.2]
  rw [distAt_distUpdate ops path closed _ dist P c' p2 n3 i (by have := hN.2.1; omega) (by have := hP.1; omega)]
  rcases Nbr_after_flag hk hP hN h1 with o1 | ⟨e1, e2⟩
  · have hiN : i ≠ c' := fun e => hp'k (Nbr_det_bwd (e ▸ o1) hN)
    rcases Nbr_after_flag hk hP hN h2 with o2 | ⟨e3, e4⟩
    · have hiP : i ≠ P := fun e => hn'k (Nbr_det_fwd (e ▸ o2) hP)
      rw [if_neg (fun h => hiP h.2), if_neg (fun h => hiN h.2)]
      exact hcur p' i n' o1 o2 hg
    · rw [if_pos ⟨(hgd P e3).1, e3⟩, e4]
      rw [e3] at o1 ⊢
      rw [Option.some.inj ((nbr_getPrior o1).symm.trans hp2)]
  · rw [if_neg (fun h => hPN (e2.symm.trans h.2).symm), if_pos ⟨(hgd c' e2).2, e2⟩, e1]
    rw [e2] at h2 ⊢
    rw [Option.some.inj ((nbr_getNext h2).symm.trans hn3)]

/-- the iteration that leaves the loop: either every remaining vertex is farther than epsilon from its line, or at
most two vertices remain -/
theorem fixOk_of_exit {flags : List Bool} {dist : List D} {curr : Nat} (hinv : SInv path.length flags curr)
    (hcur : DistCurrent ops path closed (path.length - 1) flags dist)
    (h : simplifyStep ops path eps closed (path.length - 1) flags dist curr = .exit) :
    FixOk ops path eps closed (path.length - 1) flags := by
  have hc := simplifyStep_cases ops path eps closed flags dist curr hinv
  rw [h] at hc
  intro p i n h1 h2 hpn hg
  rcases hc with ⟨hgt, hscan⟩ | ⟨c, q, hcle, hcfl, hnext, hprior⟩
  · -- the scan came back to `start`: every remaining vertex has `distSqr > epsSqr`
    rw [← hcur p i n h1 h2 hg]
    by_cases hic : i = curr
    · rw [hic]; exact hgt
    · exact scan_none ops eps _ flags dist curr hinv.2.1 hscan i h1.2.1 hic h1.2.2.2.2.1
  · -- `c` has `q` on both sides: `p`, `i`, `n` are among `c`, `q`, and `p ≠ i ≠ n` forces `p = n`
    exfalso
    by_cases hqc : q = c
    · have hall := getNext_self _ _ _ (hqc ▸ hnext)
      exact h1.2.2.1 ((hall p h1.1 h1.2.2.2.1).trans (hall i h1.2.1 h1.2.2.2.2.1).symm)
    · have hcq := getNext_nbr c _ flags q hcle hcfl hnext hqc
      have hqc' := getPrior_nbr c _ flags q hcle hcfl hprior hqc
      have two : ∀ {x y : Nat}, Nbr (path.length - 1) flags x y → (x = c ∧ y = q) ∨ (x = q ∧ y = c) := fun h =>
        (hcq.only_two hqc' h.1 h.2.2.2.1).elim
          (fun ex => Or.inl ⟨ex, (hcq.only_two hqc' h.2.1 h.2.2.2.2.1).resolve_left (fun ey => h.2.2.1 (ex.trans ey.symm))⟩)
          (fun ex => Or.inr ⟨ex, (hcq.only_two hqc' h.2.1 h.2.2.2.2.1).resolve_right (fun ey => h.2.2.1 (ex.trans ey.symm))⟩)
      rcases two h1 with ⟨ep, ei⟩ | ⟨ep, ei⟩ <;> rcases two h2 with ⟨ei', en⟩ | ⟨ei', en⟩
      · exact hqc (ei.symm.trans ei')
      · exact hpn (ep.trans en.symm)
      · exact hpn (ep.trans en.symm)
      · exact hqc (ei'.symm.trans ei)

/-- in the initial state, where nothing is flagged, the neighbours are the cyclic successors -/
theorem nbr_init (n : Nat) (p i : Nat) (h : Nbr (n - 1) (List.replicate n false) p i) :
    p = (if i = 0 then n - 1 else i - 1) ∧ i = (if p = n - 1 then 0 else p + 1) := by
  obtain ⟨hp, hi, hpi, _, _, hall⟩ := h
  have hnone : ∀ x, x ≤ n - 1 → ¬ Btw p i x := fun x hx hb => by
    have := hall x hx hb
    rw [flagAt_replicate n x (by omega)] at this; cases this
  rcases Nat.lt_or_gt_of_ne hpi with hlt | hgt
  · have h1 := hnone (p + 1) (Nat.le_trans hlt hi)
    rw [btw_lt hlt] at h1
    have e : i = p + 1 := Nat.le_antisymm (Nat.not_lt.mp fun h => h1 ⟨Nat.lt_succ_self p, h⟩) hlt
    rw [if_neg (Nat.ne_of_lt (Nat.lt_of_lt_of_le hlt hi)), e, if_neg (Nat.succ_ne_zero p)]
    exact ⟨rfl, rfl⟩
  · have h1 := hnone 0 (Nat.zero_le _)
    rw [btw_ge (Nat.le_of_lt hgt)] at h1
    have hi0 : i = 0 := Nat.eq_zero_of_not_pos fun h => h1 (Or.inr h)
    have hpn : p = n - 1 := Nat.le_antisymm hp (Nat.not_lt.mp fun h => by
      have h2 := hnone (p + 1) h
      rw [btw_ge (Nat.le_of_lt hgt)] at h2
      exact h2 (Or.inl (Nat.lt_succ_self p)))
    rw [if_pos hi0, if_pos hpn]
    exact ⟨hpn, hi0⟩

theorem simplifyInit_current (ops : DistOps D) (path : List Pt) (closed : Bool) (hlen : 3 ≤ path.length)
    (hsym : closed = true → ∀ q a b, ops.dist2 q a b = ops.dist2 q b a) :
    DistCurrent ops path closed (path.length - 1) (List.replicate path.length false)
      (simplifyInitDist ops path closed) := by
  intro p i n h1 h2 hg
  have hi : i ≤ path.length - 1 := h1.2.1
  have hval : distAt ops (simplifyInitDist ops path closed) i =
      (if i = 0 then (if closed then ops.dist2 (nth path 0) (nth path (path.length - 1)) (nth path 1) else ops.maxD)
       else if i = path.length - 1 then
        (if closed then ops.dist2 (nth path (path.length - 1)) (nth path 0) (nth path (path.length - 1 - 1)) else ops.maxD)
       else ops.dist2 (nth path i) (nth path (i - 1)) (nth path (i + 1))) := by
    unfold distAt simplifyInitDist
    rw [List.getD_eq_getElem?_getD, List.getElem?_map, List.getElem?_range (by omega)]
    rfl
  rw [hval, (nbr_init path.length p i h1).1, (nbr_init path.length i n h2).2]
  by_cases hi0 : i = 0
  · have hc : closed = true := hg.resolve_right (fun h => h.1 hi0)
    rw [if_pos hi0, if_pos hi0, if_neg (show ¬ i = path.length - 1 by omega), hc, if_pos rfl, hi0]
  · rw [if_neg hi0, if_neg hi0]
    by_cases hih : i = path.length - 1
    · have hc : closed = true := hg.resolve_right (fun h => h.2 hih)
      rw [if_pos hih, if_pos hih, hc, if_pos rfl, hih, hsym hc]
    · rw [if_neg hih, if_neg hih]

end Clipper.Lemmas.PathUtil

/-
Well-formed heaps of the horizontal-join pass: the rings, plus the records that own them (`RecsOK`); `DuplicateOp` keeps a heap
well formed.  The rings can be stated locally: a heap whose `next`/`prev` are inverse to each other (`Linked`) falls into rings,
the orbits of `->next` (`Linked.rings`).
Helper file of `Props/C02Horz.lean`.  Core Lean only.
-/
import ClipperVerif.Lemmas.HorzJoinsSurgery
namespace Clipper.Model.HorzJoins
open Clipper

/-- `next`/`prev` are inverse to each other on the valid indices (the local form of "the heap falls into rings") -/
structure Linked (H : Heap) : Prop where
  next_prev : ∀ i n, H.ops[i]? = some n → prevOf H n.next = some i
  prev_next : ∀ i n, H.ops[i]? = some n → nextOf H n.prev = some i

theorem Rings.linked {H : Heap} {rs : List (List Nat)} (R : Rings H rs) : Linked H := by
  constructor
  · intro i n hn
    obtain ⟨c, hc, hic⟩ := R.exists_ring (lt_of_node hn)
    exact (R.link_next hc hic hn).2.2
  · intro i n hn
    obtain ⟨c, hc, hic⟩ := R.exists_ring (lt_of_node hn)
    exact (R.link_prev hc hic hn).2.1

/-- every ring is owned by one live record: the ring's `OutPt`s all resolve (`GetRealOutRec(op->outrec)`) to a record whose
`pts` is on that ring; and the `pts` of every record that has them resolves to the record itself -/
structure RecsOK (H : Heap) (rs : List (List Nat)) : Prop where
  ring_rec : ∀ c ∈ rs, ∃ r p, (H.recs[r]?).bind (·.pts) = some p ∧ p ∈ c ∧
    ∀ i ∈ c, ∀ o, orecOf H i = some o → realOf H o = .ok (some r)
  rec_ring : ∀ r rc p, H.recs[r]? = some rc → rc.pts = some p → ∃ o, orecOf H p = some o ∧ realOf H o = .ok (some r)

/-- the invariant of the join pass: the heap falls into rings, and the records own them -/
def WF (H : Heap) : Prop := ∃ rs, Rings H rs ∧ RecsOK H rs

theorem realOf_congr {H H' : Heap} (h : H'.recs = H.recs) (o : Nat) : realOf H' o = realOf H o := by
  have : ∀ f x, getRealOutRec H' f x = getRealOutRec H f x := by
    intro f
    induction f with
    | zero => intro x; rfl
    | succ f ih =>
      intro x
      cases x with
      | none => rfl
      | some i => simp only [getRealOutRec, Heap.orec, h, ih]
  unfold realOf; rw [h, this]

/-- `RecsOK` only depends on the rings as sets, on the `outrec` fields and on the record table -/
theorem RecsOK.transfer {H H' : Heap} {rs rs' : List (List Nat)} (K : RecsOK H rs) (hr : H'.recs = H.recs)
    (ho : ∀ i, i < H.ops.size → orecOf H' i = orecOf H i)
    (hlt : ∀ c ∈ rs, ∀ i ∈ c, i < H.ops.size)
    (hrs : ∀ c' ∈ rs', ∃ c ∈ rs, (∀ i ∈ c, i ∈ c') ∧ ∀ i ∈ c', i ∈ c ∨ ∃ a ∈ c, orecOf H' i = orecOf H a) :
    RecsOK H' rs' := by
  constructor
  · intro c' hc'
    obtain ⟨c, hc, hsub, hsup⟩ := hrs c' hc'
    obtain ⟨r, p, hp, hpc, hall⟩ := K.ring_rec c hc
    refine ⟨r, p, by rw [hr]; exact hp, hsub p hpc, ?_⟩
    intro i hi o hio
    rw [realOf_congr hr]
    rcases hsup i hi with h | ⟨a, ha, e⟩
    · rw [ho i (hlt c hc i h)] at hio; exact hall i h o hio
    · rw [e] at hio; exact hall a ha o hio
  · intro r rc p hrc hp
    rw [hr] at hrc
    obtain ⟨o, ho', hre⟩ := K.rec_ring r rc p hrc hp
    have hplt : p < H.ops.size := by
      obtain ⟨n, hn, _⟩ := orecOf_some.1 ho'; exact lt_of_node hn
    exact ⟨o, by rw [ho p hplt]; exact ho', by rw [realOf_congr hr]; exact hre⟩

/-- `RecsOK` does not depend on how the rings are listed -/
theorem RecsOK.relist {H : Heap} {rs rs' : List (List Nat)} (K : RecsOK H rs) (h : Relist rs rs') : RecsOK H rs' := by
  constructor
  · intro c' hc'
    obtain ⟨c, hc, hm⟩ := h c' hc'
    obtain ⟨r, p, a, b, d⟩ := K.ring_rec c hc
    exact ⟨r, p, a, hm.mem_iff.2 b, fun i hi => d i (hm.mem_iff.1 hi)⟩
  · exact K.rec_ring

theorem duplicateOp_wf {H : Heap} (W : WF H) {op : Nat} (hop : op < H.ops.size) (after : Bool) :
    ∃ H', duplicateOp H op after = .ok (H', H.ops.size) ∧ WF H' := by
  obtain ⟨rs, R, K⟩ := W
  obtain ⟨c, hc, hopc⟩ := R.exists_ring hop
  obtain ⟨A, B, rfl⟩ := List.append_of_mem hc
  obtain ⟨pre, post, rfl⟩ := List.append_of_mem hopc
  have hor : ∀ n, H.ops[op]? = some n → orecOf H op = some n.orec := fun n hn => orecOf_some.2 ⟨n, hn, rfl⟩
  -- what is left to do for either direction, `c'` being the ring of `op` after the call
  have key : ∀ {H' : Heap} {n : Node} {c' : List Nat}, H.ops[op]? = some n →
      Rings H' (A ++ c' :: B) → orecOf H' = upd (orecOf H) H.ops.size n.orec → H'.recs = H.recs →
      c'.Perm (H.ops.size :: (pre ++ op :: post)) → WF H' := by
    intro H' n c' hn R' eo er hperm
    have hmem : ∀ i, i ∈ c' ↔ i = H.ops.size ∨ i ∈ pre ++ op :: post := fun i => hperm.mem_iff.trans List.mem_cons
    refine ⟨_, R', K.transfer er ?_ (fun c hc i hi => R.mem_lt hc hi) ?_⟩
    · intro i hi; rw [eo, upd_ne _ _ (Nat.ne_of_lt hi)]
    · intro d hd
      rcases mem_mid.1 hd with rfl | hd
      · refine ⟨pre ++ op :: post, hc, fun i hi => (hmem i).2 (Or.inr hi), ?_⟩
        intro i hi
        rcases (hmem i).1 hi with rfl | h
        · exact Or.inr ⟨op, hopc, by rw [eo, upd_same, hor n hn]⟩
        · exact Or.inl h
      · exact ⟨d, mem_mid.2 (Or.inr hd), fun i hi => hi, fun i hi => Or.inl hi⟩
  cases after with
  | true =>
    obtain ⟨H', n, hn, hd, R', _, eo, er, _⟩ := duplicateOp_after_rings R
    exact ⟨H', hd, key hn R' eo er (by simpa using List.perm_middle (a := H.ops.size) (l₁ := pre ++ [op]) (l₂ := post))⟩
  | false =>
    obtain ⟨H', n, hn, hd, R', _, eo, er, _⟩ := duplicateOp_before_rings R
    exact ⟨H', hd, key hn R' eo er List.perm_middle⟩

/-- `RecsOK` reads only the records and the `outrec` fields -/
theorem RecsOK.of_eqs {H H' : Heap} {rs : List (List Nat)} (K : RecsOK H rs) (hr : H'.recs = H.recs) (ho : orecOf H' = orecOf H) :
    RecsOK H' rs := by
  constructor
  · intro c hc
    obtain ⟨r, p, a, b, d⟩ := K.ring_rec c hc
    exact ⟨r, p, by rw [hr]; exact a, b, fun i hi o hio => by rw [realOf_congr hr]; exact d i hi o (by rw [← ho]; exact hio)⟩
  · intro r rc p hrc hp
    rw [hr] at hrc
    obtain ⟨o, a, b⟩ := K.rec_ring r rc p hrc hp
    exact ⟨o, by rw [ho]; exact a, by rw [realOf_congr hr]; exact b⟩

/-- a step that changes neither links, records nor `outrec` fields keeps the heap well formed -/
theorem WF.of_frame {H H' : Heap} (W : WF H) (sl : SameLinks H H') (hr : H'.recs = H.recs) (ho : orecOf H' = orecOf H) : WF H' :=
  W.elim fun rs ⟨R, K⟩ => ⟨rs, R.of_sameLinks sl, K.of_eqs hr ho⟩

/-- `->next` as a total function (the identity outside the heap) -/
def nxt (H : Heap) (v : Nat) : Nat := (nextOf H v).getD v

/-- `f` applied `k` times -/
def iter (f : Nat → Nat) : Nat → Nat → Nat
  | 0, x => x
  | k + 1, x => f (iter f k x)

/-- `[x, f x, …, f^(k-1) x]` -/
def orbL (f : Nat → Nat) (x k : Nat) : List Nat := (List.range k).map fun m => iter f m x

theorem orbL_succ (f : Nat → Nat) (x k : Nat) : orbL f x (k + 1) = orbL f x k ++ [iter f k x] := by
  simp [orbL, List.range_succ]

theorem orbL_head (f : Nat → Nat) (x : Nat) : ∀ k, (orbL f x (k + 1)).head? = some x
  | 0 => rfl
  | k + 1 => by rw [orbL_succ, List.head?_append, orbL_head f x k]; rfl

theorem mem_orbL {f : Nat → Nat} {x k v : Nat} : v ∈ orbL f x k ↔ ∃ m, m < k ∧ iter f m x = v := by
  simp [orbL]

theorem orbL_nodup {f : Nat → Nat} {x k : Nat} (h : (orbL f x k).Nodup) {a b : Nat} (hab : a < b) (hb : b < k) :
    iter f a x ≠ iter f b x := by
  rw [List.Nodup, List.pairwise_iff_getElem] at h
  have := h a b (by simp [orbL]; omega) (by simp [orbL]; exact hb) hab
  simpa [orbL] using this

section
variable {H : Heap} (L : Linked H)
include L

theorem Linked.nxt_spec {v : Nat} (hv : v < H.ops.size) :
    nextOf H v = some (nxt H v) ∧ nxt H v < H.ops.size ∧ prevOf H (nxt H v) = some v := by
  obtain ⟨n, hn⟩ := node_of_lt hv
  have h1 : nextOf H v = some n.next := nextOf_some.2 ⟨n, hn, rfl⟩
  have h2 := L.next_prev v n hn
  have h3 : nxt H v = n.next := by unfold nxt; rw [h1]; rfl
  rw [h3]
  obtain ⟨m, hm, _⟩ := prevOf_some.1 h2
  exact ⟨h1, lt_of_node hm, h2⟩

theorem Linked.nxt_inj {a b : Nat} (ha : a < H.ops.size) (hb : b < H.ops.size) (h : nxt H a = nxt H b) : a = b := by
  have h1 := (L.nxt_spec ha).2.2
  have h2 := (L.nxt_spec hb).2.2
  rw [h] at h1; rw [h1] at h2; cases h2; rfl

theorem Linked.iter_lt {v : Nat} (hv : v < H.ops.size) : ∀ k, iter (nxt H) k v < H.ops.size
  | 0 => hv
  | k + 1 => (L.nxt_spec (Linked.iter_lt hv k)).2.1

theorem Linked.orbit_chain {x : Nat} (hx : x < H.ops.size) :
    ∀ k, ChainF (nextOf H) (prevOf H) (orbL (nxt H) x k ++ [iter (nxt H) k x])
  | 0 => trivial
  | k + 1 => by
    have hs := L.nxt_spec (L.iter_lt hx k)
    rw [orbL_succ, chainF_snoc_last List.getLast?_concat]
    exact ⟨Linked.orbit_chain hx k, hs.1, hs.2.2⟩

/-- **the orbit of an `OutPt` under `->next` is a ring**: the orbit up to the first repetition; the repeated node can only be
the first one, its predecessor being determined -/
theorem Linked.orbit_ring {i : Nat} (hi : i < H.ops.size) :
    ∃ c, IsRingF (nextOf H) (prevOf H) c ∧ i ∈ c ∧ (∀ v ∈ c, v < H.ops.size) ∧ ∀ v ∈ c, ∃ m, v = iter (nxt H) m i := by
  have hlt : ∀ k, ∀ v ∈ orbL (nxt H) i k, v < H.ops.size := fun k v hv => by
    obtain ⟨m, _, rfl⟩ := mem_orbL.1 hv; exact L.iter_lt hi m
  -- `size + 1` nodes below `size` are not distinct: the orbit repeats
  obtain ⟨m, hnd, hnn⟩ : ∃ m, (orbL (nxt H) i (m + 1)).Nodup ∧ ¬ (orbL (nxt H) i (m + 2)).Nodup := by
    apply Classical.byContradiction
    intro hcon
    have all : ∀ m, (orbL (nxt H) i (m + 1)).Nodup := fun m => by
      induction m with
      | zero => simp [orbL]
      | succ m ih => exact Classical.byContradiction fun h => hcon ⟨m, ih, h⟩
    have := nodup_length_le H.ops.size _ (all H.ops.size) (hlt _)
    simp [orbL] at this
    omega
  have hmem : iter (nxt H) (m + 1) i ∈ orbL (nxt H) i (m + 1) := Classical.byContradiction fun hx => hnn (by
    rw [orbL_succ]
    exact List.nodup_append.2 ⟨hnd, List.nodup_cons.2 ⟨List.not_mem_nil, List.nodup_nil⟩, fun a ha b hb e => hx (List.mem_singleton.1 hb ▸ e ▸ ha)⟩)
  obtain ⟨a, ha, e⟩ := mem_orbL.1 hmem
  have hper : iter (nxt H) (m + 1) i = i := by
    cases a with
    | zero => exact e.symm
    | succ a =>
      exact absurd (L.nxt_inj (L.iter_lt hi a) (L.iter_lt hi m) e) (orbL_nodup hnd (Nat.lt_of_succ_lt_succ ha) (Nat.lt_succ_self m))
  have hz : (orbL (nxt H) i (m + 1)).getLast? = some (iter (nxt H) m i) := by rw [orbL_succ]; exact List.getLast?_concat
  have hch := L.orbit_chain hi (m + 1)
  rw [chainF_snoc_last hz, hper] at hch
  exact ⟨_, (isRingF_iff (orbL_head _ i m) hz).2 ⟨hnd, hch⟩, mem_orbL.2 ⟨0, Nat.succ_pos m, rfl⟩, hlt _,
    fun v hv => by obtain ⟨k, _, rfl⟩ := mem_orbL.1 hv; exact ⟨k, rfl⟩⟩

end

/-- **a linked heap falls into rings**: going through the indices, the orbit of every index not yet covered is a new ring,
disjoint from the earlier ones because rings are closed under `->prev` -/
theorem Linked.rings {H : Heap} (L : Linked H) : ∃ rs, Rings H rs := by
  have build : ∀ n, n ≤ H.ops.size → ∃ rs : List (List Nat), (∀ c ∈ rs, IsRingF (nextOf H) (prevOf H) c) ∧ rs.flatten.Nodup ∧
      (∀ v ∈ rs.flatten, v < H.ops.size) ∧ ∀ v, v < n → v ∈ rs.flatten := by
    intro n
    induction n with
    | zero => intro _; exact ⟨[], by simp, by simp, by simp, by intro v hv; omega⟩
    | succ n ih =>
      intro hn
      obtain ⟨rs, hr, hnd, hlt, hcov⟩ := ih (by omega)
      by_cases hin : n ∈ rs.flatten
      · exact ⟨rs, hr, hnd, hlt, fun v hv => by
          by_cases e : v = n
          · subst e; exact hin
          · exact hcov v (by omega)⟩
      · obtain ⟨c, hc, hnc, hclt, horb⟩ := L.orbit_ring (i := n) (by omega)
        refine ⟨c :: rs, ?_, ?_, ?_, ?_⟩
        · intro c' hc'
          rcases List.mem_cons.1 hc' with rfl | hc'
          · exact hc
          · exact hr c' hc'
        · simp only [List.flatten_cons]
          rw [List.nodup_append]
          refine ⟨hc.nodup, hnd, ?_⟩
          intro a ha b hb e
          subst e
          -- a = iter m n lies on an old ring: going back, n lies on it too
          obtain ⟨m, rfl⟩ := horb a ha
          obtain ⟨c', hc', hac'⟩ := List.mem_flatten.1 hb
          have back : ∀ m, iter (nxt H) m n ∈ c' → n ∈ c' := by
            intro m
            induction m with
            | zero => intro h; exact h
            | succ m ihm =>
              intro h
              exact ihm ((hr c' hc').closed_prev h (L.nxt_spec (L.iter_lt (Nat.lt_of_lt_of_le (Nat.lt_succ_self n) hn) m)).2.2)
          exact hin (List.mem_flatten.2 ⟨c', hc', back m hac'⟩)
        · intro v hv
          simp only [List.flatten_cons, List.mem_append] at hv
          rcases hv with h | h
          · exact hclt v h
          · exact hlt v h
        · intro v hv
          simp only [List.flatten_cons, List.mem_append]
          by_cases e : v = n
          · subst e; exact Or.inl hnc
          · exact Or.inr (hcov v (by omega))
  obtain ⟨rs, hr, hnd, hlt, hcov⟩ := build H.ops.size (Nat.le_refl _)
  refine ⟨rs, hr, ?_⟩
  rw [List.perm_ext_iff_of_nodup hnd List.nodup_range]
  intro a
  rw [List.mem_range]
  exact ⟨hlt a, hcov a⟩

end Clipper.Model.HorzJoins

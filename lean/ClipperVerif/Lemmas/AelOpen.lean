/- Lemmas for the open-path part of the AEL model (C05). Core Lean only. -/
import ClipperVerif.Lemmas.Ael
import ClipperVerif.Spec.Open
namespace Clipper.Model

/-- open paths are subject paths (`AddOpenSubject` is the only public way to add one) -/
def OpenSubj (l : List Edge) : Prop := ∀ x ∈ l, x.isOpen = true → x.pt = .subject

theorem openSubj_cons (x : Edge) (l : List Edge) :
    OpenSubj (x :: l) ↔ (x.isOpen = true → x.pt = .subject) ∧ OpenSubj l := List.forall_mem_cons

theorem openSubj_append (l1 l2 : List Edge) : OpenSubj (l1 ++ l2) ↔ OpenSubj l1 ∧ OpenSubj l2 :=
  List.forall_mem_append

theorem openSums_spec (l : List Edge) : ∀ (w : Int × Int), OpenSubj l →
    openSums l w = (w.1 + sumT .subject l, w.2 + sumT .clip l) := by
  induction l with
  | nil => intro w _; simp [openSums, sumT]
  | cons x xs ih =>
    intro w h
    rw [openSubj_cons] at h
    cases hp : x.pt <;> cases ho : x.isOpen
    case clip.true => exact nomatch hp ▸ h.1 ho
    all_goals simp [openSums, sumT, contrib, hp, ho, ih _ h.2, Int.add_assoc]

/-- a closed edge changes the parity of its own type's sum, and of no other -/
theorem contrib_parity (t : PathType) (x : Edge) (hd : x.isOpen = false → x.dx = 1 ∨ x.dx = -1) :
    contrib t x % 2 = (if x.pt = t ∧ x.isOpen = false then 1 else 0) % 2 := by
  simp only [contrib]
  split
  next h => rcases hd h.2 with h | h <;> rw [h] <;> rfl
  next => rfl

theorem add_emod_congr (a d e s : Int) (h : d % 2 = e % 2) : (a + (d + s)) % 2 = (a + (e + s)) % 2 := by omega

/-- what the EvenOdd branch stores (1 for an odd count) is the parity of the sums -/
theorem openCounts_spec (l : List Edge) : ∀ (n : Nat × Nat), OpenSubj l → ClosedDx l →
    (if (openCounts l n).1 % 2 = 1 then (1 : Int) else 0) = ((n.1 : Int) + sumT .subject l) % 2 ∧
    (if (openCounts l n).2 % 2 = 1 then (1 : Int) else 0) = ((n.2 : Int) + sumT .clip l) % 2 := by
  induction l with
  | nil => intro n _ _; simp only [openCounts, sumT]; omega
  | cons x xs ih =>
    intro n h hd
    rw [openSubj_cons] at h
    rw [closedDx_cons] at hd
    have p1 := contrib_parity .subject x hd.1
    have p2 := contrib_parity .clip x hd.1
    simp only [openCounts, sumT]
    rw [add_emod_congr _ _ _ _ p1, add_emod_congr _ _ _ _ p2]
    -- the three branches of the loop body, by the path type and open flag of `x`
    rcases x with ⟨pt, o, dx, wc, wc2, hot⟩
    cases pt <;> cases o <;>
      simp only [reduceCtorEq, if_false, if_true, false_and, and_self, and_false, Bool.true_eq_false, Int.zero_add]
    · have := ih (n.1 + 1, n.2) h.2 hd.2
      rwa [Int.natCast_add, Int.add_assoc] at this
    · exact ih n h.2 hd.2
    · have := ih (n.1, n.2 + 1) h.2 hd.2
      rwa [Int.natCast_add, Int.add_assoc] at this
    · exact nomatch h.1 rfl

/-- the counts computed by `SetWindCountForOpenPathEdge` are the closed-subject and clip winding sums (their
parities under EvenOdd) of everything to the left -/
theorem setWindOpen_spec (fr : FillRule) (left : List Edge) (e : Edge)
    (hs : OpenSubj left) (hd : ClosedDx left) (hw : e.wc = 0) (hw2 : e.wc2 = 0) :
    setWindOpen fr left e =
      { e with wc := enc2 fr (sumT .subject left), wc2 := enc2 fr (sumT .clip left) } := by
  by_cases hfr : fr = .evenOdd
  · subst hfr
    obtain ⟨h1, h2⟩ := openCounts_spec left (0, 0) hs hd
    simp only [setWindOpen, ite_true, enc2, h1, h2, Int.natCast_zero, Int.zero_add]
  · simp only [setWindOpen, if_neg hfr, openSums_spec left _ hs, hw, hw2, Int.zero_add]
    cases fr <;> first | exact absurd rfl hfr | rfl

theorem ico_keep (ct : ClipType) (hct : ct ≠ .noClip) (fr : FillRule) (wc wc2 ws wcl : Int)
    (h1 : otherIn fr wc = inFill fr ws) (h2 : otherIn fr wc2 = inFill fr wcl) :
    isContributingOpen ct fr wc wc2 = keepOpen ct fr ws wcl := by
  cases ct <;> (try exact absurd rfl hct) <;> simp only [isContributingOpen, keepOpen, h1, h2]

/-- for a stored count the first and the third test of the open branch together are the own-boundary test -/
theorem pre_of_skip (fr : FillRule) (wc : Int) (h : NZ fr wc) :
    ((iabs wc == 1) && !openSkipFr fr wc) = pre fr wc := by
  cases fr <;> simp only [openSkipFr, pre, bne, Bool.not_not, Bool.and_self]
  · rcases h with rfl | rfl <;> rfl
  · by_cases h1 : wc = 1
    · subst h1; rfl
    · simp [h1]
  · by_cases h1 : wc = -1
    · subst h1; rfl
    · simp [h1]

/-- **the toggle is right**: an open edge crossing a correct closed edge toggles exactly when `keepOpen` differs
between the two sides of the closed edge -/
theorem toggles_iff (cfg : Cfg) (hct : cfg.ct ≠ .noClip) (ec : Edge) (s c : Int) (ho : ec.isOpen = false)
    (h : EdgeOK cfg ec (own ec.pt s c) (own (other ec.pt) s c)) :
    openToggles cfg ec = (keepOpen cfg.ct cfg.fr s c !=
      keepOpen cfg.ct cfg.fr (s + contrib .subject ec) (c + contrib .clip ec)) := by
  obtain ⟨ct, fr⟩ := cfg
  obtain ⟨hd, hw, hh⟩ := h
  have hT : openToggles ⟨ct, fr⟩ ec = (pre fr ec.wc && !openSkipCt ct ec.pt ec.hot) := by
    rw [← pre_of_skip fr ec.wc (wc_nonzero fr _ _ _ _ _ hd hw), openToggles, Bool.not_or, Bool.not_or, Bool.and_right_comm,
      decide_not, Bool.not_not, Bool.beq_eq_decide_eq]
  -- everything in terms of the fill states `x0`, `x1` of the own type on the two sides and `y` of the other type;
  -- only Union looks at the hot flag (which says whether the other type's region is left empty)
  rw [hT, hh, isContributingClosed, wcOK_pre fr _ _ _ _ _ hd hw, wcOK_otherIn fr _ _ _ _ _ hw]
  cases hp : ec.pt <;> cases ct <;> (try exact absurd rfl hct) <;>
    simp only [contrib, hp, ho, own, other, keepOpen, openSkipCt, sel, reduceCtorEq, and_self, if_true, false_and, if_false,
      Int.add_zero] <;>
    generalize inFill fr s = a <;> generalize inFill fr c = b <;>
    generalize inFill fr (s + ec.dx) = a' <;> generalize inFill fr (c + ec.dx) = b' <;>
    cases a <;> cases b <;> (try cases a') <;> (try cases b') <;> rfl

theorem invOpenFrom_append (keep : Int → Int → Bool) (l1 l2 : List Edge) : ∀ (s c : Int),
    InvOpenFrom keep s c (l1 ++ l2) ↔
      InvOpenFrom keep s c l1 ∧ InvOpenFrom keep (s + sumT .subject l1) (c + sumT .clip l1) l2 := by
  induction l1 with
  | nil => intro s c; simp [InvOpenFrom, sumT]
  | cons x xs ih =>
    intro s c
    simp only [List.cons_append, InvOpenFrom, ih, sumT, and_assoc, Int.add_assoc]

theorem invOpenFrom_cons_closed (keep : Int → Int → Bool) (s c : Int) (e : Edge) (ho : e.isOpen = false)
    (rest : List Edge) :
    InvOpenFrom keep s c (e :: rest) ↔
      InvOpenFrom keep (s + contrib .subject e) (c + contrib .clip e) rest := by
  simp [InvOpenFrom, ho]

theorem invOpenFrom_cons_open (keep : Int → Int → Bool) (s c : Int) (a : Edge) (rest : List Edge)
    (ha : a.isOpen = true) :
    InvOpenFrom keep s c (a :: rest) ↔ a.hot = keep s c ∧ InvOpenFrom keep s c rest := by
  simp only [InvOpenFrom, contrib_open _ a ha, Int.add_zero, ha]
  simp

theorem invOpenFrom_pair_swap (cfg : Cfg) (hct : cfg.ct ≠ .noClip) (s c : Int) (e1 e2 : Edge)
    (hI : InvFrom cfg s c [e1, e2]) (hO : InvOpenFrom (keepOpen cfg.ct cfg.fr) s c [e1, e2]) :
    InvOpenFrom (keepOpen cfg.ct cfg.fr) s c [(intersectPair cfg e1 e2).2, (intersectPair cfg e1 e2).1] := by
  cases ho1 : e1.isOpen <;> cases ho2 : e2.isOpen
  · obtain ⟨-, f2, -, -, f5, -⟩ := intersectPair_fields cfg e1 e2
    rw [invOpenFrom_cons_closed _ _ _ _ (f5.trans ho2), invOpenFrom_cons_closed _ _ _ _ (f2.trans ho1)]; trivial
  · -- the open `e2` moves to the left of the closed `e1`
    rw [invOpenFrom_cons_closed _ _ _ _ ho1, invOpenFrom_cons_open _ _ _ _ _ ho2] at hO
    rw [intersectPair_co cfg ho1 ho2, invOpenFrom_cons_open _ _ _ _ _ ((intersectOpen_isOpen ..).trans ho2),
      invOpenFrom_cons_closed _ _ _ _ ho1, intersectOpen_eq, toggles_iff cfg hct e1 s c ho1 (hI.1 ho1), hO.1]
    exact ⟨by generalize keepOpen cfg.ct cfg.fr s c = a; generalize keepOpen cfg.ct cfg.fr _ _ = b
              cases a <;> cases b <;> rfl, trivial⟩
  · -- the open `e1` moves to the right of the closed `e2`
    rw [invFrom_cons_open _ _ _ _ ho1] at hI
    rw [invOpenFrom_cons_open _ _ _ _ _ ho1, invOpenFrom_cons_closed _ _ _ _ ho2] at hO
    rw [intersectPair_oc cfg ho1 ho2, invOpenFrom_cons_closed _ _ _ _ ho2,
      invOpenFrom_cons_open _ _ _ _ _ ((intersectOpen_isOpen ..).trans ho1), intersectOpen_eq,
      toggles_iff cfg hct e2 s c ho2 (hI.1 ho2), hO.1]
    exact ⟨by generalize keepOpen cfg.ct cfg.fr s c = a; generalize keepOpen cfg.ct cfg.fr _ _ = b
              cases a <;> cases b <;> rfl, trivial⟩
  · rw [invOpenFrom_cons_open _ _ _ _ _ ho1, invOpenFrom_cons_open _ _ _ _ _ ho2] at hO
    rw [intersectPair_oo cfg ho1 ho2, invOpenFrom_cons_open _ _ _ _ _ ho2, invOpenFrom_cons_open _ _ _ _ _ ho1]
    exact ⟨hO.2.1, hO.1, trivial⟩

theorem openSubj_of_fields (l l' : List Edge)
    (h : ∀ x' ∈ l', ∃ x ∈ l, x'.pt = x.pt ∧ x'.isOpen = x.isOpen) (hs : OpenSubj l) : OpenSubj l' := by
  intro x' hx' ho
  obtain ⟨x, hx, hp, hop⟩ := h x' hx'
  rw [hp]; exact hs x hx (by rw [← hop]; exact ho)

def closedPart (l : Ael) : Ael := l.filter (fun e => !e.isOpen)

/-- position among the closed edges of the first closed edge at or after position `i` -/
def cidx (l : Ael) (i : Nat) : Nat := (closedPart (l.take i)).length

theorem closedPart_append (l1 l2 : Ael) : closedPart (l1 ++ l2) = closedPart l1 ++ closedPart l2 :=
  List.filter_append ..

theorem closedPart_cons_closed (e : Edge) (l : Ael) (h : e.isOpen = false) :
    closedPart (e :: l) = e :: closedPart l := by simp [closedPart, h]

theorem closedPart_cons_open (e : Edge) (l : Ael) (h : e.isOpen = true) :
    closedPart (e :: l) = closedPart l := by simp [closedPart, h]

theorem findPrev_closedPart (t : PathType) (rp : List Edge) :
    findPrev t (closedPart rp) = ((findPrev t rp).1, closedPart (findPrev t rp).2) := by
  induction rp with
  | nil => rfl
  | cons x xs ih =>
    cases ho : x.isOpen
    · rw [closedPart_cons_closed x xs ho]
      simp only [findPrev]
      split
      · rfl
      · rw [ih, closedPart_append, closedPart_cons_closed x [] ho]; rfl
    · rw [closedPart_cons_open x xs ho, ih]
      have hc : ¬(x.pt = t ∧ x.isOpen = false) := by simp [ho]
      rw [findPrev, if_neg hc, closedPart_append, closedPart_cons_open x [] ho]; exact (List.append_nil _).symm ▸ rfl

theorem wc2Loop_closedPart (fr : FillRule) (t : PathType) (l : List Edge) : ∀ (w : Int),
    wc2Loop fr t (closedPart l) w = wc2Loop fr t l w := by
  induction l with
  | nil => intro w; rfl
  | cons x xs ih =>
    intro w
    cases ho : x.isOpen
    · rw [closedPart_cons_closed x xs ho]; simp only [wc2Loop, ih]
    · rw [closedPart_cons_open x xs ho, ih]
      have hc : ¬(x.pt ≠ t ∧ x.isOpen = false) := by simp [ho]
      simp only [wc2Loop, if_neg hc]

theorem closedPart_reverse (l : Ael) : closedPart l.reverse = (closedPart l).reverse :=
  List.filter_reverse ..

/-- `SetWindCountForClosedPathEdge` does not see open edges -/
theorem setWindClosed_closedPart (fr : FillRule) (left : List Edge) (e : Edge) :
    setWindClosed fr (closedPart left) e = setWindClosed fr left e := by
  simp only [setWindClosed]
  rw [← closedPart_reverse, findPrev_closedPart]
  rcases findPrev e.pt left.reverse with ⟨_ | e2, btw⟩ <;> simp only [wc2Loop_closedPart]

theorem newLeft_closedPart (cfg : Cfg) (left : List Edge) (pt : PathType) (dx : Int) :
    newLeft cfg (closedPart left) pt false dx = newLeft cfg left pt false dx := by
  simp only [newLeft, Bool.false_eq_true, ite_false, setWindClosed_closedPart]

/-- what an operation looks like once the open edges are erased (`none`: it disappears) -/
def projOp (l : Ael) : Op → Option Op
  | .insertPair pos pt false dx => some (.insertPair (cidx l pos) pt false dx)
  | .insertPair _ _ true _ => none
  | .insertOne _ _ _ => none
  | .intersect i =>
    match l.drop i with
    | e1 :: e2 :: _ => if e1.isOpen || e2.isOpen then none else some (.intersect (cidx l i))
    | _ => none
  | .removePair i =>
    match l.drop i with
    | e1 :: _ => if e1.isOpen then none else some (.removePair (cidx l i))
    | _ => none
  | .removeOne _ => none

theorem cidx_append_length (pre tl : Ael) : cidx (pre ++ tl) pre.length = (closedPart pre).length := by simp [cidx]

theorem step_closedPart (cfg : Cfg) (l l' : Ael) (op : Op) (hs : step cfg l op = some l') :
    match projOp l op with
    | none => closedPart l' = closedPart l
    | some op' => step cfg (closedPart l) op' = some (closedPart l') := by
  obtain ⟨pre, mid, mid', rest, rfl, rfl, hW⟩ := step_iff.mp hs
  -- the same window among the closed edges, or a window without closed edges before and after
  have same : ∀ op', Win cfg (closedPart pre) op' (closedPart mid) (closedPart mid') →
      step cfg (closedPart (pre ++ (mid ++ rest))) op' = some (closedPart (pre ++ (mid' ++ rest))) := fun op' h =>
    step_iff.mpr ⟨_, _, _, closedPart rest, by simp only [closedPart_append], by simp only [closedPart_append], h⟩
  have gone : closedPart mid' = closedPart mid → closedPart (pre ++ (mid' ++ rest)) = closedPart (pre ++ (mid ++ rest)) :=
    fun h => by simp only [closedPart_append, h]
  cases hW with
  | insertPair pt o dx hdx lb hlb hpt ho hd =>
    cases o
    · simp only [projOp, cidx_append_length]
      refine same _ ?_
      rw [closedPart_cons_closed _ _ ho, closedPart_cons_closed _ _ rfl]
      exact .insertPair pt false dx hdx lb (by rw [newLeft_closedPart]; exact hlb) hpt ho hd
    · exact gone (by rw [closedPart_cons_open _ _ ho, closedPart_cons_open _ _ rfl])
  | insertOne pt dx hdx e he hpt ho => exact gone (closedPart_cons_open _ _ ho)
  | intersect e1 e2 =>
    simp only [projOp, (take_drop_of_append ..).2, List.cons_append, List.nil_append]
    cases ho1 : e1.isOpen <;> cases ho2 : e2.isOpen
    · obtain ⟨-, f2, -, -, f5, -⟩ := intersectPair_fields cfg e1 e2
      simp only [Bool.or_self, Bool.false_eq_true, ite_false, cidx_append_length]
      refine same _ ?_
      rw [closedPart_cons_closed _ _ ho1, closedPart_cons_closed _ _ ho2, closedPart_cons_closed _ _ (f5.trans ho2),
        closedPart_cons_closed _ _ (f2.trans ho1)]
      exact .intersect e1 e2
    · refine gone ?_
      rw [intersectPair_co cfg ho1 ho2, closedPart_cons_open _ _ ((intersectOpen_isOpen ..).trans ho2),
        closedPart_cons_closed _ _ ho1, closedPart_cons_closed _ _ ho1, closedPart_cons_open _ _ ho2]
    · refine gone ?_
      rw [intersectPair_oc cfg ho1 ho2, closedPart_cons_closed _ _ ho2, closedPart_cons_open _ _ ((intersectOpen_isOpen ..).trans ho1),
        closedPart_cons_open _ _ ho1, closedPart_cons_closed _ _ ho2]
    · refine gone ?_
      rw [intersectPair_oo cfg ho1 ho2, closedPart_cons_open _ _ ho2, closedPart_cons_open _ _ ho1, closedPart_cons_open _ _ ho1,
        closedPart_cons_open _ _ ho2]
  | removePair e1 e2 hc =>
    simp only [projOp, (take_drop_of_append ..).2, List.cons_append, List.nil_append]
    cases ho1 : e1.isOpen
    · have ho2 : e2.isOpen = false := hc.2.1 ▸ ho1
      simp only [Bool.false_eq_true, ite_false, cidx_append_length]
      refine same _ ?_
      rw [closedPart_cons_closed _ _ ho1, closedPart_cons_closed _ _ ho2]
      exact .removePair e1 e2 hc
    · have ho2 : e2.isOpen = true := hc.2.1 ▸ ho1
      exact gone (by rw [closedPart_cons_open _ _ ho1, closedPart_cons_open _ _ ho2])
  | removeOne e ho => exact gone (closedPart_cons_open _ _ ho).symm

/-- the operation list of a run with the open edges erased -/
def projOps (cfg : Cfg) : Ael → List Op → List Op
  | _, [] => []
  | l, op :: ops =>
    match step cfg l op with
    | none => []
    | some l' => (projOp l op).toList ++ projOps cfg l' ops

theorem run_append (cfg : Cfg) (ops1 ops2 : List Op) : ∀ (l : Ael),
    run cfg l (ops1 ++ ops2) = (run cfg l ops1).bind (fun l1 => run cfg l1 ops2) := by
  induction ops1 with
  | nil => intro l; rfl
  | cons op ops ih =>
    intro l
    simp only [List.cons_append, run]
    cases step cfg l op with
    | none => rfl
    | some l1 => exact ih l1

theorem run_closedPart (cfg : Cfg) (ops : List Op) : ∀ (l l' : Ael), run cfg l ops = some l' →
    run cfg (closedPart l) (projOps cfg l ops) = some (closedPart l') := by
  induction ops with
  | nil => intro l l' hr; cases hr; rfl
  | cons op ops ih =>
    intro l l' hr
    obtain ⟨l1, hs, hr⟩ := run_cons_some hr
    have h1 := step_closedPart cfg l l1 op hs
    simp only [projOps, hs]
    cases hp : projOp l op with
    | none => rw [hp] at h1; rw [← h1]; exact ih l1 l' hr
    | some op' =>
      rw [hp] at h1
      simp only [Option.toList, List.singleton_append, run, h1]
      exact ih l1 l' hr

end Clipper.Model

/-
Doubly linked rings as lists of node indices: `Linked` (consecutive elements are each other's `next` / `prev`), `Cyc` (a linked
list closed into a cycle), rotation of a cycle, and what rerouting two links does to a cycle: one cycle falls into two (split), two
become one (rejoin).  Everything here is about two maps `next prev : Nat → Nat`, not yet about heaps: `Linked` and `Cyc` are
the chains and closed chains of `Lemmas/Chain.lean` under the relation `Link next prev` (`linked_chainR`, `cyc_cycR`).
Core Lean only.
-/
import ClipperVerif.Model.RectClipTidy
import ClipperVerif.Lemmas.Chain
namespace Clipper.Lemmas.RCT
open Clipper Clipper.Model.RC Clipper.Model.RCT Clipper.Model.HorzJoins

@[simp] theorem upd_same {α : Type} (f : Nat → α) (k : Nat) (v : α) : upd f k v k = v := by simp [upd]

theorem upd_ne {α : Type} (f : Nat → α) {k x : Nat} (v : α) (h : x ≠ k) : upd f k v x = f x := by simp [upd, h]

theorem upd_apply {α : Type} (f : Nat → α) (k x : Nat) (v : α) : upd f k v x = if x = k then v else f x := rfl

theorem upd_upd {α : Type} (f : Nat → α) (k : Nat) (v v' : α) : upd (upd f k v) k v' = upd f k v' := by
  funext x; simp only [upd_apply]; split <;> rfl

theorem upd_self_eq {α : Type} (f : Nat → α) (k : Nat) : upd f k (f k) = f := by
  funext x; simp only [upd_apply]; split
  · rename_i e; rw [e]
  · rfl

theorem upd_comm {α : Type} (f : Nat → α) {a b : Nat} (hab : a ≠ b) (x y : α) : upd (upd f a x) b y = upd (upd f b y) a x := by
  funext k
  simp only [upd_apply]
  split
  · rename_i e; rw [if_neg (e ▸ hab.symm)]
  · rfl

/-- consecutive elements `x, y` of the list satisfy `next x = y` and `prev y = x` -/
def Linked (nx pv : Nat → Nat) : List Nat → Prop
  | a :: b :: l => nx a = b ∧ pv b = a ∧ Linked nx pv (b :: l)
  | _ => True

/-- the non-empty list `c` is a cycle of `next` (with `prev` its inverse along it): consecutive elements are linked,
and so are the last and the first -/
def Cyc (nx pv : Nat → Nat) : List Nat → Prop
  | [] => False
  | a :: l => Linked nx pv (a :: l ++ [a])

theorem linked_cons2 {nx pv : Nat → Nat} {a b : Nat} {l : List Nat} :
    Linked nx pv (a :: b :: l) ↔ nx a = b ∧ pv b = a ∧ Linked nx pv (b :: l) := Iff.rfl

/-- `a->next == b && b->prev == a` for total maps -/
def Link (nx pv : Nat → Nat) (a b : Nat) : Prop := nx a = b ∧ pv b = a

theorem linked_chainR {nx pv : Nat → Nat} : ∀ l : List Nat, Linked nx pv l ↔ ChainR (Link nx pv) l
  | [] => Iff.rfl
  | [_] => Iff.rfl
  | a :: b :: l => by
    rw [linked_cons2, chainR_cons2, linked_chainR (b :: l)]
    exact and_assoc.symm

theorem cyc_cycR {nx pv : Nat → Nat} {c : List Nat} : Cyc nx pv c ↔ c ≠ [] ∧ CycR (Link nx pv) c := by
  cases c with
  | nil => simp [Cyc]
  | cons a l => exact (linked_chainR (a :: l ++ [a])).trans (by simp [CycR])

/-- splitting at a shared element -/
theorem linked_append {nx pv : Nat → Nat} (l1 : List Nat) (b : Nat) (l2 : List Nat) :
    Linked nx pv (l1 ++ b :: l2) ↔ Linked nx pv (l1 ++ [b]) ∧ Linked nx pv (b :: l2) := by
  simp only [linked_chainR]; exact chainR_append _ l1 b l2

theorem linked_snoc2 {nx pv : Nat → Nat} (l : List Nat) (x y : Nat) :
    Linked nx pv (l ++ [x, y]) ↔ Linked nx pv (l ++ [x]) ∧ nx x = y ∧ pv y = x := by
  rw [linked_append l x [y]]
  simp [Linked]

theorem linked_tail {nx pv : Nat → Nat} {a : Nat} {l : List Nat} (h : Linked nx pv (a :: l)) : Linked nx pv l := by
  cases l with
  | nil => trivial
  | cons b l => exact h.2.2

theorem linked_left {nx pv : Nat → Nat} {l1 l2 : List Nat} (h : Linked nx pv (l1 ++ l2)) : Linked nx pv l1 := by
  induction l1 with
  | nil => trivial
  | cons a l1 ih =>
    cases l1 with
    | nil => trivial
    | cons b l1 =>
      simp only [List.cons_append, linked_cons2] at h ⊢
      exact ⟨h.1, h.2.1, ih h.2.2⟩

theorem linked_right {nx pv : Nat → Nat} {l1 l2 : List Nat} (h : Linked nx pv (l1 ++ l2)) : Linked nx pv l2 := by
  induction l1 with
  | nil => exact h
  | cons a l1 ih => exact ih (linked_tail h)

/-- `Linked` only looks at `next` of the non-last and at `prev` of the non-first elements -/
theorem linked_congr {nx pv nx' pv' : Nat → Nat} (l : List Nat)
    (h1 : ∀ x ∈ l.dropLast, nx' x = nx x) (h2 : ∀ y ∈ l.tail, pv' y = pv y) (h : Linked nx pv l) : Linked nx' pv' l := by
  rw [linked_chainR] at h ⊢
  exact chainR_imp l (fun a ha b hb hl => ⟨(h1 a ha).trans hl.1, (h2 b hb).trans hl.2⟩) h

/-- in a linked list, `next` of an element that is not the last is the element after it -/
theorem linked_next {nx pv : Nat → Nat} {l1 : List Nat} {a b : Nat} {l2 : List Nat}
    (h : Linked nx pv (l1 ++ a :: b :: l2)) : nx a = b ∧ pv b = a := by
  have := linked_right h
  exact ⟨this.1, this.2.1⟩

theorem cyc_ne_nil {nx pv : Nat → Nat} {c : List Nat} (h : Cyc nx pv c) : c ≠ [] := by
  cases c with
  | nil => exact absurd h (by simp [Cyc])
  | cons a l => simp

theorem cyc_rotate {nx pv : Nat → Nat} (X Y : List Nat) (h : Cyc nx pv (X ++ Y)) : Cyc nx pv (Y ++ X) := by
  rw [cyc_cycR] at h ⊢
  exact ⟨by simpa [and_comm] using h.1, cycR_rot X Y h.2⟩

/-- a cycle can be rotated so that a given member comes last -/
theorem cyc_rotate_last {nx pv : Nat → Nat} {c : List Nat} {k : Nat} (h : Cyc nx pv c) (hk : k ∈ c) :
    ∃ W, Cyc nx pv (W ++ [k]) ∧ (W ++ [k]).Perm c := by
  obtain ⟨X, Y, rfl⟩ := List.append_of_mem hk
  exact ⟨Y ++ X, by simpa using cyc_rotate (X ++ [k]) Y (by simpa using h),
    by simpa using List.perm_append_comm (l₁ := Y) (l₂ := X ++ [k])⟩

/-- a cycle can be rotated so that a given member comes first -/
theorem cyc_rotate_at {nx pv : Nat → Nat} {X Y : List Nat} {k : Nat} (h : Cyc nx pv (X ++ k :: Y)) :
    Cyc nx pv (k :: (Y ++ X)) :=
  cyc_rotate X (k :: Y) h

theorem cyc_rotate_first {nx pv : Nat → Nat} {c : List Nat} {k : Nat} (h : Cyc nx pv c) (hk : k ∈ c) :
    ∃ W, Cyc nx pv (k :: W) ∧ (k :: W).Perm c := by
  obtain ⟨X, Y, rfl⟩ := List.append_of_mem hk
  exact ⟨Y ++ X, cyc_rotate_at h, by simpa using List.perm_append_comm (l₁ := k :: Y) (l₂ := X)⟩

theorem headD_snoc (X : List Nat) (a : Nat) : (X ++ [a]).headD a = X.headD a := by cases X <;> rfl

/-- where a walk along `next` from `a` to `x` goes first -/
theorem linked_head_next {nx pv : Nat → Nat} {a x : Nat} {L : List Nat} (h : Linked nx pv (a :: L ++ [x])) :
    nx a = (L ++ [x]).headD x := by
  cases L <;> exact h.1

theorem cyc_head_next {nx pv : Nat → Nat} {x : Nat} {B : List Nat} (h : Cyc nx pv (x :: B)) : nx x = B.headD x :=
  (linked_head_next h).trans (headD_snoc B x)

/-- a node of a cycle that is its own successor is the whole cycle -/
theorem cyc_self_loop {nx pv : Nat → Nat} {c : List Nat} {x : Nat} (h : Cyc nx pv c) (hnd : c.Nodup) (hx : x ∈ c)
    (hs : nx x = x) : ∀ y ∈ c, y = x := by
  obtain ⟨W, hW, hp⟩ := cyc_rotate_first h hx
  have hndW : (x :: W).Nodup := hp.nodup_iff.mpr hnd
  cases W with
  | nil => intro y hy; simpa using hp.mem_iff.mpr hy
  | cons a W =>
    have hl : Linked nx pv (x :: a :: (W ++ [x])) := hW
    have : a = x := by rw [← hl.1]; exact hs
    subst this
    exact absurd (List.mem_cons_self) (List.nodup_cons.mp hndW).1

/-- `next` maps a cycle into itself, `prev` is its inverse there -/
theorem cyc_next_mem {nx pv : Nat → Nat} {c : List Nat} {k : Nat} (h : Cyc nx pv c) (hk : k ∈ c) :
    nx k ∈ c ∧ pv (nx k) = k := by
  obtain ⟨b, hb, rfl, e⟩ := (cyc_cycR.1 h).2.succ_mem hk
  exact ⟨hb, e⟩

theorem cyc_prev_mem {nx pv : Nat → Nat} {c : List Nat} {k : Nat} (h : Cyc nx pv c) (hk : k ∈ c) :
    pv k ∈ c ∧ nx (pv k) = k := by
  obtain ⟨b, hb, e, rfl⟩ := (cyc_cycR.1 h).2.pred_mem hk
  exact ⟨hb, e⟩

/-- `Cyc` only depends on `next`, `prev` at the members -/
theorem cyc_congr {nx pv nx' pv' : Nat → Nat} {c : List Nat} (h : Cyc nx pv c)
    (h1 : ∀ x ∈ c, nx' x = nx x) (h2 : ∀ x ∈ c, pv' x = pv x) : Cyc nx' pv' c := by
  rw [cyc_cycR] at h ⊢
  exact ⟨h.1, cycR_mono (fun a b ha hb hl => ⟨(h1 a ha).trans hl.1, (h2 b hb).trans hl.2⟩) h.2⟩

theorem link_upd4 {nx pv : Nat → Nat} {a1 a2 b1 b2 v1 v2 w1 w2 : Nat} (a b : Nat) (h1 : a ≠ a1) (h2 : a ≠ a2) (h3 : b ≠ b1)
    (h4 : b ≠ b2) (hl : Link nx pv a b) : Link (upd (upd nx a2 v2) a1 v1) (upd (upd pv b2 w2) b1 w1) a b :=
  ⟨by rw [upd_ne _ _ h1, upd_ne _ _ h2]; exact hl.1, by rw [upd_ne _ _ h3, upd_ne _ _ h4]; exact hl.2⟩

/-- split: the blocks `U` (from `hU` to `α`) and `V` (from `hV` to `β`) make up one cycle `U ++ V` (`next α = hV`, `next β = hU`);
the writes `next α := hU`, `next β := hV` (and `prev` accordingly) turn it into the two cycles `U` and `V` -/
theorem split_lists {nx pv : Nat → Nat} {U V : List Nat} {hU α hV β : Nat} (hnd : (U ++ V).Nodup)
    (hhU : U.head? = some hU) (hlU : U.getLast? = some α) (hhV : V.head? = some hV) (hlV : V.getLast? = some β)
    (h : Cyc nx pv (U ++ V)) :
    nx α = hV ∧ nx β = hU ∧ Cyc (upd (upd nx β hV) α hU) (upd (upd pv hV β) hU α) U ∧
      Cyc (upd (upd nx β hV) α hU) (upd (upd pv hV β) hU α) V := by
  obtain ⟨_, _, hdis⟩ := List.nodup_append.mp hnd
  have hαβ : β ≠ α := (hdis α (List.mem_of_getLast? hlU) β (List.mem_of_getLast? hlV)).symm
  have hUV : hV ≠ hU := (hdis hU (List.mem_of_head? hhU) hV (List.mem_of_head? hhV)).symm
  obtain ⟨cU, sU, cV, sV⟩ := (cycR_append_iff hhU hlU hhV hlV).1 (cyc_cycR.1 h).2
  obtain ⟨rU, rV⟩ := cycR_split hnd hhU hlU hhV hlV (fun a b => link_upd4 a b) cU cV ⟨upd_same .., upd_same ..⟩
    ⟨(upd_ne _ _ hαβ).trans (upd_same ..), (upd_ne _ _ hUV).trans (upd_same ..)⟩
  exact ⟨sU.1, sV.1, cyc_cycR.2 ⟨List.ne_nil_of_mem (List.mem_of_head? hhU), rU⟩,
    cyc_cycR.2 ⟨List.ne_nil_of_mem (List.mem_of_head? hhV), rV⟩⟩

/-- rejoin: `A` (from `hU` to `β`) and `B` (from `hV` to `α`) are disjoint cycles; the same four writes make `A ++ B` one cycle -/
theorem join_lists {nx pv : Nat → Nat} {A B : List Nat} {hU β hV α : Nat} (hnd : (A ++ B).Nodup)
    (hhA : A.head? = some hU) (hlA : A.getLast? = some β) (hhB : B.head? = some hV) (hlB : B.getLast? = some α)
    (hA : Cyc nx pv A) (hB : Cyc nx pv B) :
    nx β = hU ∧ nx α = hV ∧ Cyc (upd (upd nx β hV) α hU) (upd (upd pv hV β) hU α) (A ++ B) := by
  obtain ⟨_, _, hdis⟩ := List.nodup_append.mp hnd
  have hαβ : β ≠ α := hdis β (List.mem_of_getLast? hlA) α (List.mem_of_getLast? hlB)
  have hUV : hV ≠ hU := (hdis hU (List.mem_of_head? hhA) hV (List.mem_of_head? hhB)).symm
  obtain ⟨cA, sA⟩ := (cycR_iff hhA hlA).1 (cyc_cycR.1 hA).2
  obtain ⟨cB, sB⟩ := (cycR_iff hhB hlB).1 (cyc_cycR.1 hB).2
  exact ⟨sA.1, sB.1, cyc_cycR.2 ⟨by simp [List.ne_nil_of_mem (List.mem_of_head? hhA)],
    cycR_merge hnd hhA hlA hhB hlB (fun a b h1 h2 h3 h4 => link_upd4 a b h2 h1 h3 h4) cA cB
      ⟨(upd_ne _ _ hαβ).trans (upd_same ..), (upd_ne _ _ hUV).trans (upd_same ..)⟩ ⟨upd_same .., upd_same ..⟩⟩⟩

end Clipper.Lemmas.RCT

/-
For `Props/Bridges/Joins.lean`: how a hand-model value is written in the log of a generated skeleton (`name(record arguments)` /
`location := record`), and the closed form of the two join decisions (`passes`, `idxAct`).
Core Lean only.
-/
import ClipperVerif.Lemmas.Bridges
import ClipperVerif.Generated.Engine
import ClipperVerif.Model.JoinCond
namespace Clipper.Lemmas.Bridges
open Clipper Clipper.Model.JoinCond

/-- the untranslated call a decision of `CheckJoinLeft` is logged as (`e_prev_in_ael` = `prev`) -/
def leftLog : Decision → Log
  | .none => []
  | .sameRecordClose => [("AddLocalMaxPoly(e_prev_in_ael,e,pt)", [])]
  | .joinInto .e .nb => [("JoinOutrecPaths(e,e_prev_in_ael)", [])]
  | .joinInto .nb .e => [("JoinOutrecPaths(e_prev_in_ael,e)", [])]
  | .joinInto _ _ => []

/-- … of `CheckJoinRight` (`e_next_in_ael` = `next`) -/
def rightLog : Decision → Log
  | .none => []
  | .sameRecordClose => [("AddLocalMaxPoly(e,e_next_in_ael,pt)", [])]
  | .joinInto .e .nb => [("JoinOutrecPaths(e,e_next_in_ael)", [])]
  | .joinInto .nb .e => [("JoinOutrecPaths(e_next_in_ael,e)", [])]
  | .joinInto _ _ => []

/-- the result of the generated skeleton `Gen.CheckJoinLeft`: (`e.join_with`, `prev->join_with`, log) -/
def encodeLeft (o : Outcome) : JoinWith × JoinWith × Log := (o.joinE, o.joinNb, leftLog o.act)

/-- the result of the generated skeleton `Gen.CheckJoinRight`: (`e.join_with`, `next->join_with`, log) -/
def encodeRight (o : Outcome) : JoinWith × JoinWith × Log := (o.joinE, o.joinNb, rightLog o.act)

/-- a call site as the skeleton / fragment of its caller logs it: `CheckJoinLeft(edge,pt,·)` with the value of `check_curr_x`, or
`CheckJoinLeft(edge,pt,default)` when the argument is omitted -/
def siteLog (c : CallSite) : String × List Int :=
  let fn := match c.side with | .left => "CheckJoinLeft" | .right => "CheckJoinRight"
  let pt := match c.pt with | .botOfE => c.edge ++ "_bot" | .nodePt => "node_pt" | .horzPt => "pt"
  match c.checkCurrX with
  | none => (fn ++ "(" ++ c.edge ++ "," ++ pt ++ ",default)", [])
  | some b => (fn ++ "(" ++ c.edge ++ "," ++ pt ++ ",·)", [if b then 1 else 0])

/-- a step of `Model.JoinCond.updateEdgeIntoAEL` as the skeleton `Gen.UpdateEdgeIntoAEL` logs it -/
def stepLog : UpdateStep → String × List Int
  | .split => ("Split(e,e_bot)", [])
  | .trimHorz pc => ("TrimHorz(e,·)", [if pc then 1 else 0])
  | .insertScanline y => ("InsertScanline(·)", [y])
  | .checkJoin c => siteLog c

/-- the two calls `UpdateEdgeIntoAEL` makes, read off the table, as `Gen.UpdateEdgeIntoAEL` logs them -/
theorem updateSites_log :
    ((callSites.filter (fun c => c.caller == "UpdateEdgeIntoAEL")).map .checkJoin).map stepLog =
      [("CheckJoinLeft(e,e_bot,default)", []), ("CheckJoinRight(e,e_bot,·)", [1])] := by decide +kernel

/-- none of the early `return`s of `CheckJoinLeft/Right` is taken (`n` = the neighbour, which exists) -/
def passes (ccx far : Bool) (e n : JEdge) (pt : Pt) : Bool :=
  !(!e.hot || !n.hot || e.horizontal || n.horizontal || e.isOpen || n.isOpen) &&
  !((decide (pt.y < e.top.y + 2) || decide (pt.y < n.top.y + 2)) && (decide (e.bot.y > pt.y) || decide (n.bot.y > pt.y))) &&
  !(ccx && far) && !(!ccx && decide (e.currX ≠ n.currX)) && !decide (cross e.top pt n.top ≠ 0)

/-- the action once the guard has passed: one record ⇒ close the ring, otherwise the smaller `idx` survives -/
def idxAct (e n : JEdge) : Decision :=
  if e.idx = n.idx then .sameRecordClose else if e.idx < n.idx then .joinInto .e .nb else .joinInto .nb .e

theorem idxAct_ne_none (e n : JEdge) : idxAct e n ≠ .none := by
  unfold idxAct; split
  · exact Decision.noConfusion
  · split <;> exact Decision.noConfusion

theorem outcome_idxAct (e n : JEdge) (a b : JoinWith) :
    (if e.idx = n.idx then (⟨.sameRecordClose, a, b⟩ : Outcome) else if e.idx < n.idx then ⟨.joinInto .e .nb, a, b⟩
      else ⟨.joinInto .nb .e, a, b⟩) = ⟨idxAct e n, a, b⟩ := by
  unfold idxAct; split
  · rfl
  · split <;> rfl

/-- five early exits with the same value: the first guard that holds decides -/
theorem nest5 {α : Type} (g1 g2 g3 g4 g5 : Bool) (A B : α) :
    (if g1 = true then A else if g2 = true then A else if g3 = true then A else if g4 = true then A else if g5 = true then A else B) =
      if (!g1 && !g2 && !g3 && !g4 && !g5) = true then B else A := by
  cases g1
  · cases g2
    · cases g3
      · cases g4
        · cases g5 <;> rfl
        · rfl
      · rfl
    · rfl
  · rfl

theorem joinLeft_some (ccx far : Bool) (e p : JEdge) (pt : Pt) (je jp : JoinWith) :
    joinLeftDecision ccx far e (some p) pt je jp =
      if passes ccx far e p pt then ⟨idxAct e p, .left, .right⟩ else ⟨.none, je, jp⟩ := by
  simp only [joinLeftDecision, nest5, outcome_idxAct]; rfl

theorem joinRight_some (ccx far : Bool) (e n : JEdge) (pt : Pt) (je jn : JoinWith) :
    joinRightDecision ccx far e (some n) pt je jn =
      if passes ccx far e n pt then ⟨idxAct e n, .right, .left⟩ else ⟨.none, je, jn⟩ := by
  simp only [joinRightDecision, nest5, outcome_idxAct]; rfl

/-- the #490 test negated: the join is not "trivial" -/
theorem nontrivial_iff (a b c d p : Int) :
    (p < a + 2 ∨ p < b + 2 → c ≤ p ∧ d ≤ p) ↔ (a + 2 ≤ p ∧ b + 2 ≤ p) ∨ (c ≤ p ∧ d ≤ p) := by omega

theorem ite_iff_imp (c : Bool) (p q : Prop) : (if c then p else q) ↔ (c = true → p) ∧ (c = false → q) := by
  cases c <;> simp

/-- the guard in words -/
theorem passes_iff (ccx far : Bool) (e n : JEdge) (pt : Pt) :
    passes ccx far e n pt = true ↔
      e.hot = true ∧ n.hot = true ∧ e.isOpen = false ∧ n.isOpen = false ∧ e.top.y ≠ e.bot.y ∧ n.top.y ≠ n.bot.y ∧
        ((e.top.y + 2 ≤ pt.y ∧ n.top.y + 2 ≤ pt.y) ∨ (e.bot.y ≤ pt.y ∧ n.bot.y ≤ pt.y)) ∧
        (if ccx then far = false else e.currX = n.currX) ∧ cross e.top pt n.top = 0 := by
  simp only [passes, JEdge.horizontal, Bool.and_eq_true, Bool.not_eq_true', Bool.or_eq_false_iff, Bool.and_eq_false_imp,
    Bool.or_eq_true, decide_eq_true_eq, decide_eq_false_iff_not, Bool.not_eq_false', Int.not_lt, ne_eq, Decidable.not_not,
    nontrivial_iff, ite_iff_imp]
  -- the same conjuncts with `IsOpen` before `IsHorizontal`
  exact ⟨fun ⟨⟨⟨⟨⟨⟨⟨⟨⟨a, b⟩, c⟩, d⟩, e⟩, f⟩, g⟩, h⟩, h'⟩, i⟩ => ⟨a, b, e, f, c, d, g, ⟨h, h'⟩, i⟩,
    fun ⟨a, b, e, f, c, d, g, ⟨h, h'⟩, i⟩ => ⟨⟨⟨⟨⟨⟨⟨⟨⟨a, b⟩, c⟩, d⟩, e⟩, f⟩, g⟩, h⟩, h'⟩, i⟩⟩

theorem mirrorJoin_mirrorJoin (j : JoinWith) : mirrorJoin (mirrorJoin j) = j := by cases j <;> rfl

end Clipper.Lemmas.Bridges

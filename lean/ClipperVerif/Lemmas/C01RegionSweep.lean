/-
For `Props/C01Region.lean`: the derived events of one scanbeam are accepted by the bookkeeping model and
keep it in step with the scanbeam model; local maxima are adjacent; the AEL of the scanbeam model is COMPLETE (contains every
input edge that crosses the scanbeam).  Core Lean only.
-/
import ClipperVerif.Lemmas.C01Region
namespace Clipper.Lemmas.C01Region
open Clipper Clipper.Model Clipper.Model.AelOrder Clipper.Model.SweepOrder Clipper.Model.SweepEvents
open Clipper.Lemmas.SweepOrder Clipper.Lemmas.AelOrder

theorem tracks_length {lab : Lab} {l : Ael} {ael : List SEdge} (h : Tracks lab l ael) : l.length = ael.length := by
  have := congrArg List.length h
  simpa using this

theorem minEvents_tracks (cfg : Cfg) (valid : SEdge → SEdge → Bool) (lab : Lab) (ael : List SEdge) (p : SEdge × SEdge) (l : Ael)
    (ht : Tracks lab l ael) (hm : (lab p.2).1 = (lab p.1).1 ∧ (lab p.2).2 = -(lab p.1).2)
    (hd : (lab p.1).2 = 1 ∨ (lab p.1).2 = -1) :
    ∃ l', Model.run cfg l (minEvents valid lab ael p) = some l' ∧ Tracks lab l' (insertBound valid ael p) := by
  unfold minEvents insertBound
  cases hpos : insertLeftPos valid (fun _ => false) ael p.1 with
  | none =>
    refine ⟨l, rfl, ?_⟩
    rw [(insertLeft_of_none valid (fun _ => false) ael p.1 hpos).1]
    exact ht
  | some i =>
    obtain ⟨hshape, hi⟩ := insertLeft_of_pos valid (fun _ => false) ael p.1 i hpos
    have hlen := tracks_length ht
    obtain ⟨l1, e1, k1⟩ := insertPair_tracks cfg i (lab p.1).1 (lab p.1).2 l (by omega) hd
    simp only
    -- the list after InsertLeftEdge
    generalize hL1 : insertLeft valid (fun _ => false) ael p.1 = L1 at hshape ⊢
    have hlen' : (ael.take i ++ [p.1]).length = i + 1 := by simp [List.length_take, Nat.min_eq_left hi]
    have hs2 : L1 = (ael.take i ++ [p.1]) ++ ael.drop i := by rw [hshape]; simp
    have htake : L1.take (i + 1) = ael.take i ++ [p.1] := by rw [hs2, List.take_left' hlen']
    have hdrop : L1.drop (i + 1) = ael.drop i := by rw [hs2, List.drop_left' hlen']
    have hk1 : l1.map key = (L1.take (i + 1) ++ p.2 :: L1.drop (i + 1)).map (labKey lab) := by
      rw [k1, ht, htake, hdrop]
      simp [labKey, hm.1, hm.2, List.map_take, List.map_drop]
    have hsw := bubble_swaps valid p.2 (L1.drop (i + 1)) (L1.take (i + 1)) (i + 1) (by
      rw [htake]; simp [List.length_take, Nat.min_eq_left hi])
    have hsw' := congrArg (Option.map (List.map (labKey lab))) hsw
    rw [← applySwaps_map, ← hk1] at hsw'
    obtain ⟨l2, e2, k2⟩ := run_intersects cfg _ l1 _ hsw'
    refine ⟨l2, ?_, ?_⟩
    · simp only [Model.run, step, e1]
      rw [← e2, List.map_map]
      rfl
    · unfold Tracks
      rw [k2]
      simp [insertRight]

theorem insEvents_tracks (cfg : Cfg) (valid : SEdge → SEdge → Bool) (lab : Lab) : ∀ (ms : List (SEdge × SEdge)) (ael : List SEdge)
    (l : Ael), Tracks lab l ael →
    (∀ p ∈ ms, ((lab p.2).1 = (lab p.1).1 ∧ (lab p.2).2 = -(lab p.1).2) ∧ ((lab p.1).2 = 1 ∨ (lab p.1).2 = -1)) →
    ∃ l', Model.run cfg l (insEvents valid lab ael ms) = some l' ∧ Tracks lab l' (insertMins valid ael ms) := by
  intro ms
  induction ms with
  | nil => intro ael l ht _; exact ⟨l, rfl, ht⟩
  | cons p ms ih =>
    intro ael l ht hm
    obtain ⟨l1, e1, t1⟩ := minEvents_tracks cfg valid lab ael p l ht (hm p (by simp)).1 (hm p (by simp)).2
    obtain ⟨l2, e2, t2⟩ := ih (insertBound valid ael p) l1 t1 (fun q hq => hm q (by simp [hq]))
    refine ⟨l2, ?_, ?_⟩
    · simp only [insEvents, run_append, e1, Option.bind_some, e2]
    · simpa [insertMins] using t2

theorem sortEvents_tracks (cfg : Cfg) (lab : Lab) (le : SEdge → SEdge → Bool) (ael : List SEdge) (l : Ael)
    (ht : Tracks lab l ael) :
    ∃ l', Model.run cfg l ((sortSwaps le 0 ael).map .intersect) = some l' ∧ Tracks lab l' (stableSort le ael) := by
  have h := sortSwaps_spec le ael [] 0 rfl
  simp only [List.nil_append] at h
  have h' := congrArg (Option.map (List.map (labKey lab))) h
  rw [← applySwaps_map, ← ht] at h'
  exact run_intersects cfg _ l _ h'

/-- "every local maximum is followed by its partner", which ends in the same point, belongs to the same path and runs the other
way (the flag carries the maximum that waits for its partner) -/
def MaxAdjAux (next : SEdge → Option SEdge) (y1 : Int) (lab : Lab) : Option SEdge → List SEdge → Prop
  | none, [] => True
  | some _, [] => False
  | some a, e :: rest =>
    isMax next y1 e = true ∧ e.top = a.top ∧ (lab e).1 = (lab a).1 ∧ (lab e).2 = -(lab a).2 ∧ MaxAdjAux next y1 lab none rest
  | none, e :: rest => if isMax next y1 e = true then MaxAdjAux next y1 lab (some e) rest else MaxAdjAux next y1 lab none rest

theorem isMax_iff {next : SEdge → Option SEdge} {y1 : Int} {e : SEdge} :
    isMax next y1 e = true ↔ e.top.y = y1 ∧ next e = none := by
  simp [isMax]

theorem topStep_of_isMax {next : SEdge → Option SEdge} {y1 : Int} {e : SEdge} (h : isMax next y1 e = true) :
    topStep next y1 e = none := by
  obtain ⟨h1, h2⟩ := isMax_iff.1 h
  simp [topStep, h1, h2]

theorem topStep_of_not_isMax {next : SEdge → Option SEdge} {y1 : Int} {e : SEdge} (h : ¬ isMax next y1 e = true) :
    ∃ e', topStep next y1 e = some e' ∧ (e' = e ∨ next e = some e') := by
  simp only [isMax, Bool.and_eq_true, beq_iff_eq, Option.isNone_iff_eq_none, not_and] at h
  unfold topStep
  by_cases ht : e.top.y = y1
  · simp only [ht, if_true]
    cases hn : next e with
    | none => exact absurd hn (h ht)
    | some e' => exact ⟨e', rfl, Or.inr rfl⟩
  · simp only [ht, if_false]
    exact ⟨e, rfl, Or.inl rfl⟩

theorem topEvents_tracks (cfg : Cfg) (next : SEdge → Option SEdge) (y1 : Int) (lab : Lab) :
    ∀ (rest out : List SEdge) (l : Ael) (k : Nat), out.length = k → (∀ e ∈ rest, ∀ e', next e = some e' → lab e' = lab e) →
    (Tracks lab l (out ++ rest) → MaxAdjAux next y1 lab none rest →
      ∃ l', Model.run cfg l (topEventsAux next y1 false k rest) = some l' ∧
        Tracks lab l' (out ++ rest.filterMap (topStep next y1))) ∧
    (∀ a, Tracks lab l (out ++ a :: rest) → MaxAdjAux next y1 lab (some a) rest →
      ∃ l', Model.run cfg l (.removePair k :: topEventsAux next y1 true k rest) = some l' ∧
        Tracks lab l' (out ++ rest.filterMap (topStep next y1))) := by
  intro rest
  induction rest with
  | nil =>
    intro out l k _ _
    refine ⟨fun ht _ => ⟨l, rfl, by simpa using ht⟩, fun a _ hm => ?_⟩
    simp [MaxAdjAux] at hm
  | cons e rest ih =>
    intro out l k hk hnl
    have hnl' : ∀ x ∈ rest, ∀ e', next x = some e' → lab e' = lab x := fun x hx => hnl x (by simp [hx])
    constructor
    · intro ht hm
      by_cases he : isMax next y1 e = true
      · simp only [MaxAdjAux, he, if_true] at hm
        obtain ⟨l', e1, t1⟩ := (ih out l k hk hnl').2 e ht hm
        refine ⟨l', by simp only [topEventsAux, he, if_true]; exact e1, ?_⟩
        simpa [List.filterMap_cons, topStep_of_isMax he] using t1
      · simp only [MaxAdjAux, he] at hm
        obtain ⟨e', s1, s2⟩ := topStep_of_not_isMax he
        have hlab : lab e' = lab e := by
          rcases s2 with rfl | h
          · rfl
          · exact hnl e (by simp) e' h
        have ht' : Tracks lab l ((out ++ [e']) ++ rest) := by
          unfold Tracks at ht ⊢
          rw [ht]
          simp [labKey, hlab]
        obtain ⟨l', e1, t1⟩ := (ih (out ++ [e']) l (k + 1) (by simp [hk]) hnl').1 ht' hm
        refine ⟨l', by simp only [topEventsAux, he]; exact e1, ?_⟩
        simpa [List.filterMap_cons, s1] using t1
    · intro a ht hm
      simp only [MaxAdjAux] at hm
      obtain ⟨he, _, hp1, hp2, hm'⟩ := hm
      have hkeys : l.map key = out.map (labKey lab) ++ ((lab a).1, false, (lab a).2) :: ((lab a).1, false, -(lab a).2) ::
          rest.map (labKey lab) := by
        rw [ht]
        simp [labKey, hp1, hp2]
      obtain ⟨l1, r1, k1⟩ := removePair_tracks k l _ _ _ _ _ hkeys (by simp [hk])
      have ht1 : Tracks lab l1 (out ++ rest) := by unfold Tracks; rw [k1]; simp
      obtain ⟨l', e1, t1⟩ := (ih out l1 k hk hnl').1 ht1 hm'
      refine ⟨l', by simp only [Model.run, step, r1, topEventsAux]; exact e1, ?_⟩
      simpa [List.filterMap_cons, topStep_of_isMax he] using t1

/-- three edges in the order just below `y1`, the outer two through one point of the scanline: so is the middle one -/
theorem xeq_middle {y : Int} {a c b : SEdge} (ua : a.Up) (uc : c.Up) (ub : b.Up) (hab : xeq y a b)
    (h1 : ltBelow y a c) (h2 : ltBelow y c b) : xeq y a c := by
  have pa := exD_pos ua; have pc := exD_pos uc; have pb := exD_pos ub
  rcases h1 with h1 | ⟨h1, _⟩
  · exfalso
    have : xlt y a b := by
      rcases h2 with h2 | ⟨h2, _⟩
      · exact xlt_trans ua uc ub h1 h2
      · exact flt_le_trans pa pc pb h1 (Int.le_of_eq h2)
    exact Int.ne_of_lt this hab
  · exact h1

/-- **In an AEL sorted just below `y1` that contains every edge ending in the point of a local maximum, every local maximum is
directly followed by its partner** (general position at `y1`; exactly two edges end in one maximum: `MaxOK`). -/
theorem maxAdj_of_sorted (edges : List SEdge) (next : SEdge → Option SEdge) (lab : Lab) (y1 : Int)
    (hup : AllUp edges) (hgt : GPtop edges next y1) (hmx : MaxOK edges next lab y1) :
    ∀ (n : Nat) (l : List SEdge), l.length ≤ n → l.Pairwise (ltBelow y1) → (∀ e ∈ l, e ∈ edges ∧ AliveBelow y1 e) →
      (∀ a ∈ l, isMax next y1 a = true → ∀ b ∈ edges, AliveBelow y1 b → b.top = a.top → b ∈ l) →
      MaxAdjAux next y1 lab none l := by
  intro n
  induction n with
  | zero =>
    intro l hl _ _ _
    cases List.length_eq_zero_iff.1 (Nat.le_zero.1 hl); trivial
  | succ n ih =>
    intro l hl hs hmem hcl
    cases l with
    | nil => trivial
    | cons e rest =>
      have hnd : (e :: rest).Nodup := nodup_of_pairwise_irrefl (ltBelow_irrefl y1) hs
      obtain ⟨hee, hea⟩ := hmem e List.mem_cons_self
      rw [List.pairwise_cons] at hs
      by_cases he : isMax next y1 e = true
      · -- the partner is the next edge
        simp only [MaxAdjAux, he, if_true]
        obtain ⟨hty, hnx⟩ := isMax_iff.1 he
        obtain ⟨b0, hb0e, hb0ne, hb0a, hb0t, hb0n, hl1, hl2, huniq⟩ := hmx e hee hea hty hnx
        have hb0r : b0 ∈ rest := (List.mem_cons.1 (hcl e List.mem_cons_self he b0 hb0e hb0a hb0t)).resolve_left hb0ne
        cases rest with
        | nil => cases hb0r
        | cons e2 rest' =>
          obtain ⟨he2e, he2a⟩ := hmem e2 (List.mem_cons_of_mem _ List.mem_cons_self)
          have hs2 := hs.2
          rw [List.pairwise_cons] at hs2
          have he2 : e2 = b0 := by
            rcases List.mem_cons.1 hb0r with h | h
            · exact h.symm
            · -- e < e2 < b0 and e, b0 through one point: e2 passes through it too
              have hxe : xeq y1 e b0 := xeq_of_same_top hb0t.symm hty
              have hx2 := xeq_middle (hup e hee) (hup e2 he2e) (hup b0 hb0e) hxe (hs.1 e2 List.mem_cons_self) (hs2.1 b0 h)
              have hne : e ≠ e2 := fun h' => (List.nodup_cons.1 hnd).1 (h' ▸ List.mem_cons_self)
              rcases hgt e hee e2 he2e hne hea he2a with hf | ⟨htop, _, _, _⟩
              · exact absurd hx2 (not_xeq_of_far (hup e hee) (hup e2 he2e) hf)
              · rcases huniq e2 he2e he2a htop.symm with h' | h'
                · exact absurd h'.symm hne
                · exact h'
          subst he2
          refine ⟨isMax_iff.2 ⟨by rw [hb0t]; exact hty, hb0n⟩, hb0t, hl1, hl2, ?_⟩
          refine ih rest' (Nat.le_of_succ_le (Nat.le_of_succ_le_succ hl)) hs2.2
            (fun x hx => hmem x (List.mem_cons_of_mem _ (List.mem_cons_of_mem _ hx))) ?_
          intro a ha hma b hbe hba hbt
          have hal : a ∈ e :: e2 :: rest' := List.mem_cons_of_mem _ (List.mem_cons_of_mem _ ha)
          have hbl := hcl a hal hma b hbe hba hbt
          have haa := (hmem a hal).2
          have hae := (hmem a hal).1
          -- b is neither e nor its partner: else a would end in the maximum of e too
          have hcontra : ∀ (c : SEdge), (c = e ∨ c = e2) → b = c → False := by
            intro c hc hbc
            have hat : a.top = e.top := by
              rcases hc with rfl | rfl
              · rw [← hbt, hbc]
              · rw [← hbt, hbc, hb0t]
            rcases huniq a hae haa hat with h' | h'
            · exact (List.nodup_cons.1 hnd).1 (h' ▸ List.mem_cons_of_mem e2 ha)
            · exact (List.nodup_cons.1 (List.nodup_cons.1 hnd).2).1 (h' ▸ ha)
          rcases List.mem_cons.1 hbl with h | h
          · exact absurd h (fun h => hcontra e (Or.inl rfl) h)
          · rcases List.mem_cons.1 h with h | h
            · exact absurd h (fun h => hcontra e2 (Or.inr rfl) h)
            · exact h
      · simp only [MaxAdjAux, he]
        refine ih rest (Nat.le_of_succ_le_succ hl) hs.2 (fun x hx => hmem x (List.mem_cons_of_mem _ hx)) ?_
        intro a ha hma b hbe hba hbt
        have hal : a ∈ e :: rest := List.mem_cons_of_mem _ ha
        have hbl := hcl a hal hma b hbe hba hbt
        rcases List.mem_cons.1 hbl with h | h
        · -- then e ends in the maximum of a: it is a or a's partner, hence a maximum itself
          exfalso
          subst h
          obtain ⟨hty, hnx⟩ := isMax_iff.1 hma
          obtain ⟨b0, _, _, _, hb0t, hb0n, _, _, huniq⟩ := hmx a (hmem a hal).1 (hmem a hal).2 hty hnx
          rcases huniq b hee hea hbt with h' | h'
          · subst h'; exact (List.nodup_cons.1 hnd).1 ha
          · subst h'; exact he (isMax_iff.2 ⟨by rw [hb0t]; exact hty, hb0n⟩)
        · exact h

/-- the AEL entering the scanline `y` contains every input edge that continues above `y`, except the bounds of the local minima
of `y` (they are inserted next) -/
def CompleteAt (edges : List SEdge) (mins : Int → List (SEdge × SEdge)) (y : Int) (ael : List SEdge) : Prop :=
  ∀ e ∈ edges, AliveAbove y e → (e.bot.y = y → e ∉ boundsOf (mins y)) → e ∈ ael

theorem completeAt_start (edges : List SEdge) (next : SEdge → Option SEdge) (mins : Int → List (SEdge × SEdge)) (y : Int)
    (hup : AllUp edges) (hnx : NextOK edges next mins) (hst : Starts edges next mins) (htop : ∀ e ∈ edges, e.bot.y ≤ y) :
    CompleteAt edges mins y [] := by
  intro e he ha hnb
  exfalso
  have hby : e.bot.y = y := Int.le_antisymm (htop e he) ha.2
  rcases hst e he with h | ⟨e', he', hn⟩
  · rw [hby] at h; exact hnb hby h
  · -- `e` would continue an edge that starts below the first scanline
    obtain ⟨_, hb, _⟩ := hnx e' he' e hn
    exact Int.lt_irrefl _ (Int.lt_of_lt_of_le (hby ▸ hb ▸ hup e' he') (htop e' he'))

/-- one scanbeam keeps the AEL complete -/
theorem completeAt_step (edges : List SEdge) (valid : Int → SEdge → SEdge → Bool) (cx : SEdge → Int → Int)
    (next : SEdge → Option SEdge) (mins : Int → List (SEdge × SEdge)) (ael : List SEdge) (y0 y1 : Int)
    (hup : AllUp edges) (hnx : NextOK edges next mins) (hst : Starts edges next mins)
    (hnb : NoBotInside edges y0 y1) (hy : y1 < y0)
    (hins : ∀ e, e ∈ (beamStep valid cx next mins ael y0 y1).inserted ↔ e ∈ ael ∨ e ∈ boundsOf (mins y0))
    (hc : CompleteAt edges mins y0 ael) :
    (∀ e ∈ edges, AliveAbove y0 e → e ∈ (beamStep valid cx next mins ael y0 y1).inserted) ∧
    CompleteAt edges mins y1 (beamStep valid cx next mins ael y0 y1).afterTop := by
  have hI : ∀ e ∈ edges, AliveAbove y0 e → e ∈ (beamStep valid cx next mins ael y0 y1).inserted := by
    intro e he ha
    rw [hins]
    by_cases hb : e.bot.y = y0 ∧ e ∈ boundsOf (mins y0)
    · exact Or.inr hb.2
    · exact Or.inl (hc e he ha (fun h1 h2 => hb ⟨h1, h2⟩))
  refine ⟨hI, ?_⟩
  have hX : ∀ e ∈ edges, AliveAbove y0 e → e ∈ (beamStep valid cx next mins ael y0 y1).afterIsect := by
    intro e he ha
    exact (doIntersections_perm cx y1 _).mem_iff.2 (hI e he ha)
  intro e he ha hnm
  show e ∈ topOfBeam next y1 _
  unfold topOfBeam
  rw [List.mem_filterMap]
  by_cases hb : e.bot.y = y1
  · -- continues a bound
    rcases hst e he with h | ⟨e', he', hn⟩
    · rw [hb] at h; exact absurd h (hnm hb)
    · obtain ⟨_, hbt, _⟩ := hnx e' he' e hn
      have hty : e'.top.y = y1 := hbt ▸ hb
      -- `e'` ends on `y1 < y0` and does not start inside the scanbeam: it starts at or below `y0`
      have ha' : AliveAbove y0 e' :=
        ⟨hty ▸ hy, Int.not_lt.1 (fun h => hnb e' he' ⟨hty ▸ hup e' he', h⟩)⟩
      exact ⟨e', hX e' he' ha', by rw [topStep, if_pos hty]; exact hn⟩
  · have hbl : y1 < e.bot.y := Int.lt_iff_le_and_ne.2 ⟨ha.2, Ne.symm hb⟩
    exact ⟨e, hX e he ⟨Int.lt_trans ha.1 hy, Int.not_lt.1 (fun h => hnb e he ⟨hbl, h⟩)⟩,
      by rw [topStep, if_neg (Int.ne_of_lt ha.1)]⟩

end Clipper.Lemmas.C01Region

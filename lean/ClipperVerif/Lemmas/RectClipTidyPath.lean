/-
The two loops of `GetPath` on well-formed heaps: what the collinear-removal loop leaves, whatever the fuel, and what the loop that
copies the points returns.
Core Lean only.
-/
import ClipperVerif.Lemmas.RectClipTidyCheck
namespace Clipper.Lemmas.RCT
open Clipper Clipper.Model.RC Clipper.Model.RCT

/-- one iteration of the collinear pass of `GetPath` -/
theorem getPathLoop_succ (fuel : Nat) (h : Heap) (op op2 : Nat) :
    getPathLoop (fuel + 1) h op op2 =
      if op2 ≠ op then
        if h.collinearAt op2 then
          if h.next op2 = op2 then .ok (h, none) else getPathLoop fuel (h.unlink op2) (h.prev op2) (h.next op2)
        else getPathLoop fuel h op (h.next op2)
      else .ok (h, some op2) := by
  rw [getPathLoop, unlinkOp_spec]
  by_cases hs : h.next op2 = op2
  · rw [if_pos hs, if_pos hs]
  · rw [if_neg hs, if_neg hs]

/-- **The collinear pass of `GetPath`** (`while (op2 && op2 != op)`), any fuel; `results_[i]` is the reference parameter `op` -/
theorem getPathLoop_wf (i : Nat) : ∀ (fuel : Nat) (h : Heap) (op op2 : Nat) (ring : Nat → List Nat),
    RingsWF (withSlot h i (some op)) ring → i < h.results.length → op2 ∈ ring i →
    ∀ h1 r, getPathLoop fuel h op op2 = .ok (h1, r) → CollFrame h h1 ∧
      ∃ o L, r = some o ∧ L.Sublist (ring i) ∧ o ∈ L ∧ RingsWF (withSlot h1 i (some o)) (upd ring i L)
  | 0, h, op, op2, ring, _, _, _ => fun _ _ e => by simp [getPathLoop] at e
  | fuel + 1, h, op, op2, ring, w, hi, h2 => by
    have hop : op ∈ ring i := w.slot_some i op (withSlot_get h i _ hi)
    rw [getPathLoop_succ]
    by_cases hne : op2 ≠ op
    · rw [if_pos hne]
      by_cases hcoll : h.collinearAt op2 = true
      · -- collinear: op = op2->prev; op2 = UnlinkOp(op2)
        rw [if_pos hcoll]
        have hself : h.next op2 ≠ op2 := fun e =>
          hne (cyc_self_loop (w.cyc i (List.ne_nil_of_mem h2)) (w.nodup i) h2 e op hop).symm
        rw [if_neg hself]
        have hpm := w.prev_mem h2
        have hslot : (withSlot h i (some (h.prev op2))).results[i]? ≠ some (some op2) := by
          rw [withSlot_get h i _ hi]
          intro e
          have : h.next (h.prev op2) = op2 := hpm.2
          rw [Option.some.inj (Option.some.inj e)] at this
          exact hself this
        obtain ⟨w1, mp, mn⟩ := unlink_wf (withSlot_move w hi hpm.1) h2 hself hslot
        have ih := getPathLoop_wf i fuel (h.unlink op2) (h.prev op2) (h.next op2) _ w1 hi (by rw [upd_same]; exact mn)
        intro h1 r e
        obtain ⟨fr, o, L, er, hL, hm, wL⟩ := ih h1 r e
        simp only [upd_same, upd_upd] at hL wL
        exact ⟨(collFrame_unlink h op2).trans fr, o, L, er, hL.trans List.erase_sublist, hm, wL⟩
      · rw [if_neg hcoll]
        exact getPathLoop_wf i fuel h op (h.next op2) ring w hi (w.next_mem h2).1
    · rw [if_neg hne]
      intro h1 r e
      cases e
      exact ⟨CollFrame.refl _, op2, ring i, rfl, List.Sublist.refl _, h2, by rw [upd_self_eq, Classical.not_not.mp hne]; exact w⟩

/-- `while (op2 != op) { result.emplace_back(op2->pt); op2 = op2->next; }` along a linked list that ends in `op` -/
theorem collectLoop_spec (h : Heap) (o : Nat) : ∀ (W : List Nat) (fuel : Nat) (op2 : Nat),
    o ∉ W → Linked h.next h.prev (W ++ [o]) → op2 = (W ++ [o]).headD o → W.length < fuel →
    collectLoop h o fuel op2 = .ok (W.map h.pt)
  | [], fuel, op2, _, _, ho, hf => by
    cases fuel with
    | zero => omega
    | succ f =>
      simp only [List.nil_append, List.headD_cons] at ho
      subst ho
      simp [collectLoop]
  | y :: W, fuel, op2, hx, hl, ho, hf => by
    cases fuel with
    | zero => simp at hf
    | succ f =>
      simp only [List.cons_append, List.headD_cons] at ho
      subst ho
      have hne : op2 ≠ o := by
        intro e; exact hx (by simp [e])
      simp only [collectLoop, ne_eq, hne, not_false_eq_true, if_true]
      have hx' : o ∉ W := fun m => hx (List.mem_cons_of_mem _ m)
      have hl' : Linked h.next h.prev (W ++ [o]) := linked_tail hl
      rw [collectLoop_spec h o W f (h.next op2) hx' hl' (linked_head_next hl) (by simp at hf; omega)]
      simp

/-- in a duplicate-free cycle, `next x = prev x` only for cycles of one or two nodes -/
theorem cyc_next_eq_prev {nx pv : Nat → Nat} {c : List Nat} {x : Nat} (h : Cyc nx pv c) (hnd : c.Nodup) (hx : x ∈ c)
    (hs : nx x = pv x) : c.length ≤ 2 := by
  obtain ⟨W, hW, hp⟩ := cyc_rotate_first h hx
  have hndW : (x :: W).Nodup := hp.nodup_iff.mpr hnd
  rw [← hp.length_eq]
  cases W with
  | nil => simp
  | cons a W =>
    cases W with
    | nil => simp
    | cons b W =>
      exfalso
      have hl : Linked nx pv (x :: a :: b :: (W ++ [x])) := hW
      have e1 : nx x = a := hl.1
      -- prev x is the last element of a :: b :: W
      rcases List.eq_nil_or_concat (b :: W) with e | ⟨l, z, e⟩
      · cases e
      · have e' : b :: W = l ++ [z] := by simpa using e
        have : x :: a :: b :: (W ++ [x]) = (x :: a :: l) ++ z :: x :: [] := by
          have : b :: (W ++ [x]) = (l ++ [z]) ++ [x] := by rw [← e']; simp
          simp [this]
        rw [this] at hl
        have e2 := (linked_next hl).2
        have : a = z := by rw [← e1, hs, e2]
        have hz : z ∈ b :: W := by rw [e']; simp
        exact (List.nodup_cons.mp (List.nodup_cons.mp hndW).2).1 (this ▸ hz)

end Clipper.Lemmas.RCT

/-
C09 `lines_cover`: consequences of the per-segment description `Cover`.  Over whole runs: which vertices are added,
where new pieces start, how many pieces there are.  Segment by segment, for sign-exact arithmetic: a segment between
two vertices of class out contributes a two-point piece only if it meets the closed rectangle, and nothing only if it
does not enter the open rectangle; the second, unchecked `GetIntersection` call of a through-going segment succeeds
whenever the first one does.  With an *idealised* intersection-point routine (`IsectExactOn`: the point it returns
for a segment of the polyline lies on both lines) the crossing points lie on their segment and on the rectangle
boundary.  Core Lean only.
-/
import ClipperVerif.Lemmas.RectLinesCover
namespace Clipper.Lemmas.RLV
open Clipper Clipper.Model.RC Clipper.Lemmas.RC Clipper.Lemmas.RCE Clipper.Lemmas.RCA Clipper.Lemmas.RCC Clipper.Lemmas.RLC
open Clipper.Lemmas.RLG

def isVertex (e : Emit) : Bool := e.kind == .vertex

/-- the `Add(path[k])` calls for the vertices of class in, in order (vertices `k, k+1, …` = `l`, the class of the
vertex before them being `ip`) -/
def inVerts (r : Rect) : Nat → Bool → List Pt → List Emit
  | _, _, [] => []
  | k, ip, p :: ps => (if clsNext r ip p then [V k p] else []) ++ inVerts r (k + 1) (clsNext r ip p) ps

theorem segPart_vertices {A : Arith} {r : Rect} {k : Nat} {prv cur : Pt} {ip ic : Bool} {es : List Emit}
    (h : SegPart A r k prv cur ip ic es) : es.filter isVertex = if ic then [V k cur] else [] := by
  cases ip <;> cases ic
  · rcases h with ⟨rfl, _⟩ | ⟨loc, loc2, _, _, _, _, _, _, rfl⟩ <;> rfl
  · obtain ⟨_, rfl⟩ := h; rfl
  · obtain ⟨loc, _, _, rfl⟩ := h; rfl
  · cases h; rfl

/-- **The vertex calls of a run are exactly the vertices of class in, once each, in input order.** -/
theorem tail_vertices {A : Arith} {r : Rect} : ∀ (l : List Pt) (prv : Pt) (k : Nat) (ip : Bool) (es : List Emit),
    Tail A r k ip (prv :: l) es → es.filter isVertex = inVerts r k ip l
  | [], _, _, _, _, ht => by cases ht; rfl
  | cur :: rest, prv, k, ip, es, ht => by
    obtain ⟨e1, e2, rfl, h1, h2⟩ := ht
    rw [List.filter_append, segPart_vertices h1, tail_vertices rest cur (k + 1) _ e2 h2]
    rfl

theorem cover_vertices {A : Arith} {r : Rect} {p0 : Pt} {rest : List Pt} {es : List Emit}
    (h : Cover A r (p0 :: rest) es) :
    es.filter isVertex = (if cls0 r (p0 :: rest) then [V 0 p0] else []) ++ inVerts r 1 (cls0 r (p0 :: rest)) rest := by
  obtain ⟨e2, rfl, ht⟩ := h
  rw [List.filter_append, tail_vertices rest p0 1 _ e2 ht]
  congr 1
  split <;> rfl

/-- the calls a segment contributes carry its index, and a `start_new` among them means that its first vertex is of
class out; a segment from a vertex of class out contributes nothing or starts with a `start_new` -/
theorem segPart_startNew {A : Arith} {r : Rect} {k : Nat} {prv cur : Pt} {ip ic : Bool} {es : List Emit}
    (h : SegPart A r k prv cur ip ic es) :
    (∀ e ∈ es, e.k = k ∧ (e.startNew = true → ip = false)) ∧
      (ip = false → es = [] ∨ ∃ e rest, es = e :: rest ∧ e.startNew = true) := by
  cases ip <;> cases ic
  · rcases h with ⟨rfl, _⟩ | ⟨loc, loc2, _, _, _, _, _, _, rfl⟩
    · exact ⟨fun _ h => (nomatch h), fun _ => Or.inl rfl⟩
    · exact ⟨by simp, fun _ => Or.inr ⟨_, _, rfl, rfl⟩⟩
  · obtain ⟨_, rfl⟩ := h
    exact ⟨by simp [V], fun _ => Or.inr ⟨_, _, rfl, rfl⟩⟩
  · obtain ⟨loc, _, _, rfl⟩ := h
    exact ⟨by simp, fun h => nomatch h⟩
  · cases h
    exact ⟨by simp [V], fun h => nomatch h⟩

theorem tail_head_new {A : Arith} {r : Rect} : ∀ (l : List Pt) (k : Nat) (es : List Emit),
    Tail A r k false l es → es = [] ∨ ∃ e rest, es = e :: rest ∧ e.startNew = true
  | [], _, _, ht => Or.inl ht
  | [_], _, _, ht => Or.inl ht
  | prv :: cur :: rest, k, es, ht => by
    obtain ⟨e1, e2, rfl, h1, h2⟩ := ht
    rcases (segPart_startNew h1).2 rfl with rfl | ⟨e, tl, rfl, he⟩
    · -- nothing contributed: the second vertex is of class out as well
      have hc : clsNext r false cur = false := by
        cases hc : clsNext r false cur
        · rfl
        · rw [hc] at h1; exact nomatch h1.2
      rw [hc] at h2
      exact tail_head_new (cur :: rest) (k + 1) e2 h2
    · exact Or.inr ⟨e, tl ++ e2, rfl, he⟩

/-- **Number of rings built by `Add`**: one for a first vertex of class in, plus one for every `start_new` call. -/
theorem rings_count {A : Arith} {r : Rect} {path : Path} {es : List Emit} (h : Cover A r path es) :
    (addAll (es.map (fun e => (e.pt, e.startNew)))).length =
      (if cls0 r path then 1 else 0) + (es.filter (·.startNew)).length := by
  match path, h with
  | [], h => cases h; rfl
  | p0 :: rest, ⟨e2, he, ht⟩ =>
    subst he
    cases hc : cls0 r (p0 :: rest)
    · rw [hc] at ht
      rcases tail_head_new _ _ _ ht with rfl | ⟨e, rest', rfl, he⟩
      · rfl
      · simp only [Bool.false_eq_true, if_false, List.nil_append, Nat.zero_add]
        rw [addAll_length, List.filter_cons, he]
        simp; omega
    · simp only [if_true, List.singleton_append]
      rw [addAll_length]
      simp [V]

/-- every `start_new` call belongs to a segment whose first vertex is of class out -/
theorem tail_startNew {A : Arith} {r : Rect} : ∀ (l : List Pt) (k : Nat) (ip : Bool) (es : List Emit),
    Tail A r k ip l es → ∀ e ∈ es, e.startNew = true →
      ∃ t prv, l[t]? = some prv ∧ e.k = k + t ∧ (ip :: classesFrom r ip l.tail)[t]? = some false
  | [], _, _, _, ht => by cases ht; exact fun _ h => nomatch h
  | [_], _, _, _, ht => by cases ht; exact fun _ h => nomatch h
  | prv :: cur :: rest, k, ip, es, ht => by
    obtain ⟨e1, e2, rfl, h1, h2⟩ := ht
    intro e he hs
    rcases List.mem_append.mp he with he | he
    · obtain ⟨hk, hip⟩ := (segPart_startNew h1).1 e he
      exact ⟨0, prv, rfl, hk, by rw [hip hs]; rfl⟩
    · obtain ⟨t, q, hq, hk, hc⟩ := tail_startNew (cur :: rest) (k + 1) _ e2 h2 e he hs
      exact ⟨t + 1, q, hq, by omega, hc⟩

theorem classesFrom_getElem {r : Rect} : ∀ (l : List Pt) (ip : Bool) (t : Nat) (c : Bool) (p : Pt),
    (classesFrom r ip l)[t]? = some c → l[t]? = some p → ∃ ip', c = clsNext r ip' p
  | [], _, _, _, _, h, _ => nomatch h
  | q :: qs, ip, 0, c, p, h, hp => by cases h; cases hp; exact ⟨ip, rfl⟩
  | q :: qs, ip, t + 1, c, p, h, hp => classesFrom_getElem qs _ t c p h hp

/-- a vertex of class out is not strictly inside; if it is not on the boundary either, it is outside the closed
rectangle -/
theorem class_false {r : Rect} {path : Path} {t : Nat} {p : Pt} (hc : (classes r path)[t]? = some false)
    (hp : path[t]? = some p) : sInB r p = false ∧ (onBd r p = false → inRect r p = false) := by
  have hs : sInB r p = false := by
    match path, t, hc, hp with
    | p0 :: rest, 0, hc, hp =>
      cases hp
      exact (Bool.or_eq_false_iff.mp (Option.some.inj hc)).1
    | p0 :: rest, t + 1, hc, hp =>
      obtain ⟨ip', h⟩ := classesFrom_getElem rest _ t false p hc hp
      exact (Bool.or_eq_false_iff.mp h.symm).1
  refine ⟨hs, fun hb => ?_⟩
  have hnb : ¬ OnBoundary r p := fun hbd => by rw [(onBd_iff r p).mpr hbd] at hb; cases hb
  cases hi : inRect r p
  · rfl
  · have hns : ¬ SI r p := fun h => by rw [(sInB_iff r p).mpr h] at hs; cases hs
    rw [inRect_iff] at hi
    unfold SI at hns
    unfold OnBoundary at hnb
    omega

/-- the `Add` calls grouped as `Add` groups the points: a new group at every `start_new` (and for the first call);
most recent group first, most recent call first -/
def addE : List (List Emit) → Emit → List (List Emit)
  | [], e => [[e]]
  | cur :: rest, e => if e.startNew then [e] :: cur :: rest else (e :: cur) :: rest

/-- append a point to a ring unless it equals the ring's last point -/
def pushRing (cur : List Pt) (pt : Pt) : List Pt :=
  match cur with
  | [] => [pt]
  | last :: _ => if last = pt then cur else pt :: cur

/-- the ring (most recent point first) built from the points of one group (most recent first): consecutive duplicates
removed -/
def ringR : List Pt → List Pt
  | [] => []
  | p :: older => pushRing (ringR older) p

theorem add_eq_addE (gs : List (List Emit)) (e : Emit) :
    add (gs.map (fun g => ringR (g.map (·.pt)))) e.pt e.startNew =
      (addE gs e).map (fun g => ringR (g.map (·.pt))) := by
  cases gs with
  | nil => simp [add, addE, ringR, pushRing]
  | cons cur rest =>
    cases hb : e.startNew
    · simp only [List.map_cons, addE, hb, Bool.false_eq_true, if_false, ringR]
      generalize ringR (cur.map (·.pt)) = rc
      cases rc with
      | nil => simp [add, pushRing]
      | cons last tl => simp only [add, Bool.false_eq_true, if_false, pushRing]; split <;> rfl
    · simp [add, addE, hb, ringR, pushRing]

/-- **The rings `Add` builds are the groups of calls between `start_new`s, with consecutive duplicates removed.** -/
theorem addAll_eq_groups (es : List Emit) :
    addAll (es.map (fun e => (e.pt, e.startNew))) = (es.foldl addE []).map (fun g => ringR (g.map (·.pt))) := by
  unfold addAll
  have key : ∀ (es : List Emit) (gs : List (List Emit)),
      (es.map (fun e => (e.pt, e.startNew))).foldl (fun rs e => add rs e.1 e.2) (gs.map (fun g => ringR (g.map (·.pt)))) =
        (es.foldl addE gs).map (fun g => ringR (g.map (·.pt))) := by
    intro es
    induction es with
    | nil => intro gs; rfl
    | cons e es ih =>
      intro gs
      simp only [List.map_cons, List.foldl_cons]
      rw [add_eq_addE, ih]
  simpa using key es []

/-- The closed segment does not enter the open rectangle, for one of two reasons: both end points lie in one closed
outer half-plane, or the segment misses even the closed rectangle. -/
def Outside2 (r : Rect) (prv cur : Pt) : Prop :=
  (∃ loc, loc ≠ .inside ∧ Ready r loc prv ∧ Ready r loc cur) ∨ ¬ Meets r prv cur

/-- **A segment between two vertices of class out, geometrically** (sign-exact arithmetic): it contributes nothing
and does not enter the open rectangle, or it meets the closed rectangle and contributes two crossing points, both
`GetIntersection` calls having succeeded (the flag of the first point is `true`). -/
theorem segPart_out_out {A : Arith} (hA : SignExact A) (ht : IsectTotal A) {r : Rect} (hw : r.left < r.right)
    (hh : r.top < r.bottom) {k : Nat} {prv cur : Pt} {es : List Emit} (h : SegPart A r k prv cur false false es) :
    (es = [] ∧ Outside2 r prv cur) ∨
    (Meets r prv cur ∧ ∃ loc loc2, loc ≠ .inside ∧ Ready r loc cur ∧ loc2 ≠ .inside ∧ Ready r loc2 prv ∧
      (getIntersection A r cur prv loc ⟨0, 0⟩).1 = true ∧ (getIntersection A r prv cur loc2 ⟨0, 0⟩).1 = true ∧
      es = [⟨k, (getIntersection A r prv cur loc2 ⟨0, 0⟩).2.2, true, .thru1 true⟩,
            ⟨k, (getIntersection A r cur prv loc ⟨0, 0⟩).2.2, false, .thru2⟩]) := by
  rcases h with ⟨rfl, h | ⟨loc, hl, hr, hnf⟩⟩ | ⟨loc, loc2, hl, hr, hf, hl2, hr2, hnr2, rfl⟩
  · exact Or.inl ⟨rfl, Or.inl h⟩
  · by_cases hon : OnSideLine r loc cur ∧ OnSideLine r loc prv
    · exact Or.inl ⟨rfl, Or.inl ⟨loc, hl, onSideLine_ready hon.2, hr⟩⟩
    · refine Or.inl ⟨rfl, Or.inr fun hm => ?_⟩
      have := (getIntersection_outside_iff hA ht hw hh hr hl hon ⟨0, 0⟩).mpr (meets_symm.mp hm)
      rw [hnf] at this; cases this
  · have hm : Meets r prv cur := meets_symm.mp (getIntersection_true_meets hA ht hw hh cur prv loc ⟨0, 0⟩ hf)
    have h2 := through_found hA ht hw hh hl2 hr2 hnr2 hf ⟨0, 0⟩
    exact Or.inr ⟨hm, loc, loc2, hl, hr, hl2, hr2, hf, h2, by rw [h2]⟩

theorem segPart_no_lost {A : Arith} (hA : SignExact A) (ht : IsectTotal A) {r : Rect} (hw : r.left < r.right)
    (hh : r.top < r.bottom) (k : Nat) (prv cur : Pt) (ip ic : Bool) (es : List Emit)
    (h : SegPart A r k prv cur ip ic es) : ∀ e ∈ es, e.kind ≠ .thru1 false := by
  cases ip <;> cases ic
  · rcases segPart_out_out hA ht hw hh h with ⟨rfl, _⟩ | ⟨_, loc, loc2, _, _, _, _, _, _, rfl⟩ <;> simp
  · obtain ⟨_, rfl⟩ := h; simp [V]
  · obtain ⟨loc, _, _, rfl⟩ := h; simp
  · cases h; simp [V]

/-- the idealisation hypothesis for every segment of a polyline, in both directions -/
def IsectExactOn (A : Arith) (r : Rect) (path : Path) : Prop :=
  ∀ t prv cur, path[t]? = some prv → path[t + 1]? = some cur → IsectExact A r cur prv ∧ IsectExact A r prv cur

theorem segPart_points {A : Arith} (hA : SignExact A) (ht : IsectTotal A) {r : Rect} (hw : r.left < r.right)
    (hh : r.top < r.bottom) {k : Nat} {prv cur : Pt} {ip ic : Bool} {es : List Emit}
    (hex1 : IsectExact A r cur prv) (hex2 : IsectExact A r prv cur) (h : SegPart A r k prv cur ip ic es) :
    ∀ e ∈ es, e.kind ≠ .vertex → OnSeg prv cur e.pt ∧ OnBoundary r e.pt := by
  -- all crossings but the first of a through-going segment are computed from `cur`
  have back : ∀ loc, (getIntersection A r cur prv loc ⟨0, 0⟩).1 = true →
      OnSeg prv cur (getIntersection A r cur prv loc ⟨0, 0⟩).2.2 ∧
        OnBoundary r (getIntersection A r cur prv loc ⟨0, 0⟩).2.2 := fun loc hf =>
    have t := getIntersection_onBoundary hA hw hh hex1 loc ⟨0, 0⟩ hf
    ⟨onSeg_symm t.1, t.2⟩
  cases ip <;> cases ic
  · rcases segPart_out_out hA ht hw hh h with ⟨rfl, _⟩ | ⟨_, loc, loc2, _, _, _, _, hf, hf2, rfl⟩
    · exact fun _ h => nomatch h
    · exact List.forall_mem_cons.mpr ⟨fun _ => getIntersection_onBoundary hA hw hh hex2 loc2 ⟨0, 0⟩ hf2,
        List.forall_mem_cons.mpr ⟨fun _ => back loc hf, fun _ h => nomatch h⟩⟩
  · obtain ⟨hf, rfl⟩ := h
    exact List.forall_mem_cons.mpr ⟨fun _ => back .inside hf,
      List.forall_mem_cons.mpr ⟨fun hk => absurd rfl hk, fun _ h => nomatch h⟩⟩
  · obtain ⟨loc, _, hf, rfl⟩ := h
    exact List.forall_mem_cons.mpr ⟨fun _ => back loc hf, fun _ h => nomatch h⟩
  · cases h
    exact List.forall_mem_cons.mpr ⟨fun hk => absurd rfl hk, fun _ h => nomatch h⟩

theorem strB_iff (a b c d : Pt) : strB a b c d = true ↔ Str a b c d := by
  unfold strB Str
  simp only [Bool.and_eq_true, decide_eq_true_eq, bne_iff_ne, ne_eq, decide_eq_decide]
  constructor
  · rintro ⟨⟨h1, h2⟩, h3⟩; exact ⟨h1, h2, by omega⟩
  · rintro ⟨h1, h2, h3⟩; exact ⟨⟨h1, h2⟩, by omega⟩

theorem isectOkB_sound {A : Arith} {p1 p2 a b : Pt} (h : isectOkB A p1 p2 a b = true) :
    Str p1 p2 a b → Str a b p1 p2 → IsectOnLines A p1 p2 a b := by
  intro h1 h2 q hq
  unfold isectOkB at h
  rw [if_pos (by simp [(strB_iff _ _ _ _).mpr h1, (strB_iff _ _ _ _).mpr h2]), hq] at h
  simpa using h

theorem zip_tail_getElem {path : Path} {t : Nat} {prv cur : Pt} (h1 : path[t]? = some prv)
    (h2 : path[t + 1]? = some cur) : (prv, cur) ∈ path.zip path.tail :=
  List.mem_of_getElem? (i := t) (List.getElem?_zip_eq_some.mpr ⟨h1, by rw [List.getElem?_tail]; exact h2⟩)

theorem isectExactOnB_sound {A : Arith} {r : Rect} {path : Path} (h : isectExactOnB A r path = true) :
    IsectExactOn A r path := by
  intro t prv cur h1 h2
  have hs := List.all_eq_true.mp (List.all_eq_true.mp h (prv, cur) (zip_tail_getElem h1 h2))
  have hm : ∀ p3 p4, IsEdge r p3 p4 → isectOkB A cur prv p3 p4 = true ∧ isectOkB A prv cur p3 p4 = true := by
    intro p3 p4 he
    have : (p3, p4) ∈ rectEdges r := by
      unfold rectEdges
      rcases he with ⟨rfl, rfl⟩ | ⟨rfl, rfl⟩ | ⟨rfl, rfl⟩ | ⟨rfl, rfl⟩ <;> simp
    simpa using hs _ this
  exact ⟨fun p3 p4 he => isectOkB_sound (hm p3 p4 he).1, fun p3 p4 he => isectOkB_sound (hm p3 p4 he).2⟩

end Clipper.Lemmas.RLV

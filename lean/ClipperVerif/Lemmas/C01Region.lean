/-
For `Props/C01Region.lean` (composition of the AEL bookkeeping model with the scanbeam model): adjacent transpositions, insertion
sort and the settling loop of a right bound as transpositions, a downward closed predicate selects a prefix, and the bookkeeping
model followed on keys (path type, open flag, `wind_dx`) through `intersect`, `insertPair`, `removePair`.
Core Lean only.
-/
import ClipperVerif.Model.SweepEvents
import ClipperVerif.Lemmas.SweepOrder
import ClipperVerif.Lemmas.AelOrder
import ClipperVerif.Lemmas.Ael
namespace Clipper.Lemmas.C01Region
open Clipper Clipper.Model Clipper.Model.AelOrder Clipper.Model.SweepOrder Clipper.Model.SweepEvents
open Clipper.Lemmas.SweepOrder

section Swaps
variable {α β : Type}

theorem swapAt_append_left (pre : List α) (i : Nat) (l l' : List α) (h : swapAt i l = some l') :
    swapAt (pre.length + i) (pre ++ l) = some (pre ++ l') := by
  unfold swapAt at h ⊢
  have hd : (pre ++ l).drop (pre.length + i) = l.drop i := List.drop_length_add_append i
  have ht : (pre ++ l).take (pre.length + i) = pre ++ l.take i := List.take_length_add_append i
  rw [hd, ht]
  split at h
  next a b rest hh => simp only [Option.some.injEq] at h; subst h; simp
  next => cases h

theorem swapAt_len (pre : List α) (a b : α) (rest : List α) (k : Nat) (hk : pre.length = k) :
    swapAt k (pre ++ a :: b :: rest) = some (pre ++ b :: a :: rest) := by
  have := swapAt_append_left pre 0 (a :: b :: rest) (b :: a :: rest) rfl
  rw [← hk]; simpa using this

theorem applySwaps_cons (i : Nat) (is : List Nat) (l : List α) :
    applySwaps (i :: is) l = (swapAt i l).bind (applySwaps is) := rfl
theorem applySwaps_nil (l : List α) : applySwaps [] l = some l := rfl

theorem swapAt_map (f : α → β) (i : Nat) (l : List α) : swapAt i (l.map f) = (swapAt i l).map (List.map f) := by
  unfold swapAt
  rw [← List.map_drop, ← List.map_take]
  cases h : l.drop i with
  | nil => simp
  | cons a t =>
    cases t with
    | nil => simp
    | cons b rest => simp

theorem applySwaps_map (f : α → β) : ∀ (is : List Nat) (l : List α),
    applySwaps is (l.map f) = (applySwaps is l).map (List.map f) := by
  intro is
  induction is with
  | nil => intro l; rfl
  | cons i is ih =>
    intro l
    simp only [applySwaps, swapAt_map]
    cases swapAt i l with
    | none => rfl
    | some l' => simp [ih]

theorem applySwaps_append : ∀ (is js : List Nat) (l : List α),
    applySwaps (is ++ js) l = (applySwaps is l).bind (applySwaps js) := by
  intro is
  induction is with
  | nil => intro js l; rfl
  | cons i is ih =>
    intro js l
    simp only [List.cons_append, applySwaps]
    cases swapAt i l with
    | none => rfl
    | some l' => simp [ih]

theorem stableSort_cons (le : α → α → Bool) (a : α) (l : List α) :
    stableSort le (a :: l) = insertBefore le a (stableSort le l) := rfl

theorem insSwaps_spec (le : α → α → Bool) (a : α) : ∀ (l pre : List α) (k : Nat), pre.length = k →
    applySwaps (insSwaps le k a l) (pre ++ a :: l) = some (pre ++ insertBefore le a l) := by
  intro l
  induction l with
  | nil => intro pre k _; rfl
  | cons b l ih =>
    intro pre k hk
    by_cases hab : le a b = true
    · simp [insSwaps, insertBefore, hab, applySwaps]
    · have := ih (pre ++ [b]) (k + 1) (by simp [hk])
      simp only [List.append_assoc, List.singleton_append] at this
      simp only [insSwaps, insertBefore, hab, Bool.false_eq_true, if_false]
      rw [applySwaps_cons, swapAt_len pre a b l k hk, Option.bind_some, this]

theorem sortSwaps_spec (le : α → α → Bool) : ∀ (l pre : List α) (k : Nat), pre.length = k →
    applySwaps (sortSwaps le k l) (pre ++ l) = some (pre ++ stableSort le l) := by
  intro l
  induction l with
  | nil => intro pre k _; simp [sortSwaps, stableSort, applySwaps]
  | cons a l ih =>
    intro pre k hk
    simp only [sortSwaps, applySwaps_append]
    have h1 := ih (pre ++ [a]) (k + 1) (by simp [hk])
    simp only [List.append_assoc, List.singleton_append] at h1
    rw [h1]
    simp only [Option.bind_some]
    rw [insSwaps_spec le a _ pre k hk, stableSort_cons]

/-- walking left to right past `P`: the swaps at `i, i+1, …` move `x` behind `P` -/
theorem applySwaps_walk_l2r : ∀ (P pre : List α) (x : α) (Q : List α) (i : Nat), pre.length = i →
    applySwaps ((List.range P.length).map (i + ·)) (pre ++ x :: (P ++ Q)) = some (pre ++ P ++ x :: Q) := by
  intro P
  induction P with
  | nil => intro pre x Q i _; simp [applySwaps]
  | cons p P ih =>
    intro pre x Q i hi
    have hr : (List.range (p :: P).length).map (i + ·) = i :: (List.range P.length).map ((i + 1) + ·) := by
      simp only [List.length_cons, List.range_succ_eq_map, List.map_cons, List.map_map, Nat.add_zero]
      congr 1
      apply List.map_congr_left; intro a _; simp only [Function.comp]; omega
    rw [hr, applySwaps_cons]
    have h1 : swapAt i (pre ++ x :: (p :: P ++ Q)) = some (pre ++ p :: x :: (P ++ Q)) := by
      simpa using swapAt_len pre x p (P ++ Q) i hi
    rw [h1]
    simp only [Option.bind_some]
    have := ih (pre ++ [p]) x Q (i + 1) (by simp [hi])
    simpa using this

/-- walking right to left past `P` (nearest first): the swaps at `i-1, i-2, …` move `x` in front of `P` -/
theorem applySwaps_walk_r2l : ∀ (P A : List α) (x : α) (B : List α) (i : Nat), A.length + P.length = i →
    applySwaps ((List.range P.length).map (i - 1 - ·)) (A ++ P.reverse ++ x :: B) = some (A ++ x :: (P.reverse ++ B))
  | [], A, x, B, _, _ => by rw [List.reverse_nil, List.append_nil]; rfl
  | p :: P, A, x, B, i, hi => by
    subst hi
    have hr : (List.range (p :: P).length).map (A.length + (p :: P).length - 1 - ·) =
        (A.length + P.length) :: (List.range P.length).map (A.length + P.length - 1 - ·) := by
      rw [List.length_cons, List.range_succ_eq_map, List.map_cons, List.map_map]
      rw [Nat.sub_zero, ← Nat.add_assoc, Nat.add_sub_cancel]
      exact congrArg _ (List.map_congr_left (fun a _ => by simp only [Function.comp]; omega))
    have h1 : swapAt (A.length + P.length) (A ++ (p :: P).reverse ++ x :: B) = some (A ++ P.reverse ++ x :: p :: B) := by
      rw [List.reverse_cons, ← List.append_assoc, List.append_assoc _ [p]]
      exact swapAt_len (A ++ P.reverse) p x B _ (by rw [List.length_append, List.length_reverse])
    rw [hr, applySwaps_cons, h1, Option.bind_some, applySwaps_walk_r2l P A x (p :: B) _ rfl, List.reverse_cons,
      List.append_assoc P.reverse]
    rfl

/-- **the swaps of a walk**, in either direction, on the AEL `L.reverse ++ x :: R`: they move `x` past the edges `P` it passes -/
theorem applySwaps_walk (d : Bool) (L R P Q : List α) (x : α) (hpq : (if d then R else L) = P ++ Q) :
    applySwaps ((List.range P.length).map (fun j => if d then L.length + j else L.length - 1 - j)) (L.reverse ++ x :: R) =
      some (if d then L.reverse ++ P ++ x :: Q else Q.reverse ++ x :: (P.reverse ++ R)) := by
  cases d
  · have hL : L = P ++ Q := hpq
    subst hL
    have := applySwaps_walk_r2l P Q.reverse x R (P ++ Q).length (by rw [List.length_reverse, List.length_append, Nat.add_comm])
    rw [← List.reverse_append] at this
    exact this
  · have hR : R = P ++ Q := hpq
    subst hR
    exact applySwaps_walk_l2r P L.reverse x Q L.length List.length_reverse

/-- the settling loop of the right bound, as transpositions: it walks `rb` past the edges `bubble_shape` names -/
theorem bubble_swaps (valid : α → α → Bool) (rb : α) (rest pre : List α) (k : Nat) (hk : pre.length = k) :
    applySwaps ((List.range (bubbleCount valid rb rest)).map (fun j => k + j)) (pre ++ rb :: rest) =
      some (pre ++ bubble valid rb rest) := by
  obtain ⟨hsh, hle⟩ := Clipper.Lemmas.AelOrder.bubble_shape valid rb rest
  have := applySwaps_walk_l2r (rest.take (bubbleCount valid rb rest)) pre rb (rest.drop (bubbleCount valid rb rest)) k hk
  rwa [List.length_take_of_le hle, List.take_append_drop, List.append_assoc, ← hsh] at this

/-- a predicate that is downward closed along a list selects a prefix: it holds exactly in front of some position `k` -/
theorem closed_prefix (p : α → Bool) : ∀ (l : List α), l.Pairwise (fun a b => p b = true → p a = true) →
    ∃ k, k ≤ l.length ∧ l.filter p = l.take k ∧ ∀ (i : Nat) (hi : i < l.length), p l[i] = true ↔ i < k
  | [], _ => ⟨0, Nat.le_refl _, rfl, fun i hi => absurd hi (Nat.not_lt_zero _)⟩
  | a :: l, h => by
    have h' := List.pairwise_cons.1 h
    by_cases ha : p a = true
    · obtain ⟨k, hk, hf, hi⟩ := closed_prefix p l h'.2
      refine ⟨k + 1, Nat.succ_le_succ hk, by rw [List.filter_cons_of_pos ha, hf]; rfl, fun i hi' => ?_⟩
      cases i with
      | zero => exact ⟨fun _ => Nat.succ_pos _, fun _ => ha⟩
      | succ i => exact (hi i (Nat.lt_of_succ_lt_succ hi')).trans Nat.succ_lt_succ_iff.symm
    · have hnone : ∀ b ∈ l, ¬ p b = true := fun b hb hpb => ha (h'.1 b hb hpb)
      refine ⟨0, Nat.zero_le _, by rw [List.filter_cons_of_neg ha, List.filter_eq_nil_iff.2 hnone]; rfl,
        fun i hi' => ⟨fun hpi => ?_, fun h => absurd h (Nat.not_lt_zero _)⟩⟩
      cases i with
      | zero => exact absurd hpi ha
      | succ i => exact absurd hpi (hnone _ (List.getElem_mem _))

end Swaps

theorem run_append (cfg : Cfg) : ∀ (a b : List Op) (l : Ael),
    Model.run cfg l (a ++ b) = (Model.run cfg l a).bind (fun l' => Model.run cfg l' b) := by
  intro a
  induction a with
  | nil => intro b l; rfl
  | cons op a ih =>
    intro b l
    simp only [List.cons_append, Model.run]
    cases step cfg l op with
    | none => rfl
    | some l' => simp [ih]

theorem key_intersectPair (cfg : Cfg) (e1 e2 : Edge) :
    key (intersectPair cfg e1 e2).1 = key e1 ∧ key (intersectPair cfg e1 e2).2 = key e2 := by
  obtain ⟨f1, f2, f3, f4, f5, f6⟩ := intersectPair_fields cfg e1 e2
  simp [key, f1, f2, f3, f4, f5, f6]

/-- `IntersectEdges` + `SwapPositionsInAEL` is accepted exactly when the transposition fits, and transposes the keys -/
theorem intersect_tracks (cfg : Cfg) (i : Nat) (l : Ael) (ks : List (PathType × Bool × Int))
    (h : swapAt i (l.map key) = some ks) : ∃ l', intersect cfg i l = some l' ∧ l'.map key = ks := by
  rw [swapAt_map] at h
  unfold swapAt at h
  unfold intersect
  cases hd : l.drop i with
  | nil => simp [hd] at h
  | cons a t =>
    cases t with
    | nil => simp [hd] at h
    | cons b rest =>
      simp only [hd, Option.map_some, Option.some.injEq] at h
      refine ⟨_, rfl, ?_⟩
      rw [← h]
      obtain ⟨k1, k2⟩ := key_intersectPair cfg a b
      simp [k1, k2]

theorem run_intersects (cfg : Cfg) : ∀ (is : List Nat) (l : Ael) (ks : List (PathType × Bool × Int)),
    applySwaps is (l.map key) = some ks → ∃ l', Model.run cfg l (is.map .intersect) = some l' ∧ l'.map key = ks := by
  intro is
  induction is with
  | nil => intro l ks h; simp only [applySwaps, Option.some.injEq] at h; exact ⟨l, rfl, h⟩
  | cons i is ih =>
    intro l ks h
    simp only [applySwaps] at h
    cases hs : swapAt i (l.map key) with
    | none => simp [hs] at h
    | some ks1 =>
      rw [hs] at h
      simp only [Option.bind_some] at h
      obtain ⟨l1, e1, e2⟩ := intersect_tracks cfg i l ks1 hs
      obtain ⟨l2, e3, e4⟩ := ih l1 ks (by rw [e2]; exact h)
      exact ⟨l2, by simp only [List.map_cons, Model.run, step, e1]; exact e3, e4⟩

/-- the local-minimum insertion is accepted for a position inside the list and a direction `±1`; keys: the pair goes in at `pos` -/
theorem insertPair_tracks (cfg : Cfg) (pos : Nat) (pt : PathType) (dx : Int) (l : Ael)
    (hp : pos ≤ l.length) (hd : dx = 1 ∨ dx = -1) :
    ∃ l', insertPair cfg pos pt false dx l = some l' ∧
      l'.map key = (l.map key).take pos ++ (pt, false, dx) :: (pt, false, -dx) :: (l.map key).drop pos := by
  unfold insertPair
  rw [if_pos ⟨hp, hd⟩]
  refine ⟨_, rfl, ?_⟩
  obtain ⟨g1, g2, g3⟩ := newLeft_fields cfg (l.take pos) pt false dx
  simp [key, g1, g2, g3, List.map_take, List.map_drop]

/-- a maxima pair whose keys fit is removed -/
theorem removePair_tracks (i : Nat) (l : Ael) (pre post : List (PathType × Bool × Int)) (pt : PathType) (o : Bool) (dx : Int)
    (h : l.map key = pre ++ (pt, o, dx) :: (pt, o, -dx) :: post) (hi : pre.length = i) :
    ∃ l', removePair i l = some l' ∧ l'.map key = pre ++ post := by
  have hd : (l.map key).drop i = (pt, o, dx) :: (pt, o, -dx) :: post := by rw [h, ← hi]; simp
  have ht : (l.map key).take i = pre := by rw [h, ← hi]; simp
  rw [← List.map_drop] at hd
  rw [← List.map_take] at ht
  unfold removePair
  cases hl : l.drop i with
  | nil => simp [hl] at hd
  | cons a t =>
    cases t with
    | nil => simp [hl] at hd
    | cons b rest =>
      simp only [hl, List.map_cons, List.cons.injEq] at hd
      obtain ⟨ha, hb, hr⟩ := hd
      simp only [key, Prod.mk.injEq] at ha hb
      have hc : a.pt = b.pt ∧ a.isOpen = b.isOpen ∧ a.dx + b.dx = 0 := by
        refine ⟨by rw [ha.1, hb.1], by rw [ha.2.1, hb.2.1], ?_⟩
        rw [ha.2.2, hb.2.2]; omega
      simp only [hc, and_self, if_true]
      exact ⟨_, rfl, by simp [ht, hr]⟩

end Clipper.Lemmas.C01Region

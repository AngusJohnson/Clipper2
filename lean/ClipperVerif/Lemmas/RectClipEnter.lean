/- Geometric completeness of `GetIntersection` for a segment that leaves the rectangle from a point strictly inside it,
for sign-exact arithmetic (used by `Props.C08.entering_crossing_found_exact`), and an invariant of the main loop that
holds for every arithmetic (`inv_step`). Core Lean only. -/
import ClipperVerif.Lemmas.RectClipAuto
import ClipperVerif.Lemmas.RectLinesCore
namespace Clipper.Lemmas.RCC
open Clipper Clipper.Model.RC

/-- strictly inside the rectangle -/
def SI (r : Rect) (q : Pt) : Prop := r.left < q.x ∧ q.x < r.right ∧ r.top < q.y ∧ q.y < r.bottom

instance (r : Rect) (q : Pt) : Decidable (SI r q) := by unfold SI; exact inferInstance

end Clipper.Lemmas.RCC

namespace Clipper.Lemmas.RCE
open Clipper Clipper.Model.RC Clipper.Lemmas.RC Clipper.Lemmas.RCA Clipper.Lemmas.RCG Clipper.Lemmas.RLC Clipper.Lemmas.RCC

/-- not strictly inside the rectangle -/
def NSI (r : Rect) (q : Pt) : Prop := ¬ (r.left < q.x ∧ q.x < r.right ∧ r.top < q.y ∧ q.y < r.bottom)

/-- **Geometric completeness of `GetIntersection` from inside.**  For a sign-exact arithmetic, a point `cur` strictly
inside the rectangle and a point `prv` that is not strictly inside, `GetIntersection(cur, prv, Inside)` finds a crossing:
the segment meets one of the four edges (`inside_hits`), and from `Inside` all four are tried. -/
theorem getIntersection_from_inside {A : Arith} (hA : SignExact A) (ht : IsectTotal A) {r : Rect} {cur prv : Pt}
    (hin : SI r cur) (hout : NSI r prv) (ip : Pt) : (getIntersection A r cur prv .inside ip).1 = true := by
  unfold SI at hin; unfold NSI at hout
  have hw : r.left < r.right := by omega
  have hh : r.top < r.bottom := by omega
  rw [getIntersection_exact hA, getIntersection, tryArms_iff]
  rcases inside_hits (r.left - cur.x) (r.right - cur.x) (r.top - cur.y) (r.bottom - cur.y) (prv.x - cur.x)
    (prv.y - cur.y) (by omega) (by omega) (by omega) (by omega) (by omega) with h | h | h | h
  · exact ⟨⟨true, r.c0, r.c3, .left⟩, by simp [arms], rfl, (hit_left ht r hh cur prv).mpr h⟩
  · exact ⟨⟨true, r.c0, r.c1, .top⟩, by simp [arms], rfl, (hit_top ht r hw cur prv).mpr h⟩
  · exact ⟨⟨true, r.c1, r.c2, .right⟩, by simp [arms], rfl, (hit_right ht r hh cur prv).mpr h⟩
  · exact ⟨⟨true, r.c2, r.c3, .bottom⟩, by simp [arms], rfl, (hit_bottom ht r hw cur prv).mpr h⟩

theorem ready_nsi {r : Rect} {l : Location} {q : Pt} (h : Ready r l q) (hl : l ≠ .inside) : NSI r q := by
  unfold NSI
  cases l <;> simp only [Ready] at h <;> first | omega | exact absurd rfl hl

/-- invariant of the main loop: while the automaton is outside, the vertex before `path[i]` is not strictly inside the
rectangle — or `path[i]` itself is strictly outside (the state right after an exiting crossing) -/
def Inv (r : Rect) (path : Path) (c : Ctl) : Prop :=
  c.loc ≠ .inside →
    (∀ prv, prevPt path c.i = some prv → NSI r prv) ∨ (∀ q, path[c.i]? = some q → outsideLoc r q ≠ none)

theorem prevPt_succ (path : Path) (j : Nat) : prevPt path (j + 1) = path[j]? := by
  unfold prevPt; simp

theorem prevPt_pos (path : Path) (j : Nat) (h : 0 < j) : prevPt path j = path[j - 1]? := by
  unfold prevPt; rw [if_neg (by omega)]

theorem inv_step {A : Arith} {r : Rect} {path : Path} {c c' : Ctl} {es : List AEmit} {sl : List Location}
    (hinv : Inv r path c) (h : astep A r path c = .next es sl c') : Inv r path c' := by
  obtain ⟨cur, prv, hcur, hprv, _, _, _, _, _, hctl, _⟩ := astep_next h rfl
  have g := gnl_spec r path c.loc c.i
  intro hl'
  rcases hctl with ⟨_, hi', hloc'⟩ | ⟨_, _, _, hli⟩ | ⟨_, _, hc, _, hi', _⟩ | ⟨_, _, _, hi', _⟩
  · left
    intro q hq
    rw [hi', prevPt_succ, hcur] at hq
    cases hq
    exact ready_nsi (g.ready _ hcur) (by rw [← hloc']; exact hl')
  · exact absurd hli hl'
  all_goals
    by_cases hc : c.loc = .inside
    · right
      intro q hq
      rw [hi', hcur] at hq
      cases hq
      have := gnl_stop r path c.loc c.i cur hcur
      rwa [hc] at this
    · by_cases hlt : c.i < (getNextLocation r path c.loc c.i).2.1
      · left
        intro q hq
        rw [hi', prevPt_pos _ _ (by omega)] at hq
        exact ready_nsi (gnl_passed r path c.loc c.i _ q (by omega) (by omega) hq) hc
      · have hge := g.ge
        have heq : (getNextLocation r path c.loc c.i).2.1 = c.i := by omega
        rw [hi', heq]
        exact hinv hc

end Clipper.Lemmas.RCE

/-
Lemmas about the rose-tree layer of the PolyTree model (`addChild`, `toPaths`, `area2`, `at?`), and the list the flattened
tree is compared with: the paths of the outrecs that have a node (`placedPaths`, `PInv`).
-/
import ClipperVerif.Model.Owner
namespace Clipper.Model.Owner
open Clipper

theorem toPathsL_append (a b : List Tree) : toPathsL (a ++ b) = toPathsL a ++ toPathsL b := by
  induction a with
  | nil => rfl
  | cons t ts ih => simp only [List.cons_append, toPathsL, ih, List.append_assoc]

theorem toPathsL_single (t : Tree) : toPathsL [t] = t.toPaths := by simp [toPathsL]

theorem toPathsL_set {ks : List Tree} {k : Nat} {c c' : Tree} {q : Path}
    (hk : ks[k]? = some c) (hc : c'.toPaths.Perm (q :: c.toPaths)) :
    (toPathsL (ks.set k c')).Perm (q :: toPathsL ks) := by
  induction ks generalizing k with
  | nil => simp at hk
  | cons t ts ih =>
    cases k with
    | zero =>
      cases hk
      exact hc.append_right _
    | succ k => exact ((ih hk).append_left t.toPaths).trans List.perm_middle

theorem area2L_append (a b : List Tree) : area2L (a ++ b) = area2L a + area2L b := by
  induction a with
  | nil => simp [area2L]
  | cons t ts ih => simp only [List.cons_append, area2L, ih]; omega

theorem area2L_set {ks : List Tree} {k : Nat} {c c' : Tree} {d : Int}
    (hk : ks[k]? = some c) (hc : c'.area2 = c.area2 + d) :
    area2L (ks.set k c') = area2L ks + d := by
  induction ks generalizing k with
  | nil => simp at hk
  | cons t ts ih =>
    cases k with
    | zero => cases hk; simp only [List.set_cons_zero, area2L, hc]; omega
    | succ k => simp only [List.set_cons_succ, area2L, ih hk]; omega

/-- Induction along the address of a successful `AddChild`: the new leaf is appended to the children of the node at
the address, and every node on the way has the child it passes through replaced. -/
theorem addChild_induct {q : Path} {motive : Tree → List Nat → Tree → List Nat → Prop}
    (root : ∀ {p ks}, motive (.node p ks) [] (.node p (ks ++ [.node q []])) [ks.length])
    (child : ∀ {p ks k a c c' a'}, ks[k]? = some c → addChild c a q = some (c', a') → motive c a c' a' →
      motive (.node p ks) (k :: a) (.node p (ks.set k c')) (k :: a'))
    {t t' : Tree} {a a' : List Nat} (h : addChild t a q = some (t', a')) : motive t a t' a' := by
  induction a generalizing t t' a' with
  | nil =>
    cases t
    cases h
    exact root
  | cons k a ih =>
    cases t with
    | node p ks =>
      simp only [addChild] at h
      split at h
      · cases h
      · rename_i c hc
        split at h
        · cases h
        · rename_i c' a'' hca
          cases h
          exact child hc hca (ih hca)

theorem addChild_toPaths' {t t' : Tree} {a a' : List Nat} {q : Path}
    (h : addChild t a q = some (t', a')) : t'.toPaths.Perm (q :: t.toPaths) := by
  refine addChild_induct (motive := fun t _ t' _ => t'.toPaths.Perm (q :: t.toPaths)) (fun {p ks} => ?_)
    (fun {p _ _ _ _ _ _} hc _ ih => ?_) h
  · simp only [Tree.toPaths, toPathsL_append, toPathsL, List.append_nil]
    exact ((List.perm_append_singleton q _).cons p).trans (List.Perm.swap q p _)
  · exact ((toPathsL_set hc ih).cons p).trans (List.Perm.swap q p _)

theorem addChild_addr {t t' : Tree} {a a' : List Nat} {q : Path}
    (h : addChild t a q = some (t', a')) : ∃ k, a' = a ++ [k] :=
  addChild_induct (motive := fun _ a _ a' => ∃ k, a' = a ++ [k]) ⟨_, rfl⟩
    (fun _ _ ⟨k', e⟩ => ⟨k', congrArg (_ :: ·) e⟩) h

theorem addChild_parent_valid {t t' : Tree} {a a' : List Nat} {q : Path}
    (h : addChild t a q = some (t', a')) : ∃ n, t.at? a = some n :=
  addChild_induct (motive := fun t a _ _ => ∃ n, t.at? a = some n) ⟨_, rfl⟩
    (fun hc _ ⟨n, hn⟩ => ⟨n, by simp only [Tree.at?, hc, hn]⟩) h

theorem addChild_at_new {t t' : Tree} {a a' : List Nat} {q : Path}
    (h : addChild t a q = some (t', a')) : t'.at? a' = some (.node q []) := by
  refine addChild_induct (motive := fun _ _ t' a' => t'.at? a' = some (.node q [])) ?_ (fun hc _ ih => ?_) h
  · simp [Tree.at?]
  · simp only [Tree.at?, List.getElem?_set_self (List.getElem?_eq_some_iff.mp hc).1, ih]

theorem addChild_at_fresh {t t' : Tree} {a a' : List Nat} {q : Path}
    (h : addChild t a q = some (t', a')) : t.at? a' = none :=
  addChild_induct (motive := fun t _ _ a' => t.at? a' = none) (by simp [Tree.at?])
    (fun hc _ ih => by simp only [Tree.at?, hc, ih]) h

/-- replacing children by trees that keep all addresses and polygons keeps all addresses and polygons -/
theorem at?_node_mono {p : Path} {ks ks' : List Tree}
    (hk : ∀ (j : Nat) (d : Tree), ks[j]? = some d → ∃ d' : Tree, ks'[j]? = some d' ∧
      ∀ (b : List Nat) (n : Tree), d.at? b = some n → ∃ n' : Tree, d'.at? b = some n' ∧ n'.path = n.path)
    (b : List Nat) (n : Tree)
    (hb : (Tree.node p ks).at? b = some n) : ∃ n', (Tree.node p ks').at? b = some n' ∧ n'.path = n.path := by
  cases b with
  | nil => cases hb; exact ⟨_, rfl, rfl⟩
  | cons j b =>
    simp only [Tree.at?] at hb ⊢
    split at hb
    · cases hb
    · rename_i d hd
      obtain ⟨d', hd', hmono⟩ := hk j d hd
      rw [hd']
      exact hmono b n hb

theorem addChild_at_old {t t' : Tree} {a a' : List Nat} {q : Path}
    (h : addChild t a q = some (t', a')) {b : List Nat} {n : Tree} (hb : t.at? b = some n) :
    ∃ n', t'.at? b = some n' ∧ n'.path = n.path := by
  refine addChild_induct
    (motive := fun t _ t' _ => ∀ b n, t.at? b = some n → ∃ n', t'.at? b = some n' ∧ n'.path = n.path)
    (at?_node_mono fun j d hd => ?_) (fun {_ _ k _ _ c' _} hc _ ih => at?_node_mono fun j d hd => ?_) h b n hb
  · exact ⟨d, by rw [List.getElem?_append_left (List.getElem?_eq_some_iff.mp hd).1, hd], fun _ n hn => ⟨n, hn, rfl⟩⟩
  · by_cases hkj : k = j
    · subst hkj
      cases hc.symm.trans hd
      exact ⟨c', List.getElem?_set_self (List.getElem?_eq_some_iff.mp hc).1, ih⟩
    · exact ⟨d, by rw [List.getElem?_set_ne hkj, hd], fun _ n hn => ⟨n, hn, rfl⟩⟩

mutual
theorem tree_area2_eq : (t : Tree) → t.area2 = (t.toPaths.map shoelace2).sum
  | .node p ks => by
    simp only [Tree.area2, Tree.toPaths, List.map_cons, List.sum_cons, area2L_eq ks]
theorem area2L_eq : (ks : List Tree) → area2L ks = ((toPathsL ks).map shoelace2).sum
  | [] => by simp [area2L, toPathsL]
  | t :: ts => by
    simp only [area2L, toPathsL, List.map_append, List.sum_append, tree_area2_eq t, area2L_eq ts]
end

theorem shoelace2_nil : shoelace2 [] = 0 := by simp [shoelace2, edgesOf]

theorem Tree.at?_nil (t : Tree) : t.at? [] = some t := by cases t; rfl

theorem addChild_root_path {t t' : Tree} {a a' : List Nat} {q : Path}
    (h : addChild t a q = some (t', a')) : t'.path = t.path := by
  obtain ⟨n', hn', e⟩ := addChild_at_old h (Tree.at?_nil t)
  cases (Tree.at?_nil t').symm.trans hn'
  exact e

theorem addChild_polyTreeToPaths' {t t' : Tree} {a a' : List Nat} {q : Path}
    (h : addChild t a q = some (t', a')) : (polyTreeToPaths t').Perm (q :: polyTreeToPaths t) := by
  have h1 := addChild_toPaths' h
  have h2 := addChild_root_path h
  cases t with
  | node p ks =>
    cases t' with
    | node p' ks' =>
      cases h2
      exact (h1.trans (List.Perm.swap _ _ _)).cons_inv

theorem filterMap_range_congr {α : Type} (f f' : Nat → Option α) (n : Nat) (h : ∀ j, j < n → f' j = f j) :
    (List.range n).filterMap f' = (List.range n).filterMap f := by
  induction n with
  | zero => rfl
  | succ n ih =>
    rw [List.range_succ, List.filterMap_append, List.filterMap_append, ih (fun j hj => h j (by omega))]
    simp only [List.filterMap_cons, List.filterMap_nil, h n (by omega)]

theorem filterMap_range_update {α : Type} (f f' : Nat → Option α) (i : Nat) (q : α)
    (hi : f i = none) (hi' : f' i = some q) (hne : ∀ j, j ≠ i → f' j = f j) (n : Nat) (hin : i < n) :
    ((List.range n).filterMap f').Perm (q :: (List.range n).filterMap f) := by
  induction n with
  | zero => omega
  | succ n ih =>
    rw [List.range_succ, List.filterMap_append, List.filterMap_append]
    by_cases h : i < n
    · simp only [List.filterMap_cons, List.filterMap_nil, hne n (by omega)]
      exact (ih h).append_right _
    · obtain rfl : i = n := by omega
      rw [filterMap_range_congr f f' i (fun j hj => hne j (by omega))]
      simp only [List.filterMap_cons, List.filterMap_nil, hi, hi', List.append_nil]
      exact List.perm_append_singleton _ _

/-- the path of outrec `j` if it has a polypath -/
def placedPath (T : Table) (j : Nat) : Option Path :=
  match T[j]? with
  | none => none
  | some r => if r.polypath.isSome then some r.path else none

/-- the paths of the outrecs that own a tree node, in outrec order -/
def placedPaths (T : Table) : List Path := (List.range T.size).filterMap (placedPath T)

/-- the multiset invariant: the flattened tree holds exactly the paths of the placed outrecs -/
def PInv (S : St) : Prop := (polyTreeToPaths S.tree).Perm (placedPaths S.recs)

end Clipper.Model.Owner

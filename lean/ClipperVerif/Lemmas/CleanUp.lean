/-
Lemmas for the model of the clean-up of output rings (`Model/CleanUp.lean`, property C03): the removal test of
`CleanCollinear` is mirror symmetric and keeps no duplicate or spike; the invariant of its loop (every node visited since
the last removal survives the test); validity and the neighbour predicates of `Lemmas/Neighbours.lean` do not depend on
the node a ring is seen from; what `BuildPath64` returns.  Core Lean only.
-/
import ClipperVerif.Model.CleanUp
import ClipperVerif.Lemmas.PlaneVec
import ClipperVerif.Lemmas.Neighbours
namespace Clipper.Lemmas.CleanUp
open Clipper Clipper.Model.CleanUp

theorem rot_rotl (Φ : List Pt → Prop) (h1 : ∀ a rest, Φ (a :: rest) → Φ (rest ++ [a]))
    (l : List Pt) (k : Nat) (h : Φ l) : Φ (rotl l k) := by
  unfold rotl
  apply rot_swap Φ h1
  rw [List.take_append_drop]; exact h

theorem cycTriples_rotl (P : Pt → Pt → Pt → Prop) (l : List Pt) (k : Nat) (h : CycTriples P l) :
    CycTriples P (rotl l k) := rot_rotl _ (cycTriples_rot1 P) l k h

theorem cycPairs_rotl (Q : Pt → Pt → Prop) (l : List Pt) (k : Nat) (h : CycPairs Q l) :
    CycPairs Q (rotl l k) := rot_rotl _ (cycPairs_rot1 Q) l k h

theorem isCollinear_iff (a b c : Pt) :
    isCollinear a b c = true ↔ (b.x - a.x) * (c.y - b.y) = (b.y - a.y) * (c.x - b.x) := by
  simp [isCollinear, Gen.IsCollinear, Gen.ProductsAreEqual]

theorem cross_eq (a b c : Pt) :
    cross a b c = (b.x - a.x) * (c.y - b.y) - (b.y - a.y) * (c.x - b.x) := by
  unfold cross; grind

/-- the generated `IsCollinear` is the vanishing of the Spec-level cross product -/
theorem isCollinear_iff_cross (a b c : Pt) : isCollinear a b c = true ↔ cross a b c = 0 := by
  rw [isCollinear_iff, cross_eq]; omega

theorem isCollinear_false_iff_cross (a b c : Pt) : isCollinear a b c = false ↔ cross a b c ≠ 0 := by
  rw [Ne, ← isCollinear_iff_cross]; simp

theorem isCollinear_left (a c : Pt) : isCollinear a a c = true := by
  rw [isCollinear_iff]; simp
theorem isCollinear_right (a c : Pt) : isCollinear a c c = true := by
  rw [isCollinear_iff]; simp

theorem isCollinear_symm (a b c : Pt) : isCollinear c b a = isCollinear a b c := by
  rw [Bool.eq_iff_iff, isCollinear_iff, isCollinear_iff]
  constructor <;> intro h <;> grind

theorem dot_symm (a b c : Pt) : dot c b a = dot a b c := by
  unfold dot; grind

theorem removable_symm (pc : Bool) (a b c : Pt) : removable pc c b a = removable pc a b c := by
  unfold removable
  rw [isCollinear_symm, dot_symm]
  cases isCollinear a b c <;> cases (b == a) <;> cases (b == c) <;> simp

theorem removable_false_ne {pc : Bool} {a b c : Pt} (h : removable pc a b c = false) :
    b ≠ a ∧ b ≠ c := by
  constructor
  · intro e; subst e
    simp [removable, isCollinear_left] at h
  · intro e; subst e
    simp [removable, isCollinear_right] at h

theorem removable_false_pcFalse {a b c : Pt} (h : removable false a b c = false) :
    isCollinear a b c = false := by
  simpa [removable] using h

theorem dot_ne_zero_of_collinear {a b c : Pt} (hc : isCollinear a b c = true) (h1 : b ≠ a) (h2 : b ≠ c) :
    dot a b c ≠ 0 := by
  rw [isCollinear_iff] at hc
  intro hd
  rcases PlaneVec.zero_of_cross_dot_zero (Int.sub_eq_zero.mpr hc) hd with h | h
  · exact h1 (PlaneVec.pt_eq_of_sub_eq_zero h.1 h.2)
  · exact h2 (PlaneVec.pt_eq_of_sub_eq_zero h.1 h.2).symm

/-- with `preserveCollinear`, a surviving collinear node is not a spike: the dot product is positive -/
theorem removable_false_pcTrue {a b c : Pt} (h : removable true a b c = false)
    (hc : isCollinear a b c = true) : dot a b c > 0 := by
  have hne := removable_false_ne h
  have hd := dot_ne_zero_of_collinear hc hne.1 hne.2
  have : ¬ dot a b c < 0 := by
    intro hlt
    simp [removable, hc, hlt] at h
  omega

/-- `op2->prev->pt` in the loop state `(done, todo)` with `todo = cur :: _` -/
def prevOf (done todo : List Pt) (cur : Pt) : Pt :=
  match done with
  | p :: _ => p
  | [] => todo.getLastD cur

/-- `op2->next->pt` in the loop state `(done, cur :: rest)` -/
def nextOf (done rest : List Pt) (cur : Pt) : Pt :=
  match rest with
  | q :: _ => q
  | [] => done.getLastD cur

/-- the position of `outrec->pts` in the ring `rest ++ done.reverse` after `cur` has been removed -/
def ptsAfter (done rest : List Pt) (pts : Nat) : Nat :=
  let d := done.length
  let n := d + (rest.length + 1)
  let pts1 := if pts = d then (if d > 0 then d - 1 else n - 1) else pts
  if pts1 > d then pts1 - d - 1 else pts1 + rest.length

theorem cleanLoop_nil (pc : Bool) (fuel : Nat) (done : List Pt) (pts : Nat) :
    cleanLoop pc (fuel + 1) done [] pts = some (some (rotl done.reverse pts)) := rfl

theorem cleanLoop_cons (pc : Bool) (fuel : Nat) (done : List Pt) (cur : Pt) (rest : List Pt) (pts : Nat) :
    cleanLoop pc (fuel + 1) done (cur :: rest) pts =
      if removable pc (prevOf done (cur :: rest) cur) cur (nextOf done rest cur) = true then
        if (!isValidClosedPath (rest ++ done.reverse)) = true then some none
        else cleanLoop pc fuel [] (rest ++ done.reverse) (ptsAfter done rest pts)
      else cleanLoop pc fuel (cur :: done) rest pts := rfl

theorem ptsReallyClose_iff (a b : Pt) :
    ptsReallyClose a b = true ↔ (-2 < a.x - b.x ∧ a.x - b.x < 2) ∧ (-2 < a.y - b.y ∧ a.y - b.y < 2) := by
  have iabs_lt : ∀ x : Int, Gen.iabs x < 2 ↔ (-2 < x ∧ x < 2) := by
    intro x; unfold Gen.iabs; split <;> omega
  simp only [ptsReallyClose, Gen.PtsReallyClose, Bool.and_eq_true, decide_eq_true_eq, iabs_lt]

theorem ptsReallyClose_symm (a b : Pt) : ptsReallyClose a b = ptsReallyClose b a := by
  rw [Bool.eq_iff_iff, ptsReallyClose_iff, ptsReallyClose_iff]; omega

theorem isValid_length {r : List Pt} (h : isValidClosedPath r = true) : r.length ≥ 3 := by
  match r, h with
  | _ :: _ :: _ :: _, _ => simp

theorem isValid_of_length4 {r : List Pt} (h : r.length ≥ 4) : isValidClosedPath r = true := by
  match r, h with
  | _ :: _ :: _ :: _ :: _, _ => simp [isValidClosedPath, isVerySmallTriangle]

theorem isVST_rot3 (a b c : Pt) : isVerySmallTriangle [b, c, a] = isVerySmallTriangle [a, b, c] := by
  simp only [isVerySmallTriangle]
  rw [ptsReallyClose_symm a c, ptsReallyClose_symm b c, ptsReallyClose_symm b a]
  cases ptsReallyClose c a <;> cases ptsReallyClose c b <;> cases ptsReallyClose a b <;> rfl

theorem isValid_rot1 (a : Pt) (rest : List Pt) :
    isValidClosedPath (a :: rest) = true → isValidClosedPath (rest ++ [a]) = true := by
  intro h
  have h3 := isValid_length h
  match rest, h, h3 with
  | [b, c], h, _ =>
    simp only [isValidClosedPath, List.cons_append, List.nil_append] at h ⊢
    rw [isVST_rot3]; exact h
  | b :: c :: d :: rest', _, _ => exact isValid_of_length4 (by simp)

theorem isValid_rotl (l : List Pt) (k : Nat) (h : isValidClosedPath l = true) :
    isValidClosedPath (rotl l k) = true :=
  rot_rotl (fun l => isValidClosedPath l = true) isValid_rot1 l k h

theorem rotl_perm (l : List Pt) (k : Nat) : (rotl l k).Perm l := by
  unfold rotl
  have h := List.perm_append_comm (l₁ := l.drop (k % l.length)) (l₂ := l.take (k % l.length))
  rw [List.take_append_drop] at h; exact h

theorem mem_rotl (l : List Pt) (k : Nat) (x : Pt) : x ∈ rotl l k ↔ x ∈ l := (rotl_perm l k).mem_iff

/-- the node survives the removal test of `CleanCollinear` -/
def Kept (pc : Bool) (a b c : Pt) : Prop := removable pc a b c = false

instance (pc : Bool) (a b c : Pt) : Decidable (Kept pc a b c) := by unfold Kept; infer_instance

theorem kept_symm {pc : Bool} {a b c : Pt} (h : Kept pc a b c) : Kept pc c b a := by
  unfold Kept at *; rw [removable_symm]; exact h

/-- every node visited since the last restart (`done`, most recent first) survives the removal test with
respect to its neighbours in the ring `done.reverse ++ todo`; read on the reversed ring
`next :: done ++ [last]`. -/
def Inv (pc : Bool) (done todo : List Pt) : Prop :=
  ∀ nx lst, (todo ++ done.reverse).head? = some nx → (done.reverse ++ todo).getLast? = some lst →
    LinTriples (Kept pc) (nx :: done ++ [lst])

theorem nextOf_spec (done rest : List Pt) (cur : Pt) :
    (rest ++ (cur :: done).reverse).head? = some (nextOf done rest cur) := by
  cases rest with
  | cons q _ => simp [nextOf]
  | nil =>
    simp only [List.nil_append, List.head?_reverse, nextOf]
    cases done with
    | nil => simp
    | cons d ds =>
      rw [List.getLastD_eq_getLast?, List.getLast?_eq_some_getLast (List.cons_ne_nil cur (d :: ds)),
        List.getLast?_eq_some_getLast (List.cons_ne_nil d ds)]
      simp

theorem prevOf_spec (done rest : List Pt) (cur lst : Pt)
    (h : (done.reverse ++ cur :: rest).getLast? = some lst) :
    (done ++ [lst]).head? = some (prevOf done (cur :: rest) cur) := by
  cases done with
  | cons d ds => simp [prevOf]
  | nil =>
    simp only [List.reverse_nil, List.nil_append] at h
    simp [prevOf, List.getLastD_eq_getLast?, h]

theorem inv_nil (pc : Bool) (todo : List Pt) : Inv pc [] todo := by
  intro nx lst _ _; simp [LinTriples]

theorem inv_advance (pc : Bool) (done rest : List Pt) (cur : Pt) (hinv : Inv pc done (cur :: rest))
    (hk : removable pc (prevOf done (cur :: rest) cur) cur (nextOf done rest cur) = false) :
    Inv pc (cur :: done) rest := by
  intro nx lst h1 h2
  have e : (cur :: done).reverse ++ rest = done.reverse ++ cur :: rest := by simp
  rw [e] at h2
  have I := hinv cur lst (by simp) h2
  have hn := nextOf_spec done rest cur
  rw [h1] at hn
  have hnx : nx = nextOf done rest cur := by simpa using hn
  have hp := prevOf_spec done rest cur lst h2
  subst hnx
  have hk' : Kept pc (nextOf done rest cur) cur (prevOf done (cur :: rest) cur) := kept_symm hk
  cases done with
  | nil =>
    simp only [List.nil_append, List.head?_cons, Option.some.injEq] at hp
    simp only [List.cons_append, List.nil_append, LinTriples, and_true]
    rw [hp]; exact hk'
  | cons d ds =>
    simp only [List.cons_append, List.head?_cons, Option.some.injEq] at hp
    simp only [List.cons_append, LinTriples] at I ⊢
    rw [hp]; exact ⟨hk', I⟩

theorem inv_final (pc : Bool) (done : List Pt) (hne : done ≠ []) (hinv : Inv pc done []) :
    CycTriples (Kept pc) done.reverse := by
  rw [cycTriples_reverse]
  apply cycTriples_mono (P := Kept pc) (fun a b c h => kept_symm h)
  cases done with
  | nil => exact absurd rfl hne
  | cons d ds =>
    have := hinv ((d :: ds).getLast (List.cons_ne_nil _ _)) d
      (by rw [List.nil_append, List.head?_reverse, List.getLast?_eq_some_getLast (List.cons_ne_nil d ds)])
      (by simp)
    exact this

/-- The ring the loop leaves is a valid closed path all of whose nodes survive the removal test, and its nodes are,
up to the position of `outrec->pts`, some of the nodes of the ring it started from. -/
theorem cleanLoop_inv (pc : Bool) : ∀ (fuel : Nat) (done todo : List Pt) (pts : Nat) (r : Ring),
    isValidClosedPath (done.reverse ++ todo) = true → Inv pc done todo →
    cleanLoop pc fuel done todo pts = some (some r) →
    isValidClosedPath r = true ∧ CycTriples (Kept pc) r ∧ ∃ l : List Pt, l.Perm r ∧ l.Sublist (done.reverse ++ todo) := by
  intro fuel
  induction fuel with
  | zero => intro done todo pts r _ _ h; cases h
  | succ fuel ih =>
    intro done todo pts r hv hinv h
    cases todo with
    | nil =>
      cases h
      rw [List.append_nil] at hv ⊢
      have hne : done ≠ [] := fun e => by rw [e] at hv; cases hv
      exact ⟨isValid_rotl _ _ hv, cycTriples_rotl _ _ _ (inv_final pc done hne hinv),
        _, (rotl_perm _ _).symm, List.Sublist.refl _⟩
    | cons cur rest =>
      rw [cleanLoop_cons] at h
      split at h
      · split at h
        · cases h
        · rename_i hv'
          obtain ⟨h1, h2, l, hp, hs⟩ := ih [] (rest ++ done.reverse) _ r (by simpa using hv') (inv_nil pc _) h
          -- the ring without `cur`, seen from the node after it
          obtain ⟨l', hp', hs'⟩ := List.exists_perm_sublist hs (List.perm_append_comm (l₁ := rest) (l₂ := done.reverse))
          exact ⟨h1, h2, l', hp'.trans hp, hs'.trans ((List.sublist_cons_self cur rest).append_left _)⟩
      · rename_i hk
        have e : (cur :: done).reverse ++ rest = done.reverse ++ cur :: rest := by simp
        exact e ▸ ih (cur :: done) rest pts r (e ▸ hv)
          (inv_advance pc done rest cur hinv (by simpa using hk)) h

theorem pushDedup_sublist : ∀ (ss : List Pt) (s : Pt), (pushDedup s ss).Sublist ss := by
  intro ss
  induction ss with
  | nil => intro s; exact List.Sublist.slnil
  | cons p ps ih =>
    intro s
    simp only [pushDedup]
    split
    · exact (ih p).cons_cons p
    · exact (ih s).cons p

theorem linPairs_pushDedup : ∀ (ss : List Pt) (s : Pt), LinPairs (fun a b => a ≠ b) (s :: pushDedup s ss) := by
  intro ss
  induction ss with
  | nil => intro s; simp [pushDedup, LinPairs]
  | cons p ps ih =>
    intro s
    simp only [pushDedup]
    split
    · rename_i hne
      simp only [LinPairs]
      exact ⟨fun e => hne e.symm, ih p⟩
    · exact ih s

theorem pushDedup_eq_self : ∀ (ss : List Pt) (s : Pt), LinPairs (fun a b => a ≠ b) (s :: ss) →
    pushDedup s ss = ss := by
  intro ss
  induction ss with
  | nil => intro s _; rfl
  | cons p ps ih =>
    intro s h
    simp only [LinPairs] at h
    simp only [pushDedup]
    rw [if_pos (fun e => h.1 e.symm), ih p h.2]

/-- what `buildPath64` returns on a ring without equal cyclic neighbours (when it does not reject it) -/
def builtPath (ring : Ring) (reverse : Bool) : Path :=
  if reverse then
    match ring with
    | [] => []
    | op :: rest => op :: rest.reverse
  else rotl ring 1

theorem rotl_one (a b : Pt) (rest : List Pt) : rotl (a :: b :: rest) 1 = b :: rest ++ [a] := by
  unfold rotl
  have : 1 % (a :: b :: rest).length = 1 := Nat.mod_eq_of_lt (by simp)
  rw [this]; simp

/-- `builtPath` is the order in which `BuildPath64` visits the nodes (`seq` in `buildPath64`) -/
theorem builtPath_cons (op a : Pt) (rest : List Pt) (rev : Bool) :
    builtPath (op :: a :: rest) rev = if rev then op :: (a :: rest).reverse else a :: rest ++ [op] := by
  cases rev
  · exact rotl_one op a rest
  · rfl

theorem builtPath_rev_eq (op : Pt) (rest : List Pt) :
    builtPath (op :: rest) true = (rest ++ [op]).reverse := by simp [builtPath]

theorem builtPath_perm (ring : Ring) (rev : Bool) : (builtPath ring rev).Perm ring := by
  cases rev with
  | false => exact rotl_perm ring 1
  | true =>
    cases ring with
    | nil => simp [builtPath]
    | cons op rest =>
      simp only [builtPath, if_true]
      exact List.Perm.cons _ (List.reverse_perm _)

theorem length_builtPath (ring : Ring) (rev : Bool) : (builtPath ring rev).length = ring.length :=
  (builtPath_perm ring rev).length_eq
theorem mem_builtPath (ring : Ring) (rev : Bool) (x : Pt) : x ∈ builtPath ring rev ↔ x ∈ ring :=
  (builtPath_perm ring rev).mem_iff

theorem cycTriples_builtPath_fwd (P : Pt → Pt → Pt → Prop) (ring : Ring) (h : CycTriples P ring) :
    CycTriples P (builtPath ring false) := cycTriples_rotl P ring 1 h

theorem cycTriples_builtPath_rev (P : Pt → Pt → Pt → Prop) (ring : Ring) (h : CycTriples P ring) :
    CycTriples (fun a b c => P c b a) (builtPath ring true) := by
  cases ring with
  | nil => exact h
  | cons op rest =>
    rw [builtPath_rev_eq, cycTriples_reverse]
    exact cycTriples_rot1 P op rest h

theorem cycNoDup_builtPath (ring : Ring) (rev : Bool) (h : CycNoDup ring) : CycNoDup (builtPath ring rev) := by
  unfold CycNoDup at *
  cases rev with
  | false => exact cycPairs_rotl _ ring 1 h
  | true =>
    cases ring with
    | nil => exact h
    | cons op rest =>
      rw [builtPath_rev_eq, cycPairs_reverse]
      exact cycPairs_mono (fun a b hab => Ne.symm hab) _ (cycPairs_rot1 _ op rest h)

theorem buildPath_unfold (op a : Pt) (rest : List Pt) (rev isOpen : Bool) :
    buildPath64 (op :: a :: rest) rev isOpen =
      if (!isOpen && (a :: rest).length == 1) = true then none
      else
        let ring' : Ring := if rev then op :: a :: rest else (a :: rest) ++ [op]
        let seq : List Pt := if rev then op :: (a :: rest).reverse else (a :: rest) ++ [op]
        match seq with
        | [] => none
        | s :: ss =>
          let path := s :: pushDedup s ss
          if (!isOpen && path.length == 3 && isVerySmallTriangle ring') = true then none else some path := rfl

/-- What a successful `buildPath64` returns, for both directions at once: the nodes in the order of `builtPath`, the
first one and then every one that differs from the one emitted before it. -/
theorem buildPath_some {ring : Ring} {rev isOpen : Bool} {p : Path} (h : buildPath64 ring rev isOpen = some p) :
    ∃ s ss, builtPath ring rev = s :: ss ∧ p = s :: pushDedup s ss ∧
      (!isOpen && p.length == 3 && isVerySmallTriangle (if rev then ring else rotl ring 1)) = false ∧
      ring.length ≥ 2 ∧ (isOpen = false → ring.length ≥ 3) := by
  match ring, h with
  | [], h | [_], h => cases h
  | op :: a :: rest, h =>
    rw [buildPath_unfold] at h
    split at h
    · cases h
    · rename_i hg
      have hlen : isOpen = false → (op :: a :: rest).length ≥ 3 := by
        intro ho
        cases rest with
        | nil => simp [ho] at hg
        | cons _ _ => simp
      rw [rotl_one, builtPath_cons]
      cases rev
      all_goals
        simp only [Bool.false_eq_true, if_false, if_true, List.cons_append] at h ⊢
        split at h
        · cases h
        · rename_i hv
          cases h
          exact ⟨_, _, rfl, rfl, by simpa using hv, by simp, hlen⟩

/-- `FixSelfIntersects`, applied to a ring of at least three nodes without equal cyclic neighbours, does not
create equal cyclic neighbours (whenever it leaves a ring of at least three nodes). -/
def FixOk (fix : Ring → Option Ring) : Prop :=
  ∀ r r', r.length ≥ 3 → CycNoDup r → fix r = some r' → r'.length ≥ 3 → CycNoDup r'

theorem fixOk_some : FixOk some := by
  intro r r' _ hc h _; cases h; exact hc

theorem cycNoDup_of_kept (pc : Bool) (r : Ring) (h : CycTriples (Kept pc) r) : CycNoDup r := by
  unfold CycNoDup
  rw [cycPairs_iff_cycTriples]
  exact cycTriples_mono (fun a b c hk => (removable_false_ne hk).2) r h

/-- the removal test is mirror symmetric, so "all nodes kept" transfers to the built path in both directions -/
theorem cycTriples_kept_builtPath (pc : Bool) (ring : Ring) (rev : Bool) (h : CycTriples (Kept pc) ring) :
    CycTriples (Kept pc) (builtPath ring rev) := by
  cases rev with
  | false => exact cycTriples_builtPath_fwd _ ring h
  | true =>
    exact cycTriples_mono (fun a b c hk => kept_symm hk) _ (cycTriples_builtPath_rev _ ring h)

/-- a collinear node at which the path does not go on forward is removed: it is a duplicate or a spike -/
theorem removable_of_dot_nonpos (pc : Bool) {a b c : Pt} (hc : isCollinear a b c = true) (hd : dot a b c ≤ 0) :
    removable pc a b c = true := by
  by_cases e1 : b = a
  · simp [removable, e1, isCollinear_left]
  by_cases e2 : b = c
  · simp [removable, e2, isCollinear_right]
  have := dot_ne_zero_of_collinear hc e1 e2
  simp [removable, hc, show dot a b c < 0 by omega]

theorem removable_extreme_x (pc : Bool) {a b c : Pt} (hy1 : a.y = b.y) (hy2 : c.y = b.y)
    (ha : a.x ≤ b.x) (hc : c.x ≤ b.x) : removable pc a b c = true := by
  apply removable_of_dot_nonpos
  · rw [isCollinear_iff, hy1, hy2]; simp
  · unfold dot
    rw [hy2, Int.sub_self, Int.mul_zero, Int.add_zero]
    exact Int.mul_nonpos_of_nonneg_of_nonpos (by omega) (by omega)

theorem removable_extreme_y (pc : Bool) {a b c : Pt} (hx1 : a.x = b.x) (hx2 : c.x = b.x)
    (ha : a.y ≤ b.y) (hc : c.y ≤ b.y) : removable pc a b c = true := by
  apply removable_of_dot_nonpos
  · rw [isCollinear_iff, hx1, hx2]; simp
  · unfold dot
    rw [hx2, Int.sub_self, Int.mul_zero, Int.zero_add]
    exact Int.mul_nonpos_of_nonneg_of_nonpos (by omega) (by omega)

theorem exists_max (f : Pt → Int) : ∀ l : List Pt, l ≠ [] → ∃ m, m ∈ l ∧ ∀ p, p ∈ l → f p ≤ f m := by
  intro l
  induction l with
  | nil => intro h; exact absurd rfl h
  | cons a rest ih =>
    intro _
    cases rest with
    | nil => exact ⟨a, List.mem_cons_self, fun p hp => by rw [List.mem_singleton.mp hp]; exact Int.le_refl _⟩
    | cons b rest' =>
      obtain ⟨m, hm, hmax⟩ := ih (List.cons_ne_nil _ _)
      by_cases h : f a ≤ f m
      · exact ⟨m, List.mem_cons_of_mem _ hm, fun p hp =>
          (List.mem_cons.mp hp).elim (fun e => e ▸ h) (hmax p)⟩
      · exact ⟨a, List.mem_cons_self, fun p hp =>
          (List.mem_cons.mp hp).elim (fun e => e ▸ Int.le_refl _) (fun hp => by have := hmax p hp; omega)⟩

/-- In a ring all of whose nodes survive the removal test, the test cannot remove every node that is extreme for `f`
among its neighbours: the node of the ring where `f` is largest is such a node. -/
theorem kept_no_extreme (pc : Bool) (r : Ring) (hne : r ≠ []) (hk : CycTriples (Kept pc) r) (f : Pt → Int)
    (H : ∀ a b c, a ∈ r → b ∈ r → c ∈ r → f a ≤ f b → f c ≤ f b → removable pc a b c = true) : False := by
  obtain ⟨m, hm, hmax⟩ := exists_max f r hne
  obtain ⟨i, hi, rfl⟩ := List.getElem_of_mem hm
  have hK := (cycTriples_iff_getElem _ r).mp hk i hi
  have hn : r.length > 0 := by omega
  have m1 := List.getElem_mem (l := r) (Nat.mod_lt (i + r.length - 1) hn)
  have m2 := List.getElem_mem (l := r) (Nat.mod_lt (i + 1) hn)
  rw [Kept, H _ _ _ m1 hm m2 (hmax _ m1) (hmax _ m2)] at hK
  cases hK

theorem kept_not_all_y (pc : Bool) (r : Ring) (hne : r ≠ []) (hk : CycTriples (Kept pc) r) (y0 : Int) :
    ¬ ∀ p, p ∈ r → p.y = y0 := fun hall =>
  kept_no_extreme pc r hne hk (·.x) fun _ _ _ ha hb hc =>
    removable_extreme_x pc (by rw [hall _ ha, hall _ hb]) (by rw [hall _ hc, hall _ hb])

theorem kept_not_all_x (pc : Bool) (r : Ring) (hne : r ≠ []) (hk : CycTriples (Kept pc) r) (x0 : Int) :
    ¬ ∀ p, p ∈ r → p.x = x0 := fun hall =>
  kept_no_extreme pc r hne hk (·.y) fun _ _ _ ha hb hc =>
    removable_extreme_y pc (by rw [hall _ ha, hall _ hb]) (by rw [hall _ hc, hall _ hb])

end Clipper.Lemmas.CleanUp

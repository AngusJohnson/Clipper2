/-
THE PROBE.  `Spec.crossing` around the rational point `(xn/yd, yn/yd)`, for points given in
coordinates scaled by `D` (the exact output rings), is a `Probe`: in coordinates scaled once more by `yd` the probe is the integer point
`(D·xn, D·yn)`; a point `p` is below the probe's scanline iff `lv ≤ p.y` for `lv = ⌊D·yn / yd⌋ + 1`; two points of one input edge on
different sides of the scanline have the crossing number of the whole edge (collinearity), which is `−1` if the edge passes strictly RIGHT of
the probe (a side running upwards, towards smaller y) and `0` if it passes left.  At the end: the winding number of the output paths around
the probe is minus the ray sum of the finished rings (`wind_output`).  Core Lean only.
-/
import ClipperVerif.Lemmas.C01OutputChain
import ClipperVerif.Props.C13Spec
namespace Clipper.Lemmas.C01Crown
open Clipper Clipper.Model Clipper.Model.AelOrder Clipper.Model.SweepOrder Clipper.Model.SweepEvents Clipper.Model.SweepPoints
open Clipper.Lemmas.C01Output

/-- the probe point in coordinates scaled by `D·yd` -/
def probePt (D xn yn : Int) : Pt := ⟨D * xn, D * yn⟩

/-- `Spec.crossing` of the segment `a → b` (coordinates scaled by `D`) around the rational probe `(xn/yd, yn/yd)` -/
def crQ (D xn yn yd : Int) (a b : Pt) : Int := crossing (probePt D xn yn) (Pt.scale yd a) (Pt.scale yd b)

/-- the least height (in coordinates scaled by `D`) strictly below the probe's scanline -/
def levelOf (D yn yd : Int) : Int := D * yn / yd + 1

/-- the crossing number of the whole input edge, read from `bot` to `top` -/
def edgeK (D xn yn yd : Int) (e : GEdge) : Int := crQ D xn yn yd (Pt.scale D e.bot) (Pt.scale D e.top)

theorem level_iff (D yn yd : Int) (hd : 0 < yd) (y : Int) : levelOf D yn yd ≤ y ↔ D * yn < y * yd := by
  unfold levelOf
  rw [Int.add_one_le_iff, Int.ediv_lt_iff_lt_mul hd]

theorem crQ_wt (D xn yn yd : Int) : Wt (crQ D xn yn yd) :=
  ⟨fun _ => Clipper.Props.C13Spec.crossing_self _ _, fun _ _ => Clipper.Props.C13Spec.crossing_swap _ _ _⟩

theorem crossing_same_side {p a b : Pt} (h : p.y < a.y ↔ p.y < b.y) : crossing p a b = 0 := by
  unfold crossing
  rw [if_neg (by omega), if_neg (by omega)]

/-- a segment from below the ray's line to a point on or above it -/
theorem crossing_up {p a b : Pt} (ha : p.y < a.y) (hb : b.y ≤ p.y) : crossing p a b = if cross a b p < 0 then -1 else 0 := by
  unfold crossing
  rw [if_neg (by omega), if_pos ⟨hb, ha⟩]

theorem cross_collinear (B T a b P : Pt) (ha : cross B T a = 0) (hb : cross B T b = 0) :
    (T.y - B.y) * cross a b P = (b.y - a.y) * cross B T P := by
  have key : (T.y - B.y) * cross a b P =
      (b.y - a.y) * cross B T P - (b.y - a.y) * cross B T a - (cross B T b - cross B T a) * (P.y - a.y) := by
    simp only [cross]; grind
  rw [key, ha, hb]; simp

theorem neg_iff_of_mul_eq {u v X Z : Int} (hu : u < 0) (hv : v < 0) (h : u * X = v * Z) : X < 0 ↔ Z < 0 := by
  constructor
  · intro hx
    apply Int.not_le.1
    intro hz
    have h1 : 0 < u * X := Int.mul_pos_of_neg_of_neg hu hx
    have h2 : v * Z ≤ 0 := Int.mul_nonpos_of_nonpos_of_nonneg (Int.le_of_lt hv) hz
    omega
  · intro hz
    apply Int.not_le.1
    intro hx
    have h1 : 0 < v * Z := Int.mul_pos_of_neg_of_neg hv hz
    have h2 : u * X ≤ 0 := Int.mul_nonpos_of_nonpos_of_nonneg (Int.le_of_lt hu) hx
    omega

/-- a piece `a → b` of the segment `B → T` that passes the ray's line upwards counts what the whole segment counts:
both directed segments have the probe on the same side -/
theorem crossing_piece {B T a b p : Pt} (ha : cross B T a = 0) (hb : cross B T b = 0) (h1 : a.y ≤ B.y) (h2 : p.y < a.y)
    (h3 : b.y ≤ p.y) (h4 : T.y ≤ b.y) : crossing p a b = crossing p B T := by
  rw [crossing_up h2 h3, crossing_up (by omega) (by omega)]
  have hs := neg_iff_of_mul_eq (u := T.y - B.y) (v := b.y - a.y) (by omega) (by omega) (cross_collinear B T a b p ha hb)
  by_cases h : cross a b p < 0
  · rw [if_pos h, if_pos (hs.1 h)]
  · rw [if_neg h, if_neg (fun h' => h (hs.2 h'))]

theorem crQ_same (D xn yn yd : Int) (hd : 0 < yd) (a b : Pt) (h : levelOf D yn yd ≤ a.y ↔ levelOf D yn yd ≤ b.y) :
    crQ D xn yn yd a b = 0 := by
  rw [level_iff D yn yd hd, level_iff D yn yd hd, Int.mul_comm a.y, Int.mul_comm b.y] at h
  exact crossing_same_side h

/-- two points of one input edge on different sides of the probe's scanline: the crossing number of the edge -/
theorem crQ_edge (D xn yn yd : Int) (hd : 0 < yd) (e : GEdge) (a b : Pt) (ha : OnE D e a) (hb : OnE D e b)
    (hla : levelOf D yn yd ≤ a.y) (hlb : ¬ levelOf D yn yd ≤ b.y) : crQ D xn yn yd a b = edgeK D xn yn yd e := by
  rw [level_iff D yn yd hd, Int.mul_comm _ yd] at hla hlb
  obtain ⟨ca, _, a2⟩ := ha
  obtain ⟨cb, b1, _⟩ := hb
  exact crossing_piece (B := Pt.scale yd (Pt.scale D e.bot)) (T := Pt.scale yd (Pt.scale D e.top))
    (by rw [Clipper.Props.C13Spec.cross_scale, ca, Int.mul_zero]) (by rw [Clipper.Props.C13Spec.cross_scale, cb, Int.mul_zero])
    (Int.mul_le_mul_of_nonneg_left a2 (Int.le_of_lt hd)) hla (Int.not_lt.1 hlb) (Int.mul_le_mul_of_nonneg_left b1 (Int.le_of_lt hd))

/-- **the probe**: `Spec.crossing` around `(xn/yd, yn/yd)` -/
theorem probe_crQ (D xn yn yd : Int) (hd : 0 < yd) (E : GEdge → Prop) :
    Probe D E (crQ D xn yn yd) (levelOf D yn yd) (edgeK D xn yn yd) :=
  ⟨crQ_wt D xn yn yd, crQ_same D xn yn yd hd, fun e a b _ ha hb hla hlb => crQ_edge D xn yn yd hd e a b ha hb hla hlb⟩

/-- **the crossing number of an input edge that crosses the probe's scanline**: `−1` if it passes strictly right of the probe, `0` if left -/
theorem edgeK_eq (D xn yn yd : Int) (hD : 0 < D) (hd : 0 < yd) (e : GEdge) (hal : aliveAt e yn yd) (hoff : ¬ onEdgeLine e xn yn yd) :
    edgeK D xn yn yd e = if leftOfPt e xn yn yd then 0 else -1 := by
  have hc : cross (Pt.scale yd (Pt.scale D e.bot)) (Pt.scale yd (Pt.scale D e.top)) (probePt D xn yn) =
      (yd * D * D) * (xn * exD e - xNum e.bot e.top yn yd) := by
    simp only [cross, Pt.scale, probePt, xNum, exD]; grind
  have hs := (Clipper.WindSpec.sign_mul (e := xn * exD e - xNum e.bot e.top yn yd) (Int.mul_pos (Int.mul_pos hd hD) hD)).2
  have l1 : yd * (D * e.top.y) ≤ D * yn := by
    rw [Int.mul_left_comm, Int.mul_comm yd]; exact Int.le_of_lt (Int.mul_lt_mul_of_pos_left hal.1 hD)
  have l2 : D * yn < yd * (D * e.bot.y) := by
    rw [Int.mul_left_comm, Int.mul_comm yd]; exact Int.mul_lt_mul_of_pos_left hal.2 hD
  unfold edgeK crQ
  rw [crossing_up (p := probePt D xn yn) (a := Pt.scale yd (Pt.scale D e.bot)) (b := Pt.scale yd (Pt.scale D e.top)) l2 l1, hc]
  unfold onEdgeLine at hoff
  by_cases h : leftOfPt e xn yn yd
  · rw [if_pos h, if_neg (by unfold leftOfPt at h; rw [hs]; omega)]
  · rw [if_neg h, if_pos (by unfold leftOfPt at h; rw [hs]; omega)]

/- The winding number of the OUTPUT PATHS (the finished rings read as `BuildPath64` reads them for `ReverseSolution = false`, i.e.
reversed) around the probe: minus the ray sum `phi` of the output side, once no ring is under construction any more -/

theorem lin_map (c : Pt → Pt → Int) (f : Pt → Pt) : ∀ (l : List Pt), lin c (l.map f) = lin (fun a b => c (f a) (f b)) l := by
  intro l
  induction l with
  | nil => rfl
  | cons a t ih =>
    cases t with
    | nil => rfl
    | cons b t' =>
      simp only [List.map_cons, lin] at ih ⊢
      rw [ih]

theorem seam_map (c : Pt → Pt → Int) (f : Pt → Pt) (l1 l2 : List Pt) :
    seam c (l1.map f) (l2.map f) = seam (fun a b => c (f a) (f b)) l1 l2 := by
  unfold seam
  rw [List.getLast?_map, List.head?_map]
  cases l1.getLast? <;> cases l2.head? <;> rfl

theorem cyc_map (c : Pt → Pt → Int) (f : Pt → Pt) (l : List Pt) : cyc c (l.map f) = cyc (fun a b => c (f a) (f b)) l := by
  unfold cyc; rw [lin_map, seam_map]

/-- the winding number of one output path, scaled by `yd`, around the probe -/
theorem windPath_output (D xn yn yd : Int) (pts : List Pt) :
    windPath (pts.reverse.map (Pt.scale yd)) (probePt D xn yn) = -cyc (crQ D xn yn yd) pts := by
  rw [windPath_eq_cyc, cyc_map]
  exact cyc_reverse (crQ_wt D xn yn yd) pts

/-- the winding number of the output paths = minus the ray sum of the finished rings -/
theorem wind_rings (D xn yn yd : Int) : ∀ (rings : List Ring), (∀ g ∈ rings, g.stat = .done ∨ g.pts = []) →
    wind ((((rings.filter (fun g => g.stat == .done)).map (·.pts)).map List.reverse).map (fun p => p.map (Pt.scale yd))) (probePt D xn yn) =
      -((rings.map (val (crQ D xn yn yd))).sum)
  | [], _ => rfl
  | g :: t, h => by
    have iht := wind_rings D xn yn yd t (fun x hx => h x (List.mem_cons_of_mem _ hx))
    simp only [wind] at iht ⊢
    by_cases hd : g.stat = .done
    · have : (g.stat == RStat.done) = true := by simp [hd]
      simp only [List.filter_cons, this, if_true, List.map_cons, List.sum_cons, windPath_output]
      rw [iht]
      simp only [val, hd, if_true]
      omega
    · have : (g.stat == RStat.done) = false := by simp [hd]
      simp only [List.filter_cons, this, Bool.false_eq_true, if_false, List.map_cons, List.sum_cons]
      rw [iht]
      simp only [val, hd, if_false, (h g List.mem_cons_self).resolve_left hd, lin]
      omega

theorem wind_output (D xn yn yd : Int) (rs : RState) (h : ∀ g ∈ rs.o.rings, g.stat = .done ∨ g.pts = []) :
    wind ((outputPaths rs).map (fun p => p.map (Pt.scale yd))) (probePt D xn yn) = -phi (crQ D xn yn yd) rs.o :=
  wind_rings D xn yn yd rs.o.rings h

end Clipper.Lemmas.C01Crown

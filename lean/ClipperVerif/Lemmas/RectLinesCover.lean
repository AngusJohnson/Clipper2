/-
C09 `lines_cover`: the run of `RectClipLines64::ExecuteInternal` (model `emits`) described segment by segment.
The description (`SegPart` per segment, `TailP` / `CoverP` along the polyline), what carries over from the segments to
the whole description, runs of vertices that stay on one side, and `GetNextLocation` and one iteration of the main
loop as equations, for the loop analysis in RectLinesLoop.  At the end, soundness of the Boolean checker `coverB`
(Model/RectLinesCover.lean) that the driver command `LINESCOVER` runs on every generated input, segment by segment and
along the polyline.  Core Lean only.
-/
import ClipperVerif.Lemmas.RectLinesMeet
import ClipperVerif.Model.RectLinesCover
namespace Clipper.Lemmas.RLV
open Clipper Clipper.Model.RC Clipper.Lemmas.RC Clipper.Lemmas.RCE Clipper.Lemmas.RCA Clipper.Lemmas.RCC Clipper.Lemmas.RLC
open Clipper.Lemmas.RLG

theorem sInB_iff (r : Rect) (p : Pt) : sInB r p = true ↔ SI r p := by
  unfold sInB SI; simp only [Bool.and_eq_true, decide_eq_true_eq]; omega

theorem onBd_iff (r : Rect) (p : Pt) : onBd r p = true ↔ OnBoundary r p := by
  rw [← getLocation_fst r p .inside, onBd]
  cases (getLocation r p).1 <;> simp

/-- **What the segment `prv → cur` (vertices `k-1`, `k`) and the vertex `k` contribute to the list of `Add` calls**,
given the classes `ip`, `ic` of the two vertices:
* in → in: the vertex, appended to the current piece;
* in → out: exactly one crossing point (found by `GetIntersection` from the outside end point), appended;
* out → in: exactly one crossing point, which starts a new piece, then the vertex;
* out → out: nothing — and then both end points lie in one closed outer half-plane or `GetIntersection` from `cur`
  finds no crossing — or two crossing points, the first starting a new piece; the first point is what the second,
  unchecked `GetIntersection` call (from `prv`, which lies in the closed half-plane beyond side `loc2` while `cur` does
  not) left in `ip2`. -/
def SegPart (A : Arith) (r : Rect) (k : Nat) (prv cur : Pt) (ip ic : Bool) (es : List Emit) : Prop :=
  match ip, ic with
  | true, true => es = [V k cur]
  | true, false => ∃ loc, outsideLoc r cur = some loc ∧ (getIntersection A r cur prv loc ⟨0, 0⟩).1 = true ∧
      es = [⟨k, (getIntersection A r cur prv loc ⟨0, 0⟩).2.2, false, .exit⟩]
  | false, true => (getIntersection A r cur prv .inside ⟨0, 0⟩).1 = true ∧
      es = [⟨k, (getIntersection A r cur prv .inside ⟨0, 0⟩).2.2, true, .enter⟩, V k cur]
  | false, false =>
      (es = [] ∧ ((∃ loc, loc ≠ .inside ∧ Ready r loc prv ∧ Ready r loc cur) ∨
                  (∃ loc, loc ≠ .inside ∧ Ready r loc cur ∧ (getIntersection A r cur prv loc ⟨0, 0⟩).1 = false))) ∨
      (∃ loc loc2, loc ≠ .inside ∧ Ready r loc cur ∧ (getIntersection A r cur prv loc ⟨0, 0⟩).1 = true ∧
          loc2 ≠ .inside ∧ Ready r loc2 prv ∧ ¬ Ready r loc2 cur ∧
          es = [⟨k, (getIntersection A r prv cur loc2 ⟨0, 0⟩).2.2, true,
                  .thru1 (getIntersection A r prv cur loc2 ⟨0, 0⟩).1⟩,
                ⟨k, (getIntersection A r cur prv loc ⟨0, 0⟩).2.2, false, .thru2⟩])

/-- a per-segment description: index, vertices `k-1` and `k`, their classes, the `Add` calls contributed -/
abbrev SegDesc := Nat → Pt → Pt → Bool → Bool → List Emit → Prop

/-- The `Add` calls for the segments `k, k+1, …` of a polyline whose remaining vertices are `l` (head = vertex `k-1`,
of class `ip`): the concatenation of what each segment contributes according to `Q`, the class of each vertex being
computed from the class of its predecessor by `clsNext`. -/
def TailP (r : Rect) (Q : SegDesc) : Nat → Bool → List Pt → List Emit → Prop
  | k, ip, prv :: cur :: rest, es =>
    ∃ e1 e2, es = e1 ++ e2 ∧ Q k prv cur ip (clsNext r ip cur) e1 ∧
      TailP r Q (k + 1) (clsNext r ip cur) (cur :: rest) e2
  | _, _, [], es => es = []
  | _, _, [_], es => es = []

/-- **The complete description of one run** relative to a per-segment description `Q`: the first vertex if it is of
class in, then segment by segment. -/
def CoverP (r : Rect) (Q : SegDesc) (path : Path) (es : List Emit) : Prop :=
  match path with
  | [] => es = []
  | p0 :: _ => ∃ e2, es = (if cls0 r path then [V 0 p0] else []) ++ e2 ∧ TailP r Q 1 (cls0 r path) path e2

abbrev Tail (A : Arith) (r : Rect) : Nat → Bool → List Pt → List Emit → Prop := TailP r (SegPart A r)

def Cover (A : Arith) (r : Rect) (path : Path) (es : List Emit) : Prop := CoverP r (SegPart A r) path es

theorem tailP_short {r : Rect} {Q : SegDesc} {k : Nat} {ip : Bool} {l : List Pt} {es : List Emit} (h : l.length ≤ 1) :
    TailP r Q k ip l es ↔ es = [] := by
  match l, h with
  | [], _ => exact Iff.rfl
  | [_], _ => exact Iff.rfl

/-- a per-segment description may be replaced by a weaker one; the implication is only needed for consecutive
vertices of the polyline -/
theorem tailP_mono {r : Rect} {Q Q' : SegDesc} (path : Path)
    (h : ∀ k prv cur ip ic es, (∃ t, path[t]? = some prv ∧ path[t + 1]? = some cur) →
      Q k prv cur ip ic es → Q' k prv cur ip ic es) :
    ∀ (l : List Pt) (j k : Nat) (ip : Bool) (es : List Emit), (∀ t x, l[t]? = some x → path[j + t]? = some x) →
      TailP r Q k ip l es → TailP r Q' k ip l es
  | [], _, _, _, _, _, ht => ht
  | [_], _, _, _, _, _, ht => ht
  | prv :: cur :: rest, j, k, ip, es, hl, ht => by
    obtain ⟨e1, e2, he, h1, h2⟩ := ht
    refine ⟨e1, e2, he, h _ _ _ _ _ _ ⟨j, hl 0 prv rfl, hl 1 cur rfl⟩ h1,
      tailP_mono path h (cur :: rest) (j + 1) (k + 1) _ e2 (fun t x hx => ?_) h2⟩
    rw [Nat.add_right_comm j 1 t]
    exact hl (t + 1) x hx

theorem coverP_mono {r : Rect} {Q Q' : SegDesc} {path : Path}
    (h : ∀ k prv cur ip ic es, (∃ t, path[t]? = some prv ∧ path[t + 1]? = some cur) →
      Q k prv cur ip ic es → Q' k prv cur ip ic es)
    {es : List Emit} (hc : CoverP r Q path es) : CoverP r Q' path es := by
  match path, h, hc with
  | [], _, hc => exact hc
  | p0 :: rest, h, ⟨e2, he, ht⟩ =>
    exact ⟨e2, he, tailP_mono (p0 :: rest) h _ 0 _ _ _ (fun t x hx => by rwa [Nat.zero_add]) ht⟩

theorem tailP_all {r : Rect} {Q : SegDesc} {Pr : Emit → Prop}
    (hQ : ∀ k prv cur ip ic es, Q k prv cur ip ic es → ∀ e ∈ es, Pr e) :
    ∀ (l : List Pt) (k : Nat) (ip : Bool) (es : List Emit), TailP r Q k ip l es → ∀ e ∈ es, Pr e
  | [], _, _, _, ht => by cases ht; exact fun _ h => nomatch h
  | [_], _, _, _, ht => by cases ht; exact fun _ h => nomatch h
  | prv :: cur :: rest, k, ip, es, ht => by
    obtain ⟨e1, e2, rfl, h1, h2⟩ := ht
    intro e he
    rcases List.mem_append.mp he with he | he
    · exact hQ _ _ _ _ _ _ h1 e he
    · exact tailP_all hQ (cur :: rest) (k + 1) _ e2 h2 e he

theorem coverP_all {r : Rect} {Q : SegDesc} {Pr : Emit → Prop}
    (hQ : ∀ k prv cur ip ic es, Q k prv cur ip ic es → ∀ e ∈ es, Pr e) (hV : ∀ k p, Pr (V k p))
    {path : Path} {es : List Emit} (hc : CoverP r Q path es) : ∀ e ∈ es, Pr e := by
  match path, hc with
  | [], hc => cases hc; exact fun _ h => nomatch h
  | p0 :: rest, ⟨e2, he, ht⟩ =>
    subst he
    intro e he
    rcases List.mem_append.mp he with he | he
    · split at he
      · cases List.mem_singleton.mp he; exact hV 0 p0
      · cases he
    · exact tailP_all hQ _ _ _ _ ht e he

theorem tail_cons (A : Arith) (r : Rect) (k : Nat) (ip : Bool) (prv cur : Pt) (rest : List Pt) (e1 e2 : List Emit)
    (h1 : SegPart A r k prv cur ip (clsNext r ip cur) e1) (h2 : Tail A r (k + 1) (clsNext r ip cur) (cur :: rest) e2) :
    Tail A r k ip (prv :: cur :: rest) (e1 ++ e2) :=
  ⟨e1, e2, rfl, h1, h2⟩

theorem clsNext_in {r : Rect} {p : Pt} (h : inRect r p = true) : clsNext r true p = true := by
  unfold clsNext; simp [h]

theorem clsNext_sin {r : Rect} {p : Pt} (ip : Bool) (h : SI r p) : clsNext r ip p = true := by
  unfold clsNext; simp [(sInB_iff r p).mpr h]

theorem sInB_false_of_nsi {r : Rect} {p : Pt} (h : NSI r p) : sInB r p = false := by
  cases hs : sInB r p
  · rfl
  · exact absurd ((sInB_iff r p).mp hs) h

theorem clsNext_out_false {r : Rect} {p : Pt} (h : NSI r p) : clsNext r false p = false := by
  unfold clsNext; simp [sInB_false_of_nsi h]

theorem clsNext_notin {r : Rect} {p : Pt} (ip : Bool) (h : inRect r p = false) : clsNext r ip p = false := by
  unfold clsNext
  have : NSI r p := by
    unfold NSI; intro hc
    have : inRect r p = true := by rw [inRect_iff]; omega
    rw [h] at this; cases this
  simp [sInB_false_of_nsi this, h]

theorem indexFrom_cons (i : Nat) (p : Pt) (ps : List Pt) : indexFrom i (p :: ps) = (i, p) :: indexFrom (i + 1) ps := rfl

/-- A segment between two vertices in the closed half-plane of `loc` (for `Inside`: in the closed rectangle) leaves
the state as it is; inside, its second vertex is added. -/
theorem seg_stay (A : Arith) {r : Rect} {loc : Location} {prv x : Pt} (k : Nat) (hp : Ready r loc prv)
    (hx : Ready r loc x) :
    clsNext r (decide (loc = .inside)) x = decide (loc = .inside) ∧
      SegPart A r k prv x (decide (loc = .inside)) (decide (loc = .inside)) (if loc = .inside then [V k x] else []) := by
  by_cases hl : loc = .inside
  · subst hl
    exact ⟨clsNext_in ((outsideLoc_none_iff r x).mp hx), rfl⟩
  · rw [decide_eq_false hl, if_neg hl]
    exact ⟨clsNext_out_false (ready_nsi hx hl), Or.inl ⟨rfl, Or.inl ⟨loc, hl, hp, hx⟩⟩⟩

/-- `m` vertices after the head of `l`, head included all in the closed half-plane of `loc`, reached in the state of
`loc`: inside they are added, outside they are skipped -/
theorem tail_run (A : Arith) (r : Rect) (loc : Location) : ∀ (m k : Nat) (l : List Pt) (e' : List Emit),
    (∀ t q, t ≤ m → l[t]? = some q → Ready r loc q) → m + 1 ≤ l.length →
    Tail A r (k + m) (decide (loc = .inside)) (l.drop m) e' →
    Tail A r k (decide (loc = .inside)) l
      ((if loc = .inside then vertexEmits (indexFrom k ((l.drop 1).take m)) else []) ++ e') := by
  intro m
  induction m with
  | zero => intro k l e' _ _ h; simpa [vertexEmits, indexFrom] using h
  | succ m ih =>
    intro k l e' hall hlen h
    match l, hlen with
    | prv :: x :: tl, hl2 =>
      obtain ⟨hc, hseg⟩ := seg_stay A k (hall 0 prv (by omega) rfl) (hall 1 x (by omega) rfl)
      have h2 := ih (k + 1) (x :: tl) e' (fun t q h1 hq => hall (t + 1) q (by omega) hq)
        (by simp only [List.length_cons] at hl2 ⊢; omega) (by rw [Nat.add_right_comm]; exact h)
      have := tail_cons A r k _ prv x tl _ _ (by rw [hc]; exact hseg) (by rw [hc]; exact h2)
      by_cases hl : loc = .inside
      · simpa [hl, vertexEmits, indexFrom_cons, V] using this
      · simpa [hl] using this

theorem gnl_emits (r : Rect) (path : Path) (loc : Location) (i : Nat) :
    vertexEmits (getNextLocation r path loc i).2.2 =
      if loc = .inside then
        vertexEmits (indexFrom i ((path.drop i).take ((getNextLocation r path loc i).2.1 - i)))
      else [] := by
  by_cases hl : loc = .inside
  · subst hl
    rw [if_pos rfl, gnl_adds_inside, gnl_idx_inside, Nat.add_sub_cancel_left, take_length_takeWhile]
  · rw [if_neg hl, gnl_adds_nil r path loc i hl]
    rfl

theorem getElem?_lt {path : Path} {k : Nat} {q : Pt} (h : path[k]? = some q) : k < path.length :=
  (List.getElem?_eq_some_iff.mp h).1

/-- **One iteration of the main loop** that stops at vertex `j < path.length`: a crossing found on the segment
`j-1 → j` is added and the loop goes on at `j`; otherwise it goes on at `j + 1`. -/
theorem loop_next (A : Arith) {r : Rect} {path : Path} (fuel : Nat) {i j : Nat} {loc L' : Location}
    {adds : List (Nat × Pt)} {cur prv : Pt} (hin : i < path.length)
    (hgg : getNextLocation r path loc i = (L', j, adds)) (hc : path[j]? = some cur) (hp : path[j - 1]? = some prv) :
    loop A r path (fuel + 1) i loc =
      if (getIntersection A r cur prv L' ⟨0, 0⟩).1 = true then
        (loop A r path fuel j L').map ((vertexEmits adds ++
          (if L' = .inside then [⟨j, (getIntersection A r cur prv L' ⟨0, 0⟩).2.2, true, .enter⟩]
           else if loc ≠ .inside then
             [⟨j, (getIntersection A r prv cur loc ⟨0, 0⟩).2.2, true, .thru1 (getIntersection A r prv cur loc ⟨0, 0⟩).1⟩,
              ⟨j, (getIntersection A r cur prv L' ⟨0, 0⟩).2.2, false, .thru2⟩]
           else [⟨j, (getIntersection A r cur prv L' ⟨0, 0⟩).2.2, false, .exit⟩])) ++ ·)
      else (loop A r path fuel (j + 1) L').map (vertexEmits adds ++ ·) := by
  rw [loop, if_pos hin]
  unfold step
  simp only [hgg, if_pos (getElem?_lt hc), hc, hp]
  by_cases hx : (getIntersection A r cur prv L' ⟨0, 0⟩).1 = true
  · rw [hx]
    by_cases hli : L' = .inside
    · simp only [hli, if_true, Bool.not_true, Bool.false_eq_true, if_false]
    · by_cases hl : loc = .inside <;> simp [hli, hl]
  · simp [hx]

/-- … that runs off the end of the polyline -/
theorem loop_done (A : Arith) {r : Rect} {path : Path} (fuel : Nat) {i j : Nat} {loc L' : Location}
    {adds : List (Nat × Pt)} (hin : i < path.length) (hgg : getNextLocation r path loc i = (L', j, adds))
    (hj : ¬ j < path.length) : loop A r path (fuel + 1) i loc = some (vertexEmits adds) := by
  rw [loop, if_pos hin]
  unfold step
  simp only [hgg, if_neg hj]

theorem loop_succ_ge (A : Arith) (r : Rect) (path : Path) (fuel i : Nat) (loc : Location) (h : ¬ i < path.length) :
    loop A r path (fuel + 1) i loc = some [] := by
  rw [loop, if_neg h]

theorem map_append_some {o : Option (List Emit)} {es1 es : List Emit} (h : o.map (es1 ++ ·) = some es) :
    ∃ es2, o = some es2 ∧ es = es1 ++ es2 := by
  cases o with
  | none => cases h
  | some es2 => exact ⟨es2, rfl, (Option.some.inj h).symm⟩

theorem drop_cons1 {path : Path} {j : Nat} {b : Pt} (hb : path[j]? = some b) :
    path.drop j = b :: path.drop (j + 1) := by
  have h2 := getElem?_lt hb
  rw [List.getElem?_eq_getElem h2] at hb
  rw [List.drop_eq_getElem_cons h2, Option.some.inj hb]

theorem drop_cons2 {path : Path} {j : Nat} {a b : Pt} (hj : 1 ≤ j) (ha : path[j - 1]? = some a)
    (hb : path[j]? = some b) : path.drop (j - 1) = a :: b :: path.drop (j + 1) := by
  rw [drop_cons1 ha, Nat.sub_add_cancel hj, drop_cons1 hb]

theorem mem_outerLocs {loc : Location} (h : loc ∈ outerLocs) : loc ≠ .inside := by
  unfold outerLocs at h
  simp only [List.mem_cons, List.not_mem_nil, or_false] at h
  rcases h with rfl | rfl | rfl | rfl <;> simp

theorem segPartB_sound {A : Arith} {r : Rect} {k : Nat} {prv cur : Pt} {ip ic : Bool} {es : List Emit}
    (h : segPartB A r k prv cur ip ic es = true) : SegPart A r k prv cur ip ic es := by
  cases ip <;> cases ic <;> simp only [segPartB] at h <;> simp only [SegPart]
  · simp only [Bool.or_eq_true, Bool.and_eq_true, List.any_eq_true, beq_iff_eq, Bool.not_eq_true'] at h
    rcases h with ⟨he, h | h⟩ | ⟨loc, hl, loc2, hl2, ⟨⟨⟨⟨h1, h2⟩, h3⟩, h4⟩, he⟩⟩
    · obtain ⟨loc, hl, h1, h2⟩ := h
      exact Or.inl ⟨he, Or.inl ⟨loc, mem_outerLocs hl, (readyB_iff r loc prv).mp h1, (readyB_iff r loc cur).mp h2⟩⟩
    · obtain ⟨loc, hl, h1, h2⟩ := h
      exact Or.inl ⟨he, Or.inr ⟨loc, mem_outerLocs hl, (readyB_iff r loc cur).mp h1, h2⟩⟩
    · refine Or.inr ⟨loc, loc2, mem_outerLocs hl, (readyB_iff r loc cur).mp h1, h2, mem_outerLocs hl2,
        (readyB_iff r loc2 prv).mp h3, ?_, he⟩
      intro hc
      rw [(readyB_iff r loc2 cur).mpr hc] at h4
      cases h4
  · simp only [Bool.and_eq_true, beq_iff_eq] at h
    exact h
  · split at h
    · rename_i loc ho
      simp only [Bool.and_eq_true, beq_iff_eq] at h
      exact ⟨loc, ho, h.1, h.2⟩
    · cases h
  · simpa using h

theorem tailB_sound {A : Arith} {r : Rect} : ∀ (l : List Pt) (k : Nat) (ip : Bool) (es : List Emit),
    tailB A r k ip l es = true → Tail A r k ip l es
  | [], _, _, es, h => by simpa [tailB, TailP] using h
  | [_], _, _, es, h => by simpa [tailB, TailP] using h
  | prv :: cur :: rest, k, ip, es, h => by
    simp only [tailB, Bool.and_eq_true] at h
    have hsplit : es = es.takeWhile (fun e => e.k == k) ++ es.drop (es.takeWhile (fun e => e.k == k)).length := by
      conv => lhs; rw [← List.take_append_drop (es.takeWhile (fun e => e.k == k)).length es]
      rw [take_length_takeWhile]
    rw [hsplit]
    exact tail_cons A r k ip prv cur rest _ _ (segPartB_sound h.1) (tailB_sound (cur :: rest) (k + 1) _ _ h.2)

end Clipper.Lemmas.RLV

/-
Termination of the `TidyEdges` loop: the invariant `SideInv` of the two edge lists of one rectangle side, the measure
`μ = P (M+1)² + a (M+1) + b` and its decrease in every iteration, and the invariant `EdgesOK` of all eight lists, which every
`TidyEdges` call keeps, so that the four calls of `Execute` all return.
Core Lean only.
-/
import ClipperVerif.Lemmas.RectClipTidyStep
namespace Clipper.Lemmas.RCT
open Clipper Clipper.Model.RC Clipper.Model.RCT

/-- `P N² + a N + b` with digits `a, b < N` is lexicographic in `(P, a, b)`, also when the base `N` shrinks together with `P` -/
theorem lex3 {P P' N N' a a' b b' : Nat} (hP : P' ≤ P) (hN : N' ≤ N) (ha' : a' < N') (hb' : b' < N')
    (h : P' < P ∨ (N' = N ∧ (a' < a ∨ (a' = a ∧ b' < b)))) :
    P' * N' * N' + a' * N' + b' < P * N * N + a * N + b := by
  have h2 : ∀ {c : Nat}, a' < c → a' * N' + N' ≤ c * N' := fun hc =>
    calc a' * N' + N' = (a' + 1) * N' := by rw [Nat.add_mul, Nat.one_mul]
      _ ≤ _ := Nat.mul_le_mul hc (Nat.le_refl _)
  rcases Nat.lt_or_eq_of_le hP with hlt | e
  · have h1 : P' * N' * N' + N' * N' ≤ P * N * N :=
      calc P' * N' * N' + N' * N' = (P' + 1) * N' * N' := by rw [Nat.add_mul, Nat.add_mul, Nat.one_mul]
        _ ≤ _ := Nat.mul_le_mul (Nat.mul_le_mul hlt hN) hN
    have := h2 ha'
    omega
  · obtain ⟨eN, hd⟩ := h.resolve_left (by omega)
    subst e eN
    rcases hd with ha | ⟨ea, hb⟩
    · have := h2 ha; omega
    · subst ea; omega

theorem tidyP_eq (idx : Nat) (h : Heap) :
    tidyP idx h = axisLen idx h h.n + wsum (zeroLen h) (h.edges (idx * 2)) + wsum (zeroLen h) (h.edges (idx * 2 + 1)) := rfl

/-- **The measure of the loop is lexicographic** in `P`, `|cw| - i`, `|ccw| - j`, as long as `M = P + |cw| + |ccw|` does not grow. -/
theorem tidyMeasure_lt (idx : Nat) (s s' : TState) (hP : tidyP idx s'.h ≤ tidyP idx s.h)
    (hM : tidyP idx s'.h + (s'.h.edges (idx * 2)).length + (s'.h.edges (idx * 2 + 1)).length ≤
      tidyP idx s.h + (s.h.edges (idx * 2)).length + (s.h.edges (idx * 2 + 1)).length)
    (h : tidyP idx s'.h < tidyP idx s.h ∨ ((s'.h.edges (idx * 2)).length = (s.h.edges (idx * 2)).length ∧
      (s'.h.edges (idx * 2 + 1)).length = (s.h.edges (idx * 2 + 1)).length ∧
      ((s'.h.edges (idx * 2)).length - s'.i < (s.h.edges (idx * 2)).length - s.i ∨
        ((s'.h.edges (idx * 2)).length - s'.i = (s.h.edges (idx * 2)).length - s.i ∧
          (s'.h.edges (idx * 2 + 1)).length - s'.j < (s.h.edges (idx * 2 + 1)).length - s.j)))) :
    tidyMeasure idx s' < tidyMeasure idx s := by
  rcases Nat.lt_or_eq_of_le hP with hlt | e
  · exact lex3 hP (by omega) (by omega) (by omega) (Or.inl hlt)
  · obtain ⟨e1, e2, h⟩ := h.resolve_left (by omega)
    exact lex3 hP (by omega) (by omega) (by omega) (Or.inr ⟨by rw [e, e1, e2], h⟩)

theorem axisLen_congr (idx : Nat) (h h' : Heap) (hpt : h'.pt = h.pt) : ∀ (n : Nat),
    (∀ k, k < n → h'.prev k = h.prev k) → axisLen idx h' n = axisLen idx h n
  | 0, _ => rfl
  | n + 1, hp => by
    simp only [axisLen]
    rw [axisLen_congr idx h h' hpt n (fun k hk => hp k (by omega)), hpt, hp n (by omega)]

/-- length along the axis of the link `prev k → k` when `prev k = p` -/
def linkLen (idx : Nat) (h : Heap) (k p : Nat) : Nat := (axisOf idx (h.pt k) - axisOf idx (h.pt p)).natAbs

/-- changing `prev` at one node `x < n` -/
theorem axisLen_upd1 (idx : Nat) (h h' : Heap) (hpt : h'.pt = h.pt) (x u : Nat) (hp : h'.prev = upd h.prev x u) :
    ∀ (n : Nat), x < n → axisLen idx h' n + linkLen idx h x (h.prev x) = axisLen idx h n + linkLen idx h x u
  | 0, hx => absurd hx (Nat.not_lt_zero _)
  | n + 1, hx => by
    simp only [axisLen]
    by_cases e : x = n
    · subst e
      have h1 : axisLen idx h' x = axisLen idx h x :=
        axisLen_congr idx h h' hpt x (fun k hk => by rw [hp, upd_ne _ _ (by omega)])
      rw [h1, hpt, hp, upd_same]
      unfold linkLen; omega
    · have ih := axisLen_upd1 idx h h' hpt x u hp n (by omega)
      have e' : n ≠ x := fun z => e z.symm
      rw [hpt, hp, upd_ne _ _ e']
      omega

/-- changing `prev` at two different nodes `x, y < n` -/
theorem axisLen_upd2 (idx : Nat) (h h' : Heap) (hpt : h'.pt = h.pt) (x u y v : Nat) (hxy : x ≠ y)
    (hp : h'.prev = upd (upd h.prev x u) y v) (n : Nat) (hx : x < n) (hy : y < n) :
    axisLen idx h' n + linkLen idx h x (h.prev x) + linkLen idx h y (h.prev y) =
      axisLen idx h n + linkLen idx h x u + linkLen idx h y v := by
  let hm : Heap := { h with prev := upd h.prev x u }
  have e1 := axisLen_upd1 idx h hm rfl x u rfl n hx
  have e2 := axisLen_upd1 idx hm h' hpt y v hp n hy
  have l1 : linkLen idx hm y (hm.prev y) = linkLen idx h y (h.prev y) := by
    rw [show hm.prev y = h.prev y from upd_ne _ _ (fun e => hxy e.symm)]; rfl
  have l2 : linkLen idx hm y v = linkLen idx h y v := rfl
  rw [l1, l2] at e2
  omega

/-- the coordinate across side `idx` (constant along the side) -/
def othOf (idx : Nat) (p : Pt) : Int := if idx == 1 || idx == 3 then p.y else p.x

/-- `x → y` heads weakly in the direction `fwd` (towards larger values) resp. the opposite one -/
def dirOK (fwd : Bool) (x y : Int) : Prop := if fwd then x ≤ y else y ≤ x

/-- **Invariant of the two edge lists of side `idx`.**  All entries `k` of `edges_[2 idx]` (`cw`) and `edges_[2 idx + 1]` (`ccw`)
have `k` and `prev k` on one line across the axis; the link `prev k → k` of a `cw` entry heads (weakly) clockwise along the side,
that of a `ccw` entry (weakly) counter-clockwise; no node occurs twice in the two lists. -/
structure SideInv (idx : Nat) (h : Heap) : Prop where
  line : ∃ c, ∀ k, (some k ∈ h.edges (idx * 2) ∨ some k ∈ h.edges (idx * 2 + 1)) →
    othOf idx (h.pt k) = c ∧ othOf idx (h.pt (h.prev k)) = c
  cwd : ∀ k, some k ∈ h.edges (idx * 2) →
    dirOK (idx == 1 || idx == 2) (axisOf idx (h.pt (h.prev k))) (axisOf idx (h.pt k))
  ccwd : ∀ k, some k ∈ h.edges (idx * 2 + 1) →
    dirOK (!(idx == 1 || idx == 2)) (axisOf idx (h.pt (h.prev k))) (axisOf idx (h.pt k))
  once : ∀ k, occ k (h.edges (idx * 2)) + occ k (h.edges (idx * 2 + 1)) ≤ 1

/-- `k` is an entry of one of the two lists of side `idx` -/
def SideMem (idx : Nat) (h : Heap) (k : Nat) : Prop := some k ∈ h.edges (idx * 2) ∨ some k ∈ h.edges (idx * 2 + 1)

/-- what an iteration of the `TidyEdges(idx)` loop leaves alone: the points, every other list up to nulled entries, the set of
entries of the side (it can only shrink), and `prev` of every node that is not an entry of the side -/
structure SideFrame (idx : Nat) (h h' : Heap) : Prop where
  pt : h'.pt = h.pt
  others : ∀ e, e ≠ idx * 2 → e ≠ idx * 2 + 1 → Below (h'.edges e) (h.edges e)
  mem : ∀ k, SideMem idx h' k → SideMem idx h k
  prev : ∀ k, ¬ SideMem idx h k → h'.prev k = h.prev k

theorem SideFrame.refl (idx : Nat) (h : Heap) : SideFrame idx h h :=
  ⟨rfl, fun _ _ _ => Below.refl _, fun _ hk => hk, fun _ _ => rfl⟩

theorem pt_eq_of_coords (idx : Nat) (p q : Pt) (h1 : othOf idx p = othOf idx q) (h2 : axisOf idx p = axisOf idx q) : p = q := by
  unfold othOf at h1; unfold axisOf at h2
  cases p; cases q
  split at h1 <;> simp_all

theorem isLarger_eq (idx : Nat) (h : Heap) (k : Nat) :
    isLarger (idx == 1 || idx == 3) h k = decide (axisOf idx (h.pt k) > axisOf idx (h.pt (h.prev k))) := by
  unfold isLarger axisOf
  split <;> rfl

/-- the direction test of the relisting step, read as a direction of the link `prev k → k` -/
theorem dirOK_of_isLarger (idx : Nat) (h : Heap) (k : Nat) (fwd : Bool) :
    (isLarger (idx == 1 || idx == 3) h k = fwd → dirOK fwd (axisOf idx (h.pt (h.prev k))) (axisOf idx (h.pt k))) ∧
    (isLarger (idx == 1 || idx == 3) h k ≠ fwd → dirOK (!fwd) (axisOf idx (h.pt (h.prev k))) (axisOf idx (h.pt k))) := by
  rw [isLarger_eq]
  cases fwd <;> simp [dirOK] <;> omega

theorem hasOverlap_iff (idx : Nat) (h : Heap) (p1 p1a p2 p2a : Nat) :
    hasOverlap (idx == 1 || idx == 3) h p1 p1a p2 p2a = true ↔
      axisOf idx (h.pt p1) < axisOf idx (h.pt p2a) ∧ axisOf idx (h.pt p1a) > axisOf idx (h.pt p2) := by
  unfold hasOverlap axisOf Gen.HasHorzOverlap Gen.HasVertOverlap
  split <;> simp

theorem zeroLen_none (h : Heap) : zeroLen h none = 0 := rfl

theorem zeroLen_congr (h h' : Heap) (hpt : h'.pt = h.pt) (k : Nat) (hp : h'.prev k = h.prev k) :
    zeroLen h' (some k) = zeroLen h (some k) := by
  simp only [zeroLen, hpt, hp]

theorem zeroLen_le_one (h : Heap) (e : Option Nat) : zeroLen h e ≤ 1 := by
  cases e with
  | none => exact Nat.zero_le _
  | some k => simp only [zeroLen]; split <;> omega

/-- a zero-length link has both ends at the same place along the axis; for a link across the axis the converse holds -/
theorem zeroLen_axis (idx : Nat) (h : Heap) (k : Nat) :
    (zeroLen h (some k) = 1 → axisOf idx (h.pt k) = axisOf idx (h.pt (h.prev k))) ∧
    (othOf idx (h.pt k) = othOf idx (h.pt (h.prev k)) → axisOf idx (h.pt k) = axisOf idx (h.pt (h.prev k)) →
      zeroLen h (some k) = 1) := by
  simp only [zeroLen]
  constructor
  · intro hz; split at hz
    · rename_i e; rw [e]
    · cases hz
  · intro h1 h2; rw [if_pos (pt_eq_of_coords idx _ _ h1 h2)]

/-- nulling entries of two lists keeps "no node occurs twice in them" -/
theorem once_below {l1 l1' l2 l2' : List (Option Nat)} (b1 : Below l1' l1) (b2 : Below l2' l2) (k : Nat)
    (h : occ k l1 + occ k l2 ≤ 1) : occ k l1' + occ k l2' ≤ 1 := by
  have e1 : occ k l1' ≤ occ k l1 := b1.wsum_le _ (by simp)
  have e2 : occ k l2' ≤ occ k l2 := b2.wsum_le _ (by simp)
  omega

/-- nulling entries of the two lists (nothing else changes) keeps the invariant and does not increase `P` -/
theorem sideInv_below (idx : Nat) (h h' : Heap) (si : SideInv idx h) (sr : SameRings h h')
    (b1 : Below (h'.edges (idx * 2)) (h.edges (idx * 2))) (b2 : Below (h'.edges (idx * 2 + 1)) (h.edges (idx * 2 + 1))) :
    SideInv idx h' ∧ tidyP idx h' ≤ tidyP idx h := by
  obtain ⟨s1, s2, s3, s4, s5, s6⟩ := sr
  obtain ⟨c, hc⟩ := si.line
  constructor
  · refine ⟨⟨c, fun k hk => ?_⟩, fun k hk => ?_, fun k hk => ?_, fun k => ?_⟩
    · rw [s2, s4]; exact hc k (hk.imp b1.mem b2.mem)
    · rw [s2, s4]; exact si.cwd k (b1.mem hk)
    · rw [s2, s4]; exact si.ccwd k (b2.mem hk)
    · exact once_below b1 b2 k (si.once k)
  · rw [tidyP_eq, tidyP_eq]
    have hz : zeroLen h' = zeroLen h := by
      funext e; cases e with
      | none => rfl
      | some k => simp only [zeroLen, s2, s4]
    have hl : axisLen idx h' h'.n = axisLen idx h h.n := by
      rw [s1]; exact axisLen_congr idx h h' s2 h.n (fun k _ => by rw [s4])
    rw [hz, hl]
    have e1 := b1.wsum_le (zeroLen h) rfl
    have e2 := b2.wsum_le (zeroLen h) rfl
    omega

theorem SideInv.ne {idx : Nat} {h : Heap} (si : SideInv idx h) {a b : Nat} (ha : some a ∈ h.edges (idx * 2))
    (hb : some b ∈ h.edges (idx * 2 + 1)) : a ≠ b := by
  rintro rfl
  have := si.once a
  have := (occ_pos_iff a _).mpr ha
  have := (occ_pos_iff a _).mpr hb
  omega

/-- the entry at position `i` of a list of a side occurs nowhere else in the two lists -/
theorem once_elsewhere {l l' : List (Option Nat)} (once : ∀ k, occ k l + occ k l' ≤ 1) {i X : Nat} (hX : l[i]? = some (some X)) :
    some X ∉ l.set i none ∧ some X ∉ l' := by
  have := once X
  have := occ_set_none X l i X hX
  rw [if_pos rfl] at this
  constructor
  · rw [← occ_zero_iff]; omega
  · rw [← occ_zero_iff]; omega

theorem natAbs_sub_comm (a b : Int) : (a - b).natAbs = (b - a).natAbs := by
  rw [← Int.natAbs_neg, Int.neg_sub]

/-- the arithmetic of one split/rejoin: `u, v` = axis coordinates of `prev cw[i]`, `cw[i]`; `w, x` = those of `ccw[j]`,
`prev ccw[j]`; afterwards the two `prev` are swapped.  Two links of positive length lose twice their overlap, which pays for the
one zero-length entry `e` that may arise; if one of them has length zero (`za`, `zb`), the total length stays and no new link has
length zero. -/
theorem splice_arith (fwd : Bool) (u v w x : Int) (d1 : dirOK fwd u v) (d2 : dirOK (!fwd) x w)
    (ov : if fwd then u < x ∧ v > w else v < w ∧ u > x) (e za zb : Nat) (he : e ≤ 1) (he0 : v ≠ x → w ≠ u → e = 0)
    (hza : v = u → 1 ≤ za) (hzb : w = x → 1 ≤ zb) :
    (v - x).natAbs + (w - u).natAbs + e + 1 ≤ (v - u).natAbs + (w - x).natAbs + za + zb := by
  -- both links heading towards larger values; the other orientation is its mirror image
  have fwd_case : ∀ u v w x : Int, u ≤ v → w ≤ x → u < x → w < v → (v ≠ x → w ≠ u → e = 0) → (v = u → 1 ≤ za) →
      (w = x → 1 ≤ zb) → (v - x).natAbs + (w - u).natAbs + e + 1 ≤ (v - u).natAbs + (w - x).natAbs + za + zb := by
    intros; omega
  cases fwd with
  | true => exact fwd_case u v w x d1 d2 ov.1 ov.2 he0 hza hzb
  | false =>
    have := fwd_case v u x w d1 d2 ov.1 ov.2 (fun a b => he0 (Ne.symm b) (Ne.symm a)) (fun a => hza a.symm) (fun a => hzb a.symm)
    rw [natAbs_sub_comm u w, natAbs_sub_comm x v, natAbs_sub_comm u v, natAbs_sub_comm x w] at this
    rw [Nat.add_comm (v - x).natAbs]
    exact this

/-- the nodes the relisting step writes into the lists carry at most one zero-length link between them, and none if neither of
the two nodes it was given has one (it may write both only if neither has) -/
theorem RelistOut.zero_placed {cwE ccwE : Nat} {cwTL isHorz : Bool} {h5 : Heap} {i j op op2 : Nat} {s' : TState}
    {pcw pccw : List Nat} (ro : RelistOut cwE ccwE cwTL isHorz h5 i j op op2 s' pcw pccw) :
    psum (zeroLen h5) pcw + psum (zeroLen h5) pccw ≤ 1 ∧
      (zeroLen h5 (some op) ≠ 1 → zeroLen h5 (some op2) ≠ 1 → psum (zeroLen h5) pcw + psum (zeroLen h5) pccw = 0) := by
  have b1 := zeroLen_le_one h5 (some op)
  have b2 := zeroLen_le_one h5 (some op2)
  rw [← psum_append]
  rcases ro.placed with e | e | ⟨e, hp1, hp2⟩
  · rw [e, psum_cons, psum_nil]; omega
  · rw [e, psum_cons, psum_nil]; omega
  · have z1 : zeroLen h5 (some op) = 0 := if_neg hp1
    have z2 : zeroLen h5 (some op2) = 0 := if_neg hp2
    rcases e with e | e
    · rw [e, psum_cons, psum_cons, psum_nil, z1, z2]; omega
    · rw [e, psum_cons, psum_cons, psum_nil, z1, z2]; omega

/-- the relisting step adds to the two lists at most the two nodes it was given -/
theorem RelistOut.sums_le {cwE ccwE : Nat} {cwTL isHorz : Bool} {h5 : Heap} {i j op op2 : Nat} {s' : TState}
    {pcw pccw : List Nat} (ro : RelistOut cwE ccwE cwTL isHorz h5 i j op op2 s' pcw pccw) (f : Option Nat → Nat)
    (hf : f none = 0) : wsum f (s'.h.edges cwE) + wsum f (s'.h.edges ccwE) ≤
      wsum f ((h5.edges cwE).set i none) + wsum f ((h5.edges ccwE).set j none) + f (some op) + f (some op2) := by
  have := ro.sums f hf
  have : psum f pcw + psum f pccw ≤ f (some op) + f (some op2) := by
    rw [← psum_append]
    rcases ro.placed with e | e | ⟨e | e, _⟩ <;> rw [e] <;> simp only [psum_cons, psum_nil] <;> omega
  omega

/-- bookkeeping of `P` across a split/rejoin: `A`, `A5` total lengths, `a b` / `a' b'` lengths of the two links before / after, `S`
sums of zero-length flags over the lists, `R` over the lists without the two entries, `p` over the placed nodes -/
theorem p_drop {A A5 a b a' b' S1 S2 Sa Sb R1 R2 p1 p2 z1 z2 : Nat} (hL : A5 + a + b = A + a' + b')
    (ar : a' + b' + (p1 + p2) + 1 ≤ a + b + z1 + z2) (hs : Sa + Sb ≤ R1 + R2 + p1 + p2) (t1 : R1 + z1 = S1) (t2 : R2 + z2 = S2) :
    A5 + Sa + Sb + 1 ≤ A + S1 + S2 := by
  omega

/-- **Effect of one split/rejoin on the invariant and on `P`.**  `h5` is the heap after `tidySplice` (`cw[i]` and `ccw[j]` have
exchanged their predecessors, nothing else that matters here changes), `s'` the state after the relisting step. -/
theorem splice_side (idx : Nat) (h h5 : Heap) (si : SideInv idx h) (i j cwI ccwJ op op2 : Nat)
    (hci : (h.edges (idx * 2))[i]? = some (some cwI)) (hcj : (h.edges (idx * 2 + 1))[j]? = some (some ccwJ))
    (hlt1 : cwI < h.n) (hlt2 : ccwJ < h.n)
    (hov : if (idx == 1 || idx == 2) then
        axisOf idx (h.pt (h.prev cwI)) < axisOf idx (h.pt (h.prev ccwJ)) ∧ axisOf idx (h.pt cwI) > axisOf idx (h.pt ccwJ)
      else axisOf idx (h.pt cwI) < axisOf idx (h.pt ccwJ) ∧ axisOf idx (h.pt (h.prev cwI)) > axisOf idx (h.pt (h.prev ccwJ)))
    (fr : SpliceFrame h h5 cwI ccwJ) (hops : (op = cwI ∧ op2 = ccwJ) ∨ (op = ccwJ ∧ op2 = cwI))
    (s' : TState) (pcw pccw : List Nat)
    (ro : RelistOut (idx * 2) (idx * 2 + 1) (idx == 1 || idx == 2) (idx == 1 || idx == 3) h5 i j op op2 s' pcw pccw) :
    SideInv idx s'.h ∧ tidyP idx s'.h + 1 ≤ tidyP idx h ∧
      tidyP idx s'.h + (s'.h.edges (idx * 2)).length + (s'.h.edges (idx * 2 + 1)).length ≤
        tidyP idx h + (h.edges (idx * 2)).length + (h.edges (idx * 2 + 1)).length ∧ SideFrame idx h s'.h := by
  obtain ⟨c, hc⟩ := si.line
  have mcw : some cwI ∈ h.edges (idx * 2) := List.mem_of_getElem? hci
  have mccw : some ccwJ ∈ h.edges (idx * 2 + 1) := List.mem_of_getElem? hcj
  -- cw[i] and ccw[j] occur nowhere else
  have u1 := once_elsewhere si.once hci
  have u2 := once_elsewhere (fun k => Nat.add_comm _ _ ▸ si.once k) hcj
  have hne : cwI ≠ ccwJ := si.ne mcw mccw
  have p1 : h5.prev cwI = h.prev ccwJ := fr.prev_left hne
  have p2 : h5.prev ccwJ = h.prev cwI := fr.prev_right
  have fpt : s'.h.pt = h.pt := ro.same.2.1.trans fr.pt
  have fprev : s'.h.prev = h5.prev := ro.same.2.2.2.1
  -- an entry of the new lists is an old entry at another position, with its old link, or one of the two nodes
  have rest : ∀ k, some k ∈ (h.edges (idx * 2)).set i none ∨ some k ∈ (h.edges (idx * 2 + 1)).set j none →
      h5.prev k = h.prev k := by
    intro k hk
    refine fr.prev_other ?_ ?_ <;> rintro rfl
    · exact hk.elim u1.1 (fun m => u1.2 (mem_of_mem_set_none m))
    · exact hk.elim (fun m => u2.2 (mem_of_mem_set_none m)) u2.1
  have two : ∀ k, k ∈ pcw ∨ k ∈ pccw → k = cwI ∨ k = ccwJ := by
    intro k hk
    have := ro.placed_sub (List.mem_append.mpr hk)
    rcases hops with ⟨rfl, rfl⟩ | ⟨rfl, rfl⟩
    · exact this
    · exact this.symm
  have line1 := hc cwI (Or.inl mcw)
  have line2 := hc ccwJ (Or.inr mccw)
  have hframe : SideFrame idx h s'.h := by
    refine ⟨fpt, fun e e1 e2 => fr.edges ▸ ro.others e e1 e2, fun k hk => ?_, fun k hk => ?_⟩
    · have : (some k ∈ h.edges (idx * 2) ∨ some k ∈ h.edges (idx * 2 + 1)) ∨ (k = cwI ∨ k = ccwJ) := by
        rcases hk with hk | hk
        · exact (ro.memcw k hk).imp (fun m => Or.inl (mem_of_mem_set_none (fr.edges ▸ m))) (fun m => two k (Or.inl m))
        · exact (ro.memccw k hk).imp (fun m => Or.inr (mem_of_mem_set_none (fr.edges ▸ m))) (fun m => two k (Or.inr m))
      rcases this with m | rfl | rfl
      · exact m
      · exact Or.inl mcw
      · exact Or.inr mccw
    · rw [fprev]
      exact fr.prev_other (fun e => hk (e ▸ Or.inl mcw)) (fun e => hk (e ▸ Or.inr mccw))
  suffices hmain : SideInv idx s'.h ∧ tidyP idx s'.h + 1 ≤ tidyP idx h by
    have hlens := ro.lens
    -- at most two nodes are written back for the two entries taken out, so `|cw| + |ccw|` grows by at most one — and `P` has dropped
    have hlen2 : (pcw ++ pccw).length ≤ 2 := by
      rcases ro.placed with e | e | ⟨e | e, _⟩ <;> rw [e] <;> simp
    rw [fr.edges] at hlens
    exact ⟨hmain.1, hmain.2, by have := hmain.2; omega, hframe⟩
  refine ⟨⟨⟨c, fun k hk => ?_⟩, fun k hk => ?_, fun k hk => ?_, fun k => ?_⟩, ?_⟩
  · -- every entry and its predecessor lie on the line `c`
    rw [fpt, fprev]
    have : (some k ∈ (h.edges (idx * 2)).set i none ∨ some k ∈ (h.edges (idx * 2 + 1)).set j none) ∨ (k = cwI ∨ k = ccwJ) := by
      rcases hk with hk | hk
      · exact (ro.memcw k hk).imp (fun m => Or.inl (fr.edges ▸ m)) (fun m => two k (Or.inl m))
      · exact (ro.memccw k hk).imp (fun m => Or.inr (fr.edges ▸ m)) (fun m => two k (Or.inr m))
    rcases this with m | rfl | rfl
    · rw [rest k m]; exact hc k (m.imp mem_of_mem_set_none mem_of_mem_set_none)
    · rw [p1]; exact ⟨line1.1, line2.2⟩
    · rw [p2]; exact ⟨line2.1, line1.2⟩
  · -- the links of the `cw` entries head clockwise
    rw [fpt, fprev]
    rcases ro.memcw k hk with m | m
    · rw [rest k (Or.inl (fr.edges ▸ m))]; exact si.cwd k (mem_of_mem_set_none (fr.edges ▸ m))
    · exact fr.pt ▸ (dirOK_of_isLarger idx h5 k _).1 (ro.dcw k m)
  · -- the links of the `ccw` entries head counter-clockwise
    rw [fpt, fprev]
    rcases ro.memccw k hk with m | m
    · rw [rest k (Or.inr (fr.edges ▸ m))]; exact si.ccwd k (mem_of_mem_set_none (fr.edges ▸ m))
    · exact fr.pt ▸ (dirOK_of_isLarger idx h5 k _).2 (ro.dccw k m)
  · -- no node occurs twice: the two entries were taken out before they were written back
    have hs := ro.sums_le (fun e => if e = some k then 1 else 0) rfl
    rw [fr.edges] at hs
    have q1 := occ_set_none k _ i cwI hci
    have q2 := occ_set_none k _ j ccwJ hcj
    have := si.once k
    unfold occ at *
    simp only [Option.some.injEq] at hs
    rcases hops with ⟨rfl, rfl⟩ | ⟨rfl, rfl⟩ <;> omega
  · -- `P` drops: total length and zero-length flags before and after
    rw [tidyP_eq, tidyP_eq]
    have hz : zeroLen s'.h = zeroLen h5 := by
      funext e; cases e with
      | none => rfl
      | some k => simp only [zeroLen, ro.same.2.1, fprev]
    have hl : axisLen idx s'.h s'.h.n = axisLen idx h5 h.n := by
      rw [ro.same.1, fr.n]; exact axisLen_congr idx h5 s'.h ro.same.2.1 h.n (fun k _ => by rw [fprev])
    have hL := axisLen_upd2 idx h h5 fr.pt cwI (h.prev ccwJ) ccwJ (h.prev cwI) hne fr.prev h.n hlt1 hlt2
    rw [hz, hl]
    have hs := ro.sums (zeroLen h5) rfl
    have hpl := ro.zero_placed
    rw [fr.edges] at hs
    -- the other entries keep their links
    have r1 : wsum (zeroLen h5) ((h.edges (idx * 2)).set i none) = wsum (zeroLen h) ((h.edges (idx * 2)).set i none) :=
      wsum_congr fun e he => by
        cases e with
        | none => rfl
        | some k => exact zeroLen_congr h h5 fr.pt k (rest k (Or.inl he))
    have r2 : wsum (zeroLen h5) ((h.edges (idx * 2 + 1)).set j none) = wsum (zeroLen h) ((h.edges (idx * 2 + 1)).set j none) :=
      wsum_congr fun e he => by
        cases e with
        | none => rfl
        | some k => exact zeroLen_congr h h5 fr.pt k (rest k (Or.inr he))
    have t1 := wsum_set (zeroLen h) (h.edges (idx * 2)) i none (some cwI) hci
    have t2 := wsum_set (zeroLen h) (h.edges (idx * 2 + 1)) j none (some ccwJ) hcj
    simp only [zeroLen_none, Nat.add_zero] at t1 t2
    rw [r1, r2] at hs
    -- zero-length status of the two nodes, before and after
    have zc := (zeroLen_axis idx h cwI).2 (line1.1.trans line1.2.symm)
    have zj := (zeroLen_axis idx h ccwJ).2 (line2.1.trans line2.2.symm)
    have zc5 := (zeroLen_axis idx h5 cwI).1
    have zj5 := (zeroLen_axis idx h5 ccwJ).1
    rw [fr.pt, p1] at zc5
    rw [fr.pt, p2] at zj5
    have fl : psum (zeroLen h5) pcw + psum (zeroLen h5) pccw ≤ 1 ∧ (zeroLen h5 (some cwI) ≠ 1 → zeroLen h5 (some ccwJ) ≠ 1 →
        psum (zeroLen h5) pcw + psum (zeroLen h5) pccw = 0) := by
      rcases hops with ⟨rfl, rfl⟩ | ⟨rfl, rfl⟩
      · exact hpl
      · exact ⟨hpl.1, fun z1 z2 => hpl.2 z2 z1⟩
    have ar := splice_arith (idx == 1 || idx == 2) (axisOf idx (h.pt (h.prev cwI))) (axisOf idx (h.pt cwI))
      (axisOf idx (h.pt ccwJ)) (axisOf idx (h.pt (h.prev ccwJ))) (si.cwd cwI mcw) (si.ccwd ccwJ mccw) hov
      (psum (zeroLen h5) pcw + psum (zeroLen h5) pccw) (zeroLen h (some cwI)) (zeroLen h (some ccwJ))
      fl.1 (fun e1 e2 => fl.2 (fun z => e1 (zc5 z)) (fun z => e2 (zj5 z)))
      (fun e => Nat.le_of_eq (zc e).symm) (fun e => Nat.le_of_eq (zj e).symm)
    exact p_drop hL ar hs t1 t2

theorem tidyStep_measure (idx : Nat) (s : TState) (ring : Nat → List Nat) (inv : TInv s.h ring) (si : SideInv idx s.h)
    (hj : s.j ≤ (s.h.edges (idx * 2 + 1)).length) :
    tidyStep idx s = .done ∨ ∃ b s', tidyStep idx s = .next b s' ∧ SideInv idx s'.h ∧
      tidyMeasure idx s' < tidyMeasure idx s ∧ SideFrame idx s.h s'.h := by
  refine tidyStep_cases idx s hj (P := fun t => t = .done ∨ ∃ b s', t = .next b s' ∧ SideInv idx s'.h ∧
      tidyMeasure idx s' < tidyMeasure idx s ∧ SideFrame idx s.h s'.h) (Or.inl rfl) (fun hi => Or.inr ?_) (fun hi => Or.inr ?_)
      (fun j hj1 hj2 => Or.inr ?_) ?_
  · -- `cw[i]` is null or `next == prev` there: the entry is nulled and skipped
    have e := edges_setEdge s.h (idx * 2) s.i none
    have sb := sideInv_below idx s.h (s.h.setEdge (idx * 2) s.i none) si (sameRings_setEdge _ _ _ _)
      (by rw [e, if_pos rfl]; exact below_set_none _ _) (by rw [e, if_neg (by omega)]; exact Below.refl _)
    refine ⟨_, _, rfl, sb.1, ?_, rfl, fun e' e1 _ => ?_, fun k hk => ?_, fun _ _ => rfl⟩
    · have l1 : ((s.h.setEdge (idx * 2) s.i none).edges (idx * 2)).length = (s.h.edges (idx * 2)).length := by
        rw [e, if_pos rfl, List.length_set]
      have l2 : ((s.h.setEdge (idx * 2) s.i none).edges (idx * 2 + 1)).length = (s.h.edges (idx * 2 + 1)).length := by
        rw [e, if_neg (by omega)]
      exact tidyMeasure_lt idx s _ sb.2 (by have := sb.2; simp only [l1, l2]; omega) (Or.inr ⟨l1, l2, Or.inl (by simp only [l1]; omega)⟩)
    · rw [e, if_neg e1]; exact Below.refl _
    · refine hk.imp (fun m => ?_) (fun m => ?_)
      · rw [e, if_pos rfl] at m; exact mem_of_mem_set_none m
      · rwa [e, if_neg (by omega)] at m
  · -- no `ccw[j]` left for `cw[i]`: on to `cw[i + 1]`, `j` starts again at 0
    exact ⟨_, _, rfl, si, tidyMeasure_lt idx s _ (Nat.le_refl _) (Nat.le_refl _) (Or.inr ⟨rfl, rfl, Or.inl (by simp only; omega)⟩),
      SideFrame.refl _ _⟩
  · -- `ccw[j]` does not overlap `cw[i]`: on to `j + 1`
    exact ⟨_, _, rfl, si, tidyMeasure_lt idx s _ (Nat.le_refl _) (Nat.le_refl _) (Or.inr ⟨rfl, rfl, Or.inr ⟨rfl, by simp only; omega⟩⟩),
      SideFrame.refl _ _⟩
  · -- split/rejoin of `cw[i]` and `ccw[j]`
    intro cwI ccwJ j hcw hccw _ hov
    have hcm : some cwI ∈ s.h.edges (idx * 2) := List.mem_of_getElem? hcw
    have hjm : some ccwJ ∈ s.h.edges (idx * 2 + 1) := List.mem_of_getElem? hccw
    obtain ⟨scs, hcs⟩ := inv.el _ _ hcm
    obtain ⟨sjs, hjs⟩ := inv.el _ _ hjm
    have hneq : cwI ≠ ccwJ := si.ne hcm hjm
    obtain ⟨h5, rj, ring', e5, -, fr, -⟩ := tidySplice_wf (idx == 1 || idx == 2) s.h ring inv.w cwI ccwJ scs sjs hcs hjs hneq
    obtain ⟨b, s', pcw, pccw, er, ro⟩ := tidyRelist_out (idx * 2) (idx * 2 + 1) (by omega) (idx == 1 || idx == 2) (idx == 1 || idx == 3)
      h5 s.i j (if (idx == 1 || idx == 2) then ccwJ else cwI) (if (idx == 1 || idx == 2) then cwI else ccwJ) rj
      (by rw [fr.edges]; exact (List.getElem?_eq_some_iff.mp hcw).1) (by rw [fr.edges]; exact (List.getElem?_eq_some_iff.mp hccw).1)
    have hov' := (hasOverlap_iff idx s.h _ _ _ _).mp hov
    have ss := splice_side idx s.h h5 si s.i j cwI ccwJ _ _ hcw hccw (inv.w.lt _ _ hcs) (inv.w.lt _ _ hjs)
      (by cases htl : (idx == 1 || idx == 2) <;> simp only [htl, if_true, Bool.false_eq_true, if_false] at hov' ⊢ <;> exact hov')
      fr (by cases (idx == 1 || idx == 2) <;> simp) s' pcw pccw ro
    rw [e5]
    exact Or.inr ⟨b, s', er, ss.1, tidyMeasure_lt idx s s' (Nat.le_of_succ_le ss.2.1) ss.2.2.1 (Or.inl ss.2.1), ss.2.2.2⟩

/-- **Invariant of the eight edge lists**: `SideInv` for each of the four sides, and no node is an entry of two sides -/
structure EdgesOK (h : Heap) : Prop where
  side : ∀ idx, idx < 4 → SideInv idx h
  disj : ∀ idx idx', idx < 4 → idx' < 4 → idx ≠ idx' → ∀ k, SideMem idx h k → ¬ SideMem idx' h k

/-- an iteration of the loop for side `idx` keeps the invariant of all sides -/
theorem edgesOK_step (idx : Nat) (hidx : idx < 4) (h h' : Heap) (ok : EdgesOK h) (fr : SideFrame idx h h')
    (si : SideInv idx h') : EdgesOK h' := by
  have memOther : ∀ a, a ≠ idx → ∀ k, SideMem a h' k → SideMem a h k := fun a ha k hk =>
    hk.imp (fr.others (a * 2) (by omega) (by omega)).mem (fr.others (a * 2 + 1) (by omega) (by omega)).mem
  have memAny : ∀ a, ∀ k, SideMem a h' k → SideMem a h k := by
    intro a k hk
    by_cases ha : a = idx
    · subst ha; exact fr.mem k hk
    · exact memOther a ha k hk
  refine ⟨fun a ha => ?_, fun a b ha hb hab k hk hk2 => ok.disj a b ha hb hab k (memAny a k hk) (memAny b k hk2)⟩
  by_cases e : a = idx
  · subst e; exact si
  · -- the lists of another side only lose entries, and the links of their entries are not touched
    have sa := ok.side a ha
    obtain ⟨c, hc⟩ := sa.line
    have hprev : ∀ k, SideMem a h k → h'.prev k = h.prev k := fun k hk => fr.prev k (ok.disj a idx ha hidx e k hk)
    have b1 := fr.others (a * 2) (by omega) (by omega)
    have b2 := fr.others (a * 2 + 1) (by omega) (by omega)
    refine ⟨⟨c, fun k hk => ?_⟩, fun k hk => ?_, fun k hk => ?_, fun k => ?_⟩
    · rw [fr.pt, hprev k (memOther a e k hk)]; exact hc k (memOther a e k hk)
    · rw [fr.pt, hprev k (Or.inl (b1.mem hk))]; exact sa.cwd k (b1.mem hk)
    · rw [fr.pt, hprev k (Or.inr (b2.mem hk))]; exact sa.ccwd k (b2.mem hk)
    · exact once_below b1 b2 k (sa.once k)

/-- The loop runs out of neither fuel nor luck: with more fuel than the measure it returns.  `I` is any property of the heap that
the iterations keep (`True`, or `EdgesOK`). -/
theorem tidyLoop_terminates (idx : Nat) (I : Heap → Prop)
    (hI : ∀ h h', I h → SideFrame idx h h' → SideInv idx h' → I h') : ∀ (fuel : Nat) (s : TState) (ring : Nat → List Nat),
    TInv s.h ring → SideInv idx s.h → I s.h → s.j ≤ (s.h.edges (idx * 2 + 1)).length → tidyMeasure idx s < fuel →
    ∃ h' bs, tidyLoop idx fuel s = .ok (h', bs) ∧ I h'
  | 0, _, _, _, _, _, _, hf => absurd hf (Nat.not_lt_zero _)
  | fuel + 1, s, ring, inv, si, hi, hj, hf => by
    rcases tidyStep_inv idx s ring inv hj with hd | ⟨b, s', ring', hn, inv', _, _, _, hj'⟩
    · exact ⟨s.h, [], by simp [tidyLoop, hd], hi⟩
    · rcases tidyStep_measure idx s ring inv si hj with hd | ⟨b2, s2, hn2, si2, hm, fr⟩
      · rw [hd] at hn; cases hn
      · rw [hn] at hn2
        simp only [TStep.next.injEq] at hn2
        obtain ⟨_, rfl⟩ := hn2
        obtain ⟨h', bs, hres, hi'⟩ :=
          tidyLoop_terminates idx I hI fuel s' ring' inv' si2 (hI _ _ hi fr si2) hj' (by omega)
        exact ⟨h', b :: bs, by simp [tidyLoop, hn, hres], hi'⟩

/-- **`TidyEdges` terminates** on a well-formed heap whose side lists satisfy `SideInv` (or whose `ccw` list is empty) -/
theorem tidyEdges_total (idx : Nat) (h : Heap) (ring : Nat → List Nat) (inv : TInv h ring)
    (si : h.edges (idx * 2 + 1) = [] ∨ SideInv idx h) : ∃ h', tidyEdges idx h = .ok h' := by
  unfold tidyEdges tidyEdgesB
  split
  · exact ⟨h, rfl⟩
  · rename_i hne
    rcases si with e | si
    · rw [e] at hne; simp at hne
    · obtain ⟨h', bs, hres, _⟩ := tidyLoop_terminates idx (fun _ => True) (fun _ _ _ _ _ => trivial) (tidyFuel idx h) ⟨h, 0, 0⟩
        ring inv si trivial (Nat.zero_le _) (by unfold tidyFuel; omega)
      exact ⟨h', by rw [hres]; rfl⟩

/-- **`TidyEdges(idx)` returns** on a well-formed heap with `EdgesOK`, and keeps `EdgesOK` -/
theorem tidyEdges_global (idx : Nat) (hidx : idx < 4) (h : Heap) (ring : Nat → List Nat) (inv : TInv h ring) (ok : EdgesOK h) :
    ∃ h', tidyEdges idx h = .ok h' ∧ EdgesOK h' := by
  unfold tidyEdges tidyEdgesB
  split
  · exact ⟨h, rfl, ok⟩
  · obtain ⟨h', bs, hres, okf⟩ := tidyLoop_terminates idx EdgesOK (edgesOK_step idx hidx) (tidyFuel idx h) ⟨h, 0, 0⟩ ring inv
      (ok.side idx hidx) ok (Nat.zero_le _) (by unfold tidyFuel; omega)
    exact ⟨h', by rw [hres]; rfl, okf⟩

/-- **the four `TidyEdges` calls of `Execute` return** -/
theorem tidyAll_total (h : Heap) (ring : Nat → List Nat) (inv : TInv h ring) (ok : EdgesOK h) : ∃ h', tidyAll h = .ok h' := by
  obtain ⟨h0, e0, ok0⟩ := tidyEdges_global 0 (by omega) h ring inv ok
  obtain ⟨r0, i0, _⟩ := (tidyEdges_inv 0 h ring inv).1 h0 e0
  obtain ⟨h1, e1, ok1⟩ := tidyEdges_global 1 (by omega) h0 r0 i0 ok0
  obtain ⟨r1, i1, _⟩ := (tidyEdges_inv 1 h0 r0 i0).1 h1 e1
  obtain ⟨h2, e2, ok2⟩ := tidyEdges_global 2 (by omega) h1 r1 i1 ok1
  obtain ⟨r2, i2, _⟩ := (tidyEdges_inv 2 h1 r1 i1).1 h2 e2
  obtain ⟨h3, e3, _⟩ := tidyEdges_global 3 (by omega) h2 r2 i2 ok2
  exact ⟨h3, by simp [tidyAll, e0, e1, e2, e3]⟩

/-- when all `ccw` lists are empty every `TidyEdges` call returns at once -/
theorem tidyAll_trivial (h : Heap) (hccw : ∀ idx, idx < 4 → h.edges (idx * 2 + 1) = []) : tidyAll h = .ok h := by
  have t : ∀ idx, idx < 4 → tidyEdges idx h = .ok h := by
    intro idx hi
    unfold tidyEdges tidyEdgesB
    rw [hccw idx hi]; rfl
  simp [tidyAll, t 0 (by omega), t 1 (by omega), t 2 (by omega), t 3 (by omega)]

end Clipper.Lemmas.RCT

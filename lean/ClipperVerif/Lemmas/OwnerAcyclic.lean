/-
The owner graph of an outrec table: reachability, acyclicity, soundness of `IsValidOwner`,
preservation of acyclicity by the two owner updates of the tree builder (`owner = split` after `IsValidOwner`,
`owner = owner->owner`), a rank bounded by the table size, and fuel sufficiency for the owner-chain walks.
-/
import ClipperVerif.Model.Owner
namespace Clipper.Model.Owner
open Clipper

/-- `Reach T j k`: `k` is on the owner chain of `j` (reflexive) -/
inductive Reach (T : Table) : Nat → Nat → Prop
  | refl (j : Nat) : Reach T j j
  | step {j k o : Nat} {r : OutRec} : T[j]? = some r → r.owner = some o → Reach T o k → Reach T j k

/-- `ReachP T j k`: `k` is on the owner chain of `j` after at least one step -/
def ReachP (T : Table) (j k : Nat) : Prop :=
  ∃ (r : OutRec) (o : Nat), T[j]? = some r ∧ r.owner = some o ∧ Reach T o k

/-- `rank` strictly decreases along every owner link -/
def RankOK (T : Table) (rank : Nat → Nat) : Prop :=
  ∀ (j : Nat) (r : OutRec) (o : Nat), T[j]? = some r → r.owner = some o → rank o < rank j

/-- The owner graph has no cycle. -/
def Acyclic (T : Table) : Prop := ∃ rank : Nat → Nat, RankOK T rank

/-- every stored owner index is an index of the table -/
def OwnersInRange (T : Table) : Prop :=
  ∀ (j : Nat) (r : OutRec) (o : Nat), T[j]? = some r → r.owner = some o → o < T.size

theorem getElem?_lt {T : Table} {j : Nat} {r : OutRec} (h : T[j]? = some r) : j < T.size :=
  (Array.getElem?_eq_some_iff.mp h).1

theorem exists_getElem? {T : Table} {j : Nat} (h : j < T.size) : ∃ r, T[j]? = some r :=
  ⟨_, Array.getElem?_eq_getElem h⟩

theorem Reach.trans {T : Table} {a b c : Nat} (h1 : Reach T a b) (h2 : Reach T b c) : Reach T a c := by
  induction h1 with
  | refl => exact h2
  | step hj ho _ ih => exact Reach.step hj ho (ih h2)

theorem Reach.tail {T : Table} {a b o : Nat} {r : OutRec} (h1 : Reach T a b) (hb : T[b]? = some r)
    (ho : r.owner = some o) : Reach T a o :=
  h1.trans (Reach.step hb ho (Reach.refl o))

theorem Reach.rank_le {T : Table} {rank : Nat → Nat} (hr : RankOK T rank) {a b : Nat} (h : Reach T a b) :
    rank b ≤ rank a := by
  induction h with
  | refl => exact Nat.le_refl _
  | step hj ho _ ih => have := hr _ _ _ hj ho; omega

theorem ReachP.rank_lt {T : Table} {rank : Nat → Nat} (hr : RankOK T rank) {a b : Nat} (h : ReachP T a b) :
    rank b < rank a := by
  obtain ⟨r, o, hj, ho, h⟩ := h
  have := hr _ _ _ hj ho
  have := h.rank_le hr
  omega

theorem Reach.cases_head {T : Table} {a b : Nat} (h : Reach T a b) : a = b ∨ ReachP T a b := by
  cases h with
  | refl => exact Or.inl rfl
  | step hj ho h => exact Or.inr ⟨_, _, hj, ho, h⟩

theorem ReachP.reach {T : Table} {a b : Nat} : ReachP T a b → Reach T a b
  | ⟨_, _, hj, ho, h⟩ => Reach.step hj ho h

theorem ReachP.trans_reach {T : Table} {a b c : Nat} : ReachP T a b → Reach T b c → ReachP T a c
  | ⟨r, o, hj, ho, h⟩, h2 => ⟨r, o, hj, ho, h.trans h2⟩

theorem Acyclic.not_reachP_self {T : Table} (h : Acyclic T) (a : Nat) : ¬ ReachP T a a := by
  obtain ⟨rank, hr⟩ := h
  intro hp
  have := hp.rank_lt hr
  omega

/-- if every owner link of `T'` is a non-empty owner path of `T`, the same rank works for `T'` -/
theorem RankOK.of_edges {T T' : Table} {rank : Nat → Nat} (hr : RankOK T rank)
    (h : ∀ (j : Nat) (r' : OutRec) (o : Nat), T'[j]? = some r' → r'.owner = some o → ReachP T j o) : RankOK T' rank :=
  fun j r' o hj ho => (h j r' o hj ho).rank_lt hr

theorem RankOK.of_same_owner {T T' : Table} {rank : Nat → Nat} (hr : RankOK T rank)
    (h : ∀ (j : Nat) (r' : OutRec), T'[j]? = some r' → ∃ r : OutRec, T[j]? = some r ∧ r.owner = r'.owner) :
    RankOK T' rank := fun j r' o hj ho => by
  obtain ⟨r, hr', hro⟩ := h j r' hj
  exact hr j r o hr' (hro.trans ho)

theorem Acyclic.of_same_owner {T T' : Table} (hA : Acyclic T)
    (h : ∀ (j : Nat) (r' : OutRec), T'[j]? = some r' → ∃ r : OutRec, T[j]? = some r ∧ r.owner = r'.owner) : Acyclic T' :=
  hA.imp fun _ hr => hr.of_same_owner h

/-- `IsValidOwner` answers true only if `outrec` is not on the owner chain of `testOwner` -/
theorem isValidOwner_true {T : Table} {f i t : Nat} (h : isValidOwner T f i (some t) = some true) : ¬ Reach T t i := by
  induction f generalizing t with
  | zero => cases h
  | succ f ih =>
    intro hreach
    simp only [isValidOwner] at h
    split at h
    · cases h
    · rename_i hti
      split at h
      · cases h
      · rename_i r hr
        rcases hreach.cases_head with heq | ⟨r', o, hr', ho, hre⟩
        · exact hti heq
        · cases hr.symm.trans hr'
          exact ih (ho ▸ h) hre

/-- … and false only if it is -/
theorem isValidOwner_false {T : Table} {f i t : Nat} (h : isValidOwner T f i (some t) = some false) : Reach T t i := by
  induction f generalizing t with
  | zero => cases h
  | succ f ih =>
    simp only [isValidOwner] at h
    split at h
    · rename_i hti
      exact hti ▸ Reach.refl t
    · split at h
      · cases h
      · rename_i r hr
        cases ho : r.owner with
        | none => rw [ho] at h; cases f <;> cases h
        | some o => exact Reach.step hr ho (ih (ho ▸ h))

theorem modify_cases {T : Table} {i j : Nat} {g : OutRec → OutRec} {r' : OutRec} (h : (T.modify i g)[j]? = some r') :
    (i = j ∧ ∃ r, T[i]? = some r ∧ r' = g r) ∨ (i ≠ j ∧ T[j]? = some r') := by
  rw [Array.getElem?_modify] at h
  split at h
  · rename_i hij
    subst hij
    cases hT : T[i]? with
    | none => simp [hT] at h
    | some r => rw [hT] at h; cases h; exact Or.inl ⟨rfl, r, rfl, rfl⟩
  · exact Or.inr ⟨‹_›, h⟩

theorem modify_self {T : Table} {i : Nat} {r : OutRec} (g : OutRec → OutRec) (h : T[i]? = some r) :
    (T.modify i g)[i]? = some (g r) := by
  rw [Array.getElem?_modify, if_pos rfl, h]; rfl

theorem modify_ne {T : Table} {i j : Nat} (g : OutRec → OutRec) (h : i ≠ j) : (T.modify i g)[j]? = T[j]? := by
  rw [Array.getElem?_modify, if_neg h]

theorem modify_field {α : Type} {T : Table} {i j : Nat} {g : OutRec → OutRec} {r' : OutRec} (φ : OutRec → α)
    (h : (T.modify i g)[j]? = some r') (hg : ∀ r, φ (g r) = φ r) : ∃ r, T[j]? = some r ∧ φ r = φ r' := by
  rcases modify_cases h with ⟨rfl, r, hr, rfl⟩ | ⟨_, hr⟩
  · exact ⟨r, hr, (hg r).symm⟩
  · exact ⟨r', hr, rfl⟩

/-- `outrec->owner = split` guarded by `IsValidOwner(outrec, split)` -/
theorem Acyclic.set_valid {T : Table} (hA : Acyclic T) {i s : Nat} (hv : ¬ Reach T s i) :
    Acyclic (T.modify i (fun x => { x with owner := some s })) := by
  classical
  obtain ⟨rank, hr⟩ := hA
  -- everything that reaches `i` is lifted above `s`
  refine ⟨fun j => if Reach T j i then rank j + rank s + 1 else rank j, ?_⟩
  intro j r' o hj ho
  rcases modify_cases hj with ⟨rfl, r, _, rfl⟩ | ⟨hij, hTj⟩
  · cases ho
    simp only [if_neg hv, if_pos (Reach.refl i)]
    omega
  · have hlt := hr _ _ _ hTj ho
    by_cases hoi : Reach T o i
    · simp only [if_pos hoi, if_pos (Reach.step hTj ho hoi)]
      omega
    · simp only [if_neg hoi]
      split <;> omega

/-- `outrec->owner = outrec->owner->owner` -/
theorem RankOK.skip_owner {T : Table} {rank : Nat → Nat} (hr : RankOK T rank) {i o : Nat} {ri ro : OutRec}
    (hi : T[i]? = some ri) (hio : ri.owner = some o) (ho : T[o]? = some ro) :
    RankOK (T.modify i (fun x => { x with owner := ro.owner })) rank := by
  refine hr.of_edges ?_
  intro j r' o' hj ho'
  rcases modify_cases hj with ⟨rfl, r, hTj, rfl⟩ | ⟨hij, hTj⟩
  · exact ⟨_, o, hi, hio, Reach.step ho ho' (Reach.refl _)⟩
  · exact ⟨_, o', hTj, ho', Reach.refl _⟩

theorem Acyclic.skip_owner {T : Table} (hA : Acyclic T) {i o : Nat} {ri ro : OutRec}
    (hi : T[i]? = some ri) (hio : ri.owner = some o) (ho : T[o]? = some ro) :
    Acyclic (T.modify i (fun x => { x with owner := ro.owner })) :=
  hA.imp fun _ hr => hr.skip_owner hi hio ho

theorem countP_lt_countP {α : Type} {p q : α → Bool} {l : List α} (h : ∀ x ∈ l, p x = true → q x = true)
    {w : α} (hw : w ∈ l) (hq : q w = true) (hp : p w = false) : l.countP p < l.countP q := by
  induction l with
  | nil => cases hw
  | cons a l ih =>
    have hle := List.countP_mono_left (fun x hx => h x (List.mem_cons_of_mem _ hx))
    simp only [List.countP_cons]
    rcases List.mem_cons.mp hw with rfl | hm
    · simp only [hq, hp, if_true, Bool.false_eq_true, if_false]; omega
    · have := ih (fun x hx => h x (List.mem_cons_of_mem _ hx)) hm
      by_cases hpa : p a = true
      · simp only [hpa, h a (List.mem_cons_self ..) hpa, if_true]; omega
      · rw [if_neg hpa]; split <;> omega

/-- the number of indices `< n` of smaller rank: a rank with values `≤ n`, and `< n` on indices `< n`,
that is still strictly monotone wherever the smaller index is `< n` -/
def normRank (n : Nat) (rk : Nat → Nat) (j : Nat) : Nat := (List.range n).countP (fun k => decide (rk k < rk j))

theorem normRank_le (n : Nat) (rk : Nat → Nat) (j : Nat) : normRank n rk j ≤ n := by
  simpa [normRank] using List.countP_le_length (p := fun k => decide (rk k < rk j)) (l := List.range n)

theorem normRank_lt {n : Nat} {rk : Nat → Nat} {a b : Nat} (hb : b < n) (h : rk b < rk a) :
    normRank n rk b < normRank n rk a := by
  refine countP_lt_countP (w := b) (fun x _ hx => ?_) (List.mem_range.mpr hb) (by simpa using h) (by simp)
  simp only [decide_eq_true_eq] at hx ⊢
  omega

theorem normRank_lt_self {n : Nat} (rk : Nat → Nat) {j : Nat} (hj : j < n) : normRank n rk j < n := by
  have := countP_lt_countP (p := fun k => decide (rk k < rk j)) (q := fun _ => true) (fun _ _ _ => rfl)
    (List.mem_range.mpr hj) rfl (by simp)
  simpa [normRank] using this

theorem Acyclic.small_rank {T : Table} (hA : Acyclic T) (hO : OwnersInRange T) :
    ∃ rank : Nat → Nat, RankOK T rank ∧ (∀ j, rank j ≤ T.size) ∧ ∀ j, j < T.size → rank j < T.size := by
  obtain ⟨rank, hr⟩ := hA
  exact ⟨normRank T.size rank, fun j r o hj ho => normRank_lt (hO j r o hj ho) (hr j r o hj ho),
    normRank_le _ _, fun _ => normRank_lt_self _⟩

theorem Acyclic.bounded {T : Table} (hA : Acyclic T) (hO : OwnersInRange T) :
    ∃ rank : Nat → Nat, RankOK T rank ∧ ∀ j, rank j ≤ T.size := by
  obtain ⟨rank, hr, hb, _⟩ := hA.small_rank hO
  exact ⟨rank, hr, hb⟩

/-- fuel for the owner-chain walks: the rank of the current outrec, plus two -/
theorem isValidOwner_total {T : Table} {rank : Nat → Nat} (hr : RankOK T rank) (hO : OwnersInRange T) (i : Nat) :
    ∀ (f t : Nat), t < T.size → rank t + 2 ≤ f → ∃ b, isValidOwner T f i (some t) = some b := by
  intro f
  induction f with
  | zero => intro t _ hf; omega
  | succ f ih =>
    intro t ht hf
    obtain ⟨r, hTt⟩ := exists_getElem? ht
    rw [isValidOwner]
    split
    · exact ⟨_, rfl⟩
    · simp only [hTt]
      cases hown : r.owner with
      | none =>
        obtain ⟨g, rfl⟩ : ∃ g, f = g + 1 := ⟨f - 1, by omega⟩
        exact ⟨true, rfl⟩
      | some o =>
        have := hr _ _ _ hTt hown
        exact ih o (hO _ _ _ hTt hown) (by omega)

theorem getRealOutRec_total {T : Table} {rank : Nat → Nat} (hr : RankOK T rank) (hO : OwnersInRange T) :
    ∀ (f t : Nat), t < T.size → rank t + 2 ≤ f → ∃ o, getRealOutRec T f (some t) = some o := by
  intro f
  induction f with
  | zero => intro t _ hf; omega
  | succ f ih =>
    intro t ht hf
    obtain ⟨r, hTt⟩ := exists_getElem? ht
    simp only [getRealOutRec, hTt]
    split
    · exact ⟨_, rfl⟩
    · cases hown : r.owner with
      | none =>
        obtain ⟨g, rfl⟩ : ∃ g, f = g + 1 := ⟨f - 1, by omega⟩
        exact ⟨none, rfl⟩
      | some o =>
        have := hr _ _ _ hTt hown
        exact ih o (hO _ _ _ hTt hown) (by omega)

theorem isValidOwner_fuel {T : Table} (hA : Acyclic T) (hO : OwnersInRange T) (i t : Nat) (ht : t < T.size) :
    ∃ b, isValidOwner T (T.size + 1) i (some t) = some b := by
  obtain ⟨rank, hr, _, hb⟩ := hA.small_rank hO
  exact isValidOwner_total hr hO i _ t ht (by have := hb t ht; omega)

theorem getRealOutRec_fuel {T : Table} (hA : Acyclic T) (hO : OwnersInRange T) (t : Nat) (ht : t < T.size) :
    ∃ o, getRealOutRec T (T.size + 1) (some t) = some o := by
  obtain ⟨rank, hr, _, hb⟩ := hA.small_rank hO
  exact getRealOutRec_total hr hO _ t ht (by have := hb t ht; omega)

end Clipper.Model.Owner

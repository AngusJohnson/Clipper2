/- Lemmas for Props/C20.lean: the two loops of `StripDuplicates`/`StripNearEqual` (`stripAux`, `popBackRev`) and their
defining equation; `GetBounds` as four independent running extremes. -/
import ClipperVerif.Lemmas.PathUtil
namespace Clipper.Lemmas.PathUtil
open Clipper Clipper.Model.PathUtil

/-- no vertex is `eqv` to the vertex before it -/
def NoAdj (eqv : Pt → Pt → Bool) : List Pt → Prop
  | u :: v :: t => eqv v u = false ∧ NoAdj eqv (v :: t)
  | _ => True

theorem stripAux_noAdj (eqv : Pt → Pt → Bool) (last : Pt) (l : List Pt) :
    NoAdj eqv (last :: stripAux eqv last l) := by
  induction l generalizing last with
  | nil => simp [stripAux, NoAdj]
  | cons b rest ih =>
    simp only [stripAux]
    split
    · exact ih last
    · rename_i h
      exact ⟨by simpa using h, ih b⟩

theorem stripAux_sublist (eqv : Pt → Pt → Bool) (last : Pt) (l : List Pt) :
    List.Sublist (stripAux eqv last l) l := by
  induction l generalizing last with
  | nil => simp [stripAux]
  | cons b rest ih =>
    simp only [stripAux]
    split
    · exact List.Sublist.cons _ (ih last)
    · exact List.Sublist.cons_cons _ (ih b)

theorem popBackRev_suffix (eqv : Pt → Pt → Bool) (first : Pt) (l : List Pt) :
    popBackRev eqv first l <:+ l := by
  fun_induction popBackRev eqv first l with
  | case1 z y rest h ih => exact List.IsSuffix.trans ih (List.suffix_cons _ _)
  | case2 z y rest h => exact List.suffix_refl _
  | case3 l h => exact List.suffix_refl _

theorem popBackRev_getLast (eqv : Pt → Pt → Bool) (first : Pt) (l : List Pt) :
    (popBackRev eqv first l).getLast? = l.getLast? := by
  fun_induction popBackRev eqv first l with
  | case1 z y rest h ih => rw [ih, List.getLast?_cons_cons]
  | case2 z y rest h => rfl
  | case3 l h => rfl

/-- after the closing loop either at most one vertex is left or the last vertex is not `eqv` to the first -/
theorem popBackRev_head (eqv : Pt → Pt → Bool) (first : Pt) (l : List Pt) :
    (popBackRev eqv first l).length ≤ 1 ∨
      ∃ z, (popBackRev eqv first l).head? = some z ∧ eqv z first = false := by
  fun_induction popBackRev eqv first l with
  | case1 z y rest h ih => exact ih
  | case2 z y rest h => exact Or.inr ⟨z, rfl, by simpa using h⟩
  | case3 l h =>
    match l, h with
    | [], _ => exact Or.inl (by simp)
    | [a], _ => exact Or.inl (by simp)
    | z :: y :: rest, h => exact absurd rfl (h z y rest)

theorem NoAdj_prefix (eqv : Pt → Pt → Bool) (l₁ l₂ : List Pt) (h : l₁ <+: l₂) (hn : NoAdj eqv l₂) :
    NoAdj eqv l₁ := by
  obtain ⟨t, rfl⟩ := h
  induction l₁ with
  | nil => simp [NoAdj]
  | cons a l ih =>
    cases l with
    | nil => simp [NoAdj]
    | cons b l' =>
      simp only [List.cons_append, NoAdj] at hn ⊢
      exact ⟨hn.1, ih hn.2⟩

theorem stripGen_prefix (eqv : Pt → Pt → Bool) (a : Pt) (rest : List Pt) :
    stripGen eqv (a :: rest) true <+: stripGen eqv (a :: rest) false := by
  simp only [stripGen, if_true, Bool.false_eq_true, if_false]
  have := popBackRev_suffix eqv a (a :: stripAux eqv a rest).reverse
  rw [← List.reverse_prefix, List.reverse_reverse] at this
  exact this

theorem stripAux_eq_filterMap (last : Pt) (l : List Pt) :
    stripAux (fun a b => decide (a = b)) last l
      = ((last :: l).zip l).filterMap (fun q => if q.1 != q.2 then some q.2 else none) := by
  induction l generalizing last with
  | nil => simp [stripAux]
  | cons b rest ih =>
    simp only [stripAux, List.zip_cons_cons, List.filterMap_cons]
    by_cases h : b = last
    · subst h; simp [ih]
    · have h' : (last != b) = true := by simp; exact fun e => h e.symm
      simp [h, h', ih]

theorem popBackRev_eq_dropWhile (a : Pt) (r : List Pt) (h : r.getLast? = some a) :
    popBackRev (fun x y => decide (x = y)) a r
      = if (r.dropWhile (· == a)).isEmpty then [a] else r.dropWhile (· == a) := by
  fun_induction popBackRev (fun x y => decide (x = y)) a r with
  | case1 z y rest hz ih =>
    have hz' : z = a := by simpa using hz
    rw [ih (by rw [← h, List.getLast?_cons_cons])]
    subst hz'; simp [List.dropWhile_cons]
  | case2 z y rest hz =>
    have hz' : ¬ z = a := by simpa using hz
    simp [hz']
  | case3 l hl =>
    match l, hl, h with
    | [], _, h => simp at h
    | [b], _, h =>
      simp only [List.getLast?_singleton, Option.some.injEq] at h
      subst h; simp
    | z :: y :: rest, hl, _ => exact absurd rfl (hl z y rest)

/-- the running minimum and maximum of `f` over the vertices, as the loop of `GetBounds` keeps them -/
def foldMin (f : Pt → Int) (p : List Pt) (m : Int) : Int := p.foldl (fun m q => if f q < m then f q else m) m
def foldMax (f : Pt → Int) (p : List Pt) (m : Int) : Int := p.foldl (fun m q => if f q > m then f q else m) m

/-- the four sides of the rectangle are computed independently of each other -/
theorem bounds_fold_eq (p : List Pt) (r0 : Rect) :
    p.foldl boundsStep r0 = ⟨foldMin (·.x) p r0.left, foldMin (·.y) p r0.top,
      foldMax (·.x) p r0.right, foldMax (·.y) p r0.bottom⟩ := by
  induction p generalizing r0 with
  | nil => rfl
  | cons a t ih => rw [List.foldl_cons, ih]; rfl

/-- the result is below the start value and below `f` at every vertex, and it is attained unless it is the start value -/
theorem foldMin_spec (f : Pt → Int) (p : List Pt) (m : Int) :
    foldMin f p m ≤ m ∧ (∀ q ∈ p, foldMin f p m ≤ f q) ∧ (foldMin f p m = m ∨ ∃ q ∈ p, f q = foldMin f p m) := by
  induction p generalizing m with
  | nil => exact ⟨Int.le_refl _, nofun, Or.inl rfl⟩
  | cons a t ih =>
    have hm : (if f a < m then f a else m) ≤ m ∧ (if f a < m then f a else m) ≤ f a ∧
        ((if f a < m then f a else m) = f a ∨ (if f a < m then f a else m) = m) := by split <;> omega
    rw [show foldMin f (a :: t) m = foldMin f t (if f a < m then f a else m) from rfl]
    generalize (if f a < m then f a else m) = m' at hm
    obtain ⟨h1, h2, h3⟩ := ih m'
    refine ⟨by omega, fun q hq => ?_, ?_⟩
    · rcases List.mem_cons.mp hq with rfl | hq
      · omega
      · exact h2 q hq
    · rcases h3 with h3 | ⟨q, hq, e⟩
      · exact hm.2.2.elim (fun e => Or.inr ⟨a, List.mem_cons_self, by omega⟩) (fun e => Or.inl (by omega))
      · exact Or.inr ⟨q, List.mem_cons_of_mem _ hq, e⟩

/-- the running maximum is the running minimum of the negated values -/
theorem foldMax_eq_neg_foldMin (f : Pt → Int) (p : List Pt) (m : Int) :
    foldMax f p m = -foldMin (fun q => -f q) p (-m) := by
  induction p generalizing m with
  | nil => exact (Int.neg_neg m).symm
  | cons a t ih =>
    rw [show foldMax f (a :: t) m = foldMax f t (if f a > m then f a else m) from rfl, ih,
      show foldMin (fun q => -f q) (a :: t) (-m) = foldMin (fun q => -f q) t (if -f a < -m then -f a else -m) from rfl]
    congr 2
    split <;> split <;> omega

theorem foldMax_spec (f : Pt → Int) (p : List Pt) (m : Int) :
    m ≤ foldMax f p m ∧ (∀ q ∈ p, f q ≤ foldMax f p m) ∧ (foldMax f p m = m ∨ ∃ q ∈ p, f q = foldMax f p m) := by
  obtain ⟨h1, h2, h3⟩ := foldMin_spec (fun q => -f q) p (-m)
  rw [foldMax_eq_neg_foldMin]
  exact ⟨by omega, fun q hq => by have := h2 q hq; omega,
    h3.imp (fun h => by omega) fun ⟨q, hq, e⟩ => ⟨q, hq, by omega⟩⟩

end Clipper.Lemmas.PathUtil

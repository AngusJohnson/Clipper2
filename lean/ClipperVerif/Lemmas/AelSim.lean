/- Symmetry lemmas of the AEL bookkeeping model (C13): exchange of path types, negation of directions. -/
import ClipperVerif.Lemmas.Ael
namespace Clipper.Model

def flipFr : FillRule → FillRule
  | .positive => .negative
  | .negative => .positive
  | fr => fr

theorem inFill_neg (fr : FillRule) (w : Int) : inFill (flipFr fr) (-w) = inFill fr w := by
  cases fr <;> simp only [flipFr, inFill, Int.neg_emod_two, ne_eq, Int.neg_eq_zero, Int.neg_pos, gt_iff_lt, Int.neg_neg_iff_pos]

def AllClosed (l : List Edge) : Prop := ∀ x ∈ l, x.isOpen = false

/-- operations that occur when only closed paths are present -/
def OpClosed : Op → Prop
  | .insertPair _ _ o _ => o = false
  | .insertOne _ _ _ => False
  | .removeOne _ => False
  | _ => True

theorem allClosed_append (l1 l2 : List Edge) : AllClosed (l1 ++ l2) ↔ AllClosed l1 ∧ AllClosed l2 :=
  List.forall_mem_append

theorem allClosed_step (cfg : Cfg) (l l' : Ael) (op : Op) (hl : AllClosed l) (hop : OpClosed op)
    (hs : step cfg l op = some l') : AllClosed l' := by
  obtain ⟨pre, mid, mid', rest, rfl, rfl, hW⟩ := step_iff.mp hs
  simp only [allClosed_append] at hl ⊢
  refine ⟨hl.1, ?_, hl.2.2⟩
  have hm := hl.2.1
  cases hW with
  | insertPair pt o dx hdx lb hlb hpt ho hd =>
    exact List.forall_mem_cons.mpr ⟨ho.trans hop, List.forall_mem_cons.mpr ⟨hop, fun _ h => nomatch h⟩⟩
  | insertOne pt dx hdx e he hpt ho => exact hop.elim
  | intersect e1 e2 =>
    obtain ⟨-, f2, -, -, f5, -⟩ := intersectPair_fields cfg e1 e2
    exact List.forall_mem_cons.mpr ⟨f5.trans (hm e2 (by simp)),
      List.forall_mem_cons.mpr ⟨f2.trans (hm e1 (by simp)), fun _ h => nomatch h⟩⟩
  | removePair e1 e2 hc => exact fun _ h => nomatch h
  | removeOne e ho => exact fun _ h => nomatch h

/-- A symmetry of the model on sweeps with closed paths only: a map `f` of edges (with the operations mapped by `g`, the
configuration going from `cfg` to `cfg'`) that commutes with the insertion of a local minimum and with `IntersectEdges`, and
respects what makes two edges a maxima pair. -/
structure EdgeSym (cfg cfg' : Cfg) (f : Edge → Edge) (g : Op → Op) : Prop where
  intersect : ∀ i, g (.intersect i) = .intersect i
  removePair : ∀ i, g (.removePair i) = .removePair i
  insertPair : ∀ pos pt dx l, step cfg' (l.map f) (g (.insertPair pos pt false dx)) =
    (Model.insertPair cfg pos pt false dx l).map (List.map f)
  pair : ∀ e1 e2, e1.isOpen = false → e2.isOpen = false →
    intersectPair cfg' (f e1) (f e2) = (f (intersectPair cfg e1 e2).1, f (intersectPair cfg e1 e2).2)
  maxima : ∀ e1 e2, ((f e1).pt = (f e2).pt ∧ (f e1).isOpen = (f e2).isOpen ∧ (f e1).dx + (f e2).dx = 0) ↔
    (e1.pt = e2.pt ∧ e1.isOpen = e2.isOpen ∧ e1.dx + e2.dx = 0)

theorem EdgeSym.step {cfg cfg' : Cfg} {f : Edge → Edge} {g : Op → Op} (h : EdgeSym cfg cfg' f g) (l : Ael)
    (hl : AllClosed l) (op : Op) (hop : OpClosed op) :
    Model.step cfg' (l.map f) (g op) = (Model.step cfg l op).map (fun l' => l'.map f) := by
  cases op with
  | insertPair pos pt o dx => cases (show o = false from hop); exact h.insertPair pos pt dx l
  | insertOne pos pt dx => exact hop.elim
  | removeOne i => exact hop.elim
  | intersect i =>
    simp only [h.intersect, Model.step, Model.intersect, ← List.map_drop]
    rcases hd : l.drop i with _ | ⟨e1, _ | ⟨e2, rest⟩⟩
    · rfl
    · rfl
    · have hcl : AllClosed (e1 :: e2 :: rest) := hd ▸ fun x hx => hl x (List.mem_of_mem_drop hx)
      simp only [List.map_cons, Option.map_some, List.map_append, List.map_take,
        h.pair e1 e2 (hcl e1 (by simp)) (hcl e2 (by simp))]
  | removePair i =>
    simp only [h.removePair, Model.step, Model.removePair, ← List.map_drop]
    rcases hd : l.drop i with _ | ⟨e1, _ | ⟨e2, rest⟩⟩
    · rfl
    · rfl
    · simp only [List.map_cons, h.maxima e1 e2]
      split <;> simp [List.map_take]

theorem EdgeSym.run {cfg cfg' : Cfg} {f : Edge → Edge} {g : Op → Op} (h : EdgeSym cfg cfg' f g) (ops : List Op) :
    ∀ (l : Ael), AllClosed l → (∀ op ∈ ops, OpClosed op) →
    Model.run cfg' (l.map f) (ops.map g) = (Model.run cfg l ops).map (fun l' => l'.map f) := by
  induction ops with
  | nil => intro l _ _; rfl
  | cons op ops ih =>
    intro l hl hops
    simp only [List.map_cons, Model.run]
    rw [h.step l hl op (hops op List.mem_cons_self)]
    cases hs : Model.step cfg l op with
    | none => rfl
    | some l1 =>
      exact ih l1 (allClosed_step cfg l l1 op hl (hops op List.mem_cons_self) hs)
        (fun o ho => hops o (List.mem_cons_of_mem _ ho))

theorem findPrev_map (f : Edge → Edge) (t t' : PathType)
    (hc : ∀ x, ((f x).pt = t' ∧ (f x).isOpen = false) ↔ (x.pt = t ∧ x.isOpen = false)) (rp : List Edge) :
    findPrev t' (rp.map f) = ((findPrev t rp).1.map f, ((findPrev t rp).2).map f) := by
  induction rp with
  | nil => rfl
  | cons x xs ih =>
    simp only [List.map_cons, findPrev, hc x, ih]
    split <;> simp

def swapE (e : Edge) : Edge := { e with pt := other e.pt }

def swapOp : Op → Op
  | .insertPair pos pt o dx => .insertPair pos (other pt) o dx
  | .insertOne pos pt dx => .insertOne pos (other pt) dx
  | op => op

theorem other_inj (a b : PathType) : other a = other b ↔ a = b := by
  cases a <;> cases b <;> simp [other]

theorem icc_swap (ct : ClipType) (hct : ct ≠ .difference) (fr : FillRule) (pt : PathType) (wc wc2 : Int) :
    isContributingClosed ct fr (other pt) wc wc2 = isContributingClosed ct fr pt wc wc2 := by
  cases ct <;> (try exact absurd rfl hct) <;> simp only [isContributingClosed, sel]

theorem wc2Loop_swap (fr : FillRule) (t : PathType) (l : List Edge) : ∀ (w : Int),
    wc2Loop fr (other t) (l.map swapE) w = wc2Loop fr t l w := by
  induction l with
  | nil => intro w; rfl
  | cons x xs ih =>
    intro w
    have hc : ((swapE x).pt ≠ other t ∧ (swapE x).isOpen = false) ↔ (x.pt ≠ t ∧ x.isOpen = false) := by
      simp only [swapE, ne_eq, other_inj]
    simp only [List.map_cons, wc2Loop, hc, ih]
    rfl

theorem setWindClosed_swap (fr : FillRule) (left : List Edge) (e : Edge) :
    setWindClosed fr (left.map swapE) (swapE e) = swapE (setWindClosed fr left e) := by
  simp only [setWindClosed]
  rw [← List.map_reverse, show (swapE e).pt = other e.pt from rfl,
    findPrev_map swapE e.pt _ (fun x => by simp only [swapE, other_inj])]
  rcases findPrev e.pt left.reverse with ⟨_ | e2, btw⟩
  · simp only [Option.map_none, wc2Loop_swap]; rfl
  · simp only [Option.map_some, wc2Loop_swap]
    split <;> rfl

theorem updateWinds_swap (fr : FillRule) (e1 e2 : Edge) :
    updateWinds fr (swapE e1) (swapE e2) = (swapE (updateWinds fr e1 e2).1, swapE (updateWinds fr e1 e2).2) := by
  have hc : ((swapE e1).pt = (swapE e2).pt) ↔ (e1.pt = e2.pt) := by simp only [swapE, other_inj]
  simp only [updateWinds]
  by_cases h : e1.pt = e2.pt
  · rw [if_pos (hc.mpr h), if_pos h]; split <;> rfl
  · rw [if_neg (fun h' => h (hc.mp h')), if_neg h]; split <;> rfl

theorem goSame_swap (ct : ClipType) (hct : ct ≠ .difference) (pt : PathType) (w1 w2 : Int) :
    goSame ct (other pt) w1 w2 = goSame ct pt w1 w2 := by
  cases ct <;> (try exact absurd rfl hct) <;> rfl

theorem decideHot_swap (cfg : Cfg) (hct : cfg.ct ≠ .difference) (a b : Edge) :
    decideHot cfg (swapE a) (swapE b) = decideHot cfg a b := by
  have hne : ((swapE a).pt != (swapE b).pt) = (a.pt != b.pt) := by
    simp only [swapE]; cases a.pt <;> cases b.pt <;> rfl
  simp only [decideHot, hne]
  rw [show (swapE a).pt = other a.pt from rfl, goSame_swap cfg.ct hct]
  rfl

theorem intersectClosed_swap (cfg : Cfg) (hct : cfg.ct ≠ .difference) (e1 e2 : Edge) :
    intersectClosed cfg (swapE e1) (swapE e2) =
      (swapE (intersectClosed cfg e1 e2).1, swapE (intersectClosed cfg e1 e2).2) := by
  simp only [intersectClosed, updateWinds_swap, decideHot_swap cfg hct]
  rfl

theorem swapSym (cfg : Cfg) (hct : cfg.ct ≠ .difference) : EdgeSym cfg cfg swapE swapOp where
  intersect _ := rfl
  removePair _ := rfl
  insertPair pos pt dxLeft l := by
    simp only [step, swapOp, insertPair, List.length_map]
    split
    · simp only [Option.map_some, List.map_append, List.map_cons, List.map_take, List.map_drop, newLeft,
        Bool.false_eq_true, ite_false]
      rw [← List.map_take, show fresh (other pt) false dxLeft = swapE (fresh pt false dxLeft) from rfl,
        setWindClosed_swap, show ∀ e, (swapE e).pt = other e.pt from fun _ => rfl, icc_swap cfg.ct hct]
      rfl
    · rfl
  pair e1 e2 h1 h2 := by
    rw [intersectPair_cc cfg h1 h2, intersectPair_cc cfg (e1 := swapE e1) (e2 := swapE e2) h1 h2,
      intersectClosed_swap cfg hct]
  maxima e1 e2 := by simp only [swapE, other_inj]

/-- `wind_cnt2` under reversal: a parity under EvenOdd (unchanged), a signed sum otherwise (negated) -/
def neg2 (fr : FillRule) (w : Int) : Int := if fr = .evenOdd then w else -w

def negE (fr : FillRule) (e : Edge) : Edge := { e with dx := -e.dx, wc := -e.wc, wc2 := neg2 fr e.wc2 }

def negOp : Op → Op
  | .insertPair pos pt o dx => .insertPair pos pt o (-dx)
  | .insertOne pos pt dx => .insertOne pos pt (-dx)
  | op => op

def negCfg (cfg : Cfg) : Cfg := ⟨cfg.ct, flipFr cfg.fr⟩

theorem flipFr_eo (fr : FillRule) : flipFr fr = .evenOdd ↔ fr = .evenOdd := by cases fr <;> simp [flipFr]

theorem iabs_neg (x : Int) : iabs (-x) = iabs x := by simp only [iabs]; omega

theorem oldWc_neg (fr : FillRule) (w : Int) : oldWc (flipFr fr) (-w) = oldWc fr w := by
  cases fr <;> simp only [oldWc, flipFr, iabs_neg, Int.neg_neg]

theorem oldWc_neg2 (fr : FillRule) (w : Int) : oldWc (flipFr fr) (neg2 fr w) = oldWc fr w := by
  cases fr <;> simp only [oldWc, flipFr, neg2, reduceCtorEq, ite_true, ite_false, iabs_neg, Int.neg_neg]

theorem pre_neg (fr : FillRule) (wc : Int) : pre (flipFr fr) (-wc) = pre fr wc := by
  cases fr <;> simp only [pre, flipFr, iabs_neg, Bool.beq_eq_decide_eq, decide_eq_decide] <;> omega

theorem otherIn_neg (fr : FillRule) (w : Int) : otherIn (flipFr fr) (neg2 fr w) = otherIn fr w := by
  cases fr <;> simp only [otherIn, flipFr, neg2, reduceCtorEq, ite_true, ite_false, decide_eq_decide] <;> omega

theorem icc_neg (ct : ClipType) (fr : FillRule) (pt : PathType) (wc wc2 : Int) :
    isContributingClosed ct (flipFr fr) pt (-wc) (neg2 fr wc2) = isContributingClosed ct fr pt wc wc2 := by
  simp only [isContributingClosed, pre_neg, otherIn_neg]

theorem wc2Loop_neg (fr : FillRule) (t : PathType) (l : List Edge) : ∀ (w : Int),
    wc2Loop (flipFr fr) t (l.map (negE fr)) (neg2 fr w) = neg2 fr (wc2Loop fr t l w) := by
  induction l with
  | nil => intro w; rfl
  | cons x xs ih =>
    intro w
    simp only [List.map_cons, wc2Loop]
    have hc : ((negE fr x).pt ≠ t ∧ (negE fr x).isOpen = false) ↔ (x.pt ≠ t ∧ x.isOpen = false) := Iff.rfl
    by_cases h : x.pt ≠ t ∧ x.isOpen = false
    · rw [if_pos (hc.mpr h), if_pos h, ← ih]
      congr 1
      by_cases hfr : fr = .evenOdd
      · subst hfr; rfl
      · have : flipFr fr ≠ .evenOdd := fun h => hfr ((flipFr_eo fr).mp h)
        simp only [if_neg hfr, if_neg this, neg2, negE]; omega
    · rw [if_neg (fun h' => h (hc.mp h')), if_neg h, ih]

theorem wcFrom_neg (w d2 dx : Int) : wcFrom false (-w) (-d2) (-dx) = -(wcFrom false w d2 dx) := by
  simp only [wcFrom, Int.neg_mul_neg, iabs_neg, Bool.false_eq_true, if_false, apply_ite Neg.neg, Int.neg_add]

theorem setWindClosed_neg (fr : FillRule) (left : List Edge) (e : Edge) (he : e.isOpen = false) :
    setWindClosed (flipFr fr) (left.map (negE fr)) (negE fr e) = negE fr (setWindClosed fr left e) := by
  simp only [setWindClosed]
  rw [← List.map_reverse, show (negE fr e).pt = e.pt from rfl, findPrev_map (negE fr) e.pt _ (fun _ => Iff.rfl)]
  rcases findPrev e.pt left.reverse with ⟨_ | e2, btw⟩
  · simp only [Option.map_none, show (negE fr e).wc2 = neg2 fr e.wc2 from rfl, wc2Loop_neg]; rfl
  · simp only [Option.map_some, show (negE fr e2).wc2 = neg2 fr e2.wc2 from rfl, wc2Loop_neg, flipFr_eo,
      show (negE fr e).isOpen = false from he, he]
    split
    · rfl
    · rw [show wcFrom false (negE fr e2).wc (negE fr e2).dx (negE fr e).dx = -(wcFrom false e2.wc e2.dx e.dx) from
        wcFrom_neg _ _ _]
      rfl

theorem updateWinds_neg (fr : FillRule) (e1 e2 : Edge) :
    updateWinds (flipFr fr) (negE fr e1) (negE fr e2) =
      (negE fr (updateWinds fr e1 e2).1, negE fr (updateWinds fr e1 e2).2) := by
  have hpt : ((negE fr e1).pt = (negE fr e2).pt) ↔ (e1.pt = e2.pt) := Iff.rfl
  simp only [updateWinds]
  by_cases h : e1.pt = e2.pt
  · rw [if_pos (hpt.mpr h), if_pos h]
    by_cases hfr : fr = .evenOdd
    · rw [if_pos ((flipFr_eo fr).mpr hfr), if_pos hfr]; rfl
    · rw [if_neg (fun h => hfr ((flipFr_eo fr).mp h)), if_neg hfr]
      -- negation goes through both updates
      simp only [negE, Int.sub_eq_add_neg, ← Int.neg_add, Int.neg_eq_zero, apply_ite Neg.neg]
  · rw [if_neg (fun h' => h (hpt.mp h')), if_neg h]
    by_cases hfr : fr = .evenOdd
    · subst hfr
      simp only [flipFr, ne_eq, not_true_eq_false, ite_false, negE, neg2, ite_true]
    · have hfl : flipFr fr ≠ .evenOdd := fun h => hfr ((flipFr_eo fr).mp h)
      simp only [ne_eq, hfl, hfr, not_false_eq_true, ite_true, negE, neg2, ite_false, Prod.mk.injEq,
        Edge.mk.injEq, true_and, and_true]
      constructor <;> omega

theorem decideHot_neg (cfg : Cfg) (a b : Edge) :
    decideHot (negCfg cfg) (negE cfg.fr a) (negE cfg.fr b) = decideHot cfg a b := by
  simp only [decideHot, negCfg, show ∀ e, (negE cfg.fr e).wc = -e.wc from fun _ => rfl,
    show ∀ e, (negE cfg.fr e).wc2 = neg2 cfg.fr e.wc2 from fun _ => rfl, oldWc_neg, oldWc_neg2]
  rfl

theorem intersectClosed_neg (cfg : Cfg) (e1 e2 : Edge) :
    intersectClosed (negCfg cfg) (negE cfg.fr e1) (negE cfg.fr e2) =
      (negE cfg.fr (intersectClosed cfg e1 e2).1, negE cfg.fr (intersectClosed cfg e1 e2).2) := by
  simp only [intersectClosed]
  rw [show (negCfg cfg).fr = flipFr cfg.fr from rfl, updateWinds_neg]
  simp only [decideHot_neg]
  rfl

theorem negSym (cfg : Cfg) : EdgeSym cfg (negCfg cfg) (negE cfg.fr) negOp where
  intersect _ := rfl
  removePair _ := rfl
  insertPair pos pt dxLeft l := by
    simp only [step, negOp, insertPair, List.length_map]
    have hdx : (-dxLeft = 1 ∨ -dxLeft = -1) ↔ (dxLeft = 1 ∨ dxLeft = -1) := by omega
    simp only [hdx]
    split
    · simp only [Option.map_some, List.map_append, List.map_cons, List.map_take, List.map_drop, newLeft,
        Bool.false_eq_true, ite_false]
      rw [← List.map_take, show fresh pt false (-dxLeft) = negE cfg.fr (fresh pt false dxLeft) by simp [fresh, negE, neg2],
        show (negCfg cfg).fr = flipFr cfg.fr from rfl, show (negCfg cfg).ct = cfg.ct from rfl,
        setWindClosed_neg _ _ _ rfl, show ∀ e, (negE cfg.fr e).wc = -e.wc from fun _ => rfl,
        show ∀ e, (negE cfg.fr e).wc2 = neg2 cfg.fr e.wc2 from fun _ => rfl,
        show ∀ e, (negE cfg.fr e).pt = e.pt from fun _ => rfl, icc_neg]
      simp [negE]
    · rfl
  pair e1 e2 h1 h2 := by
    rw [intersectPair_cc cfg h1 h2,
      intersectPair_cc (negCfg cfg) (e1 := negE cfg.fr e1) (e2 := negE cfg.fr e2) h1 h2, intersectClosed_neg]
  maxima e1 e2 := by
    simp only [negE]
    constructor <;> rintro ⟨a, b, c⟩ <;> exact ⟨a, b, by omega⟩

end Clipper.Model

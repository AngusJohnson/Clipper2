/-
Scanlines of the model build (`scanlinesOf`): membership, strict descending order, and the elementary consequences of
a strictly descending list used by the C01 build hypotheses (consecutive scanlines, first = max, last = min).
-/
import ClipperVerif.Lemmas.SweepOrder
namespace Clipper.Lemmas.C01Build
open Clipper Clipper.Model.SweepOrder

/-- removing duplicates from a weakly descending list gives a strictly descending one -/
theorem eraseDups_strict : ∀ (n : Nat) (l : List Int), l.length ≤ n → l.Pairwise (fun a b => b ≤ a) →
    l.eraseDups.Pairwise (fun a b => b < a)
  | _, [], _, _ => by simp
  | 0, _ :: _, hl, _ => by simp at hl
  | n + 1, a :: as, hl, hs => by
    rw [List.eraseDups_cons, List.pairwise_cons]
    rw [List.pairwise_cons] at hs
    refine ⟨?_, eraseDups_strict n _ ?_ (List.Pairwise.sublist List.filter_sublist hs.2)⟩
    · intro b hb
      rw [List.mem_eraseDups, List.mem_filter] at hb
      have h1 := hs.1 b hb.1
      have hne : b ≠ a := by simpa using hb.2
      omega
    · have := List.length_filter_le (fun b => !b == a) as
      simp only [List.length_cons] at hl
      omega

/-- the scanlines are exactly the vertex heights of the paths with at least 3 vertices -/
theorem scanlinesOf_mem (ps : Paths) (y : Int) :
    y ∈ scanlinesOf ps ↔ ∃ p ∈ ps, 3 ≤ p.length ∧ ∃ v ∈ p, v.y = y := by
  unfold scanlinesOf
  rw [List.mem_eraseDups, (Clipper.Lemmas.SweepOrder.stableSort_perm _).mem_iff, List.mem_map]
  constructor
  · rintro ⟨v, hv, rfl⟩
    rw [List.mem_flatten] at hv
    obtain ⟨p, hp, hvp⟩ := hv
    rw [List.mem_filter] at hp
    exact ⟨p, hp.1, by simpa using hp.2, v, hvp, rfl⟩
  · rintro ⟨p, hp, hlen, v, hvp, rfl⟩
    exact ⟨v, List.mem_flatten.2 ⟨p, List.mem_filter.2 ⟨hp, by simpa using hlen⟩, hvp⟩, rfl⟩

theorem scanlinesOf_sorted (ps : Paths) : (scanlinesOf ps).Pairwise (fun a b => b < a) := by
  unfold scanlinesOf
  refine eraseDups_strict _ _ (Nat.le_refl _) ?_
  have h := Clipper.Lemmas.SweepOrder.stableSort_sorted (le := fun (a b : Int) => decide (b ≤ a))
    (by intro a b c; simp only [decide_eq_true_eq]; omega)
    (by intro a b; simp only [Bool.or_eq_true, decide_eq_true_eq]; omega)
    ((ps.filter (fun p => decide (3 ≤ p.length))).flatten.map (·.y))
  exact h.imp (by intro a b hab; simpa using hab)

/-- consecutive elements of a strictly descending list: nothing of the list lies strictly between -/
theorem between_of_sorted (ys pre rest : List Int) (y0 y1 : Int) (hs : ys.Pairwise (fun a b => b < a))
    (h : ys = pre ++ y0 :: y1 :: rest) : y1 < y0 ∧ ∀ t ∈ ys, ¬ (y1 < t ∧ t < y0) := by
  subst h
  rw [List.pairwise_append, List.pairwise_cons, List.pairwise_cons] at hs
  obtain ⟨_, ⟨h0, h1, _⟩, hx⟩ := hs
  have h10 : y1 < y0 := h0 y1 (List.mem_cons_self ..)
  refine ⟨h10, ?_⟩
  intro t ht
  rcases List.mem_append.1 ht with ht | ht
  · have := hx t ht y0 (List.mem_cons_self ..)
    omega
  · rcases List.mem_cons.1 ht with rfl | ht
    · omega
    · rcases List.mem_cons.1 ht with rfl | ht
      · omega
      · have := h1 t ht
        omega

theorem head_max (ys : List Int) (y : Int) (hs : ys.Pairwise (fun a b => b < a)) (h : ys.head? = some y) :
    ∀ t ∈ ys, t ≤ y := by
  cases ys with
  | nil => simp at h
  | cons a as =>
    simp only [List.head?_cons, Option.some.injEq] at h
    subst h
    rw [List.pairwise_cons] at hs
    intro t ht
    rcases List.mem_cons.1 ht with rfl | ht
    · omega
    · have := hs.1 t ht
      omega

theorem last_min (ys : List Int) (y : Int) (hs : ys.Pairwise (fun a b => b < a)) (h : ys.getLast? = some y) :
    ∀ t ∈ ys, y ≤ t := by
  obtain ⟨pre, rfl⟩ : ∃ pre, ys = pre ++ [y] := by
    rcases List.eq_nil_or_concat ys with rfl | ⟨l, b, rfl⟩
    · simp at h
    · simp only [List.concat_eq_append, List.getLast?_append, List.getLast?_singleton, Option.some_or,
        Option.some.injEq] at h
      subst h
      exact ⟨l, by simp⟩
  rw [List.pairwise_append] at hs
  intro t ht
  rcases List.mem_append.1 ht with ht | ht
  · have := hs.2.2 t ht y (List.mem_singleton.2 rfl)
    omega
  · have := List.mem_singleton.1 ht
    omega

end Clipper.Lemmas.C01Build

/-
Helpers for Props/C19Quads: rational points written as integer triples `(xn, yn, d)` (`d > 0`, the point `(xn/d, yn/d)`),
the parallelogram membership test `Spec.Minkowski.inQuad` lifted to such points (`inQuadQ`, all cross products multiplied
by `d`, so no division), closed segments as convex combinations with rational parameter `s/m` (`OnSegQ`), and the core
algebra: for a parallelogram `par o u v = o, o+u, o+u+v, o+v` the four cross products of the test are
`T, d·w − S, d·w − T, S` with `w = u × v`, `S = r × v`, `T = u × r`, `r = d·(P − o)` — Cramer's rule without the division —
so that the test, the edges and the parameter form `ParPar o u v` (`P = o + (s/m) u + (t/m) v`, `0 ≤ s, t ≤ m`) can be
compared.  The quad of the model is `par (p_g ± q_h) (p_i − p_g) (±(q_j − q_h))`, sum and difference alike.
Core Lean only.
-/
import ClipperVerif.Model.Minkowski
import ClipperVerif.Lemmas.PlaneVec
namespace Clipper.Spec.Minkowski
open Clipper

/-- a rational point `(xn/d, yn/d)`; every statement that uses one assumes `0 < d` -/
structure QPt where
  xn : Int
  yn : Int
  d : Int
  deriving DecidableEq, Repr

/-- an integer point as a rational point -/
def QPt.ofPt (p : Pt) : QPt := ⟨p.x, p.y, 1⟩

/-- equality of the two rational points (cross-multiplied) -/
def QPt.Eqv (P Q : QPt) : Prop := P.xn * Q.d = Q.xn * P.d ∧ P.yn * Q.d = Q.yn * P.d

/-- `d · cross a b P` for the rational point `P = (xn/d, yn/d)` -/
def crossQ (a b : Pt) (P : QPt) : Int := (b.x - a.x) * (P.yn - P.d * a.y) - (b.y - a.y) * (P.xn - P.d * a.x)

/-- `Spec.Minkowski.inQuad` for a rational point: the same sign test on the four cross products (each multiplied by
the positive denominator), the same rejection of zero-area quads -/
def inQuadQ (q : Path) (P : QPt) : Bool :=
  match q with
  | [a, b, c, d] =>
    let s1 := crossQ a b P; let s2 := crossQ b c P; let s3 := crossQ c d P; let s4 := crossQ d a P
    decide (shoelace2 q ≠ 0) &&
      ((decide (0 ≤ s1) && decide (0 ≤ s2) && decide (0 ≤ s3) && decide (0 ≤ s4)) ||
       (decide (s1 ≤ 0) && decide (s2 ≤ 0) && decide (s3 ≤ 0) && decide (s4 ≤ 0)))
  | _ => false

/-- `P` lies on the closed segment `[a, b]`: `P = a + (s/m)(b − a)` with `0 ≤ s ≤ m`, `0 < m` -/
def OnSegQ (a b : Pt) (P : QPt) : Prop :=
  ∃ s m : Int, 0 < m ∧ 0 ≤ s ∧ s ≤ m ∧
    m * P.xn = P.d * (m * a.x + s * (b.x - a.x)) ∧ m * P.yn = P.d * (m * a.y + s * (b.y - a.y))

/-- `+1` for the sum, `-1` for the difference -/
def sgn (isSum : Bool) : Int := if isSum then 1 else -1

/-- `P = A + B` (sum) or `P = A − B` (difference) as rational points, cross-multiplied -/
def QPt.IsPm (isSum : Bool) (P A B : QPt) : Prop :=
  P.xn * (A.d * B.d) = P.d * (A.xn * B.d + sgn isSum * (B.xn * A.d)) ∧
  P.yn * (A.d * B.d) = P.d * (A.yn * B.d + sgn isSum * (B.yn * A.d))

/-- **the segment sum**: `P = A ± B` for some rational `A` on the path edge `[pg, pi]` and `B` on the pattern edge
`[qh, qj]` -/
def SegSum (isSum : Bool) (pg pi qh qj : Pt) (P : QPt) : Prop :=
  ∃ A B : QPt, 0 < A.d ∧ 0 < B.d ∧ OnSegQ pg pi A ∧ OnSegQ qh qj B ∧ QPt.IsPm isSum P A B

/-- the same with the two parameters over a common denominator: `P = pg + (s/m)(pi−pg) ± (qh + (t/m)(qj−qh))` -/
def SegSumParam (isSum : Bool) (pg pi qh qj : Pt) (P : QPt) : Prop :=
  ∃ s t m : Int, 0 < m ∧ 0 ≤ s ∧ s ≤ m ∧ 0 ≤ t ∧ t ≤ m ∧
    m * P.xn = P.d * ((m * pg.x + s * (pi.x - pg.x)) + sgn isSum * (m * qh.x + t * (qj.x - qh.x))) ∧
    m * P.yn = P.d * ((m * pg.y + s * (pi.y - pg.y)) + sgn isSum * (m * qh.y + t * (qj.y - qh.y)))

/-- cross product of the two edge directions `(pi − pg) × (qj − qh)`; zero iff the edges are parallel or one of them has
length zero -/
def edgeCross (pg pi qh qj : Pt) : Int := (pi.x - pg.x) * (qj.y - qh.y) - (pi.y - pg.y) * (qj.x - qh.x)

/-- `A` lies on the swept polyline: on one of the path edges (closing edge iff `isClosed`) -/
def OnPolyline (isClosed : Bool) (path : Path) (A : QPt) : Prop :=
  ∃ e ∈ pathEdges isClosed path, OnSegQ e.1 e.2 A

/-- `B` lies on the outline of the pattern polygon: on one of its cyclic edges -/
def OnOutline (pattern : Path) (B : QPt) : Prop :=
  ∃ d ∈ cyclicEdges pattern, OnSegQ d.1 d.2 B

end Clipper.Spec.Minkowski

namespace Clipper.Lemmas.MinkowskiQuads
open Clipper Clipper.Spec.Minkowski

theorem crossQ_ofPt (a b p : Pt) : crossQ a b (QPt.ofPt p) = cross a b p := by
  simp only [crossQ, QPt.ofPt, cross]; grind

/-- on integer points the lifted test is the test of the judgement -/
theorem inQuadQ_ofPt (q : Path) (p : Pt) : inQuadQ q (QPt.ofPt p) = inQuad q p := by
  rcases q with _ | ⟨a, _ | ⟨b, _ | ⟨c, _ | ⟨d, _ | ⟨e, r⟩⟩⟩⟩⟩ <;> simp [inQuadQ, inQuad, crossQ_ofPt]

theorem sign_of_mul {m a b w : Int} (hm : 0 < m) (hb : 0 ≤ b) (h : m * a = b * w) :
    (0 ≤ w → 0 ≤ a) ∧ (w ≤ 0 → a ≤ 0) := by
  constructor
  · intro hw
    apply Int.not_lt.mp
    intro ha
    have := Int.mul_neg_of_pos_of_neg hm ha
    have := Int.mul_nonneg hb hw
    omega
  · intro hw
    apply Int.not_lt.mp
    intro ha
    have := Int.mul_pos hm ha
    have := Int.mul_nonpos_of_nonneg_of_nonpos hb hw
    omega

def par (o u v : Pt) : Path := [o, o.add u, (o.add u).add v, o.add v]

/-- `u × v` -/
def crossV (u v : Pt) : Int := u.x * v.y - u.y * v.x

/-- `P = o + (s/m)u + (t/m)v` with `0 ≤ s, t ≤ m` -/
def ParPar (o u v : Pt) (P : QPt) : Prop :=
  ∃ s t m : Int, 0 < m ∧ 0 ≤ s ∧ s ≤ m ∧ 0 ≤ t ∧ t ≤ m ∧
    m * P.xn = P.d * (m * o.x + s * u.x + t * v.x) ∧ m * P.yn = P.d * (m * o.y + s * u.y + t * v.y)

theorem shoelace2_par (o u v : Pt) : shoelace2 (par o u v) = 2 * crossV u v := by
  simp only [par, crossV, shoelace2, edgesOf, List.zip_cons_cons, List.cons_append, List.nil_append, List.zip_nil_right,
    List.map_cons, List.map_nil, List.sum_cons, List.sum_nil, Pt.add]
  grind

/-- the membership test of `par o u v` in terms of the four cross products `c1 … c4` of its sides -/
theorem inQuadQ_par (o u v : Pt) (P : QPt) :
    inQuadQ (par o u v) P = true ↔ crossV u v ≠ 0 ∧
      ((0 ≤ crossQ o (o.add u) P ∧ 0 ≤ crossQ (o.add u) ((o.add u).add v) P
          ∧ 0 ≤ crossQ ((o.add u).add v) (o.add v) P ∧ 0 ≤ crossQ (o.add v) o P)
        ∨ (crossQ o (o.add u) P ≤ 0 ∧ crossQ (o.add u) ((o.add u).add v) P ≤ 0
          ∧ crossQ ((o.add u).add v) (o.add v) P ≤ 0 ∧ crossQ (o.add v) o P ≤ 0)) := by
  have h := shoelace2_par o u v
  simp only [par] at h
  simp only [inQuadQ, par, h, Bool.and_eq_true, Bool.or_eq_true, decide_eq_true_eq, and_assoc]
  omega

/-- a zero-area parallelogram contains nothing (this is what the model of the judgement does) -/
theorem inQuadQ_degenerate (o u v : Pt) (P : QPt) (h0 : crossV u v = 0) : inQuadQ (par o u v) P = false := by
  cases h : inQuadQ (par o u v) P with
  | false => rfl
  | true => exact absurd h0 ((inQuadQ_par o u v P).mp h).1

/-- opposite sides: `c1 + c3 = c2 + c4 = d·w` -/
theorem crossQ_par_sum (o u v : Pt) (P : QPt) :
    crossQ o (o.add u) P + crossQ ((o.add u).add v) (o.add v) P = P.d * crossV u v ∧
    crossQ (o.add u) ((o.add u).add v) P + crossQ (o.add v) o P = P.d * crossV u v := by
  simp only [crossQ, crossV, Pt.add]
  constructor <;> grind

/-- Cramer's rule, cleared of denominators: `(d w) P = d ((d w) o + c4 u + c1 v)` -/
theorem cramer_identity (o u v : Pt) (P : QPt) :
    P.d * crossV u v * P.xn = P.d * (P.d * crossV u v * o.x + crossQ (o.add v) o P * u.x + crossQ o (o.add u) P * v.x) ∧
    P.d * crossV u v * P.yn = P.d * (P.d * crossV u v * o.y + crossQ (o.add v) o P * u.y + crossQ o (o.add u) P * v.y) := by
  simp only [crossQ, crossV, Pt.add]
  constructor <;> grind

theorem param_neg {m s t d xn ox ux vx : Int} (h : m * xn = d * (m * ox + s * ux + t * vx)) :
    -m * xn = d * (-m * ox + -s * ux + -t * vx) := by
  grind

/-- A rational point that passes the membership test of `par o u v` is `o + (s/m)·u + (t/m)·v` with `0 ≤ s, t ≤ m`:
`m = |d·w|`, `s = |c4|`, `t = |c1|`. -/
theorem param_of_inQuadQ (o u v : Pt) (P : QPt) (hd : 0 < P.d) (h : inQuadQ (par o u v) P = true) :
    ParPar o u v P := by
  obtain ⟨hw, hs⟩ := (inQuadQ_par o u v P).mp h
  obtain ⟨h13, h24⟩ := crossQ_par_sum o u v P
  have hD : P.d * crossV u v ≠ 0 := Int.mul_ne_zero (by omega) hw
  obtain ⟨gx, gy⟩ := cramer_identity o u v P
  -- all four non-negative: `0 ≤ c4, c1 ≤ d w`; all four non-positive: the same for `−c4, −c1, −d w`
  rcases hs with hs | hs
  · exact ⟨crossQ (o.add v) o P, crossQ o (o.add u) P, P.d * crossV u v, by omega, by omega, by omega, by omega, by omega, gx, gy⟩
  · exact ⟨-crossQ (o.add v) o P, -crossQ o (o.add u) P, -(P.d * crossV u v), by omega, by omega, by omega, by omega, by omega,
      param_neg gx, param_neg gy⟩

/-- the cross products `c1`, `c4` of a point `o + (s/m)·u + (t/m)·v`, times `m`: the multiples `t`, `s` of `d·w` -/
theorem param_crossQ {o u v : Pt} {P : QPt} {s t m : Int}
    (hx : m * P.xn = P.d * (m * o.x + s * u.x + t * v.x)) (hy : m * P.yn = P.d * (m * o.y + s * u.y + t * v.y)) :
    m * crossQ o (o.add u) P = t * (P.d * crossV u v) ∧ m * crossQ (o.add v) o P = s * (P.d * crossV u v) := by
  simp only [crossQ, crossV, Pt.add]
  constructor <;> grind

/-- the converse: a point `o + (s/m)·u + (t/m)·v`, `0 ≤ s, t ≤ m`, of a non-degenerate parallelogram passes the test -/
theorem inQuadQ_of_param (o u v : Pt) (P : QPt) (h : ParPar o u v P) (hne : crossV u v ≠ 0) :
    inQuadQ (par o u v) P = true := by
  obtain ⟨s, t, m, hm, hs0, hsm, ht0, htm, hx, hy⟩ := h
  obtain ⟨e1, e4⟩ := param_crossQ hx hy
  obtain ⟨h13, h24⟩ := crossQ_par_sum o u v P
  -- `m c1 = t D`, `m c4 = s D`, hence `m c3 = (m − t) D`, `m c2 = (m − s) D` for `D = d w`: all have the sign of `D`
  have e3 : m * crossQ ((o.add u).add v) (o.add v) P = (m - t) * (P.d * crossV u v) := by
    have := congrArg (m * ·) h13
    simp only [Int.mul_add, e1] at this
    rw [Int.sub_mul]; omega
  have e2 : m * crossQ (o.add u) ((o.add u).add v) P = (m - s) * (P.d * crossV u v) := by
    have := congrArg (m * ·) h24
    simp only [Int.mul_add, e4] at this
    rw [Int.sub_mul]; omega
  obtain ⟨p1, n1⟩ := sign_of_mul hm ht0 e1
  obtain ⟨p2, n2⟩ := sign_of_mul hm (by omega : 0 ≤ m - s) e2
  obtain ⟨p3, n3⟩ := sign_of_mul hm (by omega : 0 ≤ m - t) e3
  obtain ⟨p4, n4⟩ := sign_of_mul hm hs0 e4
  refine (inQuadQ_par o u v P).mpr ⟨hne, ?_⟩
  rcases Int.le_total 0 (P.d * crossV u v) with hD | hD
  · exact Or.inl ⟨p1 hD, p2 hD, p3 hD, p4 hD⟩
  · exact Or.inr ⟨n1 hD, n2 hD, n3 hD, n4 hD⟩

theorem crossQ_of_param_flat {o u v : Pt} {P : QPt} (h : ParPar o u v P) (hw : crossV u v = 0) :
    crossQ o (o.add u) P = 0 ∧ crossQ (o.add u) ((o.add u).add v) P = 0 ∧
    crossQ ((o.add u).add v) (o.add v) P = 0 ∧ crossQ (o.add v) o P = 0 := by
  obtain ⟨s, t, m, hm, -, -, -, -, hx, hy⟩ := h
  obtain ⟨e1, e4⟩ := param_crossQ hx hy
  obtain ⟨h13, h24⟩ := crossQ_par_sum o u v P
  rw [hw, Int.mul_zero] at h13 h24
  rw [hw, Int.mul_zero, Int.mul_zero] at e1 e4
  have z1 := (Int.mul_eq_zero.mp e1).resolve_left (by omega)
  have z4 := (Int.mul_eq_zero.mp e4).resolve_left (by omega)
  omega

/-- the pattern edge `q_h → q_j` as it enters the quad: added for the sum, subtracted for the difference -/
def edgeVec (isSum : Bool) (qh qj : Pt) : Pt := ⟨sgn isSum * (qj.x - qh.x), sgn isSum * (qj.y - qh.y)⟩

theorem quadAt_eq_par (isSum : Bool) (pg pi qh qj : Pt) :
    quadAt isSum pg pi qh qj = par (pm isSum pg qh) (pi.sub pg) (edgeVec isSum qh qj) := by
  cases isSum <;>
    simp only [quadAt, par, pm, edgeVec, sgn, Pt.add, Pt.sub, if_true, Bool.false_eq_true, if_false, List.cons.injEq,
      Pt.mk.injEq, and_true, true_and] <;>
    omega

theorem crossV_edgeVec (isSum : Bool) (pg pi qh qj : Pt) :
    crossV (pi.sub pg) (edgeVec isSum qh qj) = sgn isSum * edgeCross pg pi qh qj := by
  simp only [crossV, edgeVec, edgeCross, Pt.sub]; grind

theorem crossV_edgeVec_eq_zero (isSum : Bool) (pg pi qh qj : Pt) :
    crossV (pi.sub pg) (edgeVec isSum qh qj) = 0 ↔ edgeCross pg pi qh qj = 0 := by
  rw [crossV_edgeVec]
  cases isSum <;> simp only [sgn, if_true, Bool.false_eq_true, if_false] <;> omega

theorem pm_xy (isSum : Bool) (p q : Pt) :
    (pm isSum p q).x = p.x + sgn isSum * q.x ∧ (pm isSum p q).y = p.y + sgn isSum * q.y := by
  cases isSum <;> simp only [pm, sgn, Pt.add, Pt.sub, if_true, Bool.false_eq_true, if_false] <;> omega

/-- the parameter form of the quad's points is the parameter form of the segment sum -/
theorem parPar_iff_segSumParam (isSum : Bool) (pg pi qh qj : Pt) (P : QPt) :
    ParPar (pm isSum pg qh) (pi.sub pg) (edgeVec isSum qh qj) P ↔ SegSumParam isSum pg pi qh qj P := by
  have ex : ∀ s t m : Int, m * (pm isSum pg qh).x + s * (pi.sub pg).x + t * (edgeVec isSum qh qj).x
      = (m * pg.x + s * (pi.x - pg.x)) + sgn isSum * (m * qh.x + t * (qj.x - qh.x)) := by
    intro s t m
    simp only [(pm_xy isSum pg qh).1, edgeVec, Pt.sub]; grind
  have ey : ∀ s t m : Int, m * (pm isSum pg qh).y + s * (pi.sub pg).y + t * (edgeVec isSum qh qj).y
      = (m * pg.y + s * (pi.y - pg.y)) + sgn isSum * (m * qh.y + t * (qj.y - qh.y)) := by
    intro s t m
    simp only [(pm_xy isSum pg qh).2, edgeVec, Pt.sub]; grind
  simp only [ParPar, SegSumParam, ex, ey]

theorem crossQ_swap (a b : Pt) (P : QPt) : crossQ b a P = - crossQ a b P := by
  simp only [crossQ]; grind

theorem shoelace2_reverse4 (a b c d : Pt) : shoelace2 [d, c, b, a] = - shoelace2 [a, b, c, d] := by
  simp only [shoelace2, edgesOf, List.zip_cons_cons, List.cons_append, List.nil_append, List.zip_nil_right,
    List.map_cons, List.map_nil, List.sum_cons, List.sum_nil]
  grind

theorem inQuadQ_reverse4 (a b c d : Pt) (P : QPt) : inQuadQ [d, c, b, a] P = inQuadQ [a, b, c, d] P := by
  unfold inQuadQ
  simp only [shoelace2_reverse4 a b c d, crossQ_swap c d, crossQ_swap b c, crossQ_swap a b, crossQ_swap d a]
  generalize shoelace2 [a, b, c, d] = A
  generalize crossQ c d P = s3
  generalize crossQ b c P = s2
  generalize crossQ a b P = s1
  generalize crossQ d a P = s4
  rw [Bool.eq_iff_iff]
  simp only [Bool.and_eq_true, Bool.or_eq_true, decide_eq_true_eq]
  omega

/-- the orientation step of `detail::Minkowski` does not change which points the quad contains -/
theorem inQuadQ_orient (isPos : Path → Bool) (a b c d : Pt) (P : QPt) :
    inQuadQ (Model.Minkowski.orient isPos [a, b, c, d]) P = inQuadQ [a, b, c, d] P := by
  unfold Model.Minkowski.orient
  split
  · rfl
  · exact inQuadQ_reverse4 a b c d P

theorem segSum_of_param {isSum : Bool} {pg pi qh qj : Pt} {P : QPt}
    (h : SegSumParam isSum pg pi qh qj P) : SegSum isSum pg pi qh qj P := by
  obtain ⟨s, t, m, hm, hs0, hsm, ht0, htm, hx, hy⟩ := h
  refine ⟨⟨m * pg.x + s * (pi.x - pg.x), m * pg.y + s * (pi.y - pg.y), m⟩,
    ⟨m * qh.x + t * (qj.x - qh.x), m * qh.y + t * (qj.y - qh.y), m⟩, hm, hm,
    ⟨s, m, hm, hs0, hsm, rfl, rfl⟩, ⟨t, m, hm, ht0, htm, rfl, rfl⟩, ?_, ?_⟩
  · show P.xn * (m * m) = P.d * ((m * pg.x + s * (pi.x - pg.x)) * m + sgn isSum * ((m * qh.x + t * (qj.x - qh.x)) * m))
    grind
  · show P.yn * (m * m) = P.d * ((m * pg.y + s * (pi.y - pg.y)) * m + sgn isSum * ((m * qh.y + t * (qj.y - qh.y)) * m))
    grind

theorem common_denominator (Ad Bd Axn Bxn Pxn Pd m1 m2 g u h v s1 t1 σ : Int)
    (ax : m1 * Axn = Ad * (m1 * g + s1 * u)) (bx : m2 * Bxn = Bd * (m2 * h + t1 * v))
    (px : Pxn * (Ad * Bd) = Pd * (Axn * Bd + σ * (Bxn * Ad))) :
    Ad * Bd * (m1 * m2 * Pxn) = Ad * Bd * (Pd * (m1 * m2 * g + s1 * m2 * u + σ * (m1 * m2 * h + t1 * m1 * v))) := by
  have h1 : Ad * Bd * (m1 * m2 * Pxn) = m1 * m2 * (Pxn * (Ad * Bd)) := by grind
  have h2 : m1 * m2 * (Pd * (Axn * Bd + σ * (Bxn * Ad))) = Pd * (m2 * Bd * (m1 * Axn) + σ * (m1 * Ad * (m2 * Bxn))) := by
    grind
  rw [h1, px, h2, ax, bx]
  grind

theorem param_of_segSum {isSum : Bool} {pg pi qh qj : Pt} {P : QPt}
    (h : SegSum isSum pg pi qh qj P) : SegSumParam isSum pg pi qh qj P := by
  obtain ⟨A, B, hA, hB, ⟨s1, m1, hm1, hs0, hsm, ax, ay⟩, ⟨t1, m2, hm2, ht0, htm, bx, b_y⟩, px, py⟩ := h
  have hAB : 0 < A.d * B.d := Int.mul_pos hA hB
  refine ⟨s1 * m2, t1 * m1, m1 * m2, Int.mul_pos hm1 hm2, Int.mul_nonneg hs0 (Int.le_of_lt hm2),
    Int.mul_le_mul_of_nonneg_right hsm (Int.le_of_lt hm2), Int.mul_nonneg ht0 (Int.le_of_lt hm1), ?_, ?_, ?_⟩
  · rw [Int.mul_comm m1 m2]; exact Int.mul_le_mul_of_nonneg_right htm (Int.le_of_lt hm1)
  · apply Int.eq_of_mul_eq_mul_left (Int.ne_of_gt hAB)
    exact common_denominator _ _ _ _ _ _ _ _ _ _ _ _ _ _ _ ax bx px
  · apply Int.eq_of_mul_eq_mul_left (Int.ne_of_gt hAB)
    exact common_denominator _ _ _ _ _ _ _ _ _ _ _ _ _ _ _ ay b_y py

theorem segSum_iff_param (isSum : Bool) (pg pi qh qj : Pt) (P : QPt) :
    SegSum isSum pg pi qh qj P ↔ SegSumParam isSum pg pi qh qj P := ⟨param_of_segSum, segSum_of_param⟩

theorem zip_snoc_tail (a t : Pt) (rest : List Pt) :
    (a :: rest).zip (rest ++ [t]) = (a :: rest).zip rest ++ [((a :: rest).getLast (by simp), t)] := by
  induction rest generalizing a with
  | nil => simp
  | cons b r ih =>
    rw [List.cons_append, List.zip_cons_cons, ih b, List.zip_cons_cons (bs := r), List.cons_append]
    simp

theorem mem_cyclicEdges_iff (l : Path) (e : Pt × Pt) : e ∈ cyclicEdges l ↔ e ∈ edgesOf l := by
  cases l with
  | nil => simp [cyclicEdges, edgesOf]
  | cons a rest =>
    have hl : (a :: rest).getLast? = some ((a :: rest).getLast (by simp)) := List.getLast?_eq_some_getLast _
    simp only [cyclicEdges, hl, edgesOf, zip_snoc_tail, List.zip_cons_cons, List.mem_cons, List.mem_append,
      List.not_mem_nil, or_false]
    constructor
    · rintro (h | h)
      · exact Or.inr h
      · exact Or.inl h
    · rintro (h | h)
      · exact Or.inr h
      · exact Or.inl h

theorem between_aux {m s d e : Int} (hm : 0 < m) (hs0 : 0 ≤ s) (hsm : s ≤ m) (h : m * e = s * d) (hd : 0 ≤ d) :
    0 ≤ e ∧ e ≤ d := by
  have h1 : 0 ≤ s * d := Int.mul_nonneg hs0 hd
  have h2 : s * d ≤ m * d := Int.mul_le_mul_of_nonneg_right hsm hd
  constructor
  · apply Int.not_lt.mp
    intro hn
    have := Int.mul_neg_of_pos_of_neg hm hn
    omega
  · exact Int.le_of_mul_le_mul_left (by omega) hm

theorem between_of_param {m s a b p : Int} (hm : 0 < m) (hs0 : 0 ≤ s) (hsm : s ≤ m) (h : m * p = m * a + s * (b - a)) :
    min a b ≤ p ∧ p ≤ max a b := by
  have e : m * (p - a) = s * (b - a) := by rw [Int.mul_sub]; omega
  rcases Int.le_total a b with hab | hab
  · have := between_aux hm hs0 hsm e (by omega)
    omega
  · -- the mirror image
    have := between_aux (d := -(b - a)) (e := -(p - a)) hm hs0 hsm (by rw [Int.mul_neg, Int.mul_neg, e]) (by omega)
    omega

theorem onSeg_of_onSegQ {a b p : Pt} (h : OnSegQ a b (QPt.ofPt p)) : onSeg p a b = true := by
  obtain ⟨s, m, hm, hs0, hsm, hx, hy⟩ := h
  simp only [QPt.ofPt, Int.one_mul] at hx hy
  obtain ⟨x1, x2⟩ := between_of_param hm hs0 hsm hx
  obtain ⟨y1, y2⟩ := between_of_param hm hs0 hsm hy
  have hc : m * cross a b p = 0 := by
    simp only [cross]
    have ex : m * (p.x - a.x) = s * (b.x - a.x) := by rw [Int.mul_sub]; omega
    have ey : m * (p.y - a.y) = s * (b.y - a.y) := by rw [Int.mul_sub]; omega
    grind
  have hc0 : cross a b p = 0 := (Int.mul_eq_zero.mp hc).resolve_left (by omega)
  simp [onSeg, hc0, x1, x2, y1, y2]

theorem mul_between {a b p : Int} (h0 : min a b ≤ p) (h1 : p ≤ max a b) :
    0 ≤ (b - a) * (p - a) ∧ (b - a) * (p - a) ≤ (b - a) * (b - a) := by
  rcases Int.le_total a b with hd | hd
  · exact ⟨Int.mul_nonneg (by omega) (by omega), Int.mul_le_mul_of_nonneg_left (by omega) (by omega)⟩
  · exact ⟨Int.mul_nonneg_of_nonpos_of_nonpos (by omega) (by omega), Int.mul_le_mul_of_nonpos_left (by omega) (by omega)⟩

/-- a point of the closed segment is `a + (s/m)(b − a)` with `m = |b − a|²` and `s = (p − a) · (b − a)` -/
theorem onSegQ_of_onSeg {a b p : Pt} (h : onSeg p a b = true) : OnSegQ a b (QPt.ofPt p) := by
  simp only [onSeg, Bool.and_eq_true, beq_iff_eq, decide_eq_true_eq] at h
  obtain ⟨⟨⟨⟨hc, x1⟩, x2⟩, y1⟩, y2⟩ := h
  simp only [OnSegQ, QPt.ofPt, Int.one_mul]
  by_cases h0 : b.x - a.x = 0 ∧ b.y - a.y = 0
  · have hx : p.x = a.x := by omega
    have hy : p.y = a.y := by omega
    exact ⟨0, 1, by decide, by decide, by decide, by rw [hx, Int.zero_mul, Int.add_zero], by rw [hy, Int.zero_mul, Int.add_zero]⟩
  · have hm := PlaneVec.sq_add_sq_pos (Decidable.not_and_iff_or_not.mp h0)
    obtain ⟨sx0, sx1⟩ := mul_between x1 x2
    obtain ⟨sy0, sy1⟩ := mul_between y1 y2
    obtain ⟨px, py⟩ := PlaneVec.parallel_dot hc
    have hs0 := Int.add_nonneg sx0 sy0
    have hsm := Int.add_le_add sx1 sy1
    generalize (b.x - a.x) * (b.x - a.x) + (b.y - a.y) * (b.y - a.y) = m at *
    generalize (b.x - a.x) * (p.x - a.x) + (b.y - a.y) * (p.y - a.y) = s at *
    rw [Int.mul_sub] at px py
    exact ⟨s, m, hm, hs0, hsm, by omega, by omega⟩

theorem onSegQ_ofPt_iff (a b p : Pt) : OnSegQ a b (QPt.ofPt p) ↔ onSeg p a b = true :=
  ⟨onSeg_of_onSegQ, onSegQ_of_onSeg⟩

/-- `P` lies on one of the four edges of the 4-point path -/
def OnQuadEdge (q : Path) (P : QPt) : Prop :=
  match q with
  | [a, b, c, d] => OnSegQ a b P ∨ OnSegQ b c P ∨ OnSegQ c d P ∨ OnSegQ d a P
  | _ => False

theorem onSegQ_symm {a b : Pt} {P : QPt} (h : OnSegQ a b P) : OnSegQ b a P := by
  obtain ⟨s, m, hm, hs0, hsm, hx, hy⟩ := h
  refine ⟨m - s, m, hm, by omega, by omega, ?_, ?_⟩
  · rw [hx]; grind
  · rw [hy]; grind

theorem onQuadEdge_reverse4 {a b c d : Pt} {P : QPt} (h : OnQuadEdge [d, c, b, a] P) : OnQuadEdge [a, b, c, d] P := by
  simp only [OnQuadEdge] at h ⊢
  rcases h with h | h | h | h
  · exact Or.inr (Or.inr (Or.inl (onSegQ_symm h)))
  · exact Or.inr (Or.inl (onSegQ_symm h))
  · exact Or.inl (onSegQ_symm h)
  · exact Or.inr (Or.inr (Or.inr (onSegQ_symm h)))

theorem onQuadEdge_orient (isPos : Path → Bool) (a b c d : Pt) (P : QPt) :
    OnQuadEdge (Model.Minkowski.orient isPos [a, b, c, d]) P ↔ OnQuadEdge [a, b, c, d] P := by
  unfold Model.Minkowski.orient
  split
  · exact Iff.rfl
  · exact ⟨onQuadEdge_reverse4, fun h => onQuadEdge_reverse4 (a := d) (b := c) (c := b) (d := a) h⟩

/-- the parameters of a point of the edge `o → o+u`, `o+u → o+u+v`, `o+u+v → o+v`, `o+v → o`; one coordinate -/
theorem edge1_param {m s d xn ox ux vx : Int} (h : m * xn = d * (m * ox + s * ((ox + ux) - ox))) :
    m * xn = d * (m * ox + s * ux + 0 * vx) := by rw [h]; grind
theorem edge2_param {m s d xn ox ux vx : Int} (h : m * xn = d * (m * (ox + ux) + s * (((ox + ux) + vx) - (ox + ux)))) :
    m * xn = d * (m * ox + m * ux + s * vx) := by rw [h]; grind
theorem edge3_param {m s d xn ox ux vx : Int} (h : m * xn = d * (m * ((ox + ux) + vx) + s * ((ox + vx) - ((ox + ux) + vx)))) :
    m * xn = d * (m * ox + (m - s) * ux + m * vx) := by rw [h]; grind
theorem edge4_param {m s d xn ox ux vx : Int} (h : m * xn = d * (m * (ox + vx) + s * (ox - (ox + vx)))) :
    m * xn = d * (m * ox + 0 * ux + (m - s) * vx) := by rw [h]; grind

/-- every edge of `par o u v` consists of points `o + λu + μv` with `λ` or `μ` in `{0, 1}` -/
theorem parPar_of_onQuadEdge {o u v : Pt} {P : QPt} (h : OnQuadEdge (par o u v) P) : ParPar o u v P := by
  simp only [OnQuadEdge, par, OnSegQ, Pt.add] at h
  rcases h with ⟨s, m, hm, hs0, hsm, hx, hy⟩ | ⟨s, m, hm, hs0, hsm, hx, hy⟩ | ⟨s, m, hm, hs0, hsm, hx, hy⟩ |
    ⟨s, m, hm, hs0, hsm, hx, hy⟩
  · exact ⟨s, 0, m, hm, hs0, hsm, by omega, by omega, edge1_param hx, edge1_param hy⟩
  · exact ⟨m, s, m, hm, by omega, by omega, hs0, hsm, edge2_param hx, edge2_param hy⟩
  · exact ⟨m - s, m, m, hm, by omega, by omega, by omega, by omega, edge3_param hx, edge3_param hy⟩
  · exact ⟨0, m - s, m, hm, by omega, by omega, by omega, by omega, edge4_param hx, edge4_param hy⟩

/-- edge `o → o+u` of a flat parallelogram (`a v = b u`), one coordinate -/
theorem flat_edge1 (a b m s t d xn ox ux vx : Int) (hpar : a * vx = b * ux)
    (hx : m * xn = d * (m * ox + s * ux + t * vx)) :
    (m * a) * xn = d * ((m * a) * ox + (s * a + t * b) * ((ox + ux) - ox)) := by
  grind

/-- edge `o+u → o+u+v`, one coordinate -/
theorem flat_edge2 (a b m s t d xn ox ux vx : Int) (hpar : a * vx = b * ux)
    (hx : m * xn = d * (m * ox + s * ux + t * vx)) :
    (m * b) * xn = d * ((m * b) * (ox + ux) + (s * a + t * b - m * a) * (((ox + ux) + vx) - (ox + ux))) := by
  grind

/-- edge `o+v → o`, one coordinate -/
theorem flat_edge4 (a b m s t d xn ox ux vx : Int) (hpar : a * vx = b * ux)
    (hx : m * xn = d * (m * ox + s * ux + t * vx)) :
    (-(m * b)) * xn = d * ((-(m * b)) * (ox + vx) + (-(m * b) + (s * a + t * b)) * (ox - (ox + vx))) := by
  grind

/-- edge `o+v → o` when `u = 0`, one coordinate -/
theorem flat_edge4_u0 (m t d xn ox vx s : Int) (hx : m * xn = d * (m * ox + s * 0 + t * vx)) :
    m * xn = d * (m * (ox + vx) + (m - t) * (ox - (ox + vx))) := by
  rw [hx]; grind

/-- where `N / (m a)`, `N = s a + t b`, lies: in `[0, 1]` (edge `o → o+u`), below `0` but not below `b / a`
(edge `o+v → o`), or above `1` but not above `1 + b / a` (edge `o+u → o+u+v`) -/
theorem flat_cases {m s t a b : Int} (hm : 0 < m) (hs0 : 0 ≤ s) (hsm : s ≤ m) (ht0 : 0 ≤ t) (htm : t ≤ m) (ha : 0 < a) :
    (0 < m * a ∧ 0 ≤ s * a + t * b ∧ s * a + t * b ≤ m * a)
    ∨ (0 < -(m * b) ∧ 0 ≤ -(m * b) + (s * a + t * b) ∧ -(m * b) + (s * a + t * b) ≤ -(m * b))
    ∨ (0 < m * b ∧ 0 ≤ s * a + t * b - m * a ∧ s * a + t * b - m * a ≤ m * b) := by
  have hsa0 : 0 ≤ s * a := Int.mul_nonneg hs0 (by omega)
  have hsam : s * a ≤ m * a := Int.mul_le_mul_of_nonneg_right hsm (by omega)
  have hma : 0 < m * a := Int.mul_pos hm ha
  rcases Int.lt_trichotomy b 0 with hb | hb | hb
  · have htb0 : t * b ≤ 0 := Int.mul_nonpos_of_nonneg_of_nonpos ht0 (by omega)
    have htbm : m * b ≤ t * b := Int.mul_le_mul_of_nonpos_right htm (by omega)
    have hmb : m * b < 0 := Int.mul_neg_of_pos_of_neg hm hb
    by_cases hN : 0 ≤ s * a + t * b
    · exact Or.inl ⟨hma, hN, by omega⟩
    · exact Or.inr (Or.inl ⟨by omega, by omega, by omega⟩)
  · subst hb
    exact Or.inl ⟨hma, by omega, by omega⟩
  · have htb0 : 0 ≤ t * b := Int.mul_nonneg ht0 (by omega)
    have htbm : t * b ≤ m * b := Int.mul_le_mul_of_nonneg_right htm (by omega)
    have hmb : 0 < m * b := Int.mul_pos hm hb
    by_cases hN : s * a + t * b ≤ m * a
    · exact Or.inl ⟨hma, by omega, hN⟩
    · exact Or.inr (Or.inr ⟨hmb, by omega, by omega⟩)

/-- **Degenerate quads.**  If `u` and `v` are parallel (or one of them is zero), every point `o + (s/m)u + (t/m)v`,
`0 ≤ s, t ≤ m`, lies on one of the four edges of the flat quad `par o u v` (in fact on `[o, o+u]`, `[o+u, o+u+v]` or
`[o+v, o]`): with `a = |u|²`, `b = u · v` it is `o + ((s a + t b) / (m a)) u`, and `a v = b u`. -/
theorem flat_param_on_edge {o u v : Pt} {P : QPt} (h : ParPar o u v P) (hw : crossV u v = 0) :
    OnQuadEdge (par o u v) P := by
  obtain ⟨s, t, m, hm, hs0, hsm, ht0, htm, hx, hy⟩ := h
  show OnSegQ o (o.add u) P ∨ OnSegQ (o.add u) ((o.add u).add v) P ∨ OnSegQ ((o.add u).add v) (o.add v) P ∨
      OnSegQ (o.add v) o P
  by_cases hu : u.x = 0 ∧ u.y = 0
  · right; right; right
    refine ⟨m - t, m, hm, by omega, by omega, ?_, ?_⟩
    · rw [hu.1] at hx; exact flat_edge4_u0 m t P.d P.xn o.x v.x s hx
    · rw [hu.2] at hy; exact flat_edge4_u0 m t P.d P.yn o.y v.y s hy
  · have ha := PlaneVec.sq_add_sq_pos (Decidable.not_and_iff_or_not.mp hu)
    obtain ⟨px, py⟩ := PlaneVec.parallel_dot hw
    rcases flat_cases (b := u.x * v.x + u.y * v.y) hm hs0 hsm ht0 htm ha with ⟨h1, h2, h3⟩ | ⟨h1, h2, h3⟩ | ⟨h1, h2, h3⟩
    · exact Or.inl ⟨_, _, h1, h2, h3, flat_edge1 _ _ m s t P.d P.xn o.x u.x v.x px hx,
        flat_edge1 _ _ m s t P.d P.yn o.y u.y v.y py hy⟩
    · exact Or.inr (Or.inr (Or.inr ⟨_, _, h1, h2, h3, flat_edge4 _ _ m s t P.d P.xn o.x u.x v.x px hx,
        flat_edge4 _ _ m s t P.d P.yn o.y u.y v.y py hy⟩))
    · exact Or.inr (Or.inl ⟨_, _, h1, h2, h3, flat_edge2 _ _ m s t P.d P.xn o.x u.x v.x px hx,
        flat_edge2 _ _ m s t P.d P.yn o.y u.y v.y py hy⟩)

end Clipper.Lemmas.MinkowskiQuads

/-
The events of the ring assembly model taken apart: the shape of an accepted step of the side model `Model/AelSides.lean` (one inversion
lemma per event: what is proved about an event starts from the shape, not from the step function) and the ring effect `…Out` that goes
with each shape.
`Lemmas/AelRingsRuns.lean` carries the invariant `OInv` and the run ids through these shapes.
-/
import ClipperVerif.Lemmas.AelRings
namespace Clipper.Model

/-- what an operation that neither starts nor ends a record keeps of `OInv`: the number of rings, the liveness of every record, `NoLost`, `SegsOK` -/
structure KeepPost (o o' : Out) : Prop where
  len : o'.rings.length = o.rings.length
  live : ∀ id, LiveAt o.rings id → LiveAt o'.rings id
  nolost : NoLost o → NoLost o'
  segs : SegsOK o → SegsOK o'

theorem keepPost_refl (o : Out) : KeepPost o o := ⟨rfl, fun _ h => h, fun h => h, fun h => h⟩

theorem keepPost_trans (o o1 o2 : Out) (h1 : KeepPost o o1) (h2 : KeepPost o1 o2) : KeepPost o o2 :=
  ⟨by rw [h2.len, h1.len], fun id h => h2.live id (h1.live id h), fun h => h2.nolost (h1.nolost h), fun h => h2.segs (h1.segs h)⟩

theorem oinv_keep (n : Nat) (l l' : List SEdge) (o o' : Out) (h : OInv n l o) (hk : KeepPost o o') (hl : KeysFrom l l') : OInv n l' o' :=
  oinv_keys n l l' o' {
    len := hk.len.trans h.len
    hot := fun x hx k hx' => hk.live _ (h.hot x hx k hx')
    nolost := hk.nolost h.nolost
    segs := hk.segs h.segs } hl

theorem addOn_keep (r : Option Rec) (pt : Pt) (o : Out) (hl : ∀ x, r = some x → LiveAt o.rings x.id) : KeepPost o (addOn r pt o) := by
  cases r with
  | none => exact keepPost_refl o
  | some x =>
    exact {
      len := length_addOutPt _ _ _ _
      live := fun id h => liveAt_addOutPt _ _ _ _ _ h
      nolost := fun h => noLost_addOutPt _ _ _ _ h (hl x rfl)
      segs := fun h => segsOK_addOutPt _ _ _ _ h }

theorem handOn_keep (r : Option Rec) (o : Out) : KeepPost o (handOn r o) := by
  cases r with
  | none => exact keepPost_refl o
  | some x =>
    exact {
      len := length_handOver _ _ _
      live := fun id h => liveAt_handOver _ _ _ _ h
      nolost := fun h e he => h e (log_handOver x.id x.front o ▸ he)
      segs := fun h => segsOK_handOver _ _ _ h }

theorem swapOut_keep (r1 r2 : Option Rec) (pt : Pt) (o : Out) (h1 : ∀ x, r1 = some x → LiveAt o.rings x.id) (h2 : ∀ x, r2 = some x → LiveAt o.rings x.id) :
    KeepPost o (swapOut r1 r2 pt o) := by
  unfold swapOut
  have k1 := addOn_keep r1 pt o h1
  have k2 := addOn_keep r2 pt (addOn r1 pt o) (fun x hx => k1.live _ (h2 x hx))
  exact keepPost_trans _ _ _ (keepPost_trans _ _ _ (keepPost_trans _ _ _ k1 k2) (handOn_keep r1 _)) (handOn_keep r2 _)

theorem minRecs_ids (pre : List SEdge) (isNew : Bool) (n : Nat) : (minRecs pre isNew n).1.id = n ∧ (minRecs pre isNew n).2.id = n := by
  simp [minRecs]

theorem window_split {α} (l : List α) (i : Nat) (a b : α) (rest : List α) (h : l.drop i = a :: b :: rest) : l = l.take i ++ a :: b :: rest := by
  rw [← h]; exact (List.take_append_drop i l).symm

theorem bind_ok {α β} (x : Except Err α) (f : α → Except Err β) (y : β) (h : (x >>= f) = .ok y) : ∃ z, x = .ok z ∧ f z = .ok y := by
  cases x with
  | error e => cases h
  | ok z => exact ⟨z, rfl, h⟩

theorem splitPost_of (i : Nat) (s s1 : SState) (hs : Side s.ael) (h : splitAt i s = .ok s1) : SplitPost i s s1 := by
  have := splitAt_stepOK i s hs
  rw [h] at this; exact this

theorem splitJoined_pair (i : Nat) (j : Join) (s s1 : SState) (h : splitJoined i j s = .ok s1) : ∃ k, splitPair k s = .ok s1 := by
  unfold splitJoined at h
  split at h
  · exact ⟨i, h⟩
  · split at h
    · cases h
    · exact ⟨i - 1, h⟩

/-- `if (IsJoined(e)) Split(e, pt)`: either nothing happens, or the joined pair around `e` is split and a record is started at `pt` -/
theorem splitAt_inv (i : Nat) (pt : Pt) (s s1 : SState) (o : Out) (hs : splitAt i s = .ok s1) :
    (s1 = s ∧ splitOut i pt s o = o) ∨ (∃ k, splitPair k s = .ok s1 ∧ splitOut i pt s o = newRec pt o) := by
  unfold splitAt at hs
  unfold splitOut
  cases hx : s.ael[i]? with
  | none => rw [hx] at hs; cases hs
  | some x =>
    simp only [hx] at hs ⊢
    split at hs
    · next hj => cases hs; exact Or.inl ⟨rfl, if_pos hj⟩
    · next hj =>
      obtain ⟨k, hk⟩ := splitJoined_pair _ _ _ _ hs
      exact Or.inr ⟨k, hk, if_neg hj⟩

theorem splitS_inv (i : Nat) (pt : Pt) (s s1 : SState) (o : Out) (hs : splitS i s = .ok s1) :
    ∃ k, splitPair k s = .ok s1 ∧ splitOut i pt s o = newRec pt o := by
  unfold splitS at hs
  unfold splitOut
  cases hx : s.ael[i]? with
  | none => rw [hx] at hs; cases hs
  | some x =>
    simp only [hx] at hs ⊢
    split at hs
    · cases hs
    · next hj =>
      obtain ⟨k, hk⟩ := splitJoined_pair _ _ _ _ hs
      exact ⟨k, hk, if_neg hj⟩

theorem twoSplits_eq (i : Nat) (pt : Pt) (s s1 s2 : SState) (o : Out) (a b : SEdge) (rest : List SEdge)
    (h1 : splitAt i s = .ok s1) (h2 : splitAt (i + 1) s1 = .ok s2) (hd : s2.ael.drop i = a :: b :: rest) :
    twoSplitsOut i pt s o = (splitOut (i + 1) pt s1 (splitOut i pt s o), some (a, b)) := by
  unfold twoSplitsOut
  simp only [h1, h2, hd]

/-- an accepted `intersect` event: in the open branch at most one `Split`, then the two edges change places; in the closed branch the
two `Split`s, then `intersectCore` on the window -/
theorem intersectS_inv (cfg : Cfg) (i : Nat) (s s' : SState) (hs : intersectS cfg i s = .ok s') :
    ∃ a0 b0 rest0, s.ael.drop i = a0 :: b0 :: rest0 ∧
      (((a0.e.isOpen || b0.e.isOpen) = true ∧ ∃ s1 a b rest,
          (if (a0.e.isOpen && b0.e.isOpen) = true then .ok s else if a0.e.isOpen = true then splitAt (i + 1) s else splitAt i s) = .ok s1 ∧
          s1.ael.drop i = a :: b :: rest ∧
          s' = { s1 with ael := s1.ael.take i ++ { b with e := (intersectPair cfg a.e b.e).2 } :: { a with e := (intersectPair cfg a.e b.e).1 } :: rest } ∧
          ∀ pt o, intersectOut cfg i pt s o =
            if (a0.e.isOpen && b0.e.isOpen) = true then o else if a0.e.isOpen = true then splitOut (i + 1) pt s o else splitOut i pt s o) ∨
       ((a0.e.isOpen || b0.e.isOpen) = false ∧ ∃ s1 s2 a b rest, splitAt i s = .ok s1 ∧ splitAt (i + 1) s1 = .ok s2 ∧
          s2.ael.drop i = a :: b :: rest ∧ intersectCore cfg (s2.ael.take i) a b rest s2.next = .ok s' ∧
          ∀ pt o, intersectOut cfg i pt s o = coreOut cfg a b pt (splitOut (i + 1) pt s1 (splitOut i pt s o)))) := by
  unfold intersectS at hs
  split at hs
  · next a0 b0 rest0 hd =>
    refine ⟨a0, b0, rest0, hd, ?_⟩
    by_cases ho : (a0.e.isOpen || b0.e.isOpen) = true
    · rw [if_pos ho] at hs
      obtain ⟨s1, h1, h2⟩ := bind_ok _ _ _ hs
      split at h2
      · next a b rest hd1 =>
        cases h2
        exact Or.inl ⟨ho, s1, a, b, rest, h1, hd1, rfl, fun pt o => by unfold intersectOut; rw [hd]; exact if_pos ho⟩
      · cases h2
    · rw [if_neg ho] at hs
      obtain ⟨s1, h1, hs⟩ := bind_ok _ _ _ hs
      obtain ⟨s2, h2, hs⟩ := bind_ok _ _ _ hs
      have hc := Bool.eq_false_iff.mpr ho
      split at hs
      · next a b rest hd2 =>
        exact Or.inr ⟨hc, s1, s2, a, b, rest, h1, h2, hd2, hs, fun pt o => by
          unfold intersectOut; rw [hd]
          simp only [hc, Bool.false_eq_true, if_false, twoSplits_eq i pt s s1 s2 o a b rest h1 h2 hd2]⟩
      · cases hs
  · cases hs

/-- an accepted `removePair` event: an open pair just leaves; a closed pair is split where joined, then both edges are cold, or both
are hot and `AddLocalMaxPoly` runs -/
theorem removePairS_inv (i : Nat) (s s' : SState) (hs : removePairS i s = .ok s') :
    ∃ a0 b0 rest0, s.ael.drop i = a0 :: b0 :: rest0 ∧
      ((a0.e.isOpen = true ∧ s' = { s with ael := s.ael.take i ++ rest0 } ∧ ∀ pt o, removePairOut i pt s o = o) ∨
       (a0.e.isOpen = false ∧ ∃ s1 s2 a b rest, splitAt i s = .ok s1 ∧ splitAt (i + 1) s1 = .ok s2 ∧ s2.ael.drop i = a :: b :: rest ∧
          ((a.orec = none ∧ b.orec = none ∧ s' = { s2 with ael := s2.ael.take i ++ rest } ∧
              ∀ pt o, removePairOut i pt s o = splitOut (i + 1) pt s1 (splitOut i pt s o)) ∨
           (∃ ra rb g, a.orec = some ra ∧ b.orec = some rb ∧ addLocalMaxFn ra rb = .ok g ∧
              s' = { s2 with ael := (s2.ael.take i).map g ++ rest.map g } ∧
              ∀ pt o, removePairOut i pt s o = localMaxOut .meet ra rb pt (splitOut (i + 1) pt s1 (splitOut i pt s o)))))) := by
  unfold removePairS at hs
  split at hs
  · next a0 b0 rest0 hd =>
    refine ⟨a0, b0, rest0, hd, ?_⟩
    by_cases hv : a0.e.pt = b0.e.pt ∧ a0.e.isOpen = b0.e.isOpen ∧ a0.e.dx + b0.e.dx = 0
    · rw [if_pos hv] at hs
      by_cases ho : a0.e.isOpen = true
      · rw [if_pos ho] at hs; cases hs
        exact Or.inl ⟨ho, rfl, fun pt o => by unfold removePairOut; rw [hd]; exact if_pos ho⟩
      · rw [if_neg ho] at hs
        obtain ⟨s1, h1, hs⟩ := bind_ok _ _ _ hs
        obtain ⟨s2, h2, hs⟩ := bind_ok _ _ _ hs
        have hc := Bool.eq_false_iff.mpr ho
        refine Or.inr ⟨hc, s1, s2, ?_⟩
        split at hs
        · next a b rest hd2 =>
          refine ⟨a, b, rest, h1, h2, hd2, ?_⟩
          split at hs
          · next ha hb => cases hs; exact Or.inl ⟨ha, hb, rfl, fun pt o => by
              unfold removePairOut; rw [hd]
              simp only [hc, Bool.false_eq_true, if_false, twoSplits_eq i pt s s1 s2 o a b rest h1 h2 hd2, ha, hb]⟩
          · next ra rb ha hb =>
            cases hg : addLocalMaxFn ra rb with
            | ok g => rw [hg] at hs; cases hs; exact Or.inr ⟨ra, rb, g, ha, hb, hg, rfl, fun pt o => by
              unfold removePairOut; rw [hd]
              simp only [hc, Bool.false_eq_true, if_false, twoSplits_eq i pt s s1 s2 o a b rest h1 h2 hd2, ha, hb]⟩
            | error f => rw [hg] at hs; cases hs
          · cases hs
        · cases hs
    · rw [if_neg hv] at hs; cases hs
  · cases hs

/-- an accepted `join` event: both edges own a record, on different sides; one record is closed like a local maximum, two are joined at a logged seam -/
theorem joinS_inv (i : Nat) (s s' : SState) (hs : joinS i s = .ok s') :
    ∃ a b rest ra rb g, s.ael.drop i = a :: b :: rest ∧ a.orec = some ra ∧ b.orec = some rb ∧ addLocalMaxFn ra rb = .ok g ∧
      s' = { s with ael := (s.ael.take i).map g ++ { a with join := .right, orec := none } :: { b with join := .left, orec := none } :: rest.map g } ∧
      ∀ pt o, joinOut i pt s o =
        if ra.id = rb.id then localMaxOut .joinMeet ra rb pt o
        else if ra.id < rb.id then joinPaths ra.id rb.id ra.front (logSeg .joinSeam ra.id ra.front rb.id rb.front o)
        else joinPaths rb.id ra.id rb.front (logSeg .joinSeam ra.id ra.front rb.id rb.front o) := by
  unfold joinS at hs
  split at hs
  · next a b rest hd =>
    by_cases ho : (a.e.isOpen || b.e.isOpen) = true
    · rw [if_pos ho] at hs; cases hs
    · rw [if_neg ho] at hs
      split at hs
      · next ra rb ha hb =>
        by_cases hc : ra.id ≠ rb.id ∧ ra.front = rb.front
        · rw [if_pos hc] at hs; cases hs
        · rw [if_neg hc] at hs
          cases hg : addLocalMaxFn ra rb with
          | ok g =>
            rw [hg] at hs; cases hs
            exact ⟨a, b, rest, ra, rb, g, hd, ha, hb, hg, rfl, fun pt o => by unfold joinOut; rw [hd]; simp only [ha, hb]⟩
          | error f => rw [hg] at hs; cases hs
      · cases hs
  · cases hs

/-- an accepted `insertPair` event: two fresh edges without record enter at `pos`; when contributing they get the two sides of a new record -/
theorem insertPairS_inv (cfg : Cfg) (pos : Nat) (t : PathType) (isOpen : Bool) (dx : Int) (s s' : SState)
    (hs : insertPairS cfg pos t isOpen dx s = .ok s') :
    pos ≤ s.ael.length ∧ ∃ x y, x.orec = none ∧ y.orec = none ∧ x.join = .none ∧ y.join = .none ∧
      s' = if ((newLeft cfg (erase (s.ael.take pos)) t isOpen dx).2 && !isOpen) = true
        then addLocalMin pos true { s with ael := s.ael.take pos ++ x :: y :: s.ael.drop pos }
        else { s with ael := s.ael.take pos ++ x :: y :: s.ael.drop pos } := by
  unfold insertPairS at hs
  split at hs
  · next hc => cases hs; exact ⟨hc.1, _, _, rfl, rfl, rfl, rfl, rfl⟩
  · cases hs

theorem insertOneS_inv (cfg : Cfg) (pos : Nat) (t : PathType) (dx : Int) (s s' : SState) (hs : insertOneS cfg pos t dx s = .ok s') :
    pos ≤ s.ael.length ∧ ∃ x, x.orec = none ∧ x.join = .none ∧ s' = { s with ael := s.ael.take pos ++ x :: s.ael.drop pos } := by
  unfold insertOneS at hs
  split at hs
  · next hc => cases hs; exact ⟨hc.1, _, rfl, rfl, rfl⟩
  · cases hs

theorem removeOneS_inv (i : Nat) (s s' : SState) (hs : removeOneS i s = .ok s') :
    ∃ x rest, s.ael.drop i = x :: rest ∧ s' = { s with ael := s.ael.take i ++ rest } := by
  unfold removeOneS at hs
  split at hs
  · next x rest hd =>
    split at hs
    · cases hs; exact ⟨x, rest, hd, rfl⟩
    · cases hs
  · cases hs

end Clipper.Model

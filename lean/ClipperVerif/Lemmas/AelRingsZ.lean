/-
Lemmas about the Z layer of the ring assembly model (`Model/AelRingsZ.lean`; theorems: `Props/C15Rings.lean`).

Three kinds of facts, each proved for the primitives (`newRecZ`, `addOutPtZ`, `finishZ`, `joinPathsZ`) and lifted through the control flow of the
events by one generic lemma (`rel_outStepZ`, the relational twin of `pres_outStep`):
* `Agree`   — forgetting z, the Z rings / the Z log are the rings / the log of the ring model;
* `PermZOK` — conservation of triples (hence `ProvOK`: every ring triple is a stored log entry); `CallsOK` — the callback log;
* `EmitFrom` — provenance of the log entries made by one event (`logFrom_primRel`).
-/
import ClipperVerif.Model.AelRingsZ
import ClipperVerif.Lemmas.AelRingsStep
import ClipperVerif.Props.C15
namespace Clipper.Model
open Clipper.Model.ZFill

theorem xy_setZ (cb : Option Callback) (s : Bool) (a b c d ip : PtZ) (dz : Int) : xy (setZ cb s a b c d ip dz) = xy ip := by
  have := Clipper.Props.C15.setZ_xy cb s a b c d ip dz
  simp [xy, this.1, this.2]

theorem stamp_xy (zc : ZCfg) (ends : ZEnds) (how : Option Bool) (pt : PtZ) (z : ZOut) : xy (stamp zc ends how pt z).q = xy pt := by
  unfold stamp
  split
  · exact xy_setZ _ _ _ _ _ _ _ _
  · rfl

/-- what a stamp is: by value, or `SetZ` with the callback's next call -/
theorem stamp_spec (zc : ZCfg) (ends : ZEnds) (how : Option Bool) (pt : PtZ) (z : ZOut) :
    ((stamp zc ends how pt z).src = .given ∧ (stamp zc ends how pt z).q = pt ∧ (stamp zc ends how pt z).ncb = z.ncb ∧ (stamp zc ends how pt z).calls = z.calls ∧
      (how = none ∨ zc.cb = none)) ∨
    (∃ F subj, zc.cb = some F ∧ how = some subj ∧ (stamp zc ends how pt z).src = .setz z.ncb ∧
      (stamp zc ends how pt z).q = setZ (some (F z.ncb)) subj ends.e1bot ends.e1top ends.e2bot ends.e2top pt zc.defaultZ ∧
      (stamp zc ends how pt z).ncb = z.ncb + 1 ∧ ∃ c, (stamp zc ends how pt z).calls = c :: z.calls ∧ c.k = z.ncb ∧ c.ret = F z.ncb c.a c.b c.c c.d c.seen) := by
  unfold stamp
  cases hcb : zc.cb with
  | none => left; simp
  | some F =>
    cases how with
    | none => left; simp
    | some subj =>
      right
      refine ⟨F, subj, rfl, rfl, rfl, rfl, rfl, ?_⟩
      cases subj <;> simp [setZ]

theorem stamp_none (zc : ZCfg) (ends : ZEnds) (pt : PtZ) (z : ZOut) :
    (stamp zc ends none pt z).src = .given ∧ (stamp zc ends none pt z).q = pt ∧ (stamp zc ends none pt z).ncb = z.ncb ∧ (stamp zc ends none pt z).calls = z.calls := by
  unfold stamp; cases zc.cb <;> simp

theorem stamp_nocb (zc : ZCfg) (h : zc.cb = none) (ends : ZEnds) (how : Option Bool) (pt : PtZ) (z : ZOut) :
    (stamp zc ends how pt z).src = .given ∧ (stamp zc ends how pt z).q = pt := by
  unfold stamp; simp [h]

theorem endPtZ_map (f : Bool) (pts : List PtZ) : (endPtZ f pts).map xy = endPt f (pts.map xy) := by
  cases f <;> simp [endPtZ, endPt, List.head?_map, List.getLast?_map]

theorem endPtZ_none (f : Bool) (pts : List PtZ) (h : endPtZ f pts = none) : pts = [] := by
  cases f <;> simp [endPtZ] at h <;> exact h

theorem pushZ_map (f : Bool) (q : PtZ) (pts : List PtZ) : (pushZ f q pts).map xy = (if f then xy q :: pts.map xy else pts.map xy ++ [xy q]) := by
  cases f <;> simp [pushZ]

theorem setEndZ_map (f : Bool) (q p : PtZ) (pts : List PtZ) (h : endPtZ f pts = some p) (hq : xy q = xy p) : (setEndZ f q pts).map xy = pts.map xy := by
  cases f with
  | true =>
    cases pts with
    | nil => simp [endPtZ] at h
    | cons a t => simp [endPtZ] at h; subst h; simp [setEndZ, hq]
  | false =>
    have hne : pts ≠ [] := by intro hn; subst hn; simp [endPtZ] at h
    simp only [endPtZ, Bool.false_eq_true, if_false] at h
    rw [List.getLast?_eq_some_getLast hne] at h
    cases h
    simp only [setEndZ, Bool.false_eq_true, if_false, List.map_append, List.map_cons, List.map_nil, hq]
    conv => rhs; rw [← List.dropLast_concat_getLast hne]
    simp

theorem setEndZ_perm (f : Bool) (q p : PtZ) (pts : List PtZ) (h : endPtZ f pts = some p) : (p :: setEndZ f q pts).Perm (q :: pts) := by
  cases f with
  | true =>
    cases pts with
    | nil => simp [endPtZ] at h
    | cons a t => simp [endPtZ] at h; subst h; simp only [setEndZ, if_true, List.tail_cons]; exact List.Perm.swap _ _ _
  | false =>
    have hne : pts ≠ [] := by intro hn; subst hn; simp [endPtZ] at h
    simp only [endPtZ, Bool.false_eq_true, if_false] at h
    rw [List.getLast?_eq_some_getLast hne] at h
    cases h
    simp only [setEndZ, Bool.false_eq_true, if_false]
    have e : pts = pts.dropLast ++ [pts.getLast hne] := (List.dropLast_concat_getLast hne).symm
    conv => rhs; rw [e]
    generalize pts.dropLast = d
    generalize pts.getLast hne = p
    have h1 : (p :: (d ++ [q])).Perm (p :: q :: d) := (List.perm_append_singleton q d).cons p
    have h2 : (q :: (d ++ [p])).Perm (q :: p :: d) := (List.perm_append_singleton p d).cons q
    exact h1.trans ((List.Perm.swap _ _ _).trans h2.symm)

theorem mem_setEndZ (f : Bool) (q : PtZ) (pts : List PtZ) (x : PtZ) (h : x ∈ setEndZ f q pts) : x = q ∨ x ∈ pts := by
  cases f with
  | true =>
    simp only [setEndZ, if_true, List.mem_cons] at h
    rcases h with h | h
    · exact Or.inl h
    · exact Or.inr (List.mem_of_mem_tail h)
  | false =>
    simp only [setEndZ, Bool.false_eq_true, if_false, List.mem_append, List.mem_singleton] at h
    rcases h with h | h
    · exact Or.inr ((List.dropLast_sublist pts).subset h)
    · exact Or.inl h

theorem mem_pushZ (f : Bool) (q : PtZ) (pts : List PtZ) (x : PtZ) : x ∈ pushZ f q pts ↔ x = q ∨ x ∈ pts := by
  cases f <;> simp [pushZ, or_comm]

theorem set_self_of_get {α} (l : List α) (i : Nat) (x : α) (h : l[i]? = some x) : l.set i x = l := by
  induction l generalizing i with
  | nil => simp at h
  | cons a t ih =>
    cases i with
    | zero => simp at h; subst h; rfl
    | succ k => simp at h; simp [ih k h]

/-- forgetting z, the Z rings are the rings of the ring model and the Z log is its log -/
def Agree (z : ZOut) (o : Out) : Prop := z.rings.map ZRing.erase = o.rings.map Ring.core ∧ z.log.map ZEmit.erase = o.log

theorem agree_get (z : ZOut) (o : Out) (h : Agree z o) (id : Nat) : (z.rings[id]?).map ZRing.erase = (o.rings[id]?).map Ring.core := by
  have := congrArg (fun l => l[id]?) h.1
  simpa [List.getElem?_map] using this

theorem agree_some (z : ZOut) (o : Out) (h : Agree z o) (id : Nat) (zr : ZRing) (hz : z.rings[id]? = some zr) :
    ∃ r, o.rings[id]? = some r ∧ r.stat = zr.stat ∧ r.pts = zr.pts.map xy := by
  have := agree_get z o h id
  rw [hz] at this
  cases ho : o.rings[id]? with
  | none => simp [ho] at this
  | some r =>
    simp only [ho, Option.map_some, Option.some.injEq, ZRing.erase, Ring.core, Prod.mk.injEq] at this
    exact ⟨r, rfl, this.1.symm, this.2.symm⟩

theorem agree_none (z : ZOut) (o : Out) (h : Agree z o) (id : Nat) (hz : z.rings[id]? = none) : o.rings[id]? = none := by
  have := agree_get z o h id
  rw [hz] at this
  cases ho : o.rings[id]? with
  | none => rfl
  | some r => simp [ho] at this

theorem agree_set (zl : List ZRing) (ol : List Ring) (h : zl.map ZRing.erase = ol.map Ring.core) (id : Nat) (zr : ZRing) (r : Ring)
    (hs : r.stat = zr.stat) (hp : r.pts = zr.pts.map xy) : (zl.set id zr).map ZRing.erase = (ol.set id r).map Ring.core := by
  rw [List.map_set, List.map_set, h]
  congr 1
  simp [ZRing.erase, Ring.core, hs, hp]

theorem agree_newRec (zc : ZCfg) (ends : ZEnds) (how : Option Bool) (pt : PtZ) (z : ZOut) (o : Out) (h : Agree z o) :
    Agree (newRecZ zc ends how pt z) (newRec (xy pt) o) := by
  refine ⟨?_, ?_⟩
  · simp only [newRecZ, newRec, List.map_append, h.1, List.map_cons, List.map_nil]
    simp [ZRing.erase, Ring.core, stamp_xy]
  · simp only [newRecZ, newRec, List.map_cons, h.2]
    simp [ZEmit.erase, ZKind.erase, stamp_xy]

theorem agree_addOutPt (zc : ZCfg) (ends : ZEnds) (id : Nat) (f : Bool) (how : Option Bool) (pt : PtZ) (z : ZOut) (o : Out) (h : Agree z o) :
    Agree (addOutPtZ zc ends id f how pt z) (addOutPt id f (xy pt) o) := by
  -- a log entry of the Z layer with kind `k` against an entry of the ring model with kind `k.erase`
  have entry : ∀ (q old : PtZ) (k : ZKind) (src : ZSrc) (k' : EmitKind), xy q = xy pt → k.erase = k' →
      ((⟨q, k, src, old⟩ : ZEmit) :: z.log).map ZEmit.erase = ⟨xy pt, k'⟩ :: o.log := by
    intro q old k src k' hq hk
    rw [List.map_cons, h.2, ← hq, ← hk]; rfl
  unfold addOutPtZ
  cases hz : z.rings[id]? with
  | none =>
    rw [addOutPt_dead id f (xy pt) o (fun r hr => by rw [agree_none z o h id hz] at hr; cases hr)]
    exact ⟨h.1, entry _ _ .lost _ _ (stamp_xy ..) rfl⟩
  | some zr =>
    obtain ⟨r, ho, hs, hp⟩ := agree_some z o h id zr hz
    simp only
    by_cases hl : zr.stat = .live
    · rw [if_pos hl, addOutPt_live id f (xy pt) o r ho (hs.trans hl)]
      have hend : endPt f r.pts = (endPtZ f zr.pts).map xy := by rw [hp, endPtZ_map]
      cases hez : endPtZ f zr.pts with
      | none =>
        -- an empty ring
        have hr0 : r.pts = [] := by rw [hp, endPtZ_none f zr.pts hez]; rfl
        rcases addPt_cases f (xy pt) r with ⟨he, _⟩ | ⟨p, he, _, _⟩ | ⟨_, e⟩
        · rw [hr0] at he; cases f <;> cases he
        · rw [hr0] at he; cases f <;> cases he
        · rw [e]
          exact ⟨agree_set _ _ h.1 id _ _ ((setLast_stat _ _ _).trans hs) (by rw [List.map_singleton, stamp_xy]), entry _ _ .added _ _ (stamp_xy ..) rfl⟩
      | some p =>
        rw [hez] at hend
        simp only
        rcases addPt_cases f (xy pt) r with ⟨he, e⟩ | ⟨p', he, hne, e⟩ | ⟨hr0, _⟩
        · -- the end point has the x, y of `pt`: `AddOutPt` returns it, and `SetZ` (if called) overwrites its z
          have hd : xy pt = xy p := by rw [hend] at he; exact (Option.some.inj he).symm
          rw [if_pos hd, e]
          cases hv : (stamp zc ends how pt z).src.viaSetZ with
          | true =>
            rw [if_pos rfl]
            refine ⟨agree_set _ _ h.1 id _ _ ((setLast_stat _ _ _).trans hs) ?_, entry _ _ .over _ _ (stamp_xy ..) rfl⟩
            rw [setLast_pts, setEndZ_map f _ p zr.pts hez (by rw [stamp_xy, hd])]; exact hp
          | false =>
            rw [if_neg Bool.false_ne_true]
            refine ⟨?_, entry _ _ .dup _ _ rfl rfl⟩
            have t := agree_set _ _ h.1 id zr (r.setLast f (xy pt)) ((setLast_stat _ _ _).trans hs) ((setLast_pts _ _ _).trans hp)
            rw [← t, set_self_of_get _ _ _ hz]
        · have hd : ¬ xy pt = xy p := by rw [hend] at he; cases he; exact hne
          rw [if_neg hd, e]
          exact ⟨agree_set _ _ h.1 id _ _ ((setLast_stat _ _ _).trans hs) (by simp only [pushZ_map, stamp_xy, hp]),
            entry _ _ .added _ _ (stamp_xy ..) rfl⟩
        · rw [hr0] at hend; cases f <;> cases hend
    · rw [if_neg hl, addOutPt_dead id f (xy pt) o (fun r' hr' hl' => by rw [ho] at hr'; cases hr'; exact hl (hs ▸ hl'))]
      exact ⟨h.1, entry _ _ .lost _ _ (stamp_xy ..) rfl⟩

theorem agree_finish (id : Nat) (f : Bool) (z : ZOut) (o : Out) (h : Agree z o) : Agree (finishZ id f z) (finish id f o) := by
  unfold finishZ finish
  cases hz : z.rings[id]? with
  | none => rw [agree_none z o h id hz]; exact h
  | some zr =>
    obtain ⟨r, ho, hs, hp⟩ := agree_some z o h id zr hz
    rw [ho]
    refine ⟨?_, h.2⟩
    refine agree_set _ _ h.1 id _ _ rfl ?_
    simp only
    cases f with
    | true => simpa using hp
    | false =>
      simp only [Bool.false_eq_true, if_false, hp, List.getLast?_map]
      cases zr.pts.getLast? with
      | none => simp
      | some b => simp [List.map_dropLast]

theorem agree_joinPaths (A B : Nat) (f : Bool) (z : ZOut) (o : Out) (h : Agree z o) : Agree (joinPathsZ A B f z) (joinPaths A B f o) := by
  unfold joinPathsZ joinPaths
  cases hzA : z.rings[A]? with
  | none => rw [agree_none z o h A hzA]; exact h
  | some za =>
    obtain ⟨ra, hoA, hsA, hpA⟩ := agree_some z o h A za hzA
    rw [hoA]
    cases hzB : z.rings[B]? with
    | none => rw [agree_none z o h B hzB]; exact h
    | some zb =>
      obtain ⟨rb, hoB, hsB, hpB⟩ := agree_some z o h B zb hzB
      rw [hoB]
      simp only [hsA, hsB]
      split
      · refine ⟨?_, h.2⟩
        refine agree_set _ _ (agree_set _ _ h.1 A _ _ ?_ ?_) B _ _ rfl rfl
        · cases f <;> simp
        · cases f <;> simp [hpA, hpB]
      · exact h

/-- a relation between the Z output and the ring model's output that every pair of twin primitives preserves, for the triple `pt` of the event.
`X` = the event is an `intersect` (only then is `SetZ` ever called, and then with the event's `ends`, and `AddOutPt` never emits by value);
`S` = in an `intersect` event records may be started by value (`Split`). -/
structure PrimRel (zc : ZCfg) (X S : Bool) (ends : ZEnds) (pt : PtZ) (R : ZOut → Out → Prop) : Prop where
  newRec : ∀ ends' how z o, (how.isSome = true → X = true ∧ ends' = ends) → (how = none → X = true → S = true) → R z o → R (newRecZ zc ends' how pt z) (newRec (xy pt) o)
  addOutPt : ∀ ends' id f how z o, (how.isSome = X) → (how.isSome = true → ends' = ends) → R z o → R (addOutPtZ zc ends' id f how pt z) (addOutPt id f (xy pt) o)
  handOver : ∀ id f z o, R z o → R z (handOver id f o)
  finish : ∀ id f z o, R z o → R (finishZ id f z) (finish id f o)
  joinPaths : ∀ A B f z o, R z o → R (joinPathsZ A B f z) (joinPaths A B f o)
  logSeg : ∀ k i1 f1 i2 f2 z o, R z o → R z (logSeg k i1 f1 i2 f2 o)

/-- no edge of the AEL carries a `join_with` flag -/
def Unj (l : List SEdge) : Prop := ∀ x ∈ l, x.join = .none

theorem splitAt_unj (i : Nat) (s s1 : SState) (h : Unj s.ael) (hs : splitAt i s = .ok s1) : s1 = s := by
  unfold splitAt at hs
  cases hx : s.ael[i]? with
  | none => rw [hx] at hs; cases hs
  | some x =>
    simp only [hx, h x (List.mem_of_getElem? hx), if_true] at hs
    cases hs; rfl

theorem of_ite2 {α β} {R : α → β → Prop} {c : Prop} [Decidable c] {a b : α} {a' b' : β} (ha : c → R a a') (hb : ¬c → R b b') :
    R (if c then a else b) (if c then a' else b') := by
  by_cases h : c
  · rw [if_pos h, if_pos h]; exact ha h
  · rw [if_neg h, if_neg h]; exact hb h

section rel
variable {zc : ZCfg} {X S : Bool} {ends : ZEnds} {pt : PtZ} {R : ZOut → Out → Prop} (hp : PrimRel zc X S ends pt R)
include hp

theorem rel_localMaxOut (k : SegKind) (ends' : ZEnds) (how : Option Bool) (h1 : how.isSome = X) (h2 : how.isSome = true → ends' = ends)
    (ra rb : Rec) (z : ZOut) (o : Out) (h : R z o) : R (localMaxOutZ zc ends' how ra rb pt z) (localMaxOut k ra rb (xy pt) o) :=
  have h1 := hp.logSeg k rb.id rb.front ra.id ra.front _ _ (hp.addOutPt ends' ra.id ra.front how z o h1 h2 h)
  of_ite2 (fun _ => hp.finish _ _ _ _ h1) (fun _ => of_ite2 (fun _ => hp.joinPaths _ _ _ _ _ h1) (fun _ => hp.joinPaths _ _ _ _ _ h1))

theorem rel_addOn (ends' : ZEnds) (how : Option Bool) (h1 : how.isSome = X) (h2 : how.isSome = true → ends' = ends)
    (r : Option Rec) (z : ZOut) (o : Out) (h : R z o) : R (addOnZ zc ends' how r pt z) (addOn r (xy pt) o) := by
  cases r with
  | none => exact h
  | some x => exact hp.addOutPt _ _ _ _ _ _ h1 h2 h

theorem rel_handOn (r : Option Rec) (z : ZOut) (o : Out) (h : R z o) : R z (handOn r o) := by
  cases r with
  | none => exact h
  | some x => exact hp.handOver _ _ _ _ h

theorem rel_swapOut (ends' : ZEnds) (how : Option Bool) (h1 : how.isSome = X) (h2 : how.isSome = true → ends' = ends)
    (r1 r2 : Option Rec) (z : ZOut) (o : Out) (h : R z o) : R (swapOutZ zc ends' how r1 r2 pt z) (swapOut r1 r2 (xy pt) o) :=
  rel_handOn hp _ _ _ (rel_handOn hp _ _ _ (rel_addOn hp _ _ h1 h2 _ _ _ (rel_addOn hp _ _ h1 h2 _ _ _ h)))

theorem rel_coreOut (cfg : Cfg) (hX : X = true) (a b : SEdge) (z : ZOut) (o : Out) (h : R z o) :
    R (coreOutZ cfg zc ends a b pt z) (coreOut cfg a b (xy pt) o) := by
  unfold coreOutZ coreOut
  have g1 : (some (a.e.pt == PathType.subject)).isSome = X := by rw [hX]; rfl
  have g2 : (some (a.e.pt == PathType.subject)).isSome = true → ends = ends := fun _ => rfl
  have g3 : (some (a.e.pt == PathType.subject)).isSome = true → X = true ∧ ends = ends := fun _ => ⟨hX, rfl⟩
  simp only
  generalize decideAct cfg (updateWinds cfg.fr a.e b.e).1 (updateWinds cfg.fr a.e b.e).2 a.orec b.orec = act
  cases act with
  | nothing => exact h
  | swap => exact rel_swapOut hp _ _ g1 g2 _ _ _ _ h
  | localMin => exact hp.newRec _ _ _ _ g3 (fun hh => nomatch hh) h
  | localMax =>
    cases a.orec with
    | none => exact h
    | some ra =>
      cases b.orec with
      | none => exact h
      | some rb => exact rel_localMaxOut hp _ _ _ g1 g2 _ _ _ _ h
  | maxThenMin =>
    cases a.orec with
    | none => exact h
    | some ra =>
      cases b.orec with
      | none => exact h
      | some rb => exact hp.newRec _ _ _ _ g3 (fun hh => nomatch hh) (rel_localMaxOut hp _ _ _ g1 g2 _ _ _ _ h)

/-- `if (IsJoined(e)) Split(e, pt)`: inside an `intersect` event the record `Split` starts is started by value, which the primitives allow (`S`) —
or no edge is joined and `Split` is not entered -/
theorem rel_splitOut (i : Nat) (s : SState) (hS : X = true → S = true ∨ Unj s.ael) (z : ZOut) (o : Out) (h : R z o) :
    R (splitOutZ zc i pt s z) (splitOut i (xy pt) s o) := by
  unfold splitOutZ splitOut
  cases hx : s.ael[i]? with
  | none => exact h
  | some x =>
    refine of_ite2 (fun _ => h) (fun hj => hp.newRec _ _ _ _ (fun hh => nomatch hh) (fun _ hX => ?_) h)
    exact (hS hX).resolve_right fun hu => hj (hu x (List.mem_of_getElem? hx))

/-- the two `Split`s run in step and hand the same pair of edges to what follows -/
theorem rel_twoSplitsOut (i : Nat) (s : SState) (hS : X = true → S = true ∨ Unj s.ael) (z : ZOut) (o : Out) (h : R z o) :
    ∃ z2 o2 m, twoSplitsOutZ zc i pt s z = (z2, m) ∧ twoSplitsOut i (xy pt) s o = (o2, m) ∧ R z2 o2 := by
  unfold twoSplitsOutZ twoSplitsOut
  have h1 := rel_splitOut hp i s hS z o h
  simp only
  cases hq : splitAt i s with
  | error e => exact ⟨_, _, _, rfl, rfl, h1⟩
  | ok s1 =>
    -- without joined edges the first `Split` left the side state alone
    have hS1 : X = true → S = true ∨ Unj s1.ael := fun hX => (hS hX).imp id fun hu => splitAt_unj i s s1 hu hq ▸ hu
    have h2 := rel_splitOut hp (i + 1) s1 hS1 _ _ h1
    simp only
    cases splitAt (i + 1) s1 with
    | error e => exact ⟨_, _, _, rfl, rfl, h2⟩
    | ok s2 =>
      simp only
      cases s2.ael.drop i with
      | nil => exact ⟨_, _, _, rfl, rfl, h2⟩
      | cons a t =>
        cases t with
        | nil => exact ⟨_, _, _, rfl, rfl, h2⟩
        | cons b t' => exact ⟨_, _, _, rfl, rfl, h2⟩

theorem rel_intersectOut (cfg : Cfg) (hX : X = true) (i : Nat) (s : SState) (hS : S = true ∨ Unj s.ael) (z : ZOut) (o : Out) (h : R z o) :
    R (intersectOutZ cfg zc i pt ends s z) (intersectOut cfg i (xy pt) s o) := by
  unfold intersectOutZ intersectOut
  cases s.ael.drop i with
  | nil => exact h
  | cons a0 t =>
    cases t with
    | nil => exact h
    | cons b0 t' =>
      refine of_ite2 (fun _ => of_ite2 (fun _ => h) (fun _ => of_ite2 (fun _ => rel_splitOut hp _ _ (fun _ => hS) _ _ h)
        (fun _ => rel_splitOut hp _ _ (fun _ => hS) _ _ h))) (fun _ => ?_)
      obtain ⟨z2, o2, m, ez, eo, h2⟩ := rel_twoSplitsOut hp i s (fun _ => hS) z o h
      rw [ez, eo]
      cases m with
      | none => exact h2
      | some ab => exact rel_coreOut hp cfg hX ab.1 ab.2 _ _ h2

theorem rel_removePairOut (hX : X = false) (i : Nat) (s : SState) (z : ZOut) (o : Out) (h : R z o) :
    R (removePairOutZ zc i pt s z) (removePairOut i (xy pt) s o) := by
  unfold removePairOutZ removePairOut
  cases s.ael.drop i with
  | nil => exact h
  | cons a0 t =>
    cases t with
    | nil => exact h
    | cons b0 t' =>
      refine of_ite2 (fun _ => h) (fun _ => ?_)
      obtain ⟨z2, o2, m, ez, eo, h2⟩ := rel_twoSplitsOut hp i s (fun hh => by rw [hX] at hh; cases hh) z o h
      rw [ez, eo]
      cases m with
      | none => exact h2
      | some ab =>
        simp only
        cases ab.1.orec with
        | none => exact h2
        | some ra =>
          cases ab.2.orec with
          | none => exact h2
          | some rb => exact rel_localMaxOut hp _ _ _ (by rw [hX]; rfl) (by intro hh; cases hh) _ _ _ _ h2

theorem rel_joinOut (hX : X = false) (i : Nat) (s : SState) (z : ZOut) (o : Out) (h : R z o) :
    R (joinOutZ zc i pt s z) (joinOut i (xy pt) s o) := by
  unfold joinOutZ joinOut
  cases s.ael.drop i with
  | nil => exact h
  | cons a t =>
    cases t with
    | nil => exact h
    | cons b t' =>
      simp only
      cases a.orec with
      | none => exact h
      | some ra =>
        cases b.orec with
        | none => exact h
        | some rb =>
          exact of_ite2 (fun _ => rel_localMaxOut hp _ _ _ (by rw [hX]; rfl) (by intro hh; cases hh) _ _ _ _ h)
            (fun _ => of_ite2 (fun _ => hp.joinPaths _ _ _ _ _ (hp.logSeg _ _ _ _ _ _ _ h)) (fun _ => hp.joinPaths _ _ _ _ _ (hp.logSeg _ _ _ _ _ _ _ h)))

theorem rel_updateOut (hX : X = false) (i : Nat) (s : SState) (z : ZOut) (o : Out) (h : R z o) :
    R (updateOutZ zc i pt s z) (updateOut i (xy pt) s o) := by
  unfold updateOutZ updateOut
  cases s.ael[i]? with
  | none => exact h
  | some x => exact of_ite2 (fun _ => h) (fun _ => rel_addOn hp _ _ (by rw [hX]; rfl) (by intro hh; cases hh) _ _ _ h)

theorem rel_insertPairOut (cfg : Cfg) (hX : X = false) (pos : Nat) (t : PathType) (isOpen : Bool) (dx : Int) (s : SState) (z : ZOut) (o : Out) (h : R z o) :
    R (insertPairOutZ cfg zc pos t isOpen dx pt s z) (insertPairOut cfg pos t isOpen dx (xy pt) s o) :=
  of_ite2 (fun _ => hp.newRec _ _ _ _ (fun hh => nomatch hh) (fun _ hh => by rw [hX] at hh; cases hh) h) (fun _ => h)

end rel

/-- is the event an `IntersectEdges` call; its `bot`/`top` record -/
def ZOp.isX : ZOp → Bool
  | .intersect _ _ _ => true
  | _ => false

def ZOp.ends : ZOp → ZEnds
  | .intersect _ _ e => e
  | _ => ZEnds.none

/-- the input vertex a vertex event supplies: `left_bound->bot` of a local minimum, `e.top` of a vertex passed (`DoTopOfScanbeam`, `DoHorizontal`) or of a maximum -/
def ZOp.vertexPt : ZOp → Option PtZ
  | .insertPair _ _ _ _ p => some p
  | .update _ p => some p
  | .removePair _ p => some p
  | _ => none

theorem erase_pt (op : ZOp) : (op.erase).pt = xy op.ptz := by
  cases op <;> rfl

theorem isX_intersect (op : ZOp) (h : op.isX = true) : ∃ i pt ends, op = .intersect i pt ends := by
  cases op <;> first | exact ⟨_, _, _, rfl⟩ | cases h

/-- every Z effect of an event is a composition of Z primitives running in step with the ring model's primitives; `S = false` (no record is started by value
inside an `IntersectEdges` event) is available where no edge is joined -/
theorem rel_outStepZ (cfg : Cfg) (zc : ZCfg) (s : SState) (z : ZOut) (o : Out) (op : ZOp) (S : Bool) (R : ZOut → Out → Prop)
    (hp : PrimRel zc op.isX S op.ends op.ptz R) (hS : S = true ∨ Unj s.ael) (h : R z o) : R (outStepZ cfg zc s z op) (outStep cfg s o op.erase) := by
  cases op with
  | insertPair pos t isOpen dx p => exact rel_insertPairOut hp cfg rfl _ _ _ _ _ _ _ h
  | insertOne _ _ _ => exact h
  | intersect i p e => exact rel_intersectOut hp cfg rfl _ _ hS _ _ h
  | removePair i p => exact rel_removePairOut hp rfl _ _ _ _ h
  | removeOne _ => exact h
  | join i p => exact rel_joinOut hp rfl _ _ _ _ h
  | split i p => exact rel_splitOut hp _ _ (fun hh => nomatch hh) _ _ h
  | update i p => exact rel_updateOut hp rfl _ _ _ _ h

theorem handOver_core (id : Nat) (f : Bool) (o : Out) : (handOver id f o).rings.map Ring.core = o.rings.map Ring.core := by
  unfold handOver
  cases hr : o.rings[id]? with
  | none => rfl
  | some r =>
    simp only [List.map_set]
    have : Ring.core (if f then { r with frun := o.nrun } else { r with brun := o.nrun }) = Ring.core r := by cases f <;> rfl
    rw [this]
    have h2 : (o.rings.map Ring.core)[id]? = some (Ring.core r) := by simp [List.getElem?_map, hr]
    exact set_self_of_get _ _ _ h2

theorem agree_prim (zc : ZCfg) (X S : Bool) (ends : ZEnds) (pt : PtZ) : PrimRel zc X S ends pt Agree :=
  ⟨fun ends' how z o _ _ h => agree_newRec zc ends' how pt z o h,
   fun ends' id f how z o _ _ h => agree_addOutPt zc ends' id f how pt z o h,
   fun id f z o h => ⟨by rw [handOver_core]; exact h.1, by rw [log_handOver]; exact h.2⟩,
   agree_finish, agree_joinPaths,
   fun k i1 f1 i2 f2 z o h => ⟨by rw [logSeg_rings]; exact h.1, by rw [logSeg_log]; exact h.2⟩⟩

/-- the four outcomes of `resultOp = AddOutPt(e, pt); [SetZ(e1, e2, resultOp->pt)]` -/
inductive AddCase (zc : ZCfg) (ends : ZEnds) (id : Nat) (f : Bool) (how : Option Bool) (pt : PtZ) (z z' : ZOut) : Prop
  | lost (hr : z'.rings = z.rings) (hl : z'.log = ⟨(stamp zc ends how pt z).q, .lost, (stamp zc ends how pt z).src, (stamp zc ends how pt z).q⟩ :: z.log)
  | dup (hr : z'.rings = z.rings) (hl : z'.log = ⟨pt, .dup, (stamp zc ends how pt z).src, pt⟩ :: z.log) (hs : (stamp zc ends how pt z).src.viaSetZ = false)
  | over (r : ZRing) (p : PtZ) (hg : z.rings[id]? = some r) (he : endPtZ f r.pts = some p) (hxy : xy pt = xy p)
      (hr : z'.rings = z.rings.set id { r with pts := setEndZ f (stamp zc ends how pt z).q r.pts })
      (hl : z'.log = ⟨(stamp zc ends how pt z).q, .over, (stamp zc ends how pt z).src, p⟩ :: z.log) (hs : (stamp zc ends how pt z).src.viaSetZ = true)
  | added (r : ZRing) (pts' : List PtZ) (hg : z.rings[id]? = some r) (hr : z'.rings = z.rings.set id { r with pts := pts' })
      (hp : pts'.Perm ((stamp zc ends how pt z).q :: r.pts))
      (hl : z'.log = ⟨(stamp zc ends how pt z).q, .added, (stamp zc ends how pt z).src, (stamp zc ends how pt z).q⟩ :: z.log)

theorem addOutPtZ_cases (zc : ZCfg) (ends : ZEnds) (id : Nat) (f : Bool) (how : Option Bool) (pt : PtZ) (z : ZOut) :
    (addOutPtZ zc ends id f how pt z).ncb = (stamp zc ends how pt z).ncb ∧ (addOutPtZ zc ends id f how pt z).calls = (stamp zc ends how pt z).calls ∧
    AddCase zc ends id f how pt z (addOutPtZ zc ends id f how pt z) := by
  unfold addOutPtZ
  cases hz : z.rings[id]? with
  | none => exact ⟨rfl, rfl, .lost rfl rfl⟩
  | some r =>
    simp only
    by_cases hl : r.stat = .live
    · rw [if_pos hl]
      cases he : endPtZ f r.pts with
      | none =>
        refine ⟨rfl, rfl, .added r [(stamp zc ends how pt z).q] hz rfl ?_ rfl⟩
        rw [endPtZ_none f r.pts he]
      | some p =>
        simp only
        by_cases hd : xy pt = xy p
        · rw [if_pos hd]
          cases hv : (stamp zc ends how pt z).src.viaSetZ with
          | true => exact ⟨rfl, rfl, .over r p hz he hd rfl rfl hv⟩
          | false => exact ⟨rfl, rfl, .dup rfl rfl hv⟩
        · rw [if_neg hd]
          refine ⟨rfl, rfl, .added r (pushZ f (stamp zc ends how pt z).q r.pts) hz rfl ?_ rfl⟩
          cases f
          · simp only [pushZ, Bool.false_eq_true, if_false]; exact List.perm_append_singleton _ _
          · simp [pushZ]
    · rw [if_neg hl]; exact ⟨rfl, rfl, .lost rfl rfl⟩

/-- whatever `AddOutPt` does, it logs one entry, made from the stamp -/
theorem AddCase.entry {zc : ZCfg} {ends : ZEnds} {id : Nat} {f : Bool} {how : Option Bool} {pt : PtZ} {z z' : ZOut}
    (hc : AddCase zc ends id f how pt z z') :
    ∃ e0, z'.log = e0 :: z.log ∧ e0.src = (stamp zc ends how pt z).src ∧
      (e0.ptz = (stamp zc ends how pt z).q ∨ ((stamp zc ends how pt z).src = .given ∧ e0.ptz = pt)) := by
  cases hc with
  | lost hr hl => exact ⟨_, hl, rfl, Or.inl rfl⟩
  | dup hr hl hs =>
    refine ⟨_, hl, rfl, Or.inr ⟨?_, rfl⟩⟩
    cases hsrc : (stamp zc ends how pt z).src with
    | given => rfl
    | setz k => rw [hsrc] at hs; cases hs
  | over r p hgr he' hxy hr hl hs => exact ⟨_, hl, rfl, Or.inl rfl⟩
  | added r pts' hgr hr hp hl => exact ⟨_, hl, rfl, Or.inl rfl⟩

theorem allPtsZ_append (a b : List ZRing) : allPtsZ (a ++ b) = allPtsZ a ++ allPtsZ b := List.flatMap_append

/-- replacing ring `id`: `X` plus its new points balance `Y` plus its old points -/
theorem allPtsZ_set_gen (l : List ZRing) (id : Nat) (r r' : ZRing) (X Y : List PtZ) (h : l[id]? = some r) (hp : (X ++ r'.pts).Perm (Y ++ r.pts)) :
    (X ++ allPtsZ (l.set id r')).Perm (Y ++ allPtsZ l) := by
  have h1 : (r.pts ++ allPtsZ (l.set id r')).Perm (r'.pts ++ allPtsZ l) := flatMap_set (·.pts) l id r r' h
  have e1 : (r.pts ++ (X ++ allPtsZ (l.set id r'))).Perm (X ++ (r'.pts ++ allPtsZ l)) :=
    (perm_swap3 _ _ _).trans (h1.append_left X)
  have e2 : (X ++ (r'.pts ++ allPtsZ l)).Perm (r.pts ++ (Y ++ allPtsZ l)) := by
    rw [← List.append_assoc]
    refine (hp.append_right _).trans ?_
    rw [List.append_assoc]
    exact perm_swap3 _ _ _
  exact (List.perm_append_left_iff r.pts).mp (e1.trans e2)

/-- the triples that stand or stood in a ring: stored by an emission -/
def storedZ (log : List ZEmit) : List PtZ := (log.filter ZEmit.stored).map (·.ptz)
/-- the triples that `SetZ` overwrote -/
def overOld (log : List ZEmit) : List PtZ := (log.filter (fun e => e.kind == .over)).map (·.old)

/-- conservation of triples: the triples in the rings together with the overwritten ones are exactly the triples stored -/
def PermZOK (z : ZOut) : Prop := (allPtsZ z.rings ++ overOld z.log).Perm (storedZ z.log)

/-- closing a ring (`outrec.pts = result`) permutes its triples and touches no other ring and no log -/
theorem finishZ_triples (id : Nat) (f : Bool) (z : ZOut) :
    (allPtsZ (finishZ id f z).rings).Perm (allPtsZ z.rings) ∧ (finishZ id f z).log = z.log ∧ (finishZ id f z).ncb = z.ncb ∧ (finishZ id f z).calls = z.calls := by
  unfold finishZ
  cases hz : z.rings[id]? with
  | none => exact ⟨List.Perm.refl _, rfl, rfl, rfl⟩
  | some r =>
    refine ⟨?_, rfl, rfl, rfl⟩
    have := allPtsZ_set_gen z.rings id r { stat := .done, pts := (if f then r.pts else (match r.pts.getLast? with | some b => b :: r.pts.dropLast | none => r.pts)) } [] [] hz (by
      simp only [List.nil_append]
      split
      · exact List.Perm.refl _
      · split
        · next b hb => exact rotate_perm _ _ hb
        · exact List.Perm.refl _)
    simp only [List.nil_append] at this
    exact this

/-- `JoinOutrecPaths` permutes the triples of the two rings into one and touches no other ring and no log -/
theorem joinPathsZ_triples (A B : Nat) (f : Bool) (z : ZOut) :
    (allPtsZ (joinPathsZ A B f z).rings).Perm (allPtsZ z.rings) ∧ (joinPathsZ A B f z).log = z.log ∧ (joinPathsZ A B f z).ncb = z.ncb ∧ (joinPathsZ A B f z).calls = z.calls := by
  unfold joinPathsZ
  cases hA : z.rings[A]? with
  | none => exact ⟨List.Perm.refl _, rfl, rfl, rfl⟩
  | some ra =>
    cases hB : z.rings[B]? with
    | none => exact ⟨List.Perm.refl _, rfl, rfl, rfl⟩
    | some rb =>
      simp only
      split
      · next hc =>
        refine ⟨?_, rfl, rfl, rfl⟩
        simp only
        have hB' : (z.rings.set A (if f then { ra with pts := rb.pts ++ ra.pts } else { ra with pts := ra.pts ++ rb.pts }))[B]? = some rb := by
          rw [List.getElem?_set_ne hc.1]; exact hB
        have h1 := allPtsZ_set_gen z.rings A ra (if f then { ra with pts := rb.pts ++ ra.pts } else { ra with pts := ra.pts ++ rb.pts }) [] rb.pts hA (by
          cases f <;> simp <;> exact List.perm_append_comm)
        have h2 := allPtsZ_set_gen _ B rb { pts := [], stat := .gone } rb.pts [] hB' (by simp)
        simp only [List.nil_append] at h1 h2
        exact (List.perm_append_left_iff rb.pts).mp (h2.trans h1)
      · exact ⟨List.Perm.refl _, rfl, rfl, rfl⟩

/-- lifting a unary invariant: the ring model's output is ignored -/
theorem prim_unary (zc : ZCfg) (X S : Bool) (ends : ZEnds) (pt : PtZ) (P : ZOut → Prop)
    (h1 : ∀ ends' how z, (how.isSome = true → X = true ∧ ends' = ends) → (how = none → X = true → S = true) → P z → P (newRecZ zc ends' how pt z))
    (h2 : ∀ ends' id f how z, how.isSome = X → (how.isSome = true → ends' = ends) → P z → P (addOutPtZ zc ends' id f how pt z))
    (h3 : ∀ id f z, P z → P (finishZ id f z)) (h4 : ∀ A B f z, P z → P (joinPathsZ A B f z)) :
    PrimRel zc X S ends pt (fun z _ => P z) :=
  ⟨fun ends' how z _ g g' h => h1 ends' how z g g' h, fun ends' id f how z _ g1 g2 h => h2 ends' id f how z g1 g2 h, fun _ _ _ _ h => h,
   fun id f z _ h => h3 id f z h, fun A B f z _ h => h4 A B f z h, fun _ _ _ _ _ _ _ h => h⟩

theorem permZOK_prim (zc : ZCfg) (X S : Bool) (ends : ZEnds) (pt : PtZ) : PrimRel zc X S ends pt (fun z _ => PermZOK z) := by
  unfold PermZOK
  refine prim_unary zc X S ends pt _ (fun ends' how z _ _ h => ?_) (fun ends' id f how z _ _ h => ?_)
    (fun id f z h => ?_) (fun A B f z h => ?_)
  · -- the new ring holds the stored triple
    show (allPtsZ (z.rings ++ [_]) ++ overOld z.log).Perm ((stamp zc ends' how pt z).q :: storedZ z.log)
    rw [allPtsZ_append, List.append_assoc]
    exact List.perm_middle.trans (h.cons _)
  · obtain ⟨_, _, hc⟩ := addOutPtZ_cases zc ends' id f how pt z
    cases hc with
    | lost hr hl => rw [hr, hl]; exact h
    | dup hr hl hs => rw [hr, hl]; exact h
    | over r p hg he hxy hr hl hs =>
      -- the old end `p` moves from the ring to the overwritten triples, the stamped triple takes its place
      rw [hr, hl]
      show (allPtsZ (z.rings.set id _) ++ p :: overOld z.log).Perm ((stamp zc ends' how pt z).q :: storedZ z.log)
      have h1 := allPtsZ_set_gen z.rings id r { r with pts := setEndZ f (stamp zc ends' how pt z).q r.pts } [p] [(stamp zc ends' how pt z).q] hg
        (setEndZ_perm f _ p r.pts he)
      exact List.perm_middle.trans ((h1.append_right (overOld z.log)).trans (h.cons _))
    | added r pts' hg hr hp hl =>
      rw [hr, hl]
      show (allPtsZ (z.rings.set id _) ++ overOld z.log).Perm ((stamp zc ends' how pt z).q :: storedZ z.log)
      have h1 := allPtsZ_set_gen z.rings id r { r with pts := pts' } [] [(stamp zc ends' how pt z).q] hg hp
      exact (h1.append_right (overOld z.log)).trans (h.cons _)
  · rw [(finishZ_triples id f z).2.1]; exact ((finishZ_triples id f z).1.append_right _).trans h
  · rw [(joinPathsZ_triples A B f z).2.1]; exact ((joinPathsZ_triples A B f z).1.append_right _).trans h

def ProvOK (z : ZOut) : Prop := ∀ g ∈ z.rings, ∀ q ∈ g.pts, ∃ e ∈ z.log, e.stored = true ∧ e.ptz = q

/-- what stands in a ring was stored: the ring triples are among the stored ones (`PermZOK`) -/
theorem provOK_of_perm (z : ZOut) (h : PermZOK z) : ProvOK z := by
  intro g hg q hq
  have hq' : q ∈ storedZ z.log := h.subset (List.mem_append_left _ (List.mem_flatMap.mpr ⟨g, hg, hq⟩))
  obtain ⟨e, he, rfl⟩ := List.mem_map.mp hq'
  exact ⟨e, (List.mem_filter.mp he).1, (List.mem_filter.mp he).2, rfl⟩

/-- the calls are numbered `0, 1, …, ncb - 1`; each recorded answer is the family's answer to the recorded arguments; a `setz k` log entry refers to a call made -/
def CallsOK (zc : ZCfg) (z : ZOut) : Prop :=
  z.calls.map (·.k) = (List.range z.ncb).reverse ∧
  (∀ c ∈ z.calls, ∃ F, zc.cb = some F ∧ c.ret = F c.k c.a c.b c.c c.d c.seen) ∧
  (∀ e ∈ z.log, ∀ k, e.src = .setz k → k < z.ncb)

theorem callsOK_stamp (zc : ZCfg) (ends : ZEnds) (how : Option Bool) (pt : PtZ) (z z' : ZOut) (h : CallsOK zc z) (e0 : ZEmit)
    (hn : z'.ncb = (stamp zc ends how pt z).ncb) (hc : z'.calls = (stamp zc ends how pt z).calls) (hl : z'.log = e0 :: z.log)
    (hs : e0.src = (stamp zc ends how pt z).src) : CallsOK zc z' := by
  rcases stamp_spec zc ends how pt z with ⟨h1, _, h3, h4, _⟩ | ⟨F, subj, hF, _, h1, _, h3, c, h4, h5, h6⟩
  · refine ⟨by rw [hn, hc, h3, h4]; exact h.1, by rw [hc, h4]; exact h.2.1, ?_⟩
    intro e he k hk
    rw [hn, h3]
    rw [hl] at he
    rcases List.mem_cons.mp he with rfl | he
    · rw [hs, h1] at hk; cases hk
    · exact h.2.2 e he k hk
  · refine ⟨?_, ?_, ?_⟩
    · rw [hn, hc, h3, h4, List.map_cons, h.1, h5, List.range_succ, List.reverse_append]; rfl
    · intro c' hc'
      rw [hc, h4] at hc'
      rcases List.mem_cons.mp hc' with rfl | hc'
      · exact ⟨F, hF, by rw [h6, h5]⟩
      · exact h.2.1 c' hc'
    · intro e he k hk
      rw [hn, h3]
      rw [hl] at he
      rcases List.mem_cons.mp he with rfl | he
      · rw [hs, h1] at hk; cases hk; exact Nat.lt_succ_self _
      · exact Nat.lt_succ_of_lt (h.2.2 e he k hk)

theorem callsOK_prim (zc : ZCfg) (X S : Bool) (ends : ZEnds) (pt : PtZ) : PrimRel zc X S ends pt (fun z _ => CallsOK zc z) := by
  have same : ∀ (z z' : ZOut), z'.log = z.log ∧ z'.ncb = z.ncb ∧ z'.calls = z.calls → CallsOK zc z → CallsOK zc z' := by
    intro z z' e h; unfold CallsOK at *; rw [e.1, e.2.1, e.2.2]; exact h
  refine prim_unary zc X S ends pt _ (fun ends' how z _ _ h => callsOK_stamp zc ends' how pt z _ h _ rfl rfl rfl rfl)
    (fun ends' id f how z _ _ h => ?_) (fun id f z h => same z _ (finishZ_triples id f z).2 h) (fun A B f z h => same z _ (joinPathsZ_triples A B f z).2 h)
  obtain ⟨h1, h2, hc⟩ := addOutPtZ_cases zc ends' id f how pt z
  obtain ⟨e0, hl, hs, _⟩ := hc.entry
  exact callsOK_stamp zc ends' how pt z _ h e0 h1 h2 hl hs

/-- how an event with triple `pt` (and, for `IntersectEdges`, end points among `Ends`) can have produced the log entry `e`:
* by value — the entry is the event's triple as handed over; in an `IntersectEdges` event with a callback installed only `Split` does that (a `new` record),
  and only where `Split` can run at all (`S`: the AEL may hold joined edges);
* through `SetZ` — only in an `IntersectEdges` event with a callback: the entry is `setZ` of the event's triple, with the callback's `k`-th call. -/
def EmitFrom (zc : ZCfg) (X S : Bool) (Ends : ZEnds → Prop) (pt : PtZ) (e : ZEmit) : Prop :=
  (e.src = .given ∧ e.ptz = pt ∧ (X = true → zc.cb = none ∨ (S = true ∧ e.kind = .new))) ∨
  (X = true ∧ ∃ F k subj ends, Ends ends ∧ zc.cb = some F ∧ e.src = .setz k ∧ e.ptz = setZ (some (F k)) subj ends.e1bot ends.e1top ends.e2bot ends.e2top pt zc.defaultZ)

/-- without joined edges: in an `IntersectEdges` event a by-value entry exists only when no callback is installed -/
theorem EmitFrom.unj {zc : ZCfg} {X : Bool} {Ends : ZEnds → Prop} {pt : PtZ} {e : ZEmit} (h : EmitFrom zc X false Ends pt e) :
    (e.src = .given ∧ e.ptz = pt ∧ (X = true → zc.cb = none)) ∨
    (X = true ∧ ∃ F k subj ends, Ends ends ∧ zc.cb = some F ∧ e.src = .setz k ∧ e.ptz = setZ (some (F k)) subj ends.e1bot ends.e1top ends.e2bot ends.e2top pt zc.defaultZ) :=
  h.imp_left fun ⟨h1, h2, h3⟩ => ⟨h1, h2, fun hX => (h3 hX).resolve_right fun hh => nomatch hh.1⟩

theorem emitFrom_stamp (zc : ZCfg) (X S : Bool) (Ends : ZEnds → Prop) (ends ends' : ZEnds) (hE : Ends ends) (how : Option Bool) (pt : PtZ) (z : ZOut) (e : ZEmit)
    (g : how.isSome = true → X = true ∧ ends' = ends) (hk : how = none → X = true → S = true ∧ e.kind = .new)
    (hs : e.src = (stamp zc ends' how pt z).src) (hq : e.ptz = (stamp zc ends' how pt z).q ∨ ((stamp zc ends' how pt z).src = .given ∧ e.ptz = pt)) :
    EmitFrom zc X S Ends pt e := by
  rcases stamp_spec zc ends' how pt z with ⟨h1, h2, _, _, h5⟩ | ⟨F, subj, hF, hh, h1, h2, _⟩
  · refine Or.inl ⟨hs.trans h1, ?_, fun hX => ?_⟩
    · rcases hq with hq | hq
      · rw [hq, h2]
      · exact hq.2
    · rcases h5 with h5 | h5
      · exact Or.inr (hk h5 hX)
      · exact Or.inl h5
  · have := g (by rw [hh]; rfl)
    refine Or.inr ⟨this.1, F, z.ncb, subj, ends, hE, hF, hs.trans h1, ?_⟩
    rw [← this.2, ← h2]
    rcases hq with hq | hq
    · exact hq
    · rw [h1] at hq; cases hq.1

/-- provenance of the log entries one event makes, with an arbitrary description `Old` of the entries that were there before; `SetZ` may be called with any
end points among `Ends` (the open layer passes the open edge first: the event's end points as they stand or exchanged) -/
theorem logFrom_primRel (Old : ZEmit → Prop) (zc : ZCfg) (X S : Bool) (Ends : ZEnds → Prop) (ends : ZEnds) (hE : Ends ends) (pt : PtZ) :
    PrimRel zc X S ends pt (fun z _ => ∀ e ∈ z.log, Old e ∨ EmitFrom zc X S Ends pt e) := by
  refine prim_unary zc X S ends pt _ ?_ ?_ ?_ ?_
  · intro ends' how z g g' h e he
    rcases List.mem_cons.mp he with rfl | he
    · exact Or.inr (emitFrom_stamp zc X S Ends ends ends' hE how pt z _ g (fun hn hX => ⟨g' hn hX, rfl⟩) rfl (Or.inl rfl))
    · exact h e he
  · intro ends' id f how z g1 g2 h e he
    have g : how.isSome = true → X = true ∧ ends' = ends := fun hh => ⟨by rw [← g1]; exact hh, g2 hh⟩
    obtain ⟨e0, hl, hs, hq⟩ := (addOutPtZ_cases zc ends' id f how pt z).2.2.entry
    rw [hl] at he
    rcases List.mem_cons.mp he with rfl | he
    · exact Or.inr (emitFrom_stamp zc X S Ends ends ends' hE how pt z _ g (fun hn hX => by rw [← g1, hn] at hX; cases hX) hs hq)
    · exact h e he
  · intro id f z h e he
    rw [(finishZ_triples id f z).2.1] at he; exact h e he
  · intro A B f z h e he
    rw [(joinPathsZ_triples A B f z).2.1] at he; exact h e he

theorem unj_take (l : List SEdge) (n : Nat) (h : Unj l) : Unj (l.take n) := fun x hx => h x (List.mem_of_mem_take hx)
theorem unj_drop (l : List SEdge) (n : Nat) (h : Unj l) : Unj (l.drop n) := fun x hx => h x (List.mem_of_mem_drop hx)
theorem unj_append (a b : List SEdge) (ha : Unj a) (hb : Unj b) : Unj (a ++ b) := by
  intro x hx; rcases List.mem_append.mp hx with h | h
  · exact ha x h
  · exact hb x h
theorem unj_cons (a : SEdge) (l : List SEdge) (ha : a.join = .none) (hl : Unj l) : Unj (a :: l) := by
  intro x hx; rcases List.mem_cons.mp hx with h | h
  · rw [h]; exact ha
  · exact hl x h
theorem unj_map (g : SEdge → SEdge) (hg : ∀ x, (g x).join = x.join) (l : List SEdge) (h : Unj l) : Unj (l.map g) := by
  intro x hx
  obtain ⟨y, hy, rfl⟩ := List.mem_map.mp hx
  rw [hg]; exact h y hy

theorem unj_split3 (l : List SEdge) (i : Nat) (a b : SEdge) (rest : List SEdge) (hd : l.drop i = a :: b :: rest) (h : Unj l) :
    Unj (l.take i) ∧ a.join = .none ∧ b.join = .none ∧ Unj rest := by
  have h2 := unj_drop l i h
  rw [hd] at h2
  exact ⟨unj_take l i h, h2 a (by simp), h2 b (by simp), fun x hx => h2 x (by simp [hx])⟩

theorem unj_addLocalMin (i : Nat) (isNew : Bool) (s : SState) (h : Unj s.ael) : Unj (addLocalMin i isNew s).ael := by
  unfold addLocalMin
  cases hd : s.ael.drop i with
  | nil => exact h
  | cons a t =>
    cases t with
    | nil => exact h
    | cons b rest =>
      obtain ⟨h1, h2, h3, h4⟩ := unj_split3 s.ael i a b rest hd h
      exact unj_append _ _ h1 (unj_cons _ _ h2 (unj_cons _ _ h3 h4))

theorem unj_intersectCore (cfg : Cfg) (pre : List SEdge) (a b : SEdge) (rest : List SEdge) (n : Nat) (s' : SState)
    (h1 : Unj pre) (h2 : a.join = .none) (h3 : b.join = .none) (h4 : Unj rest) (hs : intersectCore cfg pre a b rest n = .ok s') : Unj s'.ael := by
  have plain : ∀ (ea eb : Edge) (ra rb : Option Rec), Unj (pre ++ { b with e := eb, orec := rb } :: { a with e := ea, orec := ra } :: rest) :=
    fun _ _ _ _ => unj_append _ _ h1 (unj_cons _ _ h3 (unj_cons _ _ h2 h4))
  have relabelled : ∀ (ra rb : Rec) (g : SEdge → SEdge) (ea eb : Edge) (oa ob : Option Rec), addLocalMaxFn ra rb = .ok g →
      Unj (pre.map g ++ { b with e := eb, orec := ob } :: { a with e := ea, orec := oa } :: rest.map g) := by
    intro ra rb g _ _ _ _ hg
    have hj : ∀ x, (g x).join = x.join := fun x => (addLocalMaxFn_shape ra rb g hg x).2.1
    exact unj_append _ _ (unj_map g hj _ h1) (unj_cons _ _ h3 (unj_cons _ _ h2 (unj_map g hj _ h4)))
  unfold intersectCore at hs
  simp only at hs
  split at hs
  · cases hs; exact plain _ _ _ _
  · cases hs; exact plain _ _ _ _
  · cases hs; exact plain _ _ _ _
  · split at hs
    · split at hs
      · next g hg => cases hs; exact relabelled _ _ g _ _ _ _ hg
      · cases hs
    · cases hs
  · split at hs
    · split at hs
      · next g hg => cases hs; exact relabelled _ _ g _ _ _ _ hg
      · cases hs
    · cases hs

/-- `Split` is entered for joined edges only -/
theorem splitS_unj (i : Nat) (s s' : SState) (h : Unj s.ael) (hs : splitS i s = .ok s') : False := by
  unfold splitS at hs
  cases hx : s.ael[i]? with
  | none => rw [hx] at hs; cases hs
  | some x => simp only [hx, h x (List.mem_of_getElem? hx), if_true] at hs; cases hs

/-- every event of the side model except `join` keeps the AEL free of joined edges -/
theorem unj_stepS (cfg : Cfg) (s s' : SState) (op : SOp) (hop : ∀ i, op ≠ .join i) (h : Unj s.ael) (hs : stepS cfg s op = .ok s') : Unj s'.ael := by
  cases op with
  | join i => exact absurd rfl (hop i)
  | split i => exact (splitS_unj i s s' h hs).elim
  | base b =>
    cases b with
    | insertPair pos pt isOpen dx =>
      obtain ⟨_, x, y, _, _, hx, hy, rfl⟩ := insertPairS_inv cfg pos pt isOpen dx s s' hs
      have hb : Unj (s.ael.take pos ++ x :: y :: s.ael.drop pos) :=
        unj_append _ _ (unj_take _ _ h) (unj_cons _ _ hx (unj_cons _ _ hy (unj_drop _ _ h)))
      split
      · exact unj_addLocalMin _ _ _ hb
      · exact hb
    | insertOne pos pt dx =>
      obtain ⟨_, x, _, hx, rfl⟩ := insertOneS_inv cfg pos pt dx s s' hs
      exact unj_append _ _ (unj_take _ _ h) (unj_cons _ _ hx (unj_drop _ _ h))
    | intersect i =>
      obtain ⟨a0, b0, rest0, hd, hcase⟩ := intersectS_inv cfg i s s' hs
      rcases hcase with ⟨_, s1, a, b, rest, h1, hd1, rfl, _⟩ | ⟨_, s1, s2, a, b, rest, h1, h2, hd2, hcore, _⟩
      · have e1 : s1 = s := by
          split at h1
          · cases h1; rfl
          · split at h1 <;> exact splitAt_unj _ _ _ h h1
        subst e1
        obtain ⟨u1, u2, u3, u4⟩ := unj_split3 s1.ael i a b rest hd1 h
        exact unj_append _ _ u1 (unj_cons _ _ u3 (unj_cons _ _ u2 u4))
      · have e1 := splitAt_unj _ _ _ h h1
        subst e1
        have e2 := splitAt_unj _ _ _ h h2
        subst e2
        obtain ⟨u1, u2, u3, u4⟩ := unj_split3 s2.ael i a b rest hd2 h
        exact unj_intersectCore cfg _ _ _ _ _ s' u1 u2 u3 u4 hcore
    | removePair i =>
      obtain ⟨a0, b0, rest0, hd, hcase⟩ := removePairS_inv i s s' hs
      rcases hcase with ⟨_, rfl, _⟩ | ⟨_, s1, s2, a, b, rest, h1, h2, hd2, hcase⟩
      · obtain ⟨u1, _, _, u4⟩ := unj_split3 s.ael i a0 b0 rest0 hd h
        exact unj_append _ _ u1 u4
      · have e1 := splitAt_unj _ _ _ h h1
        subst e1
        have e2 := splitAt_unj _ _ _ h h2
        subst e2
        obtain ⟨u1, _, _, u4⟩ := unj_split3 s2.ael i a b rest hd2 h
        rcases hcase with ⟨_, _, rfl, _⟩ | ⟨ra, rb, g, _, _, hg, rfl, _⟩
        · exact unj_append _ _ u1 u4
        · have hj : ∀ x, (g x).join = x.join := fun x => (addLocalMaxFn_shape ra rb g hg x).2.1
          exact unj_append _ _ (unj_map g hj _ u1) (unj_map g hj _ u4)
    | removeOne i =>
      obtain ⟨x, rest, hd, rfl⟩ := removeOneS_inv i s s' hs
      have h2 := unj_drop s.ael i h
      rw [hd] at h2
      exact unj_append _ _ (unj_take _ _ h) (fun y hy => h2 y (List.mem_cons_of_mem _ hy))

end Clipper.Model

/-
Helper lemmas for the model of `FixSelfIntersects` / `DoSplitOp` (`Model/SplitOp.lean`, property C03):
what a proper intersection says about the four end points, the normal form of `doSplitOp`, the loop as the iteration of a
step function, an invariant principle, the fuel measure, and a criterion for a run that never ends.  Core Lean only.
-/
import ClipperVerif.Model.SplitOp
import ClipperVerif.Lemmas.CleanUp
namespace Clipper.Lemmas.SplitOp
open Clipper Clipper.Model Clipper.Model.CleanUp Clipper.Model.SplitOp Clipper.Lemmas.CleanUp

theorem crossProduct_self_left (c d : Pt) : crossProduct c c d = 0 := by
  unfold crossProduct; simp

theorem crossProduct_self_outer (c d : Pt) : crossProduct d c d = 0 := by
  unfold crossProduct; grind

/-- what the theorems need of the cross-product sign: it vanishes when the first point is one of the other two.
True for exact arithmetic (`csSound_csX`); true for the compiled doubles as well, because for `p = c` both products
are `0 * _` and for `p = d` the expression is `x*(-y) - y*(-x)` whose two rounded products are equal (IEEE rounding is
symmetric under negation) — provided the `int64_t` differences do not overflow. -/
def CsSound (cs : Pt → Pt → Pt → Int) : Prop := ∀ p c d, cs p c d ≠ 0 → p ≠ c ∧ p ≠ d

/-- what the theorems need of the area decision: a triangle that becomes a new outrec has three different corners
(`absArea2 >= 1` excludes the value 0 that `AreaTriangle` returns, exactly also in doubles, when two corners coincide) -/
def AdecSound (adec : Ring → Pt → Pt → Pt → AreaDec) : Prop :=
  ∀ ring ip s sn, adec ring ip s sn = .newRing → ip ≠ s ∧ s ≠ sn ∧ sn ≠ ip

theorem csSound_csX : CsSound csX := by
  intro p c d h
  constructor
  · intro e; subst e; apply h; simp [csX, crossProduct_self_left]
  · intro e; subst e; apply h; simp [csX, crossProduct_self_outer]

theorem mul_neg_ne_zero {x y : Int} (h : x * y < 0) : x ≠ 0 ∧ y ≠ 0 := by
  constructor
  · intro e; subst e; simp at h
  · intro e; subst e; simp at h

theorem segsInt_ne {cs : Pt → Pt → Pt → Int} (hcs : CsSound cs) {a b c d : Pt} (h : segsInt cs a b c d = true) :
    a ≠ c ∧ a ≠ d ∧ b ≠ c ∧ b ≠ d := by
  unfold segsInt at h
  simp only [Bool.and_eq_true, decide_eq_true_eq] at h
  obtain ⟨ha, hb⟩ := mul_neg_ne_zero h.1
  exact ⟨(hcs _ _ _ ha).1, (hcs _ _ _ ha).2, (hcs _ _ _ hb).1, (hcs _ _ _ hb).2⟩

/-- the first test of the loop is false on rings of fewer than four nodes: there `prev` or `next` aliases -/
theorem view_short {cs : Pt → Pt → Pt → Int} (hcs : CsSound cs) {r : Ring} {pv o nx nn nnn : Pt}
    (hv : view r = some (pv, o, nx, nn, nnn)) (h : segsInt cs pv o nx nn = true) : r.length ≥ 4 := by
  have hne := segsInt_ne hcs h
  match r, hv with
  | [_], hv => cases hv; exact absurd rfl hne.1
  | [_, _], hv => cases hv; exact absurd rfl hne.1
  | [_, _, _], hv => cases hv; exact absurd rfl hne.2.1
  | _ :: _ :: _ :: _ :: _, _ => simp

theorem view_ne_none {r : Ring} (h : r ≠ []) : view r ≠ none := by
  fun_cases view r
  · exact absurd rfl h
  all_goals exact nofun

/-- `nextNext`'s point, which the `DuplicateOp` branch copies, is a point of the ring -/
theorem view_nn_mem {r : Ring} {pv o nx nn nnn : Pt} (hv : view r = some (pv, o, nx, nn, nnn)) : nn ∈ r := by
  fun_cases view r <;> cases hv <;> simp

theorem ring_form_of_len {r : Ring} (h : r.length ≥ 4) :
    ∃ s sn nn mid pv, r = s :: sn :: nn :: (mid ++ [pv]) := by
  rcases r with _ | ⟨s, _ | ⟨sn, _ | ⟨nn, _ | ⟨d, rest⟩⟩⟩⟩
  iterate 4 exact absurd h (by simp)
  exact ⟨s, sn, nn, (d :: rest).dropLast, (d :: rest).getLast (List.cons_ne_nil _ _),
    by rw [List.dropLast_concat_getLast]⟩

theorem view_four (s sn nn pv : Pt) (mid : List Pt) :
    view (s :: sn :: nn :: (mid ++ [pv])) = some (pv, s, sn, nn, (mid ++ [pv]).head (by simp)) := by
  cases mid with
  | nil => rfl
  | cons d rest => exact congrArg (fun p => some (p, s, sn, nn, d)) (List.getLast_concat (l := d :: rest))

variable {cs : Pt → Pt → Pt → Int} {isect : Pt → Pt → Pt → Pt → Pt} {adec : Ring → Pt → Pt → Pt → AreaDec}

variable (isect adec) in
/-- the value of `doSplitOp` on a ring in normal form -/
def splitVal (s sn nn pv : Pt) (mid : List Pt) : Option SplitRes :=
  let ip := isect pv s sn nn
  let dec := adec (pv :: s :: sn :: nn :: mid) ip s sn
  if dec = .dispose then some ⟨none, none⟩
  else some ⟨some (if ip = pv ∨ ip = nn then pv :: nn :: mid else pv :: ip :: nn :: mid),
        if dec = .newRing then some [ip, s, sn] else none⟩

variable (isect adec) in
theorem doSplitOp_four (s sn nn pv : Pt) (mid : List Pt) :
    doSplitOp isect adec (s :: sn :: nn :: (mid ++ [pv])) = splitVal isect adec s sn nn pv mid := by
  cases mid with
  | nil => rfl
  | cons d rest =>
    have e1 : (d :: (rest ++ [pv])).getLast (List.cons_ne_nil _ _) = pv :=
      List.getLast_concat (l := d :: rest)
    have e2 : (d :: (rest ++ [pv])).dropLast = d :: rest := List.dropLast_concat (l₁ := d :: rest)
    simp only [List.cons_append, doSplitOp, e1, e2]
    rfl

theorem doSplitOp_ne_none {r : Ring} (h : r.length ≥ 4) : doSplitOp isect adec r ≠ none := by
  obtain ⟨s, sn, nn, mid, pv, rfl⟩ := ring_form_of_len h
  rw [doSplitOp_four, splitVal]
  split <;> exact nofun

theorem doSplitOp_some_len {r : Ring} {res : SplitRes} (h : doSplitOp isect adec r = some res) : r.length ≥ 4 := by
  rcases r with _ | ⟨s, _ | ⟨sn, _ | ⟨nn, _ | ⟨d, rest⟩⟩⟩⟩
  iterate 4 cases h
  simp

theorem doSplitOp_main {r m : Ring} {nr : Option Ring} (h : doSplitOp isect adec r = some ⟨some m, nr⟩) :
    ∃ s sn nn mid pv, r = s :: sn :: nn :: (mid ++ [pv]) ∧
      adec (pv :: s :: sn :: nn :: mid) (isect pv s sn nn) s sn ≠ .dispose ∧
      m = (if isect pv s sn nn = pv ∨ isect pv s sn nn = nn then pv :: nn :: mid
           else pv :: isect pv s sn nn :: nn :: mid) ∧
      nr = (if adec (pv :: s :: sn :: nn :: mid) (isect pv s sn nn) s sn = .newRing
            then some [isect pv s sn nn, s, sn] else none) := by
  obtain ⟨s, sn, nn, mid, pv, rfl⟩ := ring_form_of_len (doSplitOp_some_len h)
  rw [doSplitOp_four, splitVal] at h
  refine ⟨s, sn, nn, mid, pv, rfl, ?_⟩
  split at h
  · cases h
  · rename_i hd
    cases h
    exact ⟨hd, rfl, rfl⟩

/-- every point of the rings `DoSplitOp` leaves is the intersection point or a point of the ring it was given -/
theorem doSplitOp_mem {r m : Ring} {nr : Option Ring} (h : doSplitOp isect adec r = some ⟨some m, nr⟩) :
    ∃ a b c d, (∀ x ∈ m, x = isect a b c d ∨ x ∈ r) ∧ ∀ q, nr = some q → ∀ x ∈ q, x = isect a b c d ∨ x ∈ r := by
  obtain ⟨s, sn, nn, mid, pv, rfl, _, rfl, rfl⟩ := doSplitOp_main h
  -- the rings are written out in `doSplitOp_main`; membership in them is read off
  refine ⟨pv, s, sn, nn, fun x hx => ?_, fun q hq x hx => ?_⟩
  · split at hx <;> simp at hx ⊢ <;> grind
  · split at hq
    · cases hq; simp at hx ⊢; grind
    · cases hq

theorem doSplitOp_length {r m : Ring} {nr : Option Ring} (h : doSplitOp isect adec r = some ⟨some m, nr⟩) :
    m.length + 1 ≤ r.length ∧ r.length ≤ m.length + 2 := by
  obtain ⟨s, sn, nn, mid, pv, rfl, _, rfl, _⟩ := doSplitOp_main h
  split <;> simp <;> omega

theorem length_rot1 (r : Ring) : (rot1 r).length = r.length := by
  cases r <;> simp [rot1]

theorem mem_rot1 (r : Ring) (x : Pt) : x ∈ rot1 r ↔ x ∈ r := by
  cases r <;> simp [rot1, or_comm]

theorem rot1_ne_nil {r : Ring} (h : r ≠ []) : rot1 r ≠ [] := by
  cases r with
  | nil => exact absurd rfl h
  | cons a rest => simp [rot1]

theorem cycNoDup_rot1 (r : Ring) (h : CycNoDup r) : CycNoDup (rot1 r) := by
  cases r with
  | nil => exact h
  | cons a rest => exact cycPairs_rot1 _ a rest h

theorem fsiLoop_zero (cs : Pt → Pt → Pt → Int) (isect : Pt → Pt → Pt → Pt → Pt) (adec : Ring → Pt → Pt → Pt → AreaDec)
    (r : Ring) (pts : Nat) (acc : List Ring) (k : Nat) :
    fsiLoop cs isect adec 0 r pts acc k = .outOfFuel k := rfl

/-- What one iteration of the loop does to the state `(ring seen from op2, distance to outrec->pts)`.
`more last r pts nr dk`: the state afterwards, the rings split off, the number of `DuplicateOp` executions (0 or 1),
and whether the loop then leaves through one of its `break`s. -/
inductive Iter
  | fault
  | disposed
  | more (last : Bool) (r : Ring) (pts : Nat) (nr : List Ring) (dk : Nat)

variable (cs isect adec) in
def fsiStep (r : Ring) (pts : Nat) : Iter :=
  match view r with
  | none => .fault
  | some (pv, o, nx, nn, nnn) =>
    if segsInt cs pv o nx nn then
      if segsInt cs pv o nn nnn then .more (pts = 0) (r ++ [nn]) pts [] 1
      else match doSplitOp isect adec r with
        | none => .fault
        | some ⟨none, _⟩ => .disposed
        | some ⟨some m, nr⟩ => .more (m.length = 3) m 0 nr.toList 0
    else if pts = 0 then .more (r.length - 1 = 0) (rot1 r) (r.length - 1) [] 0
    else .more (pts - 1 = 0) (rot1 r) (pts - 1) [] 0

variable (cs isect adec) in
theorem fsiLoop_succ (fuel : Nat) (r : Ring) (pts : Nat) (acc : List Ring) (k : Nat) :
    fsiLoop cs isect adec (fuel + 1) r pts acc k =
      match fsiStep cs isect adec r pts with
      | .fault => .fault
      | .disposed => .done none acc k
      | .more last r' pts' nr dk =>
        if last then .done (some r') (acc ++ nr) (k + dk)
        else fsiLoop cs isect adec fuel r' pts' (acc ++ nr) (k + dk) := by
  rw [fsiLoop]
  fun_cases fsiStep cs isect adec r pts <;> simp_all

variable (cs isect adec) in
/-- `FixSelfIntersects` enters its loop except on the null ring and on rings of one or three nodes, which it returns
untouched -/
theorem fixSelfIntersects_cases (fuel : Nat) (ring : Ring) :
    (ring = [] ∧ fixSelfIntersects cs isect adec fuel ring = .fault) ∨
    fixSelfIntersects cs isect adec fuel ring = .done (some ring) [] 0 ∨
    fixSelfIntersects cs isect adec fuel ring = fsiLoop cs isect adec fuel ring 0 [] 0 := by
  unfold fixSelfIntersects
  split
  · exact Or.inl ⟨rfl, rfl⟩
  · exact Or.inr (Or.inl rfl)
  · exact Or.inr (Or.inl rfl)
  · exact Or.inr (Or.inr rfl)

/-- If `I` (a property of the ring seen from `op2`) is preserved by stepping, by the `DuplicateOp` branch and by
`DoSplitOp`, and every ring `DoSplitOp` splits off satisfies `J`, then the ring the loop leaves satisfies `I` and
all split-off rings satisfy `J`. -/
theorem fsiLoop_inv (I J : Ring → Prop)
    (hrot : ∀ r, I r → I (rot1 r))
    (hdup : ∀ r pv o nx nn nnn, view r = some (pv, o, nx, nn, nnn) → segsInt cs pv o nx nn = true →
      segsInt cs pv o nn nnn = true → I r → I (r ++ [nn]))
    (hsplit : ∀ r pv o nx nn nnn m nr, view r = some (pv, o, nx, nn, nnn) → segsInt cs pv o nx nn = true →
      doSplitOp isect adec r = some ⟨some m, nr⟩ → I r → I m ∧ ∀ q, nr = some q → J q) :
    ∀ fuel r pts acc k m sp k', fsiLoop cs isect adec fuel r pts acc k = .done m sp k' → I r →
      (∀ q, q ∈ acc → J q) → (∀ m', m = some m' → I m') ∧ ∀ q, q ∈ sp → J q := by
  have step : ∀ r pts last r' pts' nr dk, fsiStep cs isect adec r pts = .more last r' pts' nr dk → I r →
      I r' ∧ ∀ q, q ∈ nr → J q := by
    intro r pts last r' pts' nr dk hs hI
    revert hs
    fun_cases fsiStep cs isect adec r pts <;> intro hs <;> cases hs
    · rename_i hv h1 h2
      exact ⟨hdup r _ _ _ _ _ hv h1 h2 hI, nofun⟩
    · rename_i hv h1 _ nro hs
      have := hsplit r _ _ _ _ _ r' nro hv h1 hs hI
      exact ⟨this.1, fun q hq => this.2 q (by simpa using hq)⟩
    · exact ⟨hrot r hI, nofun⟩
    · exact ⟨hrot r hI, nofun⟩
  intro fuel
  induction fuel with
  | zero => intro r pts acc k m sp k' h; cases h
  | succ fuel ih =>
    intro r pts acc k m sp k' h hI hacc
    rw [fsiLoop_succ] at h
    split at h
    · cases h
    · cases h; exact ⟨nofun, hacc⟩
    · rename_i last r' pts' nr dk hs
      obtain ⟨hI', hJ⟩ := step _ _ _ _ _ _ _ hs hI
      have hacc' : ∀ q, q ∈ acc ++ nr → J q := fun q hq => (List.mem_append.mp hq).elim (hacc q) (hJ q)
      split at h
      · cases h; exact ⟨fun m' e => by cases e; exact hI', hacc'⟩
      · exact ih _ _ _ _ _ _ _ h hI' hacc'

theorem fsiLoop_mono : ∀ fuel r pts acc k k', fsiLoop cs isect adec fuel r pts acc k = .outOfFuel k' → k ≤ k' := by
  intro fuel
  induction fuel with
  | zero => intro r pts acc k k' h; cases h; exact Nat.le_refl _
  | succ fuel ih =>
    intro r pts acc k k' h
    rw [fsiLoop_succ] at h
    split at h
    · cases h
    · cases h
    · split at h
      · cases h
      · exact Nat.le_trans (Nat.le_add_right _ _) (ih _ _ _ _ _ h)

/-- the measure: `W·(2W+3) + (steps left in the current pass) + K` with `W = n + K`, `K` the number of
`DuplicateOp` executions still allowed -/
def mu (n pts K : Nat) : Nat := (n + K) * (2 * (n + K) + 3) + (if pts = 0 then n else pts) + K

theorem mu_split (W W' : Nat) (h : W' + 1 ≤ W) : W' * (2 * W' + 3) + W' < W * (2 * W + 3) := by
  have h1 : W' * (2 * W' + 3) ≤ W' * (2 * W + 3) := Nat.mul_le_mul_left _ (by omega)
  have h2 : (W' + 1) * (2 * W + 3) ≤ W * (2 * W + 3) := Nat.mul_le_mul_right _ h
  rw [Nat.succ_mul] at h2
  omega

theorem mu_lt_of_same {n n' pts pts' K K' : Nat} (hW : n' + K' = n + K)
    (h : (if pts' = 0 then n' else pts') + K' < (if pts = 0 then n else pts) + K) : mu n' pts' K' < mu n pts K := by
  unfold mu; rw [hW, Nat.add_assoc, Nat.add_assoc]; exact Nat.add_lt_add_left h _

theorem mu_lt_of_shorter {n n' pts K : Nat} (h : n' + 1 ≤ n) : mu n' 0 K < mu n pts K := by
  have h1 := mu_split (n + K) (n' + K) (by omega)
  unfold mu
  rw [if_pos rfl, Nat.add_assoc]
  exact Nat.lt_of_lt_of_le h1 (Nat.le_trans (Nat.le_add_right _ _) (Nat.le_add_right _ _))

/-- An iteration that does not leave the loop decreases the measure: `DoSplitOp` shortens the ring by one or two
nodes, `DuplicateOp` lengthens it by one but uses up one of the `K`, a step shortens the current pass. -/
theorem fsiStep_mu {r r' : Ring} {pts pts' dk : Nat} {nr : List Ring} {last : Bool}
    (h : fsiStep cs isect adec r pts = .more last r' pts' nr dk) (hl : last = false) (K : Nat) (hK : dk ≤ K) :
    mu r'.length pts' (K - dk) < mu r.length pts K := by
  revert h
  fun_cases fsiStep cs isect adec r pts <;> intro h <;> cases h
  · have hp : pts ≠ 0 := of_decide_eq_false hl
    rw [List.length_append, List.length_singleton]
    exact mu_lt_of_same (by omega) (by rw [if_neg hp, if_neg hp]; omega)
  · exact mu_lt_of_shorter (doSplitOp_length ‹_›).1
  · rename_i h0
    have hp : r.length - 1 ≠ 0 := of_decide_eq_false hl
    rw [length_rot1]
    exact mu_lt_of_same rfl (by rw [if_neg hp, if_pos h0]; omega)
  · rename_i h0
    have hp : pts - 1 ≠ 0 := of_decide_eq_false hl
    rw [length_rot1]
    exact mu_lt_of_same rfl (by rw [if_neg hp, if_neg h0]; omega)

/-- If the loop runs out of fuel although `fuel > mu n pts K`, it has executed the `DuplicateOp` branch more than
`K` times. -/
theorem fsiLoop_fuel_aux : ∀ fuel r pts acc k K k', fuel > mu r.length pts K →
    fsiLoop cs isect adec fuel r pts acc k = .outOfFuel k' → k' > k + K := by
  intro fuel
  induction fuel with
  | zero => intro r pts acc k K k' hf; omega
  | succ fuel ih =>
    intro r pts acc k K k' hf h
    rw [fsiLoop_succ] at h
    split at h
    · cases h
    · cases h
    · rename_i last r' pts' nr dk hs
      cases last with
      | true => cases h
      | false =>
        by_cases hK : dk ≤ K
        · have := fsiStep_mu hs rfl K hK
          have := ih _ _ _ _ (K - dk) _ (by omega) h
          omega
        · have := fsiLoop_mono _ _ _ _ _ _ h
          omega

theorem cycNoDup_snoc (a : Pt) (rest : List Pt) (pv x : Pt) (h : CycNoDup (a :: (rest ++ [pv])))
    (h1 : pv ≠ x) (h2 : x ≠ a) : CycNoDup (a :: (rest ++ [pv]) ++ [x]) := by
  have e : a :: (rest ++ [pv]) ++ [x] ++ [a] = (a :: rest ++ [pv]) ++ [x, a] := by simp
  have e' : a :: rest ++ [pv] ++ [x] = (a :: rest) ++ [pv, x] := by simp
  have h' : LinPairs (fun a b => a ≠ b) ((a :: rest ++ [pv]) ++ [a]) := by simpa [CycNoDup, CycPairs] using h
  show LinPairs _ (a :: (rest ++ [pv]) ++ [x] ++ [a])
  rw [e, linPairs_snoc, e', linPairs_snoc]
  exact ⟨⟨linPairs_append_left _ [a] _ h', h1⟩, h2⟩

theorem linPairs_mid (s sn nn pv : Pt) (mid : List Pt) (h : CycNoDup (s :: sn :: nn :: (mid ++ [pv]))) :
    LinPairs (fun a b => a ≠ b) (nn :: (mid ++ [pv])) := by
  unfold CycNoDup CycPairs at h
  simp only [List.cons_append, LinPairs] at h
  exact linPairs_append_left _ [s] _ h.2.2

/-- `DoSplitOp` without insertion: `prevOp` is linked to `nextNextOp` -/
theorem cycNoDup_split_link (s sn nn pv : Pt) (mid : List Pt) (h : CycNoDup (s :: sn :: nn :: (mid ++ [pv])))
    (hne : pv ≠ nn) : CycNoDup (pv :: nn :: mid) :=
  ⟨hne, linPairs_mid s sn nn pv mid h⟩

/-- `DoSplitOp` with insertion of `ip` between `prevOp` and `nextNextOp`: this is where both halves of the guard
`ip == prevOp->pt || ip == nextNextOp->pt` are needed -/
theorem cycNoDup_split_insert (s sn nn pv ip : Pt) (mid : List Pt)
    (h : CycNoDup (s :: sn :: nn :: (mid ++ [pv]))) (h1 : ip ≠ pv) (h2 : ip ≠ nn) :
    CycNoDup (pv :: ip :: nn :: mid) :=
  ⟨fun e => h1 e.symm, h2, linPairs_mid s sn nn pv mid h⟩

theorem areaTriX_eq12 (p q : Pt) : areaTriX p p q = 0 := by unfold areaTriX; grind
theorem areaTriX_eq23 (p q : Pt) : areaTriX p q q = 0 := by unfold areaTriX; grind
theorem areaTriX_eq13 (p q : Pt) : areaTriX p q p = 0 := by unfold areaTriX; grind

theorem cycNoDup_three {ip s sn : Pt} (h : ip ≠ s ∧ s ≠ sn ∧ sn ≠ ip) : CycNoDup [ip, s, sn] :=
  ⟨h.1, h.2.1, h.2.2, trivial⟩

theorem adecX_newRing {ring : Ring} {ip s sn : Pt} (h : adecX ring ip s sn = .newRing) : areaTriX ip s sn ≠ 0 := by
  unfold adecX at h
  simp only at h
  split at h
  · cases h
  · split at h
    · rename_i h2; intro e; rw [e] at h2; simp at h2
    · cases h

theorem areaTriX_ne {ip s sn : Pt} (h : areaTriX ip s sn ≠ 0) : ip ≠ s ∧ s ≠ sn ∧ sn ≠ ip :=
  ⟨fun e => by subst e; exact h (areaTriX_eq12 _ _), fun e => by subst e; exact h (areaTriX_eq23 _ _),
    fun e => by subst e; exact h (areaTriX_eq13 _ _)⟩

theorem cycNoDup_tri {ip s sn : Pt} (h : areaTriX ip s sn ≠ 0) : CycNoDup [ip, s, sn] :=
  cycNoDup_three (areaTriX_ne h)

theorem adecSound_adecX : AdecSound adecX := fun _ _ _ _ h => areaTriX_ne (adecX_newRing h)

theorem ring_form_of_view (hcs : CsSound cs) {r : Ring} {pv o nx nn nnn : Pt}
    (hv : view r = some (pv, o, nx, nn, nnn))
    (h1 : segsInt cs pv o nx nn = true) : ∃ mid, r = o :: nx :: nn :: (mid ++ [pv]) := by
  obtain ⟨s, sn, nn', mid, pv', rfl⟩ := ring_form_of_len (view_short hcs hv h1)
  rw [view_four] at hv
  cases hv
  exact ⟨mid, rfl⟩

/-- the `DuplicateOp` branch creates no equal neighbours: the new node carries `nextNext`'s point, which differs
from `prev`'s and `op2`'s because `prev → op2` properly crosses `next → nextNext` -/
theorem cycNoDup_dup (hcs : CsSound cs) {r : Ring} {pv o nx nn nnn : Pt}
    (hv : view r = some (pv, o, nx, nn, nnn))
    (h1 : segsInt cs pv o nx nn = true) (h : CycNoDup r) : CycNoDup (r ++ [nn]) := by
  obtain ⟨mid, rfl⟩ := ring_form_of_view hcs hv h1
  obtain ⟨_, hpn, _, hon⟩ := segsInt_ne hcs h1
  exact cycNoDup_snoc o (nx :: nn :: mid) pv nn h hpn (fun e => hon e.symm)

theorem cycNoDup_doSplitOp (hcs : CsSound cs) (had : AdecSound adec) {r : Ring} {pv o nx nn nnn : Pt} {m : Ring}
    {nr : Option Ring} (hv : view r = some (pv, o, nx, nn, nnn)) (h1 : segsInt cs pv o nx nn = true)
    (hs : doSplitOp isect adec r = some ⟨some m, nr⟩) (h : CycNoDup r) :
    CycNoDup m ∧ ∀ q, nr = some q → CycNoDup q ∧ q.length = 3 := by
  obtain ⟨s, sn, nn', mid, pv', rfl, _, rfl, rfl⟩ := doSplitOp_main hs
  rw [view_four] at hv
  cases hv
  obtain ⟨_, hpn, _, _⟩ := segsInt_ne hcs h1
  constructor
  · split
    · exact cycNoDup_split_link _ _ _ _ _ h hpn
    · rename_i hg
      exact cycNoDup_split_insert _ _ _ _ _ _ h (fun e => hg (Or.inl e)) (fun e => hg (Or.inr e))
  · intro q hq
    split at hq
    · rename_i hd
      cases hq
      exact ⟨cycNoDup_three (had _ _ _ _ hd), rfl⟩
    · cases hq

/-- the loop never dereferences a null ring and never calls `DoSplitOp` on a ring of fewer than four nodes -/
theorem fsiLoop_no_fault_aux (hcs : CsSound cs) :
    ∀ fuel r pts acc k, r ≠ [] → fsiLoop cs isect adec fuel r pts acc k ≠ .fault := by
  have step : ∀ r pts, r ≠ [] → fsiStep cs isect adec r pts ≠ .fault ∧
      ∀ last r' pts' nr dk, fsiStep cs isect adec r pts = .more last r' pts' nr dk → r' ≠ [] := by
    intro r pts hne
    fun_cases fsiStep cs isect adec r pts
    · rename_i hv; exact absurd hv (view_ne_none hne)
    · exact ⟨nofun, fun _ _ _ _ _ h => by cases h; simp⟩
    · rename_i hv h1 _ hs; exact absurd hs (doSplitOp_ne_none (view_short hcs hv h1))
    · exact ⟨nofun, nofun⟩
    · rename_i hs
      refine ⟨nofun, fun _ _ _ _ _ h => ?_⟩
      cases h
      obtain ⟨_, _, _, _, _, _, _, rfl, _⟩ := doSplitOp_main hs
      split <;> exact nofun
    · exact ⟨nofun, fun _ _ _ _ _ h => by cases h; exact rot1_ne_nil hne⟩
    · exact ⟨nofun, fun _ _ _ _ _ h => by cases h; exact rot1_ne_nil hne⟩
  intro fuel
  induction fuel with
  | zero => intro r pts acc k _; exact nofun
  | succ fuel ih =>
    intro r pts acc k hne
    obtain ⟨h1, h2⟩ := step r pts hne
    rw [fsiLoop_succ]
    split
    · rename_i hs; exact absurd hs h1
    · exact nofun
    · rename_i hs
      split
      · exact nofun
      · exact ih _ _ _ _ (h2 _ _ _ _ _ hs)

variable (cs isect adec) in
/-- the state after an iteration that does not leave the loop -/
def fsiNext (s : Ring × Nat) : Option (Ring × Nat) :=
  match fsiStep cs isect adec s.1 s.2 with
  | .more false r pts _ _ => some (r, pts)
  | _ => none

variable (cs isect adec) in
/-- the state after `n` such iterations -/
def fsiOrbit : Nat → Ring × Nat → Option (Ring × Nat)
  | 0, s => some s
  | n + 1, s => (fsiNext cs isect adec s).bind (fsiOrbit n)

theorem fsiLoop_of_next {s s' : Ring × Nat} (h : fsiNext cs isect adec s = some s') (fuel : Nat)
    (acc : List Ring) (k : Nat) :
    ∃ acc' k', fsiLoop cs isect adec (fuel + 1) s.1 s.2 acc k = fsiLoop cs isect adec fuel s'.1 s'.2 acc' k' := by
  rw [fsiLoop_succ]
  unfold fsiNext at h
  split at h
  · rename_i hs
    cases h
    rw [hs]
    exact ⟨_, _, rfl⟩
  · cases h

theorem fsiLoop_orbit {n : Nat} {s s' : Ring × Nat} (h : fsiOrbit cs isect adec n s = some s') (fuel : Nat)
    (acc : List Ring) (k : Nat) :
    (fuel ≤ n → ∃ k', fsiLoop cs isect adec fuel s.1 s.2 acc k = .outOfFuel k') ∧
    ∃ acc' k', fsiLoop cs isect adec (fuel + n) s.1 s.2 acc k = fsiLoop cs isect adec fuel s'.1 s'.2 acc' k' := by
  induction n generalizing s fuel acc k with
  | zero =>
    cases h
    exact ⟨fun hf => by rw [Nat.le_zero.mp hf]; exact ⟨k, rfl⟩, acc, k, rfl⟩
  | succ n ih =>
    cases hn : fsiNext cs isect adec s with
    | none => rw [fsiOrbit, hn] at h; cases h
    | some s1 =>
      rw [fsiOrbit, hn] at h
      constructor
      · intro hf
        cases fuel with
        | zero => exact ⟨k, rfl⟩
        | succ f =>
          obtain ⟨acc1, k1, e⟩ := fsiLoop_of_next hn f acc k
          rw [e]
          exact (ih h f acc1 k1).1 (by omega)
      · obtain ⟨acc1, k1, e⟩ := fsiLoop_of_next hn (fuel + n) acc k
        rw [← Nat.add_assoc, e]
        exact (ih h fuel acc1 k1).2

/-- A state that recurs: the loop started there never ends, whatever the fuel. -/
theorem fsiLoop_recurrent {n : Nat} {s : Ring × Nat} (h : fsiOrbit cs isect adec (n + 1) s = some s)
    (fuel : Nat) : ∀ acc k, ∃ k', fsiLoop cs isect adec fuel s.1 s.2 acc k = .outOfFuel k' := by
  induction fuel using Nat.strongRecOn with
  | _ fuel ih =>
    intro acc k
    by_cases hf : fuel ≤ n + 1
    · exact (fsiLoop_orbit h fuel acc k).1 hf
    · obtain ⟨acc', k', e⟩ := (fsiLoop_orbit h (fuel - (n + 1)) acc k).2
      rw [Nat.sub_add_cancel (by omega)] at e
      rw [e]
      exact ih _ (by omega) acc' k'

end Clipper.Lemmas.SplitOp

namespace Clipper.Lemmas.SplitOpAdv
open Clipper

/-- an intersection-point function that always answers `ln1b` (= `splitOp->pt`), the value `GetSegmentIntersectPt`
returns on its `t >= 1` branch -/
def isectAdv (_ b _ _ : Pt) : Pt := b

end Clipper.Lemmas.SplitOpAdv

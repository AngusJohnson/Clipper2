/-
Helper definitions and lemmas for property C04 (PolyTree construction).  The material is split over
`OwnerTree` (rose-tree layer, the paths of the placed outrecs), `OwnerAcyclic` (owner graph, fuel for the owner-chain
walks), `OwnerStep` (what the table-level functions may change, for any set of outrecs closed under `owner`/`splits`),
`OwnerInv` (state-level invariants, `recursiveCheckOwners`), `OwnerBuild` (outer loop, levels), `OwnerSetOwner`
(`SetOwner`), `OwnerPerm` (`buildPaths` as `filterMap`, the closed-world hypothesis, what the permutation theorem is
assembled from), `OwnerTerm` / `OwnerTermTree` (termination measures and fuel sufficiency), `OwnerHyp` (soundness of the
decidable hypothesis checks of `Model/OwnerHyp.lean`).
-/
import ClipperVerif.Lemmas.OwnerTree
import ClipperVerif.Lemmas.OwnerAcyclic
import ClipperVerif.Lemmas.OwnerStep
import ClipperVerif.Lemmas.OwnerInv
import ClipperVerif.Lemmas.OwnerBuild
import ClipperVerif.Lemmas.OwnerSetOwner
import ClipperVerif.Lemmas.OwnerPerm
import ClipperVerif.Lemmas.OwnerTerm
import ClipperVerif.Lemmas.OwnerTermTree
import ClipperVerif.Lemmas.OwnerHyp

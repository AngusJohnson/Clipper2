/- Helper lemmas for C08/C09 (rectangle clipping models). Core Lean only. -/
import ClipperVerif.Model.RectClip
namespace Clipper.Lemmas.RC
open Clipper Clipper.Model.RC

/-- on the boundary of the closed rectangle -/
def OnBoundary (r : Rect) (p : Pt) : Prop :=
  ((p.x = r.left ∨ p.x = r.right) ∧ r.top ≤ p.y ∧ p.y ≤ r.bottom) ∨
  ((p.y = r.top ∨ p.y = r.bottom) ∧ r.left ≤ p.x ∧ p.x ≤ r.right)

/-- the nine regions as documented: the corner regions belong to `left` / `right` -/
def region (r : Rect) (p : Pt) : Location :=
  if p.x < r.left then .left else if p.x > r.right then .right
  else if p.y < r.top then .top else if p.y > r.bottom then .bottom else .inside

/-- the side reported for a boundary point: left, right, top, bottom in this order of precedence -/
def sideOf (r : Rect) (p : Pt) : Location :=
  if p.x = r.left ∧ r.top ≤ p.y ∧ p.y ≤ r.bottom then .left
  else if p.x = r.right ∧ r.top ≤ p.y ∧ p.y ≤ r.bottom then .right
  else if p.y = r.top ∧ r.left ≤ p.x ∧ p.x ≤ r.right then .top else .bottom

/-- `GetLocation` answers `false` and the side for a boundary point … -/
theorem getLocation_of_onBoundary {r : Rect} {p : Pt} (h : OnBoundary r p) (l0 : Location) :
    getLocation r p l0 = (false, sideOf r p) := by
  grind [getLocation, Gen.GetLocation, OnBoundary, sideOf]

/-- … and `true` and the region for every other point.  All other facts about the generated `Gen.GetLocation` follow
from these two. -/
theorem getLocation_of_not_onBoundary {r : Rect} {p : Pt} (h : ¬ OnBoundary r p) (l0 : Location) :
    getLocation r p l0 = (true, region r p) := by
  grind [getLocation, Gen.GetLocation, OnBoundary, region]

theorem getLocation_cases (r : Rect) (p : Pt) (l0 : Location) :
    (OnBoundary r p ∧ getLocation r p l0 = (false, sideOf r p)) ∨
    (¬ OnBoundary r p ∧ getLocation r p l0 = (true, region r p)) :=
  (Classical.em (OnBoundary r p)).imp (fun h => ⟨h, getLocation_of_onBoundary h l0⟩)
    (fun h => ⟨h, getLocation_of_not_onBoundary h l0⟩)

theorem getLocation_fst (r : Rect) (p : Pt) (l0 : Location) :
    (getLocation r p l0).1 = false ↔ OnBoundary r p := by
  rcases getLocation_cases r p l0 with ⟨hb, e⟩ | ⟨hb, e⟩ <;> simp [e, hb]

theorem getLocation_snd_true (r : Rect) (p : Pt) (l0 : Location) (h : (getLocation r p l0).1 = true) :
    (getLocation r p l0).2 = region r p := by
  rcases getLocation_cases r p l0 with ⟨_, e⟩ | ⟨_, e⟩ <;> rw [e] at h ⊢
  cases h

theorem getLocation_snd_false (r : Rect) (p : Pt) (l0 : Location) (h : (getLocation r p l0).1 = false) :
    (getLocation r p l0).2 = sideOf r p := by
  rcases getLocation_cases r p l0 with ⟨_, e⟩ | ⟨_, e⟩ <;> rw [e] at h ⊢
  cases h

theorem getLocation_snd_inside (r : Rect) (p : Pt) (l0 : Location) :
    (getLocation r p l0).2 = .inside ↔ r.left < p.x ∧ p.x < r.right ∧ r.top < p.y ∧ p.y < r.bottom := by
  rcases getLocation_cases r p l0 with ⟨hb, e⟩ | ⟨hb, e⟩ <;> rw [e]
  · grind [sideOf, OnBoundary]
  · grind [region, OnBoundary]

theorem take_length_takeWhile {α : Type} (c : α → Bool) (l : List α) :
    l.take (l.takeWhile c).length = l.takeWhile c :=
  (List.prefix_iff_eq_take.mp (List.takeWhile_prefix c)).symm

theorem takeWhile_getElem?_lt (c : Pt → Bool) (l : List Pt) (m : Nat) (h : m < (l.takeWhile c).length) :
    (l.takeWhile c)[m]? = l[m]? := by
  rw [← take_length_takeWhile c l, List.getElem?_take_of_lt h]

theorem takeWhile_get (c : Pt → Bool) (l : List Pt) (k : Nat) (q : Pt) (h : (l.takeWhile c)[k]? = some q) :
    l[k]? = some q := by
  rw [← takeWhile_getElem?_lt c l k (List.getElem?_eq_some_iff.mp h).1]; exact h

theorem takeWhile_full (c : Pt → Bool) (l : List Pt) (h : l.length ≤ (l.takeWhile c).length) :
    ∀ x ∈ l, c x = true := by
  rw [← (List.takeWhile_sublist c).eq_of_length_le h]
  exact List.all_eq_true.mp List.all_takeWhile

theorem mem_indexFrom (i : Nat) (l : List Pt) (k : Nat) (q : Pt) (h : (k, q) ∈ indexFrom i l) :
    i ≤ k ∧ k < i + l.length ∧ l[k - i]? = some q := by
  induction l generalizing i with
  | nil => simp [indexFrom] at h
  | cons a l ih =>
    simp only [indexFrom, List.mem_cons] at h
    rcases h with h | h
    · cases h; simp
    · have := ih (i + 1) h
      refine ⟨by omega, by simp; omega, ?_⟩
      have e : k - i = (k - (i + 1)) + 1 := by omega
      rw [e]; simpa using this.2.2

theorem indexFrom_mem (i : Nat) (l : List Pt) (m : Nat) (q : Pt) (h : l[m]? = some q) : (i + m, q) ∈ indexFrom i l := by
  induction l generalizing i m with
  | nil => simp at h
  | cons a l ih =>
    cases m with
    | zero => simp at h; subst h; simp [indexFrom]
    | succ m =>
      simp only [indexFrom, List.mem_cons]
      right
      have := ih (i + 1) m (by simpa using h)
      have e : i + 1 + m = i + (m + 1) := by omega
      rw [e] at this; exact this

theorem indexFrom_pairwise (i : Nat) (l : List Pt) :
    (indexFrom i l).Pairwise (fun a b => a.1 < b.1) := by
  induction l generalizing i with
  | nil => simp [indexFrom]
  | cons a l ih =>
    simp only [indexFrom, List.pairwise_cons]
    refine ⟨?_, ih (i + 1)⟩
    intro b hb
    have := mem_indexFrom (i + 1) l b.1 b.2 hb
    simp; omega

/-- the scan `while (i <= highI && c (path[i])) ++i`: it only moves forward and stays within the path, every element
it passes satisfies `c`, the element it stops at does not -/
theorem skipWhile_spec (c : Pt → Bool) (path : Path) (i : Nat) :
    i ≤ skipWhile c path i ∧ (i ≤ path.length → skipWhile c path i ≤ path.length) ∧
    (∀ k q, i ≤ k → k < skipWhile c path i → path[k]? = some q → c q = true) ∧
    (∀ q, path[skipWhile c path i]? = some q → c q = false) := by
  unfold skipWhile
  -- the rest of the path is the run of elements passed followed by a list whose head fails `c`
  have hs := List.takeWhile_append_dropWhile (p := c) (l := path.drop i)
  have hall : ∀ x ∈ (path.drop i).takeWhile c, c x = true := List.all_eq_true.mp List.all_takeWhile
  have hd := List.head?_dropWhile_not c (path.drop i)
  generalize (path.drop i).takeWhile c = tw at *
  generalize (path.drop i).dropWhile c = dw at *
  have hl := congrArg List.length hs
  rw [List.length_append, List.length_drop] at hl
  refine ⟨by omega, by omega, fun k q h1 h2 hq => ?_, fun q hq => ?_⟩
  · rw [show k = i + (k - i) by omega, ← List.getElem?_drop, ← hs, List.getElem?_append_left (by omega)] at hq
    exact hall q (List.mem_of_getElem? hq)
  · rw [← List.getElem?_drop, ← hs, List.getElem?_append_right (Nat.le_refl _), Nat.sub_self,
      ← List.head?_eq_getElem?] at hq
    rw [hq] at hd
    exact hd

/-- it moves past an element that satisfies `c` -/
theorem skipWhile_adv (c : Pt → Bool) (path : Path) (i : Nat) (q : Pt)
    (h : path[i]? = some q) (hc : c q = true) : i + 1 ≤ skipWhile c path i := by
  obtain ⟨h1, -, -, h4⟩ := skipWhile_spec c path i
  rcases Nat.lt_or_eq_of_le h1 with h' | h'
  · exact h'
  · rw [← h'] at h4; rw [h4 q h] at hc; cases hc

/-- the vertex at the current index will be consumed by the next `GetNextLocation` call started from `loc` -/
def Ready (r : Rect) : Location → Pt → Prop
  | .left, q => q.x ≤ r.left
  | .top, q => q.y ≤ r.top
  | .right, q => q.x ≥ r.right
  | .bottom, q => q.y ≥ r.bottom
  | .inside, q => outsideLoc r q = none

theorem outsideLoc_none_iff (r : Rect) (q : Pt) : outsideLoc r q = none ↔ inRect r q = true := by
  grind [outsideLoc, inRect]

theorem outsideLoc_isNone_iff (r : Rect) (q : Pt) : (outsideLoc r q).isNone = true ↔ inRect r q = true := by
  rw [← outsideLoc_none_iff]; cases outsideLoc r q <;> simp

theorem outsideLoc_ready (r : Rect) (q : Pt) (l : Location) (h : outsideLoc r q = some l) : Ready r l q := by
  grind [outsideLoc, Ready]

/-- the location `GetNextLocation`, started from `loc`, reports for the vertex `q` it stops at -/
def turnLoc (r : Rect) : Location → Pt → Location
  | .left, q => if q.x ≥ r.right then .right else if q.y ≤ r.top then .top else if q.y ≥ r.bottom then .bottom else .inside
  | .top, q => if q.y ≥ r.bottom then .bottom else if q.x ≤ r.left then .left else if q.x ≥ r.right then .right else .inside
  | .right, q => if q.x ≤ r.left then .left else if q.y ≤ r.top then .top else if q.y ≥ r.bottom then .bottom else .inside
  | .bottom, q => if q.y ≤ r.top then .top else if q.x ≤ r.left then .left else if q.x ≥ r.right then .right else .inside
  | .inside, q => (outsideLoc r q).getD .inside

/-- from every location `GetNextLocation` skips exactly the vertices that are `Ready` for it … -/
theorem gnl_idx (r : Rect) (path : Path) (loc : Location) (i : Nat) :
    ∃ cond : Pt → Bool, (∀ q, cond q = true ↔ Ready r loc q) ∧
      (getNextLocation r path loc i).2.1 = skipWhile cond path i := by
  cases loc
  · exact ⟨fun p => decide (p.x ≤ r.left), fun q => by simp [Ready], by simp only [getNextLocation]; split <;> rfl⟩
  · exact ⟨fun p => decide (p.y ≤ r.top), fun q => by simp [Ready], by simp only [getNextLocation]; split <;> rfl⟩
  · exact ⟨fun p => decide (p.x ≥ r.right), fun q => by simp [Ready], by simp only [getNextLocation]; split <;> rfl⟩
  · exact ⟨fun p => decide (p.y ≥ r.bottom), fun q => by simp [Ready], by simp only [getNextLocation]; split <;> rfl⟩
  · exact ⟨fun p => (outsideLoc r p).isNone, fun q => by simp [Ready],
      by simp only [getNextLocation, skipWhile]; split <;> rfl⟩

/-- … keeps `loc` if the path is exhausted and classifies the vertex it stops at otherwise … -/
theorem gnl_loc (r : Rect) (path : Path) (loc : Location) (i : Nat) :
    (getNextLocation r path loc i).1 =
      match path[(getNextLocation r path loc i).2.1]? with
      | none => loc
      | some q => turnLoc r loc q := by
  cases loc <;> simp only [getNextLocation, turnLoc] <;> split <;> (rename_i h; simp only [h])

/-- … and passes a vertex to `Add` only from `Inside`: the run of vertices in the closed rectangle -/
theorem gnl_adds_nil (r : Rect) (path : Path) (loc : Location) (i : Nat) (h : loc ≠ .inside) :
    (getNextLocation r path loc i).2.2 = [] := by
  cases loc <;> first | exact absurd rfl h | (simp only [getNextLocation]; split <;> rfl)

theorem gnl_adds_inside (r : Rect) (path : Path) (i : Nat) :
    (getNextLocation r path .inside i).2.2 =
      indexFrom i ((path.drop i).takeWhile (fun p => (outsideLoc r p).isNone)) := by
  simp only [getNextLocation]; split <;> rfl

theorem turnLoc_ready {r : Rect} {loc : Location} {q : Pt} (h : ¬ Ready r loc q) : Ready r (turnLoc r loc q) q := by
  cases loc <;> grind [turnLoc, Ready, outsideLoc]

/-- the vertex `GetNextLocation` stops at is not consumed from the old location -/
theorem gnl_stop (r : Rect) (path : Path) (loc : Location) (i : Nat) (q : Pt)
    (hq : path[(getNextLocation r path loc i).2.1]? = some q) : ¬ Ready r loc q := by
  obtain ⟨cond, hc, hj⟩ := gnl_idx r path loc i
  rw [hj] at hq
  rw [← hc, (skipWhile_spec cond path i).2.2.2 q hq]; simp

/-- every vertex `GetNextLocation` passes over is consumed from the old location -/
theorem gnl_passed (r : Rect) (path : Path) (loc : Location) (i k : Nat) (q : Pt) (h1 : i ≤ k)
    (h2 : k < (getNextLocation r path loc i).2.1) (hq : path[k]? = some q) : Ready r loc q := by
  obtain ⟨cond, hc, hj⟩ := gnl_idx r path loc i
  rw [hj] at h2
  exact (hc q).mp ((skipWhile_spec cond path i).2.2.1 k q h1 h2 hq)

/-- everything the loop analysis needs to know about one `GetNextLocation` call -/
structure GnlSpec (r : Rect) (path : Path) (loc : Location) (i : Nat) (g : Location × Nat × List (Nat × Pt)) : Prop where
  ge : i ≤ g.2.1
  le : i ≤ path.length → g.2.1 ≤ path.length
  ready : ∀ q, path[g.2.1]? = some q → Ready r g.1 q
  adv : ∀ q, path[i]? = some q → Ready r loc q → i + 1 ≤ g.2.1
  adds : ∀ k q, (k, q) ∈ g.2.2 → path[k]? = some q ∧ inRect r q = true ∧ i ≤ k ∧ k < g.2.1
  sorted : g.2.2.Pairwise (fun a b => a.1 < b.1)

theorem gnl_spec (r : Rect) (path : Path) (loc : Location) (i : Nat) :
    GnlSpec r path loc i (getNextLocation r path loc i) := by
  obtain ⟨cond, hc, hj⟩ := gnl_idx r path loc i
  refine ⟨?_, ?_, ?_, ?_, ?_, ?_⟩
  · rw [hj]; exact (skipWhile_spec cond path i).1
  · rw [hj]; exact (skipWhile_spec cond path i).2.1
  · intro q hq
    rw [gnl_loc, hq]
    exact turnLoc_ready (gnl_stop r path loc i q hq)
  · intro q hq hr
    rw [hj]; exact skipWhile_adv cond path i q hq ((hc q).mpr hr)
  · by_cases hl : loc = .inside
    · subst hl
      intro k q h
      rw [gnl_adds_inside] at h
      have m := mem_indexFrom i _ k q h
      have hk : path[k]? = some q := by
        have := takeWhile_get _ _ _ _ m.2.2
        rwa [List.getElem?_drop, show i + (k - i) = k by omega] at this
      have hin := List.all_eq_true.mp List.all_takeWhile q (List.mem_of_getElem? m.2.2)
      refine ⟨hk, (outsideLoc_isNone_iff r q).mp hin, m.1, ?_⟩
      rw [hj]; unfold skipWhile
      have : ∀ x, cond x = (outsideLoc r x).isNone := fun x => by
        rw [Bool.eq_iff_iff, hc]; simp [Ready]
      rw [show cond = fun p => (outsideLoc r p).isNone from funext this]
      exact m.2.1
    · rw [gnl_adds_nil r path loc i hl]; simp
  · by_cases hl : loc = .inside
    · subst hl; rw [gnl_adds_inside]; exact indexFrom_pairwise i _
    · rw [gnl_adds_nil r path loc i hl]; simp

/-- the test `GetSegmentIntersection` applies to a point `q` found on the line of `a b`: an end point, or within the span -/
def Touches (q a b : Pt) : Prop := q = a ∨ q = b ∨ onSpan q a b = true

/-- `GetSegmentIntersection(p1, p2, p3, p4)` succeeds and reports `q`, read off the signs of the four cross products:
an end point of one segment on the other segment, or a proper crossing and the computed point. -/
def SegFinds (A : Arith) (p1 p2 p3 p4 q : Pt) : Prop :=
  (A.cross p1 p3 p4 = 0 ∧ A.cross p2 p3 p4 ≠ 0 ∧ Touches p1 p3 p4 ∧ q = p1) ∨
  (A.cross p1 p3 p4 ≠ 0 ∧ A.cross p2 p3 p4 = 0 ∧ Touches p2 p3 p4 ∧ q = p2) ∨
  (A.cross p1 p3 p4 ≠ 0 ∧ A.cross p2 p3 p4 ≠ 0 ∧ ¬ (A.cross p1 p3 p4 > 0 ↔ A.cross p2 p3 p4 > 0) ∧
    ((A.cross p3 p1 p2 = 0 ∧ Touches p3 p1 p2 ∧ q = p3) ∨
     (A.cross p3 p1 p2 ≠ 0 ∧ A.cross p4 p1 p2 = 0 ∧ Touches p4 p1 p2 ∧ q = p4) ∨
     (A.cross p3 p1 p2 ≠ 0 ∧ A.cross p4 p1 p2 ≠ 0 ∧ ¬ (A.cross p3 p1 p2 > 0 ↔ A.cross p4 p1 p2 > 0) ∧
       A.isect p1 p2 p3 p4 = some q)))

theorem touches_ite (p a b q : Pt) :
    (if p = a ∨ p = b then (true, p) else (onSpan p a b, p)) = (true, q) ↔ Touches p a b ∧ q = p := by
  unfold Touches
  by_cases h : p = a ∨ p = b
  · rw [if_pos h]
    exact ⟨fun e => ⟨h.elim Or.inl (fun x => Or.inr (Or.inl x)), (congrArg Prod.snd e).symm⟩, fun e => by rw [e.2]⟩
  · rw [if_neg h]
    constructor
    · intro e; exact ⟨Or.inr (Or.inr (congrArg Prod.fst e)), (congrArg Prod.snd e).symm⟩
    · rintro ⟨h1 | h1 | h1, rfl⟩
      · exact absurd (Or.inl h1) h
      · exact absurd (Or.inr h1) h
      · rw [h1]

theorem seg_eq_true_iff (A : Arith) (p1 p2 p3 p4 ip q : Pt) :
    segIntersection A p1 p2 p3 p4 ip = (true, q) ↔ SegFinds A p1 p2 p3 p4 q := by
  unfold segIntersection SegFinds
  simp only [decide_eq_decide]
  by_cases h1 : A.cross p1 p3 p4 = 0 <;> by_cases h2 : A.cross p2 p3 p4 = 0
  · simp [h1, h2]
  · simp [h1, h2, touches_ite]
  · simp [h1, h2, touches_ite]
  · by_cases h12 : (A.cross p1 p3 p4 > 0 ↔ A.cross p2 p3 p4 > 0)
    · simp [h1, h2, h12]
    · by_cases h3 : A.cross p3 p1 p2 = 0
      · simp [h1, h2, h12, h3, touches_ite]
      · by_cases h4 : A.cross p4 p1 p2 = 0
        · simp [h1, h2, h12, h3, h4, touches_ite]
        · by_cases h34 : (A.cross p3 p1 p2 > 0 ↔ A.cross p4 p1 p2 > 0)
          · simp [h1, h2, h12, h3, h4, h34]
          · cases hq : A.isect p1 p2 p3 p4 <;> simp [h1, h2, h12, h3, h4, h34]

theorem seg_finds {A : Arith} {p1 p2 p3 p4 ip : Pt} (h : (segIntersection A p1 p2 p3 p4 ip).1 = true) :
    SegFinds A p1 p2 p3 p4 (segIntersection A p1 p2 p3 p4 ip).2 :=
  (seg_eq_true_iff A p1 p2 p3 p4 ip _).mp (Prod.ext h rfl)

/-- success does not depend on the value of `ip` passed in -/
theorem seg_true_iff (A : Arith) (p1 p2 p3 p4 ip : Pt) :
    (segIntersection A p1 p2 p3 p4 ip).1 = true ↔ ∃ q, SegFinds A p1 p2 p3 p4 q :=
  ⟨fun h => ⟨_, seg_finds h⟩, fun ⟨q, h⟩ => by rw [(seg_eq_true_iff A p1 p2 p3 p4 ip q).mpr h]⟩

/-- the reported point is one of the four end points or the computed intersection -/
theorem SegFinds.sat {A : Arith} {p1 p2 p3 p4 q : Pt} (h : SegFinds A p1 p2 p3 p4 q) (Q : Pt → Prop) (h1 : Q p1)
    (h2 : Q p2) (h3 : Q p3) (h4 : Q p4) (hq : A.isect p1 p2 p3 p4 = some q → Q q) : Q q := by
  rcases h with ⟨_, _, _, e⟩ | ⟨_, _, _, e⟩ | ⟨_, _, _, ⟨_, _, e⟩ | ⟨_, _, _, e⟩ | ⟨_, _, _, e⟩⟩
  · rwa [e]
  · rwa [e]
  · rwa [e]
  · rwa [e]
  · exact hq e

/-- the arm is tried and its `GetSegmentIntersection` succeeds (whatever `ip` holds at that moment) -/
def Answers (A : Arith) (p p2 : Pt) (arm : Arm) : Prop :=
  arm.guard = true ∧ ∃ q, SegFinds A p p2 arm.a arm.b q

/-- the chain stops at an arm that answers, reporting that arm's location and point … -/
theorem tryArms_cons_pos {A : Arith} {p p2 : Pt} {arm : Arm} (h : Answers A p p2 arm) (rest : List Arm)
    (loc : Location) (ip : Pt) :
    tryArms A p p2 (arm :: rest) loc ip = (true, arm.loc, (segIntersection A p p2 arm.a arm.b ip).2) ∧
      SegFinds A p p2 arm.a arm.b (segIntersection A p p2 arm.a arm.b ip).2 := by
  have hs := (seg_true_iff A p p2 arm.a arm.b ip).mpr h.2
  unfold tryArms
  rw [if_pos h.1]
  exact ⟨if_pos hs, seg_finds hs⟩

/-- … and goes on to the next arm otherwise -/
theorem tryArms_cons_neg {A : Arith} {p p2 : Pt} {arm : Arm} (h : ¬ Answers A p p2 arm) (rest : List Arm)
    (loc : Location) (ip : Pt) : ∃ ip', tryArms A p p2 (arm :: rest) loc ip = tryArms A p p2 rest loc ip' := by
  rw [tryArms]
  by_cases hg : arm.guard = true
  · have hs : ¬ (segIntersection A p p2 arm.a arm.b ip).1 = true :=
      fun hs => h ⟨hg, (seg_true_iff A p p2 arm.a arm.b ip).mp hs⟩
    rw [if_pos hg]
    exact ⟨_, if_neg hs⟩
  · rw [if_neg hg]
    exact ⟨ip, rfl⟩

/-- The `if … else if … else return false` chain either falls through, leaving `loc` alone, or stops at a guarded arm
whose `GetSegmentIntersection` succeeds, reporting that arm's location and point. -/
theorem tryArms_cases (A : Arith) (p p2 : Pt) (l : List Arm) (loc : Location) (ip : Pt) :
    ((∃ ip', tryArms A p p2 l loc ip = (false, loc, ip')) ∧ ∀ arm ∈ l, ¬ Answers A p p2 arm) ∨
    ∃ arm ∈ l, arm.guard = true ∧ ∃ q, SegFinds A p p2 arm.a arm.b q ∧ tryArms A p p2 l loc ip = (true, arm.loc, q) := by
  induction l generalizing ip with
  | nil => exact Or.inl ⟨⟨ip, rfl⟩, by simp⟩
  | cons arm rest ih =>
    by_cases h : Answers A p p2 arm
    · exact Or.inr ⟨arm, List.mem_cons_self .., h.1, _, (tryArms_cons_pos h rest loc ip).2,
        (tryArms_cons_pos h rest loc ip).1⟩
    · obtain ⟨ip1, e⟩ := tryArms_cons_neg h rest loc ip
      rw [e]
      rcases ih ip1 with ⟨hf, hn⟩ | ⟨a, ha, hq⟩
      · exact Or.inl ⟨hf, fun a ha => (List.mem_cons.mp ha).elim (fun e => e ▸ h) (hn a)⟩
      · exact Or.inr ⟨a, List.mem_cons_of_mem _ ha, hq⟩

theorem tryArms_iff (A : Arith) (p p2 : Pt) (l : List Arm) (loc : Location) (ip : Pt) :
    (tryArms A p p2 l loc ip).1 = true ↔ ∃ arm ∈ l, Answers A p p2 arm := by
  rcases tryArms_cases A p p2 l loc ip with ⟨⟨ip', e⟩, hn⟩ | ⟨arm, hm, hg, q, hs, e⟩ <;> rw [e]
  · exact ⟨fun h => Bool.noConfusion h, fun ⟨arm, hm, ha⟩ => absurd ha (hn arm hm)⟩
  · exact ⟨fun _ => ⟨arm, hm, hg, q, hs⟩, fun _ => rfl⟩

/-- `a b` is one of the four edges as `GetIntersection` passes them -/
def IsEdge (r : Rect) (a b : Pt) : Prop :=
  (a = r.c0 ∧ b = r.c3) ∨ (a = r.c0 ∧ b = r.c1) ∨ (a = r.c1 ∧ b = r.c2) ∨ (a = r.c2 ∧ b = r.c3)

theorem arms_edges (r : Rect) (p : Pt) (loc : Location) : ∀ arm ∈ arms r p loc, IsEdge r arm.a arm.b := by
  cases loc <;> simp [arms, IsEdge]

theorem arms_loc (r : Rect) (p : Pt) (loc : Location) : ∀ arm ∈ arms r p loc, arm.loc ≠ .inside := by
  cases loc <;> simp [arms]

/-- a failed `GetIntersection` leaves `loc` alone; a successful one reports one of the four sides and the point
`GetSegmentIntersection` found on the corresponding edge -/
theorem getIntersection_cases (A : Arith) (r : Rect) (p p2 : Pt) (loc : Location) (ip : Pt) :
    ((getIntersection A r p p2 loc ip).1 = false ∧ (getIntersection A r p p2 loc ip).2.1 = loc) ∨
    ((getIntersection A r p p2 loc ip).1 = true ∧ (getIntersection A r p p2 loc ip).2.1 ≠ .inside ∧
      ∃ a b, IsEdge r a b ∧ SegFinds A p p2 a b (getIntersection A r p p2 loc ip).2.2) := by
  unfold getIntersection
  rcases tryArms_cases A p p2 (arms r p loc) loc ip with ⟨⟨ip', e⟩, _⟩ | ⟨arm, hm, -, q, hs, e⟩ <;> rw [e]
  · exact Or.inl ⟨rfl, rfl⟩
  · exact Or.inr ⟨rfl, arms_loc r p loc arm hm, _, _, arms_edges r p loc arm hm, hs⟩

/-- Hypothesis on the arithmetic: the test `CrossProduct(a, b, c) == 0` is exact when `b c` is axis-parallel (then one
of the two products is exactly zero and the other is a single correctly rounded product of two integers, which is zero
iff a factor is). -/
def CrossZeroExact (A : Arith) : Prop :=
  ∀ a b c : Pt, (b.x = c.x ∨ b.y = c.y) → (A.cross a b c = 0 ↔ crossZ a b c = 0)

/-- Hypothesis on the arithmetic: computed intersection points land in `R`. -/
def IsectIn (A : Arith) (R : Rect) : Prop :=
  ∀ a b c d q : Pt, A.isect a b c d = some q → inRect R q = true

def Subrect (r R : Rect) : Prop :=
  R.left ≤ r.left ∧ r.right ≤ R.right ∧ R.top ≤ r.top ∧ r.bottom ≤ R.bottom

theorem inRect_iff (r : Rect) (q : Pt) :
    inRect r q = true ↔ r.left ≤ q.x ∧ q.x ≤ r.right ∧ r.top ≤ q.y ∧ q.y ≤ r.bottom := by
  unfold inRect
  simp only [Bool.and_eq_true, decide_eq_true_eq]
  omega

theorem inRect_mono {r R : Rect} (h : Subrect r R) {q : Pt} (hq : inRect r q = true) : inRect R q = true := by
  rw [inRect_iff] at *; unfold Subrect at h
  omega

theorem nonempty_dims {r : Rect} (hne : r.isEmpty = false) : r.left < r.right ∧ r.top < r.bottom := by
  unfold Rect.isEmpty at hne
  simp only [Bool.or_eq_false_iff, decide_eq_false_iff_not] at hne
  omega

theorem corner_inRect {r : Rect} (hne : r.isEmpty = false) {p : Pt} (h : p ∈ r.asPath) : inRect r p = true := by
  have := nonempty_dims hne
  simp only [Rect.asPath, List.mem_cons, List.not_mem_nil, or_false] at h
  rw [inRect_iff]
  rcases h with rfl | rfl | rfl | rfl <;> simp only [Rect.c0, Rect.c1, Rect.c2, Rect.c3] <;> omega

theorem isEdge_mem {r : Rect} {a b : Pt} (h : IsEdge r a b) : a ∈ r.asPath ∧ b ∈ r.asPath := by
  rcases h with ⟨rfl, rfl⟩ | ⟨rfl, rfl⟩ | ⟨rfl, rfl⟩ | ⟨rfl, rfl⟩ <;> simp [Rect.asPath]

theorem isEdge_axis {r : Rect} {a b : Pt} (h : IsEdge r a b) : a.x = b.x ∨ a.y = b.y := by
  rcases h with ⟨rfl, rfl⟩ | ⟨rfl, rfl⟩ | ⟨rfl, rfl⟩ | ⟨rfl, rfl⟩ <;> simp [Rect.c0, Rect.c1, Rect.c2, Rect.c3]

/-- `pt` is reported by a successful `GetIntersection` call for the segment from `a` towards `b` -/
def CrossingOf (A : Arith) (r : Rect) (a b pt : Pt) : Prop :=
  ∃ loc, (getIntersection A r a b loc ⟨0, 0⟩).1 = true ∧ (getIntersection A r a b loc ⟨0, 0⟩).2.2 = pt

/-- `cur`, `prv` are the vertices `k`, `k-1` of the open path (so `k ≥ 1`: the lines clipper does not wrap around) -/
def SegAt (path : Path) (k : Nat) (cur prv : Pt) : Prop :=
  1 ≤ k ∧ path[k]? = some cur ∧ path[k - 1]? = some prv

/-- what every emitted `Add` call is -/
def Good (A : Arith) (r : Rect) (path : Path) (e : Emit) : Prop :=
  match e.kind with
  | .vertex => e.startNew = false ∧ path[e.k]? = some e.pt ∧ inRect r e.pt = true
  | .enter => e.startNew = true ∧ ∃ cur prv, SegAt path e.k cur prv ∧ CrossingOf A r cur prv e.pt
  | .exit => e.startNew = false ∧ ∃ cur prv, SegAt path e.k cur prv ∧ CrossingOf A r cur prv e.pt
  | .thru2 => e.startNew = false ∧ ∃ cur prv, SegAt path e.k cur prv ∧ CrossingOf A r cur prv e.pt
  | .thru1 f => e.startNew = true ∧ ∃ cur prv, SegAt path e.k cur prv ∧
      ∃ loc, (getIntersection A r prv cur loc ⟨0, 0⟩).1 = f ∧ (getIntersection A r prv cur loc ⟨0, 0⟩).2.2 = e.pt

/-- indices within `[lo, hi]` and non-decreasing -/
def Seg (lo hi : Nat) (es : List Emit) : Prop :=
  (∀ e ∈ es, lo ≤ e.k ∧ e.k ≤ hi) ∧ es.Pairwise (fun a b => a.k ≤ b.k)

def ReadyAt (r : Rect) (path : Path) (loc : Location) (i : Nat) : Prop :=
  ∀ q, path[i]? = some q → Ready r loc q

def StepOk (A : Arith) (r : Rect) (path : Path) (i : Nat) (prev : Location) : Step → Prop
  | .fault => False
  | .done es => Seg i path.length es ∧ ∀ e ∈ es, Good A r path e
  | .next es i' loc' => i ≤ i' ∧ i' ≤ path.length ∧ Seg i i' es ∧ (∀ e ∈ es, Good A r path e) ∧
      (i + 1 ≤ i' ∨ (ReadyAt r path loc' i' ∧ (ReadyAt r path prev i → i + 1 ≤ i')))

theorem vertexEmits_good {A : Arith} {r : Rect} {path : Path} {i j : Nat} {l : List (Nat × Pt)}
    (h : ∀ k q, (k, q) ∈ l → path[k]? = some q ∧ inRect r q = true ∧ i ≤ k ∧ k < j)
    (hs : l.Pairwise (fun a b => a.1 < b.1)) :
    (∀ e ∈ vertexEmits l, Good A r path e ∧ i ≤ e.k ∧ e.k < j) ∧
    (vertexEmits l).Pairwise (fun a b => a.k ≤ b.k) := by
  constructor
  · intro e he
    simp only [vertexEmits, List.mem_map] at he
    obtain ⟨⟨k, q⟩, hm, rfl⟩ := he
    have := h k q hm
    exact ⟨⟨rfl, this.1, this.2.1⟩, this.2.2⟩
  · simp only [vertexEmits, List.pairwise_map]
    exact hs.imp (fun h => Nat.le_of_lt h)

theorem seg_append_tail {lo j : Nat} {es tail : List Emit}
    (h1 : ∀ e ∈ es, lo ≤ e.k ∧ e.k < j) (hs : es.Pairwise (fun a b => a.k ≤ b.k))
    (ht : ∀ e ∈ tail, e.k = j) (hlo : lo ≤ j) (hi : Nat) (hji : j ≤ hi) : Seg lo hi (es ++ tail) := by
  constructor
  · intro e he
    rcases List.mem_append.mp he with h | h
    · have := h1 e h; omega
    · have := ht e h; omega
  · rw [List.pairwise_append]
    refine ⟨hs, ?_, ?_⟩
    · apply List.Pairwise.imp_of_mem (R := fun _ _ => True)
      · intro a b ha hb _; rw [ht a ha, ht b hb]; exact Nat.le_refl _
      · exact List.pairwise_of_forall (by simp)
    · intro a ha b hb
      have := h1 a ha; have := ht b hb; omega

theorem step_ok (A : Arith) (r : Rect) (path : Path) (i : Nat) (prev : Location)
    (hi1 : 1 ≤ i) (hin : i < path.length) : StepOk A r path i prev (step A r path i prev) := by
  have g := gnl_spec r path prev i
  unfold step
  generalize getNextLocation r path prev i = gg at g
  obtain ⟨loc, j, adds⟩ := gg
  simp only at g ⊢
  have hv := vertexEmits_good (A := A) g.adds g.sorted
  have hv2 : ∀ e ∈ vertexEmits adds, i ≤ e.k ∧ e.k < j := fun e he => (hv.1 e he).2
  have hge := g.ge
  have hle := g.le (Nat.le_of_lt hin)
  simp only at hge hle
  by_cases hj : j < path.length
  · have hj' : j - 1 < path.length := by omega
    rw [if_pos hj, List.getElem?_eq_getElem hj, List.getElem?_eq_getElem hj']
    simp only
    have hseg : SegAt path j path[j] path[j - 1] :=
      ⟨by omega, List.getElem?_eq_getElem hj, List.getElem?_eq_getElem hj'⟩
    have hready : ReadyAt r path loc j := fun q hq => g.ready q hq
    have hadv : ReadyAt r path prev i → i + 1 ≤ j := by
      intro hr
      exact g.adv _ (List.getElem?_eq_getElem hin) (hr _ (List.getElem?_eq_getElem hin))
    -- the three branches that found a crossing differ only in the calls they add for the segment `j`
    have crossing : ∀ tail : List Emit, (∀ e ∈ tail, e.k = j ∧ Good A r path e) →
        StepOk A r path i prev (.next (vertexEmits adds ++ tail) j loc) := fun tail ht =>
      ⟨hge, by omega, seg_append_tail hv2 hv.2 (fun e he => (ht e he).1) hge j (Nat.le_refl _),
        fun e he => (List.mem_append.mp he).elim (fun h => (hv.1 e h).1) (fun h => (ht e h).2),
        Or.inr ⟨hready, hadv⟩⟩
    split
    · -- remaining outside
      refine ⟨by omega, by omega, ?_, fun e he => (hv.1 e he).1, Or.inl (by omega)⟩
      have := seg_append_tail (tail := []) hv2 hv.2 (by simp) hge (j + 1) (by omega)
      simpa using this
    · rename_i hfound
      have hfound' : (getIntersection A r path[j] path[j - 1] loc ⟨0, 0⟩).1 = true := by
        simpa using hfound
      have hcross : CrossingOf A r path[j] path[j - 1] (getIntersection A r path[j] path[j - 1] loc ⟨0, 0⟩).2.2 :=
        ⟨loc, hfound', rfl⟩
      split
      · exact crossing _ (by
          intro e h; rw [List.mem_singleton.mp h]; exact ⟨rfl, rfl, _, _, hseg, hcross⟩)
      · split
        · apply crossing
          intro e h
          simp only [List.mem_cons, List.not_mem_nil, or_false] at h
          rcases h with rfl | rfl
          · exact ⟨rfl, rfl, _, _, hseg, prev, rfl, rfl⟩
          · exact ⟨rfl, rfl, _, _, hseg, hcross⟩
        · exact crossing _ (by
            intro e h; rw [List.mem_singleton.mp h]; exact ⟨rfl, rfl, _, _, hseg, hcross⟩)
  · rw [if_neg hj]
    refine ⟨?_, fun e he => (hv.1 e he).1⟩
    have := seg_append_tail (tail := []) hv2 hv.2 (by simp) hge path.length (by omega)
    simpa using this

theorem seg_append {lo mid hi : Nat} {es es' : List Emit} (h1 : Seg lo mid es) (h2 : Seg mid hi es')
    (hlm : lo ≤ mid) (hmh : mid ≤ hi) : Seg lo hi (es ++ es') := by
  constructor
  · intro e he
    rcases List.mem_append.mp he with h | h
    · have := h1.1 e h; omega
    · have := h2.1 e h; omega
  · rw [List.pairwise_append]
    refine ⟨h1.2, h2.2, ?_⟩
    intro a ha b hb
    have := h1.1 a ha; have := h2.1 b hb; omega

/-- The fuel argument of both main loops: an iteration advances `i`, or leaves a location from which the next one does
(`R'`), and advances anyway if it was itself entered in such a location (`R`); so two units of fuel per remaining vertex,
plus two, suffice. -/
theorem fuel_step {n i i' fuel : Nat} {R R' : Prop} (hi : i < n) (h1 : i ≤ i')
    (hf : 2 * (n - i) + 2 ≤ fuel + 1 ∨ (2 * (n - i) + 1 ≤ fuel + 1 ∧ R))
    (h5 : i + 1 ≤ i' ∨ (R' ∧ (R → i + 1 ≤ i'))) :
    2 * (n - i') + 2 ≤ fuel ∨ (2 * (n - i') + 1 ≤ fuel ∧ R') := by
  rcases h5 with h5 | ⟨hr, hadv⟩
  · left; rcases hf with hf | hf <;> omega
  · rcases hf with hf | ⟨hf, hrd⟩
    · right; exact ⟨by omega, hr⟩
    · have := hadv hrd
      right; exact ⟨by omega, hr⟩

theorem loop_spec (A : Arith) (r : Rect) (path : Path) :
    ∀ (fuel i : Nat) (loc : Location), 1 ≤ i → i ≤ path.length →
      (2 * (path.length - i) + 2 ≤ fuel ∨ (2 * (path.length - i) + 1 ≤ fuel ∧ ReadyAt r path loc i)) →
      ∃ es, loop A r path fuel i loc = some es ∧ Seg i path.length es ∧ ∀ e ∈ es, Good A r path e := by
  intro fuel
  induction fuel with
  | zero => intro i loc _ _ h; omega
  | succ fuel ih =>
    intro i loc hi1 hin hf
    unfold loop
    by_cases hlt : i < path.length
    · rw [if_pos hlt]
      have hs := step_ok A r path i loc hi1 hlt
      cases hstep : step A r path i loc with
      | fault => rw [hstep] at hs; exact hs.elim
      | done es =>
        rw [hstep] at hs
        exact ⟨es, rfl, hs.1, hs.2⟩
      | next es i' loc' =>
        rw [hstep] at hs
        obtain ⟨h1, h2, h3, h4, h5⟩ := hs
        obtain ⟨es', he', hseg', hgood'⟩ := ih i' loc' (by omega) h2 (fuel_step hlt h1 hf h5)
        refine ⟨es ++ es', by simp [he'], seg_append h3 hseg' h1 h2, ?_⟩
        intro e he
        rcases List.mem_append.mp he with h | h
        · exact h4 e h
        · exact hgood' e h
    · rw [if_neg hlt]
      exact ⟨[], rfl, ⟨by simp, by simp⟩, by simp⟩

theorem onBoundary_inRect {r : Rect} {p : Pt} (h : OnBoundary r p) (hne : r.isEmpty = false) : inRect r p = true := by
  have := nonempty_dims hne
  rw [inRect_iff]; unfold OnBoundary at h; omega

theorem region_inside_inRect {r : Rect} {p : Pt} (h : region r p = .inside) : inRect r p = true := by
  grind [region, inRect]

theorem emits_spec (A : Arith) (r : Rect) (path : Path) (hne : r.isEmpty = false) :
    ∃ es, emits A r path = some es ∧ Seg 0 path.length es ∧ ∀ e ∈ es, Good A r path e := by
  unfold emits
  rw [hne]
  by_cases hlen : path.length < 2
  · simp only [Bool.false_or, decide_eq_true_eq, hlen, if_true]
    exact ⟨[], rfl, ⟨by simp, by simp⟩, by simp⟩
  · simp only [Bool.false_or, decide_eq_true_eq, hlen, if_false]
    cases path with
    | nil => simp at hlen
    | cons p0 rest =>
      simp only
      have hlen' : 2 ≤ (p0 :: rest).length := by omega
      -- the common tail: loop from 1, possibly preceded by vertex 0
      have tail : ∀ loc, (loc = .inside → inRect r p0 = true) →
          ∃ es, (loop A r (p0 :: rest) (2 * (p0 :: rest).length + 2) 1 loc).map
              ((if loc = .inside then [(⟨0, p0, false, .vertex⟩ : Emit)] else []) ++ ·) = some es ∧
            Seg 0 (p0 :: rest).length es ∧ ∀ e ∈ es, Good A r (p0 :: rest) e := by
        intro loc hloc
        obtain ⟨es, he, hseg, hgood⟩ := loop_spec A r (p0 :: rest) (2 * (p0 :: rest).length + 2) 1 loc
          (Nat.le_refl _) (by omega) (Or.inl (by omega))
        refine ⟨_, by rw [he]; rfl, ?_, ?_⟩
        · by_cases hl : loc = .inside
          · rw [if_pos hl]
            exact seg_append (mid := 1) ⟨by simp, by simp⟩ hseg (by omega) (by omega)
          · rw [if_neg hl]
            exact ⟨fun e he => ⟨by omega, (hseg.1 e he).2⟩, hseg.2⟩
        · intro e he
          rcases List.mem_append.mp he with h | h
          · by_cases hl : loc = .inside
            · rw [if_pos hl] at h
              simp only [List.mem_singleton] at h; subst h
              exact ⟨rfl, by simp, hloc hl⟩
            · rw [if_neg hl] at h; simp at h
          · exact hgood e h
      rcases getLocation_cases r p0 .inside with ⟨hb, hg⟩ | ⟨_, hg⟩ <;> rw [hg] <;> simp only
      · -- `path[0]` on the boundary: the scan for the first vertex off the boundary decides
        simp only [Bool.not_false, if_true]
        have hp0 : inRect r p0 = true := onBoundary_inRect hb hne
        cases hq : (p0 :: rest)[skipWhile (fun p => !(getLocation r p).1) (p0 :: rest) 1]? with
        | some q => exact tail _ (fun _ => hp0)
        | none =>
          simp only
          have hge : (p0 :: rest).length ≤ skipWhile (fun p => !(getLocation r p).1) (p0 :: rest) 1 :=
            Nat.le_of_not_lt fun h => by rw [List.getElem?_eq_getElem h] at hq; cases hq
          have hall : ∀ x ∈ p0 :: rest, inRect r x = true := by
            intro x hx
            rcases List.mem_cons.mp hx with rfl | hx
            · exact hp0
            · have := takeWhile_full (fun p => !(getLocation r p).1) ((p0 :: rest).drop 1)
                (by unfold skipWhile at hge; simp at hge ⊢; omega) x (by simpa using hx)
              simp only [Bool.not_eq_eq_eq_not, Bool.not_true] at this
              exact onBoundary_inRect ((getLocation_fst r x .inside).mp this) hne
          have hv := vertexEmits_good (A := A) (r := r) (path := p0 :: rest) (i := 0) (j := (p0 :: rest).length)
            (l := indexFrom 0 (p0 :: rest))
            (by
              intro k q hm
              have m := mem_indexFrom 0 (p0 :: rest) k q hm
              have hk : (p0 :: rest)[k]? = some q := by simpa using m.2.2
              exact ⟨hk, hall q (List.mem_of_getElem? hk), by omega, by omega⟩)
            (indexFrom_pairwise 0 _)
          exact ⟨_, rfl, ⟨fun e he => ⟨by omega, Nat.le_of_lt (hv.1 e he).2.2⟩, hv.2⟩, fun e he => (hv.1 e he).1⟩
      · simp only [Bool.not_true, Bool.false_eq_true, if_false]
        exact tail _ region_inside_inRect

/-- all points of `results_` in the order they were added -/
def chrono (rs : List (List Pt)) : List Pt := (rs.reverse.map List.reverse).flatten

theorem chrono_cons (cur : List Pt) (rest : List (List Pt)) : chrono (cur :: rest) = chrono rest ++ cur.reverse := by
  simp [chrono]

theorem add_cons_true (cur : List Pt) (rest : List (List Pt)) (pt : Pt) :
    add (cur :: rest) pt true = [pt] :: cur :: rest := by simp [add]
theorem add_cons_nil_false (rest : List (List Pt)) (pt : Pt) :
    add ([] :: rest) pt false = [pt] :: rest := by simp [add]
theorem add_cons_cons_false (last : Pt) (tl : List Pt) (rest : List (List Pt)) (pt : Pt) :
    add ((last :: tl) :: rest) pt false = if last = pt then (last :: tl) :: rest else (pt :: last :: tl) :: rest := by
  simp [add]

theorem chrono_add (rs : List (List Pt)) (pt : Pt) (b : Bool) :
    (chrono (add rs pt b)).Sublist (chrono rs ++ [pt]) := by
  cases rs with
  | nil => simp [add, chrono]
  | cons cur rest =>
    cases b with
    | true => rw [add_cons_true, chrono_cons]; simp
    | false =>
      cases cur with
      | nil => rw [add_cons_nil_false]; simp [chrono_cons]
      | cons last tl =>
        rw [add_cons_cons_false]
        split
        · exact List.sublist_append_left _ _
        · rw [chrono_cons, chrono_cons]; simp

theorem chrono_foldl (es : List (Pt × Bool)) (rs : List (List Pt)) :
    (chrono (es.foldl (fun rs e => add rs e.1 e.2) rs)).Sublist (chrono rs ++ es.map (·.1)) := by
  induction es generalizing rs with
  | nil => simp
  | cons e es ih =>
    simp only [List.foldl_cons, List.map_cons]
    refine (ih (add rs e.1 e.2)).trans ?_
    have := (chrono_add rs e.1 e.2).append (List.Sublist.refl (es.map (·.1)))
    simpa using this

theorem flatten_filter_sublist (c : List Pt → Bool) (l : List (List Pt)) :
    ((l.filter c).flatten).Sublist l.flatten := by
  induction l with
  | nil => simp
  | cons a l ih =>
    rw [List.filter_cons]
    split
    · simpa using (List.Sublist.refl a).append ih
    · simp only [List.flatten_cons]
      exact ih.trans (List.sublist_append_right _ _)

theorem assemble_sublist (es : List Emit) : ((assemble es).flatten).Sublist (es.map (·.pt)) := by
  unfold assemble getPaths addAll
  refine (flatten_filter_sublist _ _).trans ?_
  have := chrono_foldl (es.map (fun e => (e.pt, e.startNew))) []
  simpa [chrono, List.map_map, Function.comp_def] using this

theorem mem_assemble {es : List Emit} {piece : List Pt} {p : Pt} (hp : piece ∈ assemble es) (h : p ∈ piece) :
    ∃ e ∈ es, e.pt = p := by
  have : p ∈ (assemble es).flatten := List.mem_flatten.mpr ⟨piece, hp, h⟩
  have := (assemble_sublist es).subset this
  simpa using this

/-- number of rings: `Add` opens a ring for the very first point and for every later `start_new` -/
theorem add_length (rs : List (List Pt)) (pt : Pt) (b : Bool) :
    (add rs pt b).length = if rs = [] then 1 else if b then rs.length + 1 else rs.length := by
  cases rs with
  | nil => simp [add]
  | cons cur rest =>
    cases b with
    | true => rw [add_cons_true]; simp
    | false =>
      cases cur with
      | nil => rw [add_cons_nil_false]; simp
      | cons last tl => rw [add_cons_cons_false]; split <;> simp

theorem foldl_add_length (es : List (Pt × Bool)) (rs : List (List Pt)) (h : rs ≠ []) :
    (es.foldl (fun rs e => add rs e.1 e.2) rs).length = rs.length + (es.filter (·.2)).length := by
  induction es generalizing rs with
  | nil => simp
  | cons e es ih =>
    have hne : add rs e.1 e.2 ≠ [] := by
      intro h0
      have := add_length rs e.1 e.2
      rw [h0, if_neg h] at this
      cases hb : e.2 <;> simp [hb] at this
      exact h (List.length_eq_zero_iff.mp this.symm)
    simp only [List.foldl_cons]
    rw [ih _ hne, add_length, if_neg h, List.filter_cons]
    cases e.2 <;> simp <;> omega

theorem addAll_length (e : Emit) (es : List Emit) :
    (addAll ((e :: es).map (fun e => (e.pt, e.startNew)))).length = 1 + (es.filter (·.startNew)).length := by
  unfold addAll
  simp only [List.map_cons, List.foldl_cons]
  rw [foldl_add_length _ _ (by simp [add]), List.filter_map, List.length_map]
  simp [add, Function.comp_def]

end Clipper.Lemmas.RC

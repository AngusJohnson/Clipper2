/-
For `Props/C01Region.lean`: one scanbeam of the derived run, and the induction over the scanbeams.
Core Lean only.
-/
import ClipperVerif.Lemmas.C01RegionSweep
import ClipperVerif.Props.C01Sweep
namespace Clipper.Lemmas.C01Region
open Clipper Clipper.Model Clipper.Model.AelOrder Clipper.Model.SweepOrder Clipper.Model.SweepEvents
open Clipper.Lemmas.SweepOrder Clipper.Props.C01Sweep

/-- what is proved of one scanbeam of the derived run that starts in the L2 state `l0`:
the three groups of events are accepted one after the other and the L2 state follows the AEL of the scanbeam model -/
structure BeamTracked (cfg : Cfg) (lab : Lab) (l0 : Ael) (r : BeamRun) (lI lX lT : Ael) : Prop where
  runIns : Model.run cfg l0 r.evIns = some lI
  trIns : Tracks lab lI r.snap.inserted
  runIsect : Model.run cfg lI r.evIsect = some lX
  trIsect : Tracks lab lX r.snap.afterIsect
  runTop : Model.run cfg lX r.evTop = some lT
  trTop : Tracks lab lT r.snap.afterTop

/-- what is proved of the AEL of one scanbeam after the insertions: it consists of EXACTLY the input edges that cross the
scanbeam, each once, in the exact order just above the bottom scanline -/
structure BeamFacts (edges : List SEdge) (s : Snap) : Prop where
  hy : s.y1 < s.y0
  mem : ∀ e ∈ s.inserted, e ∈ edges ∧ AliveAbove s.y0 e ∧ AliveBelow s.y1 e
  complete : ∀ e ∈ edges, AliveAbove s.y0 e → e ∈ s.inserted
  sorted : s.inserted.Pairwise (ltAbove s.y0)
  noBot : NoBotInside edges s.y0 s.y1
  noTop : NoTopInside edges s.y0 s.y1
  isect_perm : s.afterIsect.Perm s.inserted
  isect_sorted : s.afterIsect.Pairwise (ltBelow s.y1)

/-- the edges of a scanbeam: input edges that cross the whole scanbeam -/
theorem inserted_mem (edges : List SEdge) (valid : Int → SEdge → SEdge → Bool) (cx : SEdge → Int → Int)
    (next : SEdge → Option SEdge) (mins : Int → List (SEdge × SEdge)) (ael : List SEdge) (y0 y1 : Int)
    (hup : AllUp edges) (hb : BeamOK edges valid next mins y0 y1) (h0 : AelAt edges mins y0 ael)
    (hins : ∀ e, e ∈ (beamStep valid cx next mins ael y0 y1).inserted ↔ e ∈ ael ∨ e ∈ boundsOf (mins y0)) :
    ∀ e ∈ (beamStep valid cx next mins ael y0 y1).inserted, e ∈ edges ∧ AliveAbove y0 e ∧ AliveBelow y1 e := by
  obtain ⟨hy, hm, _, _, hnt, _⟩ := hb
  exact inserted_alive hup hm hy hnt (fun e he => ⟨(h0.mem e he).1, (h0.mem e he).2.1⟩) hins

theorem beam_tracked (cfg : Cfg) (edges : List SEdge) (valid : Int → SEdge → SEdge → Bool) (cx : SEdge → Int → Int)
    (next : SEdge → Option SEdge) (mins : Int → List (SEdge × SEdge)) (lab : Lab) (ael : List SEdge) (y0 y1 : Int) (l0 : Ael)
    (hup : AllUp edges) (hnx : NextOK edges next mins) (hn : Near cx)
    (hdx : DxOK edges lab) (hnl : NextLab edges next lab) (hst : Starts edges next mins)
    (hb : BeamOK edges valid next mins y0 y1) (hr : BeamR edges next mins lab y0 y1)
    (h0 : AelAt edges mins y0 ael) (hc : CompleteAt edges mins y0 ael) (ht : Tracks lab l0 ael) :
    (∃ lI lX lT, BeamTracked cfg lab l0 (beamRun valid cx next mins lab ael y0 y1) lI lX lT) ∧
    BeamFacts edges (beamStep valid cx next mins ael y0 y1) ∧
    AelAt edges mins y1 (beamStep valid cx next mins ael y0 y1).afterTop ∧
    CompleteAt edges mins y1 (beamStep valid cx next mins ael y0 y1).afterTop := by
  obtain ⟨⟨i1, i2⟩, ⟨b1, _, b3⟩, c1⟩ := scanbeam_keeps_sorted edges valid cx next mins ael y0 y1 hup hnx hn hb h0
  obtain ⟨hnb, hml, hmx⟩ := hr
  have hmem := inserted_mem edges valid cx next mins ael y0 y1 hup hb h0 i2
  obtain ⟨hy, hm, _, _, hnt, hgt⟩ := hb
  obtain ⟨hI, hC⟩ := completeAt_step edges valid cx next mins ael y0 y1 hup hnx hst hnb hy i2 hc
  refine ⟨?_, ⟨hy, hmem, hI, i1, hnb, hnt, b1, b3⟩, c1, hC⟩
  -- (1) insertions
  obtain ⟨lI, rI, tI⟩ := insEvents_tracks cfg (valid y0) lab (mins y0) ael l0 ht (fun p hp =>
    ⟨hml p hp, hdx p.1 (hm.1 p hp).1⟩)
  -- (2) intersections
  obtain ⟨lX, rX, tX⟩ := sortEvents_tracks cfg lab (leCx cx y1) _ lI tI
  -- (3) top of the scanbeam
  have hmemX : ∀ e ∈ (beamStep valid cx next mins ael y0 y1).afterIsect, e ∈ edges ∧ AliveBelow y1 e := by
    intro e he
    have := hmem e (b1.mem_iff.1 he)
    exact ⟨this.1, this.2.2⟩
  have hadj : MaxAdjAux next y1 lab none (beamStep valid cx next mins ael y0 y1).afterIsect := by
    refine maxAdj_of_sorted edges next lab y1 hup hgt hmx _ _ (Nat.le_refl _) b3 hmemX ?_
    intro a _ _ b hbe hba _
    have := hnb b hbe
    exact b1.mem_iff.2 (hI b hbe (by unfold AliveAbove; unfold AliveBelow at hba; omega))
  obtain ⟨lT, rT, tT⟩ := (topEvents_tracks cfg next y1 lab (beamStep valid cx next mins ael y0 y1).afterIsect [] lX 0 rfl
    (fun e he e' h => hnl e (hmemX e he).1 e' h)).1 tX hadj
  exact ⟨lI, lX, lT, ⟨rI, tI, rX, tX, rT, tT⟩⟩

theorem beamRuns_cons (valid : Int → SEdge → SEdge → Bool) (cx : SEdge → Int → Int) (next : SEdge → Option SEdge)
    (mins : Int → List (SEdge × SEdge)) (lab : Lab) (ael : List SEdge) (y0 y1 : Int) (rest : List Int) :
    beamRuns valid cx next mins lab ael (y0 :: y1 :: rest) =
      beamRun valid cx next mins lab ael y0 y1 ::
        beamRuns valid cx next mins lab (beamStep valid cx next mins ael y0 y1).afterTop (y1 :: rest) := rfl

/-- the snapshots of the derived run are the scanbeam model's sweep -/
theorem beamRuns_snaps (valid : Int → SEdge → SEdge → Bool) (cx : SEdge → Int → Int) (next : SEdge → Option SEdge)
    (mins : Int → List (SEdge × SEdge)) (lab : Lab) : ∀ (ys : List Int) (ael : List SEdge),
    (beamRuns valid cx next mins lab ael ys).map (·.snap) = sweepFrom valid cx next mins ael ys := by
  intro ys
  induction ys with
  | nil => intro ael; simp [beamRuns, sweepFrom]
  | cons y0 t ih =>
    intro ael
    cases t with
    | nil => simp [beamRuns, sweepFrom]
    | cons y1 rest =>
      rw [beamRuns_cons, sweepFrom_cons, List.map_cons, ih]
      rfl

theorem run_events (cfg : Cfg) (lab : Lab) (l0 : Ael) (r : BeamRun) (lI lX lT : Ael) (h : BeamTracked cfg lab l0 r lI lX lT) :
    Model.run cfg l0 r.events = some lT := by
  simp only [BeamRun.events, run_append, h.runIns, Option.bind_some, h.runIsect, h.runTop]

/-- **the induction over the scanbeams.**  Every scanbeam of the derived run: the events up to it are accepted, and the
L2 state follows the AEL at all three stages; the AEL contains every input edge that crosses the scanbeam. -/
theorem beamRuns_tracked (cfg : Cfg) (edges : List SEdge) (valid : Int → SEdge → SEdge → Bool) (cx : SEdge → Int → Int)
    (next : SEdge → Option SEdge) (mins : Int → List (SEdge × SEdge)) (lab : Lab)
    (hup : AllUp edges) (hnx : NextOK edges next mins) (hn : Near cx)
    (hdx : DxOK edges lab) (hnl : NextLab edges next lab) (hst : Starts edges next mins) :
    ∀ (ys : List Int) (ael : List SEdge) (l0 : Ael), SweepOK edges valid next mins ys → SweepR edges next mins lab ys →
      (∀ y, ys.head? = some y → AelAt edges mins y ael ∧ CompleteAt edges mins y ael) → Tracks lab l0 ael →
      ∀ (pre : List BeamRun) (r : BeamRun) (post : List BeamRun),
        beamRuns valid cx next mins lab ael ys = pre ++ r :: post →
        ∃ l1 lI lX lT, Model.run cfg l0 (pre.flatMap BeamRun.events) = some l1 ∧ BeamTracked cfg lab l1 r lI lX lT ∧
          BeamFacts edges r.snap := by
  intro ys
  induction ys with
  | nil => intro ael l0 _ _ _ _ pre r post h; simp [beamRuns] at h
  | cons y0 t ih =>
    intro ael l0 hok hrr h0 ht pre r post h
    cases t with
    | nil => simp [beamRuns] at h
    | cons y1 rest =>
      rw [beamRuns_cons] at h
      obtain ⟨hb, hrest⟩ := hok
      obtain ⟨hr, hrrest⟩ := hrr
      obtain ⟨⟨lI, lX, lT, hbt⟩, hI, c1, hC⟩ := beam_tracked cfg edges valid cx next mins lab ael y0 y1 l0 hup hnx hn hdx hnl hst
        hb hr (h0 y0 rfl).1 (h0 y0 rfl).2 ht
      cases pre with
      | nil =>
        simp only [List.nil_append, List.cons.injEq] at h
        obtain ⟨h1, _⟩ := h
        subst h1
        exact ⟨l0, lI, lX, lT, rfl, hbt, hI⟩
      | cons r0 pre' =>
        simp only [List.cons_append, List.cons.injEq] at h
        obtain ⟨h1, h2⟩ := h
        subst h1
        obtain ⟨l1, lI', lX', lT', e1, hbt', hI'⟩ := ih _ lT hrest hrrest
          (fun y hy => by simp at hy; subst hy; exact ⟨c1, hC⟩) hbt.trTop pre' r post h2
        refine ⟨l1, lI', lX', lT', ?_, hbt', hI'⟩
        simp only [List.flatMap_cons, run_append, run_events cfg lab l0 _ lI lX lT hbt, Option.bind_some]
        exact e1

/-- the whole derived event list is accepted: the events up to the last scanbeam are, and then those of the last scanbeam -/
theorem sweep_accepted (cfg : Cfg) (edges : List SEdge) (valid : Int → SEdge → SEdge → Bool) (cx : SEdge → Int → Int)
    (next : SEdge → Option SEdge) (mins : Int → List (SEdge × SEdge)) (lab : Lab)
    (hup : AllUp edges) (hnx : NextOK edges next mins) (hn : Near cx)
    (hdx : DxOK edges lab) (hnl : NextLab edges next lab) (hst : Starts edges next mins)
    (ys : List Int) (ael : List SEdge) (l0 : Ael) (hok : SweepOK edges valid next mins ys) (hrr : SweepR edges next mins lab ys)
    (h0 : ∀ y, ys.head? = some y → AelAt edges mins y ael ∧ CompleteAt edges mins y ael) (ht : Tracks lab l0 ael) :
    ∃ l', Model.run cfg l0 ((beamRuns valid cx next mins lab ael ys).flatMap BeamRun.events) = some l' := by
  rcases List.eq_nil_or_concat (beamRuns valid cx next mins lab ael ys) with h | ⟨pre, r, h⟩
  · rw [h]; exact ⟨l0, rfl⟩
  · rw [List.concat_eq_append] at h
    obtain ⟨l1, lI, lX, lT, e1, hbt, _⟩ :=
      beamRuns_tracked cfg edges valid cx next mins lab hup hnx hn hdx hnl hst ys ael l0 hok hrr h0 ht pre r [] h
    exact ⟨lT, by rw [h, List.flatMap_append, run_append, e1, Option.bind_some, List.flatMap_cons, List.flatMap_nil,
      List.append_nil]; exact run_events cfg lab l1 r lI lX lT hbt⟩

end Clipper.Lemmas.C01Region

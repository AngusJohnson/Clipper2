/-
Lemmas about the whole-sweep replay model with horizontal edges (`Model/SweepHorzReplay.lean`): every step other than the horizontal
phases keeps the AEL sorted by `curr_x` —
 * `InsertLocalMinimaIntoAEL` (`insertMinsH`): `IsValidAelOrder` answers by `curr_x` whenever the two `curr_x` differ
   (`Props/C01Order.isValidAelOrder_of_currX_ne`), which is all that sortedness by `curr_x` (ties allowed) needs;
 * `DoIntersections` (`doIntersectionsH`): a stable sort by `curr_x`;
 * `DoTopOfScanbeam` (`topOfBeamH`): edges leave or are replaced in place by a successor standing at the same `curr_x`.
Used by `Props/C01Horz.sweep_with_horizontals_keeps_sorted`.
-/
import ClipperVerif.Model.SweepHorzReplay
import ClipperVerif.Lemmas.SweepHorz
import ClipperVerif.Lemmas.AelOrder
import ClipperVerif.Props.C01Order
import ClipperVerif.Lemmas.SweepOrder
namespace Clipper.Lemmas.SweepHorzReplay
open Clipper Clipper.Model Clipper.Model.SweepHorz Clipper.Model.SweepHorzReplay Clipper.Model.AelOrder
open Clipper.Model.SweepOrder (stableSort insertBefore)

section Insert
variable (valid : HEdge → HEdge → Bool)

/-- what sortedness by `curr_x` needs of the insertion predicate: it never contradicts a strict `curr_x` comparison -/
def Weak (valid : HEdge → HEdge → Bool) : Prop :=
  ∀ r n, (valid r n = true → r.currX ≤ n.currX) ∧ (valid r n = false → n.currX ≤ r.currX)

theorem bubble_sortedX (hw : Weak valid) (rb : HEdge) : ∀ (l : List HEdge), SortedX l → SortedX (bubble valid rb l) := by
  intro l
  induction l with
  | nil => intro _; simp [bubble, SortedX]
  | cons nxt rest ih =>
    intro hs
    unfold SortedX at hs
    obtain ⟨h1, h2⟩ := List.pairwise_cons.1 hs
    unfold bubble
    by_cases hv : valid nxt rb = true
    · simp only [hv, if_true]
      have := ih h2
      unfold SortedX at this ⊢
      refine List.pairwise_cons.2 ⟨?_, this⟩
      intro x hx
      rcases Clipper.Lemmas.AelOrder.bubble_mem valid rb rest x hx with rfl | hx
      · exact (hw nxt x).1 hv
      · exact h1 x hx
    · have hv' : valid nxt rb = false := by simpa using hv
      simp only [hv', Bool.false_eq_true, if_false]
      have h0 := (hw nxt rb).2 hv'
      unfold SortedX
      refine List.pairwise_cons.2 ⟨?_, hs⟩
      intro x hx
      rcases List.mem_cons.1 hx with rfl | hx
      · exact h0
      · have := h1 x hx; omega

theorem insertLeft_sortedX (hw : Weak valid) (l : List HEdge) (e : HEdge) (hs : SortedX l) :
    SortedX (insertLeft valid (fun _ => false) l e) := by
  rw [Clipper.Lemmas.AelOrder.insertLeft_nojoin]; exact bubble_sortedX valid hw e l hs

/-- one local minimum whose two bounds start at the same `curr_x` -/
theorem insertBound_sortedX (hw : Weak valid) (l : List HEdge) (lb rb : HEdge) (hs : SortedX l) (heq : lb.currX = rb.currX) :
    SortedX (match insertLeftPos valid (fun _ => false) l lb with
      | some i => insertRight valid (insertLeft valid (fun _ => false) l lb) i rb
      | none => insertLeft valid (fun _ => false) l lb) := by
  have hl := insertLeft_sortedX valid hw l lb hs
  cases hp : insertLeftPos valid (fun _ => false) l lb with
  | none => exact hl
  | some k =>
    simp only
    obtain ⟨hshape, hk⟩ := Clipper.Lemmas.AelOrder.insertLeft_of_pos valid (fun _ => false) l lb k hp
    have hlen : (l.take k ++ [lb]).length = k + 1 := by rw [List.length_append, List.length_take_of_le hk]; rfl
    have hsplit : l.take k ++ lb :: l.drop k = (l.take k ++ [lb]) ++ l.drop k := by rw [List.append_assoc]; rfl
    rw [hshape, hsplit] at hl
    unfold insertRight
    rw [hshape, hsplit, List.take_left' hlen, List.drop_left' hlen]
    have hl' : (l.take k ++ [lb] ++ l.drop k).Pairwise (fun a b => a.currX ≤ b.currX) := hl
    unfold SortedX
    obtain ⟨p1, p2, p3⟩ := List.pairwise_append.1 hl'
    refine List.pairwise_append.2 ⟨p1, bubble_sortedX valid hw rb _ p2, ?_⟩
    intro a ha b hb
    rcases Clipper.Lemmas.AelOrder.bubble_mem valid rb _ b hb with rfl | hb
    · rcases List.mem_append.1 ha with ha | ha
      · exact heq ▸ (List.pairwise_append.1 p1).2.2 a ha lb (List.mem_singleton_self _)
      · rw [List.mem_singleton.1 ha]; exact Int.le_of_eq heq
    · exact p3 a ha b hb

end Insert

/-- the regenerated `IsValidAelOrder` never contradicts a strict `curr_x` comparison -/
theorem validH_weak (info : Nat → Info) : Weak (validH info) := by
  intro r n
  unfold validH
  by_cases h : (toO info r).currX = (toO info n).currX
  · simp only [toO] at h
    constructor <;> intro _ <;> omega
  · rw [Clipper.Props.C01Order.isValidAelOrder_of_currX_ne _ _ h]
    simp only [toO] at h ⊢
    constructor
    · intro hv; have := of_decide_eq_true hv; omega
    · intro hv; have := of_decide_eq_false hv; omega

/-- **`InsertLocalMinimaIntoAEL` keeps the AEL sorted by `curr_x`**, provided the two bounds of every local minimum start at the same
`curr_x` (both are created with `curr_x = bot.x` at the vertex of the minimum) -/
theorem insertMinsH_sortedX (info : Nat → Info) : ∀ (ms : List (HEdge × HEdge)) (ael : List HEdge), SortedX ael →
    (∀ p ∈ ms, p.1.currX = p.2.currX) → SortedX (insertMinsH info ael ms) := by
  intro ms
  induction ms with
  | nil => intro ael hs _; exact hs
  | cons p ms ih =>
    intro ael hs hp
    unfold insertMinsH
    simp only [List.foldl_cons]
    refine ih _ ?_ (fun q hq => hp q (List.mem_cons_of_mem _ hq))
    exact insertBound_sortedX (validH info) (validH_weak info) ael p.1 p.2 hs (hp p (by simp))

theorem stableSort_sortedX (l : List HEdge) : SortedX (stableSort (fun a b => decide (a.currX ≤ b.currX)) l) :=
  (Clipper.Lemmas.SweepOrder.stableSort_sorted (le := fun a b : HEdge => decide (a.currX ≤ b.currX))
    (fun a b c h1 h2 => decide_eq_true (Int.le_trans (of_decide_eq_true h1) (of_decide_eq_true h2)))
    (fun a b => by rw [Bool.or_eq_true, decide_eq_true_iff, decide_eq_true_iff]; exact Int.le_total _ _) l).imp of_decide_eq_true

/-- **`DoIntersections` leaves the AEL sorted by `curr_x`** (whatever it was before) -/
theorem doIntersectionsH_sortedX (topx : HEdge → Int → Int) (y : Int) (ael : List HEdge) : SortedX (doIntersectionsH topx y ael) := by
  unfold doIntersectionsH
  split
  · simp [SortedX]
  · simp [SortedX]
  · exact stableSort_sortedX _

theorem splitPair_spec (v : Nat) : ∀ (l : List HEdge) (b : List HEdge) (p : HEdge) (a : List HEdge),
    splitPair v l = some (b, p, a) → l = b ++ p :: a := by
  intro l
  induction l with
  | nil => intro b p a h; simp [splitPair] at h
  | cons e rest ih =>
    intro b p a h
    unfold splitPair at h
    split at h
    · simp only [Option.some.injEq, Prod.mk.injEq] at h
      obtain ⟨rfl, rfl, rfl⟩ := h; rfl
    · cases hr : splitPair v rest with
      | none => simp [hr] at h
      | some t =>
        obtain ⟨b', p', a'⟩ := t
        simp only [hr, Option.map_some, Option.some.injEq, Prod.mk.injEq] at h
        obtain ⟨rfl, rfl, rfl⟩ := h
        simp [ih b' p' a' hr]

/-- the key by which `DoTopOfScanbeam(y)` leaves an edge standing: `top.x` if it ends on `y`, else `TopX(e, y)` -/
def topKey (topx : HEdge → Int → Int) (y : Int) (e : HEdge) : Int := if e.top.y = y then e.top.x else topx e y

theorem topGo_cons (pc : Bool) (topx : HEdge → Int → Int) (y : Int) (fuel : Nat) (done : List HEdge) (e : HEdge) (rest : List HEdge) :
    topGo pc topx y (fuel + 1) done (e :: rest) =
      if e.top.y = y then
        if e.topIsMax then
          match splitPair e.vtop rest with
          | none => topGo pc topx y fuel ({ e with currX := e.top.x } :: done) rest
          | some (between, _, after) => topGo pc topx y fuel done (between ++ after)
        else
          match updateEdge pc { e with currX := e.top.x } with
          | some e2 => topGo pc topx y fuel (e2 :: done) rest
          | none => topGo pc topx y fuel ({ e with currX := e.top.x } :: done) rest
      else topGo pc topx y fuel ({ e with currX := topx e y } :: done) rest := by
  rw [topGo]
  rfl

theorem topGo_sortedX (pc : Bool) (topx : HEdge → Int → Int) (y : Int) : ∀ (fuel : Nat) (done todo : List HEdge),
    todo.length < fuel →
    (done.reverse.map (·.currX) ++ todo.map (topKey topx y)).Pairwise (· ≤ ·) → SortedX (topGo pc topx y fuel done todo) := by
  intro fuel
  induction fuel with
  | zero => intro done todo h; omega
  | succ fuel ih =>
    intro done todo hf hs
    cases todo with
    | nil =>
      unfold topGo
      unfold SortedX
      rw [← List.pairwise_map (f := fun e : HEdge => e.currX) (R := (· ≤ ·))]
      simpa using hs
    | cons e rest =>
      rw [topGo_cons]
      simp only [List.map_cons] at hs
      by_cases hy : e.top.y = y
      · rw [if_pos hy]
        have hk : topKey topx y e = e.top.x := by simp [topKey, hy]
        by_cases hm : e.topIsMax = true
        · rw [if_pos hm]
          cases hsp : splitPair e.vtop rest with
          | none =>
            refine ih _ _ (by simp at hf; omega) ?_
            simpa [hk] using hs
          | some t =>
            obtain ⟨b, p, a⟩ := t
            have hr := splitPair_spec e.vtop rest b p a hsp
            refine ih _ _ (by rw [hr] at hf; simp at hf ⊢; omega) ?_
            rw [hr] at hs
            refine hs.sublist ?_
            simp only [List.map_append, List.map_cons]
            refine List.Sublist.append_left ?_ _
            refine List.Sublist.cons _ ?_
            exact List.Sublist.append_left (List.sublist_cons_self _ _) _
        · rw [if_neg hm]
          cases hu : updateEdge pc { e with currX := e.top.x } with
          | none =>
            refine ih _ _ (by simp at hf; omega) ?_
            simpa [hk] using hs
          | some e2 =>
            have hc : e2.currX = e.top.x := by
              cases hr : e.rest with
              | nil => simp [updateEdge, hr] at hu
              | cons nv tl =>
                obtain ⟨_, hu', U⟩ := Clipper.Lemmas.SweepHorz.updateEdge_upd pc { e with currX := e.top.x } nv tl hr
                rw [hu] at hu'; cases hu'; exact U.currX
            refine ih _ _ (by simp at hf; omega) ?_
            simpa [hk, hc] using hs
      · rw [if_neg hy]
        have hk : topKey topx y e = topx e y := by simp [topKey, hy]
        refine ih _ _ (by simp at hf; omega) ?_
        simpa [hk] using hs

/-- **`DoTopOfScanbeam(y)` keeps the AEL sorted**: if the AEL is sorted by the key `top.x` / `TopX(e, y)` (it is, after
`DoIntersections(y)`, when `TopX(e, top.y) = top.x`), the AEL it leaves is sorted by `curr_x` -/
theorem topOfBeamH_sortedX (pc : Bool) (topx : HEdge → Int → Int) (y : Int) (ael : List HEdge)
    (hs : (ael.map (topKey topx y)).Pairwise (· ≤ ·)) : SortedX (topOfBeamH pc topx y ael) := by
  unfold topOfBeamH
  exact topGo_sortedX pc topx y _ [] ael (by omega) (by simpa using hs)

/-- after `DoIntersections(y)` the AEL is sorted by that key, when `TopX(e, top.y) = top.x` -/
theorem doIntersectionsH_topKey (topx : HEdge → Int → Int) (y : Int) (ael : List HEdge) (ht : ∀ e : HEdge, topx e e.top.y = e.top.x)
    (hcx : ∀ e : HEdge, ∀ c, topx { e with currX := c } y = topx e y) :
    ((doIntersectionsH topx y ael).map (topKey topx y)).Pairwise (· ≤ ·) := by
  unfold doIntersectionsH
  split
  · simp
  · simp
  · have hs := stableSort_sortedX (ael.map (fun e => { e with currX := topx e y }))
    have hmem : ∀ x ∈ stableSort (fun a b => decide (a.currX ≤ b.currX)) (ael.map (fun e => { e with currX := topx e y })),
        topKey topx y x = x.currX := by
      intro x hx
      have hp := (Clipper.Lemmas.SweepOrder.stableSort_perm (le := fun a b : HEdge => decide (a.currX ≤ b.currX)) (ael.map (fun e => { e with currX := topx e y }))).mem_iff.1 hx
      obtain ⟨e, _, rfl⟩ := List.mem_map.1 hp
      unfold topKey
      by_cases hy : e.top.y = y
      · simp only [hy, if_true]
        rw [hcx, ← hy, ht]
      · simp only [hy, if_false]
        rw [hcx]
    rw [List.pairwise_map]
    unfold SortedX at hs
    exact hs.imp_of_mem (fun {a b} ha hb h => by rw [hmem a ha, hmem b hb]; exact h)

theorem sweepX_cons_cons (pc : Bool) (topx : HEdge → Int → Int) (info : Nat → Info) (mins : Int → List (HEdge × HEdge))
    (ael : List HEdge) (y0 y1 : Int) (rest : List Int) :
    sweepX pc topx info mins ael (y0 :: y1 :: rest) =
      let a1 := insertMinsH info ael (mins y0)
      let selB := selAfterInsert (mins y0)
      let a4 := topOfBeamH pc topx y1 (doIntersectionsH topx y1 (horzPhase pc topx a1 selB).ael)
      (StageX.ins y0 a1 :: phaseStages pc topx a1 selB) ++
        StageX.isect y1 (doIntersectionsH topx y1 (horzPhase pc topx a1 selB).ael) :: StageX.top y1 a4 ::
          phaseStages pc topx a4 (selAfterTop a4) ++
            sweepX pc topx info mins (horzPhase pc topx a4 (selAfterTop a4)).ael (y1 :: rest) := by
  rw [sweepX]

end Clipper.Lemmas.SweepHorzReplay

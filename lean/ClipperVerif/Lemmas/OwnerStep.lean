/-
What the table-level functions `checkBounds`, `checkSplitOwner`, `ownerLoop` may do to an outrec table when they work
on behalf of outrec `i` (`Good`): a record-wise frame (`Step`), acyclicity of the owner graph, and, for any set `C` of
outrec indices that contains `i` and is closed under `owner` and `splits`, that nothing outside `C` is touched, `C` stays
closed, and `recursive_split` is only ever set to `i`.
`C` = "closed outrecs" gives `tree_paths_perm` (open outrecs are never touched), `C` = "indices of the table" gives the
termination invariant, `C` = everything the plain frame.
-/
import ClipperVerif.Lemmas.OwnerAcyclic
namespace Clipper.Model.Owner
open Clipper

/-- what may happen to the static / geometric fields of outrec `j` while the tree is built -/
structure RecStep (clean : Nat → CleanRes) (j : Nat) (r r' : OutRec) : Prop where
  splits : r'.splits = r.splits
  isOpen : r'.isOpen = r.isOpen
  hasPts_mono : r'.hasPts = true → r.hasPts = true
  disposed : r.hasPts = true → r'.hasPts = false → clean j = .disposed
  keep : r.bounds.isEmpty = false → r'.bounds = r.bounds ∧ r'.path = r.path ∧ r'.hasPts = r.hasPts
  fill : r.bounds.isEmpty = true → r'.bounds.isEmpty = false →
    r'.hasPts = true ∧ clean j = .path r'.path ∧ r'.bounds = getBounds r'.path

theorem RecStep.of_eq {clean : Nat → CleanRes} {j : Nat} {r r' : OutRec} (h1 : r'.splits = r.splits)
    (h2 : r'.isOpen = r.isOpen) (h3 : r'.hasPts = r.hasPts) (h4 : r'.bounds = r.bounds) (h5 : r'.path = r.path) :
    RecStep clean j r r' :=
  ⟨h1, h2, fun h => h3 ▸ h, fun a b => (by rw [h3, a] at b; cases b), fun _ => ⟨h4, h5, h3⟩,
    fun a b => (by rw [h4, a] at b; cases b)⟩

theorem RecStep.refl (clean : Nat → CleanRes) (j : Nat) (r : OutRec) : RecStep clean j r r :=
  .of_eq rfl rfl rfl rfl rfl

theorem RecStep.trans {clean : Nat → CleanRes} {j : Nat} {a b c : OutRec}
    (h1 : RecStep clean j a b) (h2 : RecStep clean j b c) : RecStep clean j a c := by
  refine ⟨h2.splits.trans h1.splits, h2.isOpen.trans h1.isOpen, fun h => h1.hasPts_mono (h2.hasPts_mono h), ?_, ?_, ?_⟩
  · intro ha hc
    cases hb : b.hasPts with
    | true => exact h2.disposed hb hc
    | false => exact h1.disposed ha hb
  · intro ha
    obtain ⟨e1, e2, e3⟩ := h1.keep ha
    obtain ⟨f1, f2, f3⟩ := h2.keep (e1 ▸ ha)
    exact ⟨f1.trans e1, f2.trans e2, f3.trans e3⟩
  · intro ha hc
    cases hb : b.bounds.isEmpty with
    | true => exact h2.fill hb hc
    | false =>
      obtain ⟨f1, f2, f3⟩ := h2.keep hb
      obtain ⟨g1, g2, g3⟩ := h1.fill ha hb
      exact ⟨f3 ▸ g1, f2 ▸ g2, by rw [f1, f2]; exact g3⟩

/-- frame relation between tables; `io` = the only outrec whose `owner` may have changed -/
def Step (clean : Nat → CleanRes) (io : Option Nat) (T T' : Table) : Prop :=
  T'.size = T.size ∧
  ∀ (j : Nat) (r : OutRec), T[j]? = some r →
    ∃ r' : OutRec, T'[j]? = some r' ∧ RecStep clean j r r' ∧ r'.polypath = r.polypath ∧
      (some j ≠ io → r'.owner = r.owner)

theorem Step.refl (clean : Nat → CleanRes) (io : Option Nat) (T : Table) : Step clean io T T :=
  ⟨rfl, fun _ r h => ⟨r, h, RecStep.refl _ _ _, rfl, fun _ => rfl⟩⟩

theorem Step.trans {clean : Nat → CleanRes} {io : Option Nat} {A B C : Table}
    (h1 : Step clean io A B) (h2 : Step clean io B C) : Step clean io A C := by
  refine ⟨h2.1.trans h1.1, fun j r h => ?_⟩
  obtain ⟨r', hr', s1, p1, o1⟩ := h1.2 j r h
  obtain ⟨r'', hr'', s2, p2, o2⟩ := h2.2 j r' hr'
  exact ⟨r'', hr'', s1.trans s2, p2.trans p1, fun hne => (o2 hne).trans (o1 hne)⟩

theorem Step.weaken {clean : Nat → CleanRes} {io : Option Nat} {A B : Table}
    (h : Step clean none A B) : Step clean io A B := by
  refine ⟨h.1, fun j r hj => ?_⟩
  obtain ⟨r', hr', s1, p1, o1⟩ := h.2 j r hj
  exact ⟨r', hr', s1, p1, fun _ => o1 (by simp)⟩

theorem Step.back {clean : Nat → CleanRes} {io : Option Nat} {A B : Table} (h : Step clean io A B)
    {j : Nat} {r' : OutRec} (hj : B[j]? = some r') :
    ∃ r : OutRec, A[j]? = some r ∧ RecStep clean j r r' ∧ r'.polypath = r.polypath ∧
      (some j ≠ io → r'.owner = r.owner) := by
  have hA := Array.getElem?_eq_getElem (h.1 ▸ getElem?_lt hj)
  obtain ⟨r'', hr'', s⟩ := h.2 j _ hA
  cases hj.symm.trans hr''
  exact ⟨_, hA, s⟩

theorem Step.modify {clean : Nat → CleanRes} {io : Option Nat} {T : Table} {k : Nat} {g : OutRec → OutRec}
    (h : ∀ r : OutRec, T[k]? = some r →
      RecStep clean k r (g r) ∧ (g r).polypath = r.polypath ∧ (some k ≠ io → (g r).owner = r.owner)) :
    Step clean io T (T.modify k g) := by
  refine ⟨Array.size_modify, fun j r hj => ?_⟩
  by_cases hkj : k = j
  · subst hkj
    exact ⟨_, modify_self g hj, h r hj⟩
  · exact ⟨r, (modify_ne g hkj).trans hj, RecStep.refl _ _ _, rfl, fun _ => rfl⟩

/-- `C` is closed under `owner` and `splits` in `T` -/
def OwnC (C : Nat → Prop) (T : Table) : Prop :=
  ∀ (j : Nat) (r : OutRec), T[j]? = some r → C j → (∀ o : Nat, r.owner = some o → C o) ∧ (∀ s ∈ r.splits, C s)

theorem ownC_true (T : Table) : OwnC (fun _ => True) T :=
  fun _ _ _ _ => ⟨fun _ _ => trivial, fun _ _ => trivial⟩

/-- records outside `C` are untouched -/
def NonC (C : Nat → Prop) (T T' : Table) : Prop := ∀ j : Nat, ¬ C j → T'[j]? = T[j]?

/-- `recursive_split` is unchanged or set to `i` -/
def MarkFrame (i : Nat) (T T' : Table) : Prop :=
  ∀ (j : Nat) (r : OutRec), T[j]? = some r →
    ∃ r' : OutRec, T'[j]? = some r' ∧ (r'.recursiveSplit = r.recursiveSplit ∨ r'.recursiveSplit = some i)

/-- What a run of a table-level function on behalf of outrec `i` does to the table.  `io` is the only outrec whose
`owner` may have changed (`none`, or `some i`).  `C` is any set of outrecs the run starts inside: it is not left
(`nonC`) and stays closed under `owner` / `splits` (`ownC`); `recursive_split` is only ever set to `i` (`mark`). -/
structure Good (clean : Nat → CleanRes) (C : Nat → Prop) (i : Nat) (io : Option Nat) (T T' : Table) : Prop where
  step : Step clean io T T'
  acyc : Acyclic T → Acyclic T'
  nonC : NonC C T T'
  mark : MarkFrame i T T'
  ownC : OwnC C T → OwnC C T'

section
variable {clean : Nat → CleanRes} {inside : Nat → Nat → Bool} {C : Nat → Prop} {i : Nat}

theorem Good.refl {io : Option Nat} {T : Table} : Good clean C i io T T :=
  ⟨Step.refl _ _ _, id, fun _ _ => rfl, fun _ r h => ⟨r, h, Or.inl rfl⟩, id⟩

theorem Good.trans {io : Option Nat} {A B D : Table} (h1 : Good clean C i io A B) (h2 : Good clean C i io B D) :
    Good clean C i io A D where
  step := h1.step.trans h2.step
  acyc h := h2.acyc (h1.acyc h)
  nonC j hj := (h2.nonC j hj).trans (h1.nonC j hj)
  mark j r hj := by
    obtain ⟨r', hr', m1⟩ := h1.mark j r hj
    obtain ⟨r'', hr'', m2⟩ := h2.mark j r' hr'
    exact ⟨r'', hr'', m2.elim (fun m2 => m1.imp m2.trans m2.trans) Or.inr⟩
  ownC h := h2.ownC (h1.ownC h)

theorem Good.weaken {io : Option Nat} {A B : Table} (h : Good clean C i none A B) : Good clean C i io A B :=
  { h with step := h.step.weaken }

/-- modifying a record of `C`: `g` may only mark with `i` and must leave the owner in `C` -/
theorem Good.modify {io : Option Nat} {T : Table} {k : Nat} {g : OutRec → OutRec} (hk : C k)
    (hrec : ∀ r : OutRec, T[k]? = some r → RecStep clean k r (g r))
    (hfix : ∀ r : OutRec, (g r).polypath = r.polypath ∧ (some k ≠ io → (g r).owner = r.owner) ∧
      ((g r).recursiveSplit = r.recursiveSplit ∨ (g r).recursiveSplit = some i))
    (hac : Acyclic T → Acyclic (T.modify k g))
    (hown : OwnC C T → ∀ (r : OutRec) (o : Nat), T[k]? = some r → (g r).owner = some o → C o) :
    Good clean C i io T (T.modify k g) where
  step := Step.modify fun r hr => ⟨hrec r hr, (hfix r).1, (hfix r).2.1⟩
  acyc := hac
  nonC j hj := modify_ne g fun e => hj (e ▸ hk)
  mark j r hj := by
    by_cases hkj : k = j
    · subst hkj; exact ⟨_, modify_self g hj, (hfix r).2.2⟩
    · exact ⟨r, (modify_ne g hkj).trans hj, Or.inl rfl⟩
  ownC hC j r' hj hCj := by
    rcases modify_cases hj with ⟨rfl, r, hr, rfl⟩ | ⟨_, hr⟩
    · exact ⟨fun o ho => hown hC r o hr ho, fun s hs => (hC k r hr hCj).2 s ((hrec r hr).splits ▸ hs)⟩
    · exact hC j r' hr hCj

theorem Good.modify_static {T : Table} {k : Nat} {g : OutRec → OutRec} (hk : C k)
    (hrec : ∀ r : OutRec, T[k]? = some r → RecStep clean k r (g r))
    (hfix : ∀ r : OutRec, (g r).polypath = r.polypath ∧ (g r).owner = r.owner ∧
      ((g r).recursiveSplit = r.recursiveSplit ∨ (g r).recursiveSplit = some i)) :
    Good clean C i none T (T.modify k g) :=
  Good.modify hk hrec (fun r => ⟨(hfix r).1, fun _ => (hfix r).2.1, (hfix r).2.2⟩)
    (fun hA => hA.of_same_owner fun _ _ hj => modify_field (·.owner) hj fun r => (hfix r).2.1)
    (fun hC r o hr ho => (hC k r hr hk).1 o ((hfix r).2.1 ▸ ho))

/-- `outrec->owner = ow` -/
theorem Good.set_owner {T : Table} (hi : C i) (ow : Option Nat)
    (hac : Acyclic T → Acyclic (T.modify i (fun x => { x with owner := ow })))
    (hown : OwnC C T → ∀ o : Nat, ow = some o → C o) :
    Good clean C i (some i) T (T.modify i (fun x => { x with owner := ow })) :=
  Good.modify hi (fun _ _ => .of_eq rfl rfl rfl rfl rfl) (fun _ => ⟨rfl, fun h => absurd rfl h, Or.inl rfl⟩) hac
    (fun hC _ o _ ho => hown hC o ho)

/-- `outrec->owner = outrec->owner->owner` -/
theorem good_skip_owner {T : Table} {o : Nat} {ri orc : OutRec} (hi : C i) (hri : T[i]? = some ri)
    (hio : ri.owner = some o) (ho : T[o]? = some orc) :
    Good clean C i (some i) T (T.modify i (fun x => { x with owner := orc.owner })) :=
  .set_owner hi _ (fun hA => hA.skip_owner hri hio ho) (fun hC => (hC o orc ho ((hC i ri hri hi).1 o hio)).1)

/-- the five ways in which `CheckBounds` returns -/
theorem checkBounds_cases {T T' : Table} {k : Nat} {b : Bool} (h : checkBounds clean T k = some (T', b)) :
    ∃ r : OutRec, T[k]? = some r ∧
      ((r.hasPts = false ∧ T' = T ∧ b = false) ∨
       (r.hasPts = true ∧ r.bounds.isEmpty = false ∧ T' = T ∧ b = true) ∨
       (r.hasPts = true ∧ r.bounds.isEmpty = true ∧
         ((clean k = .disposed ∧ T' = T.modify k (fun x => { x with hasPts := false }) ∧ b = false) ∨
          (clean k = .invalid ∧ T' = T ∧ b = false) ∨
          (∃ p, clean k = .path p ∧ T' = T.modify k (fun x => { x with path := p, bounds := getBounds p }) ∧
            b = true)))) := by
  simp only [checkBounds] at h
  split at h
  · cases h
  · rename_i r hr
    refine ⟨r, hr, ?_⟩
    split at h
    · rename_i hpts
      cases h
      exact Or.inl ⟨by simpa using hpts, rfl, rfl⟩
    · rename_i hpts
      simp only [Bool.not_eq_true', Bool.not_eq_false] at hpts
      split at h
      · rename_i hemp
        cases h
        exact Or.inr (Or.inl ⟨hpts, by simpa using hemp, rfl, rfl⟩)
      · rename_i hemp
        simp only [Bool.not_eq_true', Bool.not_eq_false] at hemp
        refine Or.inr (Or.inr ⟨hpts, hemp, ?_⟩)
        split at h <;> cases h
        · exact Or.inl ⟨‹_›, rfl, rfl⟩
        · exact Or.inr (Or.inl ⟨‹_›, rfl, rfl⟩)
        · exact Or.inr (Or.inr ⟨_, ‹_›, rfl, rfl⟩)

theorem checkBounds_good {T T' : Table} {k : Nat} {b : Bool} (h : checkBounds clean T k = some (T', b)) (hk : C k) :
    Good clean C i none T T' := by
  obtain ⟨r, hr, h⟩ := checkBounds_cases h
  rcases h with ⟨_, rfl, _⟩ | ⟨_, _, rfl, _⟩ | ⟨hpts, hemp, ⟨hc, rfl, _⟩ | ⟨_, rfl, _⟩ | ⟨p, hc, rfl, _⟩⟩
  · exact .refl
  · exact .refl
  · refine .modify_static hk (fun r' hr' => ?_) (fun _ => ⟨rfl, rfl, Or.inl rfl⟩)
    cases hr.symm.trans hr'
    exact ⟨rfl, rfl, fun h => (by cases h), fun _ _ => hc, fun h => by simp [hemp] at h, fun _ h => by simp [hemp] at h⟩
  · exact .refl
  · refine .modify_static hk (fun r' hr' => ?_) (fun _ => ⟨rfl, rfl, Or.inl rfl⟩)
    cases hr.symm.trans hr'
    exact ⟨rfl, rfl, fun _ => hpts, fun _ h => by simp [hpts] at h, fun h => by simp [hemp] at h,
      fun _ _ => ⟨hpts, hc, rfl⟩⟩

theorem checkBounds_true {clean : Nat → CleanRes} {T T' : Table} {i : Nat}
    (h : checkBounds clean T i = some (T', true)) : ∃ r' : OutRec, T'[i]? = some r' ∧ r'.hasPts = true := by
  obtain ⟨r, hr, h⟩ := checkBounds_cases h
  rcases h with ⟨_, _, h⟩ | ⟨hpts, _, rfl, _⟩ | ⟨hpts, _, ⟨_, _, h⟩ | ⟨_, _, h⟩ | ⟨p, _, rfl, _⟩⟩
  · cases h
  · exact ⟨r, hr, hpts⟩
  · cases h
  · cases h
  · exact ⟨_, modify_self _ hr, hpts⟩

theorem checkBounds_total {T : Table} {k : Nat} (hk : k < T.size) : ∃ p, checkBounds clean T k = some p := by
  unfold checkBounds
  rw [Array.getElem?_eq_getElem hk]
  simp only
  split
  · exact ⟨_, rfl⟩
  · split
    · exact ⟨_, rfl⟩
    · split <;> exact ⟨_, rfl⟩

/-- the pattern `if (call) return/break; …` of `CheckSplitOwner` and the owner loop: stop with `yes` if the call answered
true, go on with `K` on the table it left otherwise -/
def orElse {α : Type} (r : Option (Table × Bool)) (yes : Table → α) (K : Table → Option α) : Option α :=
  match r with
  | none => none
  | some (T1, true) => some (yes T1)
  | some (T1, false) => K T1

theorem orElse_eq_some {α : Type} {r : Option (Table × Bool)} {yes : Table → α} {K : Table → Option α} {a : α}
    (h : orElse r yes K = some a) :
    (∃ T1, r = some (T1, true) ∧ a = yes T1) ∨ (∃ T1, r = some (T1, false) ∧ K T1 = some a) := by
  unfold orElse at h
  split at h
  · cases h
  · cases h; exact Or.inl ⟨_, rfl, rfl⟩
  · exact Or.inr ⟨_, rfl, h⟩

theorem orElse_total {α : Type} {r : Option (Table × Bool)} {yes : Table → α} {K : Table → Option α}
    (hr : ∃ p, r = some p) (hK : ∀ T1, r = some (T1, false) → ∃ a, K T1 = some a) : ∃ a, orElse r yes K = some a := by
  obtain ⟨⟨T1, b⟩, rfl⟩ := hr
  cases b with
  | true => exact ⟨_, rfl⟩
  | false => exact hK T1 rfl

/-- a call of `CheckSplitOwner` behind a guard: `c && CheckSplitOwner(outrec, L)` -/
def csoIf (clean : Nat → CleanRes) (inside : Nat → Nat → Bool) (c : Bool) (f : Nat) (T : Table) (i : Nat)
    (L : List Nat) : Option (Table × Bool) :=
  if c then checkSplitOwner clean inside f T i L else some (T, false)

/-- the containment test that justified the current `outrec->owner` -/
def OwnerOK (inside : Nat → Nat → Bool) (T : Table) (i : Nat) : Prop :=
  ∃ (ri : OutRec) (s : Nat) (rs : OutRec), T[i]? = some ri ∧ ri.owner = some s ∧ T[s]? = some rs ∧
    rs.bounds.contains ri.bounds = true ∧ inside i s = true

def CsoSpec (clean : Nat → CleanRes) (inside : Nat → Nat → Bool) (C : Nat → Prop) (i : Nat) (T T' : Table)
    (b : Bool) : Prop :=
  (b = false → Good clean C i none T T') ∧ (b = true → Good clean C i (some i) T T' ∧ OwnerOK inside T' i)

theorem CsoSpec.pre {T T1 T' : Table} {b : Bool}
    (h1 : Good clean C i none T T1) (h2 : CsoSpec clean inside C i T1 T' b) : CsoSpec clean inside C i T T' b :=
  ⟨fun hb => h1.trans (h2.1 hb), fun hb => ⟨h1.weaken.trans (h2.2 hb).1, (h2.2 hb).2⟩⟩

/-- last part of the loop body of `CheckSplitOwner`: the `else if (CheckBounds(split) && …)` -/
def csoFinal (clean : Nat → CleanRes) (inside : Nat → Nat → Bool) (f : Nat) (T3 : Table) (i s' : Nat)
    (rest : List Nat) : Option (Table × Bool) :=
  match checkBounds clean T3 s' with
  | none => none
  | some (T4, false) => checkSplitOwner clean inside f T4 i rest
  | some (T4, true) =>
    match isValidOwner T4 (T4.size + 1) i (some s'), T4[s']?, T4[i]? with
    | some valid, some sr4, some ir4 =>
      if valid && sr4.bounds.contains ir4.bounds && inside i s' then
        some (T4.modify i (fun x => { x with owner := some s' }), true)
      else checkSplitOwner clean inside f T4 i rest
    | _, _, _ => none

/-- the loop body of `CheckSplitOwner` after the `//#942` line -/
def csoRest (clean : Nat → CleanRes) (inside : Nat → Nat → Bool) (f : Nat) (T1 : Table) (i s : Nat)
    (rest : List Nat) : Option (Table × Bool) :=
  match getRealOutRec T1 (T1.size + 1) (some s) with
  | none => none
  | some none => checkSplitOwner clean inside f T1 i rest
  | some (some s') =>
    match T1[s']? with
    | none => none
    | some sr' =>
      if s' = i || sr'.recursiveSplit = some i then checkSplitOwner clean inside f T1 i rest
      else
        orElse (csoIf clean inside (!sr'.splits.isEmpty) f (T1.modify s' (fun x => { x with recursiveSplit := some i }))
            i sr'.splits)
          (·, true) (fun T3 => csoFinal clean inside f T3 i s' rest)

theorem cso_unfold (clean : Nat → CleanRes) (inside : Nat → Nat → Bool) (f : Nat) (T : Table) (i s : Nat)
    (rest : List Nat) :
    checkSplitOwner clean inside (f + 1) T i (s :: rest) =
      match T[s]? with
      | none => none
      | some sr =>
        orElse (csoIf clean inside (!sr.hasPts && !sr.splits.isEmpty) f T i sr.splits) (·, true)
          (fun T1 => csoRest clean inside f T1 i s rest) := by
  rw [checkSplitOwner]; rfl

/-- `GetRealOutRec` returns an outrec with points, and stays inside every set closed under `owner` -/
theorem getRealOutRec_some {T : Table} {f t s' : Nat} (h : getRealOutRec T f (some t) = some (some s')) :
    (∃ r : OutRec, T[s']? = some r ∧ r.hasPts = true) ∧ ∀ C : Nat → Prop, OwnC C T → C t → C s' := by
  induction f generalizing t with
  | zero => cases h
  | succ f ih =>
    simp only [getRealOutRec] at h
    split at h
    · cases h
    · rename_i r hr
      split at h
      · rename_i hp
        cases h
        exact ⟨⟨r, hr, hp⟩, fun C _ hC => hC⟩
      · cases ho : r.owner with
        | none => rw [ho] at h; cases f <;> cases h
        | some o =>
          obtain ⟨a, b⟩ := ih (ho ▸ h)
          exact ⟨a, fun C hO hC => b C hO ((hO t r hr hC).1 o ho)⟩

/-- the statement proved about `checkSplitOwner` by induction on the fuel -/
def CsoHolds (clean : Nat → CleanRes) (inside : Nat → Nat → Bool) (C : Nat → Prop) (i f : Nat) : Prop :=
  ∀ (T : Table) (L : List Nat) (T' : Table) (b : Bool), checkSplitOwner clean inside f T i L = some (T', b) →
    OwnC C T → (∀ s ∈ L, C s) → CsoSpec clean inside C i T T' b

theorem csoIf_spec {f : Nat} (IH : CsoHolds clean inside C i f) {c : Bool} {T T' : Table} {L : List Nat} {b : Bool}
    (h : csoIf clean inside c f T i L = some (T', b)) (hC : OwnC C T) (hL : ∀ s ∈ L, C s) :
    CsoSpec clean inside C i T T' b := by
  unfold csoIf at h
  split at h
  · exact IH _ _ _ _ h hC hL
  · cases h
    exact ⟨fun _ => .refl, fun hb => by cases hb⟩

theorem csoFinal_spec {f : Nat} (hi : C i) (IH : CsoHolds clean inside C i f) {T3 T' : Table} {s' : Nat}
    {rest : List Nat} {b : Bool} (h : csoFinal clean inside f T3 i s' rest = some (T', b)) (hC : OwnC C T3)
    (hs' : C s') (hrest : ∀ s ∈ rest, C s) : CsoSpec clean inside C i T3 T' b := by
  unfold csoFinal at h
  split at h
  · cases h
  · rename_i T4 hcb
    have hg : Good clean C i none T3 T4 := checkBounds_good hcb hs'
    exact .pre hg (IH _ _ _ _ h (hg.ownC hC) hrest)
  · rename_i T4 hcb
    have hg : Good clean C i none T3 T4 := checkBounds_good hcb hs'
    split at h
    · rename_i valid sr4 ir4 hv hs4 hi4
      split at h
      · rename_i hcond
        simp only [Bool.and_eq_true] at hcond
        obtain ⟨⟨rfl, hcont⟩, hins⟩ := hcond
        cases h
        have hnr := isValidOwner_true hv
        have hne : i ≠ s' := fun e => hnr (e ▸ Reach.refl _)
        exact .pre hg ⟨fun hb => (by cases hb), fun _ =>
          ⟨.set_owner hi _ (fun hA => hA.set_valid hnr) (fun _ o ho => by cases ho; exact hs'),
            _, s', sr4, modify_self _ hi4, rfl, (modify_ne _ hne).trans hs4, hcont, hins⟩⟩
      · exact .pre hg (IH _ _ _ _ h (hg.ownC hC) hrest)
    · cases h

theorem csoRest_spec {f : Nat} (hi : C i) (IH : CsoHolds clean inside C i f) {T1 T' : Table} {s : Nat}
    {rest : List Nat} {b : Bool} (h : csoRest clean inside f T1 i s rest = some (T', b)) (hC : OwnC C T1)
    (hs : C s) (hrest : ∀ s ∈ rest, C s) : CsoSpec clean inside C i T1 T' b := by
  unfold csoRest at h
  split at h
  · cases h
  · exact IH _ _ _ _ h hC hrest
  · rename_i s' hgr
    have hs' : C s' := (getRealOutRec_some hgr).2 C hC hs
    split at h
    · cases h
    · rename_i sr' hsr'
      split at h
      · exact IH _ _ _ _ h hC hrest
      · have hg2 : Good clean C i none T1 (T1.modify s' (fun x => { x with recursiveSplit := some i })) :=
          .modify_static hs' (fun _ _ => .of_eq rfl rfl rfl rfl rfl) (fun _ => ⟨rfl, rfl, Or.inr rfl⟩)
        rcases orElse_eq_some h with ⟨T3, h3, e⟩ | ⟨T3, h3, h⟩
        · cases e
          exact .pre hg2 (csoIf_spec IH h3 (hg2.ownC hC) (hC s' sr' hsr' hs').2)
        · have hg3 := hg2.trans ((csoIf_spec IH h3 (hg2.ownC hC) (hC s' sr' hsr' hs').2).1 rfl)
          exact .pre hg3 (csoFinal_spec hi IH h (hg3.ownC hC) hs' hrest)

/-- `CheckSplitOwner(outrec, splits)` with `outrec ∈ C`, `splits ⊆ C` -/
theorem checkSplitOwner_spec (hi : C i) : ∀ f : Nat, CsoHolds clean inside C i f := by
  intro f
  induction f with
  | zero => intro T L T' b h; cases h
  | succ f IH =>
    intro T L T' b h hC hL
    cases L with
    | nil =>
      cases h
      exact ⟨fun _ => .refl, fun hb => by cases hb⟩
    | cons s rest =>
      rw [cso_unfold] at h
      have hs : C s := hL s (List.mem_cons_self ..)
      have hrest : ∀ x ∈ rest, C x := fun x hx => hL x (List.mem_cons_of_mem _ hx)
      split at h
      · cases h
      · rename_i sr hsr
        rcases orElse_eq_some h with ⟨T1, h1, e⟩ | ⟨T1, h1, h⟩
        · cases e
          exact csoIf_spec IH h1 hC (hC s sr hsr hs).2
        · have hg1 := (csoIf_spec IH h1 hC (hC s sr hsr hs).2).1 rfl
          exact .pre hg1 (csoRest_spec hi IH h (hg1.ownC hC) hs hrest)

/-- `outrec->owner = outrec->owner->owner;` and the next turn of the loop -/
def olNext (clean : Nat → CleanRes) (inside : Nat → Nat → Bool) (f : Nat) (T' : Table) (i o : Nat) : Option Table :=
  match T'[o]? with
  | none => none
  | some orc' => ownerLoop clean inside f (T'.modify i (fun x => { x with owner := orc'.owner })) i

/-- the body of the loop after the `CheckSplitOwner` line: `if (outrec->owner->pts && CheckBounds(outrec->owner) && …) break;` -/
def olRest (clean : Nat → CleanRes) (inside : Nat → Nat → Bool) (f : Nat) (T1 : Table) (i o : Nat) : Option Table :=
  match T1[o]? with
  | none => none
  | some orc1 =>
    if !orc1.hasPts then olNext clean inside f T1 i o
    else match checkBounds clean T1 o with
      | none => none
      | some (T2, false) => olNext clean inside f T2 i o
      | some (T2, true) =>
        match T2[o]?, T2[i]? with
        | some orc2, some ir2 =>
          if orc2.bounds.contains ir2.bounds && inside i o then some T2 else olNext clean inside f T2 i o
        | _, _ => none

theorem ol_unfold (clean : Nat → CleanRes) (inside : Nat → Nat → Bool) (f : Nat) (T : Table) (i : Nat) :
    ownerLoop clean inside (f + 1) T i =
      match T[i]? with
      | none => none
      | some r =>
        match r.owner with
        | none => some T
        | some o =>
          match T[o]? with
          | none => none
          | some orc =>
            orElse (csoIf clean inside (!orc.splits.isEmpty) f T i orc.splits) id
              (fun T1 => olRest clean inside f T1 i o) := by
  rw [ownerLoop]; rfl

def OlSpec (clean : Nat → CleanRes) (inside : Nat → Nat → Bool) (C : Nat → Prop) (i : Nat) (T T' : Table) : Prop :=
  Good clean C i (some i) T T' ∧ ((∃ ri : OutRec, T'[i]? = some ri ∧ ri.owner = none) ∨ OwnerOK inside T' i)

theorem OlSpec.pre {T T1 T' : Table}
    (h1 : Good clean C i (some i) T T1) (h2 : OlSpec clean inside C i T1 T') : OlSpec clean inside C i T T' :=
  ⟨h1.trans h2.1, h2.2⟩

/-- the statement proved about `ownerLoop` by induction on the fuel -/
def OlHolds (clean : Nat → CleanRes) (inside : Nat → Nat → Bool) (C : Nat → Prop) (i f : Nat) : Prop :=
  ∀ (T R : Table), ownerLoop clean inside f T i = some R → OwnC C T → OlSpec clean inside C i T R

theorem olNext_spec {f : Nat} (hi : C i) (IH : OlHolds clean inside C i f) {T' R : Table} {o : Nat} {ri : OutRec}
    (h : olNext clean inside f T' i o = some R) (hC : OwnC C T') (hri : T'[i]? = some ri) (hio : ri.owner = some o) :
    OlSpec clean inside C i T' R := by
  unfold olNext at h
  split at h
  · cases h
  · rename_i orc' ho
    have hg := good_skip_owner (clean := clean) hi hri hio ho
    exact .pre hg (IH _ _ h (hg.ownC hC))

theorem olRest_spec {f : Nat} (hi : C i) (IH : OlHolds clean inside C i f) {T1 R : Table} {o : Nat} {ri : OutRec}
    (h : olRest clean inside f T1 i o = some R) (hC : OwnC C T1) (hri : T1[i]? = some ri) (hio : ri.owner = some o) :
    OlSpec clean inside C i T1 R := by
  unfold olRest at h
  split at h
  · cases h
  · split at h
    · exact olNext_spec hi IH h hC hri hio
    · cases hcb : checkBounds clean T1 o with
      | none => rw [hcb] at h; cases h
      | some p =>
        obtain ⟨T2, b2⟩ := p
        rw [hcb] at h
        have hg : Good clean C i none T1 T2 := checkBounds_good hcb ((hC i ri hri hi).1 o hio)
        obtain ⟨ri2, hi2, _, _, hown⟩ := hg.step.2 i ri hri
        have hio2 : ri2.owner = some o := (hown (by simp)).trans hio
        cases b2 with
        | false => exact .pre hg.weaken (olNext_spec hi IH h (hg.ownC hC) hi2 hio2)
        | true =>
          simp only at h
          split at h
          · rename_i orc2 ir2 ho2 hir2
            split at h
            · rename_i hcond
              simp only [Bool.and_eq_true] at hcond
              cases h
              cases hi2.symm.trans hir2
              exact ⟨hg.weaken, Or.inr ⟨ri2, o, orc2, hi2, hio2, ho2, hcond.1, hcond.2⟩⟩
            · exact .pre hg.weaken (olNext_spec hi IH h (hg.ownC hC) hi2 hio2)
          · cases h

/-- the `while (outrec->owner)` loop with `outrec ∈ C` -/
theorem ownerLoop_spec (hi : C i) : ∀ f : Nat, OlHolds clean inside C i f := by
  intro f
  induction f with
  | zero => intro T R h; cases h
  | succ f IH =>
    intro T R h hC
    rw [ol_unfold] at h
    split at h
    · cases h
    · rename_i r hr
      split at h
      · rename_i hown
        cases h
        exact ⟨.refl, Or.inl ⟨r, hr, hown⟩⟩
      · rename_i o hown
        have ho : C o := (hC i r hr hi).1 o hown
        split at h
        · cases h
        · rename_i orc horc
          have IHc := checkSplitOwner_spec (clean := clean) (inside := inside) hi f
          rcases orElse_eq_some h with ⟨T1, h1, e⟩ | ⟨T1, h1, h⟩
          · cases e
            have h1 := (csoIf_spec IHc h1 hC (hC o orc horc ho).2).2 rfl
            exact ⟨h1.1, Or.inr h1.2⟩
          · have hg := (csoIf_spec IHc h1 hC (hC o orc horc ho).2).1 rfl
            obtain ⟨ri1, hi1, _, _, hown1⟩ := hg.step.2 i r hr
            exact .pre hg.weaken (olRest_spec hi IH h (hg.ownC hC) hi1 ((hown1 (by simp)).trans hown))

end

end Clipper.Model.Owner

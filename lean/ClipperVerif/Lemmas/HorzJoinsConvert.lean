/-
`UpdateHorzSegment` and `ConvertHorzSegsToJoins` on a heap of rings: what the two `while` walks of `UpdateHorzSegment` return
(`runEnds`), for both branches (`outrec->front_edge` set or not), including rings that lie entirely on the horizontal line; it only
sets a `horz` mark; what `ConvertHorzSegsToJoins` keeps (rings, records, old points,
rectilinear edges, well-formedness), what it adds (two duplicated `OutPt`s per join, numbered consecutively), and that every join it
makes has both ops on the scanline when every trial `OutPt` was registered on that scanline.
Helper file of `Props/C02Horz.lean`.  Core Lean only.
-/
import ClipperVerif.Lemmas.HorzJoinsWF
namespace Clipper.Model.HorzJoins
open Clipper

/-- `v->pt.y == y` -/
def onLine (H : Heap) (y : Int) (v : Nat) : Bool :=
  match H.ops[v]? with
  | some n => n.pt.y == y
  | none => false

theorem onLine_of_node {H : Heap} {y : Int} {v : Nat} {n : Node} (h : H.ops[v]? = some n) : onLine H y v = (n.pt.y == y) := by
  unfold onLine; rw [h]

theorem onLine_valid {H : Heap} (y : Int) {v : Nat} (hv : v < H.ops.size) :
    ∃ nv, H.ops[v]? = some nv ∧ (nv.pt.y == y) = onLine H y v := by
  obtain ⟨nv, hnv⟩ := node_of_lt hv
  exact ⟨nv, hnv, (onLine_of_node hnv).symm⟩

/-- **the walks of `UpdateHorzSegment` when the record has no edges** (the ring is closed): on the ring `op :: rest`
* `opP` is reached by going back over `rest` from its end while the nodes are on the line and `op` has not come round again;
* `opN` is reached by going forward over `rest` while the nodes are on the line and `opP` has not been reached.
Both walks terminate on every ring — also on a ring that lies entirely on the line, where `opP = op->next` and `opN = op`. -/
theorem runEnds_none_spec {H : Heap} {op : Nat} {rest : List Nat} (y : Int)
    (hring : IsRingF (nextOf H) (prevOf H) (op :: rest)) (hlt : ∀ v ∈ op :: rest, v < H.ops.size) :
    runEnds H op y none =
      .ok (((rest.reverse ++ [op]).takeWhile (fun v => v != op && onLine H y v)).getLastD op,
           ((rest ++ [op]).takeWhile
              (fun v => v != ((rest.reverse ++ [op]).takeWhile (fun v => v != op && onLine H y v)).getLastD op && onLine H y v)).getLastD op) := by
  have hch : ChainF (nextOf H) (prevOf H) (op :: rest ++ [op]) := hring.2
  have hlen : rest.length + 1 ≤ H.ops.size := nodup_length_le _ _ hring.nodup hlt
  have hlt' : ∀ v ∈ rest ++ [op], v < H.ops.size := fun v hv => hlt v ((List.perm_append_comm (l₁ := rest)).mem_iff.1 hv)
  -- backward: the loop stops at `op` at the latest
  have w1 := walk_takeWhile (H := H) (fwd := false) (pre := fun _ => false) (cond := fun nx nn => nx != op && nn.pt.y == y)
    (fun v => v != op && onLine H y v) (rest.reverse ++ [op]) op H.fuel (by simpa using steps_of_chain_bwd hch)
    (fun v hv => (onLine_valid y (hlt' v (by simpa using hv))).imp fun _ h => ⟨h.1, congrArg (v != op && ·) h.2⟩) (fun _ _ => rfl)
    (Or.inl ⟨op, by simp, by simp⟩) (by simp [Heap.fuel]; omega)
  generalize hP : ((rest.reverse ++ [op]).takeWhile (fun v => v != op && onLine H y v)).getLastD op = opP at w1 ⊢
  -- forward: the loop stops at `opP` at the latest
  have hPm : opP ∈ rest ++ [op] := by
    have h := List.getLastD_mem_cons (l := (rest.reverse ++ [op]).takeWhile fun v => v != op && onLine H y v) (a := op)
    rw [hP] at h
    rcases List.mem_cons.1 h with h | h
    · rw [h]; simp
    · simpa using List.takeWhile_subset _ h
  have w2 := walk_takeWhile (H := H) (fwd := true) (pre := fun _ => false) (cond := fun nx nn => nx != opP && nn.pt.y == y)
    (fun v => v != opP && onLine H y v) (rest ++ [op]) op H.fuel (steps_of_chain_fwd hch)
    (fun v hv => (onLine_valid y (hlt' v hv)).imp fun _ h => ⟨h.1, congrArg (v != opP && ·) h.2⟩) (fun _ _ => rfl)
    (Or.inl ⟨opP, hPm, by simp⟩) (by simp [Heap.fuel]; omega)
  simp only [runEnds, w1, w2]

/-- **the walks of `UpdateHorzSegment` when the record still has edges**: `opA = outrec->pts` is the front end of the ring
under construction and `opZ = opA->next` its back end; read from `opZ` the ring is `X ++ op :: Y` (ending in `opA`).
`opP` is reached by going back over `X` while on the line, `opN` by going forward over `Y` while on the line: the run never
extends across the gap between `opA` and `opZ`. -/
theorem runEnds_some_spec {H : Heap} {op opA opZ : Nat} {X Y : List Nat} (y : Int)
    (hring : IsRingF (nextOf H) (prevOf H) (X ++ op :: Y)) (hlt : ∀ v ∈ X ++ op :: Y, v < H.ops.size)
    (hZ : (X ++ [op]).head? = some opZ) (hA : (op :: Y).getLast? = some opA) :
    runEnds H op y (some (opA, opZ)) =
      .ok ((X.reverse.takeWhile (onLine H y)).getLastD op, (Y.takeWhile (onLine H y)).getLastD op) := by
  -- the walks stay on the stretches `X ++ [op]` (backwards) and `op :: Y` of the ring, whose far ends are `opZ` and `opA`
  obtain ⟨cX, cY⟩ := (chainF_append _ _ X op Y).1 hring.chain
  obtain ⟨ndX, ndY, _⟩ := List.nodup_append.1 hring.nodup
  have hlen : (X ++ op :: Y).length ≤ H.ops.size := nodup_length_le _ _ hring.nodup hlt
  have hndX : (op :: X.reverse).Nodup := by
    have h1 : ((X ++ [op]) ++ Y).Nodup := by simpa using hring.nodup
    simpa using ((List.reverse_perm (X ++ [op])).nodup_iff).2 (List.nodup_append.1 h1).1
  have hzb : (op :: X.reverse).getLast? = some opZ := by
    have : op :: X.reverse = (X ++ [op]).reverse := by simp
    rw [this, List.getLast?_reverse]; exact hZ
  have w1 := walk_takeWhile (H := H) (fwd := false) (pre := fun c => c == opZ) (cond := fun _ nn => nn.pt.y == y)
    (onLine H y) X.reverse op H.fuel (by simpa using steps_of_chain_bwd cX)
    (fun v hv => onLine_valid y (hlt v (List.mem_append_left _ (List.mem_reverse.1 hv))))
    (fun u hu => by simpa using dropLast_nodup_ne_last hndX hzb hu) (Or.inr ⟨opZ, hzb, by simp⟩)
    (by simp [Heap.fuel]; simp at hlen; omega)
  have w2 := walk_takeWhile (H := H) (fwd := true) (pre := fun c => c == opA) (cond := fun _ nn => nn.pt.y == y)
    (onLine H y) Y op H.fuel (steps_of_chain_fwd cY)
    (fun v hv => onLine_valid y (hlt v (List.mem_append_right _ (List.mem_cons_of_mem _ hv))))
    (fun u hu => by simpa using dropLast_nodup_ne_last ndY hA hu) (Or.inr ⟨opA, hA, by simp⟩)
    (by simp [Heap.fuel]; simp at hlen; omega)
  simp only [runEnds, w1, w2]

/-- `v` is a valid `OutPt` whose point has `y = y0` -/
def OnY (H : Heap) (y0 : Int) (v : Nat) : Prop := ∃ p, ptOf H v = some p ∧ p.y = y0

theorem OnY.lt {H : Heap} {y0 : Int} {v : Nat} (h : OnY H y0 v) : v < H.ops.size := by
  obtain ⟨p, hp, _⟩ := h
  obtain ⟨n, hn, _⟩ := ptOf_some.1 hp
  exact lt_of_node hn

theorem node_onY {H : Heap} {y0 : Int} {v : Nat} {n : Node} (h : OnY H y0 v) (hn : H.node v = .ok n) : n.pt.y = y0 := by
  obtain ⟨p, hp, hpy⟩ := h
  obtain ⟨n', hn', e⟩ := ptOf_some.1 hp
  cases (node_ok.1 hn).symm.trans hn'
  exact e ▸ hpy

theorem OnY.of_ptOf_eq {H H' : Heap} {y0 : Int} {v : Nat} (h : OnY H y0 v) (e : ptOf H' v = ptOf H v) : OnY H' y0 v := by
  obtain ⟨p, hp, hy⟩ := h; exact ⟨p, by rw [e, hp], hy⟩

theorem walk_result {H : Heap} {fwd : Bool} {pre : Nat → Bool} {cond : Nat → Node → Bool} (Q : Nat → Prop)
    (hQ : ∀ nx nn, H.ops[nx]? = some nn → cond nx nn = true → Q nx) :
    ∀ (fuel cur r : Nat), Q cur → walk H fwd pre cond fuel cur = .ok r → Q r
  | 0, _, _, _, h => by simp [walk] at h
  | f + 1, cur, r, hc, h => by
    unfold walk at h
    split at h
    · cases h; exact hc
    · cases hs : stepOp H fwd cur with
      | error e => simp [hs] at h
      | ok nx =>
        simp only [hs] at h
        cases hn : H.node nx with
        | error e => simp [hn] at h
        | ok nn =>
          simp only [hn] at h
          split at h
          · rename_i hcond
            exact walk_result Q hQ f nx r (hQ nx nn (node_ok.1 hn) hcond) h
          · cases h; exact hc

theorem walk_onY {H : Heap} {fwd : Bool} {pre : Nat → Bool} {cond : Nat → Node → Bool} {y : Int} {fuel cur r : Nat}
    (hc : ∀ nx nn, cond nx nn = true → nn.pt.y = y) (h0 : OnY H y cur) (h : walk H fwd pre cond fuel cur = .ok r) : OnY H y r :=
  walk_result (OnY H y) (fun nx nn hn hcond => ⟨nn.pt, ptOf_some.2 ⟨nn, hn, rfl⟩, hc nx nn hcond⟩) fuel cur r h0 h

theorem slide_onY {H : Heap} {fwd : Bool} {y bound : Int} {from_ r : Nat} (h0 : OnY H y from_)
    (h : slide H fwd y bound from_ = .ok r) : OnY H y r :=
  walk_onY (fun _ _ hc => by simp only [Bool.and_eq_true, beq_iff_eq] at hc; exact hc.1) h0 h

theorem runEnds_onY {H : Heap} {op : Nat} {y : Int} {ends : Option (Nat × Nat)} {opP opN : Nat} (h0 : OnY H y op)
    (h : runEnds H op y ends = .ok (opP, opN)) : OnY H y opP ∧ OnY H y opN := by
  have k1 : ∀ (nx : Nat) (nn : Node), (nn.pt.y == y) = true → nn.pt.y = y := fun _ _ hc => by simpa using hc
  have k2 : ∀ (c nx : Nat) (nn : Node), (nx != c && nn.pt.y == y) = true → nn.pt.y = y := fun _ _ _ hc => by
    simp only [Bool.and_eq_true, beq_iff_eq] at hc; exact hc.2
  unfold runEnds at h
  cases ends with
  | some e =>
    obtain ⟨opA, opZ⟩ := e
    simp only at h
    cases h1 : walk H false (fun c => c == opZ) (fun _ nn => nn.pt.y == y) H.fuel op with
    | error e => simp [h1] at h
    | ok p =>
      simp only [h1] at h
      cases h2 : walk H true (fun c => c == opA) (fun _ nn => nn.pt.y == y) H.fuel op with
      | error e => simp [h2] at h
      | ok q =>
        simp only [h2, Except.ok.injEq, Prod.mk.injEq] at h
        obtain ⟨rfl, rfl⟩ := h
        exact ⟨walk_onY k1 h0 h1, walk_onY k1 h0 h2⟩
  | none =>
    simp only at h
    cases h1 : walk H false (fun _ => false) (fun nx nn => nx != op && nn.pt.y == y) H.fuel op with
    | error e => simp [h1] at h
    | ok p =>
      simp only [h1] at h
      cases h2 : walk H true (fun _ => false) (fun nx nn => nx != p && nn.pt.y == y) H.fuel op with
      | error e => simp [h2] at h
      | ok q =>
        simp only [h2, Except.ok.injEq, Prod.mk.injEq] at h
        obtain ⟨rfl, rfl⟩ := h
        exact ⟨walk_onY (k2 op) h0 h1, walk_onY (k2 _) h0 h2⟩

theorem markSegment_frame {H H1 : Heap} {hs hs1 : HorzSeg} {ok b : Bool} {y0 : Int} (hl : OnY H y0 hs.leftOp)
    (hrr : ok = true → ∀ r, hs.rightOp = some r → OnY H y0 r) (hok : ok = true → hs.rightOp.isSome)
    (h : markSegment H hs ok = .ok (H1, hs1, b)) :
    SameLinks H H1 ∧ H1.recs = H.recs ∧ orecOf H1 = orecOf H ∧ OnY H1 y0 hs1.leftOp ∧
      (∀ r, hs1.rightOp = some r → OnY H1 y0 r) ∧ (b = true ↔ hs1.rightOp.isSome) ∧ hs1.ltr = hs.ltr := by
  unfold markSegment at h
  cases hn : H.node hs.leftOp with
  | error e => simp [hn] at h
  | ok nL =>
    simp only [hn] at h
    split at h
    · rename_i hc
      cases hu : H.updNode hs.leftOp (fun x => { x with horz := true }) with
      | error e => simp [hu] at h
      | ok H2 =>
        simp only [hu, Except.ok.injEq, Prod.mk.injEq] at h
        obtain ⟨rfl, rfl, rfl⟩ := h
        have sl := sameLinks_updHorz hu
        obtain ⟨_, _, eo, _, er, _⟩ := upd_horz_eqs hu
        have hok' : ok = true := by simp only [Bool.and_eq_true] at hc; exact hc.1
        refine ⟨sl, er, eo, hl.of_ptOf_eq (by rw [sl.2.2.1]), ?_, by simp [hok hok'], rfl⟩
        intro r hr'; exact (hrr hok' r hr').of_ptOf_eq (by rw [sl.2.2.1])
    · simp only [Except.ok.injEq, Prod.mk.injEq] at h
      obtain ⟨rfl, rfl, rfl⟩ := h
      exact ⟨SameLinks.refl _, rfl, rfl, hl, by simp, by simp, rfl⟩

/-- `UpdateHorzSegment` only sets a `horz` mark; the segment's `left_op` (and `right_op`) stay on the line of the trial `OutPt` -/
theorem updateHorzSegment_frame {H H1 : Heap} {hs hs1 : HorzSeg} {b : Bool} {y0 : Int} (h0 : OnY H y0 hs.leftOp)
    (h : updateHorzSegment H hs = .ok (H1, hs1, b)) :
    SameLinks H H1 ∧ H1.recs = H.recs ∧ orecOf H1 = orecOf H ∧ OnY H1 y0 hs1.leftOp ∧
      (∀ r, hs1.rightOp = some r → OnY H1 y0 r) ∧ (b = true ↔ hs1.rightOp.isSome) := by
  unfold updateHorzSegment at h
  simp only [bind_ok] at h
  obtain ⟨n, hn, ori, hri, h⟩ := h
  cases ori with
  | none => simp at h
  | some ri =>
    simp only [bind_ok] at h
    obtain ⟨r, hr, ends, he, ⟨opP, opN⟩, hre, nP, hnP, nN, hnN, h⟩ := h
    have hy : n.pt.y = y0 := node_onY h0 hn
    have h0' : OnY H n.pt.y hs.leftOp := by rw [hy]; exact h0
    obtain ⟨oP, oN⟩ := runEnds_onY h0' hre
    rw [hy] at oP oN
    simp only at h
    have key : ∀ hd : HorzSeg × Bool, hd = setHeading hs opP opN nP.pt.x nN.pt.x →
        OnY H y0 hd.1.leftOp ∧ (hd.2 = true → ∀ r, hd.1.rightOp = some r → OnY H y0 r) ∧ (hd.2 = true → hd.1.rightOp.isSome) := by
      intro hd e
      unfold setHeading at e
      split at e
      · subst e; exact ⟨h0, by simp, by simp⟩
      · split at e
        · subst e; exact ⟨oP, by intro _ r hr'; cases hr'; exact oN, by simp⟩
        · subst e; exact ⟨oN, by intro _ r hr'; cases hr'; exact oP, by simp⟩
    obtain ⟨k1, k2, k3⟩ := key _ rfl
    obtain ⟨a, b', c, d, e, f, _⟩ := markSegment_frame k1 k2 k3 h
    exact ⟨a, b', c, d, e, f⟩

/-- the `t`-th join made by this call: its two ops are the `2t`-th and `2t+1`-st `OutPt` allocated by it -/
def newJoin (n0 t : Nat) : HorzJoin := ⟨n0 + 2 * t, n0 + 2 * t + 1⟩

/-- what holds of the heap between the entry of `ConvertHorzSegsToJoins` (heap `H0`, trial `OutPt`s on the line `y0`) and any
later point of its nested loops: all that happens to it is `DuplicateOp` of nodes on the line -/
structure HInv (H0 : Heap) (y0 : Int) (nr : Nat) (H : Heap) : Prop where
  rings : ∃ rs, Rings H rs ∧ rs.length = nr
  recs : H.recs = H0.recs
  size : H0.ops.size ≤ H.ops.size
  old : ∀ i, i < H0.ops.size → ptOf H i = ptOf H0 i ∧ orecOf H i = orecOf H0 i
  fresh : ∀ i, H0.ops.size ≤ i → i < H.ops.size →
    OnY H y0 i ∧ ∃ a, a < H0.ops.size ∧ ptOf H i = ptOf H0 a ∧ orecOf H i = orecOf H0 a
  rect : RectEdges H0 → RectEdges H
  wf : WF H0 → WF H

theorem HInv.of_frame {H H1 : Heap} {rs : List (List Nat)} {y0 : Int} (R : Rings H rs) (sl : SameLinks H H1)
    (rc : H1.recs = H.recs) (oc : orecOf H1 = orecOf H) : HInv H y0 rs.length H1 where
  rings := ⟨rs, R.of_sameLinks sl, rfl⟩
  recs := rc
  size := Nat.le_of_eq sl.2.2.2.symm
  old i _ := by rw [sl.2.2.1, oc]; exact ⟨rfl, rfl⟩
  fresh i h0 hi := by rw [sl.2.2.2] at hi; omega
  rect r0 := r0.of_sameLinks sl
  wf W := W.of_frame sl rc oc

theorem HInv.dup {H0 H : Heap} {y0 : Int} {nr : Nat} (I : HInv H0 y0 nr H) {u : Nat} (hu : OnY H y0 u) {after : Bool}
    {d : Heap × Nat} (h : duplicateOp H u after = .ok d) :
    d.2 = H.ops.size ∧ d.1.ops.size = H.ops.size + 1 ∧ HInv H0 y0 nr d.1 ∧ ∀ i, OnY H y0 i → OnY d.1 y0 i := by
  obtain ⟨rs, R, hlen⟩ := I.rings
  obtain ⟨H1, rs1, e1, R1, l1, pt1, or1, rc1, sz1, re1⟩ := duplicateOp_keeps R hu.lt after
  rw [h] at e1; cases e1
  have hold : ∀ i, i < H.ops.size → ptOf H1 i = ptOf H i ∧ orecOf H1 i = orecOf H i := fun i hi => by
    rw [pt1, or1]; exact ⟨if_neg (Nat.ne_of_lt hi), if_neg (Nat.ne_of_lt hi)⟩
  have honY : ∀ i, OnY H y0 i → OnY H1 y0 i := fun i hi => hi.of_ptOf_eq (hold i hi.lt).1
  -- every node on the line carries the point and `outrec` of an old one
  have hsrc : ∃ a, a < H0.ops.size ∧ ptOf H u = ptOf H0 a ∧ orecOf H u = orecOf H0 a := by
    by_cases hu0 : u < H0.ops.size
    · exact ⟨u, hu0, I.old u hu0⟩
    · exact (I.fresh u (by omega) hu.lt).2
  refine ⟨rfl, sz1, ?_, honY⟩
  exact {
    rings := ⟨rs1, R1, l1.trans hlen⟩
    recs := rc1.trans I.recs
    size := by rw [sz1]; exact Nat.le_succ_of_le I.size
    old := fun i hi => by
      rw [(hold i (Nat.lt_of_lt_of_le hi I.size)).1, (hold i (Nat.lt_of_lt_of_le hi I.size)).2]; exact I.old i hi
    fresh := fun i h0 hi => by
      by_cases c1 : i < H.ops.size
      · refine ⟨honY i (I.fresh i h0 c1).1, ?_⟩
        rw [(hold i c1).1, (hold i c1).2]; exact (I.fresh i h0 c1).2
      · -- the new node: a copy of `u`
        obtain rfl : i = H.ops.size := by rw [sz1] at hi; omega
        have hn : ptOf H1 H.ops.size = ptOf H u ∧ orecOf H1 H.ops.size = orecOf H u := by
          rw [pt1, or1]; exact ⟨if_pos rfl, if_pos rfl⟩
        refine ⟨?_, by rw [hn.1, hn.2]; exact hsrc⟩
        obtain ⟨p, hp, hy⟩ := hu; exact ⟨p, hn.1.trans hp, hy⟩
    rect := fun r0 => re1 (I.rect r0)
    wf := fun W => by
      obtain ⟨H', e, W'⟩ := duplicateOp_wf (I.wf W) hu.lt after
      rw [h] at e; cases e; exact W' }

/-- what holds between the entry of `ConvertHorzSegsToJoins` (`horz_join_list_ = joins0`) and any later point of its nested
loops -/
structure CInv (H0 : Heap) (y0 : Int) (nr : Nat) (joins0 : List HorzJoin) (s : CState) : Prop where
  heap : HInv H0 y0 nr s.H
  made : ∃ m, s.H.ops.size = H0.ops.size + 2 * m ∧ s.joins = joins0 ++ (List.range m).map (newJoin H0.ops.size)
  segs : ∀ hs ∈ s.segs.toList, OnY s.H y0 hs.leftOp

theorem seg_mem {s : CState} {i : Nat} {hs : HorzSeg} (h : s.seg i = .ok hs) : hs ∈ s.segs.toList := by
  unfold CState.seg at h
  cases hh : s.segs[i]? with
  | none => simp [hh] at h
  | some x =>
    simp only [hh, Except.ok.injEq] at h; subst h
    exact List.mem_of_getElem? (by rw [Array.getElem?_toList]; exact hh)

theorem mem_set2 {arr : Array HorzSeg} {i k : Nat} {x y v : HorzSeg}
    (h : v ∈ ((arr.setIfInBounds i x).setIfInBounds k y).toList) : v = x ∨ v = y ∨ v ∈ arr.toList := by
  rw [Array.toList_setIfInBounds] at h
  rcases List.mem_or_eq_of_mem_set h with h | h
  · rw [Array.toList_setIfInBounds] at h
    rcases List.mem_or_eq_of_mem_set h with h | h
    · exact Or.inr (Or.inr h)
    · exact Or.inl h
  · exact Or.inr (Or.inl h)

/-- the body of either branch of the inner loop once the two walks have stopped at `a` and `b`: two `DuplicateOp`s on nodes of
the scanline, the two segments moved to `a` and `b` -/
theorem cinv_two_dups {H0 : Heap} {y0 : Int} {nr : Nat} {joins0 : List HorzJoin} {s : CState} (I : CInv H0 y0 nr joins0 s)
    {i k a b u v : Nat} {hs1 hs2 : HorzSeg} (oa : OnY s.H y0 a) (ob : OnY s.H y0 b) (hu : OnY s.H y0 u) (hv : OnY s.H y0 v)
    {d1 d2 : Heap × Nat} (h1 : duplicateOp s.H u true = .ok d1) (h2 : duplicateOp d1.1 v false = .ok d2) :
    CInv H0 y0 nr joins0
      { H := d2.1, segs := (s.segs.setIfInBounds i { hs1 with leftOp := a }).setIfInBounds k { hs2 with leftOp := b },
        joins := s.joins ++ [⟨d1.2, d2.2⟩] } := by
  obtain ⟨e1, z1, I1, on1⟩ := I.heap.dup hu h1
  obtain ⟨e2, z2, I2, on2⟩ := I1.dup (on1 v hv) h2
  obtain ⟨m, hm, hj⟩ := I.made
  refine ⟨I2, ⟨m + 1, by rw [z2, z1, hm]; omega, ?_⟩, fun hs hhs => on2 _ (on1 _ ?_)⟩
  · rw [hj, List.range_succ, List.map_append, ← List.append_assoc, e1, e2, z1, hm]
    rfl
  · rcases mem_set2 hhs with rfl | rfl | h
    · exact oa
    · exact ob
    · exact I.segs hs h

theorem joinLtr_cinv {H0 : Heap} {y0 : Int} {nr : Nat} {joins0 : List HorzJoin} {s s' : CState} {i k : Nat} {hs1 hs2 : HorzSeg}
    (I : CInv H0 y0 nr joins0 s) (m1 : hs1 ∈ s.segs.toList) (m2 : hs2 ∈ s.segs.toList)
    (h : joinLtr s i k hs1 hs2 = .ok s') : CInv H0 y0 nr joins0 s' := by
  unfold joinLtr at h
  simp only [bind_ok] at h
  obtain ⟨l1, hl1, l2, hl2, a, ha, na, hna, b, hb, d1, hd1, d2, hd2, h⟩ := h
  simp only [pure, Except.pure, Except.ok.injEq] at h; subst h
  have o1 := I.segs hs1 m1
  rw [node_onY o1 hl1] at ha hb
  have oa := slide_onY o1 ha
  have ob := slide_onY (I.segs hs2 m2) hb
  exact cinv_two_dups I oa ob oa ob hd1 hd2

theorem joinRtl_cinv {H0 : Heap} {y0 : Int} {nr : Nat} {joins0 : List HorzJoin} {s s' : CState} {i k : Nat} {hs1 hs2 : HorzSeg}
    (I : CInv H0 y0 nr joins0 s) (m1 : hs1 ∈ s.segs.toList) (m2 : hs2 ∈ s.segs.toList)
    (h : joinRtl s i k hs1 hs2 = .ok s') : CInv H0 y0 nr joins0 s' := by
  unfold joinRtl at h
  simp only [bind_ok] at h
  obtain ⟨l1, hl1, l2, hl2, a, ha, na, hna, b, hb, d1, hd1, d2, hd2, h⟩ := h
  simp only [pure, Except.pure, Except.ok.injEq] at h; subst h
  have o1 := I.segs hs1 m1
  rw [node_onY o1 hl1] at ha hb
  have oa := slide_onY o1 ha
  have ob := slide_onY (I.segs hs2 m2) hb
  exact cinv_two_dups I oa ob ob oa hd1 hd2

theorem convertPair_cinv {H0 : Heap} {y0 : Int} {nr : Nat} {joins0 : List HorzJoin} {s s' : CState} {i k : Nat}
    (I : CInv H0 y0 nr joins0 s) (h : convertPair s i k = .ok s') : CInv H0 y0 nr joins0 s' := by
  unfold convertPair at h
  cases h1 : s.seg i with
  | error e => simp [h1] at h
  | ok hs1 =>
    cases h2 : s.seg k with
    | error e => simp [h1, h2] at h
    | ok hs2 =>
      simp only [h1, h2] at h
      cases hp : pairOverlaps s.H hs1 hs2 with
      | error e => simp [hp] at h
      | ok ov =>
        simp only [hp] at h
        cases ov with
        | false => simp only [Except.ok.injEq] at h; subst h; exact I
        | true =>
          simp only at h
          split at h
          · exact joinLtr_cinv I (seg_mem h1) (seg_mem h2) h
          · exact joinRtl_cinv I (seg_mem h1) (seg_mem h2) h

theorem convertInner_cinv {H0 : Heap} {y0 : Int} {nr : Nat} {joins0 : List HorzJoin} {i : Nat} :
    ∀ (ks : List Nat) (s s' : CState), CInv H0 y0 nr joins0 s → convertInner s i ks = .ok s' → CInv H0 y0 nr joins0 s'
  | [], s, s', I, h => by simp only [convertInner, Except.ok.injEq] at h; subst h; exact I
  | k :: ks, s, s', I, h => by
    unfold convertInner at h
    cases h1 : convertPair s i k with
    | error e => simp [h1] at h
    | ok s1 => simp only [h1] at h; exact convertInner_cinv ks s1 s' (convertPair_cinv I h1) h

theorem convertOuter_cinv {H0 : Heap} {y0 : Int} {nr : Nat} {joins0 : List HorzJoin} {j : Nat} :
    ∀ (is : List Nat) (s s' : CState), CInv H0 y0 nr joins0 s → convertOuter j s is = .ok s' → CInv H0 y0 nr joins0 s'
  | [], s, s', I, h => by simp only [convertOuter, Except.ok.injEq] at h; subst h; exact I
  | i :: is, s, s', I, h => by
    unfold convertOuter at h
    cases h1 : convertInner s i ((List.range j).drop (i + 1)) with
    | error e => simp [h1] at h
    | ok s1 => simp only [h1] at h; exact convertOuter_cinv is s1 s' (convertInner_cinv _ _ _ I h1) h

theorem updateAll_frame {y0 : Int} : ∀ (segs : List HorzSeg) (H H1 : Heap) (segs1 : List HorzSeg) (j : Nat),
    (∀ hs ∈ segs, OnY H y0 hs.leftOp) → updateAll H segs = .ok (H1, segs1, j) →
    SameLinks H H1 ∧ H1.recs = H.recs ∧ orecOf H1 = orecOf H ∧ (∀ hs ∈ segs1, OnY H1 y0 hs.leftOp) ∧ segs1.length = segs.length
  | [], H, H1, segs1, j, _, h => by
    simp only [updateAll, Except.ok.injEq, Prod.mk.injEq] at h
    obtain ⟨rfl, rfl, rfl⟩ := h
    exact ⟨SameLinks.refl _, rfl, rfl, by simp, rfl⟩
  | hs :: rest, H, H1, segs1, j, hl, h => by
    unfold updateAll at h
    cases hu : updateHorzSegment H hs with
    | error e => simp [hu] at h
    | ok r =>
      obtain ⟨Ha, hsa, b⟩ := r
      simp only [hu] at h
      cases hr : updateAll Ha rest with
      | error e => simp [hr] at h
      | ok r2 =>
        obtain ⟨Hb, restb, jb⟩ := r2
        simp only [hr, Except.ok.injEq, Prod.mk.injEq] at h
        obtain ⟨rfl, rfl, rfl⟩ := h
        obtain ⟨s1, r1, o1, l1, _, _⟩ := updateHorzSegment_frame (hl hs (by simp)) hu
        have hl' : ∀ x ∈ rest, OnY Ha y0 x.leftOp := fun x hx => (hl x (List.mem_cons_of_mem _ hx)).of_ptOf_eq (by rw [s1.2.2.1])
        obtain ⟨s2, r2, o2, l2, len2⟩ := updateAll_frame rest Ha Hb restb jb hl' hr
        refine ⟨s1.trans s2, r2.trans r1, o2.trans o1, ?_, by simp [len2]⟩
        intro x hx
        rcases List.mem_cons.1 hx with rfl | hx
        · exact l1.of_ptOf_eq (by rw [s2.2.2.1])
        · exact l2 x hx

theorem keyed_map {H : Heap} : ∀ (segs : List HorzSeg) (ks : List (HorzSeg × Int)), keyed H segs = .ok ks → ks.map (·.1) = segs
  | [], ks, h => by simp only [keyed, Except.ok.injEq] at h; subst h; rfl
  | hs :: rest, ks, h => by
    unfold keyed at h
    cases hn : H.node hs.leftOp with
    | error e => simp [hn] at h
    | ok n =>
      cases hk : keyed H rest with
      | error e => simp [hn, hk] at h
      | ok ks' =>
        simp only [hn, hk, Except.ok.injEq] at h; subst h
        simp [keyed_map rest ks' hk]

theorem sortSegs_perm {H : Heap} {segs sorted : List HorzSeg} (h : sortSegs H segs = .ok sorted) : sorted.Perm segs := by
  unfold sortSegs at h
  cases hk : keyed H segs with
  | error e => simp [hk] at h
  | ok ks =>
    simp only [hk, Except.ok.injEq] at h; subst h
    have := (List.mergeSort_perm ks segLe).map (·.1)
    rw [keyed_map segs ks hk] at this; exact this

theorem convertHorzSegsToJoins_cinv {H H' : Heap} {rs : List (List Nat)} {segs segs' : List HorzSeg} {joins joins' : List HorzJoin}
    {y0 : Int} (R : Rings H rs) (hline : ∀ hs ∈ segs, OnY H y0 hs.leftOp)
    (h : convertHorzSegsToJoins H segs joins = .ok (H', segs', joins')) :
    CInv H y0 rs.length joins { H := H', segs := segs'.toArray, joins := joins' } := by
  unfold convertHorzSegsToJoins at h
  cases hu : updateAll H segs with
  | error e => simp [hu] at h
  | ok r =>
    obtain ⟨H1, segs1, j⟩ := r
    simp only [hu] at h
    obtain ⟨sl, rc, oc, l1, _⟩ := updateAll_frame segs H H1 segs1 j hline hu
    have base : ∀ sg : List HorzSeg, (∀ x ∈ sg, OnY H1 y0 x.leftOp) →
        CInv H y0 rs.length joins { H := H1, segs := sg.toArray, joins := joins } := fun sg hsg =>
      { heap := .of_frame R sl rc oc, made := ⟨0, by simp [sl.2.2.2], by simp⟩,
        segs := fun hs hhs => hsg hs (by simpa using hhs) }
    split at h
    · simp only [Except.ok.injEq, Prod.mk.injEq] at h
      obtain ⟨rfl, rfl, rfl⟩ := h
      exact base _ l1
    · cases hs : sortSegs H1 segs1 with
      | error e => simp [hs] at h
      | ok sorted =>
        simp only [hs] at h
        cases ho : convertOuter j { H := H1, segs := sorted.toArray, joins := joins } (List.range (j - 1)) with
        | error e => simp [ho] at h
        | ok s =>
          simp only [ho, Except.ok.injEq, Prod.mk.injEq] at h
          obtain ⟨rfl, rfl, rfl⟩ := h
          exact convertOuter_cinv _ _ _ (base sorted fun x hx => l1 x ((sortSegs_perm hs).mem_iff.1 hx)) ho

theorem markSegment_total {H : Heap} {hs : HorzSeg} (ok : Bool) (h : hs.leftOp < H.ops.size) : ∃ res, markSegment H hs ok = .ok res := by
  obtain ⟨nL, hnL⟩ := node_of_lt h
  unfold markSegment
  rw [node_ok.2 hnL]
  simp only
  split
  · obtain ⟨H1, h1⟩ := updNode_of_lt H (fun x => { x with horz := true }) h
    rw [h1]; exact ⟨_, rfl⟩
  · exact ⟨_, rfl⟩

end Clipper.Model.HorzJoins

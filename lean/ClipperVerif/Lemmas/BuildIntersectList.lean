import ClipperVerif.Model.BuildIntersectList
import ClipperVerif.Lemmas.StableSort
import ClipperVerif.Lemmas.Inversions
/-!
# Lemmas on the `BuildIntersectList` model: the nodes recorded are the inversions, the SEL ends stably sorted

Invariant of the bottom-up merge sort (`Model/BuildIntersectList.lean`): every run is sorted by `curr_x`, and

    nodes recorded so far  ++  inversions (concatenation of the runs)   ~   inversions (AEL)

(`~` = permutation, i.e. equality of multisets).  Merging two sorted runs `L`, `R` records exactly `cross L R` (the pairs
`(l, r)` with `r.curr_x < l.curr_x`) and removes exactly these inversions from the concatenation
(`inversions_sort_prefix`, `inversions_sort_suffix`).  Core Lean only.
-/
namespace Clipper.Lemmas.BuildIntersectList
open Clipper.Model.BuildIntersectList Clipper.Lemmas.StableSort Clipper.Lemmas.Inversions

/-- sorted by `curr_x` (non-strictly) -/
def SortedX (l : List Edge) : Prop := l.Pairwise (fun a b => a.2 ≤ b.2)

theorem leX_trans (a b c : Edge) : leX a b = true → leX b c = true → leX a c = true := by
  simp only [leX, decide_eq_true_eq]; omega

theorem leX_total (a b : Edge) : (leX a b || leX b a) = true := by
  simp only [leX, Bool.or_eq_true, decide_eq_true_eq]; omega

theorem sortedX_iff (l : List Edge) : SortedX l ↔ l.Pairwise (fun a b => leX a b = true) := by
  unfold SortedX
  simp only [leX, decide_eq_true_eq]

/-- the inversions of one edge `a` against the edges `R` to its right -/
def row (a : Edge) (R : List Edge) : List Node := (R.filter (fun b => b.2 < a.2)).map (fun b => (a.1, b.1))

/-- the inversions between a block `L` and a block `R` to its right -/
def cross : List Edge → List Edge → List Node
  | [], _ => []
  | a :: L, R => row a R ++ cross L R

/-- the inversions of one edge `r` against the edges `L` to its left -/
def col (L : List Edge) (r : Edge) : List Node := (L.filter (fun a => r.2 < a.2)).map (fun a => (a.1, r.1))

theorem inversions_cons (a : Edge) (l : List Edge) : inversions (a :: l) = row a l ++ inversions l := rfl

theorem row_append (a : Edge) (X Y : List Edge) : row a (X ++ Y) = row a X ++ row a Y := by
  simp [row]

theorem row_perm (a : Edge) {R R' : List Edge} (h : R.Perm R') : (row a R).Perm (row a R') :=
  (h.filter _).map _

theorem cross_nil_right (L : List Edge) : cross L [] = [] := by
  induction L with
  | nil => rfl
  | cons a L ih => simp [cross, row, ih]

theorem cross_append_left (X Y R : List Edge) : cross (X ++ Y) R = cross X R ++ cross Y R := by
  induction X with
  | nil => rfl
  | cons a X ih => simp [cross, ih]

theorem cross_perm_right (L : List Edge) {R R' : List Edge} (h : R.Perm R') : (cross L R).Perm (cross L R') := by
  induction L with
  | nil => exact List.Perm.refl _
  | cons a L ih => exact (row_perm a h).append ih

theorem cross_perm_left {L L' : List Edge} (R : List Edge) (h : L.Perm L') : (cross L R).Perm (cross L' R) := by
  induction h with
  | nil => exact List.Perm.refl _
  | cons x _ ih => exact (List.Perm.refl _).append ih
  | swap x y l =>
    simp only [cross]
    rw [← List.append_assoc, ← List.append_assoc]
    exact List.Perm.append_right _ List.perm_append_comm
  | trans _ _ ih1 ih2 => exact ih1.trans ih2

theorem cross_append_right (L X Y : List Edge) : (cross L (X ++ Y)).Perm (cross L X ++ cross L Y) := by
  induction L with
  | nil => exact List.Perm.refl _
  | cons a L ih =>
    simp only [cross, row_append, List.append_assoc]
    exact ((ih.append_left _).append_left _).trans ((List.perm_append_comm_assoc _ _ _).append_left _)

theorem cross_singleton (L : List Edge) (r : Edge) : cross L [r] = col L r := by
  induction L with
  | nil => rfl
  | cons a L ih =>
    rw [cross, ih, col, col, row, List.filter_cons, List.filter_cons, List.filter_nil]
    by_cases h : r.2 < a.2 <;> simp only [h, decide_true, decide_false, if_true, Bool.false_eq_true, if_false] <;> rfl

/-- peeling the first edge of the right block -/
theorem cross_cons_right (L : List Edge) (r : Edge) (R : List Edge) :
    (cross L (r :: R)).Perm (col L r ++ cross L R) :=
  cross_singleton L r ▸ cross_append_right L [r] R

/-- **splitting the inversions of a concatenation** -/
theorem inversions_append (X Y : List Edge) :
    (inversions (X ++ Y)).Perm (inversions X ++ (cross X Y ++ inversions Y)) := by
  induction X with
  | nil => exact List.Perm.refl _
  | cons a X ih =>
    simp only [List.cons_append, inversions_cons, cross, row_append, List.append_assoc]
    exact ((ih.append_left _).append_left _).trans ((List.perm_append_comm_assoc _ _ _).append_left _)

theorem row_eq_nil_of_le (a : Edge) (R : List Edge) (h : ∀ b ∈ R, a.2 ≤ b.2) : row a R = [] := by
  rw [row, List.map_eq_nil_iff, List.filter_eq_nil_iff]
  exact fun b hb hlt => Int.not_lt.2 (h b hb) (of_decide_eq_true hlt)

/-- the inversions by `curr_x`, named by identity -/
theorem inversions_eq (l : List Edge) : inversions l = invBy (fun b a => decide (b.2 < a.2)) (·.1) l := by
  induction l with
  | nil => rfl
  | cons a l ih => rw [inversions, invBy, ih]

/-- no inversion iff sorted -/
theorem inversions_eq_nil_iff (l : List Edge) : inversions l = [] ↔ SortedX l := by
  rw [inversions_eq, invBy_eq_nil_iff]
  simp only [SortedX, decide_eq_false_iff_not, Int.not_lt]

/-- the identities of a list of edges -/
def ids (l : List Edge) : List Nat := l.map (·.1)

/-- `(x, y)` is listed iff some edge `a` with identity `x` occurs before some edge `b` with identity `y` and
`b.curr_x < a.curr_x` -/
theorem mem_inversions (l : List Edge) (n : Node) :
    n ∈ inversions l ↔ ∃ a b, [a, b].Sublist l ∧ b.2 < a.2 ∧ n = (a.1, b.1) := by
  simp only [inversions_eq, mem_invBy, decide_eq_true_eq]

theorem ids_pair_sublist {a b : Edge} {l : List Edge} (h : [a, b].Sublist l) : [a.1, b.1].Sublist (ids l) :=
  h.map (fun e : Edge => e.1)

/-- with distinct identities no pair is listed twice -/
theorem inversions_nodup (l : List Edge) (h : (ids l).Nodup) : (inversions l).Nodup :=
  inversions_eq l ▸ invBy_nodup _ _ l h

/-- two sorted blocks side by side: the inversions are those between the blocks -/
theorem inversions_sorted_append (a b : List Edge) (ha : SortedX a) (hb : SortedX b) : (inversions (a ++ b)).Perm (cross a b) := by
  have := inversions_append a b
  rwa [(inversions_eq_nil_iff a).2 ha, (inversions_eq_nil_iff b).2 hb, List.nil_append, List.append_nil] at this

/-- sorting a prefix removes exactly the inversions inside it -/
theorem inversions_sort_prefix {M X : List Edge} (F : List Edge) (hM : SortedX M) (hp : M.Perm X) :
    (inversions (X ++ F)).Perm (inversions X ++ inversions (M ++ F)) := by
  have h := inversions_append M F
  rw [(inversions_eq_nil_iff M).2 hM, List.nil_append] at h
  exact (inversions_append X F).trans ((h.trans ((cross_perm_left F hp).append_right _)).symm.append_left _)

/-- … and what is recorded while a suffix is rearranged accounts for the inversions lost there -/
theorem inversions_sort_suffix (M : List Edge) {F F' : List Edge} {ns : List Node} (hp : F'.Perm F)
    (h : (ns ++ inversions F').Perm (inversions F)) : (ns ++ inversions (M ++ F')).Perm (inversions (M ++ F)) := by
  -- `ns` moves past the inversions of `M` and those between `M` and the suffix, which the rearrangement does not change
  refine ((inversions_append M F').append_left ns).trans (.trans ?_ (inversions_append M F).symm)
  refine (List.perm_append_comm_assoc _ _ _).trans (.append_left _ ?_)
  exact (List.perm_append_comm_assoc _ _ _).trans ((cross_perm_right M hp).append h)

/-- every edge of `L` is to the right of `r`: the whole block is `r`'s column -/
theorem col_all (L : List Edge) (r : Edge) (h : ∀ a ∈ L, r.2 < a.2) : col L r = L.map (fun a => (a.1, r.1)) := by
  unfold col
  rw [List.filter_eq_self.mpr]
  intro a ha
  simpa using h a ha

theorem walkNodes_perm (L : List Edge) (r : Edge) : (walkNodes L r).Perm (L.map (fun a => (a.1, r.1))) :=
  (List.reverse_perm L).map _

/-- the merged run is core's `List.merge` with "take the left edge unless the right one is strictly smaller" -/
theorem mergeRuns_eq_merge (L R : List Edge) : (mergeRuns L R).1 = List.merge L R leX := by
  fun_induction mergeRuns L R with
  | case1 R => simp
  | case2 l L => simp
  | case3 l L r R h o ih =>
    have hle : leX l r = false := by simp only [leX, decide_eq_false_iff_not]; omega
    rw [List.merge]
    simp only [hle, Bool.false_eq_true, if_false]
    exact congrArg _ ih
  | case4 l L r R h o ih =>
    have hle : leX l r = true := by simp only [leX, decide_eq_true_eq]; omega
    rw [List.merge]
    simp only [hle, if_true]
    exact congrArg _ ih

theorem mergeRuns_sorted (L R : List Edge) (hL : SortedX L) (hR : SortedX R) : SortedX (mergeRuns L R).1 := by
  rw [mergeRuns_eq_merge, sortedX_iff]
  exact List.pairwise_merge leX_trans leX_total L R ((sortedX_iff L).mp hL) ((sortedX_iff R).mp hR)

theorem mergeRuns_perm (L R : List Edge) : (mergeRuns L R).1.Perm (L ++ R) := by
  rw [mergeRuns_eq_merge]; exact List.merge_perm_append leX

/-- **merging two sorted runs records exactly the inversions between them** -/
theorem mergeRuns_nodes (L R : List Edge) (hL : SortedX L) (hR : SortedX R) : (mergeRuns L R).2.Perm (cross L R) := by
  fun_induction mergeRuns L R with
  | case1 R => exact List.Perm.refl _
  | case2 l L => rw [cross_nil_right]
  | case3 l L r R h o ih =>
    have hR' := List.pairwise_cons.mp hR
    have hL' := List.pairwise_cons.mp hL
    -- `r` is strictly below `l`, hence below the whole rest of the left run: the walk records `r`'s entire column
    have hall : ∀ a ∈ l :: L, r.2 < a.2 := by
      intro a ha
      rcases List.mem_cons.mp ha with rfl | ha
      · exact h
      · have := hL'.1 a ha; omega
    have h1 := ih hL hR'.2
    have h2 := (cross_cons_right (l :: L) r R).symm
    rw [col_all _ _ hall] at h2
    exact ((walkNodes_perm (l :: L) r).append h1).trans h2
  | case4 l L r R h o ih =>
    have hR' := List.pairwise_cons.mp hR
    have hL' := List.pairwise_cons.mp hL
    -- `l` is not above `r`, hence not above anything left of the right run: it has no inversion there, and none is recorded
    have hrow : row l (r :: R) = [] := by
      apply row_eq_nil_of_le
      intro b hb
      rcases List.mem_cons.mp hb with rfl | hb
      · omega
      · have := hR'.1 b hb; omega
    have h1 := ih hL'.2 hR
    simp only [cross, hrow, List.nil_append]
    exact h1

/-- **stability of the merge**: edges with the same `curr_x` keep their order, those of the left run first -/
theorem mergeRuns_cls (c : Edge) (L R : List Edge) (hL : SortedX L) :
    cls leX c (mergeRuns L R).1 = cls leX c L ++ cls leX c R := by
  rw [mergeRuns_eq_merge]
  exact cls_merge leX_trans c L R ((sortedX_iff L).1 hL)

/-- every run is sorted -/
def AllSorted (runs : List (List Edge)) : Prop := ∀ r ∈ runs, SortedX r

/-- what a pass keeps and what it records -/
structure PassSpec (runs runs' : List (List Edge)) (nodes : List Node) : Prop where
  sorted : AllSorted runs'
  perm : runs'.flatten.Perm runs.flatten
  stable : ∀ c, cls leX c runs'.flatten = cls leX c runs.flatten
  nodes : (nodes ++ inversions runs'.flatten).Perm (inversions runs.flatten)

theorem mergePass_spec : ∀ (runs : List (List Edge)), AllSorted runs →
    PassSpec runs (mergePass runs).1 (mergePass runs).2
  | [], h => by
    simp only [mergePass]
    exact ⟨h, List.Perm.refl _, fun _ => rfl, List.Perm.refl _⟩
  | [a], h => by
    simp only [mergePass]
    exact ⟨h, List.Perm.refl _, fun _ => rfl, List.Perm.refl _⟩
  | a :: b :: rest, h => by
    have ha : SortedX a := h a (by simp)
    have hb : SortedX b := h b (by simp)
    have hrest : AllSorted rest := fun r hr => h r (by simp [hr])
    have ih := mergePass_spec rest hrest
    have hm_sorted := mergeRuns_sorted a b ha hb
    have hm_perm := mergeRuns_perm a b
    simp only [mergePass]
    refine ⟨?_, ?_, ?_, ?_⟩
    · intro r hr
      rcases List.mem_cons.mp hr with rfl | hr
      · exact hm_sorted
      · exact ih.sorted r hr
    · rw [List.flatten_cons, List.flatten_cons, List.flatten_cons, ← List.append_assoc]
      exact hm_perm.append ih.perm
    · intro c
      simp only [List.flatten_cons, cls_append, mergeRuns_cls c a b ha, ih.stable c, List.append_assoc]
    · -- the nodes of the first merge are the inversions of `a ++ b`, those of the rest of the pass come with the suffix
      rw [List.flatten_cons, List.flatten_cons, List.flatten_cons, List.append_assoc, ← List.append_assoc a b]
      exact (((mergeRuns_nodes a b ha hb).trans (inversions_sorted_append a b ha hb).symm).append
        (inversions_sort_suffix _ ih.perm ih.nodes)).trans (inversions_sort_prefix _ hm_sorted hm_perm).symm

theorem mergeLoop_spec (runs : List (List Edge)) (acc : List Node) (h : AllSorted runs) :
    SortedX (mergeLoop runs acc).1 ∧ (mergeLoop runs acc).1.Perm runs.flatten ∧
    (∀ c, cls leX c (mergeLoop runs acc).1 = cls leX c runs.flatten) ∧
    (mergeLoop runs acc).2.Perm (acc ++ inversions runs.flatten) := by
  fun_induction mergeLoop runs acc with
  | case1 acc => exact ⟨List.Pairwise.nil, List.Perm.refl _, fun _ => rfl, by simp [inversions]⟩
  | case2 acc r =>
    have hr : SortedX r := h r (by simp)
    refine ⟨hr, by simp, fun _ => by simp, ?_⟩
    simp [(inversions_eq_nil_iff r).2 hr]
  | case3 acc a b rest o ih =>
    have hp := mergePass_spec (a :: b :: rest) h
    rw [show o = mergePass (a :: b :: rest) from rfl] at ih ⊢
    obtain ⟨h1, h2, h3, h4⟩ := ih hp.sorted
    refine ⟨h1, h2.trans hp.perm, fun c => (h3 c).trans (hp.stable c), ?_⟩
    exact h4.trans (by rw [List.append_assoc]; exact hp.nodes.append_left acc)

theorem flatten_map_singleton (l : List Edge) : (l.map (fun e => [e])).flatten = l := by
  induction l with
  | nil => rfl
  | cons a l ih => simp [ih]

/-- the whole function, early returns included -/
theorem build_spec (ael : List Edge) :
    SortedX (buildIntersectList ael).sel ∧ (buildIntersectList ael).sel.Perm ael ∧
    (∀ c, cls leX c (buildIntersectList ael).sel = cls leX c ael) ∧
    (buildIntersectList ael).nodes.Perm (inversions ael) := by
  match ael with
  | [] => exact ⟨List.Pairwise.nil, List.Perm.refl _, fun _ => rfl, List.Perm.refl _⟩
  | [e] => exact ⟨List.pairwise_singleton _ _, List.Perm.refl _, fun _ => rfl, by simp [buildIntersectList, inversions]⟩
  | a :: b :: t =>
    -- the initial runs, one edge each, are sorted
    have h := mergeLoop_spec ((a :: b :: t).map (fun e => [e])) [] (fun r hr => by
      obtain ⟨e, _, rfl⟩ := List.mem_map.mp hr
      exact List.pairwise_singleton _ _)
    rw [flatten_map_singleton] at h
    exact h

theorem sel_eq_mergeSort (ael : List Edge) : (buildIntersectList ael).sel = ael.mergeSort leX :=
  eq_mergeSort_of_sorted_of_cls leX_trans leX_total _ ael ((sortedX_iff _).mp (build_spec ael).1) (build_spec ael).2.2.1

end Clipper.Lemmas.BuildIntersectList

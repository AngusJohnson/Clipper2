/-
Integer plane vectors written out in components, `u = (ux, uy)`: cross product `u × v = ux * vy - uy * vx`, dot product
`u · v = ux * vx + uy * vy`.  The identities behind the collinearity and direction tests of the clean-up of output
rings (`Lemmas/CleanUp.lean`) and of `TrimCollinear` (`Lemmas/TrimCorners.lean`).  Core Lean only.
-/
import ClipperVerif.Spec.Basic
namespace Clipper.Lemmas.PlaneVec
open Clipper

theorem mul_self_nonneg (x : Int) : 0 ≤ x * x := by
  rw [← Int.natAbs_mul_self]; omega

theorem sq_add_sq_eq_zero {x y : Int} (h : x * x + y * y = 0) : x = 0 ∧ y = 0 := by
  have hx := mul_self_nonneg x
  have hy := mul_self_nonneg y
  exact ⟨(Int.mul_eq_zero.mp (show x * x = 0 by omega)).elim id id,
    (Int.mul_eq_zero.mp (show y * y = 0 by omega)).elim id id⟩

theorem sq_add_sq_pos {x y : Int} (h : x ≠ 0 ∨ y ≠ 0) : 0 < x * x + y * y := by
  have hx := mul_self_nonneg x
  have hy := mul_self_nonneg y
  have : x * x + y * y ≠ 0 := fun e => h.elim (fun h => h (sq_add_sq_eq_zero e).1) (fun h => h (sq_add_sq_eq_zero e).2)
  omega

/-- two points whose difference vector vanishes are equal -/
theorem pt_eq_of_sub_eq_zero {a b : Pt} (hx : b.x - a.x = 0) (hy : b.y - a.y = 0) : b = a := by
  cases a; cases b
  simp only [Pt.mk.injEq] at *
  omega

theorem sub_ne_zero_of_ne {a b : Pt} (h : a ≠ b) : b.x - a.x ≠ 0 ∨ b.y - a.y ≠ 0 := by
  by_cases hx : b.x - a.x = 0
  · exact Or.inr fun hy => h (pt_eq_of_sub_eq_zero hx hy).symm
  · exact Or.inl hx

/-- Lagrange: `|u|² |v|² = (u · v)² + (u × v)²`; vectors that are both parallel and orthogonal: one of them is zero -/
theorem zero_of_cross_dot_zero {ux uy vx vy : Int} (hc : ux * vy - uy * vx = 0) (hd : ux * vx + uy * vy = 0) :
    (ux = 0 ∧ uy = 0) ∨ (vx = 0 ∧ vy = 0) := by
  have e : (ux * ux + uy * uy) * (vx * vx + vy * vy)
      = (ux * vx + uy * vy) * (ux * vx + uy * vy) + (ux * vy - uy * vx) * (ux * vy - uy * vx) := by grind
  rw [hc, hd] at e
  exact (Int.mul_eq_zero.mp e).imp sq_add_sq_eq_zero sq_add_sq_eq_zero

/-- `u × v = 0` and `u · v > 0` (non-zero vectors pointing the same way) is symmetric in `u`, `v` -/
theorem same_dir_symm {ux uy vx vy : Int} (hc : ux * vy - uy * vx = 0) (hd : ux * vx + uy * vy > 0) :
    vx * uy - vy * ux = 0 ∧ vx * ux + vy * uy > 0 := by
  rw [Int.mul_comm vx uy, Int.mul_comm vy ux, Int.mul_comm vx ux, Int.mul_comm vy uy]
  omega

/-- If `u`, `v` point the same way, a vector parallel to `u` is parallel to `v`:
`(w × v) u = (w × u) v + (u × v) w`, and `u ≠ 0`. -/
theorem cross_transport {ux uy vx vy wx wy : Int} (hc : ux * vy - uy * vx = 0) (hd : ux * vx + uy * vy > 0)
    (hw : wx * uy - wy * ux = 0) : wx * vy - wy * vx = 0 := by
  have e1 : (wx * vy - wy * vx) * ux = (wx * uy - wy * ux) * vx + (ux * vy - uy * vx) * wx := by grind
  have e2 : (wx * vy - wy * vx) * uy = (wx * uy - wy * ux) * vy + (ux * vy - uy * vx) * wy := by grind
  rw [hc, hw, Int.zero_mul, Int.zero_mul, Int.add_zero] at e1 e2
  rcases Int.mul_eq_zero.mp e1 with h | h
  · exact h
  · rcases Int.mul_eq_zero.mp e2 with h' | h'
    · exact h'
    · subst h h'; simp at hd

/-- pointing the same way is transitive: `(u · v)(v · w) = |v|² (u · w) + (u × v)(v × w)` -/
theorem dot_pos_trans {ux uy vx vy wx wy : Int} (hc : ux * vy - uy * vx = 0) (hd : ux * vx + uy * vy > 0)
    (hd' : vx * wx + vy * wy > 0) : ux * wx + uy * wy > 0 := by
  have e : (ux * vx + uy * vy) * (vx * wx + vy * wy)
      = (vx * vx + vy * vy) * (ux * wx + uy * wy) + (ux * vy - uy * vx) * (vx * wy - vy * wx) := by grind
  rw [hc, Int.zero_mul, Int.add_zero] at e
  have hp := Int.mul_pos hd hd'
  rw [e] at hp
  have hv : 0 < vx * vx + vy * vy :=
    sq_add_sq_pos (Decidable.byContradiction fun h => by
      have : vx = 0 ∧ vy = 0 := by omega
      rw [this.1, this.2] at hd'; simp at hd')
  exact Int.pos_of_mul_pos_right hp hv

/-- `u` and `u + v` point the same way when `u` and `v` do -/
theorem same_dir_add {ux uy vx vy : Int} (hc : ux * vy - uy * vx = 0) (hd : ux * vx + uy * vy > 0) :
    (ux + vx) * uy - (uy + vy) * ux = 0 ∧ (ux + vx) * ux + (uy + vy) * uy > 0 := by
  have hx := mul_self_nonneg ux
  have hy := mul_self_nonneg uy
  rw [Int.add_mul, Int.add_mul, Int.add_mul, Int.add_mul, Int.mul_comm vx uy, Int.mul_comm vy ux,
    Int.mul_comm vx ux, Int.mul_comm vy uy, Int.mul_comm uy ux]
  omega

/-- for parallel `u`, `v`: `|u|² v = (u · v) u` -/
theorem parallel_dot {ux uy vx vy : Int} (h : ux * vy - uy * vx = 0) :
    (ux * ux + uy * uy) * vx = (ux * vx + uy * vy) * ux ∧ (ux * ux + uy * uy) * vy = (ux * vx + uy * vy) * uy := by
  constructor <;> grind

end Clipper.Lemmas.PlaneVec

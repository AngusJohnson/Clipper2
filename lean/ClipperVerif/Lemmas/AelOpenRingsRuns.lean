/-
Runs of the open-path assembly model: the ghost run id of an end of an open record follows one `Active` through the AEL
(for `Props/C05Rings.lean`, theorem `open_run_follows_active`).  Reuses `Follows`, `holderRun`, `trackPos` of `Lemmas/AelRingsRuns.lean`.
-/
import ClipperVerif.Lemmas.AelOpenRings
namespace Clipper.Model

variable {cfg : Cfg} {x x' : OX} {op : OOp} {i io : Nat} {p pt : Pt} {lm : Option (Option Nat)} {l : List SEdge} {eo ec : SEdge} {o oo oo' : Out}
  {om om' : List EndMarks} {k' : Option Rec}

/-- where the `Active` at position `p` of the AEL is after the event -/
def OOp.track (op : OOp) : Nat → Option Nat := trackPos op.erase

theorem follows_rings (n0 : Nat) (l : List SEdge) (rings rings' : List Ring) (h : ∀ x ∈ l, ∀ k, x.orec = some k → runOf rings' k = runOf rings k) :
    Follows n0 some l rings l rings' := by
  intro p' ρ hh
  obtain ⟨x, k, hx, hk, hr⟩ := holderRun_some _ _ _ _ hh
  right
  refine ⟨p', rfl, ?_⟩
  rw [holderRun_of_get _ _ p' x k hx hk, ← h x (mem_of_get _ _ _ hx) k hk]; exact hr

/-- `SwapPositionsInAEL`: each of the two edges keeps the run it held, or holds a new one -/
theorem follows_swap (n0 : Nat) (pre rest : List SEdge) (a b a' b' : SEdge) (rings rings' : List Ring)
    (hctx : ∀ z ∈ pre ++ rest, ∀ k, z.orec = some k → runOf rings' k = runOf rings k)
    (ha : ∀ k ρ, a'.orec = some k → runOf rings' k = some ρ → n0 ≤ ρ ∨ (a.orec = some k ∧ runOf rings k = some ρ))
    (hb : ∀ k ρ, b'.orec = some k → runOf rings' k = some ρ → n0 ≤ ρ ∨ (b.orec = some k ∧ runOf rings k = some ρ)) :
    Follows n0 (swapAt pre.length) (pre ++ a :: b :: rest) rings (pre ++ b' :: a' :: rest) rings' := by
  have := follows_window n0 (swapAt pre.length) pre rest a b b' a' id rings rings' (swapAt_other _) (fun z hz k hk => ⟨k, hk, hctx z hz k hk⟩)
    (fun k ρ hk hr => (hb k ρ hk hr).imp_right (fun h => ⟨pre.length + 1, by simp [swapAt], by rw [holderRun_window_b pre rest a b rings k h.1]; exact h.2⟩))
    (fun k ρ hk hr => (ha k ρ hk hr).imp_right (fun h => ⟨pre.length, by simp [swapAt], by rw [holderRun_window_a pre rest a b rings k h.1]; exact h.2⟩))
  simp only [List.map_id] at this
  exact this

theorem runOf_newRec_held (h : RecInv l o om) (pt : Pt) :
    ∀ z ∈ l, ∀ k, z.orec = some k → runOf (newRec pt o).rings k = runOf o.rings k :=
  fun z hz k hk => runOf_newRec_old pt o k (h.held_lt (holder_cnt l z k hz hk))

theorem runs_toggle (ht : Toggle cfg l io eo ec pt lm oo om k' oo' om') (h : RecInv l oo om) :
    (∀ x ∈ l, ∀ k, x.orec = some k → runOf oo'.rings k = runOf oo.rings k) ∧
    (∀ k ρ, k' = some k → runOf oo'.rings k = some ρ → oo.nrun ≤ ρ ∨ (eo.orec = some k ∧ runOf oo.rings k = some ρ)) := by
  cases ht with
  | idle => exact ⟨fun _ _ _ _ => rfl, fun k ρ h1 h2 => Or.inr ⟨h1, h2⟩⟩
  | stop => exact ⟨fun _ _ k _ => runOf_addOutPt _ _ _ _ k, fun k ρ h1 _ => by cases h1⟩
  | start => exact ⟨runOf_newRec_held h pt, fun k ρ h1 h2 => by cases h1; exact Or.inl (runOf_fresh_of_new pt oo _ ρ rfl h2)⟩
  | @rejoin j e3 rr _ _ _ he3 _ hrr hfr hfree =>
    have hc0 := h.free (h.live (rr.id, !isFrontDx eo.e.dx) (by rw [← hfr]; exact holder_cnt l e3 rr (mem_of_get _ _ _ he3) hrr)) hfree
    refine ⟨fun x hx k hk => runOf_handOver_other _ _ _ k ?_, fun k ρ h1 h2 => ?_⟩
    · rintro ⟨e1, e2⟩
      have := holder_cnt l x k hx hk
      rw [e1, e2, hc0] at this; cases this
    · cases h1
      rw [runOf_handOver_self _ _ _ ρ h2]; exact Or.inl (Nat.le_refl _)

theorem follows_cross (hs : Cross cfg p lm x i x') (h : XInv x) : Follows x.oo.nrun (swapAt i) x.ol x.oo.rings x'.ol x'.oo.rings := by
  cases hs with
  | same => exact follows_swap _ _ _ _ _ _ _ _ _ (fun _ _ _ _ => rfl) (fun _ _ hk hr => Or.inr ⟨hk, hr⟩) (fun _ _ hk hr => Or.inr ⟨hk, hr⟩)
  | @left pre rest a b _ _ _ _ _ _ _ _ ht =>
    obtain ⟨r1, r2⟩ := runs_toggle ht h.recs
    exact follows_swap _ _ _ _ _ _ _ _ _ (fun z hz => r1 z (mem_window_of _ _ _ _ _ hz)) r2
      (fun k _ hk hr => Or.inr ⟨hk, by rw [← r1 b (by simp) k hk]; exact hr⟩)
  | @right pre rest a b _ _ _ _ _ _ _ _ ht =>
    obtain ⟨r1, r2⟩ := runs_toggle ht h.recs
    exact follows_swap _ _ _ _ _ _ _ _ _ (fun z hz => r1 z (mem_window_of _ _ _ _ _ hz))
      (fun k _ hk hr => Or.inr ⟨hk, by rw [← r1 a (by simp) k hk]; exact hr⟩) r2

theorem follows_openStep (hs : OpenStep cfg x op x') (h : XInv x) :
    Follows x.oo.nrun op.track x.ol x.oo.rings x'.ol x'.oo.rings := by
  have hrec := h.recs
  have fresh : ∀ {pt : Pt} {o : Out} {r k : Rec} {ρ : Nat}, some r = some k → r.id = o.rings.length → runOf (newRec pt o).rings k = some ρ → o.nrun ≤ ρ :=
    fun hk hr h => by cases hk; exact runOf_fresh_of_new _ _ _ _ hr h
  cases hs with
  | join | split | pass => exact follows_refl _ _ _
  | update => exact follows_rings _ _ _ _ (fun _ _ k _ => runOf_addOutPt _ _ _ _ k)
  | insertCold => exact follows_insert2 _ _ _ _ _ _ _ (fun _ _ _ _ => rfl) (fun _ _ hk => by cases hk) (fun _ _ hk => by cases hk)
  | insertHot => exact follows_insert2 _ _ _ _ _ _ _ (runOf_newRec_held hrec _) (fun _ _ hk => fresh hk rfl) (fun _ _ hk => fresh hk rfl)
  | beginCold => exact follows_insert1 _ _ _ _ _ rfl
  | beginHot => exact follows_insert1_run _ _ _ _ _ _ (runOf_newRec_held hrec _) (fun _ _ hk => fresh hk rfl)
  | cross hc | crossMin hc => exact follows_cross hc h
  | @maxCold pre rest a b oo | @maxBad pre rest a b oo =>
    have := follows_remove2 oo.nrun pre rest a b id oo.rings oo.rings (fun y _ k' hk' => ⟨k', hk', rfl⟩)
    simp only [List.map_id] at this; exact this
  | @maxJoin pre rest a b oo _ _ top ra rb X Y _ _ hra hrb _ hid hXY =>
    -- both records are live when `JoinOutrecPaths` runs, and no other edge holds the end `X` lets go
    have hl : ∀ key, cnt key (pre ++ a :: b :: rest) = cnt key (pre ++ rest) + kc (some ra) key + kc (some rb) key := fun key => by
      rw [cnt_insert2, hra, hrb]
    obtain ⟨hA, hB⟩ := hrec.held_pair hl
    obtain ⟨hX, hY, hXid⟩ : (1 ≤ cnt (X.id, X.front) (pre ++ a :: b :: rest) ∧ cnt (X.id, X.front) (pre ++ rest) = 0) ∧
        1 ≤ cnt (Y.id, Y.front) (pre ++ a :: b :: rest) ∧ X.id ≠ Y.id := by
      rcases or_of_ite hXY with ⟨rfl, rfl⟩ | ⟨rfl, rfl⟩
      · exact ⟨hA, hB.1, hid⟩
      · exact ⟨hB, hA.1, Ne.symm hid⟩
    have h1 := recInv_logSeg .meet rb.id rb.front ra.id ra.front (recInv_addOutPt ra top hrec hA.1)
    obtain ⟨gx, hgx, hxl, _⟩ := h1.live _ hX.1
    obtain ⟨gy, hgy, hyl, _⟩ := h1.live _ hY
    rw [List.map_append]
    refine follows_remove2 _ _ _ _ _ _ _ _ (fun y hy k' hk' => ?_)
    have hfree : ∀ r, y.orec = some r → ¬(r.id = X.id ∧ r.front = X.front) := fun r hr e => by
      have := holder_cnt (pre ++ rest) y r hy hr
      rw [e.1, e.2, hX.2] at this; cases this
    obtain ⟨k, hk, hrun⟩ := runOf_relabel_joinPaths X.id Y.id X.front _ gx gy hgx hgy hXid hxl hyl y hfree k' hk'
    exact ⟨k, hk, by rw [hrun, runOf_logSeg, runOf_addOutPt]⟩
  | endCold => exact follows_remove1 _ _ _ _ _
  | endHot =>
    exact follows_mono _ _ _ _ _ _ _ (follows_trans _ _ _ _ _ _ _ _ _ _ (follows_rings _ _ _ _ (fun _ _ k' _ => runOf_addOutPt _ _ _ _ k'))
      (follows_remove1 _ _ _ _ _) (Nat.le_refl _)) (fun _ _ hp => hp)

end Clipper.Model

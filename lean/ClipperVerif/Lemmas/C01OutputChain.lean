/-
GEOMETRIC EVENT LISTS (`GEv`, `GRun`: every event's point lies on the input edges it touches; the geometric AEL is transformed as the
event says), and what they keep.

The invariants: the end point of the ring end an edge holds lies on that edge (`Holds`), and every logged segment lies on ONE input edge
(`SegGeo`).

The account, split at a level.  `Probe`: a weight `c` (the instance is `Spec.crossing` around a probe point) that vanishes on pairs of
points on the same side of the level `lv` (`lv ≤ p.y`: the point is BELOW the probe's scanline; y grows downwards) and equals a constant
`K e` on every pair (below, above) of points of one input edge `e`.
Phase 1 — all events below the level: every point of every ring is the point of an event (`Props/C01Rings.ring_points_from_events`), so all
of them lie below the level and the ray sum `phi` is `0` (`phi_below_run`).
Phase 2 — all events above the level (`acct_run`): `phi + pend` is constant, where `pend` sums, over the edges of the AEL that hold a ring
end whose end point is still below the level, `± K` of the input edge the `Active` currently is (`−K` for a front end, `+K` for a back end): the
side of the ring that WILL leave that end point runs along that edge across the level (`ring_ends_on_edges`), whichever event emits its
upper end.

Event lists without joins (`PlainOp`): counting (twice the rings under construction = the edges that own a ring end), and bottom-up lists
log segments that never go down (`SegMono`).  Core Lean only.
-/
import ClipperVerif.Lemmas.C01CrownStep
import ClipperVerif.Lemmas.C01OutputGeom
namespace Clipper.Lemmas.C01Output
open Clipper Clipper.Model Clipper.Model.SweepOrder Clipper.Model.SweepPoints Clipper.Lemmas.C01Crown

/-- **the event `op` is geometric** with respect to the AEL `es` of the scanbeam model (in coordinates scaled by `D`, input edges `E`):
it touches the positions it says, turns `es` into `es'`, and its point is
* `insertPair`: the common bottom vertex of the two new edges;
* `intersect`: a point on BOTH closed input segments;
* `removePair`: the common top vertex of the two edges removed;
* `update`: the top vertex of the edge, which is the bottom vertex of the edge that replaces it.
No other event is geometric (joins, splits, open paths do not occur). -/
def GEv (D : Int) (E : GEdge → Prop) (es : List GEdge) (op : ROp) (es' : List GEdge) : Prop :=
  match op with
  | .base (.insertPair i _ false _) pt => ∃ pre post l r, es = pre ++ post ∧ pre.length = i ∧ es' = pre ++ l :: r :: post ∧
      E l ∧ E r ∧ l.Up ∧ r.Up ∧ r.bot = l.bot ∧ pt = Pt.scale D l.bot
  | .base (.intersect i) pt => ∃ pre post a b, es = pre ++ a :: b :: post ∧ pre.length = i ∧ es' = pre ++ b :: a :: post ∧
      OnE D a pt ∧ OnE D b pt
  | .base (.removePair i) pt => ∃ pre post a b, es = pre ++ a :: b :: post ∧ pre.length = i ∧ es' = pre ++ post ∧
      a.Up ∧ b.Up ∧ b.top = a.top ∧ pt = Pt.scale D a.top
  | .update i pt => ∃ pre post a a', es = pre ++ a :: post ∧ pre.length = i ∧ es' = pre ++ a' :: post ∧
      E a' ∧ a.Up ∧ a'.Up ∧ a'.bot = a.top ∧ pt = Pt.scale D a.top
  | _ => False

def GRun (D : Int) (E : GEdge → Prop) : List GEdge → List ROp → List GEdge → Prop
  | es, [], es' => es = es'
  | es, op :: ops, es' => ∃ es1, GEv D E es op es1 ∧ GRun D E es1 ops es'

/-- the events that occur in sweeps without joins, open paths and horizontal edges -/
def PlainOp : ROp → Prop
  | .base (.insertPair _ _ false _) _ => True
  | .base (.intersect _) _ => True
  | .base (.removePair _) _ => True
  | .update _ _ => True
  | _ => False

theorem plainOp_of_gEv {D : Int} {E : GEdge → Prop} {es es' : List GEdge} {op : ROp} (h : GEv D E es op es') : PlainOp op := by
  unfold GEv at h
  split at h
  · trivial
  · trivial
  · trivial
  · trivial
  · exact h.elim

theorem gRun_append (D : Int) (E : GEdge → Prop) : ∀ (a b : List ROp) (es es1 es2 : List GEdge),
    GRun D E es a es1 → GRun D E es1 b es2 → GRun D E es (a ++ b) es2 := by
  intro a
  induction a with
  | nil => intro b es es1 es2 h1 h2; simp only [GRun] at h1; subst h1; exact h2
  | cons op a ih =>
    intro b es es1 es2 h1 h2
    obtain ⟨e1, g1, g2⟩ := h1
    exact ⟨e1, g1, ih b e1 es1 es2 g2 h2⟩

theorem gRun_split (D : Int) (E : GEdge → Prop) : ∀ (a b : List ROp) (es es' : List GEdge), GRun D E es (a ++ b) es' →
    ∃ es1, GRun D E es a es1 ∧ GRun D E es1 b es' := by
  intro a
  induction a with
  | nil => intro b es es' h; exact ⟨es, rfl, h⟩
  | cons op a ih =>
    intro b es es' h
    obtain ⟨e1, g1, g2⟩ := h
    obtain ⟨e2, g3, g4⟩ := ih b e1 es' g2
    exact ⟨e2, ⟨e1, g1, g3⟩, g4⟩

theorem plainOp_of_gRun {D : Int} {E : GEdge → Prop} {ops : List ROp} : ∀ {es es' : List GEdge}, GRun D E es ops es' → ∀ op ∈ ops, PlainOp op := by
  induction ops with
  | nil => intro _ _ _ op ho; cases ho
  | cons o t ih =>
    intro es es' h op ho
    obtain ⟨_, g1, g2⟩ := h
    rcases List.mem_cons.1 ho with rfl | ho
    · exact plainOp_of_gEv g1
    · exact ih g2 op ho

theorem gRun_fold (cfg : Cfg) {D : Int} {E : GEdge → Prop} {I : RState → List GEdge → Prop} {ops : List ROp}
    {es es' : List GEdge} {r r' : RState}
    (hstep : ∀ r es op r' es', op ∈ ops → I r es → GEv D E es op es' → stepR cfg r op = .ok r' → I r' es')
    (hg : GRun D E es ops es') (hr : runR cfg r ops = .ok r') (h0 : I r es) : I r' es' := by
  induction ops generalizing r es with
  | nil => simp only [GRun] at hg; subst hg; simp only [runR] at hr; cases hr; exact h0
  | cons op ops ih =>
    obtain ⟨es1, g1, g2⟩ := hg
    simp only [runR] at hr
    cases hs : stepR cfg r op with
    | error e => simp [hs] at hr
    | ok r1 =>
      simp only [hs] at hr
      exact ih (fun r es op' r' es' ho => hstep r es op' r' es' (List.mem_cons_of_mem _ ho)) g2 hr
        (hstep r es op r1 es1 List.mem_cons_self h0 g1 hs)


/-- the two lists have the same length and `P` holds position by position -/
def GeoAll (P : Model.SEdge → GEdge → Prop) : List Model.SEdge → List GEdge → Prop
  | [], [] => True
  | x :: xs, e :: es => P x e ∧ GeoAll P xs es
  | _, _ => False

theorem geoAll_iff {P : Model.SEdge → GEdge → Prop} : ∀ (l : List Model.SEdge) (es : List GEdge),
    GeoAll P l es ↔ l.length = es.length ∧ ∀ p ∈ l.zip es, P p.1 p.2 := by
  intro l
  induction l with
  | nil => intro es; cases es <;> simp [GeoAll]
  | cons x xs ih => intro es; cases es <;> simp [GeoAll, ih, and_left_comm]

theorem geoAll_length {P : Model.SEdge → GEdge → Prop} (l : List Model.SEdge) (es : List GEdge) (h : GeoAll P l es) : l.length = es.length :=
  ((geoAll_iff l es).1 h).1

theorem geoAll_append {P : Model.SEdge → GEdge → Prop} (pre : List Model.SEdge) (epre : List GEdge) (xs : List Model.SEdge) (es : List GEdge)
    (h : pre.length = epre.length) : GeoAll P (pre ++ xs) (epre ++ es) ↔ GeoAll P pre epre ∧ GeoAll P xs es := by
  simp only [geoAll_iff, List.zip_append h, List.length_append, List.mem_append, h, or_imp, forall_and, true_and, Nat.add_left_cancel_iff]
  exact and_left_comm

theorem geoAll_map {P Q : Model.SEdge → GEdge → Prop} (g : Model.SEdge → Model.SEdge) (l : List Model.SEdge) (es : List GEdge)
    (hm : ∀ x ∈ l, ∀ e, P x e → Q (g x) e) (h : GeoAll P l es) : GeoAll Q (l.map g) es := by
  rw [geoAll_iff] at h ⊢
  rw [List.length_map, List.zip_map_left]
  refine ⟨h.1, fun p hp => ?_⟩
  obtain ⟨q, hq, rfl⟩ := List.mem_map.1 hp
  exact hm q.1 (List.of_mem_zip hq).1 q.2 (h.2 q hq)

theorem geoAll_mono {P Q : Model.SEdge → GEdge → Prop} (l : List Model.SEdge) (es : List GEdge)
    (hm : ∀ x ∈ l, ∀ e, P x e → Q x e) (h : GeoAll P l es) : GeoAll Q l es := by
  have := geoAll_map (P := P) (Q := Q) id l es hm h
  simpa using this

/-- `e` is an input edge, and the end point of the ring end the edge `x` holds lies on the closed segment of `e` -/
def Holds (D : Int) (E : GEdge → Prop) (o : Out) (x : Model.SEdge) (e : GEdge) : Prop :=
  E e ∧ ∀ k p, x.orec = some k → endOf o k = some p → OnE D e p

/-- every logged segment is an `extend` or a `meet` segment and BOTH its end points lie on one input edge -/
def SegGeo (D : Int) (E : GEdge → Prop) (o : Out) : Prop :=
  ∀ sg ∈ o.segs, (sg.kind = .extend ∨ sg.kind = .meet) ∧ ∃ e, E e ∧ OnE D e sg.p ∧ OnE D e sg.q

theorem holds_iff {D : Int} {E : GEdge → Prop} {o : Out} {x : Model.SEdge} {e : GEdge} :
    Holds D E o x e ↔ E e ∧ ∀ f p, info o x = some (f, p) → OnE D e p :=
  ⟨fun h => ⟨h.1, fun _ p hi => by obtain ⟨k, hk, he, _⟩ := info_eq_some hi; exact h.2 k p hk he⟩,
    fun h => ⟨h.1, fun k p hk he => h.2 k.front p (info_some hk he)⟩⟩

theorem holds_of_info {D : Int} {E : GEdge → Prop} {o o' : Out} {x x' : Model.SEdge} {e : GEdge} (h : Holds D E o x e)
    (hi : info o' x' = info o x) : Holds D E o' x' e :=
  holds_iff.2 ⟨h.1, fun f p h' => (holds_iff.1 h).2 f p (hi ▸ h')⟩

theorem holds_of_endsAt {D : Int} {E : GEdge → Prop} {pt : Pt} {o' : Out} {x' : Model.SEdge} {e : GEdge} (hE : E e) (hpt : OnE D e pt)
    (h : EndsAt o' x' pt) : Holds D E o' x' e :=
  holds_iff.2 ⟨hE, fun f p hi => h f p hi ▸ hpt⟩

theorem holds_thirds {D : Int} {E : GEdge → Prop} {o o' : Out} {pre post : List Model.SEdge} {epre epost : List GEdge}
    {g : Model.SEdge → Model.SEdge} (h : ∀ x ∈ pre ++ post, info o' (g x) = info o x) (g1 : GeoAll (Holds D E o) pre epre)
    (g3 : GeoAll (Holds D E o) post epost) : GeoAll (Holds D E o') (pre.map g) epre ∧ GeoAll (Holds D E o') (post.map g) epost :=
  ⟨geoAll_map g _ _ (fun x hx _ hh => holds_of_info hh (h x (List.mem_append_left _ hx))) g1,
    geoAll_map g _ _ (fun x hx _ hh => holds_of_info hh (h x (List.mem_append_right _ hx))) g3⟩

theorem segGeo_new {D : Int} {E : GEdge → Prop} {pt : Pt} {o o' : Out} (l : List Model.SEdge) (hs : SegGeo D E o)
    (hn : NewSegs pt l o o') (hl : ∀ x ∈ l, ∃ e, Holds D E o x e ∧ OnE D e pt) : SegGeo D E o' := by
  intro sg hsg
  rcases hn sg hsg with h | ⟨hq, hk, x, hx, k, hxk, hp⟩
  · exact hs sg h
  · obtain ⟨e, he, hpt⟩ := hl x hx
    exact ⟨hk, e, he.1, he.2 k sg.p hxk hp.symm, by rw [hq]; exact hpt⟩

def Reach (cfg : Cfg) (r : RState) : Prop := ∃ ops0, runR cfg RState.empty ops0 = .ok r

theorem reach_step {cfg : Cfg} {r r' : RState} {op : ROp} (h : Reach cfg r) (hs : stepR cfg r op = .ok r') : Reach cfg r' := by
  obtain ⟨ops0, h0⟩ := h
  exact ⟨ops0 ++ [op], by rw [Clipper.Props.C01Rings.runR_append, h0]; simp only [runR, hs]⟩

theorem reach_facts {cfg : Cfg} (hct : cfg.ct ≠ .noClip) {r : RState} (h : Reach cfg r) :
    OInv r.s.next r.s.ael r.o ∧ RecsOK r.s.next r.s.ael ∧ SInv cfg r.s := by
  obtain ⟨ops0, h0⟩ := h
  exact ⟨(Clipper.Props.C01Rings.rinv_reachable cfg hct ops0 r h0).oinv, Clipper.Props.C01Rings.recs_rings cfg hct ops0 r h0,
    Clipper.Props.C01Rings.sinv_rings cfg hct ops0 r h0⟩

/-- in a reachable state a closed edge is hot iff it holds a ring end or is joined -/
theorem reach_hot {cfg : Cfg} (hct : cfg.ct ≠ .noClip) {r : RState} (hre : Reach cfg r) {x : Model.SEdge} (hx : x ∈ r.s.ael)
    (hc : x.e.isOpen = false) : x.e.hot = (x.orec.isSome || x.join != .none) := by
  have := List.all_eq_true.1 (reach_facts hct hre).2.2.side.1 x hx
  simp only [localOK, hc, Bool.false_eq_true, if_false, Bool.and_eq_true, beq_iff_eq] at this
  exact this.1

/-- … without joined or open edges: iff it holds a ring end; and the sides alternate -/
theorem plain_hot {cfg : Cfg} (hct : cfg.ct ≠ .noClip) {r : RState} (hre : Reach cfg r) (hP : Plain r.s.ael) :
    (∀ x ∈ r.s.ael, x.e.isOpen = false ∧ x.e.hot = x.orec.isSome) ∧ altFrom true r.s.ael = true :=
  ⟨fun x hx => ⟨(hP x hx).2, by rw [reach_hot hct hre hx (hP x hx).2, (hP x hx).1]; simp⟩, (reach_facts hct hre).2.2.side.2.2⟩

theorem endPt_mem (f : Bool) (pts : List Pt) (p : Pt) (h : endPt f pts = some p) : p ∈ pts := by
  cases f
  · simp only [endPt, Bool.false_eq_true, if_false] at h; exact List.mem_of_getLast? h
  · simp only [endPt, if_true] at h; exact List.mem_of_mem_head? h

end Clipper.Lemmas.C01Output

namespace Clipper.Lemmas.C01Crown
open Clipper Clipper.Model Clipper.Model.SweepOrder Clipper.Model.SweepPoints Clipper.Lemmas.C01Output

/-- the weight `c` seen from a probe on the level `lv` -/
structure Probe (D : Int) (E : GEdge → Prop) (c : Pt → Pt → Int) (lv : Int) (K : GEdge → Int) : Prop where
  wt : Wt c
  same : ∀ a b, (lv ≤ a.y ↔ lv ≤ b.y) → c a b = 0
  edge : ∀ e a b, E e → OnE D e a → OnE D e b → lv ≤ a.y → ¬ lv ≤ b.y → c a b = K e

/-- the pending contribution of a ring end `(IsFront = f, end point e)` held by an `Active` that is the input edge `ge` -/
def wgt (lv : Int) (K : GEdge → Int) (f : Bool) (e : Pt) (ge : GEdge) : Int :=
  if lv ≤ e.y then (if f then -K ge else K ge) else 0

def term (lv : Int) (K : GEdge → Int) (o : Out) (x : Model.SEdge) (ge : GEdge) : Int :=
  match info o x with
  | some (f, e) => wgt lv K f e ge
  | none => 0

/-- the pending contributions of an AEL in step with the geometric AEL -/
def pend (lv : Int) (K : GEdge → Int) (o : Out) (l : List Model.SEdge) (es : List GEdge) : Int :=
  ((l.zip es).map (fun p => term lv K o p.1 p.2)).sum

theorem pend_cons (lv : Int) (K : GEdge → Int) (o : Out) (x : Model.SEdge) (xs : List Model.SEdge) (ge : GEdge) (gs : List GEdge) :
    pend lv K o (x :: xs) (ge :: gs) = term lv K o x ge + pend lv K o xs gs := rfl

theorem pend_append (lv : Int) (K : GEdge → Int) (o : Out) (pre : List Model.SEdge) (epre : List GEdge) (xs : List Model.SEdge)
    (es : List GEdge) (h : pre.length = epre.length) : pend lv K o (pre ++ xs) (epre ++ es) = pend lv K o pre epre + pend lv K o xs es := by
  simp only [pend, List.zip_append h, List.map_append, List.sum_append]

theorem term_congr {lv : Int} {K : GEdge → Int} {o o' : Out} {x x' : Model.SEdge} (h : info o' x' = info o x) (ge : GEdge) :
    term lv K o' x' ge = term lv K o x ge := by simp [term, h]

theorem pend_map (lv : Int) (K : GEdge → Int) (o o' : Out) (g : Model.SEdge → Model.SEdge) (l : List Model.SEdge) (es : List GEdge)
    (h : ∀ x ∈ l, info o' (g x) = info o x) : pend lv K o' (l.map g) es = pend lv K o l es := by
  simp only [pend, List.zip_map_left, List.map_map]
  exact congrArg List.sum (List.map_congr_left (fun p hp => term_congr (h p.1 (List.of_mem_zip hp).1) p.2))

theorem term_above {lv : Int} {K : GEdge → Int} {o : Out} {x : Model.SEdge} {pt : Pt} (h : EndsAt o x pt)
    (hpt : ¬ lv ≤ pt.y) (ge : GEdge) : term lv K o x ge = 0 := by
  unfold term
  cases hi : info o x with
  | none => rfl
  | some fe =>
    obtain ⟨f, e⟩ := fe
    have := h f e hi
    subst this
    simp [wgt, hpt]

/-- **an emission above the level on an edge settles exactly what was pending there** -/
theorem emit_term {D : Int} {E : GEdge → Prop} {c : Pt → Pt → Int} {lv : Int} {K : GEdge → Int} (hp : Probe D E c lv K) {o : Out}
    {x : Model.SEdge} {ge : GEdge} {pt : Pt} (hh : Holds D E o x ge) (hon : OnE D ge pt) (hpt : ¬ lv ≤ pt.y) :
    emit c o x pt = term lv K o x ge := by
  rw [emit_eq]
  unfold term
  cases hi : info o x with
  | none => rfl
  | some fe =>
    obtain ⟨f, e⟩ := fe
    have he := (holds_iff.1 hh).2 f e hi
    simp only [wgt, dcr]
    by_cases hb : lv ≤ e.y
    · have := hp.edge ge e pt hh.1 he hon hb hpt
      simp only [hb, if_true]
      cases f
      · simp [this]
      · simp only [if_true]; rw [hp.wt.swap e pt, this]
    · have h1 := hp.same e pt ⟨fun h => absurd h hb, fun h => absurd h hpt⟩
      have h2 := hp.wt.swap e pt
      simp only [hb, if_false]
      cases f <;> simp <;> omega

theorem geoAll_mem {P : Model.SEdge → GEdge → Prop} : ∀ {l : List Model.SEdge} {es : List GEdge}, GeoAll P l es →
    ∀ x ∈ l, ∃ e ∈ es, P x e
  | [], [], _, _, hx => nomatch hx
  | [], _ :: _, h, _, _ => h.elim
  | _ :: _, [], h, _, _ => h.elim
  | _ :: _, e :: _, h, x, hx => (List.mem_cons.1 hx).elim (fun hx => ⟨e, List.mem_cons_self, hx ▸ h.1⟩)
      (fun hx => (geoAll_mem h.2 x hx).imp (fun _ h' => ⟨List.mem_cons_of_mem _ h'.1, h'.2⟩))

/-- the pending sum of a window whose ring ends all end in a point above the level is `0` -/
theorem pend_above {lv : Int} {K : GEdge → Int} {o : Out} {pt : Pt} (hpt : ¬ lv ≤ pt.y) : ∀ (l : List Model.SEdge) (es : List GEdge),
    (∀ x ∈ l, EndsAt o x pt) → pend lv K o l es = 0
  | [], _, _ => rfl
  | _ :: _, [], _ => rfl
  | x :: xs, e :: es, h => by
    rw [pend_cons, term_above (h x List.mem_cons_self) hpt, pend_above hpt xs es (fun y hy => h y (List.mem_cons_of_mem _ hy))]; rfl

/-- **emissions above the level on a window in step with geometric edges through the point settle exactly what was pending there** -/
theorem pend_emit {D : Int} {E : GEdge → Prop} {c : Pt → Pt → Int} {lv : Int} {K : GEdge → Int} (hp : Probe D E c lv K) {o : Out} {pt : Pt}
    (hpt : ¬ lv ≤ pt.y) : ∀ (l : List Model.SEdge) (es : List GEdge), GeoAll (Holds D E o) l es → (∀ e ∈ es, OnE D e pt) →
      (l.map (fun x => emit c o x pt)).sum = pend lv K o l es
  | [], [], _, _ => rfl
  | x :: xs, e :: es, h, hon => by
    rw [List.map_cons, List.sum_cons, pend_cons, emit_term hp h.1 (hon e List.mem_cons_self) hpt,
      pend_emit hp hpt xs es h.2 (fun e' he' => hon e' (List.mem_cons_of_mem _ he'))]

section step
variable {D : Int} {E : GEdge → Prop} {c : Pt → Pt → Int} {lv : Int} {K : GEdge → Int} {r r' : RState}
  {pre post : List Model.SEdge} {epre epost : List GEdge}

/-- **an emitting event whose point lies on the geometric edges of its old and of its new window keeps the invariants, and above the
level `phi + pend`**: outside the window nothing changes; what was pending on the old window is what the event emits (`pend_emit`);
nothing is pending on the new one (`pend_above`). -/
theorem Acct.step {pt : Pt} {ws ws' : List Model.SEdge} {g : Model.SEdge → Model.SEdge} (hp : Probe D E c lv K)
    (A : Acct c pt r r' pre ws post g ws') {ew ew' : List GEdge}
    (hpre : pre.length = epre.length) (hw : ws.length = ew.length) (hw' : ws'.length = ew'.length)
    (hold : ∀ e ∈ ew, OnE D e pt) (hnew : ∀ e ∈ ew', E e ∧ OnE D e pt)
    (hG : GeoAll (Holds D E r.o) r.s.ael (epre ++ (ew ++ epost))) (hS : SegGeo D E r.o) :
    (Plain r'.s.ael ∧ GeoAll (Holds D E r'.o) r'.s.ael (epre ++ (ew' ++ epost)) ∧ SegGeo D E r'.o) ∧
      (¬ lv ≤ pt.y → phi c r'.o + pend lv K r'.o r'.s.ael (epre ++ (ew' ++ epost)) =
        phi c r.o + pend lv K r.o r.s.ael (epre ++ (ew ++ epost))) := by
  rw [A.ael] at hG ⊢
  rw [A.ael']
  obtain ⟨g1, g23⟩ := (geoAll_append pre epre _ _ hpre).1 hG
  obtain ⟨g2, g3⟩ := (geoAll_append ws ew _ _ hw).1 g23
  obtain ⟨t1, t3⟩ := holds_thirds A.thirds g1 g3
  have hpre' : (pre.map g).length = epre.length := (List.length_map _).trans hpre
  have t2 : GeoAll (Holds D E r'.o) ws' ew' :=
    (geoAll_iff ws' ew').2 ⟨hw', fun p hp' => holds_of_endsAt (hnew p.2 (List.of_mem_zip hp').2).1 (hnew p.2 (List.of_mem_zip hp').2).2
      (A.ends p.1 (List.of_mem_zip hp').1)⟩
  refine ⟨⟨A.ael' ▸ A.plain, (geoAll_append _ epre _ _ hpre').2 ⟨t1, (geoAll_append ws' ew' _ _ hw').2 ⟨t2, t3⟩⟩,
    segGeo_new ws hS A.segs (fun x hx => ?_)⟩, fun hlv => ?_⟩
  · obtain ⟨e, he, hh⟩ := geoAll_mem g2 x hx
    exact ⟨e, hh, hold e he⟩
  · rw [pend_append _ _ _ _ epre _ _ hpre', pend_append _ _ _ ws' ew' _ _ hw', pend_append _ _ _ pre epre _ _ hpre,
      pend_append _ _ _ ws ew _ _ hw, A.sum, pend_above hlv ws' ew' A.ends, pend_emit hp hlv ws ew g2 hold,
      pend_map lv K r.o r'.o g pre epre (fun x hx => A.thirds x (List.mem_append_left _ hx)),
      pend_map lv K r.o r'.o g post epost (fun x hx => A.thirds x (List.mem_append_right _ hx))]
    omega

/-- a crossing at which `IntersectEdges` returns early keeps them too, wherever its point lies: the two ring ends change places with
their geometric edges -/
theorem Kept.step {a b a' b' : Model.SEdge} (Kp : Kept r r' pre a b post a' b') {ea eb : GEdge} (hpre : pre.length = epre.length)
    (hG : GeoAll (Holds D E r.o) r.s.ael (epre ++ ea :: eb :: epost)) (hS : SegGeo D E r.o) :
    (Plain r'.s.ael ∧ GeoAll (Holds D E r'.o) r'.s.ael (epre ++ eb :: ea :: epost) ∧ SegGeo D E r'.o) ∧
      phi c r'.o + pend lv K r'.o r'.s.ael (epre ++ eb :: ea :: epost) = phi c r.o + pend lv K r.o r.s.ael (epre ++ ea :: eb :: epost) := by
  rw [Kp.ael] at hG ⊢
  rw [Kp.out, Kp.ael']
  obtain ⟨g1, ga, gb, g3⟩ := (geoAll_append pre epre _ _ hpre).1 hG
  refine ⟨⟨Kp.ael' ▸ Kp.plain, (geoAll_append pre epre _ _ hpre).2 ⟨g1, holds_of_info gb Kp.ib, holds_of_info ga Kp.ia, g3⟩, hS⟩, ?_⟩
  rw [pend_append _ _ _ pre epre _ _ hpre, pend_append _ _ _ pre epre _ _ hpre]
  simp only [pend_cons, term_congr Kp.ia, term_congr Kp.ib]
  omega

end step

/-- **one geometric event keeps the invariants, and above the level `phi + pend`.**  `r`: a state of the ring model without joined or open
edges, in which the rings and the records agree (`OInv`, `RecsOK`: both hold in every reachable state); the AEL is in step with the geometric
AEL `es`, every edge holding a ring end whose end point lies on its input edge. -/
theorem event_step {D : Int} (hD : 0 < D) {E : GEdge → Prop} {c : Pt → Pt → Int} {lv : Int} {K : GEdge → Int} (hp : Probe D E c lv K)
    (cfg : Cfg) (es es' : List GEdge) (op : ROp) (r r' : RState)
    (hev : GEv D E es op es') (hs : stepR cfg r op = .ok r') (hP : Plain r.s.ael) (hO : OInv r.s.next r.s.ael r.o)
    (hR : RecsOK r.s.next r.s.ael) (hG : GeoAll (Holds D E r.o) r.s.ael es) (hS : SegGeo D E r.o) :
    (Plain r'.s.ael ∧ GeoAll (Holds D E r'.o) r'.s.ael es' ∧ SegGeo D E r'.o) ∧
      (¬ lv ≤ op.pt.y → phi c r'.o + pend lv K r'.o r'.s.ael es' = phi c r.o + pend lv K r.o r.s.ael es) := by
  unfold GEv at hev
  split at hev
  · obtain ⟨epre, epost, l, rr, rfl, hlen, rfl, El, Er, ul, ur, hbot, hpt⟩ := hev
    obtain ⟨pre, post, l', r'', h2, A⟩ := insertPair_acct c cfg _ _ _ _ r r' hP hO hs
    exact A.step hp (ew := []) (ew' := [l, rr]) (h2.trans hlen.symm) rfl rfl (fun _ h => nomatch h)
      (forall_pair ⟨El, hpt ▸ onE_bot D l hD ul⟩ ⟨Er, hpt ▸ hbot ▸ onE_bot D rr hD ur⟩) hG hS
  · obtain ⟨epre, epost, ea, eb, rfl, hlen, rfl, oa, ob⟩ := hev
    obtain ⟨pre, a, b, post, h2, ⟨g, a', b', A⟩ | ⟨a', b', Kp⟩⟩ := intersect_acct hp.wt cfg _ _ r r' hP hO hR hs
    · -- the two edges are input edges because they held the two ring ends before
      obtain ⟨_, ga, gb, _⟩ := (geoAll_append pre epre _ _ (h2.trans hlen.symm)).1 (A.ael ▸ hG)
      exact A.step hp (ew := [ea, eb]) (ew' := [eb, ea]) (h2.trans hlen.symm) rfl rfl (forall_pair oa ob)
        (forall_pair ⟨gb.1, ob⟩ ⟨ga.1, oa⟩) hG hS
    · exact (Kp.step (h2.trans hlen.symm) hG hS).imp_right (fun h _ => h)
  · obtain ⟨epre, epost, ea, eb, rfl, hlen, rfl, ua, ub, htop, hpt⟩ := hev
    obtain ⟨pre, a, b, post, g, h2, A⟩ := removePair_acct hp.wt cfg _ _ r r' hP hO hR hs
    exact A.step hp (ew := [ea, eb]) (ew' := []) (h2.trans hlen.symm) rfl rfl
      (forall_pair (hpt ▸ onE_top D ea hD ua) (hpt ▸ htop ▸ onE_top D eb hD ub)) (fun _ h => nomatch h) hG hS
  · obtain ⟨epre, epost, ea, ea', rfl, hlen, rfl, Ea', ua, ua', hbot, hpt⟩ := hev
    obtain ⟨pre, post, x, h2, A⟩ := update_acct hp.wt cfg _ _ r r' hP hO hR hs
    exact A.step hp (ew := [ea]) (ew' := [ea']) (h2.trans hlen.symm) rfl rfl (fun e he => List.mem_singleton.1 he ▸ hpt ▸ onE_top D ea hD ua)
      (fun e he => List.mem_singleton.1 he ▸ ⟨Ea', hpt ▸ hbot ▸ onE_bot D ea' hD ua'⟩) hG hS
  · exact hev.elim

theorem probe_zero (D : Int) (E : GEdge → Prop) (lv : Int) : Probe D E (fun _ _ => 0) lv (fun _ => 0) :=
  ⟨⟨fun _ => rfl, fun _ _ => rfl⟩, fun _ _ _ => rfl, fun _ _ _ _ _ _ _ _ => rfl⟩

/-- **geometric event lists keep the invariants, and `phi + pend` if all their events lie above the level** -/
theorem acct_run {D : Int} (hD : 0 < D) {E : GEdge → Prop} {c : Pt → Pt → Int} {lv : Int} {K : GEdge → Int} (hp : Probe D E c lv K)
    (cfg : Cfg) (hct : cfg.ct ≠ .noClip) (ops : List ROp) (es es' : List GEdge) (r r' : RState)
    (hg : GRun D E es ops es') (hr : runR cfg r ops = .ok r') (hre : Reach cfg r) (hP : Plain r.s.ael)
    (hG : GeoAll (Holds D E r.o) r.s.ael es) (hS : SegGeo D E r.o) :
    (Reach cfg r' ∧ Plain r'.s.ael ∧ GeoAll (Holds D E r'.o) r'.s.ael es' ∧ SegGeo D E r'.o) ∧
      ((∀ op ∈ ops, ¬ lv ≤ op.pt.y) → phi c r'.o + pend lv K r'.o r'.s.ael es' = phi c r.o + pend lv K r.o r.s.ael es) :=
  gRun_fold cfg (I := fun r1 es1 => (Reach cfg r1 ∧ Plain r1.s.ael ∧ GeoAll (Holds D E r1.o) r1.s.ael es1 ∧ SegGeo D E r1.o) ∧
      ((∀ op ∈ ops, ¬ lv ≤ op.pt.y) → phi c r1.o + pend lv K r1.o r1.s.ael es1 = phi c r.o + pend lv K r.o r.s.ael es))
    (fun r1 es1 op r2 es2 hop ⟨⟨hre, hP, hG, hS⟩, hv⟩ g1 hs => by
      obtain ⟨hO, hR, _⟩ := reach_facts hct hre
      obtain ⟨e1, e2⟩ := event_step hD hp cfg es1 es2 op r1 r2 g1 hs hP hO hR hG hS
      exact ⟨⟨reach_step hre hs, e1⟩, fun hup => (e2 (hup op hop)).trans (hv hup)⟩)
    hg hr ⟨⟨hre, hP, hG, hS⟩, fun _ => rfl⟩

/-- every point of every ring lies below the level -/
def PtsBelow (lv : Int) (o : Out) : Prop := ∀ g ∈ o.rings, ∀ p ∈ g.pts, lv ≤ p.y

theorem ptsBelow_run (cfg : Cfg) (hct : cfg.ct ≠ .noClip) {lv : Int} (ops : List ROp) (r : RState)
    (hr : runR cfg RState.empty ops = .ok r) (hlv : ∀ op ∈ ops, lv ≤ op.pt.y) : PtsBelow lv r.o := by
  intro g hg p hp
  obtain ⟨op, hop, rfl⟩ := List.mem_map.1 (Clipper.Props.C01Rings.ring_points_from_events cfg hct ops r hr g hg p hp)
  exact hlv op hop

theorem ptsBelow_endOf {lv : Int} {o : Out} (h : PtsBelow lv o) {k : Rec} {e : Pt} (he : endOf o k = some e) : lv ≤ e.y := by
  simp only [endOf, endAt] at he
  cases hg : o.rings[k.id]? with
  | none => simp [hg] at he
  | some g => simp only [hg, Option.bind_some] at he; exact h g (mem_of_get _ _ _ hg) e (endPt_mem _ _ _ he)

theorem phi_ptsBelow {D : Int} {E : GEdge → Prop} {c : Pt → Pt → Int} {lv : Int} {K : GEdge → Int} (hp : Probe D E c lv K) {o : Out}
    (h : PtsBelow lv o) : phi c o = 0 :=
  phi_eq_zero (fun g hg a ha b hb => hp.same a b ⟨fun _ => h g hg b hb, fun _ => h g hg a ha⟩)

/-- **as long as all events lie below the level the ray sum is `0`** -/
theorem phi_below_run {D : Int} {E : GEdge → Prop} {c : Pt → Pt → Int} {lv : Int} {K : GEdge → Int} (hp : Probe D E c lv K)
    (cfg : Cfg) (hct : cfg.ct ≠ .noClip) (ops : List ROp) (r : RState) (hr : runR cfg RState.empty ops = .ok r)
    (hlv : ∀ op ∈ ops, lv ≤ op.pt.y) : phi c r.o = 0 :=
  phi_ptsBelow hp (ptsBelow_run cfg hct ops r hr hlv)

/-- what every plain event does, in one statement: the AEL stays plain, every new segment runs from the end point of a ring end held by
an edge of the AEL to the event's point, and twice the rings under construction minus the hot edges stays what it was -/
theorem plain_step (cfg : Cfg) (op : ROp) (r r' : RState) (hop : PlainOp op) (hs : stepR cfg r op = .ok r') (hP : Plain r.s.ael)
    (hO : OInv r.s.next r.s.ael r.o) (hR : RecsOK r.s.next r.s.ael) :
    Plain r'.s.ael ∧ NewSegs op.pt r.s.ael r.o r'.o ∧ 2 * liveN r'.o - hotN r'.s.ael = 2 * liveN r.o - hotN r.s.ael := by
  have hw : Wt (fun _ _ => (0 : Int)) := ⟨fun _ => rfl, fun _ _ => rfl⟩
  unfold PlainOp at hop
  split at hop
  · obtain ⟨_, _, _, _, _, A⟩ := insertPair_acct (fun _ _ => 0) cfg _ _ _ _ r r' hP hO hs
    exact A.plainStep
  · obtain ⟨_, _, _, _, _, ⟨_, _, _, A⟩ | ⟨_, _, Kp⟩⟩ := intersect_acct hw cfg _ _ r r' hP hO hR hs
    · exact A.plainStep
    · exact ⟨Kp.plain, fun sg hsg => Or.inl (Kp.out ▸ hsg), Kp.bal⟩
  · obtain ⟨_, _, _, _, _, _, A⟩ := removePair_acct hw cfg _ _ r r' hP hO hR hs
    exact A.plainStep
  · obtain ⟨_, _, _, _, A⟩ := update_acct hw cfg _ _ r r' hP hO hR hs
    exact A.plainStep
  · exact hop.elim

/-- **every state a sweep without joins reaches has twice as many edges owning a ring end as rings under construction** -/
theorem bal_reach (cfg : Cfg) (hct : cfg.ct ≠ .noClip) (ops : List ROp) (rs : RState) (hop : ∀ op ∈ ops, PlainOp op)
    (hr : runR cfg RState.empty ops = .ok rs) : 2 * liveN rs.o = hotN rs.s.ael :=
  Int.sub_eq_zero.1 (runR_fold cfg (I := fun r => (Reach cfg r ∧ Plain r.s.ael) ∧ 2 * liveN r.o - hotN r.s.ael = 0)
    (fun r op r1 ho ⟨⟨hre, hP⟩, hv⟩ hs => by
      obtain ⟨hO, hR, _⟩ := reach_facts hct hre
      exact ⟨⟨reach_step hre hs, (plain_step cfg op r r1 (hop op ho) hs hP hO hR).1⟩,
        (plain_step cfg op r r1 (hop op ho) hs hP hO hR).2.2.trans hv⟩)
    hr ⟨⟨⟨[], rfl⟩, fun x hx => by cases hx⟩, rfl⟩).2

/-- **a sweep without joins that ends with an empty AEL leaves no ring under construction, and its emptied records have no points** -/
theorem sweep_end_clean (cfg : Cfg) (hct : cfg.ct ≠ .noClip) (ops : List ROp) (rs : RState) (hop : ∀ op ∈ ops, PlainOp op)
    (hr : runR cfg RState.empty ops = .ok rs) (hend : rs.s.ael = []) :
    ∀ g ∈ rs.o.rings, g.stat = .done ∨ g.pts = [] := by
  have h0 : liveN rs.o = 0 := by
    have hb := bal_reach cfg hct ops rs hop hr
    rw [hend] at hb
    have : hotN [] = 0 := rfl
    omega
  have hge := goneEmpty_run cfg ops RState.empty rs hr (fun g hg => by cases hg)
  intro g hg
  have hnl := no_live_of_zero h0 g hg
  cases hst : g.stat with
  | live => exact absurd hst hnl
  | done => exact Or.inl rfl
  | gone => exact Or.inr (hge g hg hst)

end Clipper.Lemmas.C01Crown

namespace Clipper.Lemmas.C01Output
open Clipper Clipper.Model Clipper.Model.SweepOrder Clipper.Model.SweepPoints Clipper.Lemmas.C01Crown

/-- **geometric event lists from the empty state keep the invariants** -/
theorem geo_run (cfg : Cfg) (hct : cfg.ct ≠ .noClip) (D : Int) (hD : 0 < D) (E : GEdge → Prop) (ops : List ROp) (es : List GEdge)
    (r : RState) (hg : GRun D E [] ops es) (hr : runR cfg RState.empty ops = .ok r) :
    Reach cfg r ∧ Plain r.s.ael ∧ GeoAll (Holds D E r.o) r.s.ael es ∧ SegGeo D E r.o :=
  (acct_run hD (probe_zero D E 0) cfg hct ops [] es RState.empty r hg hr ⟨[], rfl⟩ (fun _ h => nomatch h) trivial (fun _ h => nomatch h)).1

/-- every logged segment runs from its older end point `p` UP to its newer end point `q` (or stays level) -/
def SegMono (o : Out) : Prop := ∀ sg ∈ o.segs, sg.q.y ≤ sg.p.y

/-- heights of the points of an event list never increase, starting below the level `lo` -/
def YChain : Int → List ROp → Prop
  | _, [] => True
  | lo, op :: ops => op.pt.y ≤ lo ∧ YChain op.pt.y ops

/-- **bottom-up event lists log segments that never go down**: a new segment runs from a ring point, which is the point of an earlier
event, to the event's point, which is not below it -/
theorem mono_run (cfg : Cfg) (hct : cfg.ct ≠ .noClip) (ops : List ROp) (rs : RState) (lo : Int) (hop : ∀ op ∈ ops, PlainOp op)
    (hy : YChain lo ops) (hr : runR cfg RState.empty ops = .ok rs) : SegMono rs.o := by
  have key : ∀ (ops ops0 : List ROp) (r r' : RState) (lo : Int), runR cfg RState.empty ops0 = .ok r → (∀ o ∈ ops0, lo ≤ o.pt.y) →
      Plain r.s.ael → SegMono r.o → (∀ op ∈ ops, PlainOp op) → YChain lo ops → runR cfg r ops = .ok r' → SegMono r'.o := by
    intro ops
    induction ops with
    | nil => intro _ r r' _ _ _ _ hM _ _ hr; simp only [runR] at hr; cases hr; exact hM
    | cons op ops ih =>
      intro ops0 r r' lo h0 hlo hP hM hop hy hr
      simp only [runR] at hr
      cases hs : stepR cfg r op with
      | error e => simp [hs] at hr
      | ok r1 =>
        simp only [hs] at hr
        obtain ⟨hO, hR, _⟩ := reach_facts hct ⟨ops0, h0⟩
        obtain ⟨p1, hn, _⟩ := plain_step cfg op r r1 (hop op (by simp)) hs hP hO hR
        refine ih (ops0 ++ [op]) r1 r' op.pt.y (by rw [Clipper.Props.C01Rings.runR_append, h0]; simp only [runR, hs]) (fun o ho => ?_) p1 (fun sg hsg => ?_)
          (fun o ho => hop o (by simp [ho])) hy.2 hr
        · rcases List.mem_append.1 ho with ho | ho
          · exact Int.le_trans hy.1 (hlo o ho)
          · rw [List.mem_singleton.1 ho]; exact Int.le_refl _
        · rcases hn sg hsg with h | ⟨hq, _, x, hx, k, hk, hp⟩
          · exact hM sg h
          · rw [hq]
            exact Int.le_trans hy.1 (ptsBelow_endOf (ptsBelow_run cfg hct ops0 r h0 hlo) hp.symm)
  exact key ops [] RState.empty rs lo rfl (fun _ h => by cases h) (fun _ h => by cases h) (fun _ h => by cases h) hop hy hr

end Clipper.Lemmas.C01Output

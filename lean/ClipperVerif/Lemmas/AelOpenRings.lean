/-
Lemmas on the open-path assembly model `Model/AelOpenRings.lean` (for `Props/C05Rings.lean`).

The control flow of `Model.openStep` is analysed once: `OpenStep` lists what an accepted event can be, `openStep_spec` shows that the list is complete.
Everything else about an event (the bookkeeping fields follow `Model.step`, the invariant `XInv`, which primitives run, where log entries and marks come
from; in `Lemmas/AelOpenRingsRuns.lean` the run ids, in `Lemmas/AelOpenRingsZ.lean` the Z twin) is proved by cases on `OpenStep`.
-/
import ClipperVerif.Lemmas.AelRingsRuns
import ClipperVerif.Model.AelOpenRings
namespace Clipper.Model

theorem of_ite_none {α} {c : Prop} [Decidable c] {A : Option α} {v : α} (h : (if c then A else none) = some v) : c ∧ A = some v := by
  split at h
  · next hc => exact ⟨hc, h⟩
  · cases h

theorem forall_mem_insert1 {α} {P : α → Prop} {pre post : List α} {a : α} : (∀ y ∈ pre ++ a :: post, P y) ↔ P a ∧ ∀ y ∈ pre ++ post, P y := by
  simp only [List.forall_mem_append, List.forall_mem_cons]
  exact ⟨fun ⟨h1, h2, h3⟩ => ⟨h2, h1, h3⟩, fun ⟨h2, h1, h3⟩ => ⟨h1, h2, h3⟩⟩

theorem forall_mem_insert2 {α} {P : α → Prop} {pre post : List α} {a b : α} : (∀ y ∈ pre ++ a :: b :: post, P y) ↔ P a ∧ P b ∧ ∀ y ∈ pre ++ post, P y := by
  simp only [List.forall_mem_append, List.forall_mem_cons]
  exact ⟨fun ⟨h1, h2, h3, h4⟩ => ⟨h2, h3, h1, h4⟩, fun ⟨h2, h3, h1, h4⟩ => ⟨h1, h2, h3, h4⟩⟩

theorem or_of_ite {c P Q : Prop} [Decidable c] (h : if c then P else Q) : P ∨ Q := by
  split at h
  · exact Or.inl h
  · exact Or.inr h

theorem window_at {α} {l w : List α} {i : Nat} (hw : w ≠ []) (h : l.drop i = w) : ∃ pre, l = pre ++ w ∧ pre.length = i := by
  refine ⟨l.take i, by rw [← h, List.take_append_drop], ?_⟩
  rw [List.length_take]
  rcases Nat.lt_or_ge i l.length with h' | h'
  · omega
  · rw [List.drop_eq_nil_of_le h'] at h; exact absurd h.symm hw

theorem split_at {α} (l : List α) {i : Nat} (h : i ≤ l.length) : ∃ pre post, l = pre ++ post ∧ pre.length = i :=
  ⟨l.take i, l.drop i, (List.take_append_drop i l).symm, by rw [List.length_take]; omega⟩

theorem isFrontDx_neg (dx : Int) (h : dx = 1 ∨ dx = -1) : isFrontDx (-dx) = !isFrontDx dx := by
  rcases h with rfl | rfl <;> rfl

theorem newLeft_bound {cfg : Cfg} {left : List Edge} {t : PathType} {isOpen : Bool} {dx : Int} {r : Edge × Bool} (hr : newLeft cfg left t isOpen dx = r) :
    r.1.isOpen = isOpen ∧ r.1.dx = dx :=
  hr ▸ (newLeft_fields cfg left t isOpen dx).2

theorem neg_unit {dx : Int} (h : dx = 1 ∨ dx = -1) : -dx = 1 ∨ -dx = -1 := by
  rcases h with rfl | rfl
  · exact Or.inr rfl
  · exact Or.inl rfl

theorem erase_append (l1 l2 : List SEdge) : erase (l1 ++ l2) = erase l1 ++ erase l2 := List.map_append

theorem erase_cons (y : SEdge) (l : List SEdge) : erase (y :: l) = y.e :: erase l := rfl

theorem erase_at (pre w : List SEdge) : (erase (pre ++ w)).take pre.length = erase pre ∧ (erase (pre ++ w)).drop pre.length = erase w := by
  have : pre.length = (erase pre).length := (erase_length pre).symm
  rw [erase_append, this]; exact ⟨List.take_left, List.drop_left⟩

theorem insertPair_erase (cfg : Cfg) (pre post : List SEdge) (t : PathType) (isOpen : Bool) (dx : Int) (hdx : dx = 1 ∨ dx = -1) (r : Edge × Bool)
    (hr : newLeft cfg (erase pre) t isOpen dx = r) (lb rb : SEdge) (hl : lb.e = { r.1 with hot := r.2 })
    (hb : rb.e = { pt := t, isOpen := isOpen, dx := -dx, wc := r.1.wc, wc2 := r.1.wc2, hot := r.2 }) :
    insertPair cfg pre.length t isOpen dx (erase (pre ++ post)) = some (erase (pre ++ lb :: rb :: post)) := by
  unfold insertPair
  rw [if_pos ⟨by rw [erase_length, List.length_append]; omega, hdx⟩, (erase_at pre post).1, (erase_at pre post).2, hr, erase_append, erase_cons, erase_cons, hl, hb]

theorem insertOne_erase (cfg : Cfg) (pre post : List SEdge) (t : PathType) (dx : Int) (hdx : dx = 1 ∨ dx = -1) (r : Edge × Bool)
    (hr : newLeft cfg (erase pre) t true dx = r) (lb : SEdge) (hl : lb.e = { r.1 with hot := r.2 }) :
    insertOne cfg pre.length t dx (erase (pre ++ post)) = some (erase (pre ++ lb :: post)) := by
  unfold insertOne
  rw [if_pos ⟨by rw [erase_length, List.length_append]; omega, hdx⟩, (erase_at pre post).1, (erase_at pre post).2, hr, erase_append, erase_cons, hl]

theorem intersect_erase (cfg : Cfg) (pre rest : List SEdge) (a b a' b' : SEdge) (h : intersectPair cfg a.e b.e = (a'.e, b'.e)) :
    intersect cfg pre.length (erase (pre ++ a :: b :: rest)) = some (erase (pre ++ b' :: a' :: rest)) := by
  unfold intersect
  rw [(erase_at pre _).2, (erase_at pre _).1]
  simp only [erase_cons, h, erase_append]

theorem removePair_erase (pre rest : List SEdge) (a b : SEdge) (hab : a.e.pt = b.e.pt ∧ a.e.isOpen = b.e.isOpen ∧ a.e.dx + b.e.dx = 0) :
    removePair pre.length (erase (pre ++ a :: b :: rest)) = some (erase (pre ++ rest)) := by
  unfold removePair
  rw [(erase_at pre _).2, (erase_at pre _).1]
  simp only [erase_cons, hab, and_self, if_true, erase_append]

theorem removeOne_erase (pre rest : List SEdge) (a : SEdge) (ha : a.e.isOpen = true) :
    removeOne pre.length (erase (pre ++ a :: rest)) = some (erase (pre ++ rest)) := by
  unfold removeOne
  rw [(erase_at pre _).2, (erase_at pre _).1]
  simp only [erase_cons, ha, if_true, erase_append]

/-- a property of the open records that every primitive the open layer uses preserves (for the point `pt` of the event); unlike `PrimPres` there is no
`finish` (an open record is never closed into a ring) and the only segment kind logged is `meet` -/
structure OPrim (pt : Pt) (P : Out → Prop) : Prop where
  newRec : ∀ o, P o → P (newRec pt o)
  addOutPt : ∀ id f o, P o → P (addOutPt id f pt o)
  handOver : ∀ id f o, P o → P (handOver id f o)
  joinPaths : ∀ A B f o, P o → P (joinPaths A B f o)
  logMeet : ∀ i1 f1 i2 f2 o, P o → P (logSeg .meet i1 f1 i2 f2 o)

theorem OPrim.of {pt : Pt} {P : Out → Prop} (h : PrimPres pt P) : OPrim pt P :=
  ⟨h.newRec, h.addOutPt, h.handOver, h.joinPaths, h.logSeg .meet⟩

/-- only `extend` and `meet` segments are ever logged for open records -/
def SegKindsOK (o : Out) : Prop := ∀ sg ∈ o.segs, sg.kind = .extend ∨ sg.kind = .meet

theorem segKinds_prim (pt : Pt) : OPrim pt SegKindsOK where
  newRec := fun _ h => h
  addOutPt := fun id f o h sg hsg => by
    rcases addOutPt_segs id f pt o sg hsg with h' | ⟨_, _, _, _, _, _, h'⟩
    · exact h sg h'
    · exact Or.inl h'
  handOver := fun id f o h sg hsg => h sg (by rwa [segs_handOver] at hsg)
  joinPaths := fun A B f o h sg hsg => h sg (by rwa [segs_joinPaths] at hsg)
  logMeet := fun i1 f1 i2 f2 o h sg hsg => (logSeg_segs _ _ _ _ _ o sg hsg).elim (h sg) fun ⟨_, _, _, _, _, _, hk⟩ => Or.inr hk

/-- no open record is ever closed into a ring -/
def NoDone (o : Out) : Prop := ∀ g ∈ o.rings, g.stat ≠ .done

theorem noDone_set (l : List Ring) (id : Nat) (r r' : Ring) (h : ∀ g ∈ l, g.stat ≠ .done) (hr : l[id]? = some r) (hs : r'.stat = r.stat) :
    ∀ g ∈ l.set id r', g.stat ≠ .done := by
  intro g hg
  rcases List.mem_or_eq_of_mem_set hg with hg | rfl
  · exact h g hg
  · rw [hs]; exact h r (mem_of_get _ _ _ hr)

theorem noDone_prim (pt : Pt) : OPrim pt NoDone where
  newRec := fun o h g hg => by
    rcases List.mem_append.mp hg with hg | hg
    · exact h g hg
    · cases List.mem_singleton.mp hg; exact fun e => RStat.noConfusion e
  addOutPt := fun id f o h => by
    rcases addOutPt_cases id f pt o with ⟨r, hr, _, e⟩ | ⟨_, e⟩ <;> rw [e]
    · exact noDone_set _ _ r _ h hr (addPt_stat f pt r)
    · exact h
  handOver := fun id f o h => by
    rcases handOver_cases id f o with ⟨r, hr, e⟩ | ⟨_, e⟩ <;> rw [e]
    · exact noDone_set _ _ r _ h hr (by split <;> rfl)
    · exact h
  joinPaths := fun A B f o h => by
    rcases joinPaths_cases A B f o with ⟨ra, rb, hA, _, _, _, _, e⟩ | e <;> rw [e]
    · intro g hg
      rcases List.mem_or_eq_of_mem_set hg with hg | rfl
      · exact noDone_set _ _ ra _ h hA (joined_stat ra rb f) g hg
      · exact fun e => RStat.noConfusion e
    · exact h
  logMeet := fun i1 f1 i2 f2 o h => by unfold NoDone; rw [logSeg_rings]; exact h

theorem length_setMark (id : Nat) (f : Bool) (v : Option Mark) (om : List EndMarks) : (setMark id f v om).length = om.length := by
  unfold setMark; split <;> simp

theorem side_put (m : EndMarks) (f f' : Bool) (v : Option Mark) : (m.put f v).side f' = if f' = f then v else m.side f' := by
  cases f <;> cases f' <;> rfl

theorem markAt_setMark (id : Nat) (f : Bool) (v : Option Mark) (om : List EndMarks) (k : Nat) (f' : Bool) :
    markAt (setMark id f v om) k f' = if k = id ∧ f' = f ∧ id < om.length then v else markAt om k f' := by
  unfold setMark markAt
  by_cases hlt : id < om.length
  · rw [List.getElem?_eq_getElem hlt]
    simp only [List.getElem?_set, hlt, and_true]
    by_cases e : id = k
    · subst e
      simp only [if_true, true_and, List.getElem?_eq_getElem hlt, Option.bind_some, side_put]
    · rw [if_neg e, if_neg (fun h => e h.1.symm)]
  · rw [List.getElem?_eq_none (Nat.le_of_not_lt hlt), if_neg (fun h => hlt h.2.2)]

theorem markAt_append (om : List EndMarks) (em : EndMarks) (k : Nat) (f : Bool) :
    markAt (om ++ [em]) k f = if k < om.length then markAt om k f else if k = om.length then em.side f else none := by
  unfold markAt
  by_cases h : k < om.length
  · rw [if_pos h, List.getElem?_append_left h]
  · rw [if_neg h, List.getElem?_append_right (Nat.le_of_not_lt h)]
    by_cases e : k = om.length
    · subst e; simp
    · rw [if_neg e, List.getElem?_eq_none (by simp; omega)]; rfl

theorem markAt_setMark_cases {om : List EndMarks} {id : Nat} {f : Bool} {v : Option Mark} {k : Nat} {f' : Bool} {m : Mark}
    (h : markAt (setMark id f v om) k f' = some m) : v = some m ∨ markAt om k f' = some m := by
  rw [markAt_setMark] at h
  split at h
  · exact Or.inl h
  · exact Or.inr h

theorem markAt_append_cases {om : List EndMarks} {em : EndMarks} {k : Nat} {f : Bool} {m : Mark} (h : markAt (om ++ [em]) k f = some m) :
    markAt om k f = some m ∨ em.side f = some m := by
  rw [markAt_append] at h
  split at h
  · exact Or.inl h
  · split at h
    · exact Or.inr h
    · cases h

theorem handOver_get (id : Nat) (f : Bool) (o : Out) (k : Nat) (g' : Ring) (h : (handOver id f o).rings[k]? = some g') :
    ∃ g, o.rings[k]? = some g ∧ g'.pts = g.pts ∧ g'.stat = g.stat := by
  rcases handOver_cases id f o with ⟨r, hr, e⟩ | ⟨_, e⟩ <;> rw [e] at h
  · rw [get_set hr] at h
    split at h
    · next e => subst e; cases h; exact ⟨r, hr, by split <;> rfl, by split <;> rfl⟩
    · exact ⟨g', h, rfl, rfl⟩
  · exact ⟨g', h, rfl, rfl⟩

theorem newRec_get (pt : Pt) (o : Out) (k : Nat) (g : Ring) (h : (newRec pt o).rings[k]? = some g) :
    (k < o.rings.length ∧ o.rings[k]? = some g) ∨ (k = o.rings.length ∧ g.pts = [pt] ∧ g.stat = .live) := by
  simp only [newRec] at h
  rcases Nat.lt_or_ge k o.rings.length with hlt | hge
  · rw [List.getElem?_append_left hlt] at h; exact Or.inl ⟨hlt, h⟩
  · rw [List.getElem?_append_right hge] at h
    have := lt_of_get h
    have e : k - o.rings.length = 0 := by simp only [List.length_singleton] at this; omega
    rw [e] at h
    cases h
    exact Or.inr ⟨by omega, rfl, rfl⟩

theorem joinPaths_get (A B : Nat) (f : Bool) (o : Out) (ra rb : Ring) (hA : o.rings[A]? = some ra) (hB : o.rings[B]? = some rb) (hne : A ≠ B)
    (hla : ra.stat = .live) (hlb : rb.stat = .live) (k : Nat) :
    (joinPaths A B f o).rings[k]? = if k = B then some { rb with pts := [], stat := .gone } else if k = A then some (ra.joined f rb) else o.rings[k]? := by
  rw [joinPaths_of_live A B f o ra rb hA hB hne hla hlb, get_set ((get_set hA _ B).trans ((if_neg (Ne.symm hne)).trans hB)), get_set hA]

section recinv
variable {l l' l0 : List SEdge} {o : Out} {om : List EndMarks}

/-- contribution of one edge to the holder count `cnt` -/
def kc (r : Option Rec) (key : Nat × Bool) : Nat := if r.map (fun r => (r.id, r.front)) = some key then 1 else 0

theorem cnt_cons_kc (key : Nat × Bool) (y : SEdge) (l : List SEdge) : cnt key (y :: l) = kc y.orec key + cnt key l := rfl

theorem cnt_nil (key : Nat × Bool) : cnt key [] = 0 := rfl

theorem cnt_insert1 (key : Nat × Bool) (pre post : List SEdge) (a : SEdge) : cnt key (pre ++ a :: post) = cnt key (pre ++ post) + kc a.orec key := by
  rw [cnt_append, cnt_append, cnt_cons_kc]; omega

theorem cnt_insert2 (key : Nat × Bool) (pre post : List SEdge) (a b : SEdge) :
    cnt key (pre ++ a :: b :: post) = cnt key (pre ++ post) + kc a.orec key + kc b.orec key := by
  rw [cnt_append, cnt_append, cnt_cons_kc, cnt_cons_kc]; omega

theorem kc_none (key : Nat × Bool) : kc none key = 0 := rfl

theorem kc_some (k : Rec) (key : Nat × Bool) : kc (some k) key = if key = (k.id, k.front) then 1 else 0 := by
  simp only [kc, Option.map_some, Option.some.injEq, eq_comm]

theorem kc_self (k : Rec) : kc (some k) (k.id, k.front) = 1 := by rw [kc_some, if_pos rfl]

theorem kc_ne (k : Rec) (key : Nat × Bool) (h : key ≠ (k.id, k.front)) : kc (some k) key = 0 := by rw [kc_some, if_neg h]

theorem kc_mk (n : Nat) (f f' : Bool) : kc (some ⟨n, f⟩) (n, f') = if f' = f then 1 else 0 := by
  rw [kc_some]; simp only [Prod.mk.injEq, true_and]

theorem holder_cnt (l : List SEdge) (x : SEdge) (k : Rec) (hx : x ∈ l) (hk : x.orec = some k) : 1 ≤ cnt (k.id, k.front) l :=
  cnt_pos_of_mem _ l x hx (keyOf_of_orec x k hk)

theorem holder_of_cnt {key : Nat × Bool} : ∀ {l : List SEdge}, 1 ≤ cnt key l → ∃ y ∈ l, ∃ r, y.orec = some r ∧ key = (r.id, r.front)
  | [], h => by cases h
  | y :: l, h => by
    rw [cnt_cons_kc] at h
    cases hr : y.orec with
    | some r =>
      by_cases e : key = (r.id, r.front)
      · exact ⟨y, List.mem_cons_self, r, hr, e⟩
      · rw [hr, kc_ne r key e, Nat.zero_add] at h
        obtain ⟨y', hy', h'⟩ := holder_of_cnt h
        exact ⟨y', List.mem_cons_of_mem _ hy', h'⟩
    | none =>
      rw [hr, kc_none, Nat.zero_add] at h
      obtain ⟨y', hy', h'⟩ := holder_of_cnt h
      exact ⟨y', List.mem_cons_of_mem _ hy', h'⟩

/-- `l` = the AEL, `o` = the open records, `om` = their marks (`front_edge` / `back_edge == nullptr`, with the point at which the end was fixed) -/
structure RecInv (l : List SEdge) (o : Out) (om : List EndMarks) : Prop where
  /-- no end of a record is held twice, and only ends of existing records are held -/
  uniq : RecsOK o.rings.length l
  /-- a held record is live and has a point -/
  live : ∀ key, 1 ≤ cnt key l → LiveAt o.rings key.1
  /-- `AddOutPt` was never called on a record that is not live -/
  nolost : NoLost o
  /-- every pair of neighbours of a record is in the segment log -/
  segs : SegsOK o
  mlen : om.length = o.rings.length
  /-- an end of a live record carries a mark exactly when no edge holds it, and then it is the point of the mark -/
  marks : ∀ k g, o.rings[k]? = some g → g.stat = .live → ∀ f,
    (markAt om k f = none ↔ 1 ≤ cnt (k, f) l) ∧ (∀ m, markAt om k f = some m → endPt f g.pts = some m.pt)

theorem RecInv.congr (h : RecInv l o om) (hc : ∀ key, cnt key l' = cnt key l) : RecInv l' o om :=
  { h with
    uniq := fun key => by rw [hc]; exact h.uniq key
    live := fun key hk => h.live key (by rw [← hc]; exact hk)
    marks := fun k g hg hl f => by rw [hc]; exact h.marks k g hg hl f }

theorem RecInv.held_lt (h : RecInv l o om) {key : Nat × Bool} (hk : 1 ≤ cnt key l) : key.1 < o.rings.length :=
  liveAt_lt _ _ (h.live key hk)

theorem RecInv.free (h : RecInv l o om) {id : Nat} {f : Bool} (hl : LiveAt o.rings id)
    (hfree : (markAt om id f).isSome = true) : cnt (id, f) l = 0 := by
  obtain ⟨g, hg, hgl, _⟩ := hl
  rcases Nat.eq_zero_or_pos (cnt (id, f) l) with e | e
  · exact e
  · rw [((h.marks id g hg hgl f).1).mpr e] at hfree; cases hfree

theorem RecInv.held_pair (h : RecInv l o om) {ra rb : Rec} (hl : ∀ key, cnt key l = cnt key l0 + kc (some ra) key + kc (some rb) key) :
    (1 ≤ cnt (ra.id, ra.front) l ∧ cnt (ra.id, ra.front) l0 = 0) ∧ (1 ≤ cnt (rb.id, rb.front) l ∧ cnt (rb.id, rb.front) l0 = 0) := by
  have ha := hl (ra.id, ra.front); have hb := hl (rb.id, rb.front)
  rw [kc_self] at ha hb
  have := (h.uniq (ra.id, ra.front)).1; have := (h.uniq (rb.id, rb.front)).1
  omega

/-- a new record; `em` says which of its ends are free from the start, `l'` is the AEL with its holders added -/
theorem recInv_newRec (pt : Pt) (em : EndMarks) (h : RecInv l o om)
    (hold : ∀ key, key.1 ≠ o.rings.length → cnt key l' = cnt key l)
    (hnew : ∀ f, cnt (o.rings.length, f) l' ≤ 1 ∧ (em.side f = none ↔ 1 ≤ cnt (o.rings.length, f) l') ∧ ∀ m, em.side f = some m → m.pt = pt) :
    RecInv l' (newRec pt o) (om ++ [em]) := by
  refine { uniq := ?_, live := ?_, nolost := noLost_newRec pt o h.nolost, segs := segsOK_newRec pt o h.segs,
           mlen := by rw [length_newRec, List.length_append, h.mlen]; rfl, marks := ?_ }
  · intro key
    rw [length_newRec]
    by_cases e : key.1 = o.rings.length
    · obtain ⟨k1, k2⟩ := key
      cases e
      exact ⟨(hnew k2).1, fun hh => absurd hh (Nat.not_succ_le_self _)⟩
    · rw [hold key e]
      exact ⟨(h.uniq key).1, fun hh => (h.uniq key).2 (Nat.le_of_succ_le hh)⟩
  · intro key hk
    by_cases e : key.1 = o.rings.length
    · rw [e]; exact liveAt_newRec_new pt o
    · rw [hold key e] at hk; exact liveAt_newRec_old pt o _ (h.live key hk)
  · intro k g hg hl f
    rw [markAt_append, h.mlen]
    rcases newRec_get pt o k g hg with ⟨hlt, hg0⟩ | ⟨rfl, hp, _⟩
    · rw [if_pos hlt, hold (k, f) (Nat.ne_of_lt hlt)]
      exact h.marks k g hg0 hl f
    · rw [if_neg (Nat.lt_irrefl _), if_pos rfl]
      refine ⟨(hnew f).2.1, fun m hm => ?_⟩
      rw [hp, (hnew f).2.2 m hm]; cases f <;> rfl

/-- `AddLocalMinPoly` on open edges: a new record with both ends held -/
theorem recInv_pair (pt : Pt) (f : Bool) (h : RecInv l o om)
    (hc : ∀ key, cnt key l' = cnt key l + kc (some ⟨o.rings.length, f⟩) key + kc (some ⟨o.rings.length, !f⟩) key) :
    RecInv l' (newRec pt o) (om ++ [⟨none, none⟩]) := by
  refine recInv_newRec pt _ h (fun key e => ?_) (fun f' => ?_)
  · rw [hc, kc_ne _ _ (fun e' => e (by rw [e'])), kc_ne _ _ (fun e' => e (by rw [e']))]; rfl
  · have : cnt (o.rings.length, f') l' = 1 := by
      rw [hc, (h.uniq (o.rings.length, f')).2 (Nat.le_refl _), kc_mk, kc_mk]; cases f <;> cases f' <;> rfl
    rw [this]
    exact ⟨Nat.le_refl _, ⟨fun _ => Nat.le_refl _, fun _ => by cases f' <;> rfl⟩, fun m hm => by cases f' <;> cases hm⟩

/-- `StartOpenPath`: a new record held at the end `f`, the other end free and marked `m` -/
theorem recInv_start (pt : Pt) (f : Bool) (m : Mark) (hm : m.pt = pt) (h : RecInv l o om)
    (hc : ∀ key, cnt key l' = cnt key l + kc (some ⟨o.rings.length, f⟩) key) :
    RecInv l' (newRec pt o) (om ++ [EndMarks.put ⟨none, none⟩ (!f) (some m)]) := by
  refine recInv_newRec pt _ h (fun key e => ?_) (fun f' => ?_)
  · rw [hc, kc_ne _ _ (fun e' => e (by rw [e']))]; rfl
  · rw [hc, (h.uniq (o.rings.length, f')).2 (Nat.le_refl _), kc_mk, side_put]
    by_cases e : f' = f
    · subst e
      rw [if_pos rfl, if_neg (by cases f' <;> simp)]
      exact ⟨Nat.le_refl _, ⟨fun _ => Nat.le_refl _, fun _ => by cases f' <;> rfl⟩, fun m' hm' => by cases f' <;> cases hm'⟩
    · rw [if_neg e, if_pos (by cases f <;> cases f' <;> simp at e ⊢)]
      exact ⟨Nat.zero_le _, ⟨fun hh => (by cases hh), fun hh => absurd hh (by decide)⟩, fun m' hm' => by cases hm'; exact hm⟩

/-- `AddOutPt` on a held end -/
theorem recInv_addOutPt (k : Rec) (pt : Pt) (h : RecInv l o om) (hheld : 1 ≤ cnt (k.id, k.front) l) :
    RecInv l (addOutPt k.id k.front pt o) om := by
  have hlive := h.live _ hheld
  refine { uniq := by rw [length_addOutPt]; exact h.uniq, live := fun key hk => liveAt_addOutPt _ _ _ _ _ (h.live key hk),
           nolost := noLost_addOutPt _ _ _ _ h.nolost hlive, segs := segsOK_addOutPt _ _ _ _ h.segs, mlen := by rw [length_addOutPt]; exact h.mlen, marks := ?_ }
  intro k' g' hg' hl' f'
  obtain ⟨g, hg, hgl, hgne⟩ := hlive
  have hr : (addOutPt k.id k.front pt o).rings = o.rings.set k.id (addPt k.front pt g).1 := by rw [addOutPt_live _ _ _ _ g hg hgl]
  rw [hr, get_set hg] at hg'
  split at hg'
  · next e =>
    subst e
    cases hg'
    have old := h.marks k.id g hg hgl f'
    refine ⟨old.1, fun m hm => ?_⟩
    rw [addPt_end _ _ _ _ fun _ => hgne, if_neg]
    · exact old.2 m hm
    · rintro rfl; rw [old.1.mpr hheld] at hm; cases hm
  · exact h.marks k' g' hg' hl' f'

theorem recInv_handOver (id : Nat) (f : Bool) (h : RecInv l o om) : RecInv l (handOver id f o) om := by
  refine { uniq := by rw [length_handOver]; exact h.uniq, live := fun key hk => liveAt_handOver _ _ _ _ (h.live key hk),
           nolost := by intro e he; rw [log_handOver] at he; exact h.nolost e he, segs := segsOK_handOver _ _ _ h.segs,
           mlen := by rw [length_handOver]; exact h.mlen, marks := ?_ }
  intro k g' hg' hl' f'
  obtain ⟨g, hg, hp, hst⟩ := handOver_get _ _ _ _ _ hg'
  rw [hp]; exact h.marks k g hg (by rw [← hst]; exact hl') f'

theorem recInv_logSeg (kd : SegKind) (i1 : Nat) (f1 : Bool) (i2 : Nat) (f2 : Bool)
    (h : RecInv l o om) : RecInv l (logSeg kd i1 f1 i2 f2 o) om := by
  exact { uniq := by rw [logSeg_rings]; exact h.uniq, live := by rw [logSeg_rings]; exact h.live,
          nolost := by intro e he; rw [logSeg_log] at he; exact h.nolost e he, segs := segsOK_logSeg _ _ _ _ _ _ h.segs,
          mlen := by rw [logSeg_rings]; exact h.mlen, marks := by rw [logSeg_rings]; exact h.marks }

/-- the mark of the end `(id, f)` of a live record becomes `v`, while the holders (`l` before, `l'` after) change at this end only -/
theorem recInv_setMark (id : Nat) (f : Bool) (v : Option Mark) (h : RecInv l o om) (hlive : LiveAt o.rings id)
    (hc : ∀ key, key ≠ (id, f) → cnt key l' = cnt key l) (hu : cnt (id, f) l' ≤ 1) (hv : v = none ↔ 1 ≤ cnt (id, f) l')
    (hpt : ∀ g m, o.rings[id]? = some g → v = some m → endPt f g.pts = some m.pt) : RecInv l' o (setMark id f v om) := by
  have hlt : id < om.length := by rw [h.mlen]; exact liveAt_lt _ _ hlive
  refine { uniq := fun key => ?_, live := fun key hk => ?_, nolost := h.nolost, segs := h.segs, mlen := by rw [length_setMark]; exact h.mlen,
           marks := fun k g hg hl f' => ?_ }
  · by_cases e : key = (id, f)
    · rw [e]; exact ⟨hu, fun hh => absurd (liveAt_lt _ _ hlive) (Nat.not_lt.mpr hh)⟩
    · rw [hc key e]; exact h.uniq key
  · by_cases e : key = (id, f)
    · rw [e]; exact hlive
    · rw [hc key e] at hk; exact h.live key hk
  · rw [markAt_setMark]
    by_cases e : k = id ∧ f' = f ∧ id < om.length
    · obtain ⟨rfl, rfl, _⟩ := e
      rw [if_pos ⟨rfl, rfl, hlt⟩]
      exact ⟨hv, fun m hm => hpt g m hg hm⟩
    · rw [if_neg e, hc (k, f') (fun e' => e (by cases e'; exact ⟨rfl, rfl, hlt⟩))]
      exact h.marks k g hg hl f'

/-- `AddOutPt(e, pt)`; the end is released and marked with `pt` -/
theorem recInv_stop (k : Rec) (pt : Pt) (m : Mark) (hm : m.pt = pt) (h : RecInv l o om)
    (hc : ∀ key, cnt key l = cnt key l' + kc (some k) key) : RecInv l' (addOutPt k.id k.front pt o) (setMark k.id k.front (some m) om) := by
  have hk := hc (k.id, k.front)
  rw [kc_self] at hk
  have hheld : 1 ≤ cnt (k.id, k.front) l := by omega
  have h0 : cnt (k.id, k.front) l' = 0 := by have := (h.uniq (k.id, k.front)).1; omega
  obtain ⟨g, hg, hgl, hgne⟩ := h.live _ hheld
  have h1 := recInv_addOutPt k pt h hheld
  refine recInv_setMark k.id k.front (some m) h1 (h1.live _ hheld) (fun key e => by rw [hc key, kc_ne k key e]; rfl) (by omega)
    ⟨fun hh => (by cases hh), fun hh => by omega⟩ (fun g' m' hg' hm' => ?_)
  cases hm'
  rw [addOutPt_live _ _ _ _ g hg hgl, get_set hg, if_pos rfl] at hg'
  cases hg'
  rw [addPt_end _ _ _ _ fun _ => hgne, if_pos rfl, hm]

/-- the `SetSides` branch of `IntersectEdges`: the free end `k` of a record whose other end is held is taken by another edge -/
theorem recInv_rejoin (k : Rec) (h : RecInv l o om)
    (hother : 1 ≤ cnt (k.id, !k.front) l) (hfree : (markAt om k.id k.front).isSome = true) (hc : ∀ key, cnt key l' = cnt key l + kc (some k) key) :
    RecInv l' (handOver k.id k.front o) (setMark k.id k.front none om) := by
  have hlive := h.live _ hother
  have h1 : cnt (k.id, k.front) l' = 1 := by rw [hc, h.free hlive hfree, kc_self]
  refine recInv_setMark k.id k.front none (recInv_handOver k.id k.front h) (liveAt_handOver _ _ _ _ hlive)
    (fun key e => by rw [hc key, kc_ne k key e]; rfl) (by omega) ⟨fun _ => by omega, fun _ => rfl⟩ (fun _ _ _ hm => by cases hm)

/-- `JoinOutrecPaths(X-edge, Y-edge)` for open records, `l0` = the AEL without the two edges: the far end of `Y` passes to `X`, with its holder or its mark -/
theorem recInv_joinPaths (X Y : Rec) (h : RecInv l o om) (hid : X.id ≠ Y.id) (hfy : Y.front = !X.front)
    (hl : ∀ key, cnt key l = cnt key l0 + kc (some X) key + kc (some Y) key)
    (hseam : ∀ ga gb, o.rings[X.id]? = some ga → o.rings[Y.id]? = some gb → ∀ a b, endPt X.front ga.pts = some a → endPt (!X.front) gb.pts = some b →
      Covered o.segs (a, b) ∧ Covered o.segs (b, a)) :
    RecInv (l0.map (relabelFn Y.id X.front X.id)) (joinPaths X.id Y.id X.front o) (setMark X.id X.front (markAt om Y.id X.front) om) := by
  obtain ⟨⟨hX1, hX0⟩, ⟨hY1, hY0⟩⟩ := h.held_pair hl
  obtain ⟨gx, hgx, hxl, hxne⟩ := h.live _ hX1
  obtain ⟨gy, hgy, hyl, hyne⟩ := h.live _ hY1
  have hrest : ∀ key, key ≠ (X.id, X.front) → key ≠ (Y.id, Y.front) → cnt key l0 = cnt key l := fun key e1 e2 => by rw [hl, kc_ne X key e1, kc_ne Y key e2]; rfl
  have nYX : ((Y.id, X.front) : Nat × Bool) ≠ (X.id, X.front) := fun e => hid (congrArg Prod.fst e).symm
  have nYY : ((Y.id, X.front) : Nat × Bool) ≠ (Y.id, Y.front) := fun e => (Bool.eq_not_self X.front).mp (by rw [← hfy]; exact congrArg Prod.snd e)
  have hc : ∀ key, cnt key (l0.map (relabelFn Y.id X.front X.id)) = if key = (X.id, X.front) then cnt (Y.id, X.front) l else if key.1 = Y.id then 0 else cnt key l := by
    intro key
    rw [cnt_relabel Y.id X.front X.id hid]
    by_cases e1 : key = (X.id, X.front)
    · rw [if_pos e1, if_pos e1, hrest _ nYX nYY, hX0, Nat.zero_add]
    · rw [if_neg e1, if_neg e1]
      by_cases e2 : key = (Y.id, X.front)
      · rw [if_pos e2, if_pos (by rw [e2])]
      · rw [if_neg e2]
        by_cases e3 : key = (Y.id, Y.front)
        · rw [if_pos (by rw [e3]), e3, hY0]
        · rw [hrest key e1 e3, if_neg]
          intro e4
          obtain ⟨k1, k2⟩ := key
          cases e4
          cases hx : X.front <;> cases k2 <;> simp [hfy, hx] at e2 e3
  have hXlt : X.id < om.length := by rw [h.mlen]; exact lt_of_get hgx
  refine { uniq := fun key => ?_, live := fun key hk => ?_, nolost := by intro e he; rw [log_joinPaths] at he; exact h.nolost e he,
           segs := segsOK_joinPaths _ _ _ _ h.segs hseam, mlen := by rw [length_setMark, length_joinPaths]; exact h.mlen, marks := fun k g' hg' hl' f' => ?_ }
  · rw [hc, length_joinPaths]
    by_cases e1 : key = (X.id, X.front)
    · rw [if_pos e1]; exact ⟨(h.uniq _).1, fun hh => absurd (lt_of_get hgx) (Nat.not_lt.mpr (e1 ▸ hh))⟩
    · rw [if_neg e1]
      by_cases e2 : key.1 = Y.id
      · rw [if_pos e2]; exact ⟨Nat.zero_le _, fun _ => rfl⟩
      · rw [if_neg e2]; exact h.uniq key
  · rw [hc] at hk
    by_cases e1 : key = (X.id, X.front)
    · rw [e1]; exact liveAt_joinPaths _ _ _ _ _ ⟨gx, hgx, hxl, hxne⟩ hid
    · rw [if_neg e1] at hk
      by_cases e2 : key.1 = Y.id
      · rw [if_pos e2] at hk; cases hk
      · rw [if_neg e2] at hk; exact liveAt_joinPaths _ _ _ _ _ (h.live key hk) e2
  · rw [joinPaths_get X.id Y.id X.front o gx gy hgx hgy hid hxl hyl] at hg'
    rw [markAt_setMark, hc]
    by_cases eY : k = Y.id
    · rw [if_pos eY] at hg'; cases hg'; cases hl'
    · rw [if_neg eY] at hg'
      by_cases eX : k = X.id
      · subst eX
        rw [if_pos rfl] at hg'
        cases hg'
        by_cases ef : f' = X.front
        · subst ef
          rw [if_pos ⟨rfl, rfl, hXlt⟩, if_pos rfl]
          have old := h.marks Y.id gy hgy hyl X.front
          refine ⟨old.1, fun m' hm' => ?_⟩
          rw [← old.2 m' hm']
          cases X.front
          · exact getLast?_append_ne _ _ hyne
          · exact head?_append_ne _ _ hyne
        · rw [if_neg (fun e => ef e.2.1), if_neg (fun e => ef (congrArg Prod.snd e)), if_neg hid]
          have old := h.marks X.id gx hgx hxl f'
          refine ⟨old.1, fun m' hm' => ?_⟩
          rw [← old.2 m' hm']
          cases hx : X.front <;> cases f' <;> simp [hx] at ef
          · exact head?_append_ne _ _ hxne
          · exact getLast?_append_ne _ _ hxne
      · rw [if_neg eX] at hg'
        rw [if_neg (fun e => eX e.1), if_neg (fun e => eX (congrArg Prod.fst e)), if_neg eY]
        exact h.marks k g' hg' hl' f'

/-- `AddLocalMaxPoly(e1, e2, top)` for open edges with different records `ra` (of `e1`), `rb`; the record `X` of the edge with `wind_dx < 0` survives -/
theorem recInv_join (ra rb X Y : Rec) (top : Pt) (h : RecInv l o om)
    (hXY : (X = ra ∧ Y = rb) ∨ (X = rb ∧ Y = ra)) (hf : ra.front ≠ rb.front) (hid : ra.id ≠ rb.id)
    (hl : ∀ key, cnt key l = cnt key l0 + kc (some ra) key + kc (some rb) key) :
    RecInv (l0.map (relabelFn Y.id X.front X.id)) (joinPaths X.id Y.id X.front (logSeg .meet rb.id rb.front ra.id ra.front (addOutPt ra.id ra.front top o)))
      (setMark X.id X.front (markAt om Y.id X.front) om) := by
  have hA : 1 ≤ cnt (ra.id, ra.front) l := by rw [hl, kc_self]; omega
  have h1 := recInv_logSeg .meet rb.id rb.front ra.id ra.front (recInv_addOutPt ra top h hA)
  have hr1 := logSeg_rings .meet rb.id rb.front ra.id ra.front (addOutPt ra.id ra.front top o)
  have hbf : rb.front = !ra.front := by revert hf; cases ra.front <;> cases rb.front <;> simp
  rcases hXY with ⟨rfl, rfl⟩ | ⟨rfl, rfl⟩
  · refine recInv_joinPaths X Y h1 hid hbf hl ?_
    intro ga gb hga hgb a b ha hb
    rw [hr1] at hga hgb
    obtain ⟨sg, s1, s2, s3⟩ := logSeg_has .meet Y.id Y.front X.id X.front _ gb ga b a hgb hga (by rw [hbf]; exact hb) ha
    exact (covered_of_seg _ sg s1 b a s2 s3).symm
  · have haf : Y.front = !X.front := by rw [hbf, Bool.not_not]
    refine recInv_joinPaths X Y h1 (Ne.symm hid) haf (fun key => by rw [hl]; omega) ?_
    intro ga gb hga hgb a b ha hb
    rw [hr1] at hga hgb
    obtain ⟨sg, s1, s2, s3⟩ := logSeg_has .meet X.id X.front Y.id Y.front _ ga gb a b hga hgb ha (by rw [haf]; exact hb)
    exact covered_of_seg _ sg s1 a b s2 s3

end recinv

/-- per edge: closed edges carry nothing; an open edge has `wind_dx = ±1`, owns a record exactly when it is hot, and then `IsFront(e) = (wind_dx > 0)` -/
def OLocal (y : SEdge) : Prop :=
  y.join = .none ∧ (y.e.isOpen = false → y.orec = none) ∧
  (y.e.isOpen = true → (y.e.dx = 1 ∨ y.e.dx = -1) ∧ y.orec.isSome = y.e.hot ∧ ∀ k, y.orec = some k → k.front = isFrontDx y.e.dx)

theorem olocal_cold (e : Edge) (hdx : e.dx = 1 ∨ e.dx = -1) (hh : e.isOpen = true → e.hot = false) : OLocal ⟨e, .none, none⟩ :=
  ⟨rfl, fun _ => rfl, fun ho => ⟨hdx, (hh ho).symm, fun _ hk => by cases hk⟩⟩

theorem olocal_hot (e : Edge) (n : Nat) (f : Bool) (ho : e.isOpen = true) (hdx : e.dx = 1 ∨ e.dx = -1) (hh : e.hot = true) (hf : f = isFrontDx e.dx) :
    OLocal ⟨e, .none, some ⟨n, f⟩⟩ :=
  ⟨rfl, fun hc => (by rw [ho] at hc; cases hc), fun _ => ⟨hdx, hh.symm, fun _ hk => by cases hk; exact hf⟩⟩

theorem olocal_closed (y : SEdge) (e' : Edge) (h : OLocal y) (hc : y.e.isOpen = false) (hc' : e'.isOpen = false) : OLocal { y with e := e' } :=
  ⟨h.1, fun _ => h.2.1 hc, fun ho => by rw [hc'] at ho; cases ho⟩

theorem olocal_ipair (cfg : Cfg) (a b : SEdge) (hab : a.e.isOpen = b.e.isOpen) (ha : OLocal a) (hb : OLocal b) :
    OLocal { b with e := (intersectPair cfg a.e b.e).2 } ∧ OLocal { a with e := (intersectPair cfg a.e b.e).1 } := by
  cases hbo : b.e.isOpen with
  | true => rw [intersectPair_oo cfg (hab.trans hbo) hbo]; exact ⟨hb, ha⟩
  | false =>
    obtain ⟨_, f2, _, _, f5, _⟩ := intersectPair_fields cfg a.e b.e
    exact ⟨olocal_closed b _ hb hbo (f5.trans hbo), olocal_closed a _ ha (hab.trans hbo) (f2.trans (hab.trans hbo))⟩

theorem olocal_relabel (B : Nat) (f : Bool) (A : Nat) (y : SEdge) (h : OLocal y) : OLocal (relabelFn B f A y) := by
  unfold relabelFn
  split
  · next r hr =>
    split
    · next hc =>
      obtain ⟨hj, h1, h2⟩ := h
      refine ⟨hj, fun ho => (by have := h1 ho; rw [hr] at this; cases this), fun ho => ?_⟩
      obtain ⟨d, e, g⟩ := h2 ho
      refine ⟨d, by rw [hr] at e; exact e, fun k hk => ?_⟩
      cases hk
      rw [← hc.2]; exact g r hr
    · exact h
  · exact h

structure XInv (x : OX) : Prop where
  loc : ∀ y ∈ x.ol, OLocal y
  recs : RecInv x.ol x.oo x.om

theorem xinv_empty : XInv OX.empty :=
  { loc := fun _ hy => (by cases hy)
    recs := { uniq := fun _ => ⟨Nat.zero_le _, fun _ => rfl⟩, live := fun _ hk => (by cases hk), nolost := fun _ he => (by cases he),
              segs := fun _ hg => (by cases hg), mlen := rfl, marks := fun _ _ hg => (by cases hg) } }

/-- two adjacent open edges are both hot or both cold (`Props/C05`: an open edge is hot exactly when `keepOpen` holds at its position) -/
def AdjOpenAgree (l : List SEdge) : Prop := ∀ pre a b rest, l = pre ++ a :: b :: rest → a.e.isOpen = true → b.e.isOpen = true → a.e.hot = b.e.hot

/-- the event of `Model.Op` behind an event of the open layer (`none`: `join`, `split`, `update`) -/
def OOp.base : OOp → Option Op
  | .ev (.base b _) => some b
  | .locMinX i _ _ => some (.intersect i)
  | _ => none

/-- the point an event carries -/
def OOp.pt : OOp → Pt
  | .ev op => op.pt
  | .locMinX _ p _ => p

section events
variable {cfg : Cfg} {x x' : OX} {op : OOp} {i io : Nat} {p pt : Pt} {lm : Option (Option Nat)} {l l' : List SEdge} {eo ec : SEdge} {oo oo' : Out}
  {om om' : List EndMarks} {k' : Option Rec} {P : Out → Prop}

/-- "toggle contribution" of `IntersectEdges` for the open edge `eo` crossing the closed edge `ec`: `openBranch … = some (k', oo', om')`, case by case -/
inductive Toggle (cfg : Cfg) (l : List SEdge) (io : Nat) (eo ec : SEdge) (pt : Pt) (lm : Option (Option Nat)) (oo : Out) (om : List EndMarks) :
    Option Rec → Out → List EndMarks → Prop
  /-- one of the `return`s before "toggle contribution" is taken -/
  | idle (ht : openToggles cfg ec.e = false) : Toggle cfg l io eo ec pt lm oo om eo.orec oo om
  /-- the hot edge goes cold: the piece ends -/
  | stop {k : Rec} (ht : openToggles cfg ec.e = true) (hk : eo.orec = some k) :
      Toggle cfg l io eo ec pt lm oo om none (addOutPt k.id k.front pt oo) (setMark k.id k.front (some ⟨pt, .cutStop⟩) om)
  /-- the cold edge goes hot, and no hot edge shares its local minimum: `StartOpenPath` -/
  | start (ht : openToggles cfg ec.e = true) (hn : eo.orec = none)
      (hlm : ∀ j, lm = some (some j) → ∃ e3, l[j]? = some e3 ∧ (e3.e.isOpen = true ∧ j ≠ io ∧ e3.e.dx + eo.e.dx = 0) ∧ e3.orec = none) :
      Toggle cfg l io eo ec pt lm oo om (some ⟨oo.rings.length, isFrontDx eo.e.dx⟩) (newRec pt oo)
        (om ++ [EndMarks.put ⟨none, none⟩ (!isFrontDx eo.e.dx) (some ⟨pt, .cutStart⟩)])
  /-- the cold edge goes hot at its local minimum, where the other bound `e3` is hot: it takes the free end of `e3`'s record (`SetSides`) -/
  | rejoin {j : Nat} {e3 : SEdge} {rr : Rec} (ht : openToggles cfg ec.e = true) (hn : eo.orec = none) (hlm : lm = some (some j)) (he3 : l[j]? = some e3)
      (hc : e3.e.isOpen = true ∧ j ≠ io ∧ e3.e.dx + eo.e.dx = 0) (hrr : e3.orec = some rr) (hfr : rr.front = !isFrontDx eo.e.dx)
      (hfree : (markAt om rr.id (isFrontDx eo.e.dx)).isSome = true) :
      Toggle cfg l io eo ec pt lm oo om (some ⟨rr.id, isFrontDx eo.e.dx⟩) (handOver rr.id (isFrontDx eo.e.dx) oo) (setMark rr.id (isFrontDx eo.e.dx) none om)

/-- `oIntersect cfg i p lm x = some x'`, case by case -/
inductive Cross (cfg : Cfg) (p : Pt) (lm : Option (Option Nat)) : OX → Nat → OX → Prop
  | same {pre rest : List SEdge} {a b : SEdge} {oo : Out} {om : List EndMarks} {bad : Bool}
      (hab : a.e.isOpen = b.e.isOpen) :
      Cross cfg p lm ⟨pre ++ a :: b :: rest, oo, om, bad⟩ pre.length
        ⟨pre ++ { b with e := (intersectPair cfg a.e b.e).2 } :: { a with e := (intersectPair cfg a.e b.e).1 } :: rest, oo, om, bad⟩
  | left {pre rest : List SEdge} {a b : SEdge} {oo : Out} {om : List EndMarks} {bad : Bool}
      {k' : Option Rec} {oo' : Out} {om' : List EndMarks} (ha : a.e.isOpen = true) (hb : b.e.isOpen = false)
      (ht : Toggle cfg (pre ++ a :: b :: rest) pre.length a b p lm oo om k' oo' om') :
      Cross cfg p lm ⟨pre ++ a :: b :: rest, oo, om, bad⟩ pre.length
        ⟨pre ++ b :: { a with e := intersectOpen cfg a.e b.e, orec := k' } :: rest, oo', om', bad⟩
  | right {pre rest : List SEdge} {a b : SEdge} {oo : Out} {om : List EndMarks} {bad : Bool}
      {k' : Option Rec} {oo' : Out} {om' : List EndMarks} (ha : a.e.isOpen = false) (hb : b.e.isOpen = true)
      (ht : Toggle cfg (pre ++ a :: b :: rest) (pre.length + 1) b a p lm oo om k' oo' om') :
      Cross cfg p lm ⟨pre ++ a :: b :: rest, oo, om, bad⟩ pre.length
        ⟨pre ++ { b with e := intersectOpen cfg b.e a.e, orec := k' } :: a :: rest, oo', om', bad⟩

/-- `openStep cfg x op = some x'`, case by case; the AEL is written as the window the event acts on between the untouched `pre` and `rest` / `post`, so that
the position of the event is `pre.length` -/
inductive OpenStep (cfg : Cfg) : OX → OOp → OX → Prop
  | join {x : OX} {i : Nat} {p : Pt} : OpenStep cfg x (.ev (.join i p)) x
  | split {x : OX} {i : Nat} {p : Pt} : OpenStep cfg x (.ev (.split i p)) x
  | pass {x : OX} {i : Nat} {p : Pt} {a : SEdge} (ha : x.ol[i]? = some a) (h : a.e.isOpen = true → a.orec = none) : OpenStep cfg x (.ev (.update i p)) x
  /-- a vertex passed by a hot open edge: `AddOutPt(e, e.top)` -/
  | update {ol : List SEdge} {oo : Out} {om : List EndMarks} {bad : Bool} {i : Nat} {p : Pt} {a : SEdge} {k : Rec}
      (ha : ol[i]? = some a) (hao : a.e.isOpen = true) (hk : a.orec = some k) :
      OpenStep cfg ⟨ol, oo, om, bad⟩ (.ev (.update i p)) ⟨ol, addOutPt k.id k.front p oo, om, bad⟩
  | insertCold {pre post : List SEdge} {oo : Out} {om : List EndMarks} {bad : Bool} {t : PathType} {isOpen : Bool} {dx : Int} {bot : Pt} {r : Edge × Bool}
      (hdx : dx = 1 ∨ dx = -1) (hr : newLeft cfg (erase pre) t isOpen dx = r) (hc : (r.2 && isOpen) = false) :
      OpenStep cfg ⟨pre ++ post, oo, om, bad⟩ (.ev (.base (.insertPair pre.length t isOpen dx) bot))
        ⟨pre ++ ⟨{ r.1 with hot := r.2 }, .none, none⟩ :: ⟨{ pt := t, isOpen := isOpen, dx := -dx, wc := r.1.wc, wc2 := r.1.wc2, hot := r.2 }, .none, none⟩ :: post, oo, om, bad⟩
  /-- a contributing local minimum inside an open path: `AddLocalMinPoly`, one record with both ends held -/
  | insertHot {pre post : List SEdge} {oo : Out} {om : List EndMarks} {bad : Bool} {t : PathType} {dx : Int} {bot : Pt} {r : Edge × Bool}
      (hdx : dx = 1 ∨ dx = -1) (hr : newLeft cfg (erase pre) t true dx = r) (hc : r.2 = true) :
      OpenStep cfg ⟨pre ++ post, oo, om, bad⟩ (.ev (.base (.insertPair pre.length t true dx) bot))
        ⟨pre ++ ⟨{ r.1 with hot := r.2 }, .none, some ⟨oo.rings.length, isFrontDx dx⟩⟩ ::
            ⟨{ pt := t, isOpen := true, dx := -dx, wc := r.1.wc, wc2 := r.1.wc2, hot := r.2 }, .none, some ⟨oo.rings.length, !isFrontDx dx⟩⟩ :: post,
          newRec bot oo, om ++ [⟨none, none⟩], bad⟩
  | beginCold {pre post : List SEdge} {oo : Out} {om : List EndMarks} {bad : Bool} {t : PathType} {dx : Int} {bot : Pt} {r : Edge × Bool}
      (hdx : dx = 1 ∨ dx = -1) (hr : newLeft cfg (erase pre) t true dx = r) (hc : r.2 = false) :
      OpenStep cfg ⟨pre ++ post, oo, om, bad⟩ (.ev (.base (.insertOne pre.length t dx) bot)) ⟨pre ++ ⟨{ r.1 with hot := r.2 }, .none, none⟩ :: post, oo, om, bad⟩
  /-- `StartOpenPath` in `InsertLocalMinimaIntoAEL` -/
  | beginHot {pre post : List SEdge} {oo : Out} {om : List EndMarks} {bad : Bool} {t : PathType} {dx : Int} {bot : Pt} {r : Edge × Bool}
      (hdx : dx = 1 ∨ dx = -1) (hr : newLeft cfg (erase pre) t true dx = r) (hc : r.2 = true) :
      OpenStep cfg ⟨pre ++ post, oo, om, bad⟩ (.ev (.base (.insertOne pre.length t dx) bot))
        ⟨pre ++ ⟨{ r.1 with hot := r.2 }, .none, some ⟨oo.rings.length, isFrontDx dx⟩⟩ :: post, newRec bot oo,
          om ++ [EndMarks.put ⟨none, none⟩ (!isFrontDx dx) (some ⟨bot, .pathStart⟩)], bad⟩
  /-- `IntersectEdges` -/
  | cross {x x' : OX} {i : Nat} {p : Pt} (h : Cross cfg p none x i x') : OpenStep cfg x (.ev (.base (.intersect i) p)) x'
  /-- `IntersectEdges` at the local minimum of the open edge -/
  | crossMin {x x' : OX} {i : Nat} {p : Pt} {e3 : Option Nat} (h : Cross cfg p (some e3) x i x') : OpenStep cfg x (.locMinX i p e3) x'
  | maxCold {pre rest : List SEdge} {a b : SEdge} {oo : Out} {om : List EndMarks} {bad : Bool} {top : Pt}
      (hab : a.e.pt = b.e.pt ∧ a.e.isOpen = b.e.isOpen ∧ a.e.dx + b.e.dx = 0) (hc : a.e.isOpen = true → a.orec = none ∧ b.orec = none) :
      OpenStep cfg ⟨pre ++ a :: b :: rest, oo, om, bad⟩ (.ev (.base (.removePair pre.length) top)) ⟨pre ++ rest, oo, om, bad⟩
  /-- a local maximum of an open path where the C++ misbehaves: one edge hot and one cold, or both on the same side of their records -/
  | maxBad {pre rest : List SEdge} {a b : SEdge} {oo : Out} {om : List EndMarks} {bad : Bool} {top : Pt}
      (hab : a.e.pt = b.e.pt ∧ a.e.isOpen = b.e.isOpen ∧ a.e.dx + b.e.dx = 0) (ha : a.e.isOpen = true)
      (hc : a.orec.isSome ≠ b.orec.isSome ∨ ∃ ra rb, a.orec = some ra ∧ b.orec = some rb ∧ ra.front = rb.front) :
      OpenStep cfg ⟨pre ++ a :: b :: rest, oo, om, bad⟩ (.ev (.base (.removePair pre.length) top)) ⟨pre ++ rest, oo, om, true⟩
  /-- a local maximum inside an open path, both edges hot: `AddLocalMaxPoly`; the record `X` of the edge with `wind_dx < 0` survives, `Y` is emptied -/
  | maxJoin {pre rest : List SEdge} {a b : SEdge} {oo : Out} {om : List EndMarks} {bad : Bool} {top : Pt} {ra rb X Y : Rec}
      (hab : a.e.pt = b.e.pt ∧ a.e.isOpen = b.e.isOpen ∧ a.e.dx + b.e.dx = 0) (ha : a.e.isOpen = true) (hra : a.orec = some ra) (hrb : b.orec = some rb)
      (hf : ra.front ≠ rb.front) (hid : ra.id ≠ rb.id) (hXY : if a.e.dx < 0 then X = ra ∧ Y = rb else X = rb ∧ Y = ra) :
      OpenStep cfg ⟨pre ++ a :: b :: rest, oo, om, bad⟩ (.ev (.base (.removePair pre.length) top))
        ⟨(pre ++ rest).map (relabelFn Y.id X.front X.id), joinPaths X.id Y.id X.front (logSeg .meet rb.id rb.front ra.id ra.front (addOutPt ra.id ra.front top oo)),
          setMark X.id X.front (markAt om Y.id X.front) om, bad⟩
  | endCold {pre rest : List SEdge} {a : SEdge} {oo : Out} {om : List EndMarks} {bad : Bool} {top : Pt} (ha : a.e.isOpen = true) (hn : a.orec = none) :
      OpenStep cfg ⟨pre ++ a :: rest, oo, om, bad⟩ (.ev (.base (.removeOne pre.length) top)) ⟨pre ++ rest, oo, om, bad⟩
  /-- `DoMaxima` / `DoHorizontal` at `IsOpenEnd(e)`, `e` hot: `AddOutPt(e, e.top)` and the end is released -/
  | endHot {pre rest : List SEdge} {a : SEdge} {oo : Out} {om : List EndMarks} {bad : Bool} {top : Pt} {k : Rec} (ha : a.e.isOpen = true) (hk : a.orec = some k) :
      OpenStep cfg ⟨pre ++ a :: rest, oo, om, bad⟩ (.ev (.base (.removeOne pre.length) top))
        ⟨pre ++ rest, addOutPt k.id k.front top oo, setMark k.id k.front (some ⟨top, .pathStop⟩) om, bad⟩

theorem openBranch_spec {r : Option Rec × Out × List EndMarks} (hs : openBranch cfg l io eo ec pt lm oo om = some r) : Toggle cfg l io eo ec pt lm oo om r.1 r.2.1 r.2.2 := by
  unfold openBranch at hs
  by_cases ht : openToggles cfg ec.e = true
  · rw [if_pos ht] at hs
    split at hs
    · next k hk => cases hs; exact .stop ht hk
    · next hn =>
      split at hs
      · next j =>
        split at hs
        · next e3 he3 =>
          obtain ⟨hc, hs⟩ := of_ite_none hs
          split at hs
          · next rr hrr =>
            obtain ⟨hf, hs⟩ := of_ite_none hs
            cases hs; exact .rejoin ht hn rfl he3 hc hrr hf.1 hf.2
          · next hrr => cases hs; exact .start ht hn (fun j' hj' => by cases hj'; exact ⟨e3, he3, hc, hrr⟩)
        · cases hs
      · next hlm => cases hs; exact .start ht hn (fun j' hj' => absurd hj' (hlm j'))
  · rw [if_neg ht] at hs; cases hs; exact .idle (by simpa using ht)

theorem oIntersect_spec (hs : oIntersect cfg i p lm x = some x') :
    Cross cfg p lm x i x' := by
  obtain ⟨ol, oo, om, bad⟩ := x
  unfold oIntersect at hs
  split at hs
  · next a b rest hd =>
    obtain ⟨pre, rfl, rfl⟩ := window_at (by simp) hd
    rw [List.take_left] at hs
    by_cases hab : a.e.isOpen = b.e.isOpen
    · rw [if_pos hab] at hs; cases hs; exact .same hab
    · rw [if_neg hab] at hs
      cases ha : a.e.isOpen with
      | true =>
        have hb : b.e.isOpen = false := by rw [ha] at hab; simpa using hab
        rw [ha, if_pos rfl, intersectPair_oc cfg ha hb] at hs
        split at hs
        · next r hr => cases hs; exact .left ha hb (openBranch_spec hr)
        · cases hs
      | false =>
        have hb : b.e.isOpen = true := by rw [ha] at hab; simpa using hab
        rw [ha, if_neg Bool.false_ne_true, intersectPair_co cfg ha hb] at hs
        split at hs
        · next r hr => cases hs; exact .right ha hb (openBranch_spec hr)
        · cases hs
  · cases hs

theorem oUpdate_spec (hs : oUpdate i p x = some x') : OpenStep cfg x (.ev (.update i p)) x' := by
  obtain ⟨ol, oo, om, bad⟩ := x
  unfold oUpdate at hs
  split at hs
  · next a ha =>
    split at hs
    · next hao =>
      split at hs
      · next k hk => cases hs; exact .update ha hao hk
      · next hn => cases hs; exact .pass ha (fun _ => hn)
    · next hao => cases hs; exact .pass ha (fun h => absurd h hao)
  · cases hs

theorem oInsertPair_spec {pos : Nat} {t : PathType} {isOpen : Bool} {dx : Int}
    (hs : oInsertPair cfg pos t isOpen dx p x = some x') : OpenStep cfg x (.ev (.base (.insertPair pos t isOpen dx) p)) x' := by
  obtain ⟨ol, oo, om, bad⟩ := x
  unfold oInsertPair at hs
  obtain ⟨hc, hs⟩ := of_ite_none hs
  obtain ⟨pre, post, rfl, rfl⟩ := split_at ol hc.1
  simp only [List.take_left, List.drop_left] at hs
  split at hs
  · next hh =>
    cases hs
    obtain ⟨h1, rfl⟩ := Bool.and_eq_true_iff.mp hh
    exact .insertHot hc.2 rfl h1
  · next hh => cases hs; exact .insertCold hc.2 rfl (Bool.not_eq_true _ ▸ hh)

theorem oInsertOne_spec {pos : Nat} {t : PathType} {dx : Int}
    (hs : oInsertOne cfg pos t dx p x = some x') : OpenStep cfg x (.ev (.base (.insertOne pos t dx) p)) x' := by
  obtain ⟨ol, oo, om, bad⟩ := x
  unfold oInsertOne at hs
  obtain ⟨hc, hs⟩ := of_ite_none hs
  obtain ⟨pre, post, rfl, rfl⟩ := split_at ol hc.1
  simp only [List.take_left, List.drop_left] at hs
  split at hs
  · next hh => cases hs; exact .beginHot hc.2 rfl hh
  · next hh => cases hs; exact .beginCold hc.2 rfl (Bool.not_eq_true _ ▸ hh)

theorem oRemovePair_spec (hs : oRemovePair i p x = some x') : OpenStep cfg x (.ev (.base (.removePair i) p)) x' := by
  obtain ⟨ol, oo, om, bad⟩ := x
  unfold oRemovePair at hs
  split at hs
  · next a b rest hd =>
    obtain ⟨pre, rfl, rfl⟩ := window_at (by simp) hd
    obtain ⟨hab, hs⟩ := of_ite_none hs
    rw [List.take_left] at hs
    by_cases ha : a.e.isOpen = true
    · rw [if_pos ha] at hs
      rcases hra : a.orec with _ | ra <;> rcases hrb : b.orec with _ | rb <;> simp only [hra, hrb] at hs
      · cases hs; exact .maxCold hab (fun _ => ⟨hra, hrb⟩)
      · cases hs; exact .maxBad hab ha (Or.inl (by simp [hra, hrb]))
      · cases hs; exact .maxBad hab ha (Or.inl (by simp [hra, hrb]))
      · by_cases hf : ra.front = rb.front
        · rw [if_pos hf] at hs; cases hs; exact .maxBad hab ha (Or.inr ⟨ra, rb, hra, hrb, hf⟩)
        · rw [if_neg hf] at hs
          by_cases hid : ra.id = rb.id
          · rw [if_pos hid] at hs; cases hs
          · rw [if_neg hid] at hs; cases hs
            exact .maxJoin hab ha hra hrb hf hid (by split <;> exact ⟨rfl, rfl⟩)
    · rw [if_neg ha] at hs; cases hs; exact .maxCold hab (fun h => absurd h ha)
  · cases hs

theorem oRemoveOne_spec (hs : oRemoveOne i p x = some x') : OpenStep cfg x (.ev (.base (.removeOne i) p)) x' := by
  obtain ⟨ol, oo, om, bad⟩ := x
  unfold oRemoveOne at hs
  split at hs
  · next a rest hd =>
    obtain ⟨pre, rfl, rfl⟩ := window_at (by simp) hd
    simp only [List.take_left] at hs
    split at hs
    · next ha =>
      split at hs
      · next k hk => cases hs; exact .endHot ha hk
      · next hn => cases hs; exact .endCold ha hn
    · cases hs
  · cases hs

/-- every accepted event is one of the cases of `OpenStep`; the converse is not needed and not proved -/
theorem openStep_spec (hs : openStep cfg x op = some x') : OpenStep cfg x op x' := by
  cases op with
  | locMinX i p e3 => exact .crossMin (oIntersect_spec hs)
  | ev o =>
    cases o with
    | join i p => cases hs; exact .join
    | split i p => cases hs; exact .split
    | update i p => exact oUpdate_spec hs
    | base b p =>
      cases b with
      | intersect i => exact .cross (oIntersect_spec hs)
      | insertPair pos t isOpen dx => exact oInsertPair_spec hs
      | insertOne pos t dx => exact oInsertOne_spec hs
      | removePair i => exact oRemovePair_spec hs
      | removeOne i => exact oRemoveOne_spec hs

theorem runO_cons {st st' : OState} {ops : List OOp} (h : runO cfg st (op :: ops) = .ok st') :
    ∃ st1, stepO cfg st op = .ok st1 ∧ runO cfg st1 ops = .ok st' := by
  unfold runO at h
  split at h
  · next st1 hs => exact ⟨st1, hs, h⟩
  · cases h

theorem cross_erase (h : Cross cfg p lm x i x') :
    intersect cfg i (erase x.ol) = some (erase x'.ol) := by
  cases h with
  | same => exact intersect_erase cfg _ _ _ _ _ _ rfl
  | left ha hb => exact intersect_erase cfg _ _ _ _ _ _ (intersectPair_oc cfg ha hb)
  | right ha hb => exact intersect_erase cfg _ _ _ _ _ _ (intersectPair_co cfg ha hb)

theorem openStep_erase (h : OpenStep cfg x op x') :
    match op.base with
    | some b => step cfg (erase x.ol) b = some (erase x'.ol)
    | none => erase x'.ol = erase x.ol := by
  cases h with
  | join | split | pass | update => rfl
  | insertCold hdx hr | insertHot hdx hr => exact insertPair_erase cfg _ _ _ _ _ hdx _ hr _ _ rfl rfl
  | beginCold hdx hr | beginHot hdx hr => exact insertOne_erase cfg _ _ _ _ hdx _ hr _ rfl
  | cross h | crossMin h => exact cross_erase h
  | maxCold hab | maxBad hab => exact removePair_erase _ _ _ _ hab
  | maxJoin hab => rw [erase_map_shape (shapePres_relabel _ _ _)]; exact removePair_erase _ _ _ _ hab
  | endCold ha | endHot ha => exact removeOne_erase _ _ _ ha

theorem pres_toggle (hp : OPrim pt P) (ht : Toggle cfg l io eo ec pt lm oo om k' oo' om') (h : P oo) : P oo' := by
  cases ht with
  | idle => exact h
  | stop => exact hp.addOutPt _ _ _ h
  | start => exact hp.newRec _ h
  | rejoin => exact hp.handOver _ _ _ h

theorem pres_cross (hp : OPrim pt P) (hs : Cross cfg pt lm x i x')
    (h : P x.oo) : P x'.oo := by
  cases hs with
  | same => exact h
  | left _ _ ht | right _ _ ht => exact pres_toggle hp ht h

theorem pres_openStep (hs : OpenStep cfg x op x') (P : Out → Prop) (hp : OPrim op.pt P) (h : P x.oo) : P x'.oo := by
  cases hs with
  | join | split | pass | insertCold | beginCold | maxCold | maxBad | endCold => exact h
  | update | endHot => exact hp.addOutPt _ _ _ h
  | insertHot | beginHot => exact hp.newRec _ h
  | cross hc | crossMin hc => exact pres_cross hp hc h
  | maxJoin => exact hp.joinPaths _ _ _ _ (hp.logMeet _ _ _ _ _ (hp.addOutPt _ _ _ h))

theorem olocal_toggle (ht : Toggle cfg l io eo ec pt lm oo om k' oo' om') (h : OLocal eo) (ho : eo.e.isOpen = true) :
    OLocal { eo with e := intersectOpen cfg eo.e ec.e, orec := k' } := by
  obtain ⟨hj, hdx, hhot, hfr⟩ : eo.join = .none ∧ _ := ⟨h.1, h.2.2 ho⟩
  rw [intersectOpen_eq_toggles]
  cases ht with
  | idle ht => rw [ht, if_neg Bool.false_ne_true]; exact h
  | stop ht hk =>
    rw [if_pos ht]
    rw [hk] at hhot
    exact ⟨hj, fun _ => rfl, fun _ => ⟨hdx, by rw [← hhot]; rfl, fun _ hk' => by cases hk'⟩⟩
  | start ht hn =>
    rw [if_pos ht]; rw [hn] at hhot
    exact ⟨hj, fun hc => (by rw [ho] at hc; cases hc), fun _ => ⟨hdx, by rw [← hhot]; rfl, fun _ hk' => by cases hk'; rfl⟩⟩
  | rejoin ht hn =>
    rw [if_pos ht]; rw [hn] at hhot
    exact ⟨hj, fun hc => (by rw [ho] at hc; cases hc), fun _ => ⟨hdx, by rw [← hhot]; rfl, fun _ hk' => by cases hk'; rfl⟩⟩

/-- `c0` counts the holders among the edges other than `eo` -/
theorem recInv_toggle (ht : Toggle cfg l io eo ec pt lm oo om k' oo' om') (h : RecInv l oo om) (c0 : Nat × Bool → Nat)
    (hl : ∀ key, cnt key l = c0 key + kc eo.orec key) (hl' : ∀ key, cnt key l' = c0 key + kc k' key) : RecInv l' oo' om' := by
  cases ht with
  | idle => exact h.congr (fun key => by rw [hl, hl'])
  | stop _ hk => exact recInv_stop _ pt _ rfl h (fun key => by rw [hl, hl', hk, kc_none]; rfl)
  | start _ hn => exact recInv_start pt _ _ rfl h (fun key => by rw [hl, hl', hn, kc_none]; rfl)
  | @rejoin _ e3 rr _ hn _ he3 _ hrr hfr hfree =>
    refine recInv_rejoin ⟨rr.id, isFrontDx eo.e.dx⟩ h ?_ hfree (fun key => by rw [hl, hl', hn, kc_none]; rfl)
    rw [← hfr]; exact holder_cnt l e3 rr (mem_of_get _ _ _ he3) hrr

theorem xinv_cross (hs : Cross cfg p lm x i x') (h : XInv x) : XInv x' ∧ x'.bad = x.bad := by
  obtain ⟨hloc, hrec⟩ := h
  cases hs with
  | same hab =>
    refine ⟨⟨?_, hrec.congr (fun key => by rw [cnt_insert2, cnt_insert2, Nat.add_right_comm])⟩, rfl⟩
    obtain ⟨la, lb, lrest⟩ := forall_mem_insert2.mp hloc
    have := olocal_ipair cfg _ _ hab la lb
    exact forall_mem_insert2.mpr ⟨this.1, this.2, lrest⟩
  | @left pre rest _ b _ _ _ _ _ _ ha _ ht =>
    refine ⟨⟨?_, recInv_toggle ht hrec (fun key => cnt key (pre ++ rest) + kc b.orec key) (fun key => by rw [cnt_insert2, Nat.add_right_comm])
        (fun key => cnt_insert2 key _ _ _ _)⟩, rfl⟩
    obtain ⟨la, lb, lrest⟩ := forall_mem_insert2.mp hloc
    exact forall_mem_insert2.mpr ⟨lb, olocal_toggle ht la ha, lrest⟩
  | @right pre rest a _ _ _ _ _ _ _ _ hb ht =>
    refine ⟨⟨?_, recInv_toggle ht hrec (fun key => cnt key (pre ++ rest) + kc a.orec key) (fun key => cnt_insert2 key _ _ _ _)
        (fun key => by rw [cnt_insert2, Nat.add_right_comm])⟩, rfl⟩
    obtain ⟨la, lb, lrest⟩ := forall_mem_insert2.mp hloc
    exact forall_mem_insert2.mpr ⟨olocal_toggle ht lb hb, la, lrest⟩

theorem xinv_openStep (hs : OpenStep cfg x op x') (h : XInv x) (hhot : AdjOpenAgree x.ol) : XInv x' ∧ x'.bad = x.bad := by
  obtain ⟨hloc, hrec⟩ := h
  cases hs with
  | join | split | pass => exact ⟨⟨hloc, hrec⟩, rfl⟩
  | update ha _ hk => exact ⟨⟨hloc, recInv_addOutPt _ _ hrec (holder_cnt _ _ _ (mem_of_get _ _ _ ha) hk)⟩, rfl⟩
  | @insertCold _ _ _ _ _ _ isOpen _ _ r hdx hr hc =>
    refine ⟨⟨?_, hrec.congr (fun key => cnt_insert2 key _ _ _ _)⟩, rfl⟩
    obtain ⟨g2, g3⟩ := newLeft_bound hr
    have cold : isOpen = true → r.2 = false := fun ho => by rw [ho, Bool.and_true] at hc; exact hc
    exact forall_mem_insert2.mpr ⟨olocal_cold _ (g3 ▸ hdx) (fun ho => cold (g2 ▸ ho)), olocal_cold _ (neg_unit hdx) cold, hloc⟩
  | @insertHot _ _ _ _ _ _ dx _ _ hdx hr hc =>
    refine ⟨⟨?_, recInv_pair _ (isFrontDx dx) hrec (fun key => cnt_insert2 key _ _ _ _)⟩, rfl⟩
    obtain ⟨g2, g3⟩ := newLeft_bound hr
    exact forall_mem_insert2.mpr ⟨olocal_hot _ _ _ g2 (g3 ▸ hdx) hc (congrArg isFrontDx g3).symm,
      olocal_hot _ _ _ rfl (neg_unit hdx) hc (isFrontDx_neg _ hdx).symm, hloc⟩
  | beginCold hdx hr hc =>
    refine ⟨⟨?_, hrec.congr (fun key => cnt_insert1 key _ _ _)⟩, rfl⟩
    exact forall_mem_insert1.mpr ⟨olocal_cold _ ((newLeft_bound hr).2 ▸ hdx) (fun _ => hc), hloc⟩
  | beginHot hdx hr hc =>
    refine ⟨⟨?_, recInv_start _ _ _ rfl hrec (fun key => cnt_insert1 key _ _ _)⟩, rfl⟩
    obtain ⟨g2, g3⟩ := newLeft_bound hr
    exact forall_mem_insert1.mpr ⟨olocal_hot _ _ _ g2 (g3 ▸ hdx) hc (congrArg isFrontDx g3).symm, hloc⟩
  | cross hc | crossMin hc => exact xinv_cross hc ⟨hloc, hrec⟩
  | @maxCold _ _ a b _ _ _ _ hab hc =>
    obtain ⟨la, lb, lrest⟩ := forall_mem_insert2.mp hloc
    have hn : a.orec = none ∧ b.orec = none := by
      cases hao : a.e.isOpen with
      | true => exact hc hao
      | false => exact ⟨la.2.1 hao, lb.2.1 (hab.2.1 ▸ hao)⟩
    exact ⟨⟨lrest, hrec.congr (fun key => by rw [cnt_insert2, hn.1, hn.2]; rfl)⟩, rfl⟩
  | @maxBad _ _ a b _ _ _ _ hab ha hc =>
    exfalso
    obtain ⟨la, lb, _⟩ := forall_mem_insert2.mp hloc
    have hb : b.e.isOpen = true := hab.2.1 ▸ ha
    obtain ⟨hda, hha, hfa⟩ := la.2.2 ha
    obtain ⟨_, hhb, hfb⟩ := lb.2.2 hb
    rcases hc with hc | ⟨ra, rb, hra, hrb, hf⟩
    · exact hc (by rw [hha, hhb]; exact hhot _ _ _ _ rfl ha hb)
    · rw [hfa ra hra, hfb rb hrb, show b.e.dx = -a.e.dx by omega, isFrontDx_neg _ hda] at hf
      exact (Bool.eq_not_self _).mp hf
  | maxJoin _ _ hra hrb hf hid hXY =>
    refine ⟨⟨?_, recInv_join _ _ _ _ _ hrec (or_of_ite hXY) hf hid
      (fun key => by rw [cnt_insert2, hra, hrb])⟩, rfl⟩
    obtain ⟨_, _, lrest⟩ := forall_mem_insert2.mp hloc
    intro y' hy'
    obtain ⟨y, hy, rfl⟩ := List.mem_map.mp hy'
    exact olocal_relabel _ _ _ y (lrest y hy)
  | endCold _ hn =>
    exact ⟨⟨(forall_mem_insert1.mp hloc).2, hrec.congr (fun key => by rw [cnt_insert1, hn]; rfl)⟩, rfl⟩
  | endHot _ hk =>
    exact ⟨⟨(forall_mem_insert1.mp hloc).2, recInv_stop _ _ _ rfl hrec (fun key => by rw [cnt_insert1, hk])⟩, rfl⟩

/-- the event concerns an open edge -/
def IsOpenEv (x : OX) : OOp → Prop
  | .ev (.base (.insertPair _ _ isOpen _) _) => isOpen = true
  | .ev (.base (.insertOne _ _ _) _) => True
  | .ev (.base (.intersect i) _) => ∃ a b rest, x.ol.drop i = a :: b :: rest ∧ a.e.isOpen ≠ b.e.isOpen
  | .locMinX i _ _ => ∃ a b rest, x.ol.drop i = a :: b :: rest ∧ a.e.isOpen ≠ b.e.isOpen
  | .ev (.base (.removePair i) _) => ∃ a rest, x.ol.drop i = a :: rest ∧ a.e.isOpen = true
  | .ev (.base (.removeOne _) _) => True
  | .ev (.update i _) => ∃ a, x.ol[i]? = some a ∧ a.e.isOpen = true
  | .ev (.join _ _) => False
  | .ev (.split _ _) => False

theorem cross_noop (hs : Cross cfg p lm x i x') :
    (∃ a b rest, x.ol.drop i = a :: b :: rest ∧ a.e.isOpen ≠ b.e.isOpen) ∨ (x'.oo = x.oo ∧ x'.om = x.om) := by
  cases hs with
  | same => exact Or.inr ⟨rfl, rfl⟩
  | left ha hb | right ha hb => exact Or.inl ⟨_, _, _, List.drop_left, by rw [ha, hb]; decide⟩

theorem openStep_noop (hs : OpenStep cfg x op x') : IsOpenEv x op ∨ (x'.oo = x.oo ∧ x'.om = x.om) := by
  cases hs with
  | join | split | pass | insertCold | maxCold | maxBad => exact Or.inr ⟨rfl, rfl⟩
  | update ha hao => exact Or.inl ⟨_, ha, hao⟩
  | insertHot => exact Or.inl rfl
  | beginCold | beginHot | endCold | endHot => exact Or.inl trivial
  | cross hc | crossMin hc => exact cross_noop hc
  | maxJoin _ ha => exact Or.inl ⟨_, _, List.drop_left, ha⟩

theorem log_step (hs : OpenStep cfg x op x') : ∀ e ∈ x'.oo.log, e ∈ x.oo.log ∨ (e.pt = op.pt ∧ IsOpenEv x op) := by
  intro e he
  rcases openStep_noop hs with hop | ⟨h1, _⟩
  · exact (pres_openStep hs (LogFrom x.oo.log op.pt) (OPrim.of (logFrom_prim x.oo.log op.pt)) (fun e he => Or.inl he) e he).imp_right (fun h => ⟨h, hop⟩)
  · rw [h1] at he; exact Or.inl he

/-- the open edge of the pair at `i` crosses the closed one and toggles; `wasHot` = it owned a record before -/
def IsCut (cfg : Cfg) (x : OX) (op : OOp) (wasHot : Bool) : Prop :=
  ∃ i, op.erase = .base (.intersect i) op.pt ∧ ∃ a b rest, x.ol.drop i = a :: b :: rest ∧
    ((a.e.isOpen = true ∧ b.e.isOpen = false ∧ openToggles cfg b.e = true ∧ a.orec.isSome = wasHot) ∨
     (a.e.isOpen = false ∧ b.e.isOpen = true ∧ openToggles cfg a.e = true ∧ b.orec.isSome = wasHot))

/-- the event that fixed the end marked `m` -/
def MarkEv (cfg : Cfg) (x : OX) (op : OOp) (m : Mark) : Prop :=
  op.pt = m.pt ∧
  match m.kind with
  | .pathStart => ∃ pos t dx, op = .ev (.base (.insertOne pos t dx) m.pt) ∧ (newLeft cfg (erase (x.ol.take pos)) t true dx).2 = true
  | .pathStop => ∃ i a rest, op = .ev (.base (.removeOne i) m.pt) ∧ x.ol.drop i = a :: rest ∧ a.e.isOpen = true ∧ a.orec.isSome = true
  | .cutStart => IsCut cfg x op false
  | .cutStop => IsCut cfg x op true

theorem toggle_marks (ht : Toggle cfg l io eo ec pt lm oo om k' oo' om') {k : Nat} {f : Bool} {m : Mark} (hm : markAt om' k f = some m) :
    markAt om k f = some m ∨ (openToggles cfg ec.e = true ∧ m = ⟨pt, if eo.orec.isSome then .cutStop else .cutStart⟩) := by
  cases ht with
  | idle => exact Or.inl hm
  | @stop k ht hk =>
    rcases markAt_setMark_cases hm with h | h
    · cases h; exact Or.inr ⟨ht, by rw [hk]; rfl⟩
    · exact Or.inl h
  | start ht hn =>
    rcases markAt_append_cases hm with h | h
    · exact Or.inl h
    · rw [side_put] at h
      split at h
      · cases h; exact Or.inr ⟨ht, by rw [hn]; rfl⟩
      · cases f <;> cases h
  | rejoin =>
    rcases markAt_setMark_cases hm with h | h
    · cases h
    · exact Or.inl h

theorem markEv_cut (he : op.erase = .base (.intersect i) p) (hp : op.pt = p) {a b : SEdge} {rest : List SEdge}
    (hd : x.ol.drop i = a :: b :: rest)
    (hside : (eo = a ∧ ec = b ∧ a.e.isOpen = true ∧ b.e.isOpen = false) ∨ (eo = b ∧ ec = a ∧ a.e.isOpen = false ∧ b.e.isOpen = true))
    (ht : openToggles cfg ec.e = true) : MarkEv cfg x op ⟨p, if eo.orec.isSome then .cutStop else .cutStart⟩ := by
  refine ⟨hp, ?_⟩
  have cut : ∀ w, eo.orec.isSome = w → IsCut cfg x op w := by
    intro w hw
    refine ⟨i, by rw [he, hp], a, b, rest, hd, ?_⟩
    rcases hside with ⟨rfl, rfl, ha, hb⟩ | ⟨rfl, rfl, ha, hb⟩
    · exact Or.inl ⟨ha, hb, ht, hw⟩
    · exact Or.inr ⟨ha, hb, ht, hw⟩
  cases hw : eo.orec.isSome with
  | true => exact cut true hw
  | false => exact cut false hw

theorem mark_cross (hs : Cross cfg p lm x i x')
    (he : op.erase = .base (.intersect i) p) (hp : op.pt = p) {k : Nat} {f : Bool} {m : Mark} (hm : markAt x'.om k f = some m) :
    (∃ k' f', markAt x.om k' f' = some m) ∨ MarkEv cfg x op m := by
  cases hs with
  | same => exact Or.inl ⟨k, f, hm⟩
  | left ha hb ht | right ha hb ht =>
    rcases toggle_marks ht hm with h | ⟨h1, rfl⟩
    · exact Or.inl ⟨k, f, h⟩
    · exact Or.inr (markEv_cut he hp List.drop_left (by simp [ha, hb]) h1)

/-- an old mark may sit on another record afterwards: `JoinOutrecPaths` hands it on -/
theorem mark_step (hs : OpenStep cfg x op x') {k : Nat} {f : Bool} {m : Mark} (hm : markAt x'.om k f = some m) :
    (∃ k' f', markAt x.om k' f' = some m) ∨ MarkEv cfg x op m := by
  cases hs with
  | join | split | pass | update | insertCold | beginCold | maxCold | maxBad | endCold => exact Or.inl ⟨k, f, hm⟩
  | cross hc | crossMin hc => exact mark_cross hc rfl rfl hm
  | insertHot =>
    rcases markAt_append_cases hm with h | h
    · exact Or.inl ⟨k, f, h⟩
    · cases f <;> cases h
  | beginHot _ hr hc =>
    rcases markAt_append_cases hm with h | h
    · exact Or.inl ⟨k, f, h⟩
    · rw [side_put] at h
      split at h
      · cases h; exact Or.inr ⟨rfl, _, _, _, rfl, by rw [List.take_left, hr]; exact hc⟩
      · cases f <;> cases h
  | maxJoin =>
    rcases markAt_setMark_cases hm with h | h
    · exact Or.inl ⟨_, _, h⟩
    · exact Or.inl ⟨k, f, h⟩
  | endHot ha hk =>
    rcases markAt_setMark_cases hm with h | h
    · cases h; exact Or.inr ⟨rfl, _, _, _, rfl, List.drop_left, ha, by rw [hk]; rfl⟩
    · exact Or.inl ⟨k, f, h⟩

end events

theorem dedupFrom_pairs (l : List Pt) : ∀ (last : Pt) (pq : Pt × Pt), pq ∈ linPairs (last :: dedupFrom last l) → pq ∈ linPairs (last :: l) ∧ pq.1 ≠ pq.2 := by
  induction l with
  | nil => intro last pq h; simp [dedupFrom, linPairs] at h
  | cons p ps ih =>
    intro last pq h
    simp only [dedupFrom] at h
    split at h
    · next e =>
      subst e
      have := ih p pq h
      refine ⟨?_, this.2⟩
      rw [linPairs_cons_cons]
      exact List.mem_cons_of_mem _ this.1
    · next ne =>
      rw [linPairs_cons_cons] at h ⊢
      rcases List.mem_cons.mp h with rfl | h
      · exact ⟨List.mem_cons_self, fun e => ne e.symm⟩
      · have := ih p pq h
        exact ⟨List.mem_cons_of_mem _ this.1, this.2⟩

theorem dedup_pairs (l : List Pt) (pq : Pt × Pt) (h : pq ∈ linPairs (dedup l)) : pq ∈ linPairs l ∧ pq.1 ≠ pq.2 := by
  cases l with
  | nil => simp [dedup, linPairs] at h
  | cons p ps => exact dedupFrom_pairs ps p pq h

theorem dedupFrom_mem (l : List Pt) : ∀ (last : Pt) (p : Pt), p ∈ dedupFrom last l → p ∈ l := by
  induction l with
  | nil => intro last p h; simp [dedupFrom] at h
  | cons q qs ih =>
    intro last p h
    simp only [dedupFrom] at h
    split at h
    · exact List.mem_cons_of_mem _ (ih _ p h)
    · rcases List.mem_cons.mp h with rfl | h
      · exact List.mem_cons_self
      · exact List.mem_cons_of_mem _ (ih _ p h)

theorem dedup_mem (l : List Pt) (p : Pt) (h : p ∈ dedup l) : p ∈ l := by
  cases l with
  | nil => simp [dedup] at h
  | cons q qs =>
    simp only [dedup] at h
    rcases List.mem_cons.mp h with rfl | h
    · exact List.mem_cons_self
    · exact List.mem_cons_of_mem _ (dedupFrom_mem qs q p h)

theorem dedup_head (l : List Pt) : (dedup l).head? = l.head? := by cases l <;> simp [dedup]

/-- the last point survives: `dedupFrom` drops a point only when it equals the last one kept -/
theorem dedupFrom_getLast (l : List Pt) : ∀ (last : Pt), (last :: dedupFrom last l).getLast? = (last :: l).getLast? := by
  induction l with
  | nil => intro last; simp [dedupFrom]
  | cons p ps ih =>
    intro last
    simp only [dedupFrom]
    split
    · next e =>
      subst e
      rw [ih p]
      simp [List.getLast?_cons_cons]
    · rw [List.getLast?_cons_cons, ih p, List.getLast?_cons_cons]

theorem dedup_getLast (l : List Pt) : (dedup l).getLast? = l.getLast? := by
  cases l with
  | nil => simp [dedup]
  | cons p ps => exact dedupFrom_getLast ps p

theorem mem_linPairs_reverse (l : List Pt) (p q : Pt) : (p, q) ∈ linPairs l.reverse ↔ (q, p) ∈ linPairs l := by
  -- `linPairs_reverse` for the property "the mirrored pair is a pair of `l`", which every pair of `l` has once mirrored back
  have mp : ∀ (l : List Pt) p q, (p, q) ∈ linPairs l.reverse → (q, p) ∈ linPairs l := fun l p q h =>
    (linPairs_iff_mem (fun a b => (b, a) ∈ linPairs l) l.reverse).mp
      ((Lemmas.CleanUp.linPairs_reverse _ l).mpr ((linPairs_iff_mem _ l).mpr fun _ h => h)) (p, q) h
  exact ⟨mp l p q, fun h => mp l.reverse q p (by rwa [List.reverse_reverse])⟩

theorem buildOpenPath_some {rev : Bool} {pts P : List Pt} (h : buildOpenPath rev pts = some P) : P = dedup (if rev then pts else pts.reverse) := by
  unfold buildOpenPath at h
  split at h
  · cases h
  · cases h
  · cases h; rfl

end Clipper.Model

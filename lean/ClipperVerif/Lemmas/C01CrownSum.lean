/-
SUMS OVER THE OUTPUT RECORDS THROUGH THE PRIMITIVES OF `Model/AelRings.lean`.

THE RAY SUM.  For an antisymmetric weight `c a b` of the directed segment `a → b` (`Wt`; the instance is `Spec.crossing` around a probe point)

    `phi c o` = Σ over the records of `o`:  the sum of `c` over the consecutive pairs of the ring list (`lin`), plus the closing pair
                (last, first) when the ring is finished (`cyc`)

changes exactly by the weight of the pair of points that BECOME NEIGHBOURS: `AddOutPt` adds `c` of (old end point, new point) in the
direction of that end (`dcr`); closing a ring and `JoinOutrecPaths` make the end point of one ring end the neighbour of the end point of
an opposite ring end (`phi_finish`, `phi_joinPaths`: the same increment); `NewOutRec`, `SwapOutrecs` and the ghost log add nothing.
`AddLocalMaxPoly(e1, e2, pt)` emits on `e1` only; the end point of `e2`'s ring end becomes the neighbour of `pt` by closing the ring or by
`JoinOutrecPaths` — in all three branches the ray sum grows by the weight of BOTH pairs (old end point, `pt`), each read in the direction
of its ring end (`phi_localMaxOut`).

COUNTING.  `liveN` = number of rings under construction, `hotN` = number of edges of the AEL that own a ring end: `NewOutRec` adds one
ring under construction, closing a ring and `JoinOutrecPaths` remove one, nothing else changes the number.  A record emptied by
`JoinOutrecPaths` has no points (`GoneEmpty`).  Core Lean only.
-/
import ClipperVerif.Lemmas.C01OutputStep
namespace Clipper.Lemmas.C01Crown
open Clipper Clipper.Model Clipper.Lemmas.C01Output

/-- an antisymmetric weight of directed segments -/
structure Wt (c : Pt → Pt → Int) : Prop where
  self : ∀ a, c a a = 0
  swap : ∀ a b, c b a = -c a b

/-- sum of the weight over the consecutive pairs of a list -/
def lin (c : Pt → Pt → Int) : List Pt → Int
  | [] => 0
  | [_] => 0
  | a :: b :: t => c a b + lin c (b :: t)

/-- weight of the pair (last of `l1`, first of `l2`) -/
def seam (c : Pt → Pt → Int) (l1 l2 : List Pt) : Int :=
  match l1.getLast?, l2.head? with
  | some a, some b => c a b
  | _, _ => 0

/-- sum of the weight over the cyclically consecutive pairs -/
def cyc (c : Pt → Pt → Int) (l : List Pt) : Int := lin c l + seam c l l

theorem seam_nil_left (c : Pt → Pt → Int) (l : List Pt) : seam c [] l = 0 := rfl
theorem seam_nil_right (c : Pt → Pt → Int) (l : List Pt) : seam c l [] = 0 := by
  unfold seam; cases l.getLast? <;> rfl

theorem seam_of {c : Pt → Pt → Int} {l1 l2 : List Pt} {a b : Pt} (h1 : l1.getLast? = some a) (h2 : l2.head? = some b) :
    seam c l1 l2 = c a b := by simp only [seam, h1, h2]

theorem seam_cons_cons (c : Pt → Pt → Int) (a b : Pt) (t l : List Pt) : seam c (a :: b :: t) l = seam c (b :: t) l := by
  simp only [seam, List.getLast?_cons_cons]

theorem lin_cons (c : Pt → Pt → Int) (p : Pt) (l : List Pt) : lin c (p :: l) = seam c [p] l + lin c l := by
  cases l with
  | nil => rfl
  | cons b t => rfl

theorem lin_append (c : Pt → Pt → Int) (l1 l2 : List Pt) : lin c (l1 ++ l2) = lin c l1 + lin c l2 + seam c l1 l2 := by
  induction l1 with
  | nil => rw [List.nil_append, seam_nil_left, lin]; omega
  | cons a t ih =>
    cases t with
    | nil => rw [List.singleton_append, lin_cons, lin]; omega
    | cons b t' =>
      rw [seam_cons_cons]
      simp only [List.cons_append, lin] at ih ⊢
      omega

/-- the ray sum of a closed path is `cyc` -/
theorem zip_sum (c : Pt → Pt → Int) (rest : List Pt) (x : Pt) : ∀ a : Pt,
    (((a :: rest).zip (rest ++ [x])).map (fun e => c e.1 e.2)).sum = lin c (a :: rest) + seam c (a :: rest) [x] := by
  induction rest with
  | nil => intro a; simp [lin, seam]
  | cons b t ih =>
    intro a
    have := ih b
    rw [seam_cons_cons]
    simp only [List.cons_append, List.zip_cons_cons, List.map_cons, List.sum_cons, lin] at this ⊢
    omega

theorem windPath_eq_cyc (path : Path) (p : Pt) : windPath path p = cyc (crossing p) path := by
  cases path with
  | nil => rfl
  | cons a rest =>
    unfold windPath edgesOf cyc
    rw [zip_sum]
    simp [seam]

theorem cyc_rotate (c : Pt → Pt → Int) (init : List Pt) (b : Pt) : cyc c (b :: init) = cyc c (init ++ [b]) := by
  cases init with
  | nil => rfl
  | cons h t =>
    unfold cyc
    have e2 : seam c ((h :: t) ++ [b]) ((h :: t) ++ [b]) = c b h :=
      seam_of (by rw [List.getLast?_append]; rfl) rfl
    rw [lin_append, lin_cons, seam_cons_cons, e2]
    simp only [lin, seam, List.getLast?_singleton, List.head?_cons]
    omega

theorem lin_reverse {c : Pt → Pt → Int} (hc : Wt c) (l : List Pt) : lin c l.reverse = -lin c l := by
  induction l with
  | nil => rfl
  | cons a t ih =>
    have : seam c t.reverse [a] = -seam c [a] t := by
      cases t with
      | nil => rfl
      | cons b t' =>
        simp only [seam, List.getLast?_reverse, List.head?_cons, List.getLast?_singleton]
        exact hc.swap a b
    rw [List.reverse_cons, lin_append, ih, this, lin_cons c a t]
    simp only [lin]
    omega

theorem cyc_reverse {c : Pt → Pt → Int} (hc : Wt c) (l : List Pt) : cyc c l.reverse = -cyc c l := by
  unfold cyc
  rw [lin_reverse hc]
  have : seam c l.reverse l.reverse = -seam c l l := by
    simp only [seam, List.getLast?_reverse, List.head?_reverse]
    cases l.head? with
    | none => cases l.getLast? <;> rfl
    | some a =>
      cases l.getLast? with
      | none => rfl
      | some b => exact hc.swap b a
  rw [this]; omega

theorem lin_eq_zero {c : Pt → Pt → Int} (l : List Pt) (h : ∀ a ∈ l, ∀ b ∈ l, c a b = 0) : lin c l = 0 := by
  induction l with
  | nil => rfl
  | cons a t ih =>
    cases t with
    | nil => rfl
    | cons b t' =>
      rw [lin, h a (by simp) b (by simp), ih (fun x hx y hy => h x (List.mem_cons_of_mem _ hx) y (List.mem_cons_of_mem _ hy))]
      rfl

/-- the ray sum of one record -/
def val (c : Pt → Pt → Int) (g : Ring) : Int := if g.stat = .done then cyc c g.pts else lin c g.pts

/-- the ray sum of all records -/
def phi (c : Pt → Pt → Int) (o : Out) : Int := (o.rings.map (val c)).sum

/-- weight of the pair (end point `e`, new point `pt`) read in ring order: at the front end the new point comes first -/
def dcr (c : Pt → Pt → Int) (f : Bool) (e pt : Pt) : Int := if f then c pt e else c e pt

theorem dcr_not (c : Pt → Pt → Int) (f : Bool) (a b : Pt) : dcr c (!f) a b = dcr c f b a := by cases f <;> rfl

def lv1 (g : Ring) : Int := if g.stat = .live then 1 else 0

/-- number of rings under construction -/
def liveN (o : Out) : Int := (o.rings.map lv1).sum

theorem val_live {c : Pt → Pt → Int} {g : Ring} (h : g.stat = .live) : val c g = lin c g.pts := by simp [val, h]

theorem val_mk_live {c : Pt → Pt → Int} {pts : List Pt} {stat : RStat} {fr br : Nat} {fl bl : Pt} (h : stat = .live) :
    val c ⟨pts, stat, fr, br, fl, bl⟩ = lin c pts := val_live h

theorem sum_map_set (f : Ring → Int) (l : List Ring) (i : Nat) (a b : Ring) (h : l[i]? = some a) :
    ((l.set i b).map f).sum = (l.map f).sum - f a + f b := by
  induction l generalizing i with
  | nil => simp at h
  | cons x xs ih =>
    cases i with
    | zero =>
      simp only [List.getElem?_cons_zero, Option.some.injEq] at h
      subst h
      simp only [List.set_cons_zero, List.map_cons, List.sum_cons]; omega
    | succ j =>
      simp only [List.getElem?_cons_succ] at h
      simp only [List.set_cons_succ, List.map_cons, List.sum_cons, ih j h]; omega

theorem phi_eq_zero {c : Pt → Pt → Int} {o : Out} (h : ∀ g ∈ o.rings, ∀ a ∈ g.pts, ∀ b ∈ g.pts, c a b = 0) : phi c o = 0 := by
  have hv : ∀ g ∈ o.rings, val c g = 0 := by
    intro g hg
    have hs : seam c g.pts g.pts = 0 := by
      unfold seam
      cases h1 : g.pts.getLast? with
      | none => rfl
      | some a =>
        cases h2 : g.pts.head? with
        | none => rfl
        | some b => exact h g hg a (List.mem_of_getLast? h1) b (List.mem_of_mem_head? h2)
    unfold val cyc
    rw [lin_eq_zero g.pts (h g hg), hs]
    split <;> rfl
  unfold phi
  generalize o.rings = l at hv
  induction l with
  | nil => rfl
  | cons g t ih =>
    rw [List.map_cons, List.sum_cons, hv g (by simp), ih (fun x hx => hv x (List.mem_cons_of_mem _ hx))]
    rfl

theorem handOver_rings {o : Out} {id : Nat} {g : Ring} (hg : o.rings[id]? = some g) (f : Bool) :
    (handOver id f o).rings = o.rings.set id (if f then { g with frun := o.nrun } else { g with brun := o.nrun }) := by
  simp only [handOver, hg]

theorem finish_rings {o : Out} {id : Nat} {g : Ring} (hg : o.rings[id]? = some g) (f : Bool) :
    (finish id f o).rings = o.rings.set id { g with stat := .done, pts := if f then g.pts else
      (match g.pts.getLast? with | some b => b :: g.pts.dropLast | none => g.pts) } := by
  simp only [finish, hg]; rfl

theorem joinPaths_rings {o : Out} {A B : Nat} {ga gb : Ring} (hne : A ≠ B) (hga : o.rings[A]? = some ga) (hgb : o.rings[B]? = some gb)
    (la : ga.stat = .live) (lb : gb.stat = .live) (f : Bool) :
    (joinPaths A B f o).rings = (o.rings.set A (if f then { ga with pts := gb.pts ++ ga.pts, frun := gb.frun, flast := gb.flast }
      else { ga with pts := ga.pts ++ gb.pts, brun := gb.brun, blast := gb.blast })).set B { gb with pts := [], stat := .gone } := by
  simp only [joinPaths, hga, hgb, hne, la, lb, ne_eq, not_false_eq_true, and_self, if_true]

theorem phi_congr {c : Pt → Pt → Int} {o o' : Out} (h : o'.rings = o.rings) : phi c o' = phi c o := by rw [phi, h]; rfl

theorem phi_newRec (c : Pt → Pt → Int) (pt : Pt) (o : Out) : phi c (newRec pt o) = phi c o := by
  simp [phi, newRec, val, lin]

theorem phi_logSeg (c : Pt → Pt → Int) (k : SegKind) (i1 : Nat) (f1 : Bool) (i2 : Nat) (f2 : Bool) (o : Out) :
    phi c (logSeg k i1 f1 i2 f2 o) = phi c o := phi_congr (logSeg_rings k i1 f1 i2 f2 o)

theorem phi_handOver (c : Pt → Pt → Int) (id : Nat) (f : Bool) (o : Out) : phi c (handOver id f o) = phi c o := by
  cases hg : o.rings[id]? with
  | none => simp only [handOver, hg]
  | some g =>
    rw [phi, handOver_rings hg, sum_map_set (val c) o.rings id g _ hg]
    cases f <;> simp [val, phi]

/-- **`AddOutPt`**: the new point becomes the neighbour of the old end point -/
theorem phi_addOutPt {c : Pt → Pt → Int} (hc : Wt c) (id : Nat) (f : Bool) (pt : Pt) (o : Out) (e : Pt) (h : LiveAt o.rings id)
    (he : endAt o id f = some e) : phi c (addOutPt id f pt o) = phi c o + dcr c f e pt := by
  obtain ⟨g, hg, hl, hne⟩ := h
  have he' : endPt f g.pts = some e := by simpa [endAt, hg] using he
  simp only [phi, addOutPt_rings, hg, hl, if_true]
  rw [sum_map_set (val c) o.rings id g _ hg, val_live hl, val_live (by rw [addPt_stat]; exact hl)]
  rcases addPt_spec f pt g with ⟨_, h2, h3⟩ | ⟨_, h2, _⟩
  · -- the point is the end point already: nothing is added, and `c e e = 0`
    rw [he'] at h3
    rw [h2, Option.some.inj h3]
    have : dcr c f pt pt = 0 := by unfold dcr; split <;> exact hc.self pt
    omega
  · rw [h2]
    cases f
    · rw [if_neg (by simp), lin_append, seam_of (b := pt) (by simpa [endPt] using he') rfl]
      simp only [lin, dcr, Bool.false_eq_true, if_false]; omega
    · rw [if_pos rfl, lin_cons, seam_of (a := pt) rfl (by simpa [endPt] using he')]
      simp only [dcr, if_true]; omega

/-- **closing a ring** (`outrec.pts = result; UncoupleOutRec`): the end point `p` of the end `f` becomes the neighbour of the end point `q`
of the other end -/
theorem phi_finish (c : Pt → Pt → Int) (id : Nat) (e1f f : Bool) (o : Out) (p q : Pt) (h : LiveAt o.rings id)
    (hp : endAt o id f = some p) (hq : endAt o id (!f) = some q) : phi c (finish id e1f o) = phi c o + dcr c (!f) q p := by
  obtain ⟨g, hg, hl, hne⟩ := h
  -- `hf`, `hb`: front and back end point
  obtain ⟨hf, hb, e1, e2, hd⟩ : ∃ hf hb, g.pts.head? = some hf ∧ g.pts.getLast? = some hb ∧ dcr c (!f) q p = c hb hf := by
    cases f
    · exact ⟨q, p, by simpa [endAt, hg, endPt] using hq, by simpa [endAt, hg, endPt] using hp, rfl⟩
    · exact ⟨p, q, by simpa [endAt, hg, endPt] using hp, by simpa [endAt, hg, endPt] using hq, rfl⟩
  rw [phi, finish_rings hg, sum_map_set (val c) o.rings id g _ hg, val_live hl, hd]
  have hcyc : cyc c g.pts = lin c g.pts + c hb hf := by unfold cyc; rw [seam_of e2 e1]
  simp only [val, if_true, phi]
  cases e1f
  · -- the list is read from the back end point: a rotation
    simp only [Bool.false_eq_true, if_false, e2]
    have hsplit : g.pts = g.pts.dropLast ++ [hb] := by
      have := List.getLast?_eq_some_getLast hne
      rw [e2] at this
      rw [Option.some.inj this]; exact (List.dropLast_concat_getLast hne).symm
    rw [cyc_rotate, ← hsplit, hcyc]; omega
  · simp only [if_true, hcyc]; omega

/-- **`JoinOutrecPaths(e1, e2)`** with `A = e1.outrec`, `B = e2.outrec`, `f = IsFront(e1)`: the end point `p` of `A`'s end `f` becomes the
neighbour of the end point `q` of `B`'s other end -/
theorem phi_joinPaths (c : Pt → Pt → Int) (A B : Nat) (f : Bool) (o : Out) (p q : Pt) (hne : A ≠ B)
    (hA : LiveAt o.rings A) (hB : LiveAt o.rings B) (hp : endAt o A f = some p) (hq : endAt o B (!f) = some q) :
    phi c (joinPaths A B f o) = phi c o + dcr c (!f) q p := by
  obtain ⟨ga, hga, la, _⟩ := hA
  obtain ⟨gb, hgb, lb, _⟩ := hB
  rw [phi, joinPaths_rings hne hga hgb la lb, sum_map_set (val c) _ B gb _ (by rw [List.getElem?_set_ne hne]; exact hgb),
    sum_map_set (val c) o.rings A ga _ hga, val_live la, val_live lb]
  have v3 : val c { gb with pts := [], stat := .gone } = 0 := rfl
  rw [v3]
  cases f
  · rw [if_neg (by simp), val_mk_live la, lin_append,
      seam_of (a := p) (b := q) (by simpa [endAt, hga, endPt] using hp) (by simpa [endAt, hgb, endPt] using hq)]
    simp only [dcr, Bool.not_false, if_true, phi]; omega
  · rw [if_pos rfl, val_mk_live la, lin_append,
      seam_of (a := q) (b := p) (by simpa [endAt, hgb, endPt] using hq) (by simpa [endAt, hga, endPt] using hp)]
    simp only [dcr, Bool.not_true, Bool.false_eq_true, if_false, phi]; omega

theorem bnot_ne (b : Bool) : (!b) ≠ b := by cases b <;> simp

/-- **`AddLocalMaxPoly(e1, e2, pt)`**, `e1` holding the ring end `ra` (end point `ea`), `e2` the ring end `rb` (end point `eb`) -/
theorem phi_localMaxOut {c : Pt → Pt → Int} (hw : Wt c) (kind : SegKind) (ra rb : Rec) (pt : Pt) (o : Out) (ea eb : Pt)
    (hA : LiveAt o.rings ra.id) (hB : LiveAt o.rings rb.id) (hf : ra.front ≠ rb.front)
    (hea : endOf o ra = some ea) (heb : endOf o rb = some eb) :
    phi c (localMaxOut kind ra rb pt o) = phi c o + dcr c ra.front ea pt + dcr c rb.front eb pt := by
  obtain ⟨L1, L2, L3⟩ := localMax_pre kind ra rb pt o hA
  have hphi1 : phi c (logSeg kind rb.id rb.front ra.id ra.front (addOutPt ra.id ra.front pt o)) = phi c o + dcr c ra.front ea pt := by
    rw [phi_logSeg]; exact phi_addOutPt hw ra.id ra.front pt o ea hA hea
  -- after `AddOutPt(e1, pt)` the end of `e1` ends in `pt`, the end of `e2`, on the other side, still in `eb`
  have hfb : rb.front = !ra.front := by revert hf; cases ra.front <;> cases rb.front <;> simp
  have hB1 := L1 rb.id rb.front (Or.inr (Ne.symm hf)) hB
  rw [show endAt o rb.id rb.front = some eb from heb] at hB1
  unfold localMaxOut
  simp only
  generalize logSeg kind rb.id rb.front ra.id ra.front (addOutPt ra.id ra.front pt o) = o1 at *
  split
  · next e =>
    rw [← e, hfb] at hB1
    rw [phi_finish c ra.id ra.front ra.front o1 pt eb (L2 _ hA) L3 hB1, hphi1, hfb]
  · next e =>
    split
    · rw [hfb] at hB1
      rw [phi_joinPaths c ra.id rb.id ra.front o1 pt eb e (L2 _ hA) (L2 _ hB) L3 hB1, hphi1, hfb]
    · have hfa : ra.front = !rb.front := by rw [hfb, Bool.not_not]
      rw [hfa] at L3
      rw [phi_joinPaths c rb.id ra.id rb.front o1 eb pt (fun h => e h.symm) (L2 _ hB) (L2 _ hA) hB1 L3, hphi1, dcr_not]

/-- `(IsFront, end point)` of the ring end the edge holds -/
def info (o : Out) (x : Model.SEdge) : Option (Bool × Pt) := x.orec.bind (fun k => (endOf o k).map (fun e => (k.front, e)))

/-- what an emission of `pt` on the ring end `r` adds to the ray sum -/
def emitR (c : Pt → Pt → Int) (o : Out) (r : Option Rec) (pt : Pt) : Int :=
  match r with
  | some k => (match endOf o k with | some e => dcr c k.front e pt | none => 0)
  | none => 0

/-- what an emission of `pt` on the edge `x` adds to the ray sum -/
def emit (c : Pt → Pt → Int) (o : Out) (x : Model.SEdge) (pt : Pt) : Int := emitR c o x.orec pt

theorem info_none {o : Out} {x : Model.SEdge} (h : x.orec = none) : info o x = none := by simp [info, h]

theorem info_some {o : Out} {x : Model.SEdge} {k : Rec} {e : Pt} (h : x.orec = some k) (he : endOf o k = some e) :
    info o x = some (k.front, e) := by simp [info, h, he]

theorem info_orec {o : Out} {x y : Model.SEdge} (h : y.orec = x.orec) : info o y = info o x := by simp [info, h]

theorem info_eq_some {o : Out} {x : Model.SEdge} {f : Bool} {e : Pt} (h : info o x = some (f, e)) :
    ∃ k, x.orec = some k ∧ endOf o k = some e ∧ k.front = f := by
  unfold info at h
  cases hx : x.orec with
  | none => simp [hx] at h
  | some k =>
    cases he : endOf o k with
    | none => simp [hx, he] at h
    | some e' =>
      simp only [hx, he, Option.bind_some, Option.map_some, Option.some.injEq, Prod.mk.injEq] at h
      exact ⟨k, rfl, by rw [he, h.2], h.1⟩

theorem emit_none {c : Pt → Pt → Int} {o : Out} {x : Model.SEdge} {pt : Pt} (h : x.orec = none) : emit c o x pt = 0 := by
  simp [emit, emitR, h]

theorem emit_some {c : Pt → Pt → Int} {o : Out} {x : Model.SEdge} {pt : Pt} {k : Rec} {e : Pt} (h : x.orec = some k)
    (he : endOf o k = some e) : emit c o x pt = dcr c k.front e pt := by
  simp [emit, emitR, h, he]

theorem emit_eq (c : Pt → Pt → Int) (o : Out) (x : Model.SEdge) (pt : Pt) :
    emit c o x pt = match info o x with | some (f, e) => dcr c f e pt | none => 0 := by
  cases hx : x.orec with
  | none => rw [emit_none hx, info_none hx]
  | some k =>
    cases he : endOf o k with
    | none => simp [emit, emitR, info, hx, he]
    | some e => rw [emit_some hx he, info_some hx he]

theorem phi_addOn {c : Pt → Pt → Int} (hw : Wt c) (r : Option Rec) (pt : Pt) (o : Out) (hl : ∀ k, r = some k → LiveAt o.rings k.id) :
    phi c (addOn r pt o) = phi c o + emitR c o r pt := by
  cases r with
  | none => simp [addOn, emitR]
  | some k =>
    obtain ⟨e, he⟩ := endAt_some_of_live (hl k rfl) k.front
    have he' : endOf o k = some e := he
    simp only [addOn, emitR, he']
    exact phi_addOutPt hw k.id k.front pt o e (hl k rfl) he

theorem phi_handOn (c : Pt → Pt → Int) (r : Option Rec) (o : Out) : phi c (handOn r o) = phi c o := by
  cases r with
  | none => rfl
  | some k => exact phi_handOver c k.id k.front o

/-- **`AddOutPt(e1) ; AddOutPt(e2) ; SwapOutrecs`** -/
theorem phi_swapOut {c : Pt → Pt → Int} (hw : Wt c) (a b : Model.SEdge) (pt : Pt) (o : Out) (hne : ∀ k, a.orec = some k → b.orec ≠ some k)
    (h1 : ∀ k, a.orec = some k → LiveAt o.rings k.id) (h2 : ∀ k, b.orec = some k → LiveAt o.rings k.id) :
    phi c (swapOut a.orec b.orec pt o) = phi c o + emit c o a pt + emit c o b pt := by
  unfold swapOut
  rw [phi_handOn, phi_handOn, phi_addOn hw b.orec pt _ (fun k hk => liveAt_addOn _ _ _ _ (h2 k hk)), phi_addOn hw a.orec pt o h1]
  have eb : emitR c (addOn a.orec pt o) b.orec pt = emitR c o b.orec pt := by
    cases hb : b.orec with
    | none => rfl
    | some k =>
      simp only [emitR]
      rw [endOf_addOn_other a.orec pt o k (fun h => hne k h hb) (h2 k hb)]
  rw [eb]; rfl

def hv (x : Model.SEdge) : Int := if x.orec.isSome then 1 else 0

/-- number of edges that own a ring end -/
def hotN (l : List Model.SEdge) : Int := (l.map hv).sum

theorem hotN_append (l1 l2 : List Model.SEdge) : hotN (l1 ++ l2) = hotN l1 + hotN l2 := by simp [hotN, List.sum_append]

theorem hotN_cons (x : Model.SEdge) (l : List Model.SEdge) : hotN (x :: l) = hv x + hotN l := by simp [hotN]

theorem hv_orec {x y : Model.SEdge} (h : y.orec = x.orec) : hv y = hv x := by simp [hv, h]

theorem hv_some {x : Model.SEdge} {k : Rec} (h : x.orec = some k) : hv x = 1 := by simp [hv, h]
theorem hv_none {x : Model.SEdge} (h : x.orec = none) : hv x = 0 := by simp [hv, h]

/-- a relabelling of ring ends (`JoinOutrecPaths`) keeps the number of hot edges -/
theorem hotN_mapShape {g : Model.SEdge → Model.SEdge} (hg : ShapePres g) (l : List Model.SEdge) : hotN (l.map g) = hotN l := by
  induction l with
  | nil => rfl
  | cons x xs ih =>
    have : (g x).orec.isSome = x.orec.isSome := by
      have := (hg x).2.2
      cases h1 : (g x).orec <;> cases h2 : x.orec <;> simp [h1, h2] at this ⊢
    rw [List.map_cons, hotN_cons, hotN_cons, ih, hv, hv, this]

theorem liveN_congr {o o' : Out} (h : o'.rings = o.rings) : liveN o' = liveN o := by rw [liveN, h]; rfl

theorem liveN_newRec (pt : Pt) (o : Out) : liveN (newRec pt o) = liveN o + 1 := by
  simp [liveN, newRec, lv1]

theorem liveN_logSeg (k : SegKind) (i1 : Nat) (f1 : Bool) (i2 : Nat) (f2 : Bool) (o : Out) :
    liveN (logSeg k i1 f1 i2 f2 o) = liveN o := liveN_congr (logSeg_rings k i1 f1 i2 f2 o)

theorem liveN_handOver (id : Nat) (f : Bool) (o : Out) : liveN (handOver id f o) = liveN o := by
  cases hg : o.rings[id]? with
  | none => simp only [handOver, hg]
  | some g =>
    rw [liveN, handOver_rings hg, sum_map_set lv1 o.rings id g _ hg]
    cases f <;> simp [lv1, liveN]

theorem liveN_addOutPt (id : Nat) (f : Bool) (pt : Pt) (o : Out) : liveN (addOutPt id f pt o) = liveN o := by
  simp only [liveN, addOutPt_rings]
  cases hg : o.rings[id]? with
  | none => rfl
  | some g =>
    simp only
    split
    · next hl => rw [sum_map_set lv1 o.rings id g _ hg]; simp [lv1, addPt_stat, hl]
    · rfl

theorem liveN_finish (id : Nat) (f : Bool) (o : Out) (h : LiveAt o.rings id) : liveN (finish id f o) = liveN o - 1 := by
  obtain ⟨g, hg, hl, _⟩ := h
  rw [liveN, finish_rings hg, sum_map_set lv1 o.rings id g _ hg]
  simp [lv1, hl, liveN]

theorem liveN_joinPaths (A B : Nat) (f : Bool) (o : Out) (hne : A ≠ B) (hA : LiveAt o.rings A) (hB : LiveAt o.rings B) :
    liveN (joinPaths A B f o) = liveN o - 1 := by
  obtain ⟨ga, hga, la, _⟩ := hA
  obtain ⟨gb, hgb, lb, _⟩ := hB
  rw [liveN, joinPaths_rings hne hga hgb la lb, sum_map_set lv1 _ B gb _ (by rw [List.getElem?_set_ne hne]; exact hgb),
    sum_map_set lv1 o.rings A ga _ hga]
  cases f <;> simp [lv1, la, lb, liveN] <;> omega

theorem liveN_localMaxOut (kind : SegKind) (ra rb : Rec) (pt : Pt) (o : Out) (hA : LiveAt o.rings ra.id) (hB : LiveAt o.rings rb.id) :
    liveN (localMaxOut kind ra rb pt o) = liveN o - 1 := by
  obtain ⟨_, L2, _⟩ := localMax_pre kind ra rb pt o hA
  have h1 : liveN (logSeg kind rb.id rb.front ra.id ra.front (addOutPt ra.id ra.front pt o)) = liveN o := by
    rw [liveN_logSeg, liveN_addOutPt]
  unfold localMaxOut
  simp only
  split
  · rw [liveN_finish _ _ _ (L2 _ hA), h1]
  · next e =>
    split
    · rw [liveN_joinPaths _ _ _ _ e (L2 _ hA) (L2 _ hB), h1]
    · rw [liveN_joinPaths _ _ _ _ (fun h => e h.symm) (L2 _ hB) (L2 _ hA), h1]

theorem liveN_addOn (r : Option Rec) (pt : Pt) (o : Out) : liveN (addOn r pt o) = liveN o := by
  cases r with
  | none => rfl
  | some k => exact liveN_addOutPt k.id k.front pt o

theorem liveN_handOn (r : Option Rec) (o : Out) : liveN (handOn r o) = liveN o := by
  cases r with
  | none => rfl
  | some k => exact liveN_handOver k.id k.front o

theorem liveN_swapOut (r1 r2 : Option Rec) (pt : Pt) (o : Out) : liveN (swapOut r1 r2 pt o) = liveN o := by
  unfold swapOut
  rw [liveN_handOn, liveN_handOn, liveN_addOn, liveN_addOn]

theorem lv1_sum_nonneg (l : List Ring) : 0 ≤ (l.map lv1).sum := by
  induction l with
  | nil => exact Int.le_refl _
  | cons x xs ih => rw [List.map_cons, List.sum_cons, lv1]; split <;> omega

theorem no_live_of_zero {o : Out} (h : liveN o = 0) : ∀ g ∈ o.rings, g.stat ≠ .live := by
  unfold liveN at h
  generalize o.rings = l at h
  induction l with
  | nil => intro g hg; cases hg
  | cons x xs ih =>
    intro g hg
    have := lv1_sum_nonneg xs
    rw [List.map_cons, List.sum_cons, lv1] at h
    rcases List.mem_cons.1 hg with rfl | hg
    · intro hl; rw [if_pos hl] at h; omega
    · exact ih (by split at h <;> omega) g hg

def GoneEmpty (o : Out) : Prop := ∀ g ∈ o.rings, g.stat = .gone → g.pts = []

theorem goneEmpty_prim (pt : Pt) : PrimPres pt GoneEmpty := by
  -- rewriting one record by a record that is not an emptied one with points keeps the property
  have set : ∀ {l : List Ring} (i : Nat) {g' : Ring}, (∀ g ∈ l, g.stat = .gone → g.pts = []) → (g'.stat = .gone → g'.pts = []) →
      ∀ g ∈ l.set i g', g.stat = .gone → g.pts = [] := by
    intro l i g' h hg' g hg
    rcases mem_set_cases _ _ _ _ hg with rfl | hg
    · exact hg'
    · exact h g hg
  refine ⟨?_, ?_, ?_, ?_, ?_, ?_⟩
  · intro o h g hg hgone
    simp only [newRec, List.mem_append, List.mem_singleton] at hg
    rcases hg with hg | rfl
    · exact h g hg hgone
    · cases hgone
  · intro id f o h
    unfold GoneEmpty
    rw [addOutPt_rings]
    split
    · split
      · next hl => exact set id h (fun hg => by rw [addPt_stat, hl] at hg; cases hg)
      · exact h
    · exact h
  · intro id f o h
    cases hg : o.rings[id]? with
    | none => simp only [handOver, hg]; exact h
    | some r =>
      unfold GoneEmpty
      rw [handOver_rings hg]
      exact set id h (by cases f <;> exact h r (mem_of_get _ _ _ hg))
  · intro id f o h
    cases hg : o.rings[id]? with
    | none => simp only [finish, hg]; exact h
    | some r =>
      unfold GoneEmpty
      rw [finish_rings hg]
      exact set id h (fun hgone => by cases hgone)
  · intro A B f o h
    unfold joinPaths
    split
    · next ra rb hA hB =>
      split
      · next hc => exact set B (set A h (fun hgone => by cases f <;> rw [hc.2.1] at hgone <;> cases hgone)) (fun _ => rfl)
      · exact h
    · exact h
  · intro k i1 f1 i2 f2 o h g hg hgone
    rw [logSeg_rings] at hg
    exact h g hg hgone

theorem runR_fold (cfg : Cfg) {I : RState → Prop} {ops : List ROp} {r r' : RState}
    (hstep : ∀ r op r', op ∈ ops → I r → stepR cfg r op = .ok r' → I r') (hr : runR cfg r ops = .ok r') (h0 : I r) : I r' :=
  Clipper.Props.C01Rings.run_invariant (stepR cfg) (runR cfg) (fun _ => rfl) (fun _ _ _ _ h => by rw [runR, h])
    (fun _ _ _ _ h => by rw [runR, h]) (fun _ => I) ops [] r r' (fun _ r r' op => hstep r op r') h0 hr

theorem goneEmpty_run (cfg : Cfg) (ops : List ROp) (r r' : RState) (hr : runR cfg r ops = .ok r') (h : GoneEmpty r.o) : GoneEmpty r'.o :=
  runR_fold cfg (I := fun r => GoneEmpty r.o) (fun r op r1 _ h hs => by
    rw [(Clipper.Props.C01Rings.erase_ring_step cfg r r1 op hs).2]
    exact pres_outStep cfg r.s r.o op GoneEmpty (goneEmpty_prim op.pt) h) hr h

end Clipper.Lemmas.C01Crown

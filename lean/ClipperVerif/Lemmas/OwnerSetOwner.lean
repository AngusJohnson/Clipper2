/-
`SetOwner`: frame and preservation of acyclicity.
-/
import ClipperVerif.Lemmas.OwnerAcyclic
namespace Clipper.Model.Owner
open Clipper

/-- tables that differ at most in record `k` -/
def SameBut (k : Nat) (T T' : Table) : Prop :=
  T'.size = T.size ∧ (∀ j : Nat, j ≠ k → T'[j]? = T[j]?)

theorem SameBut.refl (k : Nat) (T : Table) : SameBut k T T := ⟨rfl, fun _ _ => rfl⟩
theorem SameBut.trans {k : Nat} {A B C : Table} (h1 : SameBut k A B) (h2 : SameBut k B C) : SameBut k A C :=
  ⟨h2.1.trans h1.1, fun j hj => (h2.2 j hj).trans (h1.2 j hj)⟩
theorem SameBut.modify (k : Nat) (T : Table) (g : OutRec → OutRec) : SameBut k T (T.modify k g) :=
  ⟨Array.size_modify, fun _ hj => modify_ne g (Ne.symm hj)⟩

theorem skipDeadOwners_spec {f no : Nat} : ∀ {T T1 : Table}, skipDeadOwners T f no = some T1 →
    SameBut no T T1 ∧ (Acyclic T → Acyclic T1) := by
  induction f with
  | zero => intro T T1 h; cases h
  | succ f ih =>
    intro T T1 h
    simp only [skipDeadOwners] at h
    split at h
    · cases h
    · rename_i r hr
      split at h
      · cases h; exact ⟨.refl _ _, id⟩
      · rename_i o ho
        split at h
        · cases h
        · rename_i orc horc
          split at h
          · cases h; exact ⟨.refl _ _, id⟩
          · obtain ⟨s, a⟩ := ih h
            exact ⟨(SameBut.modify _ _ _).trans s, fun hA => a (hA.skip_owner hr ho horc)⟩

theorem Reach.of_modify {T : Table} {k : Nat} {g : OutRec → OutRec} {a b : Nat}
    (h : Reach (T.modify k g) a b) : Reach T a b ∨ Reach T a k := by
  induction h with
  | refl => exact Or.inl (Reach.refl _)
  | @step j' k' o' r' hj ho _ ih =>
    rcases modify_cases hj with ⟨rfl, _⟩ | ⟨_, hr⟩
    · exact Or.inr (Reach.refl _)
    · exact ih.imp (Reach.step hr ho) (Reach.step hr ho)

theorem setOwner_spec' {T T' : Table} {fuel i no : Nat} (h : setOwner T fuel i no = some T') :
    T'.size = T.size ∧ (∃ r : OutRec, T'[i]? = some r ∧ r.owner = some no) ∧
    (∀ j : Nat, j ≠ i → j ≠ no → T'[j]? = T[j]?) ∧ (Acyclic T → i ≠ no → Acyclic T') := by
  unfold setOwner at h
  split at h
  · cases h
  · rename_i T1 hsk
    obtain ⟨hsb, hac⟩ := skipDeadOwners_spec hsk
    split at h
    · cases h
    · rename_i valid hv
      split at h
      · cases h
      · rename_i r hr
        cases h
        -- the table before the final `outrec->owner = new_owner`
        generalize hT2 : (if valid = true then T1 else T1.modify no (fun x => { x with owner := r.owner })) = T2
        have hsb2 : SameBut no T T2 := by
          subst hT2
          split
          · exact hsb
          · exact hsb.trans (.modify _ _ _)
        have hr2 := Array.getElem?_eq_getElem (show i < T2.size by rw [hsb2.1, ← hsb.1]; exact getElem?_lt hr)
        refine ⟨Array.size_modify.trans hsb2.1, ⟨_, modify_self _ hr2, rfl⟩,
          fun j hji hjno => (modify_ne _ (Ne.symm hji)).trans (hsb2.2 j hjno), fun hA hne => ?_⟩
        have hA1 := hac hA
        subst hT2
        cases valid with
        | true => exact hA1.set_valid (isValidOwner_true hv)
        | false =>
          simp only [Bool.false_eq_true, if_false]
          have hreach := isValidOwner_false hv
          -- `no` reaches `i` in `T1` by at least one step
          have hP : ReachP T1 no i := hreach.cases_head.resolve_left (Ne.symm hne)
          have hA2 : Acyclic (T1.modify no (fun x => { x with owner := r.owner })) := by
            refine hA1.imp fun _ hrk => hrk.of_edges fun j r' o hj ho => ?_
            rcases modify_cases hj with ⟨rfl, _, _, rfl⟩ | ⟨_, hr0⟩
            · exact hP.trans_reach (Reach.step hr ho (Reach.refl _))
            · exact ⟨_, o, hr0, ho, Reach.refl _⟩
          refine hA2.set_valid (fun hbad => ?_)
          -- a path `no →* i` in the modified table gives a cycle through `i` in `T1`
          rcases hbad.cases_head with e | ⟨r2', o2, hr2', ho2, hre2⟩
          · exact hne e.symm
          · rcases modify_cases hr2' with ⟨_, _, _, rfl⟩ | ⟨hnn, _⟩
            · have hio2 : ReachP T1 i o2 := ⟨r, o2, hr, ho2, Reach.refl _⟩
              rcases hre2.of_modify with h' | h'
              · exact hA1.not_reachP_self i (hio2.trans_reach h')
              · exact hA1.not_reachP_self i ((hio2.trans_reach h').trans_reach hP.reach)
            · exact hnn rfl

end Clipper.Model.Owner

/-
Lemmas about the model of `DoHorizontal` (`Model/SweepHorz.lean`), used by `Props/C01Horz.lean`.  The inner walk is characterised
once (`walk_spec`), the successor edge that `UpdateEdgeIntoAEL` returns by the relation `Upd` (`updateEdge_upd`), and one turn of the
outer loop in these terms (`segStep_spec`).  For a strictly monotone run the call is followed turn by turn (`outer_mono`): after
`horz` has passed `P` of the edges ahead, the AEL is again a zipper around `horz` with `P` among the edges behind, in either
direction, so what is proved of the remaining turns carries over (`monoOut_pass`).  Also the events of a walk as `Model/Ael` ops
(`walkEvents_ops`).
-/
import ClipperVerif.Model.SweepHorz
import ClipperVerif.Lemmas.TrimHorz
import ClipperVerif.Lemmas.AelOrder
namespace Clipper.Lemmas.SweepHorz
open Clipper Clipper.Model Clipper.Model.SweepHorz

/-- how a walk that passed `P` and left `Q` has ended -/
def Stopped (topx : HEdge → Int → Int) (s : Seg) (Q : List HEdge) : Stop → Prop
  | .endOfAel => Q = []
  | .maxPair => ∃ p t, Q = p :: t ∧ some p.vtop = s.vmax
  | .brk => ∃ p t, Q = p :: t ∧ some p.vtop ≠ s.vmax ∧ s.atMax = false ∧ stopHere topx s p = true

/-- **the walk**: the edges passed followed by the edges not passed are the neighbours, in order; an edge is passed only if it
is not the maxima pair and (unless the horizontal ends in the maximum) no break condition holds; the first edge not passed is the
one that stopped the walk -/
theorem walk_spec (topx : HEdge → Int → Int) (s : Seg) : ∀ (l : List HEdge),
    (walk topx s l).1 ++ (walk topx s l).2.2 = l ∧
      (∀ e ∈ (walk topx s l).1, some e.vtop ≠ s.vmax ∧ (s.atMax = true ∨ stopHere topx s e = false)) ∧
      Stopped topx s (walk topx s l).2.2 (walk topx s l).2.1
  | [] => ⟨rfl, fun _ h => (nomatch h), rfl⟩
  | x :: rest => by
    unfold walk
    split
    · rename_i h1
      exact ⟨rfl, fun _ h => (nomatch h), x, rest, rfl, h1⟩
    · rename_i h1
      split
      · rename_i h2
        rw [Bool.and_eq_true, Bool.not_eq_true'] at h2
        exact ⟨rfl, fun _ h => (nomatch h), x, rest, rfl, h1, h2.1, h2.2⟩
      · rename_i h2
        obtain ⟨i1, i2, i3⟩ := walk_spec topx s rest
        refine ⟨congrArg _ i1, fun e he => ?_, i3⟩
        rcases List.mem_cons.1 he with rfl | he
        · refine ⟨h1, ?_⟩
          cases ha : s.atMax
          · rw [ha, Bool.not_false, Bool.true_and] at h2; exact Or.inr (Bool.eq_false_iff.2 h2)
          · exact Or.inl rfl
        · exact i2 e he

theorem walk_partition (topx : HEdge → Int → Int) (s : Seg) (l : List HEdge) : (walk topx s l).1 ++ (walk topx s l).2.2 = l :=
  (walk_spec topx s l).1

/-- without an edge with `vertex_top == vertex_max` among the neighbours the walk does not end in `maxPair` -/
theorem walk_no_pair (topx : HEdge → Int → Int) (s : Seg) : ∀ (l : List HEdge),
    (∀ p ∈ l, some p.vtop ≠ s.vmax) → (walk topx s l).2.1 ≠ .maxPair := by
  intro l h hm
  obtain ⟨h1, _, h3⟩ := walk_spec topx s l
  rw [hm] at h3
  obtain ⟨p, t, hq, hp⟩ := h3
  exact h p ((congrArg (p ∈ ·) h1).mp (List.mem_append_right _ (hq ▸ List.mem_cons_self))) hp

theorem isHorz_iff (e : HEdge) : e.isHorz = true ↔ e.top.y = e.bot.y := by
  simp [HEdge.isHorz, Gen.IsHorizontal]

/-- `TrimHorz`: `vertex_top` advances over a prefix `pre` of the supplied vertices, all of them on the scanline of the edge; nothing
else changes; the new `top` is the last vertex passed -/
theorem trim_spec (pc : Bool) (e : HEdge) :
    ∃ pre, e.rest = pre ++ (trim pc e).rest ∧ (∀ v ∈ pre, v.pt.y = e.top.y) ∧
      (trim pc e).id = e.id ∧ (trim pc e).bot = e.bot ∧ (trim pc e).currX = e.currX ∧
      ((pre = [] ∧ trim pc e = e) ∨
       (∃ pre0 v, pre = pre0 ++ [v] ∧ (trim pc e).top = v.pt ∧ (trim pc e).vtop = v.id ∧ (trim pc e).topIsMax = v.isMax)) := by
  unfold trim
  simp only [TrimHorz.trimHorz]
  generalize ho : TrimHorz.loop pc e.bot.x e.top.x e.top.y 0 (e.rest.map HV.toV) = o
  obtain ⟨k, hk, hadv, hty, hall, hx⟩ := Clipper.Lemmas.TrimHorz.loop_prefix pc e.bot.x _ _ _ 0 o ho
  obtain ⟨oX, oY, adv, ranOff⟩ := o
  simp only [Nat.zero_add] at hadv hty hx ⊢
  subst hadv
  rw [List.length_map] at hk
  have hrow : ∀ v ∈ e.rest.take adv, v.pt.y = e.top.y := fun v hv =>
    hall (HV.toV v) (List.map_take ▸ List.mem_map_of_mem hv)
  rcases hx with ⟨rfl, _⟩ | ⟨j, w, rfl, hw, hwx⟩
  · exact ⟨[], rfl, fun _ h => (nomatch h), rfl, rfl, rfl, Or.inl ⟨rfl, rfl⟩⟩
  · have hget : e.rest[j]? = some e.rest[j] := List.getElem?_eq_getElem hk
    rw [List.getElem?_map, hget, Option.map_some, Option.some.injEq] at hw
    have htake : e.rest.take (j + 1) = e.rest.take j ++ [e.rest[j]] := List.take_succ_eq_append_getElem hk
    simp only [hget]
    refine ⟨e.rest.take (j + 1), (List.take_append_drop _ _).symm, hrow, trivial, trivial, trivial,
      Or.inr ⟨e.rest.take j, e.rest[j], htake, ?_, rfl, rfl⟩⟩
    have hyj : e.rest[j].pt.y = e.top.y := hrow _ (htake ▸ List.mem_append_right _ (List.mem_singleton_self _))
    show (⟨oX, oY⟩ : Pt) = e.rest[j].pt
    rw [← hwx, hty, ← hyj, ← hw]
    rfl

/-- `UpdateEdgeIntoAEL`: the new edge starts at the old `top` with `curr_x = bot.x`, keeps its identity, and its `vertex_top` is a
later vertex `v` of the supplied list; everything skipped (`pre0`, by `TrimHorz`) lies on the scanline of the old edge.  If the next
vertex is on that scanline so is the new `top` (the edge is again horizontal); if not, the new edge ends at the next vertex. -/
theorem updateEdge_spec (pc : Bool) (e : HEdge) (nv : HV) (tl : List HV) (hr : e.rest = nv :: tl) :
    ∃ h2 pre0 v, updateEdge pc e = some h2 ∧ e.rest = pre0 ++ v :: h2.rest ∧ (∀ u ∈ pre0, u.pt.y = e.top.y) ∧
      h2.top = v.pt ∧ h2.vtop = v.id ∧ h2.topIsMax = v.isMax ∧ h2.bot = e.top ∧ h2.currX = e.top.x ∧ h2.id = e.id ∧
      (nv.pt.y = e.top.y → v.pt.y = e.top.y) ∧ (nv.pt.y ≠ e.top.y → pre0 = [] ∧ v = nv) := by
  unfold updateEdge
  rw [hr]
  simp only
  -- `e1`: the edge advanced to the next vertex, before `TrimHorz`
  generalize he1 : ({ e with bot := e.top, top := nv.pt, vtop := nv.id, topIsMax := nv.isMax, currX := e.top.x, rest := tl } : HEdge) = e1
  obtain ⟨f1, f2, f3, f4, f5, f6, f7⟩ : e1.top = nv.pt ∧ e1.vtop = nv.id ∧ e1.topIsMax = nv.isMax ∧ e1.bot = e.top ∧
      e1.currX = e.top.x ∧ e1.id = e.id ∧ e1.rest = tl := by
    subst he1; exact ⟨rfl, rfl, rfl, rfl, rfl, rfl, rfl⟩
  have hhy : e1.isHorz = true ↔ nv.pt.y = e.top.y := by rw [isHorz_iff, f1, f4]
  by_cases hy : nv.pt.y = e.top.y
  · rw [if_pos (hhy.2 hy)]
    obtain ⟨pre, h1, h2, h3, h4, h5, h6⟩ := trim_spec pc e1
    rw [f1, hy] at h2
    rcases h6 with ⟨-, he⟩ | ⟨pre0, v, hp, ht, hv, hm⟩
    · rw [he]
      exact ⟨e1, [], nv, rfl, congrArg (nv :: ·) f7.symm, fun _ h => (nomatch h), f1, f2, f3, f4, f5, f6, fun _ => hy,
        fun h => absurd hy h⟩
    · refine ⟨_, nv :: pre0, v, rfl, ?_, ?_, ht, hv, hm, h4.trans f4, h5.trans f5, h3.trans f6, ?_, fun h => absurd hy h⟩
      · rw [f7, hp, List.append_assoc] at h1
        exact congrArg (nv :: ·) h1
      · intro u hu
        rcases List.mem_cons.1 hu with rfl | hu
        · exact hy
        · exact h2 u (hp ▸ List.mem_append_left _ hu)
      · exact fun _ => h2 v (hp ▸ List.mem_append_right _ (List.mem_singleton_self v))
  · rw [if_neg (mt hhy.1 hy)]
    exact ⟨e1, [], nv, rfl, congrArg (nv :: ·) f7.symm, fun _ h => (nomatch h), f1, f2, f3, f4, f5, f6, fun h => absurd h hy,
      fun _ => ⟨rfl, rfl⟩⟩

/-- `UpdateEdgeIntoAEL` does not read `curr_x` -/
theorem updateEdge_currX (pc : Bool) (e : HEdge) (c : Int) : updateEdge pc { e with currX := c } = updateEdge pc e := by
  unfold updateEdge
  cases e.rest <;> rfl

/-- what `UpdateEdgeIntoAEL` makes of `h`, `nv` being the next vertex of its bound: `h2` is the same `Active`, starts at the old `top`
with `curr_x = bot.x`; if `nv` is off the scanline it ends at `nv`; if not it is again horizontal and its flat run is what is left
of the flat run of `h` behind the new `vertex_top` (`TrimHorz` may have skipped `pre0`) -/
structure Upd (h : HEdge) (nv : HV) (h2 : HEdge) : Prop where
  id : h2.id = h.id
  bot : h2.bot = h.top
  currX : h2.currX = h.top.x
  leave : nv.pt.y ≠ h.top.y → h2.top = nv.pt
  row : nv.pt.y = h.top.y → h2.top.y = h.top.y
  run : nv.pt.y = h.top.y → ∃ pre0 v, flatRun h = pre0 ++ v :: flatRun h2 ∧ h2.top = v.pt
  leaves : nv.pt.y = h.top.y → Leaves h → Leaves h2

theorem updateEdge_upd (pc : Bool) (h : HEdge) (nv : HV) (tl : List HV) (hr : h.rest = nv :: tl) :
    ∃ h2, updateEdge pc h = some h2 ∧ Upd h nv h2 := by
  obtain ⟨h2, pre0, v, hu, hrest, hpre, htop, _, _, hbot, hcx, hid, hvy, hvn⟩ := updateEdge_spec pc h nv tl hr
  have hty : nv.pt.y = h.top.y → h2.top.y = h.top.y := fun hy => htop ▸ hvy hy
  refine ⟨h2, hu, hid, hbot, hcx, fun hy => (hvn hy).2 ▸ htop, hty, fun hy => ⟨pre0, v, ?_, htop⟩, fun hy => ?_⟩
  · unfold flatRun
    rw [hrest, List.takeWhile_append_of_pos (fun a ha => by simpa using hpre a ha)]
    simp only [List.takeWhile_cons, hvy hy, decide_true, if_true, hty hy]
  · rintro ⟨u, hu, hne⟩
    rw [hrest] at hu
    rcases List.mem_append.1 hu with h1 | h1
    · exact absurd (hpre u h1) hne
    · rcases List.mem_cons.1 h1 with rfl | h1
      · exact absurd (hvy hy) hne
      · exact ⟨u, h1, by rw [hty hy]; exact hne⟩

theorem Upd.measure {h h2 : HEdge} {nv : HV} (U : Upd h nv h2) (hy : nv.pt.y = h.top.y) :
    (flatRun h2).length < (flatRun h).length := by
  obtain ⟨pre0, v, hf, _⟩ := U.run hy
  rw [hf, List.length_append, List.length_cons]
  omega

theorem getLast?_append_cons {α : Type} (a : List α) (x : α) (t : List α) : (a ++ x :: t).getLast? = (x :: t).getLast? := by
  rw [List.getLast?_append]
  rw [List.getLast?_eq_some_getLast (List.cons_ne_nil x t)]
  rfl

theorem Upd.runEnd_eq {h h2 : HEdge} {nv : HV} (U : Upd h nv h2) (hy : nv.pt.y = h.top.y) : runEnd h2 = runEnd h := by
  obtain ⟨pre0, v, hf, htop⟩ := U.run hy
  unfold runEnd
  rw [hf]
  cases hq : flatRun h2 with
  | nil => simp [htop]
  | cons a t =>
    have : (pre0 ++ v :: a :: t).getLast? = (a :: t).getLast? := by
      rw [show pre0 ++ v :: a :: t = (pre0 ++ [v]) ++ (a :: t) by simp]
      exact getLast?_append_cons _ _ _
    rw [this, List.getLast?_eq_some_getLast (List.cons_ne_nil a t)]
    rfl

theorem Upd.mono {d : Bool} {h h2 : HEdge} {nv : HV} (U : Upd h nv h2) (hy : nv.pt.y = h.top.y) (hm : RunMono d h) :
    RunMono d h2 := by
  obtain ⟨pre0, v, hf, htop⟩ := U.run hy
  unfold RunMono runXs at hm ⊢
  rw [hf] at hm
  rw [U.bot, htop]
  refine hm.sublist ?_
  simp only [List.map_append, List.map_cons]
  refine List.Sublist.cons _ (List.Sublist.cons_cons _ ?_)
  exact List.sublist_append_right _ _

/-- **one turn, by what the walk did**: `P` = the edges passed, `Q` = the others.  Either the maxima pair `p` stopped the walk and
leaves with `horz`; or `horz` survives as `h2` (which does not depend on the walk), the walk having ended at the end of the AEL or at
a `break`: the turn returns, or continues when the next vertex is on the scanline -/
theorem segStep_spec (pc : Bool) (topx : HEdge → Int → Int) (vmax : Option Nat) (L : List HEdge) (h : HEdge) (R : List HEdge)
    (evs : List Ev) (nv : HV) (tl : List HV) (hr : h.rest = nv :: tl) :
    let s := segOf vmax h R nv.pt
    ∃ P Q, ahead s.l2r L R = P ++ Q ∧ (∀ e ∈ P, some e.vtop ≠ vmax ∧ (s.atMax = true ∨ stopHere topx s e = false)) ∧
      ((∃ p t, Q = p :: t ∧ some p.vtop = vmax ∧ segStep pc topx vmax L h R evs =
          .done ⟨aelMax s.l2r L R P t, evs ++ walkEvents s.l2r L.length h.id P ++ [evMax s.l2r L P t h.id p.id], false⟩) ∨
       (∃ h2, Upd h nv h2 ∧ (∀ q ∈ Q.head?, s.atMax = false ∧ stopHere topx s q = true) ∧
          segStep pc topx vmax L h R evs =
            if nv.pt.y ≠ h.top.y then .done ⟨aelSurv s.l2r L R P Q h2, evs ++ walkEvents s.l2r L.length h.id P, false⟩
            else .next (if s.l2r then P.reverse ++ L else Q) h2 (if s.l2r then Q else P.reverse ++ R)
              (evs ++ walkEvents s.l2r L.length h.id P))) := by
  intro s
  generalize hw : walk topx s (ahead s.l2r L R) = w
  have hseg : segStep pc topx vmax L h R evs = (
      let evs1 := evs ++ walkEvents s.l2r L.length h.id w.1
      let h1 : HEdge := { h with currX := currXAfter h w.1 }
      let L1 := if s.l2r then w.1.reverse ++ L else w.2.2
      let R1 := if s.l2r then w.2.2 else w.1.reverse ++ R
      match w.2.1 with
      | .maxPair =>
        if s.l2r then
          match R1 with
          | p :: R2 => .done ⟨L1.reverse ++ R2, evs1 ++ [.removePair L1.length h.id p.id], false⟩
          | [] => .done ⟨L1.reverse ++ h1 :: R1, evs1, true⟩
        else
          match L1 with
          | p :: L2 => .done ⟨L2.reverse ++ R1, evs1 ++ [.removePair L2.length p.id h.id], false⟩
          | [] => .done ⟨L1.reverse ++ h1 :: R1, evs1, true⟩
      | _ =>
        match updateEdge pc h1 with
        | none => .done ⟨L1.reverse ++ h1 :: R1, evs1, true⟩
        | some h2 =>
          if nv.pt.y ≠ h1.top.y then .done ⟨L1.reverse ++ h2 :: R1, evs1, false⟩
          else .next L1 h2 R1 evs1) := by
    unfold segStep
    rw [hr, ← hw]
    rfl
  obtain ⟨hpart, hpass, hstop⟩ := hw ▸ walk_spec topx s (ahead s.l2r L R)
  refine ⟨w.1, w.2.2, hpart.symm, hpass, ?_⟩
  rw [hseg]
  simp only
  obtain ⟨h2, hu, U⟩ := updateEdge_upd pc h nv tl hr
  have hu' : updateEdge pc { h with currX := currXAfter h w.1 } = some h2 := by rw [updateEdge_currX]; exact hu
  have hsurv : (if s.l2r then w.1.reverse ++ L else w.2.2).reverse ++ h2 :: (if s.l2r then w.2.2 else w.1.reverse ++ R) =
      aelSurv s.l2r L R w.1 w.2.2 h2 := by
    cases s.l2r
    · rfl
    · simp only [if_true, aelSurv, List.reverse_append, List.reverse_reverse]
  cases hst : w.2.1 with
  | maxPair =>
    obtain ⟨p, t, hq, hp⟩ : Stopped topx s w.2.2 .maxPair := hst ▸ hstop
    refine Or.inl ⟨p, t, hq, hp, ?_⟩
    rw [hq]
    cases s.l2r
    · simp only [Bool.false_eq_true, if_false, aelMax, evMax]
    · simp only [if_true, aelMax, evMax, List.reverse_append, List.reverse_reverse, List.length_append, List.length_reverse,
        Nat.add_comm w.1.length]
  | endOfAel =>
    rw [hst] at hstop
    exact Or.inr ⟨h2, U, fun q hq => (by rw [show w.2.2 = [] from hstop] at hq; cases hq), by simp only [hu', hsurv]⟩
  | brk =>
    rw [hst] at hstop
    obtain ⟨p, t, hpt, _, h1, h2'⟩ := hstop
    exact Or.inr ⟨h2, U, fun q hq => (by rw [hpt] at hq; cases hq; exact ⟨h1, h2'⟩), by simp only [hu', hsurv]⟩

theorem flatRun_length_le (h : HEdge) : (flatRun h).length ≤ h.rest.length := (List.takeWhile_sublist _).length_le

/-- with fuel beyond the length of the flat run the loop ends by itself, without needing a vertex that was not supplied -/
theorem outer_nofault (pc : Bool) (topx : HEdge → Int → Int) (vmax : Option Nat) : ∀ (fuel : Nat) (L : List HEdge) (h : HEdge)
    (R : List HEdge) (evs : List Ev), (flatRun h).length < fuel → Leaves h →
    (outer pc topx vmax fuel L h R evs).fault = false := by
  intro fuel
  induction fuel with
  | zero => intro L h R evs hf; omega
  | succ fuel ih =>
    intro L h R evs hf hl
    unfold outer
    cases hr : h.rest with
    | nil => obtain ⟨u, hu, _⟩ := hl; rw [hr] at hu; cases hu
    | cons nv tl =>
      obtain ⟨P, Q, _, _, ⟨p, t, _, _, hs⟩ | ⟨h2, U, _, hs⟩⟩ := segStep_spec pc topx vmax L h R evs nv tl hr
      · rw [hs]
      · rw [hs]
        by_cases hy : nv.pt.y = h.top.y
        · rw [if_neg (not_not_intro hy)]
          exact ih _ _ _ _ (by have := U.measure hy; omega) (U.leaves hy hl)
        · rw [if_pos hy]

theorem runMono_head {d : Bool} {h : HEdge} (hm : RunMono d h) : fwd d h.bot.x h.top.x := by
  unfold RunMono runXs at hm
  rw [List.pairwise_cons] at hm
  exact hm.1 _ (by simp)

/-- `ResetHorzDirection` on a horizontal that stands at its `bot` with a strictly monotone run: the direction is the direction of the
run and the far limit is `top.x` -/
theorem segOf_dir (vmax : Option Nat) (h : HEdge) (R : List HEdge) (pt : Pt) (d : Bool) (hb : h.currX = h.bot.x) (hm : RunMono d h) :
    (segOf vmax h R pt).l2r = d ∧ (if d then (segOf vmax h R pt).hr else (segOf vmax h R pt).hl) = h.top.x ∧
      (segOf vmax h R pt).topX = h.top.x ∧ (segOf vmax h R pt).vmax = vmax ∧
      (segOf vmax h R pt).atMax = decide (vmax = some h.vtop) := by
  have h0 := runMono_head hm
  unfold fwd at h0
  unfold segOf Gen.ResetHorzDirection
  cases d
  · simp only [Bool.false_eq_true, if_false] at h0
    have h1 : ¬ h.bot.x = h.top.x := by omega
    have h2 : ¬ h.currX < h.top.x := by omega
    simp [h1, h2]
  · simp only [if_true] at h0
    have h1 : ¬ h.bot.x = h.top.x := by omega
    have h2 : h.currX < h.top.x := by omega
    simp [h1, h2]

/-- the `break` conditions: the edge stands beyond the far limit of the segment, in walk direction, or at the far end and runs
away from the next vertex of the bound -/
theorem stopHere_iff {topx : HEdge → Int → Int} {s : Seg} {e : HEdge} : stopHere topx s e = true ↔
    fwd s.l2r (if s.l2r then s.hr else s.hl) e.currX ∨ (e.currX = s.topX ∧ e.isHorz = false ∧
      (if s.l2r then decide (topx e s.nextPt.y ≥ s.nextPt.x) else decide (topx e s.nextPt.y ≤ s.nextPt.x)) = true) := by
  unfold stopHere fwd
  cases s.l2r <;> simp [and_assoc]

/-- when the next vertex is off the scanline the run ends at `top` -/
theorem runEnd_last (h : HEdge) (nv : HV) (tl : List HV) (hr : h.rest = nv :: tl) (hy : nv.pt.y ≠ h.top.y) : runEnd h = h.top.x := by
  unfold runEnd flatRun
  rw [hr]
  simp [hy]

/-- the swaps of a walk over `P1 ++ P2` are the swaps over `P1` followed by those over `P2` from where the first walk ended -/
theorem walkEvents_append (d : Bool) (i hid : Nat) (P1 P2 : List HEdge) :
    walkEvents d i hid (P1 ++ P2) =
      walkEvents d i hid P1 ++ walkEvents d (if d then i + P1.length else i - P1.length) hid P2 := by
  unfold walkEvents
  rw [List.zipIdx_append, List.map_append]
  congr 1
  rw [List.zipIdx_eq_map_add]
  rw [List.map_map]
  apply List.map_congr_left
  intro p _
  cases d
  · simp only [Function.comp, Bool.false_eq_true, if_false, Nat.zero_add]
    congr 1
    omega
  · simp only [Function.comp, if_true, Nat.zero_add]
    congr 1
    omega

theorem walkEvents_ops (d : Bool) (i hid : Nat) (P : List HEdge) :
    (walkEvents d i hid P).map Ev.toOp =
      ((List.range P.length).map (fun j => if d then i + j else i - 1 - j)).map Op.intersect := by
  unfold walkEvents
  rw [List.zipIdx_eq_zip_range', List.map_map, List.map_map]
  rw [List.range_eq_range']
  generalize 0 = k
  induction P generalizing k with
  | nil => rfl
  | cons p P ih =>
    simp only [List.length_cons, List.range'_succ, List.zip_cons_cons, List.map_cons]
    congr 1
    · cases d <;> rfl
    · exact ih (k + 1)

theorem sortedX_zip {L : List HEdge} {h : HEdge} {R : List HEdge} (hs : SortedX (zip L h R)) :
    SortedX (L.reverse ++ R) ∧ (∀ a ∈ L, a.currX ≤ h.currX) ∧ (∀ b ∈ R, h.currX ≤ b.currX) := by
  unfold SortedX zip at hs
  refine ⟨hs.sublist (List.Sublist.append_left (List.sublist_cons_self _ _) _), ?_, ?_⟩
  · intro a ha
    exact (List.pairwise_append.1 hs).2.2 a (List.mem_reverse.2 ha) h (by simp)
  · intro b hb
    exact (List.pairwise_cons.1 (List.pairwise_append.1 hs).2.1).1 b hb

theorem zip_reverse (L : List HEdge) (h : HEdge) (R : List HEdge) : (zip L h R).reverse = zip R h L := by
  simp [zip]

/-- `horz` in a zipper ordered by `r` (`≤` when it walks to the right, `≥` seen from the other side), the edges ahead being
`P ++ Q`: with the successor `x` standing at `far`, not before `horz` and the edges of `P`, not beyond the head of `Q`, the zipper
around `x` that has `P` among the edges behind is ordered by `r` again -/
theorem surv_ordered (r : Int → Int → Prop) (htr : ∀ a b c, r a b → r b c → r a c) (L : List HEdge) (h : HEdge)
    (P Q : List HEdge) (x : HEdge) (far : Int) (hs : (zip L h (P ++ Q)).Pairwise (fun a b => r a.currX b.currX))
    (hx : x.currX = far) (hh : r h.currX far) (hp : ∀ p ∈ P, r p.currX far) (hq : ∀ q ∈ Q.head?, r far q.currX) :
    (zip (P.reverse ++ L) x Q).Pairwise (fun a b => r a.currX b.currX) := by
  subst hx
  unfold zip at hs ⊢
  obtain ⟨sL, sR, sLR⟩ := List.pairwise_append.1 hs
  obtain ⟨hR, sPQ⟩ := List.pairwise_cons.1 sR
  have s1 : (L.reverse ++ P ++ Q).Pairwise (fun a b => r a.currX b.currX) := by
    rw [List.append_assoc]
    exact List.pairwise_append.2 ⟨sL, sPQ, fun a ha b hb => sLR a ha b (List.mem_cons_of_mem _ hb)⟩
  rw [List.reverse_append, List.reverse_reverse]
  refine (Clipper.Lemmas.AelOrder.sorted_insert rfl s1 ?_ ?_).1
  · intro a ha
    rcases List.mem_append.1 ha with ha | ha
    · exact htr _ _ _ (sLR a ha h List.mem_cons_self) hh
    · exact hp a ha
  · intro b hb
    cases Q with
    | nil => cases hb
    | cons q0 t =>
      rcases List.mem_cons.1 hb with rfl | hb
      · exact hq _ rfl
      · exact htr _ _ _ (hq q0 rfl)
          ((List.pairwise_cons.1 (List.pairwise_append.1 sPQ).2.1).1 b hb)

/-- `horz`'s successor `x`, standing at `far`, put where the walk ended: the AEL stays sorted when the edges passed are not beyond
`far` and the first edge not passed is not before it -/
theorem seg_sorted_surv (d : Bool) (L : List HEdge) (h : HEdge) (R P Q : List HEdge) (x : HEdge) (far : Int)
    (hs : SortedX (zip L h R)) (hpq : ahead d L R = P ++ Q) (hx : x.currX = far)
    (hh : if d then h.currX ≤ far else far ≤ h.currX)
    (hp : ∀ p ∈ P, if d then p.currX ≤ far else far ≤ p.currX)
    (hq : ∀ q ∈ Q.head?, if d then far ≤ q.currX else q.currX ≤ far) : SortedX (aelSurv d L R P Q x) := by
  unfold SortedX at hs ⊢
  cases d
  · -- right to left, `L = P ++ Q`: the mirror image, the reversed AEL being ordered by `≥`
    simp only [ahead, Bool.false_eq_true, if_false] at hpq hh hp hq
    subst hpq
    rw [← List.pairwise_reverse, zip_reverse] at hs
    have := surv_ordered (fun a b => b ≤ a) (fun _ _ _ h1 h2 => Int.le_trans h2 h1) R h P Q x far hs hx hh hp hq
    rw [← List.pairwise_reverse, zip_reverse] at this
    exact this
  · simp only [ahead, if_true] at hpq hh hp hq
    subst hpq
    have := surv_ordered (· ≤ ·) (fun _ _ _ => Int.le_trans) L h P Q x far hs hx hh hp hq
    simpa only [aelSurv, zip, if_true, List.reverse_append, List.reverse_reverse] using this

/-- removing `horz` and one more edge keeps the AEL sorted -/
theorem seg_sorted_max (d : Bool) (L : List HEdge) (h : HEdge) (R P : List HEdge) (p : HEdge) (t : List HEdge)
    (hs : SortedX (zip L h R)) (hpq : ahead d L R = P ++ p :: t) : SortedX (aelMax d L R P t) := by
  obtain ⟨s1, _, _⟩ := sortedX_zip hs
  unfold SortedX at s1 ⊢
  cases d
  · simp only [ahead, Bool.false_eq_true, if_false] at hpq
    simp only [aelMax, Bool.false_eq_true, if_false]
    subst hpq
    refine s1.sublist ?_
    simp only [List.reverse_append, List.reverse_cons, List.append_assoc]
    refine List.Sublist.append_left ?_ _
    exact List.sublist_append_right _ _
  · simp only [ahead, if_true] at hpq
    simp only [aelMax, if_true]
    subst hpq
    refine s1.sublist ?_
    simp only [List.append_assoc]
    refine List.Sublist.append_left (List.Sublist.append_left (List.sublist_cons_self _ _) _) _

theorem fwd_irrefl (d : Bool) (a : Int) : ¬ fwd d a a := by cases d <;> exact Int.lt_irrefl _

theorem fwd_asymm {d : Bool} {a b : Int} (h : fwd d a b) : ¬ fwd d b a := by cases d <;> exact Int.lt_asymm h

theorem not_fwd_of_le {d : Bool} {a b : Int} (h : if d then b ≤ a else a ≤ b) : ¬ fwd d a b := by
  cases d <;> exact Int.not_lt.2 h

theorem le_of_not_fwd {d : Bool} {a b : Int} (h : ¬ fwd d a b) : if d then b ≤ a else a ≤ b := by
  cases d <;> exact Int.not_lt.1 h

theorem le_of_fwd {d : Bool} {a b : Int} (h : fwd d a b) : if d then a ≤ b else b ≤ a := by
  cases d <;> exact Int.le_of_lt h

theorem fwd_of_le_of_ne {d : Bool} {a b : Int} (h : if d then a ≤ b else b ≤ a) (hne : a ≠ b) : fwd d a b := by
  cases d
  · exact Int.lt_iff_le_and_ne.2 ⟨h, hne.symm⟩
  · exact Int.lt_iff_le_and_ne.2 ⟨h, hne⟩

theorem between_iff {d : Bool} {x0 x1 : Int} {e : HEdge} :
    between d x0 x1 e = true ↔ fwd d x0 e.currX ∧ fwd d e.currX x1 := decide_eq_true_iff

/-- in the sorted AEL `aelSurv d L R P Q x` the edges passed stand at or before `x` in walk direction, the others at or behind it -/
theorem sortedX_aelSurv {d : Bool} {L R P Q : List HEdge} {x : HEdge} (hs : SortedX (aelSurv d L R P Q x)) :
    (∀ p ∈ P, if d then p.currX ≤ x.currX else x.currX ≤ p.currX) ∧
      (∀ q ∈ Q, if d then x.currX ≤ q.currX else q.currX ≤ x.currX) := by
  unfold SortedX aelSurv at hs
  cases d
  · obtain ⟨_, h2, h3⟩ := List.pairwise_append.1 hs
    exact ⟨fun p hp => (List.pairwise_cons.1 h2).1 p (List.mem_append_left _ (List.mem_reverse.2 hp)),
      fun q hq => h3 q (List.mem_reverse.2 hq) x List.mem_cons_self⟩
  · obtain ⟨_, h2, h3⟩ := List.pairwise_append.1 hs
    exact ⟨fun p hp => h3 p (List.mem_append_right _ hp) x List.mem_cons_self, fun q hq => (List.pairwise_cons.1 h2).1 q hq⟩

/-- neither the edges behind `horz` nor `horz` itself stand strictly ahead of where it stands: the edges strictly between two
points ahead, in walk order, are found among the edges ahead -/
theorem filter_zip_between {d : Bool} {L R : List HEdge} {h : HEdge} (hs : SortedX (zip L h R)) (x1 : Int) :
    (if d then (zip L h R).filter (between d h.currX x1) else ((zip L h R).filter (between d h.currX x1)).reverse) =
      (ahead d L R).filter (between d h.currX x1) := by
  obtain ⟨_, s2, s3⟩ := sortedX_zip hs
  have hh : ¬ between d h.currX x1 h = true := fun hb => fwd_irrefl d _ (between_iff.1 hb).1
  unfold zip
  rw [List.filter_append, List.filter_cons_of_neg hh]
  cases d
  · have hR : R.filter (between false h.currX x1) = [] :=
      List.filter_eq_nil_iff.2 (fun a ha hb => not_fwd_of_le (d := false) (s3 a ha) (between_iff.1 hb).1)
    rw [hR, List.append_nil, List.filter_reverse, if_neg Bool.false_ne_true, List.reverse_reverse]; rfl
  · have hL : L.reverse.filter (between true h.currX x1) = [] :=
      List.filter_eq_nil_iff.2 (fun a ha hb => not_fwd_of_le (d := true) (s2 a (List.mem_reverse.1 ha)) (between_iff.1 hb).1)
    rw [hL, List.nil_append, if_pos rfl]; rfl

/- After `horz` has passed `P` of the edges ahead (`Q` = the others) the zipper is
`(if d then P.reverse ++ L else Q, if d then Q else P.reverse ++ R)`: `Q` is ahead, `P` has joined the edges behind. -/

theorem ahead_pass (d : Bool) (L R P Q : List HEdge) :
    ahead d (if d then P.reverse ++ L else Q) (if d then Q else P.reverse ++ R) = Q := by cases d <;> rfl

theorem zip_pass (d : Bool) (L R P Q : List HEdge) (x : HEdge) :
    zip (if d then P.reverse ++ L else Q) x (if d then Q else P.reverse ++ R) = aelSurv d L R P Q x := by
  cases d
  · rfl
  · simp only [if_true, zip, aelSurv, List.reverse_append, List.reverse_reverse]

theorem length_pass (d : Bool) (L R P Q : List HEdge) (h : ahead d L R = P ++ Q) :
    (if d then P.reverse ++ L else Q).length = if d then L.length + P.length else L.length - P.length := by
  cases d
  · rw [show L = P ++ Q from h]; simp
  · simp [Nat.add_comm]

theorem aelSurv_pass (d : Bool) (L R P P2 Q2 : List HEdge) (x : HEdge) :
    aelSurv d (if d then P.reverse ++ L else P2 ++ Q2) (if d then P2 ++ Q2 else P.reverse ++ R) P2 Q2 x =
      aelSurv d L R (P ++ P2) Q2 x := by
  cases d <;> simp [aelSurv]

theorem aelMax_pass (d : Bool) (L R P P2 Q : List HEdge) (t : List HEdge) :
    aelMax d (if d then P.reverse ++ L else Q) (if d then Q else P.reverse ++ R) P2 t = aelMax d L R (P ++ P2) t := by
  cases d <;> simp [aelMax]

theorem evMax_pass (d : Bool) (L P P2 Q t : List HEdge) (hid pid : Nat) :
    evMax d (if d then P.reverse ++ L else Q) P2 t hid pid = evMax d L (P ++ P2) t hid pid := by
  cases d
  · rfl
  · simp only [if_true, evMax, List.length_append, List.length_reverse, Nat.add_comm P.length, Nat.add_assoc]

/-- what is proved of a call with a strictly monotone run (direction `d`), `evs` being the events emitted before -/
def MonoOut (d : Bool) (vmax : Option Nat) (L : List HEdge) (h : HEdge) (R : List HEdge) (evs : List Ev) (res : Res) : Prop :=
  ∃ P Q, ahead d L R = P ++ Q ∧ (∀ p ∈ P, some p.vtop ≠ vmax) ∧ res.fault = false ∧ SortedX res.ael ∧
    ((∃ hf, res.ael = aelSurv d L R P Q hf ∧ res.evs = evs ++ walkEvents d L.length h.id P ∧ hf.id = h.id ∧
        hf.currX = runEnd h ∧ hf.bot = ⟨runEnd h, h.top.y⟩ ∧ hf.isHorz = false) ∨
     (∃ p t, Q = p :: t ∧ some p.vtop = vmax ∧ res.ael = aelMax d L R P t ∧
        res.evs = evs ++ walkEvents d L.length h.id P ++ [evMax d L P t h.id p.id]))

/-- a turn that passes `P` and continues with another horizontal `h2` of the same run, followed by what is proved of the rest -/
theorem monoOut_pass {d : Bool} {vmax : Option Nat} {L R P Q : List HEdge} {h h2 : HEdge} {evs : List Ev} {res : Res}
    (hpq : ahead d L R = P ++ Q) (hP : ∀ p ∈ P, some p.vtop ≠ vmax) (hid : h2.id = h.id) (he : runEnd h2 = runEnd h)
    (hty : h2.top.y = h.top.y)
    (hres : MonoOut d vmax (if d then P.reverse ++ L else Q) h2 (if d then Q else P.reverse ++ R)
      (evs ++ walkEvents d L.length h.id P) res) : MonoOut d vmax L h R evs res := by
  obtain ⟨P2, Q2, e1, e2, e3, e4, e5⟩ := hres
  rw [ahead_pass] at e1
  have hev : evs ++ walkEvents d L.length h.id P ++ walkEvents d (if d then P.reverse ++ L else Q).length h2.id P2 =
      evs ++ walkEvents d L.length h.id (P ++ P2) := by
    rw [walkEvents_append, hid, length_pass d L R P Q hpq, List.append_assoc]
  refine ⟨P ++ P2, Q2, by rw [hpq, e1, List.append_assoc],
    fun p hp => (List.mem_append.1 hp).elim (hP p) (e2 p), e3, e4, ?_⟩
  rcases e5 with ⟨hf, a1, a2, a3, a4, a5, a6⟩ | ⟨p, t, a1, a2, a3, a4⟩
  · exact Or.inl ⟨hf, by rw [a1, e1, aelSurv_pass], a2.trans hev, a3.trans hid, a4.trans he, by rw [a5, he, hty], a6⟩
  · exact Or.inr ⟨p, t, a1, a2, by rw [a3, aelMax_pass], by rw [a4, hev, evMax_pass, hid]⟩

theorem outer_mono (pc : Bool) (topx : HEdge → Int → Int) (vmax : Option Nat) (d : Bool) : ∀ (fuel : Nat) (L : List HEdge) (h : HEdge)
    (R : List HEdge) (evs : List Ev), (flatRun h).length < fuel → Leaves h → h.currX = h.bot.x → RunMono d h →
    SortedX (zip L h R) → (∀ v, vmax = some v → ∃ p ∈ ahead d L R, p.vtop = v) →
    MonoOut d vmax L h R evs (outer pc topx vmax fuel L h R evs) := by
  intro fuel
  induction fuel with
  | zero => intro L h R evs hf; omega
  | succ fuel ih =>
    intro L h R evs hf hl hb hm hs hpa
    unfold outer
    cases hr : h.rest with
    | nil => obtain ⟨u, hu, _⟩ := hl; rw [hr] at hu; cases hu
    | cons nv tl =>
      obtain ⟨P, Q, hpart, hpass, hcase⟩ := segStep_spec pc topx vmax L h R evs nv tl hr
      obtain ⟨g1, g2, g4, -, g6⟩ := segOf_dir vmax h R nv.pt d hb hm
      rw [g1] at hpart hcase
      have hP : ∀ e ∈ P, some e.vtop ≠ vmax := fun e he => (hpass e he).1
      rcases hcase with ⟨p, t, hq, hp, hseg⟩ | ⟨h2, U, hstop, hseg⟩
      · -- the maxima pair leaves
        rw [hseg]
        exact ⟨P, Q, hpart, hP, rfl, seg_sorted_max d L h R P p t hs (hq ▸ hpart), Or.inr ⟨p, t, hq, hp, rfl, rfl⟩⟩
      · -- `UpdateEdgeIntoAEL`
        rw [hseg]
        -- the horizontal does not end in the maximum here: its pair, not passed, would be the edge that stopped the walk
        have hna : (segOf vmax h R nv.pt).atMax = false := by
          cases ha : (segOf vmax h R nv.pt).atMax with
          | false => rfl
          | true =>
            have hv : vmax = some h.vtop := of_decide_eq_true (g6 ▸ ha)
            obtain ⟨p, hp, hpv⟩ := hpa h.vtop hv
            rw [hpart] at hp
            have hpQ : p ∈ Q := (List.mem_append.1 hp).resolve_left (fun hp => hP p hp (by rw [hpv, hv]))
            cases Q with
            | nil => cases hpQ
            | cons q t => exact ha ▸ (hstop q rfl).1
        have hpb : ∀ e ∈ P, if d then e.currX ≤ h.top.x else h.top.x ≤ e.currX := by
          intro e he
          have hst : stopHere topx (segOf vmax h R nv.pt) e = false :=
            (hpass e he).2.resolve_left (by rw [hna]; exact Bool.false_ne_true)
          refine le_of_not_fwd (fun hf => Bool.eq_false_iff.1 hst (stopHere_iff.2 (Or.inl ?_)))
          rw [g1, g2]; exact hf
        have hqb : ∀ q ∈ Q.head?, if d then h.top.x ≤ q.currX else q.currX ≤ h.top.x := by
          intro q hq
          rcases stopHere_iff.1 (hstop q hq).2 with hf | ⟨he, _⟩
          · rw [g1, g2] at hf; exact le_of_fwd hf
          · rw [he, g4]; cases d <;> exact Int.le_refl _
        have hsorted : SortedX (aelSurv d L R P Q h2) :=
          seg_sorted_surv d L h R P Q h2 h.top.x hs hpart U.currX (le_of_fwd (hb ▸ runMono_head hm)) hpb hqb
        by_cases hy : nv.pt.y = h.top.y
        · -- another horizontal: next turn
          rw [if_neg (not_not_intro hy)]
          refine monoOut_pass hpart hP U.id (U.runEnd_eq hy) (U.row hy)
            (ih _ h2 _ _ (by have := U.measure hy; omega) (U.leaves hy hl) (by rw [U.currX, U.bot])
              (U.mono hy hm) (by rw [zip_pass]; exact hsorted) ?_)
          intro v hv
          rw [ahead_pass]
          obtain ⟨p, hp, hpv⟩ := hpa v hv
          rw [hpart] at hp
          exact (List.mem_append.1 hp).elim (fun hp => absurd (by rw [hpv, hv]) (hP p hp)) (fun hp => ⟨p, hp, hpv⟩)
        · -- the bound leaves the scanline: done
          rw [if_pos hy]
          have hend : runEnd h = h.top.x := runEnd_last h nv tl hr hy
          have hnh : h2.isHorz = false :=
            Bool.eq_false_iff.2 (fun hh => hy (by rw [isHorz_iff, U.leave hy, U.bot] at hh; exact hh))
          exact ⟨P, Q, hpart, hP, rfl, hsorted,
            Or.inl ⟨h2, rfl, rfl, U.id, by rw [U.currX, hend], by rw [U.bot, hend], hnh⟩⟩

theorem splitAt_spec (hid : Nat) : ∀ (ael acc L : List HEdge) (h : HEdge) (R : List HEdge),
    splitAt hid acc ael = some (L, h, R) → acc.reverse ++ ael = zip L h R ∧ h.id = hid := by
  intro ael
  induction ael with
  | nil => intro acc L h R hs; simp [splitAt] at hs
  | cons e rest ih =>
    intro acc L h R hs
    unfold splitAt at hs
    split at hs
    · rename_i he
      simp only [Option.some.injEq, Prod.mk.injEq] at hs
      obtain ⟨rfl, rfl, rfl⟩ := hs
      exact ⟨rfl, he⟩
    · obtain ⟨h1, h2⟩ := ih (e :: acc) L h R hs
      exact ⟨by simpa using h1, h2⟩

/-- the popped edge is found when it is in the AEL -/
theorem splitAt_of_mem (hid : Nat) : ∀ (ael acc : List HEdge), (∃ e ∈ ael, e.id = hid) → ∃ L h R, splitAt hid acc ael = some (L, h, R) := by
  intro ael
  induction ael with
  | nil => intro acc h; simp at h
  | cons e rest ih =>
    intro acc ⟨x, hx, hid'⟩
    unfold splitAt
    by_cases he : e.id = hid
    · exact ⟨acc, e, rest, by simp [he]⟩
    · simp only [he, if_false]
      rcases List.mem_cons.1 hx with rfl | hx
      · exact absurd hid' he
      · exact ih (e :: acc) ⟨x, hx, hid'⟩

theorem filter_split {α : Type} (p : α → Bool) (P Q : List α) (hp : ∀ a ∈ P, p a = true) (hq : ∀ a ∈ Q, p a = false) :
    (P ++ Q).filter p = P := by
  rw [List.filter_append, List.filter_eq_self.2 hp, List.filter_eq_nil_iff.2 (fun a ha => by simp [hq a ha])]
  simp

end Clipper.Lemmas.SweepHorz

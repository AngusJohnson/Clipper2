/- Lemmas for the path-level history model (Model/HistoryPaths.lean): lowering to member-level ops, the summary computed
from paths, replay on a fresh object, and the closed form of `minima_list_` in terms of the minima-with-rings of
`Lemmas/AddPathsRings.lean`. -/
import ClipperVerif.Model.HistoryPaths
import ClipperVerif.Lemmas.History
import ClipperVerif.Props.C13AddPaths
namespace Clipper.Lemmas.HistoryPaths
open Clipper Clipper.Model.History Clipper.Model.HistoryPaths Clipper.Lemmas.History

theorem lowerFrom_length (n : Nat) (h : List POp) : (lowerFrom n h).length = h.length := by
  induction h generalizing n with
  | nil => rfl
  | cons op h ih => simp [lowerFrom, ih]

theorem pstep_minima_length (i : Inputs) (op : POp) : (pstep i op).minima.length = nextCount i.minima.length op := by
  cases op with
  | addSubject _ | addOpenSubject _ | addClip _ | addReuseable _ => exact List.length_append
  | _ => rfl

theorem fold_lowerFrom (h : List POp) (i : Inputs) :
    (lowerFrom i.minima.length h).foldl Inputs.step i = h.foldl pstep i := by
  induction h generalizing i with
  | nil => rfl
  | cons op h ih =>
    simp only [lowerFrom, List.foldl_cons]
    rw [← pstep_minima_length]
    exact ih (pstep i op)

/-- the summary of the lowered history is the summary computed from the paths -/
theorem inputsOf_lower (h : List POp) : inputsOf (lower h) = pinputsOf h := fold_lowerFrom h {}

theorem lowerFrom_append (n : Nat) (h₁ h₂ : List POp) :
    lowerFrom n (h₁ ++ h₂) = lowerFrom n h₁ ++ lowerFrom (h₁.foldl nextCount n) h₂ := by
  induction h₁ generalizing n with
  | nil => rfl
  | cons op h ih => simp [lowerFrom, ih]

/-- an add call does not read the options -/
theorem pstep_add_opts (i : Inputs) (op : POp) (p r : Bool) (hop : POp.isAdd op = true) :
    { pstep i op with preserve := p, reverse := r } = pstep { i with preserve := p, reverse := r } op := by
  cases op with
  | addSubject _ | addOpenSubject _ | addClip _ | addReuseable _ => rfl
  | _ => exact Bool.noConfusion hop

/-- what is neither an add call nor `Clear` changes nothing but the options -/
theorem pstep_other_opts (i : Inputs) (op : POp) (p r : Bool) (h : POp.isAdd op = false) (hc : op ≠ .clear) :
    { pstep i op with preserve := p, reverse := r } = { i with preserve := p, reverse := r } := by
  cases op with
  | clear => exact absurd rfl hc
  | setPreserve _ | setReverse _ | execute _ _ _ => rfl
  | _ => exact Bool.noConfusion h

theorem psinceStep_ne_clear (acc : List POp) (op : POp) : op ≠ .clear →
    (match op with | .clear => [] | op => if POp.isAdd op then acc ++ [op] else acc) = if POp.isAdd op then acc ++ [op] else acc := by
  cases op with
  | clear => exact fun hc => absurd rfl hc
  | _ => exact fun _ => rfl

/-- the inputs are those of: the current options, then the add calls since the last Clear -/
theorem pinputsOf_closed (h : List POp) :
    pinputsOf h = (psinceClear h).foldl pstep { preserve := (pinputsOf h).preserve, reverse := (pinputsOf h).reverse } :=
  (sinceClear_fold (step := pstep) (opts := fun (i : Inputs) p r => { i with preserve := p, reverse := r }) (e := {})
    (fun _ _ _ => rfl)
    pstep_add_opts pstep_other_opts (fun _ => rfl) psinceStep_ne_clear h {} [] (fun _ _ => rfl)) _ _

open Clipper.Lemmas.AddPathsRings Clipper.Model.AddPathsRings Clipper.Props.C13AddPaths

/-- the history model's `LocalMin` for the minimum-with-ring `m`, named `v` -/
def histOf (v : Nat) (m : MinV) : LocalMin := ⟨m.pt.y, m.pt.x, m.polytype, m.isOpen, v⟩

/-- naming by order of creation, from `n` on -/
def label : Nat → List MinV → List LocalMin
  | _, [] => []
  | n, m :: l => histOf n m :: label (n + 1) l

theorem label_length (n : Nat) (l : List MinV) : (label n l).length = l.length := by
  induction l generalizing n with
  | nil => rfl
  | cons m l ih => simp [label, ih]

theorem label_append (n : Nat) (l₁ l₂ : List MinV) : label n (l₁ ++ l₂) = label n l₁ ++ label (n + l₁.length) l₂ := by
  induction l₁ generalizing n with
  | nil => simp [label]
  | cons m l ih => simp [label, ih, Nat.add_assoc, Nat.add_comm 1]

/-- the same naming on the (point, polytype, is_open) triples -/
def labelK : Nat → List (Pt × PathType × Bool) → List LocalMin
  | _, [] => []
  | n, k :: l => ⟨k.1.y, k.1.x, k.2.1, k.2.2, n⟩ :: labelK (n + 1) l

theorem label_eq_labelK (n : Nat) (l : List MinV) : label n l = labelK n (l.map (fun m => (m.pt, m.polytype, m.isOpen))) := by
  induction l generalizing n with
  | nil => rfl
  | cons m l ih => simp [label, labelK, histOf, ih]

theorem enum_map_labelK (n : Nat) (l : List LocMin) :
    (enum l).map (fun (jm : Nat × LocMin) => (⟨jm.2.pt.y, jm.2.pt.x, jm.2.polytype, jm.2.isOpen, n + jm.1⟩ : LocalMin))
      = labelK n (l.map (fun m => (m.pt, m.polytype, m.isOpen))) := by
  induction l generalizing n with
  | nil => rfl
  | cons m l ih =>
    unfold enum at ih ⊢
    simp only [List.length_cons, List.range_succ_eq_map, List.zip_cons_cons, List.map_cons, labelK, Nat.add_zero]
    congr 1
    rw [List.zip_map_left, List.map_map, ← ih (n + 1)]
    apply List.map_congr_left
    intro jm _
    simp [Nat.add_assoc, Nat.add_comm 1]

theorem minimaV_keys (out : Out) :
    (minimaV out).map (fun m => (m.pt, m.polytype, m.isOpen)) = out.minima.map (fun m => (m.pt, m.polytype, m.isOpen)) := by
  unfold minimaV Out.minima
  simp [List.map_flatMap, Function.comp_def]

/-- what `toAdded` contributes is the naming, by order of creation, of the minima-with-rings of the call -/
theorem toAdded_minima (pt : PathType) (isOpen : Bool) (ps : Paths) (n : Nat) :
    (toAdded pt isOpen ps n).minima = label n (minimaV (addPaths pt isOpen ps)) := by
  rw [label_eq_labelK, minimaV_keys, ← enum_map_labelK]
  rfl

/-- what one call does to the list of minima-with-rings created since the last `Clear` -/
def minimaVStep (acc : List MinV) (op : POp) : List MinV :=
  match op with
  | .clear => []
  | op => match POp.call op with
    | some (pt, o, ps) => acc ++ minimaV (addPaths pt o ps)
    | none => acc

/-- every minimum-with-ring created since the last `Clear`, in order of creation -/
def minimaVSince (h : List POp) : List MinV :=
  h.foldl (fun acc op => match op with
    | .clear => []
    | op => match POp.call op with
      | some (pt, o, ps) => acc ++ minimaV (addPaths pt o ps)
      | none => acc) []

def POp.isReuse : POp → Bool
  | .addReuseable _ => true
  | _ => false

theorem minima_closed_fold (h : List POp) (hnr : ∀ op ∈ h, POp.isReuse op = false) (i : Inputs) (acc : List MinV)
    (hi : i.minima = label 0 acc) :
    (h.foldl pstep i).minima = label 0 (h.foldl minimaVStep acc) := by
  induction h generalizing i acc with
  | nil => exact hi
  | cons op h ih =>
    refine ih (fun o ho => hnr o (List.mem_cons_of_mem _ ho)) _ _ ?_
    have hlen : i.minima.length = acc.length := by rw [hi, label_length]
    have hadd : ∀ pt o ps, i.minima ++ (toAdded pt o ps i.minima.length).minima = label 0 (acc ++ minimaV (addPaths pt o ps)) :=
      fun pt o ps => by rw [toAdded_minima, label_append, hlen, hi, Nat.zero_add]
    cases op with
    | addReuseable c => exact Bool.noConfusion (hnr _ List.mem_cons_self)
    | clear => rfl
    | addSubject ps => exact hadd ..
    | addOpenSubject ps => exact hadd ..
    | addClip ps => exact hadd ..
    | setPreserve b => exact hi
    | setReverse b => exact hi
    | execute ct fr tree => exact hi

/-- **closed form of `minima_list_`** (before sorting) for histories without `AddReuseableData` -/
theorem pinputs_minima (h : List POp) (hnr : ∀ op ∈ h, POp.isReuse op = false) :
    (pinputsOf h).minima = label 0 (minimaVSince h) :=
  minima_closed_fold h hnr {} [] rfl

/-- on a duplicate-free list, naming by order of creation is naming by position -/
theorem label_eq_map (n : Nat) (l : List MinV) (hnd : l.Nodup) :
    label n l = l.map (toHist (fun m => n + l.idxOf m)) := by
  induction l generalizing n with
  | nil => rfl
  | cons a l ih =>
    obtain ⟨ha, hl⟩ := List.nodup_cons.mp hnd
    simp only [label, List.map_cons]
    congr 1
    · simp [histOf, toHist, List.idxOf_cons_self]
    · rw [ih (n + 1) hl]
      apply List.map_congr_left
      intro m hm
      have hne : (a == m) = false := by
        have : a ≠ m := fun e => ha (e ▸ hm)
        simpa using this
      simp [toHist, List.idxOf_cons, hne, Nat.add_assoc, Nat.add_comm 1]

theorem nodup_of_distinct_pts {l : List MinV} (hd : l.Pairwise (fun a b => a.pt ≠ b.pt)) : l.Nodup :=
  hd.imp (fun h e => h (by rw [e]))

/-- **closed form of the sorted `minima_list_`** when the minima lie at distinct points: the minima-with-rings created
since the last `Clear`, sorted, each named by its creation number -/
theorem sorted_minima_closed (h : List POp) (hnr : ∀ op ∈ h, POp.isReuse op = false)
    (hd : (minimaVSince h).Pairwise (fun a b => a.pt ≠ b.pt)) :
    stableSort (pinputsOf h).minima = ((minimaVSince h).mergeSort leV).map (toHist ((minimaVSince h).idxOf ·)) ∧
    ∀ v ∈ (minimaVSince h).mergeSort leV, (minimaVSince h)[(minimaVSince h).idxOf v]? = some v := by
  refine ⟨?_, fun v hv => ?_⟩
  · rw [pinputs_minima h hnr, label_eq_map 0 _ (nodup_of_distinct_pts hd)]
    simp only [Nat.zero_add]
    exact stableSort_toHist _ _
  · have hlt := List.idxOf_lt_length_of_mem ((List.mergeSort_perm _ leV).mem_iff.mp hv)
    rw [List.getElem?_eq_getElem hlt, List.getElem_idxOf hlt]

inductive PermHist : List POp → List POp → Prop
  | nil : PermHist [] []
  | cons {a b : POp} {l l' : List POp} : POp.PermEq a b → PermHist l l' → PermHist (a :: l) (b :: l')

theorem toAdded_perm_fields (pt : PathType) (o : Bool) {ps ps' : Paths} (hp : ps.Perm ps') (n n' : Nat) :
    (toAdded pt o ps n).isOpen = (toAdded pt o ps' n').isOpen ∧ (toAdded pt o ps n).allocates = (toAdded pt o ps' n').allocates := by
  have hs : (ps.map List.length).sum = (ps'.map List.length).sum := (hp.map _).sum_nat
  simp [toAdded, Model.AddPathsRings.addPaths, hs]
  split <;> rfl

/-- two calls that differ at most in the order of their paths, on summaries that agree outside the minima list, leave them agreeing there -/
theorem pstep_rest {a b : POp} (hab : POp.PermEq a b) {i i' : Inputs} (hi : restOf i = restOf i') :
    restOf (pstep i a) = restOf (pstep i' b) := by
  obtain ⟨m, o, al, p, r⟩ := i
  obtain ⟨m', o', al', p', r'⟩ := i'
  obtain ⟨rfl, rfl, rfl, rfl⟩ : o = o' ∧ al = al' ∧ p = p' ∧ r = r' := by simpa [restOf] using hi
  -- an `AddPaths(paths, pt, f)`: `is_open` is `f`, and whether a vertex array is allocated does not depend on the order
  have add : ∀ (pt : PathType) (f : Bool) {ps ps' : Paths}, ps.Perm ps' →
      (o || f, al + (if (toAdded pt f ps m.length).allocates then 1 else 0), p, r) =
      (o || f, al + (if (toAdded pt f ps' m'.length).allocates then 1 else 0), p, r) :=
    fun pt f _ _ hp => by rw [(toAdded_perm_fields pt f hp _ _).2]
  cases hab with
  | addSubject hp => exact add .subject false hp
  | addOpenSubject hp => exact add .subject true hp
  | addClip hp => exact add .clip false hp
  | same =>
    cases a with
    | addSubject ps => exact add .subject false (.refl ps)
    | addOpenSubject ps => exact add .subject true (.refl ps)
    | addClip ps => exact add .clip false (.refl ps)
    | _ => rfl

theorem minimaVStep_perm {a b : POp} (hab : POp.PermEq a b) {acc acc' : List MinV} (hacc : acc.Perm acc') :
    (minimaVStep acc a).Perm (minimaVStep acc' b) := by
  cases hab with
  | addSubject hp | addOpenSubject hp | addClip hp => exact hacc.append (minimaV_perm _ _ hp)
  | same =>
    cases a with
    | addSubject _ | addOpenSubject _ | addClip _ => exact hacc.append_right _
    | clear => exact .refl _
    | _ => exact hacc

/-- invariant relating the summaries of two such histories -/
theorem permHist_fold {h h' : List POp} (hr : PermHist h h') (i i' : Inputs) (acc acc' : List MinV)
    (hacc : acc.Perm acc') (hi : restOf i = restOf i') :
    (h.foldl minimaVStep acc).Perm (h'.foldl minimaVStep acc') ∧ restOf (h.foldl pstep i) = restOf (h'.foldl pstep i') := by
  induction hr generalizing i i' acc acc' with
  | nil => exact ⟨hacc, hi⟩
  | cons hab _ ih => exact ih _ _ _ _ (minimaVStep_perm hab hacc) (pstep_rest hab hi)

/-- two histories that differ in the order of the paths within add calls create the same minima-with-rings, up to
order, and agree in the rest of the summary -/
theorem permHist_inputs {h h' : List POp} (hr : PermHist h h') :
    (minimaVSince h).Perm (minimaVSince h') ∧ restOf (pinputsOf h) = restOf (pinputsOf h') :=
  permHist_fold hr {} {} [] [] (.refl _) rfl

theorem permHist_noReuse {h h' : List POp} (hr : PermHist h h') (hnr : ∀ op ∈ h, POp.isReuse op = false) :
    ∀ op ∈ h', POp.isReuse op = false := by
  induction hr with
  | nil => simp
  | cons hab _ ih =>
    intro op hop
    rcases List.mem_cons.mp hop with rfl | hop
    · cases hab with
      | addSubject _ | addOpenSubject _ | addClip _ => rfl
      | same => exact hnr _ List.mem_cons_self
    · exact ih (fun o ho => hnr o (List.mem_cons_of_mem _ ho)) op hop

end Clipper.Lemmas.HistoryPaths

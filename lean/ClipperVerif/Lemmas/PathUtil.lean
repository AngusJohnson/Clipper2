/- Lemmas for Props/C20.lean: the Spec's `isSubseq` is `List.Sublist`; `TrimCollinear` and flag selection return
sublists; `RDP` by induction on its fuel, with the postcondition of a call (`RdpPost`) joined over the two recursive calls. -/
import ClipperVerif.Model.PathUtil
import ClipperVerif.Props.C18
namespace Clipper.Lemmas.PathUtil
open Clipper Clipper.Model.PathUtil

theorem isSubseq_iff_sublist (a b : List Pt) : isSubseq a b = true ↔ List.Sublist a b := by
  induction b generalizing a with
  | nil => cases a <;> simp [isSubseq]
  | cons y ys ih =>
    cases a with
    | nil => simp [isSubseq]
    | cons x xs =>
      simp only [isSubseq]
      by_cases h : x = y
      · subst h; simp [ih, List.cons_sublist_cons]
      · simp only [h, if_false, ih]
        constructor
        · intro hs; exact List.Sublist.cons _ hs
        · intro hs
          cases hs with
          | cons _ h' => exact h'
          | cons_cons _ _ => exact absurd rfl h

theorem isCollinear_iff (p1 s p2 : Pt) :
    isCollinear p1 s p2 = true ↔ (s.x - p1.x) * (p2.y - s.y) = (s.y - p1.y) * (p2.x - s.x) := by
  unfold isCollinear; exact Clipper.Props.C18.isCollinear_int128_exact _ _ _ _ _ _

theorem trimFront_suffix (last : Pt) (l : List Pt) : trimFront last l <:+ l := by
  fun_induction trimFront last l with
  | case1 a b rest h ih => exact List.IsSuffix.trans ih (List.suffix_cons _ _)
  | case2 a b rest h => exact List.suffix_refl _
  | case3 l h => exact List.suffix_refl _

theorem trimFront_sublist (last : Pt) (l : List Pt) : List.Sublist (trimFront last l) l :=
  (trimFront_suffix last l).sublist

theorem isCollinear_symm (a b c : Pt) : isCollinear a b c = isCollinear c b a := by
  rw [Bool.eq_iff_iff, isCollinear_iff, isCollinear_iff]
  constructor <;> intro h <;> grind

/-- the second trimming loop of a closed path, run on the reversed range, is the first one: its test
`IsCollinear(*(stop - 1), *stop, *srcIt)` is the mirror image of `IsCollinear(*stop, *srcIt, *(srcIt + 1))` -/
theorem trimBackRev_eq_trimFront (first : Pt) (l : List Pt) : trimBackRev first l = trimFront first l := by
  fun_induction trimBackRev first l with
  | case1 z y rest h ih =>
    rw [isCollinear_symm] at h
    simp only [trimFront]; rw [if_pos h]; exact ih
  | case2 z y rest h =>
    rw [isCollinear_symm] at h
    simp only [trimFront]; rw [if_neg h]
  | case3 l h =>
    match l, h with
    | [], _ => rfl
    | [a], _ => rfl
    | z :: y :: rest, h => exact absurd rfl (h z y rest)

theorem trimBackRev_sublist (first : Pt) (l : List Pt) : List.Sublist (trimBackRev first l) l :=
  trimBackRev_eq_trimFront first l ▸ trimFront_sublist first l

theorem trimPopRev_sublist (first : Pt) (l : List Pt) : List.Sublist (trimPopRev first l) l := by
  fun_induction trimPopRev first l with
  | case1 z y w rest h ih => exact List.Sublist.cons _ ih
  | case2 z y w rest h => exact List.Sublist.refl _
  | case3 l h => exact List.Sublist.refl _

theorem trimLoop_sublist (prev cur : Pt) (l : List Pt) :
    List.Sublist ((trimLoop prev cur l).1 ++ [(trimLoop prev cur l).2.2]) (cur :: l) := by
  induction l generalizing prev cur with
  | nil => simp [trimLoop]
  | cons n rest ih =>
    simp only [trimLoop]
    split
    · exact List.Sublist.cons _ (ih prev n)
    · exact List.Sublist.cons_cons _ (ih cur n)

theorem trimLoop_stop (prev cur : Pt) (l : List Pt) :
    (cur :: l).getLast? = some (trimLoop prev cur l).2.2 := by
  induction l generalizing prev cur with
  | nil => simp [trimLoop]
  | cons n rest ih =>
    simp only [trimLoop]
    split
    · rw [← ih prev n]; simp [List.getLast?_cons_cons]
    · rw [← ih cur n]; simp [List.getLast?_cons_cons]

theorem trimClosedBody_sublist (seg : List Pt) : List.Sublist (trimClosedBody seg) seg := by
  unfold trimClosedBody
  split
  · rename_i a c rest
    have h := trimLoop_sublist a c rest
    simp only []
    split
    · exact List.Sublist.cons_cons _ h
    · split
      · exact List.nil_sublist _
      · refine List.Sublist.trans (List.reverse_sublist.mpr (trimPopRev_sublist _ _)) ?_
        rw [List.reverse_reverse]
        exact List.Sublist.cons_cons _ (List.Sublist.trans (List.sublist_append_left _ _) h)
  · exact List.nil_sublist _

theorem trimEnds_sublist (p : List Pt) : List.Sublist (trimEnds p) p := by
  unfold trimEnds
  split
  · exact List.nil_sublist _
  · rename_i last _
    have h1 := trimFront_sublist last p
    simp only []
    split
    · exact List.nil_sublist _
    · rename_i first t heq
      refine List.Sublist.trans (List.reverse_sublist.mpr (trimBackRev_sublist _ _)) ?_
      rw [List.reverse_reverse]; exact h1

theorem trimCollinear_sublist (p : List Pt) (o : Bool) : List.Sublist (trimCollinear p o) p := by
  unfold trimCollinear
  split
  · split
    · split
      · split
        · exact List.nil_sublist _
        · exact List.Sublist.refl _
      · exact List.nil_sublist _
    · exact List.nil_sublist _
  · split
    · split
      · exact List.Sublist.cons_cons _ (trimLoop_sublist _ _ _)
      · exact List.nil_sublist _
    · exact List.Sublist.trans (trimClosedBody_sublist _) (trimEnds_sublist _)

theorem selectFlags_sublist (k : Bool) (p : List Pt) (f : List Bool) : List.Sublist (selectFlags k p f) p := by
  induction p generalizing f with
  | nil => simp [selectFlags]
  | cons a ps ih =>
    cases f with
    | nil => simp [selectFlags]
    | cons b fs =>
      simp only [selectFlags]
      split
      · exact List.Sublist.cons_cons _ (ih fs)
      · exact List.Sublist.cons _ (ih fs)

variable {D : Type}

/-- what the theorems need from the compared doubles -/
structure DistLaws (ops : DistOps D) : Prop where
  total : ∀ a b, ops.le a b = true ∨ ops.le b a = true
  trans : ∀ a b c, ops.le a b = true → ops.le b c = true → ops.le a c = true
  /-- `PerpendicDistFromLineSqrd(pt, l1, l2)` is `0` when `pt` is `l1` or `l2` -/
  ends_zero : ∀ a b, ops.le (ops.dist2 a a b) ops.zero = true ∧ ops.le (ops.dist2 b a b) ops.zero = true

def Kept (flags : List Bool) (i : Nat) : Prop := flags[i]? = some true
def Dropped (flags : List Bool) (i : Nat) : Prop := flags[i]? = some false

theorem rdpShrink_id (path : List Pt) (b e : Nat)
    (h : e ≤ b ∨ nth path b ≠ nth path e) : rdpShrink path b e = e := by
  cases e with
  | zero => rfl
  | succ e =>
    simp only [rdpShrink]
    rw [if_neg]
    intro ⟨h1, h2⟩
    cases h with
    | inl h => omega
    | inr h => exact h h2

/-- the `while` loop at the head of `RDP`: the new `end` stays in `[begin, end]`, everything it skipped equals
`path[begin]`, and `path[begin] ≠ path[end']` unless `end' = begin` -/
theorem rdpShrink_spec (path : List Pt) (b e : Nat) (hbe : b ≤ e) :
    b ≤ rdpShrink path b e ∧ rdpShrink path b e ≤ e ∧
    (∀ j, rdpShrink path b e < j → j ≤ e → nth path j = nth path b) ∧
    (b < rdpShrink path b e → nth path b ≠ nth path (rdpShrink path b e)) := by
  induction e with
  | zero =>
    have e0 : rdpShrink path b 0 = 0 := rfl
    rw [e0]
    exact ⟨hbe, Nat.le_refl _, fun j h1 h2 => by omega, fun h => by omega⟩
  | succ e ih =>
    simp only [rdpShrink]
    split
    · rename_i hc
      obtain ⟨h1, h2, h3, h4⟩ := ih (by omega)
      refine ⟨h1, by omega, ?_, h4⟩
      intro j hj1 hj2
      by_cases hje : j = e + 1
      · rw [hje]; exact hc.2.symm
      · exact h3 j hj1 (by omega)
    · rename_i hc
      refine ⟨hbe, Nat.le_refl _, fun j h1 h2 => by omega, fun hb he => hc ⟨hb, he⟩⟩

theorem set_kept (flags : List Bool) (e : Nat) (h : flags[e]? = some true) : flags.set e true = flags := by
  apply List.ext_getElem?
  intro j
  rw [List.getElem?_set]
  split
  · rename_i he; subst he
    rw [h]; split
    · rfl
    · rename_i hl
      have := (List.getElem?_eq_some_iff.mp h).1
      exact absurd this hl
  · rfl

/-- the loop of `rdpMax` over any index list and start value: the last index whose value exceeds everything before -/
def argMax (ops : DistOps D) (d : Nat → D) (is : List Nat) (acc : Nat × D) : Nat × D :=
  is.foldl (fun acc i => if ops.le (d i) acc.2 then acc else (i, d i)) acc

theorem argMax_spec (ops : DistOps D) (L : DistLaws ops) (d : Nat → D) (is : List Nat) (acc : Nat × D) :
    ops.le acc.2 (argMax ops d is acc).2 = true ∧
    (∀ i ∈ is, ops.le (d i) (argMax ops d is acc).2 = true) ∧
    (argMax ops d is acc = acc ∨
      ((argMax ops d is acc).1 ∈ is ∧ (argMax ops d is acc).2 = d (argMax ops d is acc).1 ∧
       ops.le (argMax ops d is acc).2 acc.2 = false)) := by
  induction is generalizing acc with
  | nil => exact ⟨(L.total _ _).elim id id, nofun, Or.inl rfl⟩
  | cons i rest ih =>
    rw [show argMax ops d (i :: rest) acc = argMax ops d rest (if ops.le (d i) acc.2 then acc else (i, d i)) from rfl]
    by_cases hle : ops.le (d i) acc.2 = true
    · rw [if_pos hle]
      obtain ⟨h1, h2, h3⟩ := ih acc
      exact ⟨h1, fun j hj => (List.mem_cons.mp hj).elim (fun e => e ▸ L.trans _ _ _ hle h1) (h2 j),
        h3.imp id fun h => ⟨List.mem_cons_of_mem _ h.1, h.2⟩⟩
    · rw [if_neg hle]
      obtain ⟨h1, h2, h3⟩ := ih (i, d i)
      -- the result is at least `d i`, which is not below `acc.2`
      have hlt : ops.le (argMax ops d rest (i, d i)).2 acc.2 = false :=
        Bool.eq_false_iff.mpr fun h => hle (L.trans _ _ _ h1 h)
      refine ⟨L.trans _ _ _ ((L.total _ _).resolve_right hle) h1,
        fun j hj => (List.mem_cons.mp hj).elim (fun e => e ▸ h1) (h2 j), Or.inr ?_⟩
      rcases h3 with h | h
      · rw [h] at hlt ⊢; exact ⟨List.mem_cons_self, rfl, hlt⟩
      · exact ⟨List.mem_cons_of_mem _ h.1, h.2.1, hlt⟩

theorem rdpMax_spec (ops : DistOps D) (L : DistLaws ops) (path : List Pt) (b e : Nat) :
    (∀ i, b < i → i < e →
      ops.le (ops.dist2 (nth path i) (nth path b) (nth path e)) (rdpMax ops path b e).2 = true) ∧
    (rdpMax ops path b e = (0, ops.zero) ∨
      (b < (rdpMax ops path b e).1 ∧ (rdpMax ops path b e).1 < e ∧
        (rdpMax ops path b e).2 = ops.dist2 (nth path (rdpMax ops path b e).1) (nth path b) (nth path e) ∧
        ops.le (rdpMax ops path b e).2 ops.zero = false)) := by
  obtain ⟨_, h2, h3⟩ := argMax_spec ops L (fun i => ops.dist2 (nth path i) (nth path b) (nth path e))
    (List.range' (b + 1) (e - (b + 1))) (0, ops.zero)
  rw [show rdpMax ops path b e = argMax ops (fun i => ops.dist2 (nth path i) (nth path b) (nth path e))
    (List.range' (b + 1) (e - (b + 1))) (0, ops.zero) from rfl]
  refine ⟨fun i hbi hie => h2 i (by rw [List.mem_range'_1]; omega), h3.imp id fun h => ?_⟩
  have hm := List.mem_range'_1.mp h.1
  exact ⟨by omega, by omega, h.2.1, h.2.2⟩

def SegOk (ops : DistOps D) (path : List Pt) (eps : D) (flags : List Bool) (b e : Nat) : Prop :=
  ∀ i, b < i → i < e → Dropped flags i →
    ∃ l r, b ≤ l ∧ l < i ∧ i < r ∧ r ≤ e ∧ Kept flags l ∧ Kept flags r ∧
      (∀ j, l < j → j < r → Dropped flags j) ∧
      ops.le (ops.dist2 (nth path i) (nth path l) (nth path r)) eps = true

/-- what a call `RDP(path, b, e, epsSqrd, flags)` may make of `flags`: flags outside `(b, e)` are untouched and every
vertex left unflagged inside is within `eps` of the line through the nearest flagged vertices on either side -/
def RdpPost (ops : DistOps D) (path : List Pt) (eps : D) (flags : List Bool) (b e : Nat) (r : List Bool) : Prop :=
  r.length = flags.length ∧ (∀ j, j ≤ b → r[j]? = flags[j]?) ∧ (∀ j, e ≤ j → r[j]? = flags[j]?) ∧
    SegOk ops path eps r b e

theorem rdpPost_adjacent (ops : DistOps D) (path : List Pt) (eps : D) (flags : List Bool) {b e : Nat}
    (h : e ≤ b + 1) : RdpPost ops path eps flags b e flags :=
  ⟨rfl, fun _ _ => rfl, fun _ _ => rfl, fun i h1 h2 _ => by omega⟩

/-- the two recursive calls: `idx` is flagged, then `(b, idx)` and `(idx, e)` are treated one after the other -/
theorem rdpPost_split (ops : DistOps D) (path : List Pt) (eps : D) {flags f2 f3 : List Bool} {b idx e : Nat}
    (hbi : b < idx) (hie : idx < e) (hlen : idx < flags.length)
    (h2 : RdpPost ops path eps (flags.set idx true) b idx f2) (h3 : RdpPost ops path eps f2 idx e f3) :
    RdpPost ops path eps flags b e f3 := by
  obtain ⟨l2, lo2, hi2, s2⟩ := h2
  obtain ⟨l3, lo3, hi3, s3⟩ := h3
  have hidx : f3[idx]? = some true :=
    (lo3 idx (Nat.le_refl _)).trans ((hi2 idx (Nat.le_refl _)).trans (List.getElem?_set_self hlen))
  refine ⟨by rw [l3, l2, List.length_set], fun j hj => ?_, fun j hj => ?_, fun i h1 h2 hd => ?_⟩
  · exact (lo3 j (Nat.le_trans hj (Nat.le_of_lt hbi))).trans ((lo2 j hj).trans
      (List.getElem?_set_ne (Nat.ne_of_gt (Nat.lt_of_le_of_lt hj hbi))))
  · exact (hi3 j hj).trans ((hi2 j (Nat.le_trans (Nat.le_of_lt hie) hj)).trans
      (List.getElem?_set_ne (Nat.ne_of_lt (Nat.lt_of_lt_of_le hie hj))))
  · rcases Nat.lt_trichotomy i idx with hi | hi | hi
    · obtain ⟨l, r, a1, a2, a3, a4, a5, a6, a7, a8⟩ := s2 i h1 hi ((lo3 i (Nat.le_of_lt hi)).symm.trans hd)
      exact ⟨l, r, a1, a2, a3, Nat.le_trans a4 (Nat.le_of_lt hie),
        (lo3 l (Nat.le_of_lt (Nat.lt_trans a2 hi))).trans a5, (lo3 r a4).trans a6,
        fun j c1 c2 => (lo3 j (Nat.le_of_lt (Nat.lt_of_lt_of_le c2 a4))).trans (a7 j c1 c2), a8⟩
    · rw [hi] at hd; exact absurd (hidx.symm.trans hd) nofun
    · obtain ⟨l, r, a1, a2, a3, a4, a5, a6, a7, a8⟩ := s3 i hi h2 hd
      exact ⟨l, r, Nat.le_trans (Nat.le_of_lt hbi) a1, a2, a3, a4, a5, a6, a7, a8⟩

/-- one call `RDP(path, begin, end, epsSqrd, flags)` whose end points differ -/
theorem rdp_spec (ops : DistOps D) (L : DistLaws ops) (path : List Pt) (eps : D)
    (hz : ops.le ops.zero eps = true) :
    ∀ (fuel b e : Nat) (flags : List Bool), e - b < fuel → b ≤ e → e < flags.length →
      Kept flags b → Kept flags e → (∀ j, b < j → j < e → Dropped flags j) →
      (b < e → nth path b ≠ nth path e) →
      RdpPost ops path eps flags b e (rdp ops path eps fuel b e flags) := by
  intro fuel
  induction fuel with
  | zero => intro b e flags h; omega
  | succ fuel ih =>
    intro b e flags hfuel hbe hlen hKb hKe hmid hne
    -- the `while` loop at the head of the call does nothing, and `flags[end] = true` re-sets a set flag
    simp only [rdp, set_kept flags e hKe,
      rdpShrink_id path b e (if h : b < e then Or.inr (hne h) else Or.inl (Nat.not_lt.mp h))]
    obtain ⟨hall, hcase⟩ := rdpMax_spec ops L path b e
    generalize rdpMax ops path b e = m at hall hcase
    obtain ⟨idx, md⟩ := m
    simp only [] at hall hcase ⊢
    by_cases hle : ops.le md eps = true
    · rw [if_pos hle]
      exact ⟨rfl, fun _ _ => rfl, fun _ _ => rfl, fun i hbi hie _ =>
        ⟨b, e, Nat.le_refl _, hbi, hie, Nat.le_refl _, hKb, hKe, hmid, L.trans _ _ _ (hall i hbi hie) hle⟩⟩
    · rw [if_neg hle]
      obtain ⟨hbi, hie, hmd, hpos⟩ : b < idx ∧ idx < e ∧ md = ops.dist2 (nth path idx) (nth path b) (nth path e) ∧
          ops.le md ops.zero = false := by
        rcases hcase with h | h
        · rw [(Prod.mk.inj h).2] at hle; exact absurd hz hle
        · exact h
      -- `path[idx]` is farther than `0` from the line, so it is neither `path[b]` nor `path[e]`
      have hneb : nth path b ≠ nth path idx := fun heq => by
        rw [hmd, ← heq, (L.ends_zero (nth path b) (nth path e)).1] at hpos; cases hpos
      have hnee : nth path idx ≠ nth path e := fun heq => by
        rw [hmd, heq, (L.ends_zero (nth path b) (nth path e)).2] at hpos; cases hpos
      have hidxlen : idx < flags.length := Nat.lt_trans hie hlen
      have hfuel' : e - b ≤ fuel := Nat.le_of_lt_succ hfuel
      have h2 : RdpPost ops path eps (flags.set idx true) b idx
          (if idx > b + 1 then rdp ops path eps fuel b idx (flags.set idx true) else flags.set idx true) := by
        split
        · exact ih b idx (flags.set idx true) (by omega) (Nat.le_of_lt hbi)
            (by rw [List.length_set]; exact hidxlen)
            ((List.getElem?_set_ne (Nat.ne_of_gt hbi)).trans hKb) (List.getElem?_set_self hidxlen)
            (fun j c1 c2 => (List.getElem?_set_ne (Nat.ne_of_gt c2)).trans (hmid j c1 (Nat.lt_trans c2 hie)))
            (fun _ => hneb)
        · exact rdpPost_adjacent ops path eps _ (Nat.not_lt.mp ‹_›)
      generalize (if idx > b + 1 then rdp ops path eps fuel b idx (flags.set idx true) else flags.set idx true)
        = f2 at h2 ⊢
      refine rdpPost_split ops path eps hbi hie hidxlen h2 ?_
      split
      · exact ih idx e f2 (by omega) (Nat.le_of_lt hie) (by rw [h2.1, List.length_set]; exact hlen)
          ((h2.2.2.1 idx (Nat.le_refl _)).trans (List.getElem?_set_self hidxlen))
          ((h2.2.2.1 e (Nat.le_of_lt hie)).trans ((List.getElem?_set_ne (Nat.ne_of_lt hie)).trans hKe))
          (fun j c1 c2 => (h2.2.2.1 j (Nat.le_of_lt c1)).trans
            ((List.getElem?_set_ne (Nat.ne_of_lt c1)).trans (hmid j (Nat.lt_trans hbi c1) c2)))
          (fun _ => hnee)
      · exact rdpPost_adjacent ops path eps _ (by omega)

theorem rdp_shrink_eq (ops : DistOps D) (path : List Pt) (eps : D) (fuel b e : Nat) (flags : List Bool)
    (hbe : b ≤ e) :
    rdp ops path eps (fuel + 1) b e flags
      = rdp ops path eps (fuel + 1) b (rdpShrink path b e) (flags.set (rdpShrink path b e) true) := by
  obtain ⟨h1, _, _, h4⟩ := rdpShrink_spec path b e hbe
  have hid : rdpShrink path b (rdpShrink path b e) = rdpShrink path b e :=
    rdpShrink_id path b _ (if h : b < rdpShrink path b e then Or.inr (h4 h) else Or.inl (Nat.not_lt.mp h))
  simp only [rdp, hid, List.set_set]

/-- Specification of `RDP(path, begin, end, epsSqrd, flags)` for arbitrary end points (they may be equal points): the
leading `while` loop moves `end` back to `end'` over copies of `path[begin]`, `flags[end']` is set, and the vertices it
skipped are copies of `path[end]`, hence at distance 0 from the line through `path[end']`, `path[end]`. -/
theorem rdp_spec_full (ops : DistOps D) (L : DistLaws ops) (path : List Pt) (eps : D)
    (hz : ops.le ops.zero eps = true)
    (fuel b e : Nat) (flags : List Bool) (hfuel : e - b < fuel) (hbe : b ≤ e) (hlen : e < flags.length)
    (hKb : Kept flags b) (hKe : Kept flags e) (hmid : ∀ j, b < j → j < e → Dropped flags j) :
    RdpPost ops path eps flags b e (rdp ops path eps fuel b e flags) := by
  cases fuel with
  | zero => omega
  | succ fuel =>
    rw [rdp_shrink_eq ops path eps fuel b e flags hbe]
    obtain ⟨h1, h2, h3, h4⟩ := rdpShrink_spec path b e hbe
    generalize rdpShrink path b e = e' at h1 h2 h3 h4
    have he'len : e' < flags.length := Nat.lt_of_le_of_lt h2 hlen
    -- flagging `e'` changes nothing at `b` and `e`, which are flagged already
    have hset : ∀ j, (j ≤ b ∨ e ≤ j) → (flags.set e' true)[j]? = flags[j]? := by
      intro j hj
      by_cases he : e' = j
      · rw [← he, List.getElem?_set_self he'len]
        rcases hj with hj | hj
        · rw [show e' = b by omega]; exact hKb.symm
        · rw [show e' = e by omega]; exact hKe.symm
      · exact List.getElem?_set_ne he
    obtain ⟨g1, glo, ghi, g3⟩ := rdp_spec ops L path eps hz (fuel + 1) b e' (flags.set e' true) (by omega) h1
      (by rw [List.length_set]; exact he'len)
      ((hset b (Or.inl (Nat.le_refl _))).trans hKb) (List.getElem?_set_self he'len)
      (fun j c1 c2 => (List.getElem?_set_ne (Nat.ne_of_gt c2)).trans (hmid j c1 (Nat.lt_of_lt_of_le c2 h2))) h4
    have hke' := (ghi e' (Nat.le_refl _)).trans (List.getElem?_set_self he'len)
    refine ⟨by rw [g1, List.length_set], fun j hj => (glo j hj).trans (hset j (Or.inl hj)),
      fun j hj => (ghi j (Nat.le_trans h2 hj)).trans (hset j (Or.inr hj)), fun i hbi hie hd => ?_⟩
    rcases Nat.lt_trichotomy i e' with hi | hi | hi
    · obtain ⟨l, r, a1, a2, a3, a4, a5, a6, a7, a8⟩ := g3 i hbi hi hd
      exact ⟨l, r, a1, a2, a3, Nat.le_trans a4 h2, a5, a6, a7, a8⟩
    · rw [hi] at hd; exact absurd (hke'.symm.trans hd) nofun
    · -- `i` was skipped by the `while` loop: it is a copy of `path[begin] = path[end]`
      refine ⟨e', e, h1, hi, hie, Nat.le_refl _, hke', (ghi e h2).trans ((hset e (Or.inr (Nat.le_refl _))).trans hKe),
        fun j c1 c2 => (ghi j (Nat.le_of_lt c1)).trans
          ((List.getElem?_set_ne (Nat.ne_of_lt c1)).trans (hmid j (Nat.lt_of_le_of_lt h1 c1) c2)), ?_⟩
      rw [h3 i hi (Nat.le_of_lt hie), ← h3 e (Nat.lt_trans hi hie) (Nat.le_refl _)]
      exact L.trans _ _ _ (L.ends_zero (nth path e') (nth path e)).2 hz

theorem selectFlags_head (k : Bool) (p : List Pt) (f : List Bool) (h : f[0]? = some k) :
    (selectFlags k p f).head? = p.head? := by
  cases p with
  | nil => cases f <;> simp [selectFlags]
  | cons a ps =>
    cases f with
    | nil => simp at h
    | cons b fs =>
      simp only [List.getElem?_cons_zero, Option.some.injEq] at h
      subst h; simp [selectFlags]

theorem selectFlags_getLast (k : Bool) (p : List Pt) (f : List Bool) (hl : f.length = p.length)
    (h : f[p.length - 1]? = some k) : (selectFlags k p f).getLast? = p.getLast? := by
  induction p generalizing f with
  | nil => cases f <;> simp [selectFlags]
  | cons a ps ih =>
    cases f with
    | nil => simp at hl
    | cons b fs =>
      cases ps with
      | nil =>
        cases fs with
        | nil =>
          simp only [List.length_cons, List.length_nil, Nat.zero_add, Nat.sub_self,
            List.getElem?_cons_zero, Option.some.injEq] at h
          subst h; simp [selectFlags]
        | cons _ _ => simp at hl
      | cons c ps' =>
        have hl' : fs.length = (c :: ps').length := by simpa using hl
        have h' : fs[(c :: ps').length - 1]? = some k := by
          simp only [List.length_cons, Nat.add_sub_cancel] at h ⊢
          rw [List.getElem?_cons_succ] at h; exact h
        have := ih fs hl' h'
        have hne : (c :: ps').getLast? = some ((c :: ps').getLast (by simp)) := List.getLast?_eq_some_getLast _
        simp only [selectFlags]
        split
        · rw [List.getLast?_cons, this, hne, List.getLast?_cons_cons, hne]; rfl
        · rw [this, List.getLast?_cons_cons]

/-- `RamerDouglasPeucker`'s flags for a non-empty path: both end points are flagged, and every vertex left unflagged is
within `eps` of the line through the nearest flagged vertices on either side -/
theorem rdpFlags_spec (ops : DistOps D) (L : DistLaws ops) (path : List Pt) (eps : D)
    (hz : ops.le ops.zero eps = true) (hlen : 1 ≤ path.length) :
    (rdpFlags ops path eps).length = path.length ∧ Kept (rdpFlags ops path eps) 0 ∧
      Kept (rdpFlags ops path eps) (path.length - 1) ∧ SegOk ops path eps (rdpFlags ops path eps) 0 (path.length - 1) := by
  have h1 : (((List.replicate path.length false).set 0 true).set (path.length - 1) true).length = path.length := by simp
  have h3 : Kept (((List.replicate path.length false).set 0 true).set (path.length - 1) true) (path.length - 1) :=
    List.getElem?_set_self (by rw [List.length_set, List.length_replicate]; omega)
  have h2 : Kept (((List.replicate path.length false).set 0 true).set (path.length - 1) true) 0 := by
    by_cases h0 : path.length - 1 = 0
    · rw [h0] at h3 ⊢; exact h3
    · exact (List.getElem?_set_ne h0).trans (List.getElem?_set_self (by rw [List.length_replicate]; omega))
  obtain ⟨g1, glo, ghi, g3⟩ := rdp_spec_full ops L path eps hz path.length 0 (path.length - 1) _
    (by omega) (by omega) (by rw [h1]; omega) h2 h3 (fun j c1 c2 => by
      unfold Dropped
      rw [List.getElem?_set_ne (by omega), List.getElem?_set_ne (by omega), List.getElem?_replicate, if_pos (by omega)])
  exact ⟨g1.trans h1, (glo 0 (Nat.le_refl _)).trans h2, (ghi (path.length - 1) (Nat.le_refl _)).trans h3, g3⟩

end Clipper.Lemmas.PathUtil

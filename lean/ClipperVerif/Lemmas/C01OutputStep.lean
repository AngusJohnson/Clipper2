/-
What the composite steps of the ring model (`AddOutPt … SwapOutrecs`, `AddLocalMaxPoly`) do to the END POINTS of the rings under
construction and which segments they log, and what the events of a sweep without joins, open paths and horizontal edges (`Plain`) reduce
to.  The events themselves are accounted for in `Lemmas/C01CrownStep.lean`.  Core Lean only.
-/
import ClipperVerif.Lemmas.C01OutputEnds
import ClipperVerif.Props.C01Rings
namespace Clipper.Lemmas.C01Output
open Clipper Clipper.Model

/-- no edge is joined, none belongs to an open path -/
def Plain (l : List Model.SEdge) : Prop := ∀ x ∈ l, x.join = .none ∧ x.e.isOpen = false

/-- afterwards the end point of the ring end `x'` holds is the event's point, or the end point of the ring end `x` held before -/
def Carry (pt : Pt) (o o' : Out) (x x' : Model.SEdge) : Prop :=
  ∀ k' p, x'.orec = some k' → endOf o' k' = some p → p = pt ∨ ∃ k, x.orec = some k ∧ endOf o k = some p

/-- … for an edge the event does not touch: the end point it had -/
def CarryS (o o' : Out) (x x' : Model.SEdge) : Prop :=
  ∀ k' p, x'.orec = some k' → endOf o' k' = some p → ∃ k, x.orec = some k ∧ endOf o k = some p

/-- every segment logged by the event runs from the end point of a ring end held by one of the edges `l` to the event's point, and is an
`extend` (`AddOutPt`) or a `meet` (`AddLocalMaxPoly`) segment -/
def NewSegs (pt : Pt) (l : List Model.SEdge) (o o' : Out) : Prop :=
  ∀ sg ∈ o'.segs, sg ∈ o.segs ∨
    (sg.q = pt ∧ (sg.kind = .extend ∨ sg.kind = .meet) ∧ ∃ x ∈ l, ∃ k, x.orec = some k ∧ some sg.p = endOf o k)

theorem carry_of_carryS {pt : Pt} {o o' : Out} {x x' : Model.SEdge} (h : CarryS o o' x x') : Carry pt o o' x x' :=
  fun k' p h1 h2 => Or.inr (h k' p h1 h2)

theorem forall_pair {α} {Q : α → Prop} {a b : α} (ha : Q a) (hb : Q b) : ∀ x ∈ [a, b], Q x := by
  intro x hx
  rcases List.mem_cons.1 hx with rfl | hx
  · exact ha
  · rw [List.mem_singleton.1 hx]; exact hb

theorem mem_set_cases {α} (l : List α) (i : Nat) (a x : α) (h : x ∈ l.set i a) : x = a ∨ x ∈ l := by
  rcases List.mem_or_eq_of_mem_set h with h | h
  · exact Or.inr h
  · exact Or.inl h

theorem rec_ne_iff (k r : Rec) : k ≠ r ↔ (k.id ≠ r.id ∨ k.front ≠ r.front) := by
  constructor
  · intro h
    by_cases e : k.id = r.id
    · right; intro e2; exact h (rec_eq k r e e2)
    · left; exact e
  · rintro (h | h) e <;> subst e <;> exact h rfl

theorem endOf_addOn_self (k : Rec) (pt : Pt) (o : Out) (h : LiveAt o.rings k.id) : endOf (addOn (some k) pt o) k = some pt :=
  endAt_addOutPt_self k.id k.front pt o h

theorem endOf_addOn_other (r : Option Rec) (pt : Pt) (o : Out) (k : Rec) (hne : r ≠ some k) (hl : LiveAt o.rings k.id) :
    endOf (addOn r pt o) k = endOf o k := by
  cases r with
  | none => rfl
  | some x =>
    have : k ≠ x := fun e => hne (by rw [e])
    exact endAt_addOutPt_other x.id x.front pt o k.id k.front ((rec_ne_iff k x).1 this) hl

theorem endOf_handOn (r : Option Rec) (o : Out) (k : Rec) : endOf (handOn r o) k = endOf o k := by
  cases r with
  | none => rfl
  | some x => exact endAt_handOver x.id x.front o k.id k.front

theorem liveAt_addOn (r : Option Rec) (pt : Pt) (o : Out) (id : Nat) (h : LiveAt o.rings id) : LiveAt (addOn r pt o).rings id := by
  cases r with
  | none => exact h
  | some x => exact liveAt_addOutPt _ _ _ _ _ h

theorem segs_handOn (r : Option Rec) (o : Out) : (handOn r o).segs = o.segs := by
  cases r with
  | none => rfl
  | some x => exact segs_handOver _ _ _

theorem segs_addOn (r : Option Rec) (pt : Pt) (o : Out) :
    ∀ sg ∈ (addOn r pt o).segs, sg ∈ o.segs ∨ (∃ k, r = some k ∧ some sg.p = endOf o k ∧ sg.q = pt ∧ sg.kind = .extend) := by
  intro sg hsg
  cases r with
  | none => exact Or.inl hsg
  | some x =>
    rcases segs_addOutPt x.id x.front pt o sg hsg with h | h
    · exact Or.inl h
    · exact Or.inr ⟨x, rfl, h⟩

theorem swapOut_ends (r1 r2 : Option Rec) (pt : Pt) (o : Out) (hne : ∀ k, r1 = some k → r2 ≠ some k)
    (h1 : ∀ k, r1 = some k → LiveAt o.rings k.id) (h2 : ∀ k, r2 = some k → LiveAt o.rings k.id) :
    (∀ k, (r1 = some k ∨ r2 = some k) → endOf (swapOut r1 r2 pt o) k = some pt) ∧
    (∀ k, r1 ≠ some k → r2 ≠ some k → LiveAt o.rings k.id → endOf (swapOut r1 r2 pt o) k = endOf o k) ∧
    (∀ sg ∈ (swapOut r1 r2 pt o).segs, sg ∈ o.segs ∨
      (∃ k, (r1 = some k ∨ r2 = some k) ∧ some sg.p = endOf o k ∧ sg.q = pt ∧ sg.kind = .extend)) := by
  unfold swapOut
  refine ⟨?_, ?_, ?_⟩
  · intro k hk
    rw [endOf_handOn, endOf_handOn]
    rcases hk with hk | hk
    · subst hk
      rw [endOf_addOn_other r2 pt _ k (hne k rfl) (liveAt_addOn _ _ _ _ (h1 k rfl))]
      exact endOf_addOn_self k pt o (h1 k rfl)
    · subst hk
      exact endOf_addOn_self k pt _ (liveAt_addOn _ _ _ _ (h2 k rfl))
  · intro k n1 n2 hl
    rw [endOf_handOn, endOf_handOn, endOf_addOn_other r2 pt _ k n2 (liveAt_addOn _ _ _ _ hl), endOf_addOn_other r1 pt o k n1 hl]
  · intro sg hsg
    rw [segs_handOn, segs_handOn] at hsg
    rcases segs_addOn r2 pt _ sg hsg with h | ⟨k, hk, hp, hq, hkd⟩
    · rcases segs_addOn r1 pt o sg h with h | ⟨k, hk, hp, hq, hkd⟩
      · exact Or.inl h
      · exact Or.inr ⟨k, Or.inl hk, hp, hq, hkd⟩
    · right
      refine ⟨k, Or.inr hk, ?_, hq, hkd⟩
      rw [hp]
      have hn : r1 ≠ some k := fun e => hne k e hk
      exact endOf_addOn_other r1 pt o k hn (h2 k hk)

theorem bnot_of_ne {a b : Bool} (h : a ≠ b) : (!a) = b := by
  revert h; cases a <;> cases b <;> simp

/-- the rings after `AddOutPt(e1, pt)` and the ghost log entry, before the ring is closed or joined -/
theorem localMax_pre (kind : SegKind) (ra rb : Rec) (pt : Pt) (o : Out) (hA : LiveAt o.rings ra.id) :
    let o1 := logSeg kind rb.id rb.front ra.id ra.front (addOutPt ra.id ra.front pt o)
    (∀ id f, (id ≠ ra.id ∨ f ≠ ra.front) → LiveAt o.rings id → endAt o1 id f = endAt o id f) ∧
    (∀ id, LiveAt o.rings id → LiveAt o1.rings id) ∧ endAt o1 ra.id ra.front = some pt := by
  intro o1
  refine ⟨?_, ?_, ?_⟩
  · intro id f hne hl
    show endAt (logSeg _ _ _ _ _ _) id f = _
    rw [endAt_logSeg]; exact endAt_addOutPt_other _ _ _ _ _ _ hne hl
  · intro id hl
    show LiveAt (logSeg _ _ _ _ _ _).rings id
    rw [logSeg_rings]; exact liveAt_addOutPt _ _ _ _ _ hl
  · show endAt (logSeg _ _ _ _ _ _) _ _ = _
    rw [endAt_logSeg]; exact endAt_addOutPt_self _ _ _ _ hA

/-- a third ring end `k` through `JoinOutrecPaths(e1, e2)` (`A = e1.outrec`, `B = e2.outrec`, `f = IsFront(e1)`, so that `e1`, `e2` hold the
ends `(A, f)`, `(B, !f)`): it keeps its point, under the new name `relabelFn` gives it if it was the end `f` of `B` -/
theorem joinPaths_third (A B : Nat) (f : Bool) (o : Out) (hne : A ≠ B) (hA : LiveAt o.rings A) (hB : LiveAt o.rings B)
    (x : Model.SEdge) (k : Rec) (hx : x.orec = some k) (h1 : ¬ (k.id = A ∧ k.front = f)) (h2 : ¬ (k.id = B ∧ k.front = !f)) :
    ∃ k', (relabelFn B f A x).orec = some k' ∧ endOf (joinPaths A B f o) k' = endOf o k := by
  obtain ⟨J1, J2⟩ := endAt_joinPaths A B f o hne hA hB
  by_cases hc : k.id = B ∧ k.front = f
  · refine ⟨⟨A, f⟩, by simp [relabelFn, hx, hc], ?_⟩
    rw [endOf, endOf, J2, ← hc.1, ← hc.2]
  · refine ⟨k, by simp [relabelFn, hx, hc], ?_⟩
    simp only [endOf]
    by_cases hkA : k.id = A
    · rw [hkA, ← bnot_of_ne (fun h : f = k.front => h1 ⟨hkA, h.symm⟩), J1]
    · by_cases hkB : k.id = B
      · exact absurd ⟨hkB, (bnot_of_ne (fun h : f = k.front => hc ⟨hkB, h.symm⟩)).symm⟩ h2
      · exact endAt_joinPaths_other _ _ _ _ _ _ hkA hkB

/-- **a third edge through `AddLocalMaxPoly(e1, e2, pt)`**: `e1` holds the ring end `ra`, `e2` the ring end `rb`; a third edge `x` holds
the end `k`.  Afterwards (possibly renamed by `JoinOutrecPaths`) it holds a ring end with the SAME end point. -/
theorem localMaxOut_third (kind : SegKind) (ra rb : Rec) (pt : Pt) (o : Out) (g : Model.SEdge → Model.SEdge)
    (hg : addLocalMaxFn ra rb = .ok g) (hA : LiveAt o.rings ra.id) (hB : LiveAt o.rings rb.id)
    (x : Model.SEdge) (k : Rec) (hx : x.orec = some k) (hka : k ≠ ra) (hkb : k ≠ rb) (hK : LiveAt o.rings k.id) :
    ∃ k', (g x).orec = some k' ∧ endOf (localMaxOut kind ra rb pt o) k' = endOf o k := by
  obtain ⟨L1, LA1, _⟩ := localMax_pre kind ra rb pt o hA
  have hk1 := L1 k.id k.front ((rec_ne_iff k ra).1 hka) hK
  unfold addLocalMaxFn at hg
  unfold localMaxOut
  simp only
  split at hg
  · cases hg
  · next hf =>
    split at hg
    · next e =>
      -- one ring: it is closed
      cases hg
      refine ⟨k, hx, ?_⟩
      have hid : k.id ≠ ra.id := by
        intro h
        by_cases hf' : k.front = ra.front
        · exact hka (rec_eq k ra h hf')
        · exact hkb (rec_eq k rb (h.trans e) ((bnot_of_ne (Ne.symm hf')).symm.trans (bnot_of_ne hf)))
      simp only [if_pos e, endOf]
      rw [endAt_finish_other _ _ _ _ _ hid]
      exact hk1
    · next e =>
      split at hg
      · next lt =>
        -- `JoinOutrecPaths(e1, e2)`
        cases hg
        simp only [if_neg e, if_pos lt]
        obtain ⟨k', h1, h2⟩ := joinPaths_third ra.id rb.id ra.front _ e (LA1 _ hA) (LA1 _ hB) x k hx
          (fun h => hka (rec_eq k ra h.1 h.2)) (fun h => hkb (rec_eq k rb h.1 (h.2.trans (bnot_of_ne hf))))
        exact ⟨k', h1, h2.trans hk1⟩
      · next lt =>
        -- `JoinOutrecPaths(e2, e1)`
        cases hg
        simp only [if_neg e, if_neg lt]
        obtain ⟨k', h1, h2⟩ := joinPaths_third rb.id ra.id rb.front _ (fun h => e h.symm) (LA1 _ hB) (LA1 _ hA) x k hx
          (fun h => hkb (rec_eq k rb h.1 h.2)) (fun h => hka (rec_eq k ra h.1 (h.2.trans (bnot_of_ne (Ne.symm hf)))))
        exact ⟨k', h1, h2.trans hk1⟩

theorem localMax_third_none (ra rb : Rec) (g : Model.SEdge → Model.SEdge) (hg : addLocalMaxFn ra rb = .ok g) (x : Model.SEdge)
    (hx : x.orec = none) : (g x).orec = none := by
  have := (addLocalMaxFn_shape ra rb g hg x).2.2
  rw [hx] at this
  cases h : (g x).orec with
  | none => rfl
  | some r => rw [h] at this; simp at this

/-- the segments `AddLocalMaxPoly` logs: the `extend` segment of `AddOutPt(e1, pt)` and the stretch of `e2` up to the meeting point -/
theorem localMaxOut_segs (kind : SegKind) (ra rb : Rec) (pt : Pt) (o : Out) (hne : rb ≠ ra) (hA : LiveAt o.rings ra.id)
    (hB : LiveAt o.rings rb.id) :
    ∀ sg ∈ (localMaxOut kind ra rb pt o).segs, sg ∈ o.segs ∨
      (sg.q = pt ∧ ((sg.kind = .extend ∧ some sg.p = endOf o ra) ∨ (sg.kind = kind ∧ some sg.p = endOf o rb))) := by
  intro sg hsg
  have hsg1 : sg ∈ (logSeg kind rb.id rb.front ra.id ra.front (addOutPt ra.id ra.front pt o)).segs := by
    unfold localMaxOut at hsg
    simp only at hsg
    split at hsg
    · rwa [segs_finish] at hsg
    · split at hsg
      · rwa [segs_joinPaths] at hsg
      · rwa [segs_joinPaths] at hsg
  rcases segs_logSeg _ _ _ _ _ _ sg hsg1 with h | ⟨hp, hq, hk⟩
  · rcases segs_addOutPt _ _ _ _ sg h with h | ⟨hp, hq, hk⟩
    · exact Or.inl h
    · exact Or.inr ⟨hq, Or.inl ⟨hk, hp⟩⟩
  · right
    rw [endAt_addOutPt_self _ _ _ _ hA] at hq
    rw [endAt_addOutPt_other _ _ _ _ _ _ ((rec_ne_iff rb ra).1 hne) hB] at hp
    exact ⟨by simpa using hq, Or.inr ⟨hk, hp⟩⟩

theorem localMaxOut_len (kind : SegKind) (ra rb : Rec) (pt : Pt) (o : Out) :
    (localMaxOut kind ra rb pt o).rings.length = o.rings.length := by
  unfold localMaxOut
  simp only
  split
  · rw [length_finish, logSeg_rings, length_addOutPt]
  · split <;> rw [length_joinPaths, logSeg_rings, length_addOutPt]

theorem recs_ab_ne (n : Nat) (pre rest : List Model.SEdge) (a b : Model.SEdge) (h : RecsOK n (pre ++ a :: b :: rest)) (k : Rec)
    (ha : a.orec = some k) : b.orec ≠ some k := by
  intro hb
  have h1 := (h (k.id, k.front)).1
  simp only [cnt_append, cnt, keyOf_of_orec a k ha, keyOf_of_orec b k hb, if_true] at h1
  omega

theorem mem_pre_rest {α} {pre rest : List α} {a b x : α} (hx : x ∈ pre ++ rest) : x ∈ pre ++ a :: b :: rest :=
  mem_window_of _ _ _ _ _ hx

theorem third_live {n : Nat} {pre rest : List Model.SEdge} {a b : Model.SEdge} {o : Out} (h : OInv n (pre ++ a :: b :: rest) o)
    (hr : RecsOK n (pre ++ a :: b :: rest)) {x : Model.SEdge} (hx : x ∈ pre ++ rest) {k : Rec} (hk : x.orec = some k) :
    a.orec ≠ some k ∧ b.orec ≠ some k ∧ LiveAt o.rings k.id :=
  ⟨(recs_no_dup n pre rest a b hr x hx k hk).1, (recs_no_dup n pre rest a b hr x hx k hk).2, h.hot x (mem_pre_rest hx) k hk⟩

/-- both ends of the new ring, which `AddLocalMinPoly` hands to the two edges, are the point -/
theorem endOf_minRecs (pre : List Model.SEdge) (isNew : Bool) (pt : Pt) (o : Out) :
    endOf (newRec pt o) (minRecs pre isNew o.rings.length).1 = some pt ∧ endOf (newRec pt o) (minRecs pre isNew o.rings.length).2 = some pt := by
  obtain ⟨m1, m2⟩ := minRecs_ids pre isNew o.rings.length
  rw [endOf, endOf, m1, m2, endAt_newRec_new, endAt_newRec_new]
  exact ⟨rfl, rfl⟩

theorem plain_window {pre rest : List Model.SEdge} {a b : Model.SEdge} (h : Plain (pre ++ a :: b :: rest)) :
    (a.join = .none ∧ a.e.isOpen = false) ∧ (b.join = .none ∧ b.e.isOpen = false) ∧ Plain (pre ++ rest) :=
  ⟨h a (by simp), h b (by simp), fun x hx => h x (mem_pre_rest hx)⟩

theorem plain_map {l : List Model.SEdge} {g : Model.SEdge → Model.SEdge} (hg : ∀ x, (g x).join = x.join ∧ (g x).e = x.e) (h : Plain l) :
    Plain (l.map g) := by
  intro x hx
  obtain ⟨y, hy, rfl⟩ := List.mem_map.1 hx
  rw [(hg y).1, (hg y).2]; exact h y hy

theorem plain_insert {pre post : List Model.SEdge} (h : Plain (pre ++ post)) (mid : List Model.SEdge)
    (hm : ∀ x ∈ mid, x.join = .none ∧ x.e.isOpen = false) : Plain (pre ++ (mid ++ post)) := by
  intro x hx
  rcases List.mem_append.1 hx with hx | hx
  · exact h x (List.mem_append_left _ hx)
  · rcases List.mem_append.1 hx with hx | hx
    · exact hm x hx
    · exact h x (List.mem_append_right _ hx)

theorem splitAt_plain (i : Nat) (s : SState) (x : Model.SEdge) (hx : s.ael[i]? = some x) (hj : x.join = .none) :
    splitAt i s = .ok s ∧ ∀ pt o, splitOut i pt s o = o := by
  refine ⟨by simp [splitAt, hx, hj], fun pt o => by simp [splitOut, hx, hj]⟩

theorem window_get {α} (l : List α) (i : Nat) (a b : α) (rest : List α) (h : l.drop i = a :: b :: rest) :
    l[i]? = some a ∧ l[i + 1]? = some b ∧ (l.take i).length = i := by
  refine ⟨?_, ?_, ?_⟩
  · rw [← Nat.add_zero i, ← List.getElem?_drop, h]; rfl
  · rw [← List.getElem?_drop, h]; rfl
  · have := window_length l i a b rest h
    rw [List.length_take]; omega

/-- what the two `Split` tests of `IntersectEdges` / `DoMaxima` do when nothing is joined: nothing -/
theorem twoSplits_plain (i : Nat) (pt : Pt) (s : SState) (o : Out) (a b : Model.SEdge) (rest : List Model.SEdge)
    (hd : s.ael.drop i = a :: b :: rest) (ha : a.join = .none) (hb : b.join = .none) :
    splitAt i s = .ok s ∧ splitAt (i + 1) s = .ok s ∧ twoSplitsOut i pt s o = (o, some (a, b)) := by
  obtain ⟨g1, g2, _⟩ := window_get s.ael i a b rest hd
  obtain ⟨s1, o1⟩ := splitAt_plain i s a g1 ha
  obtain ⟨s2, o2⟩ := splitAt_plain (i + 1) s b g2 hb
  refine ⟨s1, s2, ?_⟩
  rw [twoSplits_eq i pt s s s o a b rest s1 s2 hd, o1, o2]

/-- on a window that is neither joined nor open, `IntersectEdges` is its closed branch without `Split` -/
theorem intersect_plain (cfg : Cfg) (i : Nat) (pt : Pt) (s : SState) (o : Out) (a b : Model.SEdge) (rest : List Model.SEdge)
    (hd : s.ael.drop i = a :: b :: rest) (ha : a.join = .none ∧ a.e.isOpen = false) (hb : b.join = .none ∧ b.e.isOpen = false) :
    intersectS cfg i s = intersectCore cfg (s.ael.take i) a b rest s.next ∧ intersectOut cfg i pt s o = coreOut cfg a b pt o := by
  obtain ⟨s1, s2, ts⟩ := twoSplits_plain i pt s o a b rest hd ha.1 hb.1
  unfold intersectS intersectOut
  simp only [hd, ha.2, hb.2, Bool.or_self, Bool.false_eq_true, if_false, s1, s2, bind, Except.bind, ts, and_self]

/-- on a window that is neither joined nor open, `DoMaxima` takes the two edges out, after `AddLocalMaxPoly` if they are hot -/
theorem removePair_plain (i : Nat) (pt : Pt) (s : SState) (o : Out) (a b : Model.SEdge) (rest : List Model.SEdge)
    (hd : s.ael.drop i = a :: b :: rest) (ha : a.join = .none ∧ a.e.isOpen = false) (hb : b.join = .none) :
    removePairS i s = (if a.e.pt = b.e.pt ∧ a.e.isOpen = b.e.isOpen ∧ a.e.dx + b.e.dx = 0 then
        (match a.orec, b.orec with
          | none, none => .ok { s with ael := s.ael.take i ++ rest }
          | some ra, some rb =>
            (match addLocalMaxFn ra rb with
              | .ok g => .ok { s with ael := (s.ael.take i).map g ++ rest.map g }
              | .error f => .error (.fault f))
          | _, _ => .error (.fault .nullDeref))
      else .error .reject) ∧
    removePairOut i pt s o = (match a.orec, b.orec with
      | some ra, some rb => localMaxOut .meet ra rb pt o
      | _, _ => o) := by
  obtain ⟨s1, s2, ts⟩ := twoSplits_plain i pt s o a b rest hd ha.1 hb
  unfold removePairS removePairOut
  simp only [hd, ha.2, Bool.false_eq_true, if_false, s1, s2, bind, Except.bind, ts]
  exact ⟨rfl, rfl⟩

theorem recs_other_ne (n : Nat) (pre post : List Model.SEdge) (x y : Model.SEdge) (h : RecsOK n (pre ++ x :: post)) (hy : y ∈ pre ++ post)
    (k : Rec) (hk : y.orec = some k) : x.orec ≠ some k := by
  intro e
  have h1 := (h (k.id, k.front)).1
  have h2 := cnt_pos_of_mem _ _ y hy (keyOf_of_orec y k hk)
  simp only [cnt_append, cnt, keyOf_of_orec x k e, if_true] at h1 h2
  omega

end Clipper.Lemmas.C01Output

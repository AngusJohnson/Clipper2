/-
`GetIntersection(p, q, loc)` (clipper.rectclip.cpp) for sign-exact arithmetic.  Called with `p` in the closed
half-plane beyond side `loc`, it succeeds iff the closed segment `p q` meets the closed rectangle (`Meets`), unless the
segment lies in the line of side `loc`; called from anywhere, it succeeds only if they meet.  Then where the reported
point lies: the point a successful `GetSegmentIntersection` against an axis-parallel edge returns is on the segment and
on the edge, if the intersection-point routine returns points of both lines (both orientations at once, in the
coordinates of Lemmas/RectEdge.lean), hence the point `GetIntersection` reports is on the segment and on the rectangle
boundary (`IsectExact`).  Core Lean only.
-/
import ClipperVerif.Lemmas.RectClipEnter
import ClipperVerif.Lemmas.RectLinesCore

namespace Clipper.Lemmas.RLV
open Clipper Clipper.Model.RC

/-- `x` lies on the closed segment `a b`: collinear and within the bounding box -/
def OnSeg (a b x : Pt) : Prop :=
  crossZ a b x = 0 ∧ min a.x b.x ≤ x.x ∧ x.x ≤ max a.x b.x ∧ min a.y b.y ≤ x.y ∧ x.y ≤ max a.y b.y

/-- end points strictly on both sides of the line `c d` -/
def Str (a b c d : Pt) : Prop := crossZ a c d ≠ 0 ∧ crossZ b c d ≠ 0 ∧ (crossZ a c d > 0 ↔ ¬ crossZ b c d > 0)

/-- the point the intersection routine returns for `p1 p2` against `p3 p4` (if any) lies on both lines -/
def IsectOnLines (A : Arith) (p1 p2 p3 p4 : Pt) : Prop :=
  ∀ q, A.isect p1 p2 p3 p4 = some q → crossZ p1 p2 q = 0 ∧ crossZ p3 p4 q = 0

end Clipper.Lemmas.RLV

namespace Clipper.Lemmas.RLG
open Clipper Clipper.Model.RC Clipper.Lemmas.RC Clipper.Lemmas.RCA Clipper.Lemmas.RCE Clipper.Lemmas.RCG Clipper.Lemmas.RLC Clipper.Lemmas.RLV

/-- **The closed segment `p q` meets the closed rectangle `r`** (exact integer form of the separating-axis
criterion for two convex sets: neither one of the four side lines of the rectangle nor the line of the segment
separates them — `¬ (both end points strictly left of r.left)`, …, `¬ (all four corners strictly on one side of the
line p q)`).  For `p = q` this says that the point lies in the closed rectangle. -/
def Meets (r : Rect) (p q : Pt) : Prop :=
  MeetsO (r.left - p.x) (r.right - p.x) (r.top - p.y) (r.bottom - p.y) (q.x - p.x) (q.y - p.y)

instance (r : Rect) (p q : Pt) : Decidable (Meets r p q) := by
  unfold Meets MeetsO AllSame; infer_instance

/-- `q` lies on the (infinite) line of side `loc` -/
def OnSideLine (r : Rect) : Location → Pt → Prop
  | .left, q => q.x = r.left
  | .top, q => q.y = r.top
  | .right, q => q.x = r.right
  | .bottom, q => q.y = r.bottom
  | .inside, _ => False

theorem meets_symm {r : Rect} {p q : Pt} : Meets r q p ↔ Meets r p q := by
  have h := meetsO_rev (u0 := r.left - p.x) (u1 := r.right - p.x) (a0 := r.top - p.y) (a1 := r.bottom - p.y)
    (dx := q.x - p.x) (dy := q.y - p.y)
  rw [show r.left - p.x - (q.x - p.x) = r.left - q.x by omega, show r.right - p.x - (q.x - p.x) = r.right - q.x by omega,
    show r.top - p.y - (q.y - p.y) = r.top - q.y by omega, show r.bottom - p.y - (q.y - p.y) = r.bottom - q.y by omega,
    Int.neg_sub, Int.neg_sub] at h
  exact h

/-- **Geometric soundness and completeness of `GetIntersection` from outside.**  For sign-exact arithmetic, a
non-empty rectangle, a location `loc ≠ Inside`, a point `p` in the closed half-plane beyond side `loc`
(`Ready r loc p`: e.g. `p.x ≤ r.left` for `Left`) and any `q` such that `p`, `q` are not both on the line of side
`loc`: `GetIntersection(rectPath, p, q, loc, ip)` returns true iff the closed segment `p q` meets the closed
rectangle. -/
theorem getIntersection_outside_iff {A : Arith} (hA : SignExact A) (ht : IsectTotal A) {r : Rect}
    (hw : r.left < r.right) (hh : r.top < r.bottom) {loc : Location} {p q : Pt} (hr : Ready r loc p)
    (hl : loc ≠ .inside) (hnc : ¬ (OnSideLine r loc p ∧ OnSideLine r loc q)) (ip : Pt) :
    (getIntersection A r p q loc ip).1 = true ↔ Meets r p q := by
  rw [getIntersection_exact hA, getIntersection, tryArms_iff]
  unfold Meets
  have ex3 : ∀ (P : Arm → Prop) (a b c : Arm), (∃ x ∈ [a, b, c], P x) ↔ (P a ∨ P b ∨ P c) := by simp
  -- the guard of the second arm in offsets from `p`
  have g : ∀ y t : Int, y < t ↔ 0 < t - y := fun _ _ => by omega
  cases loc <;> simp only [Ready, OnSideLine] at hr hnc <;>
    simp only [arms, ex3, Answers, true_and, decide_eq_true_eq, hit_left ht r hh, hit_right ht r hh, hit_top ht r hw,
      hit_bottom ht r hw, g p.y, g p.x]
  · exact low_iff (by omega) (by omega) (by omega) (by omega)
  · exact lowT_iff (by omega) (by omega) (by omega) (by omega)
  · exact high_iff (by omega) (by omega) (by omega) (by omega)
  · exact highT_iff (by omega) (by omega) (by omega) (by omega)
  · exact absurd rfl hl

theorem getIntersection_finds {A : Arith} (hA : SignExact A) {r : Rect} {p q : Pt} {loc : Location} {ip : Pt}
    (h : (getIntersection A r p q loc ip).1 = true) :
    ∃ a b, IsEdge r a b ∧ SegFinds (exactOf A) p q a b (getIntersection A r p q loc ip).2.2 := by
  rw [getIntersection_exact hA] at h ⊢
  rcases getIntersection_cases (exactOf A) r p q loc ip with ⟨hf, -⟩ | ⟨-, -, hs⟩
  · rw [hf] at h; cases h
  · exact hs

/-- **Soundness of `GetIntersection`** (sign-exact arithmetic, any `loc`): if it reports a crossing, the closed
segment meets the closed rectangle. -/
theorem getIntersection_true_meets {A : Arith} (hA : SignExact A) (ht : IsectTotal A) {r : Rect}
    (hw : r.left < r.right) (hh : r.top < r.bottom) (p q : Pt) (loc : Location) (ip : Pt)
    (h : (getIntersection A r p q loc ip).1 = true) : Meets r p q := by
  obtain ⟨a, b, he, hs⟩ := getIntersection_finds hA h
  unfold Meets
  rcases he with ⟨rfl, rfl⟩ | ⟨rfl, rfl⟩ | ⟨rfl, rfl⟩ | ⟨rfl, rfl⟩
  · exact hit_meets (by omega) (Int.le_refl _) (by omega) ((hit_left ht r hh p q).mp ⟨_, hs⟩)
  · exact hitT_meets (by omega) (Int.le_refl _) (by omega) ((hit_top ht r hw p q).mp ⟨_, hs⟩)
  · exact hit_meets (by omega) (by omega) (Int.le_refl _) ((hit_right ht r hh p q).mp ⟨_, hs⟩)
  · exact hitT_meets (by omega) (by omega) (Int.le_refl _) ((hit_bottom ht r hw p q).mp ⟨_, hs⟩)

theorem onSideLine_ready {r : Rect} {loc : Location} {q : Pt} (h : OnSideLine r loc q) : Ready r loc q := by
  cases loc <;> simp only [OnSideLine] at h <;> simp only [Ready] <;> omega

theorem meets_of_inRect_right {r : Rect} {p q : Pt} (h : inRect r q = true) : Meets r p q := by
  rw [inRect_iff] at h
  exact meetsO_of_end_in (by omega) (by omega) (by omega) (by omega)

/-- a point that `GetNextLocation` classifies as outside lies strictly beyond the side it is assigned to -/
theorem outsideLoc_off_line {r : Rect} {q : Pt} {l : Location} (h : outsideLoc r q = some l) : ¬ OnSideLine r l q := by
  unfold outsideLoc at h
  (repeat' split at h) <;> cases h <;> simp only [OnSideLine] <;> omega

/-- **An exiting crossing is always found** (sign-exact arithmetic): `cur` outside the closed rectangle, classified
`loc` by `GetNextLocation`, `prv` in the closed rectangle. -/
theorem exit_found {A : Arith} (hA : SignExact A) (ht : IsectTotal A) {r : Rect} (hw : r.left < r.right)
    (hh : r.top < r.bottom) {cur prv : Pt} {loc : Location} (ho : outsideLoc r cur = some loc)
    (hp : inRect r prv = true) (ip : Pt) : (getIntersection A r cur prv loc ip).1 = true := by
  have hr := outsideLoc_ready r cur loc ho
  have hl : loc ≠ .inside := ready_ne_inside_of_outside hr (by simp [ho])
  exact (getIntersection_outside_iff hA ht hw hh hr hl (fun hc => outsideLoc_off_line ho hc.1) ip).mpr
    (meets_of_inRect_right hp)

/-- **A through-going crossing is found from the other end as well** (sign-exact arithmetic): `prv` in the closed
half-plane beyond side `loc2`, `cur` not; if any `GetIntersection` call for the segment succeeds, the call from `prv`
does. -/
theorem through_found {A : Arith} (hA : SignExact A) (ht : IsectTotal A) {r : Rect} (hw : r.left < r.right)
    (hh : r.top < r.bottom) {cur prv : Pt} {loc loc2 : Location} (hl2 : loc2 ≠ .inside) (hp : Ready r loc2 prv)
    (hc : ¬ Ready r loc2 cur) {ip : Pt} (hx : (getIntersection A r cur prv loc ip).1 = true) (ip' : Pt) :
    (getIntersection A r prv cur loc2 ip').1 = true :=
  (getIntersection_outside_iff hA ht hw hh hp hl2 (fun h => hc (onSideLine_ready h.2)) ip').mpr
    (meets_symm.mp (getIntersection_true_meets hA ht hw hh cur prv loc ip hx))

/-- **The closed segment `p q` and the closed rectangle have a common point**: the point with parameter `s/t`. -/
def _root_.Clipper.Lemmas.RLV.MeetsParam (r : Rect) (p q : Pt) : Prop :=
  ∃ s t : Int, 0 < t ∧ 0 ≤ s ∧ s ≤ t ∧
    t * r.left ≤ t * p.x + s * (q.x - p.x) ∧ t * p.x + s * (q.x - p.x) ≤ t * r.right ∧
    t * r.top ≤ t * p.y + s * (q.y - p.y) ∧ t * p.y + s * (q.y - p.y) ≤ t * r.bottom

theorem onSeg_left (a b : Pt) : OnSeg a b a :=
  ⟨by simp only [crossZ]; grind, by omega, by omega, by omega, by omega⟩

theorem onSeg_right (a b : Pt) : OnSeg a b b :=
  ⟨by simp [crossZ], by omega, by omega, by omega, by omega⟩

theorem onSeg_symm {a b x : Pt} (h : OnSeg a b x) : OnSeg b a x := by
  have e : crossZ b a x = -crossZ a b x := by simp only [crossZ]; grind
  unfold OnSeg at h ⊢
  rw [e, Int.min_comm b.x, Int.max_comm b.x, Int.min_comm b.y, Int.max_comm b.y]
  exact ⟨by omega, h.2⟩

/-- an end `(c, l)` of an edge that lies on the line of a segment `p q` strictly straddling the line of the edge lies
on the segment -/
theorem corner_on_segment (h : Bool) (c l : Int) (p q : Pt) (hs : Across (c - ac h p) (ac h q - ac h p))
    (hg : (c - ac h p) * (al h q - al h p) - (l - al h p) * (ac h q - ac h p) = 0) : OnSeg p q (ept h c l) := by
  have ⟨b0, b1⟩ := along_of_across hs (Int.sub_eq_zero.mp hg)
  have box : min (ac h p) (ac h q) ≤ c ∧ c ≤ max (ac h p) (ac h q) ∧
      min (al h p) (al h q) ≤ l ∧ l ≤ max (al h p) (al h q) := by omega
  refine ⟨by rw [crossZ_cycle, crossZ_corner, hg, Int.mul_zero], ?_⟩
  cases h
  · exact box
  · exact ⟨box.2.2.1, box.2.2.2, box.1, box.2.1⟩

/-- a point on the lines of a segment and of an edge that properly cross lies on the segment and on the edge -/
theorem crossing_on_segment (h : Bool) (c l1 l2 : Int) (hl : l1 ≠ l2) (p q x : Pt)
    (hs : Across (c - ac h p) (ac h q - ac h p))
    (hs2 : Str (ept h c l1) (ept h c l2) p q) (lx1 : crossZ p q x = 0) (lx2 : crossZ (ept h c l1) (ept h c l2) x = 0) :
    OnSeg p q x ∧ ac h x = c ∧ Btw l1 (al h x) l2 := by
  have k0 : sg h * (l2 - l1) ≠ 0 := Int.mul_ne_zero (by cases h <;> decide) (by omega)
  have k1 : -sg h ≠ 0 := by cases h <;> decide
  rw [crossZ_cycle, crossZ_edge] at lx2
  have hc : ac h x = c := by have := (scaled_signs (y := 0) k0).1.mp lx2; omega
  rw [crossZ_cycle, ← ept_eta h x, hc, crossZ_corner] at lx1
  have hg := (scaled_signs (y := 0) k1).1.mp lx1
  refine ⟨?_, hc, ?_⟩
  · have := corner_on_segment h c (al h x) p q hs hg
    rwa [← hc, ept_eta] at this
  · -- the cross products at the two ends `l` of the edge are `d * (x - l)`, `x` and `l` measured along the edge
    have e : ∀ l, (c - ac h p) * (al h q - al h p) - (l - al h p) * (ac h q - ac h p) =
        (ac h q - ac h p) * (al h x - al h p - (l - al h p)) := fun l => by
      have := Int.mul_sub (ac h q - ac h p) (al h x - al h p) (l - al h p)
      have := Int.mul_comm (ac h q - ac h p) (al h x - al h p)
      have := Int.mul_comm (ac h q - ac h p) (l - al h p)
      omega
    unfold Str at hs2
    rw [crossZ_corner, crossZ_corner, (scaled_signs k1).2.2, e, e, (scaled_signs (by omega)).2.2] at hs2
    unfold Btw
    omega

/-- **The point `GetSegmentIntersection(p, q, e1, e2)` reports for an axis-parallel edge** `e1 e2` (orientation `h`,
coordinate `c` across, ends at `l1 ≠ l2` along; `rectPath[0] → [3]`, `[1] → [2]` are vertical, `[0] → [1]`,
`[2] → [3]` horizontal) lies on the segment and on the edge, provided the intersection-point routine, if it is called,
returns a point of both lines. -/
theorem segFinds_on_edge {A : Arith} (h : Bool) (c l1 l2 : Int) (hl : l1 ≠ l2) (p q x : Pt)
    (hex : Str p q (ept h c l1) (ept h c l2) → Str (ept h c l1) (ept h c l2) p q →
      IsectOnLines A p q (ept h c l1) (ept h c l2))
    (hs : SegFinds (exactOf A) p q (ept h c l1) (ept h c l2) x) :
    OnSeg p q x ∧ ac h x = c ∧ Btw l1 (al h x) l2 := by
  have k0 : sg h * (l2 - l1) ≠ 0 := Int.mul_ne_zero (by cases h <;> decide) (by omega)
  have k1 : -sg h ≠ 0 := by cases h <;> decide
  obtain ⟨z1, z2, s12⟩ := scaled_signs (x := c - ac h p) (y := c - ac h q) k0
  obtain ⟨z3, z4, -⟩ := scaled_signs
    (x := (c - ac h p) * (al h q - al h p) - (l1 - al h p) * (ac h q - ac h p))
    (y := (c - ac h p) * (al h q - al h p) - (l2 - al h p) * (ac h q - ac h p)) k1
  simp only [← crossZ_edge, ← crossZ_corner] at z1 z2 s12 z3 z4
  have sA : Str p q (ept h c l1) (ept h c l2) → Across (c - ac h p) (ac h q - ac h p) :=
    fun hs => by have := s12.mp hs; omega
  simp only [SegFinds, exactOf] at hs
  rcases hs with ⟨c1, -, t, rfl⟩ | ⟨-, c2, t, rfl⟩ |
    ⟨n1, n2, o12, ⟨c3, -, rfl⟩ | ⟨-, c4, -, rfl⟩ | ⟨n3, n4, o34, hi⟩⟩
  · have hU := z1.mp c1
    exact ⟨onSeg_left x q, by omega, (touches_edge h x c l1 l2 hU hl).mp t⟩
  · have hV := z2.mp c2
    exact ⟨onSeg_right p x, by omega, (touches_edge h x c l1 l2 hV hl).mp t⟩
  · exact ⟨corner_on_segment h c l1 p q (sA ⟨n1, n2, by omega⟩) (z3.mp c3), ac_ept h c l1,
      by rw [al_ept]; unfold Btw; omega⟩
  · exact ⟨corner_on_segment h c l2 p q (sA ⟨n1, n2, by omega⟩) (z4.mp c4), ac_ept h c l2,
      by rw [al_ept]; unfold Btw; omega⟩
  · have hs1 : Str p q (ept h c l1) (ept h c l2) := ⟨n1, n2, by omega⟩
    have hs2 : Str (ept h c l1) (ept h c l2) p q := ⟨n3, n4, by omega⟩
    obtain ⟨lx1, lx2⟩ := hex hs1 hs2 x hi
    exact crossing_on_segment h c l1 l2 hl p q x (sA hs1) hs2 lx1 lx2

/-- Idealisation of `GetSegmentIntersectPt` for the segment `p1 p2` and the rectangle `r`: for every rectangle edge
that `p1 p2` properly crosses, the point returned lies on the line `p1 p2` and on the line of the edge.
(The real routine rounds to integers; an exact routine satisfies this whenever the intersection points with the
sides have integer coordinates.) -/
def _root_.Clipper.Lemmas.RLV.IsectExact (A : Arith) (r : Rect) (p1 p2 : Pt) : Prop :=
  ∀ p3 p4, IsEdge r p3 p4 → Str p1 p2 p3 p4 → Str p3 p4 p1 p2 → IsectOnLines A p1 p2 p3 p4

/-- **Where a crossing point lies** (sign-exact arithmetic, idealised intersection-point routine): the point a
successful `GetIntersection(p, q, loc)` reports is on the closed segment `p q` and on the rectangle boundary. -/
theorem getIntersection_onBoundary {A : Arith} (hA : SignExact A) {r : Rect}
    (hw : r.left < r.right) (hh : r.top < r.bottom) {p q : Pt} (hex : IsectExact A r p q) (loc : Location) (ip : Pt)
    (h : (getIntersection A r p q loc ip).1 = true) :
    OnSeg p q (getIntersection A r p q loc ip).2.2 ∧ OnBoundary r (getIntersection A r p q loc ip).2.2 := by
  obtain ⟨a, b, he, hs⟩ := getIntersection_finds hA h
  obtain ⟨h, c, l1, l2, hl, rfl, rfl, hbd⟩ := isEdge_ept hw hh he
  obtain ⟨h1, h2, h3⟩ := segFinds_on_edge h c l1 l2 hl p q _ (hex _ _ he) hs
  exact ⟨h1, hbd _ h2 h3⟩

end Clipper.Lemmas.RLG

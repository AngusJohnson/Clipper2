/-
The bottom-up order of the transpositions of one `DoIntersections`
(`Model/SweepPoints.geo`).  By construction it exchanges adjacent pairs that are in the wrong order for the target list only, and it
ends in the target (the inversion count of `Lemmas/Inversions.lean` drops by one per exchange; a list without adjacent inversion is
sorted).  Core Lean only.
-/
import ClipperVerif.Lemmas.C01OutputGeom
import ClipperVerif.Lemmas.Inversions
import ClipperVerif.Lemmas.C01RegionBeam
namespace Clipper.Lemmas.C01Output
open Clipper Clipper.Model Clipper.Model.AelOrder Clipper.Model.SweepOrder Clipper.Model.SweepEvents Clipper.Model.SweepPoints
open Clipper.Lemmas.SweepOrder Clipper.Lemmas.Inversions Clipper.Lemmas.C01Region

/-- a schedule of exchanges `(position, left, right)` leads from `cur` to `cur'`; every exchange is of two NEIGHBOURS at the stated position
and satisfies `P left right` -/
def SchedOK (P : GEdge → GEdge → Prop) : List GEdge → List (Nat × GEdge × GEdge) → List GEdge → Prop
  | cur, [], cur' => cur = cur'
  | cur, c :: rest, cur' => ∃ pre post, cur = pre ++ c.2.1 :: c.2.2 :: post ∧ pre.length = c.1 ∧ P c.2.1 c.2.2 ∧
      SchedOK P (pre ++ c.2.2 :: c.2.1 :: post) rest cur'

theorem swapL_window {α : Type} (pre : List α) (a b : α) (post : List α) :
    swapL pre.length (pre ++ a :: b :: post) = pre ++ b :: a :: post := by
  unfold swapL
  have hd : (pre ++ a :: b :: post).drop pre.length = a :: b :: post := by simp
  have ht : (pre ++ a :: b :: post).take pre.length = pre := by simp
  rw [hd, ht]

theorem mem_swap_window {α : Type} {pre post : List α} {a b x : α} : x ∈ pre ++ b :: a :: post ↔ x ∈ pre ++ a :: b :: post :=
  (List.Perm.append_left pre (List.Perm.swap a b post)).mem_iff

theorem mem_adjInv (T : List GEdge) : ∀ (cur : List GEdge) (k : Nat) (c : Nat × GEdge × GEdge),
    c ∈ adjInv T k cur ↔ ∃ pre post, cur = pre ++ c.2.1 :: c.2.2 :: post ∧ k + pre.length = c.1 ∧ rank T c.2.2 < rank T c.2.1 := by
  intro cur k c
  fun_induction adjInv T k cur
  · next k a b rest ih =>
    -- the pair at the head, or a pair of the tail
    rw [List.mem_append, ih]
    constructor
    · rintro (h | ⟨pre, post, h1, h2, h3⟩)
      · split at h
        · next hlt => cases List.mem_singleton.1 h; exact ⟨[], rest, rfl, rfl, hlt⟩
        · cases h
      · exact ⟨a :: pre, post, congrArg (a :: ·) h1, by rw [List.length_cons]; omega, h3⟩
    · rintro ⟨pre, post, h1, h2, h3⟩
      cases pre with
      | nil =>
        obtain ⟨i, a', b'⟩ := c
        cases h1; cases h2
        exact Or.inl (by rw [if_pos h3]; exact List.mem_singleton.2 rfl)
      | cons x pre => exact Or.inr ⟨pre, post, (List.cons.inj h1).2, by rw [List.length_cons] at h2; omega, h3⟩
  · next k l hl =>
    -- fewer than two elements
    refine ⟨fun h => (by cases h), ?_⟩
    rintro ⟨pre, post, h, _⟩
    cases pre with
    | nil => exact (hl _ _ _ h).elim
    | cons x pre => cases pre <;> exact (hl _ _ _ h).elim

/-- folding with "keep the better one" returns a member … -/
theorem foldl_pick_mem {α : Type} (p : α → α → Bool) : ∀ (l : List α) (b : α),
    l.foldl (fun best c => if p c best then c else best) b ∈ b :: l := by
  intro l
  induction l with
  | nil => intro b; exact List.mem_singleton.2 rfl
  | cons x xs ih =>
    intro b
    rcases List.mem_cons.1 (ih (if p x b then x else b)) with h | h
    · rw [List.foldl_cons, h]; split <;> simp
    · exact List.mem_cons_of_mem _ (List.mem_cons_of_mem _ h)

/-- … that is maximal for `le`, when the better of two is never smaller and `le` is transitive (on `S`) -/
theorem foldl_pick_max {α : Type} (p : α → α → Bool) (le : α → α → Prop) (S : α → Prop) (hrefl : ∀ a, le a a)
    (htrans : ∀ a b c, S a → S b → S c → le a b → le b c → le a c)
    (hp : ∀ c b, p c b = true → le b c) (hn : ∀ c b, p c b = false → le c b) :
    ∀ (l : List α) (b : α), (∀ c ∈ b :: l, S c) → ∀ c ∈ b :: l, le c (l.foldl (fun best c => if p c best then c else best) b) := by
  intro l
  induction l with
  | nil => intro b _ c hc; rw [List.mem_singleton.1 hc]; exact hrefl b
  | cons x xs ih =>
    intro b hS c hc
    rw [List.foldl_cons]
    have hb := hS b (by simp)
    have hx := hS x (by simp)
    generalize hb' : (if p x b = true then x else b) = b'
    have hSb' : S b' := by rw [← hb']; split <;> assumption
    have hle : le b b' ∧ le x b' := by
      rw [← hb']
      cases hpx : p x b
      · exact ⟨hrefl b, hn x b hpx⟩
      · exact ⟨hp x b hpx, hrefl x⟩
    have hS' : ∀ c ∈ b' :: xs, S c := fun c hc => by
      rcases List.mem_cons.1 hc with rfl | hc
      · exact hSb'
      · exact hS c (by simp [hc])
    have hres := hS' _ (foldl_pick_mem p xs b')
    have up := ih b' hS' b' (by simp)
    rcases List.mem_cons.1 hc with rfl | hc
    · exact htrans _ _ _ hb hSb' hres hle.1 up
    · rcases List.mem_cons.1 hc with rfl | hc
      · exact htrans _ _ _ hx hSb' hres hle.2 up
      · exact ih b' hS' c (by simp [hc])

theorem pickBest_mem : ∀ (l : List (Nat × GEdge × GEdge)) (c : Nat × GEdge × GEdge), pickBest l = some c → c ∈ l := by
  intro l c h
  cases l with
  | nil => cases h
  | cons c0 cs => cases h; exact foldl_pick_mem _ cs c0

theorem pickBest_none (l : List (Nat × GEdge × GEdge)) (h : pickBest l = none) : l = [] := by
  cases l with
  | nil => rfl
  | cons _ _ => simp [pickBest] at h

theorem rank_pairwise (T : List GEdge) (hnd : T.Nodup) : T.Pairwise (fun u v => rank T u < rank T v) := by
  rw [List.pairwise_iff_getElem]
  intro i j hi hj hij
  simp only [rank]
  rwa [hnd.idxOf_getElem i hi, hnd.idxOf_getElem j hj]

theorem rank_inj (T : List GEdge) {u v : GEdge} (hu : u ∈ T) (hv : v ∈ T) (h : rank T u = rank T v) : u = v := by
  have h1 : T.idxOf u < T.length := List.idxOf_lt_length_iff.2 hu
  have h2 : T.idxOf v < T.length := List.idxOf_lt_length_iff.2 hv
  have e1 := List.getElem_idxOf h1
  have e2 := List.getElem_idxOf h2
  simp only [rank] at h
  rw [← e1, ← e2]
  simp [h]

theorem rel_of_rank {R : GEdge → GEdge → Prop} (T : List GEdge) (hT : T.Pairwise R) {u v : GEdge} (hu : u ∈ T) (hv : v ∈ T)
    (h : rank T u < rank T v) : R u v := by
  have h1 : T.idxOf u < T.length := List.idxOf_lt_length_iff.2 hu
  have h2 : T.idxOf v < T.length := List.idxOf_lt_length_iff.2 hv
  have := (List.pairwise_iff_getElem.1 hT) (T.idxOf u) (T.idxOf v) h1 h2 h
  rwa [List.getElem_idxOf h1, List.getElem_idxOf h2] at this

/-- a permutation of the target whose ranks are sorted IS the target -/
theorem eq_target_of_sorted (T cur : List GEdge) (hnd : T.Nodup) (hp : cur.Perm T)
    (hs : (cur.map (rank T)).Pairwise (· ≤ ·)) : cur = T := by
  have hndc : cur.Nodup := hp.symm.nodup hnd
  rw [List.pairwise_map] at hs
  have hs' : cur.Pairwise (fun u v => rank T u < rank T v) := by
    have := List.Pairwise.and_mem.1 (hs.and hndc)
    refine this.imp ?_
    rintro u v ⟨hu, hv, hle, hne⟩
    have : rank T u ≠ rank T v := fun h => hne (rank_inj T (hp.mem_iff.1 hu) (hp.mem_iff.1 hv) h)
    omega
  exact Clipper.Props.C01Sweep.eq_of_sorted_same_mem (R := fun u v => rank T u < rank T v) (fun a h => by omega)
    (fun a b h h' => by omega) hs' (rank_pairwise T hnd) (fun e => hp.mem_iff)

theorem invCount_le_sq : ∀ (π : List Nat), invCount π ≤ π.length * π.length := by
  intro π
  induction π with
  | nil => simp [invCount]
  | cons a l ih =>
    simp only [invCount, List.length_cons]
    have h1 : (l.filter (· < a)).length ≤ l.length := List.length_filter_le _ _
    have e : (l.length + 1) * (l.length + 1) = l.length * l.length + l.length + l.length + 1 := Nat.succ_mul_succ _ _
    omega

theorem sorted_of_no_adjInv (T cur : List GEdge) (h : adjInv T 0 cur = []) : (cur.map (rank T)).Pairwise (· ≤ ·) := by
  rw [← invPairs_eq_nil_iff]
  apply Classical.byContradiction
  intro hne
  obtain ⟨l₁, x, y, l₂, he, hlt⟩ := exists_adjacent_inversion _ hne
  obtain ⟨pre, t, hc, hpre, ht⟩ := List.map_eq_append_iff.1 he
  obtain ⟨a, t2, ht2, ha, htt⟩ := List.map_eq_cons_iff.1 ht
  obtain ⟨b, post, hpost, hb, _⟩ := List.map_eq_cons_iff.1 htt
  have hm : (pre.length, a, b) ∈ adjInv T 0 cur := by
    rw [mem_adjInv]
    refine ⟨pre, post, by rw [hc, ht2, hpost], by simp, ?_⟩
    simp only [ha, hb]; exact hlt
  rw [h] at hm; cases hm

/-- **the bottom-up schedule ends in the target, by adjacent exchanges of pairs that are in the wrong order for the target** -/
theorem geo_spec (T : List GEdge) (hnd : T.Nodup) : ∀ (n : Nat) (cur : List GEdge), cur.Perm T →
    invCount (cur.map (rank T)) ≤ n → SchedOK (fun a b => rank T b < rank T a) cur (geo T n cur) T := by
  intro n
  induction n with
  | zero =>
    intro cur hp hc
    simp only [geo, SchedOK]
    have h0 : invPairs (cur.map (rank T)) = [] := by
      have := invCount_eq_length (cur.map (rank T))
      exact List.length_eq_zero_iff.1 (by omega)
    exact eq_target_of_sorted T cur hnd hp ((invPairs_eq_nil_iff _).1 h0)
  | succ n ih =>
    intro cur hp hc
    simp only [geo]
    cases hpk : pickBest (adjInv T 0 cur) with
    | none =>
      simp only [SchedOK]
      exact eq_target_of_sorted T cur hnd hp (sorted_of_no_adjInv T cur (pickBest_none _ hpk))
    | some c =>
      have hm := pickBest_mem _ c hpk
      rw [mem_adjInv] at hm
      obtain ⟨pre, post, h1, h2, h3⟩ := hm
      simp only [SchedOK]
      refine ⟨pre, post, h1, by omega, h3, ?_⟩
      have hsw : swapL c.1 cur = pre ++ c.2.2 :: c.2.1 :: post := by
        rw [h1, ← h2, Nat.zero_add, swapL_window]
      rw [hsw]
      refine ih _ ?_ ?_
      · refine List.Perm.trans ?_ hp
        rw [h1]
        exact List.Perm.append_left pre (List.Perm.swap _ _ post)
      · have := invCount_swap (pre.map (rank T)) (post.map (rank T)) (rank T c.2.1) (rank T c.2.2) h3
        rw [h1] at hc
        simp only [List.map_append, List.map_cons] at hc ⊢
        omega

theorem sched_applySwaps {P : GEdge → GEdge → Prop} : ∀ (evs : List (Nat × GEdge × GEdge)) (cur cur' : List GEdge),
    SchedOK P cur evs cur' → applySwaps (evs.map (·.1)) cur = some cur' := by
  intro evs
  induction evs with
  | nil => intro cur cur' h; simp only [SchedOK] at h; subst h; rfl
  | cons c rest ih =>
    intro cur cur' h
    obtain ⟨pre, post, h1, h2, _, h4⟩ := h
    simp only [List.map_cons, applySwaps]
    rw [h1, swapAt_len pre _ _ post c.1 h2, Option.bind_some]
    exact ih _ _ h4

theorem sched_forall {P : GEdge → GEdge → Prop} {S : GEdge → Prop} : ∀ (evs : List (Nat × GEdge × GEdge)) (cur T : List GEdge),
    SchedOK P cur evs T → (∀ e ∈ cur, S e) → ∀ c ∈ evs, P c.2.1 c.2.2 ∧ S c.2.1 ∧ S c.2.2 := by
  intro evs
  induction evs with
  | nil => intro _ _ _ _ c hc; cases hc
  | cons c0 rest ih =>
    intro cur T h hS c hc
    obtain ⟨pre, post, h1, _, h3, h4⟩ := h
    rw [h1] at hS
    rcases List.mem_cons.1 hc with rfl | hc
    · exact ⟨h3, hS _ (by simp), hS _ (by simp)⟩
    · exact ih _ T h4 (fun e he => hS e (mem_swap_window.1 he)) c hc

theorem pairwise_swap {α : Type} {R : α → α → Prop} (pre : List α) (a b : α) (post : List α)
    (h : (pre ++ a :: b :: post).Pairwise R) (hba : R b a) : (pre ++ b :: a :: post).Pairwise R := by
  simp only [List.pairwise_append, List.pairwise_cons, List.mem_cons, forall_eq_or_imp] at h ⊢
  obtain ⟨h1, ⟨⟨_, ha⟩, hb, hp⟩, h3⟩ := h
  exact ⟨h1, ⟨⟨hba, hb⟩, ha, hp⟩, fun x hx => ⟨(h3 x hx).2.1, (h3 x hx).1, (h3 x hx).2.2⟩⟩

theorem pairwise_window {α : Type} {R : α → α → Prop} (pre : List α) (a b : α) (post : List α)
    (h : (pre ++ a :: b :: post).Pairwise R) : R a b := by
  simp only [List.pairwise_append, List.pairwise_cons, List.mem_cons, forall_eq_or_imp] at h
  exact h.2.1.1.1

theorem sched_strengthen {P Q R : GEdge → GEdge → Prop} (hstep : ∀ a b, R a b → P a b → Q a b ∧ R b a) :
    ∀ (evs : List (Nat × GEdge × GEdge)) (cur cur' : List GEdge), SchedOK P cur evs cur' → cur.Pairwise R →
      SchedOK Q cur evs cur' := by
  intro evs
  induction evs with
  | nil => intro cur cur' h _; exact h
  | cons c rest ih =>
    intro cur cur' h hR
    obtain ⟨pre, post, h1, h2, h3, h4⟩ := h
    rw [h1] at hR
    obtain ⟨q, r⟩ := hstep _ _ (pairwise_window pre _ _ post hR) h3
    exact ⟨pre, post, h1, h2, q, ih _ _ h4 (pairwise_swap pre _ _ post hR r)⟩

theorem ltBelow_asymm {y : Int} {a b : GEdge} (h : ltBelow y a b) : ¬ ltBelow y b a := by
  unfold ltBelow xlt xeq slt at *
  omega

/-- what is exchanged in a scanbeam, geometrically: two edges in the order `a`, `b` just above `y0` whose exact x at `y1` is strictly
reversed -/
def Crosses (y0 y1 : Int) (a b : GEdge) : Prop := ltAbove y0 a b ∧ xlt y1 b a

/-- **the bottom-up schedule of a scanbeam**: `inserted` sorted just above `y0`, `T` a permutation of it sorted just below `y1`:
the schedule leads from `inserted` to `T`, and every exchange is of two neighbours that cross strictly inside the scanbeam. -/
theorem geoSwaps_spec (y0 y1 : Int) (hy : y1 < y0) (inserted T : List GEdge) (hI : inserted.Pairwise (ltAbove y0))
    (hT : T.Pairwise (ltBelow y1)) (hp : T.Perm inserted) :
    SchedOK (Crosses y0 y1) inserted (geoSwaps T inserted) T := by
  have hndT : T.Nodup := nodup_of_pairwise_irrefl (ltBelow_irrefl y1) hT
  have h1 := geo_spec T hndT (inserted.length * inserted.length) inserted hp.symm (by
    have := invCount_le_sq (inserted.map (rank T)); simpa using this)
  refine sched_strengthen (R := fun u v => u ∈ T ∧ v ∈ T ∧ (ltAbove y0 u v ∨ ltBelow y1 u v)) ?_ _ _ _ h1 ?_
  · rintro a b ⟨ha, hb, hr⟩ hlt
    have hba : ltBelow y1 b a := rel_of_rank T hT hb ha hlt
    have hab : ltAbove y0 a b := by
      rcases hr with h | h
      · exact h
      · exact absurd hba (ltBelow_asymm h)
    refine ⟨⟨hab, ?_⟩, hb, ha, Or.inr hba⟩
    apply Classical.byContradiction
    intro hx
    exact ltBelow_asymm hba (ltBelow_of_not_reversed hy hab hx)
  · have := List.Pairwise.and_mem.1 hI
    refine this.imp ?_
    rintro u v ⟨hu, hv, h⟩
    exact ⟨hp.mem_iff.2 hu, hp.mem_iff.2 hv, Or.inl h⟩

end Clipper.Lemmas.C01Output

/-
The record table of `Model/HorzJoins.lean`.  `GetRealOutRec` without fuel: the chain of emptied records walked from a record to the
live record it resolves to has no repetition, hence the model's fuel (`table size + 1`) suffices with one step to spare; resolution
(`Res`) depends only on what a record shows of itself (`recView`; `livePts` for a record with `pts`).  The table seen through
`Model/Owner.lean` (property C04): `toTable` forgets the `OutPt` indices (`pts` becomes `hasPts`, a null `splits` pointer becomes the
empty list), and `GetRealOutRec`, `IsValidOwner`, `SetOwner` of the join model are the functions of the ownership model on that
view.  What `MoveSplits` and the two branches of `ProcessHorzJoins` do to the `splits` lists (C04's `CheckSplitOwner` reads them).
Helper file of `Props/C02Horz.lean`.  Core Lean only.
-/
import ClipperVerif.Lemmas.HorzJoinsSurgery
import ClipperVerif.Lemmas.OwnerTerm
import ClipperVerif.Lemmas.OwnerSetOwner
namespace Clipper.Model.HorzJoins
open Clipper

/-- `DeadChain H i l r`: starting at record `i`, `GetRealOutRec` passes the emptied records `l` (in order) and stops at the live
record `r` -/
inductive DeadChain (H : Heap) : Nat → List Nat → Nat → Prop
  | live {i : Nat} {rc : ORec} : H.recs[i]? = some rc → rc.pts.isSome = true → DeadChain H i [] i
  | dead {i o r : Nat} {rc : ORec} {l : List Nat} : H.recs[i]? = some rc → rc.pts.isSome = false → rc.owner = some o →
      DeadChain H o l r → DeadChain H i (i :: l) r

theorem DeadChain.run {H : Heap} {i r : Nat} {l : List Nat} (h : DeadChain H i l r) :
    ∀ f, l.length + 1 ≤ f → getRealOutRec H f (some i) = .ok (some r) := by
  induction h with
  | live hrc hp =>
    intro f hf
    obtain ⟨f', rfl⟩ : ∃ f', f = f' + 1 := ⟨f - 1, by omega⟩
    simp [getRealOutRec, Heap.orec, hrc, hp]
  | dead hrc hp ho _ ih =>
    intro f hf
    obtain ⟨f', rfl⟩ : ∃ f', f = f' + 1 := ⟨f - 1, by omega⟩
    simp only [getRealOutRec, Heap.orec, hrc, hp, ho]
    exact ih f' (by simp at hf; omega)

theorem chain_of_run {H : Heap} : ∀ (f i r : Nat), getRealOutRec H f (some i) = .ok (some r) →
    ∃ l, DeadChain H i l r ∧ l.length + 1 ≤ f
  | 0, _, _, h => by simp [getRealOutRec] at h
  | f + 1, i, r, h => by
    rw [getRealOutRec] at h
    cases hr : H.orec i with
    | error e => simp [hr] at h
    | ok rc =>
      simp only [hr] at h
      by_cases hp : rc.pts.isSome = true
      · simp only [hp, if_true, Except.ok.injEq, Option.some.injEq] at h; subst h
        exact ⟨[], .live (orec_ok.1 hr) hp, by simp⟩
      · simp only [hp] at h
        cases ho : rc.owner with
        | none => rw [ho] at h; cases f <;> simp [getRealOutRec] at h
        | some o =>
          rw [ho] at h
          obtain ⟨l, hl, hlen⟩ := chain_of_run f o r h
          exact ⟨i :: l, .dead (orec_ok.1 hr) (by simpa using hp) ho hl, by simp; omega⟩

theorem DeadChain.det {H : Heap} {i r r' : Nat} {l l' : List Nat} (h : DeadChain H i l r) :
    DeadChain H i l' r' → l = l' ∧ r = r' := by
  induction h generalizing l' r' with
  | live hrc hp =>
    intro h'
    cases h' with
    | live _ _ => exact ⟨rfl, rfl⟩
    | dead hrc' hp' _ _ => rw [hrc] at hrc'; cases hrc'; rw [hp] at hp'; cases hp'
  | dead hrc hp ho _ ih =>
    intro h'
    cases h' with
    | live hrc' hp' => rw [hrc] at hrc'; cases hrc'; rw [hp] at hp'; cases hp'
    | dead hrc' _ ho' hc' =>
      rw [hrc] at hrc'; cases hrc'
      rw [ho] at ho'; cases ho'
      obtain ⟨e1, e2⟩ := ih hc'
      exact ⟨by rw [e1], e2⟩

theorem DeadChain.suffix {H : Heap} {i r d : Nat} {l : List Nat} (h : DeadChain H i l r) (hd : d ∈ l) :
    ∃ l1 l2, l = l1 ++ d :: l2 ∧ DeadChain H d (d :: l2) r := by
  induction h with
  | live _ _ => simp at hd
  | @dead i o r rc l hrc hp ho hc ih =>
    rcases List.mem_cons.1 hd with rfl | hd
    · exact ⟨[], l, rfl, .dead hrc hp ho hc⟩
    · obtain ⟨l1, l2, e, hc'⟩ := ih hd
      exact ⟨i :: l1, l2, by rw [e]; rfl, hc'⟩

theorem DeadChain.nodup {H : Heap} {i r : Nat} {l : List Nat} (h : DeadChain H i l r) : l.Nodup := by
  induction h with
  | live _ _ => exact List.nodup_nil
  | @dead i o r rc l hrc hp ho hc ih =>
    refine List.nodup_cons.2 ⟨fun hmem => ?_, ih⟩
    obtain ⟨l1, l2, e, hc'⟩ := hc.suffix hmem
    have := (DeadChain.dead hrc hp ho hc).det hc'
    have hlen := congrArg List.length this.1
    rw [e] at hlen; simp at hlen; omega

theorem DeadChain.elems {H : Heap} {i r : Nat} {l : List Nat} (h : DeadChain H i l r) :
    (∀ d ∈ l, ∃ rc, H.recs[d]? = some rc ∧ rc.pts.isSome = false) ∧ ∃ rc, H.recs[r]? = some rc ∧ rc.pts.isSome = true := by
  induction h with
  | live hrc hp => exact ⟨by simp, _, hrc, hp⟩
  | dead hrc hp _ _ ih =>
    refine ⟨?_, ih.2⟩
    intro d hd
    rcases List.mem_cons.1 hd with rfl | hd
    · exact ⟨_, hrc, hp⟩
    · exact ih.1 d hd

/-- a chain together with its live end has no repetition and stays inside the table: one unit of the model's fuel is spare -/
theorem DeadChain.length_lt {H : Heap} {i r : Nat} {l : List Nat} (h : DeadChain H i l r) : l.length + 1 ≤ H.recs.size := by
  obtain ⟨hd, rc, hrc, hp⟩ := h.elems
  have hnd : (r :: l).Nodup := by
    refine List.nodup_cons.2 ⟨fun hm => ?_, h.nodup⟩
    obtain ⟨rc', hrc', hp'⟩ := hd r hm
    rw [hrc] at hrc'; cases hrc'; rw [hp] at hp'; cases hp'
  have := nodup_length_le H.recs.size (r :: l) hnd (by
    intro x hx
    rcases List.mem_cons.1 hx with rfl | hx
    · exact lt_of_rec hrc
    · obtain ⟨rc', hrc', _⟩ := hd x hx; exact lt_of_rec hrc')
  simpa using this

/-- **`GetRealOutRec(op->outrec)` in the model (fuel `size + 1`) resolves exactly along a chain** -/
theorem realOf_iff_chain {H : Heap} {i r : Nat} : realOf H i = .ok (some r) ↔ ∃ l, DeadChain H i l r := by
  constructor
  · intro h; obtain ⟨l, hl, _⟩ := chain_of_run _ _ _ h; exact ⟨l, hl⟩
  · rintro ⟨l, hl⟩
    exact hl.run _ (by have := hl.length_lt; omega)

/-- what `GetRealOutRec` can see of a record: whether it has `pts`, and its owner if it has none -/
def recView (H : Heap) (k : Nat) : Option (Bool × Option Nat) :=
  (H.recs[k]?).map (fun rc => (rc.pts.isSome, if rc.pts.isSome then none else rc.owner))

theorem recView_live {H : Heap} {k : Nat} {rc : ORec} (h : H.recs[k]? = some rc) (hp : rc.pts.isSome = true) :
    recView H k = some (true, none) := by simp [recView, h, hp]

theorem recView_dead {H : Heap} {k : Nat} {rc : ORec} (h : H.recs[k]? = some rc) (hp : rc.pts.isSome = false) :
    recView H k = some (false, rc.owner) := by simp [recView, h, hp]

theorem of_recView_live {H : Heap} {k : Nat} (h : recView H k = some (true, none)) : ∃ rc, H.recs[k]? = some rc ∧ rc.pts.isSome = true := by
  unfold recView at h
  cases hk : H.recs[k]? with
  | none => simp [hk] at h
  | some rc => simp [hk] at h; exact ⟨rc, rfl, h.1⟩

theorem of_recView_dead {H : Heap} {k : Nat} {o : Option Nat} (h : recView H k = some (false, o)) :
    ∃ rc, H.recs[k]? = some rc ∧ rc.pts.isSome = false ∧ rc.owner = o := by
  unfold recView at h
  cases hk : H.recs[k]? with
  | none => simp [hk] at h
  | some rc =>
    simp only [hk, Option.map_some, Option.some.injEq, Prod.mk.injEq] at h
    refine ⟨rc, rfl, h.1, ?_⟩
    have := h.2; rw [h.1] at this; simpa using this

theorem DeadChain.congr {H H' : Heap} {i r : Nat} {l : List Nat} (h : DeadChain H i l r)
    (hv : ∀ d, d ∈ l ∨ d = r → recView H' d = recView H d) : DeadChain H' i l r := by
  induction h with
  | @live i rc hrc hp =>
    obtain ⟨rc', hrc', hp'⟩ := of_recView_live (by rw [hv i (Or.inr rfl)]; exact recView_live hrc hp)
    exact .live hrc' hp'
  | @dead i o r rc l hrc hp ho hc ih =>
    obtain ⟨rc', hrc', hp', ho'⟩ := of_recView_dead (by rw [hv i (Or.inl (by simp))]; exact recView_dead hrc hp)
    exact .dead hrc' hp' (by rw [ho', ho]) (ih (fun d hd => hv d (by
      rcases hd with hd | hd
      · exact Or.inl (List.mem_cons_of_mem _ hd)
      · exact Or.inr hd)))

/-- when the live end `z` of a chain is emptied and handed to the live record `w`, the chain is one record longer -/
theorem DeadChain.extend {H H' : Heap} {i z w : Nat} {l : List Nat} (h : DeadChain H i l z)
    (hv : ∀ d ∈ l, recView H' d = recView H d) (hz : recView H' z = some (false, some w)) (hw : recView H' w = some (true, none)) :
    DeadChain H' i (l ++ [z]) w := by
  induction h with
  | @live i rc hrc hp =>
    obtain ⟨rc', hrc', hp', ho'⟩ := of_recView_dead hz
    obtain ⟨rw', hrw', hpw'⟩ := of_recView_live hw
    exact .dead hrc' hp' ho' (.live hrw' hpw')
  | @dead i o r rc l hrc hp ho hc ih =>
    obtain ⟨rc', hrc', hp', ho'⟩ := of_recView_dead (by rw [hv i (by simp)]; exact recView_dead hrc hp)
    exact .dead hrc' hp' (by rw [ho', ho]) (ih (fun d hd => hv d (List.mem_cons_of_mem _ hd)) hz)

/-- record `o` resolves to the live record `r` -/
def Res (H : Heap) (o r : Nat) : Prop := ∃ l, DeadChain H o l r

theorem res_iff {H : Heap} {o r : Nat} : realOf H o = .ok (some r) ↔ Res H o r := realOf_iff_chain

theorem Res.det {H : Heap} {o r r' : Nat} (h : Res H o r) (h' : Res H o r') : r = r' := by
  obtain ⟨l, hl⟩ := h; obtain ⟨l', hl'⟩ := h'; exact (hl.det hl').2

theorem Res.live {H : Heap} {o r : Nat} (h : Res H o r) : ∃ rc, H.recs[r]? = some rc ∧ rc.pts.isSome = true := by
  obtain ⟨l, hl⟩ := h; exact hl.elems.2

/-- `outrec->pts` of a record that has them -/
def livePts (H : Heap) (k : Nat) : Option Nat := (H.recs[k]?).bind (·.pts)

theorem livePts_some {H : Heap} {k p : Nat} : livePts H k = some p ↔ ∃ rc, H.recs[k]? = some rc ∧ rc.pts = some p := by
  unfold livePts; cases H.recs[k]? <;> simp

theorem lt_of_livePts {H : Heap} {k p : Nat} (h : livePts H k = some p) : k < H.recs.size := by
  obtain ⟨rc, hrc, _⟩ := livePts_some.1 h; exact lt_of_rec hrc

theorem recView_of_livePts {H : Heap} {k p : Nat} (h : livePts H k = some p) : recView H k = some (true, none) := by
  obtain ⟨rc, hrc, hp⟩ := livePts_some.1 h; exact recView_live hrc (by rw [hp]; rfl)

theorem Res.self {H : Heap} {k p : Nat} (h : livePts H k = some p) : Res H k k := by
  obtain ⟨rc, hrc, hp⟩ := livePts_some.1 h; exact ⟨[], .live hrc (by rw [hp]; rfl)⟩

theorem Res.mono {H H' : Heap} {o r : Nat} (h : Res H o r) (hv : ∀ k, k < H.recs.size → recView H' k = recView H k) :
    Res H' o r := by
  obtain ⟨l, hl⟩ := h
  refine ⟨l, hl.congr fun d hd => hv d ?_⟩
  rcases hd with hd | rfl
  · obtain ⟨rc, hrc, _⟩ := hl.elems.1 d hd; exact lt_of_rec hrc
  · obtain ⟨rc, hrc, _⟩ := hl.elems.2; exact lt_of_rec hrc

/-- the live record `r2` is emptied and handed to the live record `r1`, no other record shows a change: what resolved to `r2`
now resolves to `r1` (one step later), every other resolution is as before -/
theorem Res.kill {H H' : Heap} {r1 r2 o r : Nat} (h2 : recView H r2 = some (true, none))
    (hk : ∀ k, k ≠ r2 → recView H' k = recView H k) (hr2 : recView H' r2 = some (false, some r1))
    (hr1 : recView H' r1 = some (true, none)) (h : Res H o r) : Res H' o (if r = r2 then r1 else r) := by
  obtain ⟨l, hl⟩ := h
  -- the emptied records of the chain were empty before: none of them is `r2`
  have hdead : ∀ d ∈ l, recView H' d = recView H d := fun d hd => hk d fun e => by
    obtain ⟨rc, hrc, hp⟩ := hl.elems.1 d hd
    rw [← e, recView_dead hrc hp] at h2; cases h2
  by_cases e : r = r2
  · rw [if_pos e]; subst e
    exact ⟨l ++ [r], hl.extend hdead hr2 hr1⟩
  · rw [if_neg e]
    exact ⟨l, hl.congr fun d hd => hd.elim (hdead d) fun e' => hk d (e' ▸ e)⟩

theorem recView_of_recs {H H' : Heap} (h : H'.recs = H.recs) (k : Nat) : recView H' k = recView H k := by
  unfold recView; rw [h]

theorem orecOf_of_ops {H H' : Heap} (h : H'.ops = H.ops) : orecOf H' = orecOf H := by
  unfold orecOf; rw [h]

/-- `pts` and `owner` of a record determine what `GetRealOutRec` sees of it -/
theorem view_of_fields {H H' : Heap} {k : Nat}
    (h : (H'.recs[k]?).map (fun r : ORec => (r.pts, r.owner)) = (H.recs[k]?).map (fun r : ORec => (r.pts, r.owner))) :
    recView H' k = recView H k ∧ livePts H' k = livePts H k := by
  have v : ∀ K : Heap, recView K k = ((K.recs[k]?).map fun r : ORec => (r.pts, r.owner)).map
      fun t => (t.1.isSome, if t.1.isSome then none else t.2) := fun K => by unfold recView; rw [Option.map_map]; rfl
  have p : ∀ K : Heap, livePts K k = ((K.recs[k]?).map fun r : ORec => (r.pts, r.owner)).bind (·.1) := fun K => by
    unfold livePts; cases K.recs[k]? <;> rfl
  rw [v, v, p, p, h]; exact ⟨rfl, rfl⟩

theorem livePts_of_recs {H H' : Heap} (h : H'.recs = H.recs) (k : Nat) : livePts H' k = livePts H k := by
  unfold livePts; rw [h]

/-- a write through an `OutRec*` that keeps `pts`, and the `owner` of an emptied record, shows nothing -/
theorem updRec_view {H H' : Heap} {i : Nat} {f : ORec → ORec} (h : H.updRec i f = .ok H')
    (hf : ∀ rc, H.recs[i]? = some rc → (f rc).pts = rc.pts ∧ (rc.pts = none → (f rc).owner = rc.owner)) (k : Nat) :
    recView H' k = recView H k ∧ livePts H' k = livePts H k := by
  obtain ⟨hi, _, _, hget⟩ := updRec_ok h
  by_cases hk : k = i
  · subst hk
    obtain ⟨rc, hrc⟩ := rec_of_lt hi
    obtain ⟨e1, e2⟩ := hf _ hrc
    unfold recView livePts
    rw [hget k, if_pos rfl, hrc]
    simp only [Option.map_some, Option.bind_some, e1, and_true, Option.some.injEq, Prod.mk.injEq, true_and]
    cases hp : rc.pts with
    | none => rw [e2 hp]
    | some p => rfl
  · exact view_of_fields (by rw [hget k, if_neg hk])

/-- the `owner` of a record that has `pts` is not looked at -/
theorem updRec_owner_view {H H' : Heap} {i p : Nat} {o : Option Nat} (h : H.updRec i (fun x => { x with owner := o }) = .ok H')
    (hl : livePts H i = some p) (k : Nat) : recView H' k = recView H k ∧ livePts H' k = livePts H k :=
  updRec_view h (fun rc hrc => ⟨rfl, fun hn => by
    obtain ⟨rc', hrc', hp⟩ := livePts_some.1 hl
    rw [hrc] at hrc'; cases hrc'; rw [hn] at hp; cases hp⟩) k

/-- `outrec->pts = p` on a record that has `pts` -/
theorem updRec_pts_view {H H' : Heap} {i p q : Nat} (h : H.updRec i (fun x => { x with pts := some p }) = .ok H')
    (hl : livePts H i = some q) (k : Nat) :
    recView H' k = recView H k ∧ livePts H' k = if k = i then some p else livePts H k := by
  obtain ⟨hi, _, _, hget⟩ := updRec_ok h
  by_cases hk : k = i
  · subst hk
    have hl' : livePts H' k = some p := by
      obtain ⟨rc, hrc⟩ := rec_of_lt hi
      unfold livePts; rw [hget k, if_pos rfl, hrc]; rfl
    rw [if_pos rfl, recView_of_livePts hl', recView_of_livePts hl]; exact ⟨rfl, hl'⟩
  · rw [if_neg hk]; exact view_of_fields (by rw [hget k, if_neg hk])

theorem ptsOfRec_ok {H : Heap} {k p : Nat} (h : livePts H k = some p) : ptsOfRec H k = .ok p := by
  obtain ⟨rc, hrc, hp⟩ := livePts_some.1 h
  simp [ptsOfRec, Heap.orec, hrc, hp]

/-- an `OutRec` as `Model/Owner.lean` sees it -/
def toOwnerRec (r : ORec) : Owner.OutRec :=
  { owner := r.owner, splits := r.splits.getD [], isOpen := r.isOpen, hasPts := r.pts.isSome }

/-- `outrec_list_` as `Model/Owner.lean` sees it -/
def toTable (H : Heap) : Owner.Table := H.recs.map toOwnerRec

theorem toTable_get (H : Heap) (i : Nat) : (toTable H)[i]? = (H.recs[i]?).map toOwnerRec := by
  simp [toTable]

theorem toTable_size (H : Heap) : (toTable H).size = H.recs.size := by simp [toTable]

theorem toTable_of_recs {H H' : Heap} (h : H'.recs = H.recs) : toTable H' = toTable H := by unfold toTable; rw [h]

/-- **`GetRealOutRec` of the join model is `GetRealOutRec` of the ownership model** -/
theorem getRealOutRec_view (H : Heap) : ∀ (f : Nat) (x : Option Nat) (v : Option Nat),
    getRealOutRec H f x = .ok v ↔ Owner.getRealOutRec (toTable H) f x = some v
  | 0, x, v => by simp [getRealOutRec, Owner.getRealOutRec]
  | f + 1, none, v => by simp [getRealOutRec, Owner.getRealOutRec]
  | f + 1, some i, v => by
    rw [getRealOutRec, Owner.getRealOutRec, toTable_get]
    cases h : H.recs[i]? with
    | none => simp [Heap.orec, h]
    | some r =>
      simp only [Heap.orec, h, Option.map_some]
      by_cases hp : r.pts.isSome = true
      · simp [hp, toOwnerRec]
      · simp only [hp, toOwnerRec]
        exact getRealOutRec_view H f r.owner v

theorem isValidOwner_view (H : Heap) (i : Nat) : ∀ (f : Nat) (x : Option Nat) (v : Bool),
    isValidOwner H i f x = .ok v ↔ Owner.isValidOwner (toTable H) f i x = some v
  | 0, x, v => by simp [isValidOwner, Owner.isValidOwner]
  | f + 1, none, v => by simp [isValidOwner, Owner.isValidOwner]
  | f + 1, some t, v => by
    rw [isValidOwner, Owner.isValidOwner, toTable_get]
    by_cases ht : t = i
    · simp [ht]
    · simp only [ht, if_false]
      cases h : H.recs[t]? with
      | none => simp [Heap.orec, h]
      | some r =>
        simp only [Heap.orec, h, Option.map_some, toOwnerRec]
        exact isValidOwner_view H i f r.owner v

theorem toTable_updRec {H H' : Heap} {i : Nat} {g : ORec → ORec} {g' : Owner.OutRec → Owner.OutRec}
    (h : H.updRec i g = .ok H') (hg : ∀ r, toOwnerRec (g r) = g' (toOwnerRec r)) :
    toTable H' = (toTable H).modify i g' := by
  obtain ⟨hi, _, hs, hget⟩ := updRec_ok h
  apply Array.ext'
  apply List.ext_getElem?
  intro j
  rw [Array.getElem?_toList, Array.getElem?_toList, toTable_get, hget j, Array.getElem?_modify, toTable_get]
  by_cases hj : j = i
  · subst hj; cases H.recs[j]? <;> simp [hg]
  · simp [hj, Ne.symm hj]

theorem skipDeadOwners_view (no : Nat) : ∀ (f : Nat) (H : Heap),
    (∀ H', skipDeadOwners no f H = .ok H' → Owner.skipDeadOwners (toTable H) f no = some (toTable H')) ∧
    (∀ T', Owner.skipDeadOwners (toTable H) f no = some T' → ∃ H', skipDeadOwners no f H = .ok H' ∧ toTable H' = T')
  | 0, H => by simp [skipDeadOwners, Owner.skipDeadOwners]
  | f + 1, H => by
    rw [skipDeadOwners, Owner.skipDeadOwners, toTable_get]
    cases h : H.recs[no]? with
    | none => simp [Heap.orec, h]
    | some r =>
      simp only [Heap.orec, h, Option.map_some]
      cases ho : r.owner with
      | none => simp [toOwnerRec, ho]
      | some o =>
        simp only [toOwnerRec, ho]
        rw [toTable_get]
        cases h2 : H.recs[o]? with
        | none => simp
        | some orc =>
          simp only [Option.map_some]
          have hh : (toOwnerRec orc).hasPts = orc.pts.isSome := rfl
          have hw : (toOwnerRec orc).owner = orc.owner := rfl
          by_cases hp : orc.pts.isSome = true
          · simp [hp, hh]
          · simp only [hp, hh, hw]
            obtain ⟨H1, h1⟩ := updRec_of_lt H (fun x => { x with owner := orc.owner }) (lt_of_rec h)
            have e := toTable_updRec (g' := fun x => { x with owner := orc.owner }) h1 (by intro r; rfl)
            simp only [h1, Bool.false_eq_true, if_false]
            have ih := skipDeadOwners_view no f H1
            rw [e] at ih
            exact ih

/-- **`SetOwner` of the join model is `SetOwner` of the ownership model** (with the fuel the termination theorem
`Owner.setOwner_total` is stated for): if it returns, the view of the result is what the ownership model computes. -/
theorem setOwner_view {H H' : Heap} {i no : Nat} (h : setOwner H i no = .ok H') :
    Owner.setOwner (toTable H) ((toTable H).size + 2) i no = some (toTable H') := by
  unfold setOwner at h
  simp only [bind_ok] at h
  obtain ⟨H1, h1, valid, hv, r, hr, H2, h2, h3⟩ := h
  have v1 := (skipDeadOwners_view no _ H).1 H1 h1
  have v2 := (isValidOwner_view H1 i _ _ valid).1 hv
  have hr' : (toTable H1)[i]? = some (toOwnerRec r) := by rw [toTable_get, orec_ok.1 hr]; rfl
  unfold Owner.setOwner
  rw [toTable_size, v1]
  simp only [v2, hr']
  unfold breakCycle at h2
  cases valid with
  | true =>
    simp only [if_true, Except.ok.injEq] at h2; subst h2
    simp only [if_true]
    exact congrArg some (toTable_updRec (g' := fun x => { x with owner := some no }) h3 (by intro r; rfl)).symm
  | false =>
    simp only [Bool.false_eq_true, if_false] at h2 ⊢
    have e2 := toTable_updRec (g' := fun x => { x with owner := (toOwnerRec r).owner }) h2 (by intro r'; rfl)
    have e3 := toTable_updRec (g' := fun x => { x with owner := some no }) h3 (by intro r'; rfl)
    rw [e3, e2]

theorem splitsOf_view (H : Heap) (i : Nat) : splitsOf H i = (((toTable H)[i]?).map (·.splits)).getD [] := by
  rw [toTable_get]; unfold splitsOf; cases H.recs[i]? <;> simp [toOwnerRec]

/-- `outrec->splits->emplace_back(…)` for every entry of `l` (after `if (!outrec->splits) outrec->splits = new OutRecList();`) -/
theorem splitsOf_push {H H' : Heap} {i : Nat} {l : List Nat}
    (h : H.updRec i (fun x => { x with splits := some (x.splits.getD [] ++ l) }) = .ok H') (k : Nat) :
    splitsOf H' k = if k = i then splitsOf H i ++ l else splitsOf H k := by
  obtain ⟨hi, _, _, hget⟩ := updRec_ok h
  obtain ⟨rc, hrc⟩ := rec_of_lt hi
  unfold splitsOf; rw [hget k]
  split
  · rename_i e; rw [e, hrc]; rfl
  · rfl

/-- **`MoveSplits(fromOr, toOr)`**: the receiving record's list is extended by the giving record's entries in order, the giving
record's list is emptied, every other record keeps its list; owners and `pts` are untouched.  (In the view of `Model/Owner.lean`
there is no difference between a null and an empty `splits`.) -/
theorem moveSplits_spec {H H' : Heap} {a b : Nat} (hab : a ≠ b) (h : moveSplits H a b = .ok H') :
    splitsOf H' b = splitsOf H b ++ splitsOf H a ∧ splitsOf H' a = [] ∧ (∀ k, k ≠ a → k ≠ b → splitsOf H' k = splitsOf H k) ∧
    H'.ops = H.ops ∧ H'.recs.size = H.recs.size ∧
    (∀ k : Nat, (H'.recs[k]?).map (fun r => { r with splits := none }) = (H.recs[k]?).map (fun r => { r with splits := none })) := by
  unfold moveSplits at h
  simp only [bind_ok] at h
  obtain ⟨fr, hfr, h⟩ := h
  have hfr' := orec_ok.1 hfr
  cases hs : fr.splits with
  | none =>
    simp only [hs, pure, Except.pure, Except.ok.injEq] at h; subst h
    have : splitsOf H a = [] := by unfold splitsOf; simp [hfr', hs]
    exact ⟨by simp [this], this, fun _ _ _ => rfl, rfl, rfl, fun _ => rfl⟩
  | some fs =>
    simp only [hs, bind_ok] at h
    obtain ⟨H1, h1, h2⟩ := h
    obtain ⟨_, o1, s1, _⟩ := updRec_ok h1
    obtain ⟨ha1, o2, s2, g2⟩ := updRec_ok h2
    have ha : splitsOf H a = fs := by unfold splitsOf; simp [hfr', hs]
    have e1 := splitsOf_push h1
    have e2 : ∀ k, splitsOf H' k = if k = a then [] else splitsOf H1 k := fun k => by
      obtain ⟨rc, hrc⟩ := rec_of_lt ha1
      unfold splitsOf; rw [g2 k]
      split
      · rename_i e; rw [e, hrc]; rfl
      · rfl
    refine ⟨by rw [e2 b, if_neg hab.symm, e1 b, if_pos rfl, ha], by rw [e2 a, if_pos rfl],
      fun k hka hkb => by rw [e2 k, if_neg hka, e1 k, if_neg hkb], o2.trans o1, s2.trans s1, ?_⟩
    · exact fun k => (updRec_keep h2 _ (fun _ => rfl) k).trans (updRec_keep h1 _ (fun _ => rfl) k)

theorem OnlyOwners.sameSplits {H H' : Heap} (h : OnlyOwners H H') : SameSplits H H' := fun k =>
  congrArg (·.getD []) (map_forget (h.2.2 k) fun r => r.splits.getD [])

/-- **the `splits` bookkeeping of the split branch under `using_polytree_`**: the new record is appended to the `splits`
list of `or1` — whichever of the two rings `or1` ends up holding — and to no other list -/
theorem splitOwners_splits {inside : List Pt → List Pt → Bool} {H H' : Heap} {o1 o2 : Nat} (h : splitOwners inside H o1 o2 = .ok H') :
    splitsOf H' o1 = splitsOf H o1 ++ [o2] ∧ (∀ k, k ≠ o1 → splitsOf H' k = splitsOf H k) ∧ H'.recs.size = H.recs.size := by
  unfold splitOwners at h
  simp only [bind_ok] at h
  obtain ⟨p1, _, p2, _, ring1, _, ring2, _, H1, h1, h2⟩ := h
  obtain ⟨_, ss, sz⟩ := splitOwnerChoice_frame h1
  exact ⟨by rw [splitsOf_push h2 o1, if_pos rfl, ss o1], fun k hk => by rw [splitsOf_push h2 k, if_neg hk, ss k],
    by rw [(updRec_ok h2).2.2.1, sz]⟩

/-- the whole split branch: a record is appended to `outrec_list_`; under `using_polytree_` it is appended to `or1->splits`
and to no other list, otherwise no list changes -/
theorem splitBranch_splits {inside : List Pt → List Pt → Bool} {tree : Bool} {H H' : Heap} {j : HorzJoin} {or1 : Option Nat} {op1b : Nat}
    (hlt : ∀ o1, or1 = some o1 → o1 < H.recs.size) (h : splitBranch inside tree H j or1 op1b = .ok H') :
    ∃ o1, or1 = some o1 ∧ H'.recs.size = H.recs.size + 1 ∧
      splitsOf H' o1 = (if tree then splitsOf H o1 ++ [H.recs.size] else splitsOf H o1) ∧
      splitsOf H' H.recs.size = [] ∧ (∀ k, k ≠ o1 → k ≠ H.recs.size → splitsOf H' k = splitsOf H k) := by
  unfold splitBranch at h
  simp only [bind_ok] at h
  obtain ⟨H1, h1, H2, h2, h⟩ := h
  cases or1 with
  | none => simp at h
  | some o1 =>
    simp only [bind_ok] at h
    obtain ⟨H3, h3, h⟩ := h
    have hnew : ∀ k, splitsOf (newOutRec H).1 k = splitsOf H k := by
      intro k
      unfold splitsOf newOutRec
      simp only [Array.getElem?_push]
      by_cases hk : k = H.recs.size
      · subst hk; simp
      · simp [hk]
    have hnewsz : (newOutRec H).1.recs.size = H.recs.size + 1 := by simp [newOutRec]
    have s1 := sameSplits_updRec h1 (fun _ => rfl)
    have z1 := (updRec_ok h1).2.2.1
    have r2 := (fixOutRecPts_frame h2).2
    obtain ⟨_, s3, z3⟩ := keepPts_frame h3
    have tot : ∀ k, splitsOf H3 k = splitsOf H k := fun k => by rw [s3 k, sameSplits_of_recs r2 k, s1 k, hnew k]
    have zz : H3.recs.size = H.recs.size + 1 := by rw [z3, r2, z1, hnewsz]
    have hfresh : splitsOf H H.recs.size = [] := by unfold splitsOf; simp
    have ho2 : (newOutRec H).2 = H.recs.size := rfl
    rw [ho2] at h
    cases tree with
    | true =>
      simp only [if_true] at h
      obtain ⟨a, b, c⟩ := splitOwners_splits h
      refine ⟨o1, rfl, by rw [c, zz], by simp [a, tot], ?_, ?_⟩
      · have e : H.recs.size ≠ o1 := Nat.ne_of_gt (hlt o1 rfl)
        rw [b _ e, tot, hfresh]
      · intro k hk1 _; rw [b k hk1, tot]
    | false =>
      simp only [Bool.false_eq_true, if_false] at h
      have s4 := sameSplits_updRec h (fun _ => rfl)
      refine ⟨o1, rfl, by rw [(updRec_ok h).2.2.1, zz], by simp [s4 o1, tot], by rw [s4, tot, hfresh], ?_⟩
      intro k _ _; rw [s4, tot]

/-- **the `splits` bookkeeping of the merge branch**: the emptied record `or2` hands its `splits` entries to `or1`
(`MoveSplits`, #618) under `using_polytree_`; otherwise no list changes.  `or2->pts` becomes null, no record is added. -/
theorem mergeBranch_splits {tree : Bool} {H H' : Heap} {or1 or2 : Option Nat} (hne : or1 ≠ or2) (h : mergeBranch tree H or1 or2 = .ok H') :
    ∃ o2, or2 = some o2 ∧ H'.recs.size = H.recs.size ∧ (∃ rc, H'.recs[o2]? = some rc ∧ rc.pts = none) ∧
      (tree = true → ∃ o1, or1 = some o1 ∧ splitsOf H' o1 = splitsOf H o1 ++ splitsOf H o2 ∧ splitsOf H' o2 = [] ∧
        ∀ k, k ≠ o1 → k ≠ o2 → splitsOf H' k = splitsOf H k) ∧
      (tree = false → SameSplits H H') := by
  unfold mergeBranch at h
  cases or2 with
  | none => simp at h
  | some o2 =>
    simp only [bind_ok] at h
    obtain ⟨H1, h1, h⟩ := h
    have s1 := sameSplits_updRec h1 (fun _ => rfl)
    obtain ⟨hi, _, z1, g1⟩ := updRec_ok h1
    have hdead : ∃ rc, H1.recs[o2]? = some rc ∧ rc.pts = none := by
      obtain ⟨rc2, this⟩ := rec_of_lt hi
      rw [g1 o2, if_pos rfl, this]; exact ⟨_, rfl, rfl⟩
    cases tree with
    | true =>
      simp only [if_true] at h
      cases or1 with
      | none => simp at h
      | some o1 =>
        simp only [bind_ok] at h
        obtain ⟨H2, h2, h3⟩ := h
        have hne' : o2 ≠ o1 := fun e => hne (by rw [e])
        have oo := setOwner_onlyOwners h2
        have s2 := oo.sameSplits
        obtain ⟨a, b, c, _, sz, fr⟩ := moveSplits_spec hne' h3
        refine ⟨o2, rfl, by rw [sz, oo.2.1, z1], ?_, ?_, by simp⟩
        · -- `SetOwner` and `MoveSplits` do not write `pts`
          obtain ⟨rc, hrc, hp⟩ := hdead
          have : (H'.recs[o2]?).map (·.pts) = some none :=
            ((map_forget (fr o2) (·.pts)).trans (map_forget (oo.2.2 o2) (·.pts))).trans (by rw [hrc, ← hp]; rfl)
          exact Option.map_eq_some_iff.1 this
        · intro _
          refine ⟨o1, rfl, ?_, b, ?_⟩
          · rw [a, s2 o1, s2 o2, s1 o1, s1 o2]
          · intro k h1' h2'; rw [c k h2' h1', s2 k, s1 k]
    | false =>
      simp only [Bool.false_eq_true, if_false] at h
      obtain ⟨_, _, z2, g2⟩ := updRec_ok h
      refine ⟨o2, rfl, by rw [z2, z1], ?_, by simp, fun _ => s1.trans (sameSplits_updRec h (fun _ => rfl))⟩
      obtain ⟨rc, hrc, hp⟩ := hdead
      rw [g2 o2, if_pos rfl, hrc]; exact ⟨_, rfl, hp⟩

end Clipper.Model.HorzJoins

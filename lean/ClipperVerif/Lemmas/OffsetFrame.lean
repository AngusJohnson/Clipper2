/- Helper lemmas about the offset frame model (index ranges of the loops, the normal reversal). -/
import ClipperVerif.Model.OffsetFrame
namespace Clipper.OffsetFrame
open Clipper

theorem rd_ok {l : List α} {i : Nat} (h : i < l.length) : rd l i = .ok l[i] := by
  simp [rd, List.getElem?_eq_getElem h]

theorem rd_oob {l : List α} {i : Nat} (h : l.length ≤ i) : rd l i = .error .oob := by
  simp [rd, List.getElem?_eq_none h]

theorem rd_eq_ok {l : List α} {i : Nat} {a : α} : rd l i = .ok a ↔ l[i]? = some a := by
  unfold rd
  cases h : l[i]? <;> simp

theorem wr_ok {l : List α} {i : Nat} {a : α} (h : i < l.length) : wr l i a = .ok (l.set i a) := by
  simp [wr, h]

/-- every read of `OffsetPoint` is in range when `j`, `k` are -/
theorem offsetPoint_ok (g : Geo N) (jt : JoinType) (tl gd : Rat) (path : Path) (norms : List N) (j k : Nat)
    (hj : j < path.length) (hk : k < path.length) (hn : norms.length = path.length) :
    ∃ es, offsetPoint g jt tl gd path norms j k = .ok es := by
  unfold offsetPoint
  rw [rd_ok hj, rd_ok hk]
  simp only
  split
  · exact ⟨_, rfl⟩
  · rw [rd_ok (hn ▸ hj), rd_ok (hn ▸ hk)]
    simp only
    split <;> exact ⟨_, rfl⟩

theorem mapE_ok {f : α → Except Fault (List β)} {l : List α} (h : ∀ a ∈ l, ∃ b, f a = .ok b) :
    ∃ bs, mapE f l = .ok bs := by
  induction l with
  | nil => exact ⟨[], rfl⟩
  | cons a as ih =>
    obtain ⟨b, hb⟩ := h a (by simp)
    obtain ⟨bs, hbs⟩ := ih (fun x hx => h x (by simp [hx]))
    exact ⟨b ++ bs, by simp [mapE, hb, hbs]⟩

/-- `OffsetPoint` over a list of index pairs that stay inside the path -/
theorem offsetPoints_ok (g : Geo N) (jt : JoinType) (tl gd : Rat) (path : Path) (norms : List N)
    (hn : norms.length = path.length) (l : List (Nat × Nat))
    (h : ∀ p ∈ l, p.1 < path.length ∧ p.2 < path.length) :
    ∃ bs, mapE (fun jk => offsetPoint g jt tl gd path norms jk.1 jk.2) l = .ok bs :=
  mapE_ok fun p hp => offsetPoint_ok g jt tl gd path norms p.1 p.2 (h p hp).1 (h p hp).2 hn

theorem upLoop_bound (hi : Nat) : ∀ (fuel j0 k0 : Nat) (p : Nat × Nat), p ∈ upLoop hi fuel j0 k0 →
    p.1 < hi ∧ j0 ≤ p.1 ∧ (p.2 = k0 ∨ p.2 < p.1) := by
  intro fuel
  induction fuel with
  | zero => intro j0 k0 p hp; simp [upLoop] at hp
  | succ n ih =>
    intro j0 k0 p hp
    simp only [upLoop] at hp
    split at hp
    · rcases List.mem_cons.mp hp with rfl | hp
      · exact ⟨by assumption, Nat.le_refl _, Or.inl rfl⟩
      · obtain ⟨h1, h2, h3⟩ := ih (j0 + 1) j0 p hp
        exact ⟨h1, by omega, Or.inr (by omega)⟩
    · simp at hp

/-- the first pair visited is `(j, k)`, every later one `(i, i + 1)` -/
theorem downLoop_bound : ∀ (j k : Nat) (p : Nat × Nat), p ∈ downLoop j k →
    1 ≤ p.1 ∧ p.1 ≤ j ∧ ((p.1 = j ∧ p.2 = k) ∨ p.2 = p.1 + 1) := by
  intro j
  induction j with
  | zero => intro k p hp; simp [downLoop] at hp
  | succ n ih =>
    intro k p hp
    simp only [downLoop] at hp
    rcases List.mem_cons.mp hp with rfl | hp
    · exact ⟨by simp, Nat.le_refl _, Or.inl ⟨rfl, rfl⟩⟩
    · obtain ⟨h1, h2, h3⟩ := ih (n + 1) p hp
      exact ⟨h1, by omega, Or.inr (by omega)⟩

theorem buildNormals_length (g : Geo N) (path : Path) : (buildNormals g path).length = path.length := by
  cases path with
  | nil => rfl
  | cons a rest =>
    simp [buildNormals, segsOf, List.length_zip]


theorem offsetPolygon_ok (g : Geo N) (jt : JoinType) (tl gd : Rat) (path : Path) (norms : List N)
    (hn : norms.length = path.length) : ∃ es, offsetPolygon g jt tl gd path norms = .ok es := by
  unfold offsetPolygon
  obtain ⟨bs, hbs⟩ := offsetPoints_ok g jt tl gd path norms hn (polygonIdx path.length) (fun p hp => by
    have := upLoop_bound _ _ _ _ p hp; omega)
  rw [hbs]
  exact ⟨_, rfl⟩

theorem joinedNorms_ok (g : Geo N) (norms : List N) (h : 0 < norms.length) :
    ∃ ns, joinedNorms g norms = .ok ns ∧ ns.length = norms.length := by
  unfold joinedNorms
  have hr : 0 < norms.reverse.length := by simpa using h
  simp only [rd_ok hr]
  refine ⟨_, rfl, ?_⟩
  simp

theorem offsetOpenJoined_ok (g : Geo N) (jt : JoinType) (tl gd : Rat) (path : Path) (norms : List N)
    (hn : norms.length = path.length) (h1 : 1 ≤ path.length) :
    ∃ es, offsetOpenJoined g jt tl gd path norms = .ok es := by
  unfold offsetOpenJoined
  obtain ⟨a, ha⟩ := offsetPolygon_ok g jt tl gd path norms hn
  obtain ⟨ns, hns, hlen⟩ := joinedNorms_ok g norms (by omega)
  obtain ⟨b, hb⟩ := offsetPolygon_ok g jt tl gd path.reverse ns (by simp [hlen, hn])
  rw [ha, hns]
  simp only
  rw [hb]
  exact ⟨_, rfl⟩

theorem revLoop_spec (g : Geo N) : ∀ (i : Nat) (ns : List N), i < ns.length →
    ∃ ns', revLoop g i ns = .ok ns' ∧ ns'.length = ns.length ∧
      (∀ m, 1 ≤ m → m ≤ i → ns'[m]? = (ns[m - 1]?).map g.neg) ∧
      (∀ m, (m = 0 ∨ i < m) → ns'[m]? = ns[m]?) := by
  intro i
  induction i with
  | zero =>
    intro ns _
    exact ⟨ns, rfl, rfl, by intro m h1 h2; omega, by intro m _; rfl⟩
  | succ i ih =>
    intro ns hi
    have hi' : i < ns.length := by omega
    simp only [revLoop, rd_ok hi', wr_ok hi]
    obtain ⟨ns', h0, h1, h2, h3⟩ := ih (ns.set (i + 1) (g.neg ns[i])) (by simpa using hi')
    refine ⟨ns', h0, by simpa using h1, ?_, ?_⟩
    · intro m hm1 hm2
      by_cases hm : m ≤ i
      · rw [h2 m hm1 hm, List.getElem?_set_ne (by omega)]
      · have : m = i + 1 := by omega
        subst this
        rw [h3 (i + 1) (Or.inr (by omega)), List.getElem?_set_self hi]
        simp [List.getElem?_eq_getElem hi']
    · intro m hm
      rcases hm with rfl | hm
      · rw [h3 0 (Or.inl rfl), List.getElem?_set_ne (by omega)]
      · rw [h3 m (Or.inr (by omega)), List.getElem?_set_ne (by omega)]

/-- after the reversal block: `norms[m] = -old[m-1]` for `1 ≤ m ≤ highI`, `norms[0] = -old[highI-1]` -/
theorem reverseNorms_spec (g : Geo N) (highI : Nat) (ns : List N) (h : highI < ns.length) :
    ∃ ns', reverseNorms g highI ns = .ok ns' ∧ ns'.length = ns.length ∧
      (∀ m, 1 ≤ m → m ≤ highI → ns'[m]? = (ns[m - 1]?).map g.neg) ∧
      (1 ≤ highI → ns'[0]? = (ns[highI - 1]?).map g.neg) := by
  obtain ⟨l, h0, hl, h2, h3⟩ := revLoop_spec g highI ns h
  unfold reverseNorms
  rw [h0]
  simp only
  have hh : highI < l.length := by omega
  rw [rd_ok hh]
  simp only
  rw [wr_ok (by omega)]
  refine ⟨_, rfl, by simpa using hl, ?_, ?_⟩
  · intro m hm1 hm2
    rw [List.getElem?_set_ne (by omega), h2 m hm1 hm2]
  · intro h1
    rw [List.getElem?_set_self (by omega)]
    have := h2 highI h1 (Nat.le_refl _)
    rw [List.getElem?_eq_getElem hh] at this
    exact this

theorem cap_ok (et : EndType) (gd : Rat) (path : Path) (norms : List N) (i : Nat)
    (hi : i < path.length) (hn : norms.length = path.length) : ∃ es, cap et gd path norms i = .ok es := by
  unfold cap
  rw [rd_ok hi]
  simp only
  split
  · exact ⟨_, rfl⟩
  · rw [rd_ok (hn ▸ hi)]
    simp only
    split <;> exact ⟨_, rfl⟩

theorem offsetOpenPath_ok (g : Geo N) (jt : JoinType) (et : EndType) (tl gd : Rat) (path : Path) (norms : List N)
    (hn : norms.length = path.length) (h1 : 1 ≤ path.length) :
    ∃ es, offsetOpenPath g jt et tl gd path norms = .ok es := by
  unfold offsetOpenPath
  obtain ⟨c0, hc0⟩ := cap_ok et gd path norms 0 (by omega) hn
  obtain ⟨fwd, hfwd⟩ := offsetPoints_ok g jt tl gd path norms hn (upLoop (path.length - 1) (path.length - 1) 1 0)
    (fun p hp => by have := upLoop_bound _ _ _ _ p hp; omega)
  obtain ⟨ns', hns', hlen, -⟩ := reverseNorms_spec g (path.length - 1) norms (by omega)
  obtain ⟨c1, hc1⟩ := cap_ok et gd path ns' (path.length - 1) (by omega) (by omega)
  obtain ⟨bwd, hbwd⟩ := offsetPoints_ok g jt tl gd path ns' (by omega) (downLoop (path.length - 1 - 1) (path.length - 1))
    (fun p hp => by have := downLoop_bound _ _ p hp; omega)
  simp only [hc0, hfwd, hns', hc1, hbwd]
  exact ⟨_, rfl⟩


theorem buildNormals_getElem? (g : Geo N) (path : Path) (i : Nat) (h : i + 1 < path.length) :
    (buildNormals g path)[i]? = some (g.unitNormal (path[i]'(by omega)) path[i + 1]) := by
  cases path with
  | nil => simp at h
  | cons a rest =>
    have hi : i < rest.length := by simpa using h
    have hz : i < ((segsOf (a :: rest)).map (fun e => g.unitNormal e.1 e.2)).length := by
      simp [segsOf, List.length_zip]; omega
    simp only [buildNormals]
    rw [List.getElem?_append_left hz, List.getElem?_eq_getElem hz]
    simp [segsOf]

/-- the normals of the reversed path, in terms of the original points -/
theorem buildNormals_reverse_getElem? (g : Geo N) (path : Path) (m : Nat) (h1 : 1 ≤ m) (hm : m < path.length) :
    (buildNormals g path.reverse)[path.length - 1 - m]? = some (g.unitNormal path[m] (path[m - 1]'(by omega))) := by
  have hlen : path.reverse.length = path.length := List.length_reverse
  rw [buildNormals_getElem? g path.reverse (path.length - 1 - m) (by omega)]
  congr 2
  · rw [List.getElem_reverse]; congr 1; omega
  · rw [List.getElem_reverse]; congr 1; omega

end Clipper.OffsetFrame

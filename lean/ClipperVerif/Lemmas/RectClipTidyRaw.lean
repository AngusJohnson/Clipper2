/-
The heap that `RectClip64::Add` builds during `ExecuteInternal` (`rawHeap`) is well-formed: one ring with the nodes in creation
order, `owner_idx = 0`, `results_ = {last node}`.
Core Lean only.
-/
import ClipperVerif.Lemmas.RectClipTidyRelist
namespace Clipper.Lemmas.RCT
open Clipper Clipper.Model.RC Clipper.Model.RCT
open Clipper.Model.HorzJoins (chainR_snoc_last cycR_merge)

/-- invariant of the heap while `ExecuteInternal` runs: the nodes `0 … n-1` form one ring in creation order -/
structure RawInv (h : Heap) : Prop where
  res : h.results = if h.n = 0 then [] else [some (h.n - 1)]
  link : h.n ≠ 0 → Linked h.next h.prev (List.range h.n ++ [0])
  owner : ∀ k, k < h.n → h.owner k = 0
  entries : ∀ e k, some k ∈ h.edges e → k < h.n

theorem rawInv_empty : RawInv Heap.empty :=
  ⟨rfl, fun h => absurd rfl h, fun k hk => absurd hk (Nat.not_lt_zero k), fun e k hk => by simp [Heap.empty] at hk⟩

/-- the ring of slot 0 of a heap built by `Add` -/
def rawRing (h : Heap) : Nat → List Nat := fun s => if s = 0 then List.range h.n else []

theorem RawInv.wf {h : Heap} (inv : RawInv h) : RingsWF h (rawRing h) := by
  refine RingsWF.of_slots fun s => ?_
  unfold rawRing
  by_cases e : s = 0
  · subst e
    rw [if_pos rfl]
    refine ⟨fun k hk => ?_, fun hs => ?_, fun hs => ?_, List.nodup_range, fun k hk => inv.owner k (List.mem_range.mp hk),
      fun k hk => List.mem_range.mp hk⟩
    · rw [inv.res] at hk
      split at hk
      · cases hk
      · exact List.mem_range.mpr (by have := Option.some.inj (Option.some.inj hk); omega)
    · by_cases hn : h.n = 0
      · rw [hn]; rfl
      · exact absurd (by rw [inv.res, if_neg hn]; rfl) (hs (h.n - 1))
    · have hn : h.n ≠ 0 := fun e => hs (by rw [e]; rfl)
      obtain ⟨m, hm⟩ : ∃ m, h.n = m + 1 := ⟨h.n - 1, by omega⟩
      have hl := inv.link hn
      rw [hm, List.range_succ_eq_map] at hl ⊢
      exact hl
  · rw [if_neg e]
    refine .nil fun k hk => ?_
    rw [inv.res, List.getElem?_eq_none (by split <;> simp <;> omega)] at hk
    cases hk

theorem RawInv.results_len {h : Heap} (inv : RawInv h) : h.results.length ≤ 1 := by
  rw [inv.res]; split
  · exact Nat.zero_le _
  · exact Nat.le_refl _

theorem RawInv.results_eq {h : Heap} (inv : RawInv h) (hn : h.n ≠ 0) : h.results = [some (h.n - 1)] := by
  rw [inv.res, if_neg hn]

/-- what one `Add(p)` does to a heap under construction: at most one new node, the last one, carrying `p`; a new node unless
`p` repeats the previous point; everything old untouched -/
structure AddOut (h : Heap) (p : Pt) (h' : Heap) : Prop where
  inv : RawInv h'
  edges : h'.edges = h.edges
  mono : h.n ≤ h'.n
  le_succ : h'.n ≤ h.n + 1
  pos : h'.n ≠ 0
  old_pt : ∀ k, k < h.n → h'.pt k = h.pt k
  new_pt : ∀ k, h.n ≤ k → k < h'.n → h'.pt k = p
  grows : h.n = 0 ∨ h.pt (h.n - 1) ≠ p → h'.n = h.n + 1
  old_edge : ∀ x, x < h.n → h'.edge x = h.edge x

/-- `Add(pt)` never faults on such a heap -/
theorem add_rawInv (h : Heap) (p : Pt) (inv : RawInv h) : ∃ h', h.add p = .ok h' ∧ AddOut h p h' := by
  unfold Heap.add
  by_cases hn : h.n = 0
  · -- the first node: a ring of one, linked to itself
    have hr : h.results = [] := by rw [inv.res, if_pos hn]
    simp only [hr, List.getLast?_nil]
    refine ⟨_, rfl, ?_⟩
    refine {
      inv := { res := ?_, link := ?_, owner := ?_, entries := ?_ }
      edges := rfl
      mono := by simp
      le_succ := by simp
      pos := by simp
      old_pt := fun k hk => by omega
      new_pt := ?_
      grows := fun _ => rfl
      old_edge := fun x hx => by omega }
    · simp [hn]
    · intro _
      simp only [hn, Nat.zero_add, List.range_one, List.cons_append, List.nil_append, linked_cons2]
      exact ⟨upd_same _ _ _, upd_same _ _ _, trivial⟩
    · intro k hk
      have : k = 0 := by simp only [hn] at hk; omega
      subst this
      simp only [hn]; exact upd_same _ _ _
    · intro e k hk
      have := inv.entries e k hk
      simp only; omega
    · intro k h1 h2
      have : k = h.n := by simp only at h2; omega
      subst this; exact upd_same _ _ _
  · obtain ⟨m, hm⟩ : ∃ m, h.n = m + 1 := ⟨h.n - 1, by omega⟩
    have hr : h.results = [some m] := by rw [inv.results_eq hn, hm]; rfl
    simp only [hr, List.getLast?_singleton]
    split
    · -- duplicate of the previous point: nothing happens
      rename_i hdup
      refine ⟨h, rfl, ?_⟩
      refine {
        inv := inv
        edges := rfl
        mono := Nat.le_refl _
        le_succ := by omega
        pos := hn
        old_pt := fun _ _ => rfl
        new_pt := fun k h1 h2 => by omega
        grows := ?_
        old_edge := fun _ _ => rfl }
      rintro (e | e)
      · exact absurd e hn
      · rw [hm, Nat.add_sub_cancel] at e; exact absurd hdup e
    · -- the new node `m + 1` is linked in between the last node `m` and node `0`
      have hs : (List.range (m + 1)).head? = some 0 := by rw [List.range_succ_eq_map]; rfl
      have hp : (List.range (m + 1)).getLast? = some m := by rw [List.range_succ]; exact List.getLast?_concat
      obtain ⟨c, hnm, _⟩ := (chainR_snoc_last hp).1 ((linked_chainR _).1 (hm ▸ inv.link hn))
      refine ⟨_, rfl, ?_⟩
      refine {
        inv := { res := ?_, link := ?_, owner := ?_, entries := ?_ }
        edges := rfl
        mono := by simp
        le_succ := by simp
        pos := by simp
        old_pt := ?_
        new_pt := ?_
        grows := fun _ => rfl
        old_edge := ?_ }
      · simp [hm]
      · intro _
        simp only [hm, hnm]
        have := cycR_merge (Q := [m + 1]) (hQ := m + 1) (lQ := m + 1) (by rw [← List.range_succ]; exact List.nodup_range) hs hp rfl rfl
          (fun a b h1 h2 h3 h4 => link_upd4 a b h1 h2 h4 h3) c trivial ⟨upd_same .., upd_same ..⟩
          ⟨(upd_ne _ _ (by omega)).trans (upd_same ..), (upd_ne _ _ (by omega)).trans (upd_same ..)⟩
        rw [← List.range_succ, List.range_succ_eq_map] at this
        rw [List.range_succ_eq_map, linked_chainR]
        exact this
      · intro k hk
        simp only [hm] at hk ⊢
        by_cases e : k = m + 1
        · subst e; exact upd_same _ _ _
        · rw [upd_ne _ _ e]; exact inv.owner k (by omega)
      · intro e k hk
        have := inv.entries e k hk
        simp only; omega
      · intro k hk
        exact upd_ne _ _ (by omega)
      · intro k h1 h2
        have : k = h.n := by simp only at h2; omega
        subst this; exact upd_same _ _ _
      · intro x hx
        exact upd_ne _ _ (by omega)

theorem addAll_rawInv : ∀ (ps : List Pt) (h : Heap), RawInv h →
    ∃ h', h.addAll ps = .ok h' ∧ RawInv h' ∧ h'.edges = h.edges ∧ h.n ≤ h'.n ∧
      (∀ k, k < h.n → h'.pt k = h.pt k) ∧ (∀ k, h.n ≤ k → k < h'.n → h'.pt k ∈ ps)
  | [], h, inv => ⟨h, rfl, inv, rfl, Nat.le_refl _, fun _ _ => rfl, fun k h1 h2 => by omega⟩
  | p :: ps, h, inv => by
    obtain ⟨h1, e1, a⟩ := add_rawInv h p inv
    obtain ⟨h2, e2, inv2, ed2, n2, o2, p2⟩ := addAll_rawInv ps h1 a.inv
    have := a.mono
    refine ⟨h2, by simp only [Heap.addAll, e1, e2], inv2, ed2.trans a.edges, by omega, ?_, ?_⟩
    · intro k hk; rw [o2 k (by omega), a.old_pt k hk]
    · intro k h3 h4
      by_cases hk : k < h1.n
      · rw [o2 k hk, a.new_pt k h3 hk]; exact List.mem_cons_self
      · exact List.mem_cons_of_mem _ (p2 k (by omega) h4)

/-- `AddToEdge` on a node of the ring -/
theorem addToEdge_rawInv (h : Heap) (e op : Nat) (inv : RawInv h) (hop : op < h.n) : RawInv (h.addToEdge e op) := by
  have sr := sameRings_addToEdge h e op
  obtain ⟨s1, s2, s3, s4, s5, s6⟩ := sr
  refine ⟨by rw [s6, s1]; exact inv.res, by rw [s1, s3, s4]; exact inv.link, by rw [s1, s5]; exact inv.owner, ?_⟩
  intro e' k hk
  rw [s1]
  rcases mem_edges_addToEdge hk with m | ⟨rfl, _⟩
  · exact inv.entries e' k m
  · exact hop

/-- `Add(p); AddToEdge(edges_[2c], results_[0])`, one step of the closing logic of the enclosing case: `results_[0]` is the last
node, the one `Add` has just made (or found, if `p` repeats the previous point) -/
theorem addCorners_cons (h : Heap) (p : Pt) (c : Nat) (inv : RawInv h) :
    ∃ h1, AddOut h p h1 ∧ ∀ rest, addCorners h ((p, c) :: rest) = addCorners (h1.addToEdge (c * 2) (h1.n - 1)) rest := by
  obtain ⟨h1, e1, a⟩ := add_rawInv h p inv
  exact ⟨h1, a, fun rest => by simp only [addCorners, e1, a.inv.results_eq a.pos, List.head?_cons]⟩

theorem addCorners_rawInv : ∀ (cs : List (Pt × Nat)) (h : Heap), RawInv h →
    ∃ h', addCorners h cs = .ok h' ∧ RawInv h' ∧ h.n ≤ h'.n ∧
      (∀ k, k < h.n → h'.pt k = h.pt k) ∧ (∀ k, h.n ≤ k → k < h'.n → h'.pt k ∈ cs.map (·.1))
  | [], h, inv => ⟨h, rfl, inv, Nat.le_refl _, fun _ _ => rfl, fun k h1 h2 => by omega⟩
  | (p, c) :: cs, h, inv => by
    obtain ⟨h1, a, e1⟩ := addCorners_cons h p c inv
    have hpos := a.pos
    have hmono := a.mono
    obtain ⟨h2, e2, inv2, n2, o2, p2⟩ := addCorners_rawInv cs (h1.addToEdge (c * 2) (h1.n - 1))
      (addToEdge_rawInv h1 (c * 2) (h1.n - 1) a.inv (by omega))
    have sr := sameRings_addToEdge h1 (c * 2) (h1.n - 1)
    rw [sr.1] at n2 o2 p2
    refine ⟨h2, by rw [e1 cs, e2], inv2, by omega, ?_, ?_⟩
    · intro k hk
      rw [o2 k (by omega), sr.2.1, a.old_pt k hk]
    · intro k h3 h4
      by_cases hk : k < h1.n
      · rw [o2 k hk, sr.2.1, a.new_pt k h3 hk]; exact List.mem_cons_self
      · exact List.mem_cons_of_mem _ (p2 k (by omega) h4)

/-- **The heap after `ExecuteInternal`** is well-formed (one ring in slot 0, or nothing), every entry of an edge list is a node,
and every node carries a point that was passed to `Add`. -/
theorem rawHeap_inv (pip : Pt → Path → Option PipResult) (r : Rect) (path : Path) (res : AResult) :
    ∃ h, rawHeap pip r path res = .ok h ∧ RawInv h ∧ (∀ k, k < h.n → ∃ e ∈ res.es, e.pt = h.pt k) ∧
      (enclosing pip r path res = false → ∀ e k, some k ∉ h.edges e) := by
  unfold rawHeap
  simp only
  split
  · rename_i henc
    obtain ⟨h1, e1, inv1, ed1, n1, o1, p1⟩ := addAll_rawInv ((res.es.map (·.pt)).take ((res.es.map (·.pt)).length - 4)) Heap.empty rawInv_empty
    rw [e1]
    simp only
    obtain ⟨h2, e2, inv2, n2, o2, p2⟩ := addCorners_rawInv
      (((res.es.map (·.pt)).drop ((res.es.map (·.pt)).length - 4)).zip
        (if startLocsAreClockwise res.startLocs = true then [0, 1, 2, 3] else [3, 2, 1, 0])) h1 inv1
    refine ⟨h2, e2, inv2, ?_, by intro hf; rw [hf] at henc; cases henc⟩
    intro k hk
    have mem_es : ∀ q, q ∈ res.es.map (·.pt) → ∃ e ∈ res.es, e.pt = q := by
      intro q hq; simpa using hq
    by_cases hk1 : k < h1.n
    · rw [o2 k hk1]
      have := p1 k (Nat.zero_le _) hk1
      obtain ⟨e, he, hq⟩ := mem_es _ (List.mem_of_mem_take this)
      exact ⟨e, he, hq⟩
    · have := p2 k (by omega) hk
      have hm : h2.pt k ∈ (res.es.map (·.pt)).drop ((res.es.map (·.pt)).length - 4) := by
        obtain ⟨⟨a, b⟩, hab, ea⟩ := List.mem_map.mp this
        simp only at ea
        rw [← ea]
        exact (List.of_mem_zip hab).1
      obtain ⟨e, he, hq⟩ := mem_es _ (List.mem_of_mem_drop hm)
      exact ⟨e, he, hq⟩
  · rename_i henc
    obtain ⟨h1, e1, inv1, ed1, n1, o1, p1⟩ := addAll_rawInv (res.es.map (·.pt)) Heap.empty rawInv_empty
    refine ⟨h1, e1, inv1, ?_, ?_⟩
    · intro k hk
      have := p1 k (Nat.zero_le _) hk
      simpa using this
    · intro _ e k hk
      rw [ed1] at hk
      simp [Heap.empty] at hk

end Clipper.Lemmas.RCT

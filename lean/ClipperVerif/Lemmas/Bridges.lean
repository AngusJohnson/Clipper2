/-
Helper definitions and lemmas shared by the bridge files `Props/Bridges/*.lean` (bridges between the definitions
`tools/cpp2lean.py` generates from the C++ source and the hand models): the log type of generated skeletons, pointer
identities for a list-shaped AEL, the logged index of a `Location`, `size_t` comparisons, and the spellings in which the generated side writes
the tests of the hand models (a bridge rewrites them and pushes its encoder to the leaves of the common `if` tree).  Core Lean only.
-/
import ClipperVerif.Spec.Enums
namespace Clipper.Lemmas.Bridges
open Clipper

/-- the log of a generated skeleton: untranslated calls `name(record arguments)` with their scalar arguments, and pointer
assignments `location := record` -/
abbrev Log := List (String × List Int)

theorem ite_ne_bne (x y : Int) : (if decide (x ≠ y) = true then true else false) = (x != y) := by
  by_cases h : x = y <;> simp [h]

/-- `(a) == (b)` on two C++ `bool`s (compared as `int`s) -/
theorem bool_int_eq (a b : Prop) [Decidable a] [Decidable b] :
    decide ((if a then (1 : Int) else 0) = (if b then (1 : Int) else 0)) = (decide a == decide b) := by
  by_cases ha : a <;> by_cases hb : b <;> simp [ha, hb]

/-- `(a) != (b)` on two C++ `bool`s -/
theorem bool_int_ne (a b : Prop) [Decidable a] [Decidable b] :
    decide ((if a then (1 : Int) else 0) ≠ (if b then (1 : Int) else 0)) = (decide a != decide b) := by
  rw [decide_not, bool_int_eq]; rfl

theorem decide_ne_bne {α} [DecidableEq α] (a b : α) : decide (a ≠ b) = (a != b) := by
  by_cases h : a = b <;> simp [h]

/-- the generated side compares points coordinate by coordinate -/
theorem pt_eq (a b : Pt) : (a = b) ↔ (a.x = b.x ∧ a.y = b.y) := by
  cases a; cases b; simp

theorem pt_beq (a b : Pt) : (decide (a.x = b.x) && decide (a.y = b.y)) = decide (a = b) := by
  rw [← Bool.decide_and]; exact decide_eq_decide.mpr (pt_eq a b).symm

/-- `if (a && b) x else y` as the hand models nest it -/
theorem ite_and_nest {α} (a b : Prop) [Decidable a] [Decidable b] (x y : α) :
    (if a ∧ b then x else y) = if a then (if b then x else y) else y := by
  by_cases a <;> simp [*]

theorem mk_ite {α β} (x : α) (c : Prop) [Decidable c] (a b : β) :
    (x, if c then a else b) = if c then (x, a) else (x, b) := apply_ite (Prod.mk x) c a b

theorem append_ite {α} (S : List α) (c : Prop) [Decidable c] (a b : List α) :
    S ++ (if c then a else b) = if c then S ++ a else S ++ b := apply_ite (S ++ ·) c a b

/-- `a < b` on `size_t` values below 2^64 -/
theorem u64_lt (a b : Nat) (ha : a < 2 ^ 64) (hb : b < 2 ^ 64) : (UInt64.ofNat a < UInt64.ofNat b) ↔ a < b := by
  rw [UInt64.lt_iff_toNat_lt, UInt64.toNat_ofNat_of_lt' ha, UInt64.toNat_ofNat_of_lt' hb]

/-- `a == b` on `size_t` values below 2^64 -/
theorem u64_eq (a b : Nat) (ha : a < 2 ^ 64) (hb : b < 2 ^ 64) : (UInt64.ofNat a = UInt64.ofNat b) ↔ a = b := by
  rw [← UInt64.toNat_inj, UInt64.toNat_ofNat_of_lt' ha, UInt64.toNat_ofNat_of_lt' hb]

/-- identity of an optional AEL neighbour as the generated side sees a pointer: 0 = nullptr, key `k` = `k + 1` -/
def enc : Option Nat → Nat
  | none => 0
  | some k => k + 1

/-- `next_in_ael` of the edge with key `a` in the AEL `π` -/
def nextOf : List Nat → Nat → Option Nat
  | x :: y :: t, a => if x = a then some y else nextOf (y :: t) a
  | _, _ => none

/-- `prev_in_ael` of the edge with key `a` in the AEL `π` -/
def prevOf : List Nat → Nat → Option Nat
  | x :: y :: t, a => if y = a then some x else prevOf (y :: t) a
  | _, _ => none

theorem nextOf_none_of_not_mem : ∀ (l : List Nat) (a : Nat), a ∉ l → nextOf l a = none
  | [], _, _ => rfl
  | [_], _, _ => rfl
  | x :: y :: t, a, h => by
    have hx : x ≠ a := fun e => h (by simp [e])
    have : a ∉ y :: t := fun m => h (List.mem_cons_of_mem _ m)
    simp [nextOf, hx, nextOf_none_of_not_mem (y :: t) a this]

theorem prevOf_none_of_not_mem : ∀ (l : List Nat) (a : Nat), a ∉ l → prevOf l a = none
  | [], _, _ => rfl
  | [_], _, _ => rfl
  | x :: y :: t, a, h => by
    have hy : y ≠ a := fun e => h (by simp [e])
    have : a ∉ y :: t := fun m => h (List.mem_cons_of_mem _ m)
    simp [prevOf, hy, prevOf_none_of_not_mem (y :: t) a this]

theorem prevOf_head (y : Nat) (t : List Nat) (h : y ∉ t) : prevOf (y :: t) y = none := by
  cases t with
  | nil => rfl
  | cons z t' =>
    rw [prevOf, if_neg (fun e : z = y => h (e ▸ List.mem_cons_self)), prevOf_none_of_not_mem _ _ h]

theorem enc_eq_succ (o : Option Nat) (b : Nat) : decide (enc o = b + 1) = (o == some b) := by
  cases o with
  | none => exact decide_eq_false (Nat.succ_ne_zero b).symm
  | some k => simp [enc]; rfl

/-- the index `static_cast<size_t>(loc)` as the generated skeleton logs it -/
def locIdx (l : Location) : Int := Gen.ofU64 (Gen.toU64 (Gen.enumToInt l))

end Clipper.Lemmas.Bridges

/-
Winding numbers and the split/rejoin of `TidyEdges`.  The two edges that are cut and
the two that replace them lie on one side line of the rectangle; their contributions to the winding number telescope, so the
total over all live rings does not change.
Core Lean only.
-/
import ClipperVerif.Lemmas.RectClipTidy
import ClipperVerif.Lemmas.WindSpec
namespace Clipper.Lemmas.RCT
open Clipper Clipper.Model.RC Clipper.Model.RCT
open Clipper.WindSpec (crossing_same_side crossing_axis)

/-- **The edge identity behind a split/rejoin.**  Four points on one axis-parallel line: replacing the edges
`a → b` and `d → c` by `a → c` and `d → b` does not change the sum of the winding contributions. -/
theorem splice_crossing_identity (q a b c d : Pt)
    (h : (a.y = b.y ∧ b.y = c.y ∧ c.y = d.y) ∨ (a.x = b.x ∧ b.x = c.x ∧ c.x = d.x)) :
    crossing q a b + crossing q d c = crossing q a c + crossing q d b := by
  rcases h with h | h
  · rw [crossing_same_side (by omega), crossing_same_side (by omega), crossing_same_side (by omega),
      crossing_same_side (by omega)]
  · -- each edge counts the change of side between its ends, and the changes telescope
    rw [crossing_axis (.inl (by omega)), crossing_axis (.inl (by omega)), crossing_axis (.inl (by omega)),
      crossing_axis (.inl (by omega)), show d.x = a.x by omega, ← Int.mul_add, ← Int.mul_add]
    congr 1; omega

/-- the winding contributions of the links `prev k → k` of the nodes in `L` -/
def ringWind (h : Heap) (q : Pt) (L : List Nat) : Int := (L.map (fun k => crossing q (h.pt (h.prev k)) (h.pt k))).sum

theorem ringWind_cons (h : Heap) (q : Pt) (k : Nat) (L : List Nat) :
    ringWind h q (k :: L) = crossing q (h.pt (h.prev k)) (h.pt k) + ringWind h q L := by
  simp [ringWind]

theorem ringWind_congr (h h' : Heap) (q : Pt) (hpt : h'.pt = h.pt) : ∀ (L : List Nat),
    (∀ k ∈ L, h'.prev k = h.prev k) → ringWind h' q L = ringWind h q L
  | [], _ => rfl
  | k :: L, hp => by
    rw [ringWind_cons, ringWind_cons, ringWind_congr h h' q hpt L (fun x hx => hp x (List.mem_cons_of_mem _ hx)), hpt,
      hp k (by simp)]

/-- changing `prev` at one node of a duplicate-free list -/
theorem ringWind_upd1 (h h' : Heap) (q : Pt) (hpt : h'.pt = h.pt) (x u : Nat) (hp : h'.prev = upd h.prev x u) :
    ∀ (L : List Nat), L.Nodup → x ∈ L →
      ringWind h' q L + crossing q (h.pt (h.prev x)) (h.pt x) = ringWind h q L + crossing q (h.pt u) (h.pt x)
  | [], _, hx => by cases hx
  | k :: L, hnd, hx => by
    rw [ringWind_cons, ringWind_cons]
    by_cases e : k = x
    · subst e
      have hnotin : k ∉ L := (List.nodup_cons.mp hnd).1
      have : ringWind h' q L = ringWind h q L :=
        ringWind_congr h h' q hpt L (fun y hy => by
          have hne : y ≠ k := by intro e; subst e; exact hnotin hy
          rw [hp, upd_ne _ _ hne])
      rw [this, hpt, hp, upd_same]; omega
    · have hx' : x ∈ L := by
        rcases List.mem_cons.mp hx with h1 | h1
        · exact absurd h1.symm e
        · exact h1
      have ih := ringWind_upd1 h h' q hpt x u hp L (List.nodup_cons.mp hnd).2 hx'
      rw [hpt, hp, upd_ne _ _ e]; omega

/-- **A `prev` swap between two nodes whose links lie on one axis-parallel line leaves the total winding contribution of any
duplicate-free node list containing both unchanged.** -/
theorem ringWind_swap (h h' : Heap) (q : Pt) (hpt : h'.pt = h.pt) (x y : Nat) (hxy : x ≠ y)
    (hp : h'.prev = upd (upd h.prev x (h.prev y)) y (h.prev x)) (L : List Nat) (hnd : L.Nodup) (hx : x ∈ L) (hy : y ∈ L)
    (hline : ((h.pt (h.prev x)).y = (h.pt x).y ∧ (h.pt x).y = (h.pt y).y ∧ (h.pt y).y = (h.pt (h.prev y)).y) ∨
      ((h.pt (h.prev x)).x = (h.pt x).x ∧ (h.pt x).x = (h.pt y).x ∧ (h.pt y).x = (h.pt (h.prev y)).x)) :
    ringWind h' q L = ringWind h q L := by
  let hm : Heap := { h with prev := upd h.prev x (h.prev y) }
  have e1 := ringWind_upd1 h hm q rfl x (h.prev y) rfl L hnd hx
  have e2 := ringWind_upd1 hm h' q hpt y (h.prev x) hp L hnd hy
  have hmy : hm.prev y = h.prev y := upd_ne _ _ (fun e => hxy e.symm)
  have e2' : ringWind h' q L + crossing q (h.pt (h.prev y)) (h.pt y) = ringWind hm q L + crossing q (h.pt (h.prev x)) (h.pt y) := by
    have := e2; rw [hmy] at this; exact this
  have id := splice_crossing_identity q (h.pt (h.prev x)) (h.pt x) (h.pt y) (h.pt (h.prev y)) hline
  omega

theorem ringWind_append (h : Heap) (q : Pt) (L1 L2 : List Nat) : ringWind h q (L1 ++ L2) = ringWind h q L1 + ringWind h q L2 := by
  simp [ringWind]

theorem zip_snoc_trunc {α : Type} : ∀ (l : List α) (x a : α), (x :: (l ++ [a])).zip (l ++ [a]) = (x :: l).zip (l ++ [a])
  | [], x, a => rfl
  | y :: l, x, a => by
    have ih := zip_snoc_trunc l y a
    simp only [List.cons_append, List.zip_cons_cons] at ih ⊢
    rw [ih]

theorem zip_map_map {α β γ : Type} (f : α → β) (g : β × β → γ) : ∀ (l1 l2 : List α),
    ((l1.map f).zip (l2.map f)).map g = (l1.zip l2).map (fun e => g (f e.1, f e.2))
  | [], _ => by simp
  | _ :: _, [] => by simp
  | a :: l1, b :: l2 => by simp [zip_map_map f g l1 l2]

/-- along a linked list the links `prev k → k` are the consecutive pairs -/
theorem ringWind_linked (h : Heap) (q : Pt) : ∀ (l : List Nat) (x : Nat), Linked h.next h.prev (x :: l) →
    ringWind h q l = (((x :: l).zip l).map (fun e => crossing q (h.pt e.1) (h.pt e.2))).sum
  | [], _, _ => rfl
  | y :: l, x, hl => by
    rw [ringWind_cons, ringWind_linked h q l y (linked_tail hl)]
    have : h.prev y = x := hl.2.1
    simp [this]

/-- **The winding number of the polygon of a ring is the sum of the contributions of the links `prev k → k` of its nodes.** -/
theorem windPath_ring (h : Heap) (q : Pt) (c : List Nat) (hc : Cyc h.next h.prev c) : windPath (c.map h.pt) q = ringWind h q c := by
  cases c with
  | nil => exact absurd hc (by simp [Cyc])
  | cons a l =>
    have hl : Linked h.next h.prev (a :: (l ++ [a])) := hc
    have e1 := ringWind_linked h q (l ++ [a]) a hl
    have e2 : ringWind h q (a :: l) = ringWind h q (l ++ [a]) := by
      rw [ringWind_append, ringWind_cons, ringWind_cons, Int.add_comm]
      exact congrArg _ (Int.add_zero _).symm
    rw [e2, e1]
    unfold windPath edgesOf
    simp only [List.map_cons]
    rw [zip_snoc_trunc l a a]
    have := zip_map_map h.pt (fun e => crossing q e.1 e.2) (a :: l) (l ++ [a])
    simp only [List.map_cons, List.map_append, List.map_nil] at this
    rw [this]

end Clipper.Lemmas.RCT

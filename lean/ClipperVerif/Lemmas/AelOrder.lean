/-
Helper lemmas for `Props/C01Order.lean`: the list walk of InsertLeftEdge / the settling loop of the right bound, for an
arbitrary predicate `valid`; and the integer geometry behind the cross-product test of IsValidAelOrder.
-/
import ClipperVerif.Model.AelOrder
import ClipperVerif.Props.C18
namespace Clipper.Lemmas.AelOrder
open Clipper Clipper.Model.AelOrder

section Generic
variable {E : Type} (valid : E → E → Bool) (joinRight : E → Bool)

/-- where `walkPos` says `some k`, `walkInsert` has linked `e` at index `k` of `cur :: rest` (never in front of `cur`) -/
theorem walkInsert_of_pos (e : E) : ∀ (rest : List E) (cur : E) (k : Nat),
    walkPos valid joinRight e cur rest = some k →
      walkInsert valid joinRight e cur rest = (cur :: rest).take k ++ e :: (cur :: rest).drop k ∧
        1 ≤ k ∧ k ≤ rest.length + 1 := by
  intro rest
  induction rest with
  | nil =>
    intro cur k h
    simp only [walkPos] at h
    by_cases hj : joinRight cur = true
    · simp [hj] at h
    · simp [hj] at h; subst h; simp [walkInsert, hj]
  | cons nxt rest ih =>
    intro cur k h
    simp only [walkPos] at h
    by_cases hv : valid nxt e = true
    · simp only [hv, if_true] at h
      cases hw : walkPos valid joinRight e nxt rest with
      | none => simp [hw] at h
      | some k' =>
        simp [hw] at h; subst h
        obtain ⟨h1, h2, h3⟩ := ih nxt k' hw
        refine ⟨?_, by omega, by simp; omega⟩
        simp only [walkInsert, hv, if_true, h1]
        simp
    · simp only [hv] at h
      by_cases hj : joinRight cur = true
      · simp [hj] at h; subst h; simp [walkInsert, hv, hj]
      · simp [hj] at h; subst h; simp [walkInsert, hv, hj]

/-- `walkPos = none` is the C++ path `if (!e2) return`: the walk ran to the last edge, which is joined to the right;
the list is unchanged (the new edge is not linked). -/
theorem walkInsert_of_none (e : E) : ∀ (rest : List E) (cur : E),
    walkPos valid joinRight e cur rest = none →
      walkInsert valid joinRight e cur rest = cur :: rest ∧
        joinRight ((cur :: rest).getLast (by simp)) = true := by
  intro rest
  induction rest with
  | nil =>
    intro cur h
    simp only [walkPos] at h
    by_cases hj : joinRight cur = true
    · simp [walkInsert, hj]
    · simp [hj] at h
  | cons nxt rest ih =>
    intro cur h
    simp only [walkPos] at h
    by_cases hv : valid nxt e = true
    · simp only [hv, if_true] at h
      cases hw : walkPos valid joinRight e nxt rest with
      | some k' => simp [hw] at h
      | none =>
        obtain ⟨h1, h2⟩ := ih nxt hw
        refine ⟨by simp only [walkInsert, hv, if_true, h1], ?_⟩
        simpa [List.getLast_cons] using h2
    · simp only [hv] at h
      by_cases hj : joinRight cur = true <;> simp [hj] at h

/-- the index function describes `insertLeft` -/
theorem insertLeft_of_pos (l : List E) (e : E) (k : Nat) (h : insertLeftPos valid joinRight l e = some k) :
    insertLeft valid joinRight l e = l.take k ++ e :: l.drop k ∧ k ≤ l.length := by
  cases l with
  | nil => simp [insertLeftPos] at h; subst h; simp [insertLeft]
  | cons first rest =>
    simp only [insertLeftPos] at h
    by_cases hv : valid first e = true
    · simp only [hv, Bool.not_true] at h
      obtain ⟨h1, _, h3⟩ := walkInsert_of_pos valid joinRight e rest first k (by simpa using h)
      refine ⟨?_, by simpa using h3⟩
      simp only [insertLeft, hv, Bool.not_true]
      simpa using h1
    · simp [hv] at h; subst h; simp [insertLeft, hv]

theorem insertLeft_of_none (l : List E) (e : E) (h : insertLeftPos valid joinRight l e = none) :
    insertLeft valid joinRight l e = l ∧ ∃ x, l.getLast? = some x ∧ joinRight x = true := by
  cases l with
  | nil => simp [insertLeftPos] at h
  | cons first rest =>
    simp only [insertLeftPos] at h
    by_cases hv : valid first e = true
    · simp only [hv, Bool.not_true] at h
      obtain ⟨h1, h2⟩ := walkInsert_of_none valid joinRight e rest first (by simpa using h)
      refine ⟨by simp only [insertLeft, hv, Bool.not_true]; simpa using h1, _, ?_, h2⟩
      exact List.getLast?_eq_some_getLast (by simp)
    · simp [hv] at h

/-- The walk on a list that splits into a `valid` prefix and a rest whose head is not `valid`: the new edge goes between
them — one further right when the last edge of the prefix is joined to its right neighbour. -/
theorem walkInsert_split (e : E) : ∀ (l₁ : List E) (cur : E) (l₂ : List E),
    (∀ r ∈ l₁, valid r e = true) → (∀ b, l₂.head? = some b → valid b e = false) →
    walkInsert valid joinRight e cur (l₁ ++ l₂) =
      if joinRight ((cur :: l₁).getLast (by simp)) = true then
        (match l₂ with
         | [] => cur :: l₁
         | b :: l₂' => cur :: l₁ ++ b :: e :: l₂')
      else cur :: l₁ ++ e :: l₂ := by
  intro l₁
  induction l₁ with
  | nil =>
    intro cur l₂ _ h2
    cases l₂ with
    | nil => by_cases hj : joinRight cur = true <;> simp [walkInsert, hj]
    | cons b l₂' =>
      have hb : valid b e = false := h2 b rfl
      by_cases hj : joinRight cur = true <;> simp [walkInsert, hj, hb]
  | cons a l₁ ih =>
    intro cur l₂ h1 h2
    have ha : valid a e = true := h1 a (by simp)
    have := ih a l₂ (fun r hr => h1 r (by simp [hr])) h2
    simp only [List.cons_append, walkInsert, ha, if_true, this]
    simp only [List.getLast_cons (l := a :: l₁) (by simp)]
    split
    · cases l₂ <;> simp
    · simp

/-- `walkPos` on the same split -/
theorem walkPos_split (e : E) : ∀ (l₁ : List E) (cur : E) (l₂ : List E),
    (∀ r ∈ l₁, valid r e = true) → (∀ b, l₂.head? = some b → valid b e = false) →
    walkPos valid joinRight e cur (l₁ ++ l₂) =
      if joinRight ((cur :: l₁).getLast (by simp)) = true then
        (match l₂ with
         | [] => none
         | _ :: _ => some (l₁.length + 2))
      else some (l₁.length + 1) := by
  intro l₁
  induction l₁ with
  | nil =>
    intro cur l₂ _ h2
    cases l₂ with
    | nil => by_cases hj : joinRight cur = true <;> simp [walkPos, hj]
    | cons b l₂' =>
      have hb : valid b e = false := h2 b rfl
      by_cases hj : joinRight cur = true <;> simp [walkPos, hj, hb]
  | cons a l₁ ih =>
    intro cur l₂ h1 h2
    have ha : valid a e = true := h1 a (by simp)
    have := ih a l₂ (fun r hr => h1 r (by simp [hr])) h2
    simp only [List.cons_append, walkPos, ha, if_true, this]
    simp only [List.getLast_cons (l := a :: l₁) (by simp)]
    split
    · cases l₂ <;> simp
    · simp

/-- `insertLeftPos` on a list that splits into a `valid` prefix whose last edge is not joined to the right and a rest whose head
is not `valid`: the new edge goes between them -/
theorem insertLeftPos_split (e : E) (l₁ l₂ : List E) (h1 : ∀ r ∈ l₁, valid r e = true)
    (h2 : ∀ b, l₂.head? = some b → valid b e = false) (hj : ∀ x, l₁.getLast? = some x → joinRight x = false) :
    insertLeftPos valid joinRight (l₁ ++ l₂) e = some l₁.length := by
  cases l₁ with
  | nil =>
    cases l₂ with
    | nil => rfl
    | cons b t => simp only [List.nil_append, insertLeftPos, h2 b rfl, Bool.not_false, if_true, List.length_nil]
  | cons cur l₁' =>
    have hnj : joinRight ((cur :: l₁').getLast (List.cons_ne_nil _ _)) = false :=
      hj _ (List.getLast?_eq_some_getLast _)
    simp only [List.cons_append, insertLeftPos, h1 cur List.mem_cons_self, Bool.not_true, Bool.false_eq_true, if_false,
      walkPos_split valid joinRight e l₁' cur l₂ (fun r hr => h1 r (List.mem_cons_of_mem _ hr)) h2, hnj, List.length_cons]

/-- a new element put between a part that is below it and a part that is above it -/
theorem sorted_insert {lt : E → E → Prop} {l l₁ l₂ : List E} {x : E} (hl : l = l₁ ++ l₂) (hs : l.Pairwise lt)
    (h1 : ∀ r ∈ l₁, lt r x) (h2 : ∀ r ∈ l₂, lt x r) : (l₁ ++ x :: l₂).Pairwise lt ∧ (l₁ ++ x :: l₂).Perm (x :: l) := by
  subst hl
  obtain ⟨s1, s2, s3⟩ := List.pairwise_append.1 hs
  refine ⟨List.pairwise_append.2 ⟨s1, List.pairwise_cons.2 ⟨h2, s2⟩, fun a ha c hc => ?_⟩, List.perm_middle⟩
  rcases List.mem_cons.1 hc with rfl | hc
  · exact h1 a ha
  · exact s3 a ha c hc

/-- In a list sorted by a transitive `lt` that agrees with `valid · e`, `e` comparable with every member: the members below `e`
form a prefix, `e` is below the rest. -/
theorem sorted_split (lt : E → E → Prop) (e : E) (htrans : ∀ a b c, lt a b → lt b c → lt a c) :
    ∀ (l : List E), l.Pairwise lt → (∀ r ∈ l, valid r e = true ↔ lt r e) → (∀ r ∈ l, ¬ lt r e → lt e r) →
      ∃ l₁ l₂, l = l₁ ++ l₂ ∧ (∀ r ∈ l₁, valid r e = true ∧ lt r e) ∧ (∀ r ∈ l₂, valid r e = false ∧ lt e r)
  | [], _, _, _ => ⟨[], [], rfl, fun _ h => (nomatch h), fun _ h => (nomatch h)⟩
  | a :: t, hs, hag, htot => by
    have hs' := List.pairwise_cons.1 hs
    by_cases ha : valid a e = true
    · obtain ⟨l₁, l₂, h1, h2, h3⟩ := sorted_split lt e htrans t hs'.2 (fun r hr => hag r (List.mem_cons_of_mem _ hr))
        (fun r hr => htot r (List.mem_cons_of_mem _ hr))
      refine ⟨a :: l₁, l₂, congrArg _ h1, fun r hr => ?_, h3⟩
      rcases List.mem_cons.1 hr with rfl | hr
      · exact ⟨ha, (hag r List.mem_cons_self).1 ha⟩
      · exact h2 r hr
    · -- `a` is not below `e`, hence nothing behind it is
      have hna : ¬ lt a e := fun h => ha ((hag a List.mem_cons_self).2 h)
      refine ⟨[], a :: t, rfl, fun _ h => (nomatch h), fun r hr => ?_⟩
      have hnr : ¬ lt r e := by
        rcases List.mem_cons.1 hr with rfl | hr'
        · exact hna
        · exact fun h => hna (htrans _ _ _ (hs'.1 r hr') h)
      exact ⟨Bool.eq_false_iff.2 (fun h => hnr ((hag r hr).1 h)), htot r hr hnr⟩

theorem bubble_shape (rb : E) : ∀ (l : List E),
    bubble valid rb l = l.take (bubbleCount valid rb l) ++ rb :: l.drop (bubbleCount valid rb l) ∧
      bubbleCount valid rb l ≤ l.length := by
  intro l
  induction l with
  | nil => simp [bubble, bubbleCount]
  | cons a t ih =>
    by_cases ha : valid a rb = true
    · simp only [bubble, bubbleCount, ha, if_true]
      refine ⟨?_, by simp; exact ih.2⟩
      rw [ih.1]; simp
    · simp [bubble, bubbleCount, ha]

theorem bubble_split (rb : E) : ∀ (l₁ l₂ : List E),
    (∀ r ∈ l₁, valid r rb = true) → (∀ b, l₂.head? = some b → valid b rb = false) →
      bubble valid rb (l₁ ++ l₂) = l₁ ++ rb :: l₂ ∧ bubbleCount valid rb (l₁ ++ l₂) = l₁.length := by
  intro l₁
  induction l₁ with
  | nil =>
    intro l₂ _ h2
    cases l₂ with
    | nil => simp [bubble, bubbleCount]
    | cons b t => simp [bubble, bubbleCount, h2 b rfl]
  | cons a t ih =>
    intro l₂ h1 h2
    have ha : valid a rb = true := h1 a (by simp)
    obtain ⟨i1, i2⟩ := ih l₂ (fun r hr => h1 r (by simp [hr])) h2
    simp [bubble, bubbleCount, ha, i1, i2]

/-- what the settling loop returns: the edge itself or an edge it was given -/
theorem bubble_mem (rb : E) (l : List E) (x : E) (h : x ∈ bubble valid rb l) : x = rb ∨ x ∈ l := by
  rw [(bubble_shape valid rb l).1] at h
  rcases List.mem_append.1 h with h | h
  · exact Or.inr (List.mem_of_mem_take h)
  · exact (List.mem_cons.1 h).imp id List.mem_of_mem_drop

/-- without joined edges the walk of `InsertLeftEdge` is the settling loop run from the head of the list -/
theorem walkInsert_nojoin (e : E) : ∀ (rest : List E) (cur : E),
    walkInsert valid (fun _ => false) e cur rest = cur :: bubble valid e rest
  | [], _ => rfl
  | nxt :: rest, cur => by
    unfold walkInsert bubble
    split
    · rw [walkInsert_nojoin e rest nxt]
    · rfl

theorem insertLeft_nojoin (l : List E) (e : E) : insertLeft valid (fun _ => false) l e = bubble valid e l := by
  cases l with
  | nil => rfl
  | cons first rest =>
    show (if (!valid first e) = true then e :: first :: rest else walkInsert valid (fun _ => false) e first rest) =
      if valid first e = true then first :: bubble valid e rest else e :: first :: rest
    cases valid first e
    · rfl
    · exact walkInsert_nojoin valid e rest first

end Generic

/-- `CrossProductSign(a,b,c)` tests the sign of `cross a b c` -/
theorem cross_turn (a b c : Pt) :
    (b.x - a.x) * (c.y - b.y) - (b.y - a.y) * (c.x - b.x) = cross a b c := by
  simp only [cross]; grind

theorem cps_eq (a b c : Pt) : Gen.CrossProductSign a.x a.y b.x b.y c.x c.y = Int.sign (cross a b c) := by
  rw [Props.C18.crossProductSign_int128_exact, Props.C18.crossSign, cross_turn]

theorem cps_ne0 (a b c : Pt) : (Gen.CrossProductSign a.x a.y b.x b.y c.x c.y ≠ 0) ↔ cross a b c ≠ 0 := by
  rw [cps_eq]; simp [Int.sign_eq_zero_iff_zero]
theorem cps_lt0 (a b c : Pt) : (Gen.CrossProductSign a.x a.y b.x b.y c.x c.y < 0) ↔ cross a b c < 0 := by
  rw [cps_eq]; exact Int.sign_neg_iff
theorem cps_le0 (a b c : Pt) : (Gen.CrossProductSign a.x a.y b.x b.y c.x c.y ≤ 0) ↔ cross a b c ≤ 0 := by
  rw [cps_eq]; exact Int.sign_nonpos_iff
theorem cps_gt0 (a b c : Pt) : (Gen.CrossProductSign a.x a.y b.x b.y c.x c.y > 0) ↔ cross a b c > 0 := by
  rw [cps_eq]; exact Int.sign_pos_iff
theorem cps_ge0 (a b c : Pt) : (Gen.CrossProductSign a.x a.y b.x b.y c.x c.y ≥ 0) ↔ cross a b c ≥ 0 := by
  rw [cps_eq]; exact Int.sign_nonneg_iff

/-- `IsCollinear(pt1, sharedPt, pt2)` (generated parameter order: pt1, pt2, sharedPt) -/
theorem isCollinear_eq (p s q : Pt) : Gen.IsCollinear p.x p.y q.x q.y s.x s.y = decide (cross p s q = 0) := by
  rw [Bool.eq_iff_iff, Props.C18.isCollinear_int128_exact, decide_eq_true_iff, ← cross_turn]
  omega

end Clipper.Lemmas.AelOrder

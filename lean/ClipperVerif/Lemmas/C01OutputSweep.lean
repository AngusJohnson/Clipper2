/-
An event list of the ring model that is geometric (`GRun`) and whose bookkeeping events are accepted by the bookkeeping model
`Model/Ael.lean` is accepted by the ring model (`runR_lift`; no joins, no open paths: nothing else can be rejected, and the ring model
never faults; an `update` names a position inside the AEL because the AEL stays as long as the geometric one).

The decorated events of one scanbeam (`Model/SweepPoints.lean`): what they erase to, which events there are (at the height of their
scanline), and that they are geometric: the insertion events, the bottom-up intersection events, the top-of-scanbeam events.  Core Lean only.
-/
import ClipperVerif.Lemmas.C01OutputChain
import ClipperVerif.Lemmas.C01OutputSched
import ClipperVerif.Lemmas.C01OutputMono
namespace Clipper.Lemmas.C01Output
open Clipper Clipper.Model Clipper.Lemmas.C01Crown
open Clipper.Props.C01RegionRings (baseOps baseOf)

theorem erase_drop (l : List Model.SEdge) (i : Nat) : (erase l).drop i = erase (l.drop i) := by simp [erase, List.map_drop]

theorem intersectCore_not_reject (cfg : Cfg) (pre : List Model.SEdge) (a b : Model.SEdge) (rest : List Model.SEdge) (n : Nat) :
    intersectCore cfg pre a b rest n ≠ .error .reject := by
  unfold intersectCore
  simp only
  split
  · simp
  · simp
  · simp
  · split
    · split <;> simp
    · simp
  · split
    · split <;> simp
    · simp

/-- **progress**: a plain base event accepted by the bookkeeping model is accepted by the ring model -/
theorem base_progress (cfg : Cfg) (hct : cfg.ct ≠ .noClip) (r : RState) (bop : Op) (pt : Pt) (hop : PlainOp (.base bop pt))
    (hS : SInv cfg r.s) (hP : Plain r.s.ael) (l' : Ael) (hl : step cfg (erase r.s.ael) bop = some l') :
    ∃ r', stepR cfg r (.base bop pt) = .ok r' ∧ erase r'.s.ael = l' := by
  have key : ∃ s', stepS cfg r.s (.base bop) = .ok s' := by
    cases hs : stepS cfg r.s (.base bop) with
    | ok s' => exact ⟨s', rfl⟩
    | error e =>
      exfalso
      cases e with
      | fault f => exact Clipper.Props.C11Sides.step_never_faults cfg hct r.s _ hS f hs
      | reject =>
        cases bop with
        | insertPair pos t isOpen dx =>
          simp only [step, Model.insertPair] at hl
          simp only [stepS, insertPairS] at hs
          split at hl
          · next hc =>
            have hsep : separatesJoin pos r.s.ael = false := by
              unfold separatesJoin
              cases hg : (r.s.ael.take pos).getLast? with
              | none => rfl
              | some x =>
                have hx : x ∈ r.s.ael := List.mem_of_mem_take (List.mem_of_getLast? hg)
                simp [(hP x hx).1]
            rw [if_pos ⟨by simpa [erase] using hc.1, hc.2, hsep⟩] at hs
            cases hs
          · cases hl
        | insertOne _ _ _ => simp [PlainOp] at hop
        | intersect i =>
          simp only [step, Model.intersect] at hl
          simp only [stepS] at hs
          rw [erase_drop] at hl
          match hd0 : r.s.ael.drop i with
          | [] => simp [hd0, erase] at hl
          | [_] => simp [hd0, erase] at hl
          | a :: b :: rest =>
            have hP' := hP
            rw [window_split _ _ _ _ _ hd0] at hP'
            obtain ⟨pa, pb, _⟩ := plain_window hP'
            rw [(intersect_plain cfg i pt r.s r.o a b rest hd0 pa pb).1] at hs
            exact intersectCore_not_reject cfg _ a b rest _ hs
        | removePair i =>
          simp only [step, Model.removePair] at hl
          simp only [stepS] at hs
          rw [erase_drop] at hl
          match hd0 : r.s.ael.drop i with
          | [] => simp [hd0, erase] at hl
          | [_] => simp [hd0, erase] at hl
          | a :: b :: rest =>
            simp only [hd0, erase, List.map_cons] at hl
            have hP' := hP
            rw [window_split _ _ _ _ _ hd0] at hP'
            obtain ⟨pa, pb, _⟩ := plain_window hP'
            rw [(removePair_plain i pt r.s r.o a b rest hd0 pa pb.1).1] at hs
            split at hl
            · next hc =>
              rw [if_pos hc] at hs
              split at hs
              · cases hs
              · split at hs <;> cases hs
              · cases hs
            · cases hl
        | removeOne _ => simp [PlainOp] at hop
  obtain ⟨s', hs'⟩ := key
  refine ⟨{ s := s', o := outStep cfg r.s r.o (.base bop pt) }, by simp [stepR, ROp.erase, hs'], ?_⟩
  have := Clipper.Props.C11Sides.erase_step cfg r.s s' (.base bop) hS hs'
  simp only at this
  rw [hl] at this
  exact (Option.some.inj this).symm

theorem baseOps_cons_base (bop : Op) (pt : Pt) (t : List ROp) : baseOps (.base bop pt :: t) = bop :: baseOps t := by
  simp [baseOps, ROp.erase, baseOf]

theorem baseOps_cons_update (i : Nat) (pt : Pt) (t : List ROp) : baseOps (.update i pt :: t) = baseOps t := by
  have : (ROp.update i pt).erase = none := rfl
  simp [baseOps, this]

theorem baseOps_append (a b : List ROp) : baseOps (a ++ b) = baseOps a ++ baseOps b := by
  simp [baseOps, List.filterMap_append]

open Clipper.Model.SweepPoints in
/-- an event keeps the AEL of the ring model as long as the geometric AEL -/
theorem step_length {D : Int} {E : GEdge → Prop} {es es' : List GEdge} {op : ROp} (cfg : Cfg) {r r' : RState} (hev : GEv D E es op es')
    (hs : stepR cfg r op = .ok r') (hP : Plain r.s.ael) (hO : OInv r.s.next r.s.ael r.o) (hR : RecsOK r.s.next r.s.ael)
    (hl : r.s.ael.length = es.length) : r'.s.ael.length = es'.length := by
  have hw : Wt (fun _ _ => (0 : Int)) := ⟨fun _ => rfl, fun _ _ => rfl⟩
  unfold GEv at hev
  split at hev
  · obtain ⟨epre, epost, l, rr, rfl, _, rfl, _⟩ := hev
    obtain ⟨_, _, _, _, _, A⟩ := insertPair_acct (fun _ _ => 0) cfg _ _ _ _ r r' hP hO hs
    exact A.length (ew := []) (ew' := [l, rr]) rfl rfl hl
  · obtain ⟨_, _, _, _, rfl, _, rfl, _⟩ := hev
    obtain ⟨_, _, _, _, _, ⟨_, _, _, A⟩ | ⟨_, _, Kp⟩⟩ := intersect_acct hw cfg _ _ r r' hP hO hR hs
    · exact A.length (ew := [_, _]) (ew' := [_, _]) rfl rfl hl
    · exact Kp.length hl
  · obtain ⟨_, _, ea, eb, rfl, _, rfl, _⟩ := hev
    obtain ⟨_, _, _, _, _, _, A⟩ := removePair_acct hw cfg _ _ r r' hP hO hR hs
    exact A.length (ew := [ea, eb]) (ew' := []) rfl rfl hl
  · obtain ⟨_, _, ea, ea', rfl, _, rfl, _⟩ := hev
    obtain ⟨_, _, _, _, A⟩ := update_acct hw cfg _ _ r r' hP hO hR hs
    exact A.length (ew := [ea]) (ew' := [ea']) rfl rfl hl
  · exact hev.elim

open Clipper.Model.SweepPoints in
/-- **a geometric event list whose bookkeeping events are accepted by `Model/Ael.lean` is accepted by the ring model** -/
theorem runR_lift (cfg : Cfg) (hct : cfg.ct ≠ .noClip) {D : Int} {E : GEdge → Prop} : ∀ (rops : List ROp) (r : RState)
    (es es' : List GEdge) (l' : Ael), GRun D E es rops es' → r.s.ael.length = es.length →
    Reach cfg r → Plain r.s.ael → Model.run cfg (erase r.s.ael) (baseOps rops) = some l' →
    ∃ r', runR cfg r rops = .ok r' ∧ erase r'.s.ael = l' ∧ Plain r'.s.ael ∧ Reach cfg r' := by
  intro rops
  induction rops with
  | nil =>
    intro r es es' l' _ _ hre hP hrun
    simp only [baseOps, List.filterMap_nil, Model.run, Option.some.injEq] at hrun
    exact ⟨r, rfl, hrun, hP, hre⟩
  | cons op rops ih =>
    intro r es es' l' hg hlen hre hP hrun
    obtain ⟨es1, g1, g2⟩ := hg
    obtain ⟨hO, hR, hS⟩ := reach_facts hct hre
    have hop1 := plainOp_of_gEv g1
    -- the event is accepted: a base event because the bookkeeping model accepts it, an `update` because its position is inside the AEL
    have hs1 : ∃ r1, stepR cfg r op = .ok r1 ∧ Model.run cfg (erase r1.s.ael) (baseOps rops) = some l' := by
      cases op with
      | base bop pt =>
        rw [baseOps_cons_base] at hrun
        simp only [Model.run] at hrun
        cases hst : step cfg (erase r.s.ael) bop with
        | none => simp [hst] at hrun
        | some l1 =>
          simp only [hst] at hrun
          obtain ⟨r1, hs1, he1⟩ := base_progress cfg hct r bop pt hop1 hS hP l1 hst
          exact ⟨r1, hs1, he1 ▸ hrun⟩
      | join _ _ => exact hop1.elim
      | split _ _ => exact hop1.elim
      | update i pt =>
        obtain ⟨pre, post, a, a', rfl, hi, _⟩ := g1
        rw [baseOps_cons_update] at hrun
        exact ⟨{ r with o := outStep cfg r.s r.o (.update i pt) }, by simp [stepR, ROp.erase, hlen, ← hi], hrun⟩
    obtain ⟨r1, hs1, hrun1⟩ := hs1
    obtain ⟨r', h1, h2, h3, h4⟩ := ih r1 es1 es' l' g2
      (step_length cfg g1 hs1 hP hO hR hlen) (reach_step hre hs1)
      (plain_step cfg op r r1 hop1 hs1 hP hO hR).1 hrun1
    exact ⟨r', by simp only [runR, hs1]; exact h1, h2, h3, h4⟩

theorem erased_run (cfg : Cfg) (hct : cfg.ct ≠ .noClip) (rops : List ROp) (rs : RState) (h : runR cfg RState.empty rops = .ok rs) :
    Model.run cfg [] (baseOps rops) = some (erase rs.s.ael) :=
  Clipper.Props.C01RegionRings.erase_runS cfg hct _ SState.empty rs.s (Clipper.Props.C11Sides.sinv_empty cfg)
    (Clipper.Props.C01Rings.erase_ring_run cfg rops _ rs h)

end Clipper.Lemmas.C01Output

namespace Clipper.Lemmas.C01Output
open Clipper Clipper.Model Clipper.Model.AelOrder Clipper.Model.SweepOrder Clipper.Model.SweepEvents Clipper.Model.SweepPoints
open Clipper.Lemmas.SweepOrder Clipper.Lemmas.C01Region Clipper.Lemmas.AelOrder
open Clipper.Props.C01RegionRings (baseOps baseOf)

theorem baseOps_map_base {α : Type} (f : α → Op) (g : α → Pt) : ∀ (l : List α), baseOps (l.map (fun a => ROp.base (f a) (g a))) = l.map f := by
  intro l
  induction l with
  | nil => rfl
  | cons a l ih => rw [List.map_cons, baseOps_cons_base, ih]; rfl

theorem baseOps_minEventsP (D : Int) (valid : GEdge → GEdge → Bool) (lab : Lab) (ael : List GEdge) (p : GEdge × GEdge) :
    baseOps (minEventsP D valid lab ael p) = minEvents valid lab ael p := by
  unfold minEventsP minEvents
  cases insertLeftPos valid (fun _ => false) ael p.1 with
  | none => rfl
  | some i => simp only [baseOps_cons_base, baseOps_map_base]

theorem baseOps_insEventsP (D : Int) (valid : GEdge → GEdge → Bool) (lab : Lab) : ∀ (ms : List (GEdge × GEdge)) (ael : List GEdge),
    baseOps (insEventsP D valid lab ael ms) = insEvents valid lab ael ms := by
  intro ms
  induction ms with
  | nil => intro ael; rfl
  | cons p ms ih => intro ael; simp only [insEventsP, insEvents, baseOps_append, baseOps_minEventsP, ih]

theorem baseOps_isectEventsP (D : Int) (T inserted : List GEdge) :
    baseOps (isectEventsP D T inserted) = ((geoSwaps T inserted).map (·.1)).map .intersect := by
  unfold isectEventsP
  rw [baseOps_map_base (fun c : Nat × GEdge × GEdge => Op.intersect c.1) (fun c => (crossQ c.2.1 c.2.2).toPt D), List.map_map]
  rfl

theorem baseOps_topEventsAuxP (D : Int) (next : GEdge → Option GEdge) (y1 : Int) (flag : Bool) (k : Nat) (l : List GEdge) :
    baseOps (topEventsAuxP D next y1 flag k l) = topEventsAux next y1 flag k l := by
  fun_induction topEventsAuxP D next y1 flag k l <;> simp only [topEventsAux, baseOps_cons_base, baseOps_cons_update, *] <;> rfl

/-- an insertion event is the `insertPair` of a local minimum with its vertex, or a settling `intersect` with the same vertex -/
theorem mem_insEventsP (D : Int) (valid : GEdge → GEdge → Bool) (lab : Lab) : ∀ (ms : List (GEdge × GEdge)) (ael : List GEdge) (op : ROp),
    op ∈ insEventsP D valid lab ael ms → ∃ p ∈ ms, (∃ i t dx, op = .base (.insertPair i t false dx) (Pt.scale D p.1.bot)) ∨
      ∃ j, op = .base (.intersect j) (Pt.scale D p.2.bot) := by
  intro ms
  induction ms with
  | nil => intro ael op h; cases h
  | cons p ms ih =>
    intro ael op h
    rcases List.mem_append.1 h with h | h
    · refine ⟨p, List.mem_cons_self, ?_⟩
      unfold minEventsP at h
      split at h
      · rcases List.mem_cons.1 h with rfl | h
        · exact Or.inl ⟨_, _, _, rfl⟩
        · obtain ⟨j, _, rfl⟩ := List.mem_map.1 h
          exact Or.inr ⟨_, rfl⟩
      · cases h
    · obtain ⟨q, hq, h'⟩ := ih _ op h
      exact ⟨q, List.mem_cons_of_mem _ hq, h'⟩

theorem heights_insEventsP (D : Int) (valid : GEdge → GEdge → Bool) (lab : Lab) (y : Int) (ms : List (GEdge × GEdge)) (ael : List GEdge)
    (hm : ∀ p ∈ ms, p.1.bot = p.2.bot ∧ p.1.bot.y = y) : ∀ op ∈ insEventsP D valid lab ael ms, op.pt.y = D * y := by
  intro op h
  obtain ⟨p, hp, ⟨_, _, _, rfl⟩ | ⟨_, rfl⟩⟩ := mem_insEventsP D valid lab ms ael op h
  · exact congrArg (D * ·) (hm p hp).2
  · exact congrArg (D * ·) ((hm p hp).1 ▸ (hm p hp).2)

/-- two edges that cross strictly inside the scanbeam: their exact crossing point lies on both closed segments -/
theorem crosses_onQ {y0 y1 : Int} (hy : y1 < y0) {a b : GEdge} (hc : Crosses y0 y1 a b)
    (ha : a.top.y ≤ y1 ∧ y0 ≤ a.bot.y) (hb : b.top.y ≤ y1 ∧ y0 ≤ b.bot.y) :
    0 < (crossQ a b).d ∧ OnQ a (crossQ a b) ∧ OnQ b (crossQ a b) ∧
      (crossQ a b).d * y1 < (crossQ a b).yn ∧ (crossQ a b).yn ≤ (crossQ a b).d * y0 := by
  obtain ⟨h0, h1⟩ := hc
  have d0 : 0 ≤ delta y0 a b := by
    rcases (ltAbove_iff y0 a b).1 h0 with h | ⟨h, _⟩ <;> omega
  have d1 : delta y1 a b < 0 := (xgt_iff_delta y1 a b).1 h1
  exact crossQ_on a b y0 y1 hy d0 d1 ha hb

/-- … for every exchange of the schedule of a scanbeam -/
theorem sched_crossQ {y0 y1 : Int} (hy : y1 < y0) {evs : List (Nat × GEdge × GEdge)} {cur T : List GEdge}
    (h : SchedOK (Crosses y0 y1) cur evs T) (hal : ∀ e ∈ cur, e.top.y ≤ y1 ∧ y0 ≤ e.bot.y) (c : Nat × GEdge × GEdge) (hc : c ∈ evs) :
    0 < (crossQ c.2.1 c.2.2).d ∧ OnQ c.2.1 (crossQ c.2.1 c.2.2) ∧ OnQ c.2.2 (crossQ c.2.1 c.2.2) ∧
      (crossQ c.2.1 c.2.2).d * y1 < (crossQ c.2.1 c.2.2).yn ∧ (crossQ c.2.1 c.2.2).yn ≤ (crossQ c.2.1 c.2.2).d * y0 := by
  obtain ⟨h3, ha, hb⟩ := sched_forall evs cur T h hal c hc
  exact crosses_onQ hy h3 ha hb

theorem gRun_of_sched (D : Int) (E : GEdge → Prop) {P : GEdge → GEdge → Prop} (pt : Nat × GEdge × GEdge → Pt) :
    ∀ (evs : List (Nat × GEdge × GEdge)) (cur T : List GEdge), SchedOK P cur evs T →
      (∀ c ∈ evs, OnE D c.2.1 (pt c) ∧ OnE D c.2.2 (pt c)) → GRun D E cur (evs.map (fun c => .base (.intersect c.1) (pt c))) T := by
  intro evs
  induction evs with
  | nil => intro cur T h _; exact h
  | cons c rest ih =>
    intro cur T h hon
    obtain ⟨pre, post, h1, h2, _, h4⟩ := h
    exact ⟨_, ⟨pre, post, c.2.1, c.2.2, h1, h2, rfl, hon c (by simp)⟩, ih _ T h4 (fun c' hc' => hon c' (by simp [hc']))⟩

theorem gRun_sched (D : Int) (hD : 0 < D) (E : GEdge → Prop) (y0 y1 : Int) (hy : y1 < y0) :
    ∀ (evs : List (Nat × GEdge × GEdge)) (cur T : List GEdge), SchedOK (Crosses y0 y1) cur evs T →
      (∀ e ∈ cur, e.top.y ≤ y1 ∧ y0 ≤ e.bot.y) → (∀ c ∈ evs, (crossQ c.2.1 c.2.2).d ∣ D) →
      GRun D E cur (evs.map (fun c => .base (.intersect c.1) ((crossQ c.2.1 c.2.2).toPt D))) T := by
  intro evs cur T h hal hdv
  refine gRun_of_sched D E _ evs cur T h (fun c hc => ?_)
  obtain ⟨dpos, qa, qb, _⟩ := sched_crossQ hy h hal c hc
  exact ⟨onE_of_onQ D _ _ dpos hD (hdv c hc) qa, onE_of_onQ D _ _ dpos hD (hdv c hc) qb⟩

/-- the heights of the intersection events of a scanbeam lie in `(D·y1, D·y0]` -/
theorem sched_heights (D : Int) (hD : 0 < D) (y0 y1 : Int) (hy : y1 < y0) (evs : List (Nat × GEdge × GEdge)) (cur T : List GEdge)
    (h : SchedOK (Crosses y0 y1) cur evs T) (hal : ∀ e ∈ cur, e.top.y ≤ y1 ∧ y0 ≤ e.bot.y)
    (hdv : ∀ c ∈ evs, (crossQ c.2.1 c.2.2).d ∣ D) :
    ∀ op ∈ evs.map (fun c => ROp.base (.intersect c.1) ((crossQ c.2.1 c.2.2).toPt D)), D * y1 < op.pt.y ∧ op.pt.y ≤ D * y0 := by
  intro op ho
  obtain ⟨c, hc, rfl⟩ := List.mem_map.1 ho
  obtain ⟨dpos, _, _, lo, hi⟩ := sched_crossQ hy h hal c hc
  have ey := toPt_y D _ dpos (hdv c hc)
  rw [Int.mul_comm] at lo hi
  exact ⟨scaled_lt dpos Int.one_pos hD ey (scaled_int D y1) (by rwa [Int.mul_one]),
    scaled_le dpos Int.one_pos hD ey (scaled_int D y0) (by rwa [Int.mul_one])⟩

/-- the events of `DoTopOfScanbeam` are geometric — the removal of a local maximum, the update of an edge that ends on the scanline, each
with the top vertex — and lie on the scanline -/
theorem gRun_top (D : Int) (edges : List GEdge) (next : GEdge → Option GEdge) (mins : Int → List (GEdge × GEdge)) (y1 : Int) (lab : Lab)
    (hup : AllUp edges) (hnx : NextOK edges next mins) :
    ∀ (rest out : List GEdge) (k : Nat), out.length = k → (∀ e ∈ rest, e ∈ edges) →
      (MaxAdjAux next y1 lab none rest →
        GRun D (· ∈ edges) (out ++ rest) (topEventsAuxP D next y1 false k rest) (out ++ rest.filterMap (topStep next y1)) ∧
          ∀ op ∈ topEventsAuxP D next y1 false k rest, op.pt.y = D * y1) ∧
      (∀ a, a ∈ edges → MaxAdjAux next y1 lab (some a) rest →
        GRun D (· ∈ edges) (out ++ a :: rest) (.base (.removePair k) (Pt.scale D a.top) :: topEventsAuxP D next y1 true k rest)
          (out ++ rest.filterMap (topStep next y1)) ∧
          ∀ op ∈ ROp.base (.removePair k) (Pt.scale D a.top) :: topEventsAuxP D next y1 true k rest, op.pt.y = D * y1) := by
  intro rest
  induction rest with
  | nil =>
    intro out k _ _
    refine ⟨fun _ => by simp [topEventsAuxP, GRun], fun a _ hm => ?_⟩
    simp [MaxAdjAux] at hm
  | cons e rest ih =>
    intro out k hk hmem
    have hmem' : ∀ x ∈ rest, x ∈ edges := fun x hx => hmem x (by simp [hx])
    have hee := hmem e (by simp)
    -- the heights of one more event at the vertex `v` on the scanline
    have hcons : ∀ {v : Pt} {op0 : ROp} {l : List ROp}, op0.pt = Pt.scale D v → v.y = y1 → (∀ op ∈ l, op.pt.y = D * y1) →
        ∀ op ∈ op0 :: l, op.pt.y = D * y1 :=
      fun h0 hv hl op ho => (List.mem_cons.1 ho).elim (fun h => by rw [h, h0]; exact congrArg (D * ·) hv) (hl op)
    constructor
    · intro hm
      by_cases he : isMax next y1 e = true
      · simp only [MaxAdjAux, he, if_true] at hm
        have := (ih out k hk hmem').2 e hee hm
        simp only [topEventsAuxP, he, if_true]
        simpa [List.filterMap_cons, topStep_of_isMax he] using this
      · simp only [MaxAdjAux, he] at hm
        simp only [topEventsAuxP, he, Bool.false_eq_true, if_false]
        obtain ⟨e', s1, s2⟩ := topStep_of_not_isMax he
        by_cases ht : e.top.y = y1
        · simp only [ht, if_true]
          have hn : next e = some e' := by
            rcases s2 with rfl | h
            · simp [topStep, ht] at s1; exact s1
            · exact h
          obtain ⟨he'e, hbot, _⟩ := hnx e hee e' hn
          have := (ih (out ++ [e']) (k + 1) (by simp [hk]) hmem').1 hm
          exact ⟨⟨out ++ e' :: rest, ⟨out, rest, e, e', rfl, hk, rfl, he'e, hup e hee, hup e' he'e, hbot, rfl⟩,
            by simpa [List.filterMap_cons, s1] using this.1⟩, hcons rfl ht this.2⟩
        · simp only [ht, if_false]
          have he' : e' = e := by
            simp [topStep, ht] at s1; exact s1.symm
          have := (ih (out ++ [e]) (k + 1) (by simp [hk]) hmem').1 hm
          simpa [List.filterMap_cons, s1, he'] using this
    · intro a hae hm
      simp only [MaxAdjAux] at hm
      obtain ⟨he, htop, _, _, hm'⟩ := hm
      have := (ih out k hk hmem').1 hm'
      exact ⟨⟨out ++ rest, ⟨out, rest, a, e, rfl, hk, rfl, hup a hae, hup e hee, htop, rfl⟩,
        by simpa [topEventsAuxP, List.filterMap_cons, topStep_of_isMax he] using this.1⟩,
        hcons rfl (htop ▸ (isMax_iff.1 he).1) (by simpa [topEventsAuxP] using this.2)⟩

/-- in general position the settling loop of the right bound does nothing: the two bounds of a local minimum go in side by side -/
theorem insertBound_shape (valid : GEdge → GEdge → Bool) (y : Int) (ael : List GEdge) (lb rb : GEdge)
    (hs : ael.Pairwise (ltU y)) (ul : lb.Up) (ur : rb.Up) (hxe : xeq y lb rb)
    (hagL : ∀ r ∈ ael, (valid r lb = true ↔ ltU y r lb) ∧ (¬ ltU y r lb → ltU y lb r))
    (hagR : ∀ r ∈ ael, (valid r rb = true ↔ ltU y r rb))
    (hfar : ∀ r ∈ ael, r.Up ∧ far y r lb ∧ far y r rb) :
    ∃ i, insertLeftPos valid (fun _ => false) ael lb = some i ∧ i ≤ ael.length ∧
      bubbleCount valid rb ((insertLeft valid (fun _ => false) ael lb).drop (i + 1)) = 0 ∧
      insertBound valid ael (lb, rb) = ael.take i ++ lb :: rb :: ael.drop i := by
  obtain ⟨l₁, l₂, hl, hval, _, hgt, _, _, hpos, hlen⟩ :=
    Clipper.Props.C01Order.insertLeft_sorted valid (fun _ => false) (ltU y) ael lb (ltU_trans y) hs
      (fun r hr => (hagL r hr).1) (fun r hr => (hagL r hr).2)
      (fun _ _ _ _ _ hj _ => by cases hj) (fun _ _ => rfl)
  have hdrop : (insertLeft valid (fun _ => false) ael lb).drop (ael.countP (fun r => valid r lb) + 1) = l₂ := by
    rw [hval, ← hlen]; simp
  have htake : (insertLeft valid (fun _ => false) ael lb).take (ael.countP (fun r => valid r lb) + 1) = l₁ ++ [lb] := by
    rw [hval, ← hlen, show l₁ ++ lb :: l₂ = (l₁ ++ [lb]) ++ l₂ by simp, List.take_left' (by simp)]
  -- the edge right of the gap is further than 1 from both bounds, hence right of both: the right bound stays next to the left one
  have hnv : ∀ nxt ∈ l₂, valid nxt rb = false := by
    intro nxt hn2
    have hn : nxt ∈ ael := by rw [hl]; simp [hn2]
    obtain ⟨un, f1, f2⟩ := hfar nxt hn
    have h1 : xlt y lb nxt := (ltAbove_iff_xlt_of_far ul un (far_symm f1)).1 (hgt nxt hn2).2.2
    have h2 : xlt y rb nxt := by
      rcases xlt_or_of_far un ur f2 with h | h
      · exfalso
        have := xlt_trans ul un ur h1 h
        unfold xlt at this; unfold xeq at hxe; omega
      · exact h
    cases hv : valid nxt rb with
    | false => rfl
    | true => exact absurd ((hagR nxt hn).1 hv).2.2 (ltAbove_asymm (Or.inl h2))
  have hbc : bubbleCount valid rb l₂ = 0 ∧ bubble valid rb l₂ = rb :: l₂ := by
    cases l₂ with
    | nil => exact ⟨rfl, rfl⟩
    | cons nxt rest => simp [bubbleCount, bubble, hnv nxt (by simp)]
  refine ⟨ael.countP (fun r => valid r lb), hpos, by rw [← hlen, hl]; simp, by rw [hdrop]; exact hbc.1, ?_⟩
  simp only [insertBound, hpos, insertRight, hdrop, htake, hbc.2]
  rw [← hlen, hl]; simp

/-- **`InsertLocalMinimaIntoAEL(y)`, decorated, is geometric** (hypotheses of `insertMins_sorted`) -/
theorem gRun_ins (D : Int) (edges : List GEdge) (valid : GEdge → GEdge → Bool) (y : Int) (lab : Lab) (hup : AllUp edges)
    (hv : ValidOK edges valid y) :
    ∀ (ms : List (GEdge × GEdge)) (ael : List GEdge),
      (∀ p ∈ ms, p.1 ∈ edges ∧ p.2 ∈ edges ∧ p.1.bot = p.2.bot ∧ p.1.bot.y = y ∧ slt p.1 p.2) → (boundsOf ms).Nodup →
      GPmin edges ms y →
      ael.Pairwise (ltU y) → (∀ e ∈ ael, e ∈ edges ∧ AliveAbove y e) → (∀ e ∈ ael, e ∉ boundsOf ms) →
      GRun D (· ∈ edges) ael (insEventsP D valid lab ael ms) (insertMins valid ael ms) := by
  intro ms
  induction ms with
  | nil => intro ael _ _ _ _ _ _; simp [insEventsP, insertMins, GRun]
  | cons p rest ih =>
    intro ael hm hnd hgp hs hmem hfresh
    obtain ⟨h1e, h2e, hbot, hby, hsl⟩ := hm p (by simp)
    have u1 := hup _ h1e
    have u2 := hup _ h2e
    have al1 : AliveAbove y p.1 := by unfold AliveAbove; unfold SEdge.Up at u1; omega
    have al2 : AliveAbove y p.2 := by unfold AliveAbove; unfold SEdge.Up at u2; rw [hbot] at hby; omega
    rw [boundsOf_cons] at hnd hfresh
    have hfar : ∀ r ∈ ael, r.Up ∧ far y r p.1 ∧ far y r p.2 := by
      intro r hr
      obtain ⟨hre, hra⟩ := hmem r hr
      have hr1 : r ≠ p.1 := fun h => hfresh r hr (by simp [h])
      have hr2 : r ≠ p.2 := fun h => hfresh r hr (by simp [h])
      obtain ⟨f1, f2⟩ := hgp p (by simp) r hre hra hr1 hr2
      exact ⟨hup _ hre, f1, f2⟩
    have hag : ∀ n, (n = p.1 ∨ n = p.2) → ∀ r ∈ ael,
        (valid r n = true ↔ ltU y r n) ∧ (¬ ltU y r n → ltU y n r) := by
      intro n hn r hr
      obtain ⟨hre, hra⟩ := hmem r hr
      obtain ⟨ur, f1, f2⟩ := hfar r hr
      have hne : n ∈ edges ∧ n.Up ∧ AliveAbove y n ∧ n.bot.y = y ∧ far y r n := by
        rcases hn with rfl | rfl
        · exact ⟨h1e, u1, al1, hby, f1⟩
        · exact ⟨h2e, u2, al2, by rw [← hbot]; exact hby, f2⟩
      obtain ⟨hne, un, aln, hny, hf⟩ := hne
      have hvv := hv r hre n hne hra aln hny hf
      constructor
      · rw [hvv]
        exact ⟨fun h => ltU_of_xlt ur un h, fun h => (ltAbove_iff_xlt_of_far ur un hf).1 h.2.2⟩
      · intro hnot
        rcases xlt_or_of_far ur un hf with h | h
        · exact absurd (ltU_of_xlt ur un h) hnot
        · exact ltU_of_xlt un ur h
    have hxe : xeq y p.1 p.2 := xeq_of_same_bot hbot hby
    have hlr : ltU y p.1 p.2 := ⟨u1, u2, Or.inr ⟨hxe, hsl⟩⟩
    obtain ⟨i, hpos, hi, hbc, hshape⟩ := insertBound_shape valid y ael p.1 p.2 hs u1 u2 hxe (hag p.1 (Or.inl rfl))
      (fun r hr => (hag p.2 (Or.inr rfl) r hr).1) hfar
    obtain ⟨hpw, hperm⟩ := insertBound_sorted valid y ael p.1 p.2 hs hlr (hag p.1 (Or.inl rfl)) (hag p.2 (Or.inr rfl))
    have hmem' : ∀ e, e ∈ insertBound valid ael p ↔ e = p.2 ∨ e = p.1 ∨ e ∈ ael := by
      intro e; rw [show p = (p.1, p.2) from rfl, hperm.mem_iff]; simp
    have hnd' := hnd
    rw [List.nodup_cons, List.nodup_cons] at hnd'
    obtain ⟨hn1, hn2, hndr⟩ := hnd'
    have hrest := ih (insertBound valid ael p) (fun q hq => hm q (by simp [hq])) hndr
      (fun q hq => hgp q (by simp [hq])) hpw
      (by
        intro e he
        rcases (hmem' e).1 he with rfl | rfl | he
        · exact ⟨h2e, al2⟩
        · exact ⟨h1e, al1⟩
        · exact hmem e he)
      (by
        intro e he
        rcases (hmem' e).1 he with rfl | rfl | he
        · exact hn2
        · exact fun h => hn1 (by simp [h])
        · exact fun h => hfresh e he (by simp [h]))
    have hev : minEventsP D valid lab ael p = [.base (.insertPair i (lab p.1).1 false (lab p.1).2) (Pt.scale D p.1.bot)] := by
      simp only [minEventsP, hpos, hbc, List.range_zero, List.map_nil]
    simp only [insEventsP, hev, insertMins, List.foldl_cons, List.singleton_append]
    exact ⟨insertBound valid ael p, ⟨ael.take i, ael.drop i, p.1, p.2, (List.take_append_drop i ael).symm,
      by rw [List.length_take]; omega, hshape, h1e, h2e, u1, u2, hbot.symm, rfl⟩, hrest⟩

theorem yChain_mono : ∀ (ops : List ROp) (m lo : Int), YChain m ops → m ≤ lo → YChain lo ops := by
  intro ops
  cases ops with
  | nil => intro _ _ _ _; trivial
  | cons op t => intro m lo h hle; exact ⟨Int.le_trans h.1 hle, h.2⟩

theorem yChain_le : ∀ (ops : List ROp) (lo : Int), YChain lo ops → ∀ op ∈ ops, op.pt.y ≤ lo := by
  intro ops
  induction ops with
  | nil => intro _ _ op ho; cases ho
  | cons o ops ih =>
    intro lo h op ho
    rcases List.mem_cons.1 ho with rfl | ho
    · exact h.1
    · exact Int.le_trans (ih _ h.2 op ho) h.1

theorem yChain_append : ∀ (a b : List ROp) (lo m : Int), YChain lo a → YChain m b → (∀ op ∈ a, m ≤ op.pt.y) → m ≤ lo → YChain lo (a ++ b) := by
  intro a
  induction a with
  | nil => intro b lo m _ hb _ hle; exact yChain_mono b m lo hb hle
  | cons op a ih =>
    intro b lo m ha hb hall hle
    exact ⟨ha.1, ih b op.pt.y m ha.2 hb (fun o ho => hall o (by simp [ho])) (hall op (by simp))⟩

theorem yChain_const : ∀ (ops : List ROp) (c : Int), (∀ op ∈ ops, op.pt.y = c) → YChain c ops := by
  intro ops
  induction ops with
  | nil => intro _ _; trivial
  | cons op t ih =>
    intro c h
    have e := h op (by simp)
    exact ⟨by omega, by rw [e]; exact ih c (fun o ho => h o (by simp [ho]))⟩

theorem yChain_of_heights (D : Int) (hD : 0 < D) : ∀ (evs : List (Nat × GEdge × GEdge)) (hn hd lo : Int), 0 < hd → lo * hd = hn * D →
    HeightsSorted hn hd evs → (∀ c ∈ evs, (crossQ c.2.1 c.2.2).d ∣ D) →
    YChain lo (evs.map (fun c => .base (.intersect c.1) ((crossQ c.2.1 c.2.2).toPt D))) := by
  intro evs
  induction evs with
  | nil => intro _ _ _ _ _ _ _; trivial
  | cons c rest ih =>
    intro hn hd lo hd0 hlo hs hdv
    obtain ⟨dpos, hle, hrest⟩ := hs
    have ey := toPt_y D (crossQ c.2.1 c.2.2) dpos (hdv c (by simp))
    exact ⟨scaled_le dpos hd0 hD ey hlo hle, ih _ _ _ dpos ey hrest (fun c' hc' => hdv c' (by simp [hc']))⟩

/-- the insertion order just above `y0` is the (non-strict) left-to-right order on the scanline `y0` -/
theorem leAt_of_ltAbove (y0 : Int) {a b : GEdge} (h : ltAbove y0 a b) : leAt y0 1 a b = true := by
  rw [leAt_iff_g a b y0 1 (by omega)]
  have e := delta_at a b y0
  unfold gAt
  rcases (ltAbove_iff y0 a b).1 h with h' | ⟨h', _⟩ <;> omega

theorem ySorted_of_yChain : ∀ (ops : List ROp) (lo : Int), YChain lo ops → ySorted ops = true := by
  intro ops
  induction ops with
  | nil => intro _ _; rfl
  | cons a t ih =>
    intro lo h
    cases t with
    | nil => rfl
    | cons b t' =>
      have e1 : opPt a = a.pt := by cases a <;> rfl
      have e2 : opPt b = b.pt := by cases b <;> rfl
      simp only [ySorted, Bool.and_eq_true, decide_eq_true_eq]
      exact ⟨by rw [e1, e2]; exact h.2.1, ih a.pt.y h.2⟩

end Clipper.Lemmas.C01Output

/- An axis-parallel edge in its own coordinates, across and along, so that both orientations are treated at once: the
cross products `GetSegmentIntersection` (clipper.rectclip.cpp) forms against such an edge and its end-point-or-span test
on the line of the edge.  First use: a point the routine finds on a rectangle edge without computing an intersection lies
in the rectangle.  Core Lean only. -/
import ClipperVerif.Lemmas.RectClip
import ClipperVerif.Lemmas.WindSpec

namespace Clipper.Lemmas.RLG
open Clipper Clipper.Model.RC Clipper.Lemmas.RC
open Clipper.WindSpec (sign_mul sign_mul_neg mul_eq_zero_iff_right)

theorem onSpan_y {q a b : Pt} (h : a.y ≠ b.y) : onSpan q a b = between q.y a.y b.y := by
  unfold onSpan; rw [if_neg h]

theorem onSpan_x {q a b : Pt} (h : a.y = b.y) : onSpan q a b = between q.x a.x b.x := by
  unfold onSpan; rw [if_pos h]

theorem between_iff (q lo hi : Int) : between q lo hi = true ↔ ((lo < q ∧ q < hi) ∨ (q ≤ lo ∧ hi ≤ q)) := by
  unfold between
  by_cases h1 : q > lo <;> by_cases h2 : q < hi <;> simp [h1, h2] <;> omega

/-- `y` lies between `x` and `z`, whichever of the two is the larger -/
def _root_.Clipper.Lemmas.RCG.Btw (x y z : Int) : Prop := (x ≤ y ∧ y ≤ z) ∨ (z ≤ y ∧ y ≤ x)

open Clipper.Lemmas.RCG (Btw)

/-- An axis-parallel edge is given by its orientation `h` (`true`: horizontal), its coordinate `c` across and the
coordinates `l1`, `l2` of its two ends along its direction: `ept h c l` is the point with coordinates `c` across and
`l` along, `ac h` and `al h` read them off. -/
def ept : Bool → Int → Int → Pt
  | false, c, l => ⟨c, l⟩
  | true, c, l => ⟨l, c⟩

def ac : Bool → Pt → Int
  | false, a => a.x
  | true, a => a.y

def al : Bool → Pt → Int
  | false, a => a.y
  | true, a => a.x

/-- the orientation of the frame `(ac h, al h)` -/
def sg : Bool → Int
  | false => 1
  | true => -1

theorem ept_eta (h : Bool) (a : Pt) : ept h (ac h a) (al h a) = a := by cases h <;> rfl
theorem ac_ept (h : Bool) (c l : Int) : ac h (ept h c l) = c := by cases h <;> rfl
theorem al_ept (h : Bool) (c l : Int) : al h (ept h c l) = l := by cases h <;> rfl

theorem crossZ_edge (h : Bool) (p : Pt) (c l1 l2 : Int) :
    crossZ p (ept h c l1) (ept h c l2) = sg h * (l2 - l1) * (c - ac h p) := by
  cases h <;> simp only [crossZ, ept, ac, sg] <;> grind

theorem crossZ_corner (h : Bool) (c l : Int) (p q : Pt) :
    crossZ (ept h c l) p q = -sg h * ((c - ac h p) * (al h q - al h p) - (l - al h p) * (ac h q - ac h p)) := by
  cases h <;> simp only [crossZ, ept, ac, al, sg] <;> grind

theorem crossZ_cycle (a b c : Pt) : crossZ a b c = crossZ c a b := by simp only [crossZ]; grind

/-- two numbers scaled by the same non-zero factor: the zero tests and the test for strictly opposite signs are those
of the numbers themselves -/
theorem scaled_signs {k x y : Int} (hk : k ≠ 0) :
    (k * x = 0 ↔ x = 0) ∧ (k * y = 0 ↔ y = 0) ∧
      ((k * x ≠ 0 ∧ k * y ≠ 0 ∧ (k * x > 0 ↔ ¬ k * y > 0)) ↔ (x ≠ 0 ∧ y ≠ 0 ∧ (x > 0 ↔ ¬ y > 0))) := by
  have a1 := mul_eq_zero_iff_right (e := x) hk
  have b1 := mul_eq_zero_iff_right (e := y) hk
  rcases Int.lt_or_gt_of_ne hk with hk | hk
  · have a2 : 0 < k * x ↔ x < 0 := (sign_mul_neg hk).1
    have b2 : 0 < k * y ↔ y < 0 := (sign_mul_neg hk).1
    simp only [gt_iff_lt, ne_eq, a1, a2, b1, b2, true_and]
    omega
  · have a2 : 0 < k * x ↔ 0 < x := (sign_mul hk).1
    have b2 : 0 < k * y ↔ 0 < y := (sign_mul hk).1
    simp only [gt_iff_lt, ne_eq, a1, a2, b1, b2, true_and]

/-- a point on the line of an edge lies on the closed edge iff `GetSegmentIntersection`'s tests say so -/
theorem touches_edge (h : Bool) (a : Pt) (c l1 l2 : Int) (hc : c - ac h a = 0) (hl : l1 ≠ l2) :
    Touches a (ept h c l1) (ept h c l2) ↔ Btw l1 (al h a) l2 := by
  have e : onSpan a (ept h c l1) (ept h c l2) = between (al h a) l1 l2 := by
    cases h
    · exact onSpan_y hl
    · exact onSpan_x rfl
  have ea : ∀ l, a = ept h c l ↔ al h a = l := fun l => by
    cases h <;> cases a <;> simp only [ept, ac, al, Pt.mk.injEq] at * <;> omega
  unfold Touches Btw
  rw [e, between_iff, ea, ea]
  omega

/-- `c` lies strictly between `0` and `d` -/
abbrev Across (c d : Int) : Prop := (0 < c ∧ c < d) ∨ (d < c ∧ c < 0)

/-- `u * e = a * d` with `u` strictly between `0` and `d`: `a` lies between `0` and `e` in the same way -/
theorem along_of_across {u d a e : Int} (hs : Across u d) (hl : u * e = a * d) :
    (e = 0 → a = 0) ∧ (e ≠ 0 → Across a e) := by
  have pos : ∀ {u d a e : Int}, 0 < u → u < d → 0 < e → u * e = a * d → 0 < a ∧ a < e := by
    intro u d a e h1 h2 he hl
    have f1 := Int.mul_pos h1 he
    have ha : 0 < a := Int.pos_of_mul_pos_left (by omega) (by omega : 0 < d)
    refine ⟨ha, Int.not_le.mp fun hc => ?_⟩
    have f2 := Int.mul_le_mul_of_nonneg_right hc (by omega : 0 ≤ d)
    have f3 := Int.mul_lt_mul_of_pos_right h2 he
    have f4 := Int.mul_comm d e
    omega
  refine ⟨fun he => ?_, fun he => ?_⟩
  · rw [he, Int.mul_zero] at hl
    rcases Int.mul_eq_zero.mp hl.symm with h | h <;> omega
  -- the four sign patterns of `u` and `e` are mirror images of one
  rcases hs with ⟨h1, h2⟩ | ⟨h1, h2⟩ <;> rcases Int.lt_or_gt_of_ne he with he | he
  · have := pos (a := -a) (e := -e) h1 h2 (by omega) (by rw [Int.mul_neg, Int.neg_mul, hl])
    omega
  · exact Or.inl (pos h1 h2 he hl)
  · have := pos (u := -u) (d := -d) (a := -a) (e := -e) (by omega) (by omega) (by omega)
      (by rw [Int.neg_mul, Int.mul_neg, Int.neg_mul, Int.mul_neg, hl])
    omega
  · exact Or.inl (pos (u := -u) (d := -d) (by omega) (by omega) he (by rw [Int.neg_mul, Int.mul_neg, hl]))

/-- every edge `GetIntersection` tries is axis-parallel, and a point on it lies on the boundary -/
theorem isEdge_ept {r : Rect} (hw : r.left < r.right) (hh : r.top < r.bottom) {a b : Pt} (he : IsEdge r a b) :
    ∃ h c l1 l2, l1 ≠ l2 ∧ a = ept h c l1 ∧ b = ept h c l2 ∧ ∀ x, ac h x = c → Btw l1 (al h x) l2 → OnBoundary r x := by
  have bt : ∀ {lo hi x : Int}, lo < hi → Btw lo x hi ∨ Btw hi x lo → lo ≤ x ∧ x ≤ hi := by
    intro lo hi x h hb; unfold Btw at hb; omega
  rcases he with ⟨rfl, rfl⟩ | ⟨rfl, rfl⟩ | ⟨rfl, rfl⟩ | ⟨rfl, rfl⟩
  · exact ⟨false, r.left, r.top, r.bottom, by omega, rfl, rfl, fun x h1 h2 => Or.inl ⟨Or.inl h1, bt hh (Or.inl h2)⟩⟩
  · exact ⟨true, r.top, r.left, r.right, by omega, rfl, rfl, fun x h1 h2 => Or.inr ⟨Or.inl h1, bt hw (Or.inl h2)⟩⟩
  · exact ⟨false, r.right, r.top, r.bottom, by omega, rfl, rfl, fun x h1 h2 => Or.inl ⟨Or.inr h1, bt hh (Or.inl h2)⟩⟩
  · exact ⟨true, r.bottom, r.right, r.left, by omega, rfl, rfl, fun x h1 h2 => Or.inr ⟨Or.inr h1, bt hw (Or.inr h2)⟩⟩

end Clipper.Lemmas.RLG

namespace Clipper.Lemmas.RC
open Clipper Clipper.Model.RC Clipper.Lemmas.RCG Clipper.Lemmas.RLG

/-- a point on the line of an edge that passes the end-point-or-span test is in the rectangle -/
theorem touches_edge_inRect {r : Rect} (hne : r.isEmpty = false) {a b q : Pt} (he : IsEdge r a b)
    (hz : crossZ q a b = 0) (ht : Touches q a b) : inRect r q = true := by
  obtain ⟨hw, hh⟩ := nonempty_dims hne
  obtain ⟨h, c, l1, l2, hl, rfl, rfl, hbd⟩ := isEdge_ept hw hh he
  rw [crossZ_edge] at hz
  have hc := (scaled_signs (y := 0) (Int.mul_ne_zero (by cases h <;> decide) (by omega : l2 - l1 ≠ 0))).1.mp hz
  have hb := hbd q (by omega) ((touches_edge h q c l1 l2 hc hl).mp ht)
  rw [inRect_iff]; unfold OnBoundary at hb; omega

theorem segFinds_inR {A : Arith} {r R : Rect} (hne : r.isEmpty = false) (hce : CrossZeroExact A)
    (hi : IsectIn A R) (hsub : Subrect r R) {p1 p2 p3 p4 q : Pt} (he : IsEdge r p3 p4)
    (h : SegFinds A p1 p2 p3 p4 q) : inRect R q = true := by
  have hc := isEdge_mem he
  have hax := isEdge_axis he
  rcases h with ⟨z, _, ht, e⟩ | ⟨_, z, ht, e⟩ | ⟨_, _, _, ⟨_, _, e⟩ | ⟨_, _, _, e⟩ | ⟨_, _, _, e⟩⟩
  · rw [e]; exact inRect_mono hsub (touches_edge_inRect hne he ((hce _ _ _ hax).mp z) ht)
  · rw [e]; exact inRect_mono hsub (touches_edge_inRect hne he ((hce _ _ _ hax).mp z) ht)
  · rw [e]; exact inRect_mono hsub (corner_inRect hne hc.1)
  · rw [e]; exact inRect_mono hsub (corner_inRect hne hc.2)
  · exact hi _ _ _ _ _ e

theorem getIntersection_inR {A : Arith} {r R : Rect} (hne : r.isEmpty = false) (hce : CrossZeroExact A)
    (hi : IsectIn A R) (hsub : Subrect r R) (p p2 : Pt) (loc : Location) (ip : Pt)
    (h : (getIntersection A r p p2 loc ip).1 = true) : inRect R (getIntersection A r p p2 loc ip).2.2 = true := by
  rcases getIntersection_cases A r p p2 loc ip with ⟨hf, _⟩ | ⟨_, _, a, b, he, hs⟩
  · rw [hf] at h; cases h
  · exact segFinds_inR hne hce hi hsub he hs

end Clipper.Lemmas.RC

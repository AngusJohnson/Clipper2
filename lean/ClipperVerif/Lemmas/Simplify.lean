/- SimplifyPath, one iteration of the `for (;;)` loop (helper lemmas for Props/C20.lean): `GetNext`/`GetPrior` find the
neighbours of a vertex among the unflagged indices (`Nbr`: two distinct unflagged indices with every index cyclically
between them flagged) and never run off the flags vector; `simplifyStep_cases` resolves an iteration into the vertex it
flags, that vertex's neighbours, and the two entries of `distSqr` it recomputes. -/
import ClipperVerif.Lemmas.Strip
namespace Clipper.Lemmas.PathUtil
open Clipper Clipper.Model.PathUtil

variable {D : Type}

theorem flagAt_set (flags : List Bool) (c j : Nat) (hc : c < flags.length) :
    flagAt (flags.set c true) j = if c = j then true else flagAt flags j := by
  unfold flagAt
  rw [List.getD_eq_getElem?_getD, List.getD_eq_getElem?_getD, List.getElem?_set]
  split <;> rfl

theorem flagAt_false_lt (flags : List Bool) (j : Nat) (h : flagAt flags j = false) : j < flags.length := by
  unfold flagAt at h
  rw [List.getD_eq_getElem?_getD] at h
  cases hj : flags[j]? with
  | none => rw [hj] at h; cases h
  | some b => exact (List.getElem?_eq_some_iff.mp hj).1

theorem flagAt_false_iff (flags : List Bool) (j : Nat) : flagAt flags j = false ↔ flags[j]? = some false := by
  unfold flagAt
  rw [List.getD_eq_getElem?_getD]
  cases flags[j]? with
  | none => exact ⟨nofun, nofun⟩
  | some b => exact ⟨fun h => congrArg some h, fun h => Option.some.inj h⟩

theorem flagAt_replicate (n j : Nat) (hj : j < n) : flagAt (List.replicate n false) j = false := by
  rw [flagAt_false_iff, List.getElem?_replicate, if_pos hj]

theorem count_set_true (flags : List Bool) (c : Nat) (h : flagAt flags c = false) :
    (flags.set c true).count false + 1 = flags.count false := by
  have hc := flagAt_false_lt flags c h
  have hv : flags[c] = false := by
    rw [flagAt_false_iff, List.getElem?_eq_getElem hc] at h; exact Option.some.inj h
  have : 0 < flags.count false := List.count_pos_iff.mpr (hv ▸ List.getElem_mem hc)
  rw [List.count_set hc, hv]
  simp; omega

theorem distAt_set_ne (ops : DistOps D) (dist : List D) (c j : Nat) (v : D) (h : c ≠ j) :
    distAt ops (dist.set c v) j = distAt ops dist j := by
  unfold distAt
  rw [List.getD_eq_getElem?_getD, List.getD_eq_getElem?_getD, List.getElem?_set_ne h]

theorem distAt_set_eq (ops : DistOps D) (dist : List D) (i : Nat) (v : D) (h : i < dist.length) :
    distAt ops (dist.set i v) i = v := by
  unfold distAt
  rw [List.getD_eq_getElem?_getD, List.getElem?_set, if_pos rfl, if_pos h]; rfl

theorem firstUp_some (flags : List Bool) (i high n : Nat) (h : firstUp flags i high = some n) :
    i ≤ n ∧ n ≤ high ∧ flagAt flags n = false ∧ ∀ j, i ≤ j → j < n → flagAt flags j = true := by
  unfold firstUp at h
  rw [List.find?_range'_eq_some] at h
  obtain ⟨h1, h2, h3⟩ := h
  rw [List.mem_range'_1] at h2
  exact ⟨h2.1, by omega, by simpa using h1, fun j hj1 hj2 => by simpa using h3 j hj1 hj2⟩

theorem firstUp_none (flags : List Bool) (i high : Nat) (h : firstUp flags i high = none) :
    ∀ j, i ≤ j → j ≤ high → flagAt flags j = true := by
  unfold firstUp at h
  rw [List.find?_range'_eq_none] at h
  intro j h1 h2
  simpa using h j h1 (by omega)

theorem firstDown_succ (flags : List Bool) (i : Nat) :
    firstDown flags (i + 1) = if flagAt flags (i + 1) = false then some (i + 1) else firstDown flags i := by
  unfold firstDown
  rw [List.range_succ, List.reverse_append, List.reverse_singleton, List.singleton_append, List.find?_cons]
  cases h : flagAt flags (i + 1) <;> simp

theorem firstDown_some (flags : List Bool) (i p : Nat) (h : firstDown flags i = some p) :
    p ≤ i ∧ flagAt flags p = false ∧ ∀ j, p < j → j ≤ i → flagAt flags j = true := by
  induction i with
  | zero =>
    unfold firstDown at h
    have h1 := List.find?_some h
    have h2 := List.mem_of_find?_eq_some h
    rw [List.mem_reverse, List.mem_range] at h2
    exact ⟨by omega, by simpa using h1, fun j h1 h2 => by omega⟩
  | succ i ih =>
    rw [firstDown_succ] at h
    split at h
    · cases h; exact ⟨Nat.le_refl _, ‹_›, fun j h1 h2 => by omega⟩
    · rename_i hf
      obtain ⟨h1, h2, h3⟩ := ih h
      refine ⟨by omega, h2, fun j hj1 hj2 => ?_⟩
      by_cases hji : j = i + 1
      · rw [hji]; exact (Bool.not_eq_false _).mp hf
      · exact h3 j hj1 (by omega)

theorem firstDown_none (flags : List Bool) (i : Nat) (h : firstDown flags i = none) :
    ∀ j, j ≤ i → flagAt flags j = true := by
  unfold firstDown at h
  rw [List.find?_eq_none] at h
  intro j hj
  simpa using h j (by rw [List.mem_reverse, List.mem_range]; omega)

theorem getNext_some (cur high : Nat) (flags : List Bool) (n : Nat) (h : getNext cur high flags = some n) :
    n ≤ high ∧ flagAt flags n = false := by
  unfold getNext at h
  split at h
  · rename_i j hj
    cases h
    exact ⟨(firstUp_some _ _ _ _ hj).2.1, (firstUp_some _ _ _ _ hj).2.2.1⟩
  · exact ⟨(firstUp_some _ _ _ _ h).2.1, (firstUp_some _ _ _ _ h).2.2.1⟩

theorem getNext_exists (cur high : Nat) (flags : List Bool) (j : Nat) (hj : j ≤ high)
    (hf : flagAt flags j = false) : ∃ n, getNext cur high flags = some n := by
  unfold getNext
  split
  · exact ⟨_, rfl⟩
  · cases h : firstUp flags 0 high with
    | some n => exact ⟨n, rfl⟩
    | none => rw [firstUp_none _ _ _ h j (Nat.zero_le _) hj] at hf; cases hf

theorem getPrior_some (cur high : Nat) (flags : List Bool) (hc : cur ≤ high) (n : Nat)
    (h : getPrior cur high flags = some n) : n ≤ high ∧ flagAt flags n = false := by
  unfold getPrior at h
  split at h
  · rename_i j hj
    cases h
    have := firstDown_some _ _ _ hj
    refine ⟨?_, this.2.1⟩
    have := this.1
    split at this <;> omega
  · exact ⟨(firstDown_some _ _ _ h).1, (firstDown_some _ _ _ h).2.1⟩

theorem getPrior_exists (cur high : Nat) (flags : List Bool) (j : Nat) (hj : j ≤ high)
    (hf : flagAt flags j = false) : ∃ n, getPrior cur high flags = some n := by
  unfold getPrior
  split
  · exact ⟨_, rfl⟩
  · cases h : firstDown flags high with
    | some n => exact ⟨n, rfl⟩
    | none => rw [firstDown_none _ _ h j hj] at hf; cases hf

/-- `x` lies strictly between `i` and `j` going forward cyclically (`i ≠ j`) -/
def Btw (i j x : Nat) : Prop := if i < j then i < x ∧ x < j else (i < x ∨ x < j)

/-- `i`, `j` are distinct unflagged indices and every index cyclically between them (forward from `i`) is flagged:
`j` is the next remaining vertex after `i` -/
def Nbr (high : Nat) (flags : List Bool) (i j : Nat) : Prop :=
  i ≤ high ∧ j ≤ high ∧ i ≠ j ∧ flagAt flags i = false ∧ flagAt flags j = false ∧
  ∀ x, x ≤ high → Btw i j x → flagAt flags x = true

theorem btw_lt {i j x : Nat} (h : i < j) : Btw i j x ↔ i < x ∧ x < j := by
  unfold Btw; rw [if_pos h]

theorem btw_ge {i j x : Nat} (h : j ≤ i) : Btw i j x ↔ i < x ∨ x < j := by
  unfold Btw; rw [if_neg (Nat.not_lt.mpr h)]

/-- an arc `a → b` through `k` splits into the arcs `a → k` and `k → b`, neither of which contains `k` -/
theorem btw_sub_left {a b k x : Nat} (hk : Btw a b k) (hx : Btw a k x) : Btw a b x ∧ x ≠ k := by
  rcases Nat.lt_or_ge a b with h | h
  · rw [btw_lt h] at hk ⊢
    rw [btw_lt hk.1] at hx
    exact ⟨⟨hx.1, Nat.lt_trans hx.2 hk.2⟩, Nat.ne_of_lt hx.2⟩
  · rw [btw_ge h] at hk ⊢
    rcases Nat.lt_or_ge a k with h1 | h1
    · rw [btw_lt h1] at hx
      exact ⟨Or.inl hx.1, Nat.ne_of_lt hx.2⟩
    · have hkb : k < b := hk.resolve_left (Nat.not_lt.mpr h1)
      rw [btw_ge h1] at hx
      exact hx.elim (fun hx => ⟨Or.inl hx, Nat.ne_of_gt (Nat.lt_of_le_of_lt h1 hx)⟩)
        (fun hx => ⟨Or.inr (Nat.lt_trans hx hkb), Nat.ne_of_lt hx⟩)

theorem btw_sub_right {a b k x : Nat} (hk : Btw a b k) (hx : Btw k b x) : Btw a b x ∧ x ≠ k := by
  rcases Nat.lt_or_ge a b with h | h
  · rw [btw_lt h] at hk ⊢
    rw [btw_lt hk.2] at hx
    exact ⟨⟨Nat.lt_trans hk.1 hx.1, hx.2⟩, Nat.ne_of_gt hx.1⟩
  · rw [btw_ge h] at hk ⊢
    rcases Nat.lt_or_ge k b with h1 | h1
    · rw [btw_lt h1] at hx
      exact ⟨Or.inr hx.2, Nat.ne_of_gt hx.1⟩
    · have hak : a < k := hk.resolve_right (Nat.not_lt.mpr h1)
      rw [btw_ge h1] at hx
      exact hx.elim (fun hx => ⟨Or.inl (Nat.lt_trans hak hx), Nat.ne_of_gt hx⟩)
        (fun hx => ⟨Or.inr hx, Nat.ne_of_lt (Nat.lt_of_lt_of_le hx h1)⟩)

/-- going round the cycle from a given index, one of two different indices comes before the other; the three forms in
which this is used -/
theorem Btw_cases (a b c : Nat) (hbc : b ≠ c) : Btw a b c ∨ Btw a c b := by
  rcases Nat.lt_or_ge a b with h1 | h1 <;> rcases Nat.lt_or_ge a c with h2 | h2
  · rw [btw_lt h1, btw_lt h2]; exact (Nat.lt_or_gt_of_ne hbc).symm.imp (fun h => ⟨h2, h⟩) (fun h => ⟨h1, h⟩)
  · rw [btw_lt h1, btw_ge h2]; exact Or.inr (Or.inl h1)
  · rw [btw_ge h1, btw_lt h2]; exact Or.inl (Or.inl h2)
  · rw [btw_ge h1, btw_ge h2]; exact (Nat.lt_or_gt_of_ne hbc).symm.imp Or.inr Or.inr

theorem Btw_cases' (a a' b : Nat) (haa : a ≠ a') : Btw a b a' ∨ Btw a' b a := by
  rcases Nat.lt_or_ge a b with h1 | h1 <;> rcases Nat.lt_or_ge a' b with h2 | h2
  · rw [btw_lt h1, btw_lt h2]; exact (Nat.lt_or_gt_of_ne haa).imp (fun h => ⟨h, h2⟩) (fun h => ⟨h, h1⟩)
  · rw [btw_lt h1, btw_ge h2]; exact Or.inr (Or.inr h1)
  · rw [btw_ge h1, btw_lt h2]; exact Or.inl (Or.inr h2)
  · rw [btw_ge h1, btw_ge h2]; exact (Nat.lt_or_gt_of_ne haa).imp Or.inl Or.inl

theorem Btw_total (c q x : Nat) (hcq : c ≠ q) (hxc : x ≠ c) (hxq : x ≠ q) : Btw c q x ∨ Btw q c x := by
  rcases Nat.lt_or_gt_of_ne hcq with h | h
  · rw [btw_lt h, btw_ge (Nat.le_of_lt h)]
    rcases Nat.lt_or_gt_of_ne hxc with h1 | h1
    · exact Or.inr (Or.inr h1)
    · exact (Nat.lt_or_gt_of_ne hxq).imp (fun h2 => ⟨h1, h2⟩) Or.inl
  · rw [btw_ge (Nat.le_of_lt h), btw_lt h]
    rcases Nat.lt_or_gt_of_ne hxq with h1 | h1
    · exact Or.inl (Or.inr h1)
    · exact (Nat.lt_or_gt_of_ne hxc).symm.imp Or.inl (fun h2 => ⟨h1, h2⟩)

theorem Nbr.not_btw {high : Nat} {flags : List Bool} {a b x : Nat} (h : Nbr high flags a b) (hx : x ≤ high)
    (hf : flagAt flags x = false) : ¬ Btw a b x := fun hb => by
  rw [h.2.2.2.2.2 x hx hb] at hf; cases hf

theorem Nbr_det_fwd {high : Nat} {flags : List Bool} {a b b' : Nat}
    (h1 : Nbr high flags a b) (h2 : Nbr high flags a b') : b = b' :=
  Decidable.byContradiction fun hbb =>
    (Btw_cases a b b' hbb).elim (h1.not_btw h2.2.1 h2.2.2.2.2.1) (h2.not_btw h1.2.1 h1.2.2.2.2.1)

theorem Nbr_det_bwd {high : Nat} {flags : List Bool} {a a' b : Nat}
    (h1 : Nbr high flags a b) (h2 : Nbr high flags a' b) : a = a' :=
  Decidable.byContradiction fun haa =>
    (Btw_cases' a a' b haa).elim (h1.not_btw h2.1 h2.2.2.2.1) (h2.not_btw h1.1 h1.2.2.2.1)

theorem Nbr.only_two {high : Nat} {flags : List Bool} {a b x : Nat} (h1 : Nbr high flags a b)
    (h2 : Nbr high flags b a) (hx : x ≤ high) (hf : flagAt flags x = false) : x = a ∨ x = b :=
  Decidable.byContradiction fun hn =>
    (Btw_total a b x h1.2.2.1 (fun e => hn (Or.inl e)) (fun e => hn (Or.inr e))).elim
      (h1.not_btw hx hf) (h2.not_btw hx hf)

/-- if `GetNext(curr)` returns `curr` itself, `curr` is the only unflagged index -/
theorem getNext_self (cur high : Nat) (flags : List Bool) (h : getNext cur high flags = some cur) :
    ∀ j, j ≤ high → flagAt flags j = false → j = cur := by
  unfold getNext at h
  intro j hj hf
  split at h
  · rename_i n hn
    cases h
    have := (firstUp_some _ _ _ _ hn).1; omega
  · rename_i hnone
    have h1 := firstUp_none _ _ _ hnone j
    have h2 := (firstUp_some _ _ _ _ h).2.2.2 j (Nat.zero_le _)
    rw [hf] at h1 h2
    by_cases hlt : j < cur
    · cases h2 hlt
    · by_cases hgt : cur < j
      · cases h1 (by omega) hj
      · omega

theorem getNext_nbr (c high : Nat) (flags : List Bool) (n : Nat) (hc : c ≤ high)
    (hcf : flagAt flags c = false) (h : getNext c high flags = some n) (hne : n ≠ c) :
    Nbr high flags c n := by
  unfold getNext at h
  split at h
  · rename_i m hm
    cases h
    obtain ⟨h1, h2, h3, h4⟩ := firstUp_some _ _ _ _ hm
    refine ⟨hc, h2, fun e => hne e.symm, hcf, h3, fun x hx hb => ?_⟩
    rw [btw_lt h1] at hb
    exact h4 x hb.1 hb.2
  · rename_i hnone
    have hn1 := firstUp_none _ _ _ hnone
    obtain ⟨_, h2, h3, h4⟩ := firstUp_some _ _ _ _ h
    -- nothing unflagged above `c`: the search wrapped around
    have hlt : n < c := (Nat.lt_or_gt_of_ne hne).resolve_right fun hgt => by
      rw [hn1 n hgt h2] at h3; cases h3
    refine ⟨hc, h2, fun e => hne e.symm, hcf, h3, fun x hx hb => ?_⟩
    rw [btw_ge (Nat.le_of_lt hlt)] at hb
    exact hb.elim (fun hb => hn1 x hb hx) (h4 x (Nat.zero_le _))

theorem getPrior_nbr (c high : Nat) (flags : List Bool) (p : Nat) (hc : c ≤ high)
    (hcf : flagAt flags c = false) (h : getPrior c high flags = some p) (hne : p ≠ c) :
    Nbr high flags p c := by
  have hs := getPrior_some _ _ _ hc _ h
  unfold getPrior at h
  split at h
  · rename_i m hm
    cases h
    obtain ⟨h1, h2, h3⟩ := firstDown_some _ _ _ hm
    refine ⟨hs.1, hc, hne, h2, hcf, fun x hx hb => ?_⟩
    by_cases hc0 : c = 0
    · rw [if_pos hc0] at h3
      rw [hc0, btw_ge (Nat.zero_le _)] at hb
      exact h3 x (hb.resolve_right (Nat.not_lt_zero _)) hx
    · rw [if_neg hc0] at h1 h3
      rw [btw_lt (Nat.lt_of_le_of_lt h1 (Nat.sub_one_lt hc0))] at hb
      exact h3 x hb.1 (Nat.le_sub_one_of_lt hb.2)
  · rename_i hnone
    have hn1 := firstDown_none _ _ hnone
    obtain ⟨h1, h2, h3⟩ := firstDown_some _ _ _ h
    by_cases hc0 : c = 0
    · rw [if_pos hc0] at hn1
      rw [hn1 p h1] at h2; cases h2
    · rw [if_neg hc0] at hn1
      -- nothing unflagged below `c`: the search wrapped around
      have hgt : c < p := (Nat.lt_or_gt_of_ne hne).resolve_left fun hlt => by
        rw [hn1 p (Nat.le_sub_one_of_lt hlt)] at h2; cases h2
      refine ⟨hs.1, hc, hne, h2, hcf, fun x hx hb => ?_⟩
      rw [btw_ge (Nat.le_of_lt hgt)] at hb
      exact hb.elim (fun hb => h3 x hb hx) (fun hb => hn1 x (Nat.le_sub_one_of_lt hb))

/-- if `GetPrior(curr)` returns `curr` itself, `curr` is the only unflagged index -/
theorem getPrior_self (c high : Nat) (flags : List Bool)
    (h : getPrior c high flags = some c) : ∀ j, j ≤ high → flagAt flags j = false → j = c := by
  intro j hj hf
  unfold getPrior at h
  split at h
  · rename_i m hm
    cases h
    obtain ⟨h1, _, h3⟩ := firstDown_some _ _ _ hm
    by_cases hc0 : c = 0
    · rw [if_pos hc0] at h3
      refine Decidable.byContradiction fun hj0 => ?_
      rw [h3 j (hc0 ▸ Nat.pos_of_ne_zero (hc0 ▸ hj0)) hj] at hf; cases hf
    · rw [if_neg hc0] at h1
      exact absurd h1 (Nat.not_le.mpr (Nat.sub_one_lt hc0))
  · rename_i hnone
    have hn1 := firstDown_none _ _ hnone
    obtain ⟨h1, h2, h3⟩ := firstDown_some _ _ _ h
    by_cases hc0 : c = 0
    · rw [if_pos hc0] at hn1
      rw [hn1 c h1] at h2; cases h2
    · rw [if_neg hc0] at hn1
      rcases Nat.lt_trichotomy j c with hlt | heq | hgt
      · rw [hn1 j (Nat.le_sub_one_of_lt hlt)] at hf; cases hf
      · exact heq
      · rw [h3 j hgt hj] at hf; cases hf

theorem nbr_getNext {high : Nat} {flags : List Bool} {c n : Nat} (h : Nbr high flags c n) :
    getNext c high flags = some n := by
  obtain ⟨m, hm⟩ := getNext_exists c high flags n h.2.1 h.2.2.2.2.1
  have hmc : m ≠ c := fun e => h.2.2.1 (getNext_self _ _ _ (e ▸ hm) n h.2.1 h.2.2.2.2.1).symm
  rw [hm, Nbr_det_fwd (getNext_nbr c high flags m h.1 h.2.2.2.1 hm hmc) h]

theorem nbr_getPrior {high : Nat} {flags : List Bool} {p c : Nat} (h : Nbr high flags p c) :
    getPrior c high flags = some p := by
  obtain ⟨m, hm⟩ := getPrior_exists c high flags p h.1 h.2.2.2.1
  have hmc : m ≠ c := fun e => h.2.2.1 (getPrior_self _ _ _ (e ▸ hm) p h.1 h.2.2.2.1)
  rw [hm, Nbr_det_bwd (getPrior_nbr c high flags m h.2.1 h.2.2.2.2.1 hm hmc) h]

/-- neighbourhood after flagging `k`, whose neighbours were `P` and `N` -/
theorem Nbr_after_flag {high : Nat} {flags : List Bool} {k P N a b : Nat} (hk : k < flags.length)
    (hP : Nbr high flags P k) (hN : Nbr high flags k N) (h : Nbr high (flags.set k true) a b) :
    Nbr high flags a b ∨ (a = P ∧ b = N) := by
  obtain ⟨ha, hb, hab, haf, hbf, hall⟩ := h
  rw [flagAt_set _ _ _ hk] at haf hbf
  have hak : k ≠ a := fun e => by rw [if_pos e] at haf; cases haf
  have hbk : k ≠ b := fun e => by rw [if_pos e] at hbf; cases hbf
  rw [if_neg hak] at haf
  rw [if_neg hbk] at hbf
  have hall' : ∀ x, x ≤ high → Btw a b x → x ≠ k → flagAt flags x = true := by
    intro x hx hbt hxk
    have := hall x hx hbt
    rwa [flagAt_set _ _ _ hk, if_neg (fun e => hxk e.symm)] at this
  have hkf := hN.2.2.2.1
  by_cases hbk' : Btw a b k
  · exact Or.inr ⟨Nbr_det_bwd ⟨ha, hN.1, fun e => hak e.symm, haf, hkf, fun x hx hbt =>
        hall' x hx (btw_sub_left hbk' hbt).1 (btw_sub_left hbk' hbt).2⟩ hP,
      Nbr_det_fwd ⟨hN.1, hb, hbk, hkf, hbf, fun x hx hbt =>
        hall' x hx (btw_sub_right hbk' hbt).1 (btw_sub_right hbk' hbt).2⟩ hN⟩
  · exact Or.inl ⟨ha, hb, hab, haf, hbf, fun x hx hbt => hall' x hx hbt (fun e => hbk' (e ▸ hbt))⟩

def SInv (len : Nat) (flags : List Bool) (curr : Nat) : Prop :=
  flags.length = len ∧ curr ≤ len - 1 ∧ flagAt flags curr = false

theorem scan_some (ops : DistOps D) (eps : D) (high : Nat) (flags : List Bool) (dist : List D) (start c : Nat)
    (hs : start ≤ high) (h : scan ops eps high flags dist start = some c) :
    c ≤ high ∧ flagAt flags c = false ∧ ops.le (distAt ops dist c) eps = true := by
  unfold scan at h
  have h1 := List.find?_some h
  have h2 := List.mem_of_find?_eq_some h
  simp only [Bool.and_eq_true, Bool.not_eq_eq_eq_not, Bool.not_true] at h1
  refine ⟨?_, h1.1, h1.2⟩
  rw [List.mem_append, List.mem_range'_1, List.mem_range] at h2
  omega

theorem scan_none (ops : DistOps D) (eps : D) (high : Nat) (flags : List Bool) (dist : List D) (start : Nat)
    (hs : start ≤ high) (h : scan ops eps high flags dist start = none) :
    ∀ j, j ≤ high → j ≠ start → flagAt flags j = false → ops.le (distAt ops dist j) eps = false := by
  unfold scan at h
  rw [List.find?_eq_none] at h
  intro j hj hne hf
  have := h j (by rw [List.mem_append, List.mem_range'_1, List.mem_range]; omega)
  rw [hf] at this
  simpa using this

/-- the two `distSqr` entries an iteration recomputes after flagging a vertex whose neighbours were `P` and `N`
(`p2` the vertex before `P`, `n3` the one after `N`); the end points of an open path keep their `MAX_DBL` -/
def distUpdate (ops : DistOps D) (path : List Pt) (closed : Bool) (high : Nat) (dist : List D)
    (P N p2 n3 : Nat) : List D :=
  let dist := if closed || (N != high && N != 0)
    then dist.set N (ops.dist2 (nth path N) (nth path P) (nth path n3)) else dist
  if closed || (P != 0 && P != high)
    then dist.set P (ops.dist2 (nth path P) (nth path p2) (nth path N)) else dist

/-- One iteration of the loop never faults.  It leaves the loop when the scan for a vertex within epsilon comes back
to its start, or when the vertex `c` it found has the same vertex `q` on both sides (at most two vertices remain).
Otherwise it flags `k` — `c` itself or, if that one is nearer to its line, the vertex after `c` — whose neighbours
`P`, `N` are different vertices, recomputes their `distSqr` and continues from `N`. -/
theorem simplifyStep_cases (ops : DistOps D) (path : List Pt) (eps : D) (closed : Bool)
    (flags : List Bool) (dist : List D) (curr : Nat) (hinv : SInv path.length flags curr) :
    match simplifyStep ops path eps closed (path.length - 1) flags dist curr with
    | .exit =>
        (ops.le (distAt ops dist curr) eps = false ∧ scan ops eps (path.length - 1) flags dist curr = none) ∨
        ∃ c q, c ≤ path.length - 1 ∧ flagAt flags c = false ∧
          getNext c (path.length - 1) flags = some q ∧ getPrior c (path.length - 1) flags = some q
    | .fault => False
    | .cont f' d' c' => ∃ c k P N p2 n3,
        ops.le (distAt ops dist c) eps = true ∧
        (k = c ∨ ops.le (distAt ops dist c) (distAt ops dist k) = false) ∧
        Nbr (path.length - 1) flags P k ∧ Nbr (path.length - 1) flags k N ∧ P ≠ N ∧
        getPrior P (path.length - 1) flags = some p2 ∧
        getNext N (path.length - 1) (flags.set k true) = some n3 ∧
        f' = flags.set k true ∧ c' = N ∧ d' = distUpdate ops path closed (path.length - 1) dist P N p2 n3 := by
  obtain ⟨hlen, hcurr, hcf⟩ := hinv
  unfold simplifyStep
  generalize hc0 : (if (!ops.le (distAt ops dist curr) eps) = true then
      scan ops eps (path.length - 1) flags dist curr else some curr) = c0
  cases c0 with
  | none =>
    split at hc0
    · rename_i hgt
      exact Or.inl ⟨by simpa using hgt, hc0⟩
    · cases hc0
  | some c =>
    have hc : c ≤ path.length - 1 ∧ flagAt flags c = false ∧ ops.le (distAt ops dist c) eps = true := by
      split at hc0
      · exact scan_some ops eps _ flags dist curr c hcurr hc0
      · rename_i hn
        cases hc0
        exact ⟨hcurr, hcf, by simpa using hn⟩
    obtain ⟨hcle, hcfl, hcd⟩ := hc
    obtain ⟨prior, hprior⟩ := getPrior_exists c (path.length - 1) flags c hcle hcfl
    obtain ⟨next, hnext⟩ := getNext_exists c (path.length - 1) flags c hcle hcfl
    simp only [hprior, hnext]
    have hp := getPrior_some _ _ _ hcle _ hprior
    have hn := getNext_some _ _ _ _ hnext
    by_cases hnp : next = prior
    · rw [if_pos hnp]
      exact Or.inr ⟨c, prior, hcle, hcfl, hnp ▸ hnext, hprior⟩
    · rw [if_neg hnp]
      have hnc : next ≠ c := fun he =>
        hnp (by rw [he, getNext_self _ _ _ (he ▸ hnext) prior hp.1 hp.2])
      have hpc : prior ≠ c := fun he =>
        hnc (getPrior_self _ _ _ (he ▸ hprior) next hn.1 hn.2)
      have nbrN : Nbr (path.length - 1) flags c next := getNext_nbr c _ flags next hcle hcfl hnext hnc
      have nbrP : Nbr (path.length - 1) flags prior c := getPrior_nbr c _ flags prior hcle hcfl hprior hpc
      by_cases hsel : (!ops.le (distAt ops dist c) (distAt ops dist next)) = true
      · -- flag `next`
        rw [if_pos hsel]
        obtain ⟨n2, hn2⟩ := getNext_exists next (path.length - 1) flags c hcle hcfl
        have hnlt := flagAt_false_lt flags next hn.2
        have hcf' : flagAt (flags.set next true) c = false := by
          rw [flagAt_set _ _ _ hnlt, if_neg hnc]; exact hcfl
        obtain ⟨n3, hn3⟩ := getNext_exists n2 (path.length - 1) (flags.set next true) c hcle hcf'
        simp only [hn2, Option.map_some, hn3]
        have hn2ne : n2 ≠ next := fun he =>
          hnc (getNext_self _ _ _ (he ▸ hn2) c hcle hcfl).symm
        have nbrN2 : Nbr (path.length - 1) flags next n2 := getNext_nbr next _ flags n2 hn.1 hn.2 hn2 hn2ne
        -- `c → next` and `next → c` would make `next` the vertex before `c` as well
        have hcn2 : c ≠ n2 := fun e => hnp (Nbr_det_bwd (e ▸ nbrN2) nbrP)
        exact ⟨c, next, c, n2, prior, n3, hcd, Or.inr (by simpa using hsel), nbrN, nbrN2, hcn2, hprior, hn3,
          rfl, rfl, rfl⟩
      · -- flag `c`
        rw [if_neg hsel]
        obtain ⟨p2, hp2⟩ := getPrior_exists prior (path.length - 1) flags c hcle hcfl
        have hclt := flagAt_false_lt flags c hcfl
        have hnf' : flagAt (flags.set c true) next = false := by
          rw [flagAt_set _ _ _ hclt, if_neg (fun e => hnc e.symm)]; exact hn.2
        obtain ⟨n3, hn3⟩ := getNext_exists next (path.length - 1) (flags.set c true) next hn.1 hnf'
        simp only [hp2, Option.map_some, hn3]
        exact ⟨c, c, prior, next, p2, n3, hcd, Or.inl rfl, nbrP, nbrN, fun e => hnp e.symm, hp2, hn3,
          rfl, rfl, rfl⟩

end Clipper.Lemmas.PathUtil

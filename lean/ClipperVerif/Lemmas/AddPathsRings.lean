/-
Lemmas about the `AddPaths_` model (Model/AddPathsRings.lean): the duplicate-skipping point loop (`pushPts`, which after its first
point is `pushDedup` of `Model/CleanUp.lean`), the ring and its rotations (`cdedup`), the scan for local extrema in closed form
(`stepG`/`stepFlag`, `closedFlagsAt`/`openFlagsAt`), the minima appended = the vertices flagged (`findMinima_minima`), alternation of
maxima and minima (`altEnd`), sizes and slots of a whole call, the position-free minima `MinV`.  Core Lean only.
-/
import ClipperVerif.Model.AddPathsRings
import ClipperVerif.Lemmas.CleanUp
namespace Clipper.Lemmas.AddPathsRings
open Clipper Clipper.Model.AddPathsRings
open Clipper.Model.CleanUp (pushDedup)
open Clipper.Lemmas.CleanUp (LinPairs linPairs_snoc pushDedup_sublist linPairs_pushDedup pushDedup_eq_self rot_swap)

/-- no two neighbours in the list are equal -/
def NoAdjDup : List Pt → Prop
  | [] => True
  | [_] => True
  | a :: b :: l => a ≠ b ∧ NoAdjDup (b :: l)

instance : (l : List Pt) → Decidable (NoAdjDup l)
  | [] => isTrue trivial
  | [_] => isTrue trivial
  | a :: b :: l =>
    have : Decidable (NoAdjDup (b :: l)) := instDecidableNoAdjDup (b :: l)
    by unfold NoAdjDup; infer_instance

/-- no two cyclic neighbours are equal (for lists of at least two elements) -/
def CycNoAdjDup (l : List Pt) : Prop := NoAdjDup l ∧ (2 ≤ l.length → l.getLast? ≠ l.head?)

/-- `Stutter r l`: `l` is `r` with every element repeated one or more times in place -/
inductive Stutter : List Pt → List Pt → Prop
  | nil : Stutter [] []
  | cons (a : Pt) {r l : List Pt} : Stutter r l → Stutter (a :: r) (a :: l)
  | dup (a : Pt) {r l : List Pt} : Stutter (a :: r) (a :: l) → Stutter (a :: r) (a :: a :: l)

/-- `NoAdjDup` is `LinPairs (· ≠ ·)` of `Lemmas/Neighbours.lean` -/
theorem noAdjDup_iff_linPairs : ∀ (l : List Pt), NoAdjDup l ↔ LinPairs (fun a b => a ≠ b) l
  | [] => Iff.rfl
  | [_] => Iff.rfl
  | _ :: b :: l => and_congr Iff.rfl (noAdjDup_iff_linPairs (b :: l))

@[simp] theorem pushPts_none_cons (p : Pt) (ps : List Pt) : pushPts none (p :: ps) = p :: pushPts (some p) ps := rfl
@[simp] theorem pushPts_nil (o : Option Pt) : pushPts o [] = [] := by cases o <;> rfl
theorem pushPts_some_cons (q p : Pt) (ps : List Pt) :
    pushPts (some q) (p :: ps) = if q = p then pushPts (some q) ps else p :: pushPts (some p) ps := rfl

/-- after a first point the loop is the de-duplicating loop `pushDedup` of `BuildPath64` (`Model/CleanUp.lean`) -/
theorem pushPts_some_eq_pushDedup (q : Pt) : ∀ (l : List Pt), pushPts (some q) l = pushDedup q l
  | [] => rfl
  | p :: ps => by
    rw [pushPts_some_cons, pushDedup]
    by_cases h : q = p
    · rw [if_pos h, if_neg (fun hn : p ≠ q => hn h.symm)]; exact pushPts_some_eq_pushDedup q ps
    · rw [if_neg h, if_pos (fun e : p = q => h e.symm)]; exact congrArg _ (pushPts_some_eq_pushDedup p ps)

theorem pushPts_some_self (q : Pt) (ps : List Pt) : pushPts (some q) (q :: ps) = pushPts (some q) ps := by
  rw [pushPts_some_cons, if_pos rfl]

theorem pushPts_some_ne {q p : Pt} (h : q ≠ p) (ps : List Pt) : pushPts (some q) (p :: ps) = p :: pushPts (some p) ps := by
  rw [pushPts_some_cons, if_neg h]

theorem pushPts_sublist : ∀ (o : Option Pt) (l : List Pt), (pushPts o l).Sublist l
  | _, [] => by rw [pushPts_nil]; exact List.Sublist.slnil
  | none, p :: ps => (pushPts_some_eq_pushDedup p ps ▸ pushDedup_sublist ps p).cons_cons p
  | some q, l => pushPts_some_eq_pushDedup q l ▸ pushDedup_sublist l q

theorem pushPts_length_le (o : Option Pt) (l : List Pt) : (pushPts o l).length ≤ l.length :=
  (pushPts_sublist o l).length_le

theorem pushPts_noAdjDup : ∀ (l : List Pt), NoAdjDup (pushPts none l)
  | [] => trivial
  | p :: ps => by
    rw [noAdjDup_iff_linPairs, pushPts_none_cons, pushPts_some_eq_pushDedup]
    exact linPairs_pushDedup ps p

theorem pushPts_some_stutter (q : Pt) : ∀ (l : List Pt), Stutter (q :: pushPts (some q) l) (q :: l)
  | [] => by simpa using Stutter.cons q Stutter.nil
  | p :: ps => by
    rw [pushPts_some_cons]; split
    · rename_i h; subst h; exact Stutter.dup q (pushPts_some_stutter q ps)
    · exact Stutter.cons q (pushPts_some_stutter p ps)

theorem pushPts_stutter : ∀ (l : List Pt), Stutter (pushPts none l) l
  | [] => by simpa using Stutter.nil
  | p :: ps => pushPts_some_stutter p ps

theorem pushPts_insert_dup (o : Option Pt) (l₁ : List Pt) (a : Pt) (l₂ : List Pt) :
    pushPts o (l₁ ++ a :: a :: l₂) = pushPts o (l₁ ++ a :: l₂) := by
  induction l₁ generalizing o with
  | nil =>
    cases o with
    | none => simp [pushPts_some_self]
    | some q =>
      simp only [List.nil_append, pushPts_some_cons]
      split <;> simp
  | cons b l₁ ih =>
    cases o with
    | none => simp only [List.cons_append, pushPts_none_cons, ih]
    | some q => simp only [List.cons_append, pushPts_some_cons, ih]

theorem pushPts_of_stutter {r l : List Pt} (h : Stutter r l) : ∀ o, pushPts o l = pushPts o r := by
  induction h with
  | nil => exact fun _ => rfl
  | cons a _ ih =>
    intro o
    cases o with
    | none => simp only [pushPts_none_cons, ih]
    | some q => simp only [pushPts_some_cons, ih]
  | dup a _ ih => exact fun o => (pushPts_insert_dup o [] a _).trans (ih o)

theorem NoAdjDup.tail {a : Pt} {l : List Pt} (h : NoAdjDup (a :: l)) : NoAdjDup l := by
  cases l with
  | nil => trivial
  | cons b l => exact h.2

/-- the loop copies a list without equal neighbours -/
theorem pushPts_of_noAdjDup : ∀ (l : List Pt), NoAdjDup l → pushPts none l = l
  | [], _ => rfl
  | p :: ps, hl => by
    rw [pushPts_none_cons, pushPts_some_eq_pushDedup, pushDedup_eq_self ps p ((noAdjDup_iff_linPairs _).1 hl)]

theorem ringOf_open (vs : List Pt) : ringOf true vs = vs := by simp [ringOf]

theorem list_nil_or_concat {α : Type} (l : List α) : l = [] ∨ ∃ M z, l = M ++ [z] :=
  (List.eq_nil_or_concat l).imp_right (fun ⟨M, z, h⟩ => ⟨M, z, h.trans List.concat_eq_append⟩)

theorem ringOf_closed_spec (vs : List Pt) (hn : NoAdjDup vs) (hl : 2 ≤ vs.length) :
    2 ≤ (ringOf false vs).length ∧ CycNoAdjDup (ringOf false vs) ∧ (ringOf false vs).head? = vs.head? := by
  by_cases hz : vs.getLast? = vs.head?
  · have hr : ringOf false vs = vs.dropLast := by unfold ringOf; simp [hz]
    rw [hr]
    -- `vs = a :: M' ++ [w] ++ [a]` with `w ≠ a`, and `M'` is not empty because `w` is not `a`'s successor
    match vs, hl, hn, hz with
    | a :: b :: rest, _, hn, hz =>
      rcases list_nil_or_concat (b :: rest) with h | ⟨M, z, h⟩
      · cases h
      rw [h] at hn hz ⊢
      obtain rfl : z = a := by rw [← List.cons_append, List.getLast?_concat] at hz; exact Option.some.inj hz
      rw [← List.cons_append, List.dropLast_concat]
      rcases list_nil_or_concat M with rfl | ⟨M', w, rfl⟩
      · exact absurd rfl hn.1
      rw [noAdjDup_iff_linPairs] at hn
      obtain ⟨hring, hw⟩ : LinPairs (fun a b => a ≠ b) ((z :: M') ++ [w]) ∧ w ≠ z :=
        (linPairs_snoc _ w z (z :: M')).1 (by simpa using hn)
      have hlast : (z :: (M' ++ [w])).getLast? ≠ some z := by
        rw [← List.cons_append, List.getLast?_concat]; exact fun e => hw (Option.some.inj e)
      exact ⟨by simp, ⟨(noAdjDup_iff_linPairs _).2 hring, fun _ => hlast⟩, rfl⟩
  · have hr : ringOf false vs = vs := by unfold ringOf; simp [hz]
    rw [hr]; exact ⟨hl, ⟨hn, fun _ => hz⟩, rfl⟩

/-- `going_up` after the edge `prev → c` -/
def stepG (g : Bool) (prev c : Pt) : Bool :=
  if c.y > prev.y && g then false else if c.y < prev.y && !g then true else g

theorem stepG_flat (g : Bool) (prev c : Pt) (h : c.y = prev.y) : stepG g prev c = g := by
  unfold stepG; simp [h]

theorem stepG_nonflat (g : Bool) (prev c : Pt) (h : c.y ≠ prev.y) : stepG g prev c = decide (prev.y > c.y) := by
  unfold stepG
  have : c.y < prev.y ∨ c.y > prev.y := by omega
  rcases this with h1 | h1
  · have h2 : ¬ (c.y > prev.y) := by omega
    cases g <;> simp [h1, h2]
  · have h2 : ¬ (c.y < prev.y) := by omega
    cases g <;> simp [h1, h2]

/-- final flags of `prev_v` when `curr_v = c` is visited -/
def stepFlag (g : Bool) (prev : Pt) (pf : VFlags) (c : Pt) : VFlags :=
  if c.y > prev.y && g then { pf with localMax := true } else if c.y < prev.y && !g then (addLocMin pf).1 else pf

/-- did `AddLocMin(prev_v)` append? -/
def stepMin (g : Bool) (prev : Pt) (pf : VFlags) (c : Pt) : Bool :=
  if c.y > prev.y && g then false else if c.y < prev.y && !g then (addLocMin pf).2 else false

/-- the flags of `prev_v` in closed form: `LocalMax` is added when an upward run turns down, `LocalMin` when a downward run turns up -/
theorem stepFlag_eq (g : Bool) (prev : Pt) (pf : VFlags) (c : Pt) : stepFlag g prev pf c =
    { pf with localMax := pf.localMax || (g && decide (c.y > prev.y)), localMin := pf.localMin || (!g && decide (c.y < prev.y)) } := by
  obtain ⟨a, b, mx, mn⟩ := pf
  unfold stepFlag addLocMin
  cases g <;> cases decide (c.y > prev.y) <;> cases decide (c.y < prev.y) <;> cases mx <;> cases mn <;> rfl

theorem scan_cons (g : Bool) (prev : Pt) (pf : VFlags) (i : Nat) (c : Pt) (cs : List Pt) :
    scan g prev pf i (c :: cs) =
      { scan (stepG g prev c) c VFlags.empty (i + 1) cs with
        flags := stepFlag g prev pf c :: (scan (stepG g prev c) c VFlags.empty (i + 1) cs).flags
        minima := (if stepMin g prev pf c then [i] else []) ++ (scan (stepG g prev c) c VFlags.empty (i + 1) cs).minima } := by
  rw [scan]; unfold stepG stepFlag stepMin
  cases (decide (c.y > prev.y) && g) <;> cases (decide (c.y < prev.y) && !g) <;> rfl

theorem scan_flags_length (g : Bool) (prev : Pt) (pf : VFlags) (i : Nat) (cs : List Pt) :
    (scan g prev pf i cs).flags.length = cs.length := by
  induction cs generalizing g prev pf i with
  | nil => rfl
  | cons c cs ih => simp only [scan_cons, List.length_cons, ih]

theorem scan_lastIdx (g : Bool) (prev : Pt) (pf : VFlags) (i : Nat) (cs : List Pt) :
    (scan g prev pf i cs).lastIdx = i + cs.length := by
  induction cs generalizing g prev pf i with
  | nil => rfl
  | cons c cs ih => simp only [scan_cons, ih, List.length_cons]; omega

theorem scan_empty_lastFlags (g : Bool) (prev : Pt) (i : Nat) (cs : List Pt) :
    (scan g prev VFlags.empty i cs).lastFlags = VFlags.empty := by
  induction cs generalizing g prev i with
  | nil => rfl
  | cons c cs ih => simp only [scan_cons, ih]

theorem consIf_bounds {b : Bool} {i n : Nat} {r : List Nat} (h : (∀ m ∈ r, i + 1 ≤ m ∧ m < i + 1 + n) ∧ r.Pairwise (· < ·)) :
    (∀ m ∈ (if b then [i] else []) ++ r, i ≤ m ∧ m < i + (n + 1)) ∧ ((if b then [i] else []) ++ r).Pairwise (· < ·) := by
  have h1 : ∀ m ∈ r, i ≤ m ∧ m < i + (n + 1) ∧ i < m := fun m hm => by have := h.1 m hm; omega
  cases b
  · exact ⟨fun m hm => ⟨(h1 m hm).1, (h1 m hm).2.1⟩, h.2⟩
  · refine ⟨fun m hm => ?_, List.pairwise_cons.mpr ⟨fun m hm => (h1 m hm).2.2, h.2⟩⟩
    rcases List.mem_cons.mp hm with rfl | hm
    · omega
    · exact ⟨(h1 m hm).1, (h1 m hm).2.1⟩

theorem scan_minima_bounds (g : Bool) (prev : Pt) (pf : VFlags) (i : Nat) (cs : List Pt) :
    (∀ m ∈ (scan g prev pf i cs).minima, i ≤ m ∧ m < i + cs.length) ∧
    (scan g prev pf i cs).minima.Pairwise (· < ·) := by
  induction cs generalizing g prev pf i with
  | nil => exact ⟨fun _ h => (nomatch h), List.Pairwise.nil⟩
  | cons c cs ih => rw [scan_cons]; exact consIf_bounds (ih ..)

/-- ring indices (counted from `i`) of the flags with `LocalMin` -/
def minIdx : Nat → List VFlags → List Nat
  | _, [] => []
  | i, f :: fs => (if f.localMin then [i] else []) ++ minIdx (i + 1) fs

theorem minIdx_append (i : Nat) (a b : List VFlags) : minIdx i (a ++ b) = minIdx i a ++ minIdx (i + a.length) b := by
  induction a generalizing i with
  | nil => rfl
  | cons f fs ih => simp only [List.cons_append, minIdx, ih, List.append_assoc, List.length_cons, Nat.add_assoc, Nat.add_comm 1]

theorem minIdx_all_empty (i : Nat) (l : List VFlags) (h : ∀ f ∈ l, f.localMin = false) : minIdx i l = [] := by
  induction l generalizing i with
  | nil => rfl
  | cons f fs ih =>
    rw [minIdx, h f List.mem_cons_self, ih _ (fun g hg => h g (List.mem_cons_of_mem _ hg))]; rfl

theorem minIdx_bounds (i : Nat) (l : List VFlags) :
    (∀ m ∈ minIdx i l, i ≤ m ∧ m < i + l.length) ∧ (minIdx i l).Pairwise (· < ·) := by
  induction l generalizing i with
  | nil => exact ⟨fun _ h => (nomatch h), List.Pairwise.nil⟩
  | cons f fs ih => exact consIf_bounds (ih _)

theorem minIdx_flag (i : Nat) (l : List VFlags) : ∀ m ∈ minIdx i l, ∃ f, l[m - i]? = some f ∧ f.localMin = true := by
  induction l generalizing i with
  | nil => exact fun _ h => nomatch h
  | cons f fs ih =>
    intro m hm
    rcases List.mem_append.mp hm with h | h
    · cases hf : f.localMin
      · rw [hf] at h; nomatch h
      · rw [hf] at h; obtain rfl := List.mem_singleton.mp h
        exact ⟨f, by rw [Nat.sub_self]; rfl, hf⟩
    · obtain ⟨f', hf', hm'⟩ := ih (i + 1) m h
      have := ((minIdx_bounds (i + 1) fs).1 m h).1
      exact ⟨f', by rw [show m - i = (m - (i + 1)) + 1 by omega]; exact hf', hm'⟩

/-- the step appends exactly when the vertex ends up flagged (given it is not flagged already unless going up) -/
theorem step_min_flag {i : Nat} (g : Bool) (prev : Pt) (pf : VFlags) (c : Pt) (h : pf.localMin = true → g = true) :
    ((if pf.localMin then [i] else []) ++ (if stepMin g prev pf c then [i] else []) : List Nat) =
      if (stepFlag g prev pf c).localMin then [i] else [] := by
  rw [stepFlag_eq]; unfold stepMin addLocMin
  cases hl : pf.localMin <;> cases g <;> cases decide (c.y > prev.y) <;> cases decide (c.y < prev.y) <;>
    first | rfl | exact Bool.noConfusion (h hl)

theorem scan_minima_eq (g : Bool) (prev : Pt) (pf : VFlags) (i : Nat) (cs : List Pt) (h : pf.localMin = true → g = true) :
    (if pf.localMin then [i] else []) ++ (scan g prev pf i cs).minima =
      minIdx i ((scan g prev pf i cs).flags ++ [(scan g prev pf i cs).lastFlags]) := by
  induction cs generalizing g prev pf i with
  | nil => simp [scan, minIdx]
  | cons c cs ih =>
    have ih' : (scan (stepG g prev c) c VFlags.empty (i + 1) cs).minima = _ :=
      ih (stepG g prev c) c VFlags.empty (i + 1) (fun h => nomatch h)
    simp only [scan_cons, List.cons_append, minIdx, ← step_min_flag g prev pf c h, List.append_assoc, ih']

/-- looking *forward* from a vertex of ordinate `y` through `post`: does the path next move upwards (or never leave `y`)? -/
def upFwd (y : Int) (post : List Pt) : Bool :=
  match firstDiffY y post with
  | none => true
  | some c => decide (c.y ≤ y)

theorem openStart_eq (v0 : Pt) (tl : List Pt) : openStart v0 tl =
    (upFwd v0.y tl, { openStart := true, localMax := !upFwd v0.y tl, localMin := upFwd v0.y tl }, if upFwd v0.y tl then [0] else []) := by
  unfold openStart upFwd
  cases firstDiffY v0.y tl with
  | none => rfl
  | some c => cases h : decide (c.y ≤ v0.y) <;> simp only [h] <;> rfl

theorem openEnd_spec (s : ScanOut) :
    (if s.lastFlags.localMin then [s.lastIdx] else []) ++ (openEnd s).2 =
      if (openEnd s).1.localMin then [s.lastIdx] else [] := by
  obtain ⟨_, _, gu, ⟨_, _, _, mn⟩, _⟩ := s
  cases gu <;> cases mn <;> rfl

theorem closedEnd_spec (g0 : Bool) (s : ScanOut) (h : s.lastFlags.localMin = false) :
    (if s.lastFlags.localMin then [s.lastIdx] else []) ++ (closedEnd g0 s).2 =
      if (closedEnd g0 s).1.localMin then [s.lastIdx] else [] := by
  obtain ⟨_, _, gu, ⟨_, _, _, mn⟩, _⟩ := s
  cases h; cases gu <;> cases g0 <;> rfl

/-- the scan followed by the treatment `e` of the last vertex: if `e` appends exactly when it sets the flag, the whole ring does -/
theorem scan_end_minima (g : Bool) (prev : Pt) (pf : VFlags) (cs : List Pt) (h : pf.localMin = true → g = true)
    (e : VFlags × List Nat)
    (he : (if (scan g prev pf 0 cs).lastFlags.localMin then [(scan g prev pf 0 cs).lastIdx] else []) ++ e.2 =
      if e.1.localMin then [(scan g prev pf 0 cs).lastIdx] else []) :
    (if pf.localMin then [0] else []) ++ (scan g prev pf 0 cs).minima ++ e.2 = minIdx 0 ((scan g prev pf 0 cs).flags ++ [e.1]) := by
  have hs := scan_minima_eq g prev pf 0 cs h
  rw [scan_lastIdx, ← scan_flags_length g prev pf 0 cs] at he
  rw [minIdx_append] at hs ⊢
  rw [hs, List.append_assoc]
  exact congrArg (minIdx 0 (scan g prev pf 0 cs).flags ++ ·) (by simpa only [minIdx, List.append_nil] using he)

/-- the "only once" guard of `AddLocMin` never drops anything: the minima appended for a ring are exactly the
vertices that end up flagged `LocalMin`, in ring order. -/
theorem findMinima_minima (isOpen : Bool) (r0 : Pt) (rtl : List Pt) :
    (findMinima isOpen r0 rtl).2 = minIdx 0 (findMinima isOpen r0 rtl).1 := by
  unfold findMinima
  cases isOpen with
  | true =>
    rw [if_pos rfl, openStart_eq]
    exact scan_end_minima (upFwd r0.y rtl) r0 ⟨true, false, !upFwd r0.y rtl, upFwd r0.y rtl⟩ rtl id _ (openEnd_spec _)
  | false =>
    rw [if_neg Bool.false_ne_true]
    cases closedStart r0 rtl with
    | none => exact (minIdx_all_empty 0 _ (fun f hf => by obtain ⟨_, _, rfl⟩ := List.mem_map.mp hf; rfl)).symm
    | some g0 =>
      exact scan_end_minima g0 r0 VFlags.empty rtl (fun h => nomatch h) _
        (closedEnd_spec g0 _ (by rw [scan_empty_lastFlags]; rfl))

theorem firstDiffY_append_same (y0 : Int) (l : List Pt) (c : Pt) (h : c.y = y0) :
    firstDiffY y0 (l ++ [c]) = firstDiffY y0 l := by
  induction l with
  | nil => simp [firstDiffY, h]
  | cons p ps ih => simp only [List.cons_append, firstDiffY, ih]

theorem firstDiffY_none_iff (y0 : Int) (l : List Pt) : firstDiffY y0 l = none ↔ ∀ p ∈ l, p.y = y0 := by
  induction l with
  | nil => simp [firstDiffY]
  | cons p ps ih =>
    simp only [firstDiffY]
    split
    · rename_i h; simp [ih, h]
    · rename_i h; simp [h]

/-- the direction in which a ring arrives at a vertex of ordinate `y`: walk back through `before` (nearest vertex
first) to the first vertex whose `y` differs; `some true` = arriving *upwards* (that vertex is lower on the screen: larger
`y`, the library's y axis points down), `some false` = arriving downwards, `none` = every vertex in `before` has ordinate `y`. -/
def arriveUp (y : Int) (before : List Pt) : Option Bool := (firstDiffY y before).map (fun p => decide (p.y > y))

/-- closed ring, the flags of one vertex in the code's sense.  `v` is the vertex, `others` the remaining vertices of
the ring in ring order starting with `v`'s successor.  `v` is a local *maximum* (top of the screen, smallest `y`) iff
the ring arrives at it upwards (horizontal edges skipped backwards) and leaves it downwards (`next.y > v.y`);
it is a local *minimum* iff the ring arrives downwards and leaves upwards (`next.y < v.y`).  Consequently, of a horizontal
run at a local extremum, the *last* vertex in ring order carries the flag. -/
def closedFlagsAt (v : Pt) (others : List Pt) : VFlags :=
  match others.head?, arriveUp v.y others.reverse with
  | some nx, some up => { localMax := up && decide (nx.y > v.y), localMin := !up && decide (nx.y < v.y) }
  | _, _ => {}

/-- `closedFlagsAt` for every vertex of `xs`, where `w` are the vertices that follow `xs` cyclically (up to where `xs` starts) -/
def specW : List Pt → List Pt → List VFlags
  | [], _ => []
  | v :: cs, w => closedFlagsAt v (cs ++ w) :: specW cs (w ++ [v])

theorem specW_length (xs w : List Pt) : (specW xs w).length = xs.length := by
  induction xs generalizing w with
  | nil => rfl
  | cons v cs ih => simp [specW, ih]

theorem specW_append (xs ys w : List Pt) : specW (xs ++ ys) w = specW xs (ys ++ w) ++ specW ys (w ++ xs) := by
  induction xs generalizing w with
  | nil => simp [specW]
  | cons v cs ih => simp [specW, ih, List.append_assoc]

theorem closedStart_eq (v0 : Pt) (tl : List Pt) : closedStart v0 tl = arriveUp v0.y tl.reverse := by
  unfold closedStart arriveUp; cases firstDiffY v0.y tl.reverse <;> rfl

theorem arriveUp_step (g : Bool) (prev c : Pt) (R : List Pt) (h : arriveUp prev.y (R ++ [c]) = some g) :
    arriveUp c.y (prev :: R) = some (stepG g prev c) := by
  unfold arriveUp at h ⊢
  rw [firstDiffY]
  by_cases hy : prev.y = c.y
  · rw [if_pos hy, stepG_flat g prev c hy.symm, ← hy, ← h, firstDiffY_append_same _ _ _ hy.symm]
  · rw [if_neg hy, stepG_nonflat g prev c (fun e => hy e.symm)]; rfl

theorem stepFlag_closed (g : Bool) (prev c : Pt) (rest : List Pt) (h : arriveUp prev.y (c :: rest).reverse = some g) :
    stepFlag g prev VFlags.empty c = closedFlagsAt prev (c :: rest) := by
  rw [closedFlagsAt, List.head?_cons, h, stepFlag_eq]; rfl

theorem closedFlagsAt_flat (v : Pt) (others : List Pt) (h : ∀ p ∈ others, p.y = v.y) : closedFlagsAt v others = {} := by
  unfold closedFlagsAt arriveUp
  have : firstDiffY v.y others.reverse = none := (firstDiffY_none_iff _ _).mpr (fun p hp => h p (by simpa using hp))
  rw [this]; cases others.head? <;> rfl

theorem specW_flat (y : Int) (xs w : List Pt) (h : ∀ p ∈ xs ++ w, p.y = y) :
    specW xs w = xs.map (fun _ => VFlags.empty) := by
  induction xs generalizing w with
  | nil => rfl
  | cons v cs ih =>
    have hv : v.y = y := h v (List.mem_append_left _ List.mem_cons_self)
    rw [specW, List.map_cons, closedFlagsAt_flat v (cs ++ w) (fun p hp => (h p (List.mem_cons_of_mem _ hp)).trans hv.symm),
      ih _ (fun p hp => h p (by simpa [or_comm, or_left_comm] using hp))]
    rfl

/-- closing the ring is one more iteration of the loop, for the edge from the last vertex back to the first -/
theorem closedEnd_step (lastV r0 : Pt) (s : ScanOut) (hf : s.lastFlags = VFlags.empty) :
    (closedEnd (stepG s.goingUp lastV r0) s).1 = stepFlag s.goingUp lastV VFlags.empty r0 := by
  obtain ⟨_, _, g, _, _⟩ := s
  cases hf
  unfold closedEnd stepG stepFlag addLocMin
  cases g <;> cases decide (r0.y > lastV.y) <;> cases decide (r0.y < lastV.y) <;> rfl

/-- the loop invariant, with the closing step: `going_up` is the direction in which the ring arrives at `prev_v`; `x` is the start
vertex, `w` the vertices already left behind, `g0` the direction in which the ring arrives at `x` -/
theorem scan_closedEnd (g0 g : Bool) (prev x : Pt) (i : Nat) (cs w : List Pt) (hxw : (w ++ [prev]).head? = some x)
    (h : arriveUp prev.y (cs ++ w).reverse = some g)
    (hx : arriveUp x.y (w ++ prev :: cs).tail.reverse = some g0) :
    (scan g prev VFlags.empty i cs).flags ++ [(closedEnd g0 (scan g prev VFlags.empty i cs)).1] = specW (prev :: cs) w := by
  induction cs generalizing g prev i w with
  | nil =>
    cases w with
    | nil => exact nomatch hx
    | cons x' w' =>
      obtain rfl : x = x' := (Option.some.inj hxw).symm
      have hg : g0 = stepG g prev x := Option.some.inj (hx.symm.trans
        (by simpa using arriveUp_step g prev x w'.reverse (by simpa using h)))
      rw [hg]
      exact congrArg (· :: []) ((closedEnd_step prev x _ rfl).trans (stepFlag_closed g prev x w' (by simpa using h)))
  | cons c cs ih =>
    have hstep : arriveUp c.y (cs ++ (w ++ [prev])).reverse = some (stepG g prev c) := by
      simpa using arriveUp_step g prev c (cs ++ w).reverse (by simpa using h)
    rw [scan_cons, specW, ← ih (stepG g prev c) c (i + 1) (w ++ [prev]) (by simpa [List.head?_append] using hxw)
      hstep (by simpa using hx), stepFlag_closed g prev c (cs ++ w) (by simpa using h)]
    rfl

/-- closed rings: the flags the code assigns are `closedFlagsAt` at every vertex -/
theorem closed_flags_spec (r0 : Pt) (rtl : List Pt) :
    (findMinima false r0 rtl).1 = specW (r0 :: rtl) [] := by
  unfold findMinima
  rw [if_neg Bool.false_ne_true, closedStart_eq]
  cases hg0 : arriveUp r0.y rtl.reverse with
  | none =>
    have hall : ∀ p ∈ rtl, p.y = r0.y := fun p hp =>
      (firstDiffY_none_iff _ _).mp (Option.map_eq_none_iff.mp hg0) p (List.mem_reverse.mpr hp)
    exact (specW_flat r0.y (r0 :: rtl) [] (fun p hp => (List.mem_cons.mp (by simpa using hp)).elim (fun e : p = r0 => e ▸ rfl) (hall p))).symm
  | some g0 => exact scan_closedEnd g0 g0 r0 r0 0 rtl [] rfl (by simpa using hg0) hg0

theorem addPath_congr (isOpen : Bool) {p q : List Pt} (h : pushPts none p = pushPts none q) :
    addPath isOpen p = addPath isOpen q := by
  unfold addPath; rw [h]

theorem addPath_short (isOpen : Bool) (path : List Pt) (h : (pushPts none path).length < 2) :
    addPath isOpen path = { cnt := (pushPts none path).length } := by
  unfold addPath
  match hp : pushPts none path, h with
  | [], _ => rfl
  | [_], _ => rfl
  | _ :: _ :: _, h => simp at h; omega

/-- the case distinction of line 651 -/
def noMinimaCase (isOpen : Bool) (cnt : Nat) : Bool := cnt < 2 || (cnt == 2 && !isOpen)

theorem noMinimaCase_of_three (isOpen : Bool) (n : Nat) (h : 3 ≤ n) : noMinimaCase isOpen n = false := by
  unfold noMinimaCase
  have h1 : ¬ n < 2 := by omega
  have h2 : (n == 2) = false := by simp; omega
  simp [h1, h2]

theorem addPath_long (isOpen : Bool) (path : List Pt) (h : 2 ≤ (pushPts none path).length) :
    ∃ r0 rtl, ringOf isOpen (pushPts none path) = r0 :: rtl ∧ rtl ≠ [] ∧
      addPath isOpen path =
        if noMinimaCase isOpen (pushPts none path).length then
          { cnt := (pushPts none path).length, pts := r0 :: rtl, flags := (r0 :: rtl).map (fun _ => VFlags.empty) }
        else
          { cnt := (pushPts none path).length, pts := r0 :: rtl,
            flags := (findMinima isOpen r0 rtl).1, minima := (findMinima isOpen r0 rtl).2 } := by
  unfold addPath
  match hp : pushPts none path, h with
  | v0 :: v1 :: rest, _ =>
    have hn : NoAdjDup (v0 :: v1 :: rest) := hp ▸ pushPts_noAdjDup path
    have hlen : 2 ≤ (ringOf isOpen (v0 :: v1 :: rest)).length := by
      cases isOpen
      · exact (ringOf_closed_spec _ hn (by simp)).1
      · rw [ringOf_open]; simp
    match hr : ringOf isOpen (v0 :: v1 :: rest), hlen with
    | r0 :: r1 :: rtl', _ =>
      refine ⟨r0, r1 :: rtl', rfl, by simp, ?_⟩
      simp only [noMinimaCase, hr]
      split
      · rename_i hh; simp only [hh, if_true]
      · rename_i hh; simp only [hh]; rfl

theorem addPath_pts (isOpen : Bool) (path : List Pt) (h : 2 ≤ (pushPts none path).length) :
    (addPath isOpen path).pts = ringOf isOpen (pushPts none path) := by
  obtain ⟨r0, rtl, hr, _, heq⟩ := addPath_long isOpen path h
  rw [heq, hr]; split <;> rfl

theorem noMinimaCase_open (n : Nat) (h : 2 ≤ n) : noMinimaCase true n = false := by
  unfold noMinimaCase; rw [Bool.not_true, Bool.and_false, Bool.or_false]; exact decide_eq_false (by omega)

theorem addPath_main (isOpen : Bool) (path : List Pt) (h2 : 2 ≤ (pushPts none path).length)
    (hc : noMinimaCase isOpen (pushPts none path).length = false) :
    ∃ r0 rtl, rtl ≠ [] ∧ (addPath isOpen path).pts = r0 :: rtl ∧ (addPath isOpen path).flags = (findMinima isOpen r0 rtl).1 ∧
      (addPath isOpen path).minima = (findMinima isOpen r0 rtl).2 := by
  obtain ⟨r0, rtl, _, hne, heq⟩ := addPath_long isOpen path h2
  rw [hc] at heq
  exact ⟨r0, rtl, hne, by rw [heq]; rfl, by rw [heq]; rfl, by rw [heq]; rfl⟩

/-- `b` is `a` read from another start: `a = x ++ y`, `b = y ++ x` -/
def IsRot {α : Type} (a b : List α) : Prop := ∃ x y, a = x ++ y ∧ b = y ++ x

theorem IsRot.refl {α : Type} (a : List α) : IsRot a a := ⟨[], a, by simp, by simp⟩

theorem IsRot.trans {α : Type} {a b c : List α} (h₁ : IsRot a b) (h₂ : IsRot b c) : IsRot a c := by
  obtain ⟨x, y, ha, hb⟩ := h₁
  obtain ⟨u, v, hb', hc⟩ := h₂
  rw [hb] at hb'
  rcases List.append_eq_append_iff.mp hb' with ⟨m, hu, hx⟩ | ⟨m, hy, hv⟩
  · exact ⟨m, v ++ y, by rw [ha, hx]; simp, by rw [hc, hu]; simp⟩
  · exact ⟨x ++ u, m, by rw [ha, hy]; simp, by rw [hc, hv]; simp⟩

theorem IsRot.length_eq {α : Type} {a b : List α} (h : IsRot a b) : a.length = b.length := by
  obtain ⟨x, y, ha, hb⟩ := h; rw [ha, hb]; simp; omega

/-- the cyclically de-duplicated vertex sequence of a closed path: what the point loop writes, minus an explicit closing vertex -/
def cdedup (path : List Pt) : List Pt := ringOf false (pushPts none path)

theorem ringOf_false_concat_eq (M : List Pt) (z : Pt) (h : (M ++ [z]).head? = some z) : ringOf false (M ++ [z]) = M := by
  unfold ringOf; simp [h]

theorem ringOf_false_concat_ne (M : List Pt) (z hd : Pt) (h : (M ++ [z]).head? = some hd) (hne : z ≠ hd) :
    ringOf false (M ++ [z]) = M ++ [z] := by
  unfold ringOf; simp [h, hne]

theorem ringOf_length_le (isOpen : Bool) (vs : List Pt) : (ringOf isOpen vs).length ≤ vs.length := by
  unfold ringOf; split <;> simp

/-- `prev_v->pt` after the point loop has consumed `l` (entered with `prev_v->pt = o`): the last point consumed -/
def lastKept : Option Pt → List Pt → Option Pt
  | o, [] => o
  | _, p :: ps => lastKept (some p) ps

theorem lastKept_some_skip (q : Pt) (ps : List Pt) : lastKept (some q) (q :: ps) = lastKept (some q) ps := rfl

theorem getLast?_cons_or (p : Pt) (X : List Pt) (o : Option Pt) : ((p :: X).getLast?).or o = (X.getLast?).or (some p) := by
  rw [List.getLast?_cons]; cases X.getLast? <;> rfl

/-- what is written when one more point is appended to the path: it is skipped iff it repeats the last point written
(`prev_v->pt` on entry, if nothing was written) -/
theorem pushPts_concat (o : Option Pt) (l : List Pt) (a : Pt) :
    pushPts o (l ++ [a]) = pushPts o l ++ (if ((pushPts o l).getLast?).or o = some a then [] else [a]) := by
  induction l generalizing o with
  | nil =>
    cases o with
    | none => rfl
    | some q => rw [List.nil_append, pushPts_some_cons, pushPts_nil]; by_cases h : q = a <;> simp [h]
  | cons p ps ih =>
    cases o with
    | none => rw [List.cons_append, pushPts_none_cons, pushPts_none_cons, ih, getLast?_cons_or]; rfl
    | some q =>
      rw [List.cons_append, pushPts_some_cons, pushPts_some_cons]
      split
      · exact ih _
      · rw [ih, getLast?_cons_or]; rfl

theorem cdedup_closing (a : Pt) (t : List Pt) : cdedup (a :: t ++ [a]) = cdedup (a :: t) := by
  unfold cdedup
  rw [pushPts_concat, pushPts_none_cons, Option.or_none]
  rcases list_nil_or_concat (pushPts (some a) t) with h | ⟨M, z, h⟩
  · rw [h, if_pos (show [a].getLast? = some a from rfl), List.append_nil]
  · rw [h, ← List.cons_append, List.getLast?_concat]
    by_cases hz : z = a
    · rw [if_pos (congrArg some hz), List.append_nil]
    · rw [if_neg (fun e => hz (Option.some.inj e)), ringOf_false_concat_eq _ a rfl,
        ringOf_false_concat_ne _ z a rfl hz]

/-- moving the first point of a closed path to its end rotates the ring by zero or one places -/
theorem cdedup_rotate_one (a : Pt) (l : List Pt) : IsRot (cdedup (a :: l)) (cdedup (l ++ [a])) := by
  cases l with
  | nil => exact IsRot.refl _
  | cons b t =>
    by_cases hab : a = b
    · subst hab
      rw [cdedup_closing, cdedup, pushPts_none_cons, pushPts_some_self]; exact IsRot.refl _
    · -- `a :: V` against `V` or `V ++ [a]`, where `V` starts with `b ≠ a`
      unfold cdedup
      rw [pushPts_concat, Option.or_none, pushPts_none_cons a, pushPts_some_ne hab, ← pushPts_none_cons b]
      obtain ⟨M, z, h⟩ : ∃ M z, pushPts none (b :: t) = M ++ [z] :=
        (list_nil_or_concat _).resolve_left (List.cons_ne_nil _ _)
      have hhd : (M ++ [z]).head? = some b := h ▸ rfl
      rw [h, List.getLast?_concat]
      by_cases hz : z = a
      · subst hz
        rw [if_pos rfl, List.append_nil, ← List.cons_append, ringOf_false_concat_eq _ z rfl,
          ringOf_false_concat_ne _ z b hhd hab]
        exact ⟨[z], M, rfl, rfl⟩
      · rw [if_neg (fun e => hz (Option.some.inj e)), ← List.cons_append, ringOf_false_concat_ne _ z a rfl hz,
          ringOf_false_concat_ne _ a b (by rw [List.head?_append, hhd]; rfl) hab]
        exact ⟨[a], M ++ [z], rfl, rfl⟩

/-- rotating the start vertex of a closed path rotates its ring -/
theorem cdedup_rotate (l₁ l₂ : List Pt) : IsRot (cdedup (l₁ ++ l₂)) (cdedup (l₂ ++ l₁)) :=
  rot_swap (fun l => IsRot (cdedup (l₁ ++ l₂)) (cdedup l)) (fun a rest h => h.trans (cdedup_rotate_one a rest)) l₁ l₂ (IsRot.refl _)

/-- a closed path with a ring of at least three vertices is determined by its cyclically de-duplicated vertex sequence -/
theorem addPath_of_cdedup (p : List Pt) (h : 3 ≤ (cdedup p).length) :
    (addPath false p).pts = cdedup p ∧ (addPath false p).flags = specW (cdedup p) [] ∧
      (addPath false p).minima = minIdx 0 (specW (cdedup p) []) := by
  have hvs : 3 ≤ (pushPts none p).length := Nat.le_trans h (ringOf_length_le false _)
  obtain ⟨r0, rtl, hr, _, heq⟩ := addPath_long false p (by omega)
  rw [heq, noMinimaCase_of_three _ _ hvs, cdedup, hr]
  exact ⟨rfl, closed_flags_spec r0 rtl, (findMinima_minima false r0 rtl).trans (by rw [closed_flags_spec r0 rtl])⟩

theorem findMinima_flags_length (isOpen : Bool) (r0 : Pt) (rtl : List Pt) :
    (findMinima isOpen r0 rtl).1.length = (r0 :: rtl).length := by
  unfold findMinima
  cases isOpen with
  | true =>
    simp only [if_true]
    generalize openStart r0 rtl = st
    obtain ⟨g, f0, m0⟩ := st
    simp [scan_flags_length]
  | false =>
    simp only [Bool.false_eq_true, if_false]
    split <;> simp [scan_flags_length]

theorem addPath_sizes (isOpen : Bool) (path : List Pt) :
    (addPath isOpen path).cnt = (pushPts none path).length ∧
    (addPath isOpen path).flags.length = (addPath isOpen path).pts.length ∧
    (addPath isOpen path).pts.length ≤ (addPath isOpen path).cnt ∧
    (∀ m ∈ (addPath isOpen path).minima, m < (addPath isOpen path).pts.length) ∧
    (addPath isOpen path).minima.Pairwise (· < ·) := by
  by_cases h : (pushPts none path).length < 2
  · rw [addPath_short isOpen path h]; simp
  · obtain ⟨r0, rtl, hr, hne, heq⟩ := addPath_long isOpen path (by omega)
    have hle := ringOf_length_le isOpen (pushPts none path)
    rw [hr] at hle
    rw [heq]
    split
    · simp; simpa using hle
    · have hb := minIdx_bounds 0 (findMinima isOpen r0 rtl).1
      rw [← findMinima_minima, findMinima_flags_length, Nat.zero_add] at hb
      exact ⟨rfl, findMinima_flags_length _ _ _, hle, fun m hm => (hb.1 m hm).2, hb.2⟩

theorem filterMap_length_of_isSome {α β : Type} (f : α → Option β) (l : List α) (h : ∀ x ∈ l, (f x).isSome) :
    (l.filterMap f).length = l.length := by
  induction l with
  | nil => rfl
  | cons a t ih =>
    have ha := h a (by simp)
    cases hfa : f a with
    | none => simp [hfa] at ha
    | some b => simp [hfa, ih (fun x hx => h x (by simp [hx]))]

theorem locMinsOf_length (pt : PathType) (isOpen : Bool) (k b : Nat) (path : List Pt) :
    (locMinsOf pt isOpen k b (addPath isOpen path)).length = (addPath isOpen path).minima.length := by
  unfold locMinsOf
  apply filterMap_length_of_isSome
  intro i hi
  have := (addPath_sizes isOpen path).2.2.2.1 i hi
  simp [List.getElem?_eq_getElem this]

theorem locMinsOf_slot (pt : PathType) (isOpen : Bool) (k b : Nat) (o : PathOut) :
    ∀ m ∈ locMinsOf pt isOpen k b o, m.path = k ∧ m.slot = b + m.idx ∧ m.idx ∈ o.minima ∧ o.pts[m.idx]? = some m.pt ∧
      m.polytype = pt ∧ m.isOpen = isOpen := by
  intro m hm
  unfold locMinsOf at hm
  simp only [List.mem_filterMap, Option.map_eq_some_iff] at hm
  obtain ⟨i, hi, p, hp, rfl⟩ := hm
  exact ⟨rfl, rfl, hi, hp, rfl, rfl⟩

theorem used_le_cnt (o : PathOut) : o.used ≤ o.cnt := by unfold PathOut.used; split <;> omega

theorem addPathsFrom_rec (pt : PathType) (isOpen : Bool) (k b : Nat) (ps : List (List Pt)) :
    ∀ r ∈ addPathsFrom pt isOpen k b ps, b ≤ r.base ∧ r.base + r.out.cnt ≤ b + (ps.map List.length).sum ∧
      r.out.flags.length = r.out.pts.length ∧ r.out.pts.length ≤ r.out.cnt ∧ (∀ m ∈ r.out.minima, m < r.out.pts.length) ∧
      r.minima.length = r.out.minima.length ∧ ∀ m ∈ r.minima, m.slot = r.base + m.idx ∧ m.idx ∈ r.out.minima := by
  induction ps generalizing k b with
  | nil => exact fun _ h => nomatch h
  | cons p ps ih =>
    intro r hr
    have hs := addPath_sizes isOpen p
    have hcnt : (addPath isOpen p).cnt ≤ p.length := hs.1 ▸ pushPts_length_le none p
    have hused := used_le_cnt (addPath isOpen p)
    rw [List.map_cons, List.sum_cons]
    rcases List.mem_cons.mp hr with rfl | hr
    · exact ⟨Nat.le_refl _, by simp only []; omega, hs.2.1, hs.2.2.1, hs.2.2.2.1, locMinsOf_length ..,
        fun m hm => have := locMinsOf_slot _ _ _ _ _ m hm; ⟨this.2.1, this.2.2.1⟩⟩
    · obtain ⟨h1, h2, h3⟩ := ih (k + 1) (b + (addPath isOpen p).used) r hr
      exact ⟨by omega, by omega, h3⟩

theorem addPathsFrom_length (pt : PathType) (isOpen : Bool) (k b : Nat) (ps : List (List Pt)) :
    (addPathsFrom pt isOpen k b ps).length = ps.length := by
  induction ps generalizing k b with
  | nil => rfl
  | cons p ps ih => simp [addPathsFrom, ih]

/-- a local minimum together with everything the sweep can reach through its vertex pointer: the ring with its flags and
the vertex's position in it (slot numbers and path numbers are *not* part of it) -/
structure MinV where
  pt : Pt
  polytype : PathType
  isOpen : Bool
  ring : List (Pt × VFlags)
  idx : Nat
  deriving DecidableEq, Repr

/-- the minima of one path, position-free -/
def minVOf (pt : PathType) (isOpen : Bool) (o : PathOut) : List MinV :=
  o.minima.filterMap (fun i => (o.pts[i]?).map (fun p => ⟨p, pt, isOpen, o.ring, i⟩))

/-- the minima list of a call, each minimum with its ring -/
def minimaV (out : Out) : List MinV :=
  out.recs.flatMap (fun r => r.minima.map (fun m => ⟨m.pt, m.polytype, m.isOpen, r.out.ring, m.idx⟩))

theorem locMinsOf_map_minV (pt : PathType) (isOpen : Bool) (k b : Nat) (o : PathOut) :
    (locMinsOf pt isOpen k b o).map (fun m => (⟨m.pt, m.polytype, m.isOpen, o.ring, m.idx⟩ : MinV)) = minVOf pt isOpen o := by
  unfold locMinsOf minVOf
  rw [List.map_filterMap]
  congr 1
  funext i
  cases o.pts[i]? <;> rfl

theorem addPathsFrom_minimaV (pt : PathType) (isOpen : Bool) (k b : Nat) (ps : List (List Pt)) :
    (addPathsFrom pt isOpen k b ps).flatMap (fun r => r.minima.map (fun m => (⟨m.pt, m.polytype, m.isOpen, r.out.ring, m.idx⟩ : MinV)))
      = ps.flatMap (fun p => minVOf pt isOpen (addPath isOpen p)) := by
  induction ps generalizing k b with
  | nil => rfl
  | cons p ps ih =>
    simp only [addPathsFrom, List.flatMap_cons, ih]
    rw [locMinsOf_map_minV]

theorem sum_length_eq_zero (ps : List (List Pt)) (h : (ps.map List.length).sum = 0) : ∀ p ∈ ps, p = [] := by
  induction ps with
  | nil => simp
  | cons p ps ih =>
    simp only [List.map_cons, List.sum_cons] at h
    intro q hq
    rcases List.mem_cons.mp hq with rfl | hq
    · exact List.eq_nil_of_length_eq_zero (by omega)
    · exact ih (by omega) q hq

/-- the minima of a call are the concatenation, in path order, of the minima of each path taken alone -/
theorem minimaV_addPaths (pt : PathType) (isOpen : Bool) (ps : List (List Pt)) :
    minimaV (addPaths pt isOpen ps) = ps.flatMap (fun p => minVOf pt isOpen (addPath isOpen p)) := by
  unfold addPaths minimaV
  by_cases h0 : (ps.map List.length).sum = 0
  · simp only [h0, if_true, List.flatMap_nil]
    have hall := sum_length_eq_zero ps h0
    symm
    rw [List.flatMap_eq_nil_iff]
    intro p hp
    rw [hall p hp]; rfl
  · simp only [h0, if_false]
    exact addPathsFrom_minimaV pt isOpen 0 0 ps

theorem minimaV_perm (pt : PathType) (isOpen : Bool) {ps ps' : List (List Pt)} (hp : ps.Perm ps') :
    (minimaV (addPaths pt isOpen ps)).Perm (minimaV (addPaths pt isOpen ps')) := by
  rw [minimaV_addPaths, minimaV_addPaths]; exact hp.flatMap_right _

/-- `going_up` when an open path is at vertex `v` (`pre` before it, `post` after it, both in path order): the direction of
the last non-horizontal edge before `v`; if there is none (everything so far is level with `v`), the direction of the first
non-horizontal edge after it, and "up" if the whole path is flat. -/
def dirAt (pre : List Pt) (v : Pt) (post : List Pt) : Bool :=
  match arriveUp v.y pre.reverse with
  | some up => up
  | none => upFwd v.y post

/-- open path, the flags of one vertex in the code's sense -/
def openFlagsAt (pre : List Pt) (v : Pt) (post : List Pt) : VFlags :=
  match pre, post with
  | [], _ => { openStart := true, localMin := upFwd v.y post, localMax := !upFwd v.y post }
  | _ :: _, [] => { openEnd := true, localMax := dirAt pre v [], localMin := !dirAt pre v [] }
  | _ :: _, nx :: _ => { localMax := dirAt pre v post && decide (nx.y > v.y), localMin := !dirAt pre v post && decide (nx.y < v.y) }

def specOpen : List Pt → List Pt → List VFlags
  | _, [] => []
  | pre, v :: cs => openFlagsAt pre v cs :: specOpen (pre ++ [v]) cs

/-- all flags of an open ring from the scan state on -/
def openAll (g : Bool) (prev : Pt) (pf : VFlags) (i : Nat) (cs : List Pt) : List VFlags :=
  (scan g prev pf i cs).flags ++ [(openEnd (scan g prev pf i cs)).1]

theorem openAll_cons (g : Bool) (prev : Pt) (pf : VFlags) (i : Nat) (c : Pt) (cs : List Pt) :
    openAll g prev pf i (c :: cs) = stepFlag g prev pf c :: openAll (stepG g prev c) c VFlags.empty (i + 1) cs := by
  unfold openAll openEnd
  rw [scan_cons]; rfl

theorem dirAt_step (pre : List Pt) (prev c : Pt) (cs : List Pt) :
    stepG (dirAt pre prev (c :: cs)) prev c = dirAt (pre ++ [prev]) c cs := by
  by_cases hy : c.y = prev.y
  · rw [stepG_flat _ _ _ hy]
    unfold dirAt arriveUp upFwd
    simp only [List.reverse_append, List.reverse_cons, List.reverse_nil, List.nil_append, List.cons_append, firstDiffY,
      hy, if_true]
  · rw [stepG_nonflat _ _ _ hy]
    unfold dirAt arriveUp
    have hy' : ¬ prev.y = c.y := fun e => hy e.symm
    simp only [List.reverse_append, List.reverse_cons, List.reverse_nil, List.nil_append, List.cons_append, firstDiffY,
      hy', if_false, Option.map_some]

theorem open_interior (cs pre : List Pt) (prev : Pt) (i : Nat) (hpre : pre ≠ []) :
    openAll (dirAt pre prev cs) prev VFlags.empty i cs = specOpen pre (prev :: cs) := by
  obtain ⟨p0, pre', rfl⟩ := List.exists_cons_of_ne_nil hpre
  clear hpre
  induction cs generalizing p0 pre' prev i with
  | nil =>
    simp only [openAll, openEnd, addLocMin, scan, specOpen, openFlagsAt, List.nil_append]
    cases dirAt (p0 :: pre') prev [] <;> rfl
  | cons c cs ih =>
    rw [openAll_cons, dirAt_step, List.cons_append, ih, stepFlag_eq]; rfl

theorem upFwd_cons (y : Int) (c : Pt) (cs : List Pt) :
    upFwd y (c :: cs) = if c.y = y then upFwd y cs else decide (c.y ≤ y) := by
  by_cases h : c.y = y <;> simp only [upFwd, firstDiffY, h, if_true, if_false]

/-- the first edge of an open path changes neither `going_up` (it was computed by looking ahead) nor the flags of the start vertex -/
theorem step_start (r0 c : Pt) (cs : List Pt) :
    stepG (upFwd r0.y (c :: cs)) r0 c = upFwd r0.y (c :: cs) ∧
    stepFlag (upFwd r0.y (c :: cs)) r0 (openFlagsAt [] r0 (c :: cs)) c = openFlagsAt [] r0 (c :: cs) := by
  rw [stepFlag_eq, openFlagsAt]
  by_cases hy : c.y = r0.y
  · rw [stepG_flat _ _ _ hy, decide_eq_false (p := c.y > r0.y) (by omega), decide_eq_false (p := c.y < r0.y) (by omega)]
    cases upFwd r0.y (c :: cs) <;> exact ⟨rfl, rfl⟩
  · rw [stepG_nonflat _ _ _ hy, upFwd_cons, if_neg hy,
      show decide (c.y > r0.y) = !decide (c.y ≤ r0.y) from by rw [← decide_not]; exact decide_eq_decide.mpr (by omega),
      show decide (c.y < r0.y) = decide (c.y ≤ r0.y) from decide_eq_decide.mpr (by omega)]
    cases decide (c.y ≤ r0.y) <;> exact ⟨rfl, rfl⟩

theorem open_flags_unfold (r0 c : Pt) (cs : List Pt) :
    (findMinima true r0 (c :: cs)).1 =
      openFlagsAt [] r0 (c :: cs) :: openAll (upFwd r0.y (c :: cs)) c VFlags.empty 1 cs := by
  unfold findMinima
  rw [if_pos rfl, openStart_eq]
  show openAll _ r0 (openFlagsAt [] r0 (c :: cs)) 0 (c :: cs) = _
  rw [openAll_cons, (step_start r0 c cs).1, (step_start r0 c cs).2]

/-- open paths: the flags the code assigns are `openFlagsAt` at every vertex -/
theorem open_flags_spec (r0 : Pt) (rtl : List Pt) (hne : rtl ≠ []) :
    (findMinima true r0 rtl).1 = specOpen [] (r0 :: rtl) := by
  obtain ⟨c, cs, rfl⟩ := List.exists_cons_of_ne_nil hne
  have hg : dirAt [r0] c cs = upFwd r0.y (c :: cs) := (dirAt_step [] r0 c cs).symm.trans (step_start r0 c cs).1
  rw [open_flags_unfold, specOpen, ← hg, open_interior cs [r0] c 1 (List.cons_ne_nil _ _)]; rfl

/-- the sequence of extremum flags along a ring: `true` = `LocalMax`, `false` = `LocalMin` -/
def events (fl : List VFlags) : List Bool :=
  fl.filterMap (fun f => if f.localMax then some true else if f.localMin then some false else none)

/-- run the toggle: from `going_up = g`, an event must be a maximum iff going up, and flips the direction; `none` = the
sequence does not alternate like that -/
def altEnd : Bool → List Bool → Option Bool
  | g, [] => some g
  | g, e :: es => if e = g then altEnd (!g) es else none

/-- neighbours differ -/
def Alt : List Bool → Prop
  | [] => True
  | [_] => True
  | a :: b :: l => a ≠ b ∧ Alt (b :: l)

theorem events_append (a b : List VFlags) : events (a ++ b) = events a ++ events b := by
  unfold events; rw [List.filterMap_append]

theorem altEnd_append (g : Bool) (a b : List Bool) : altEnd g (a ++ b) = (altEnd g a).bind (fun g' => altEnd g' b) := by
  induction a generalizing g with
  | nil => simp [altEnd]
  | cons e es ih =>
    simp only [List.cons_append, altEnd]
    split
    · exact ih _
    · rfl

theorem altEnd_spec (g g' : Bool) (evs : List Bool) (h : altEnd g evs = some g') :
    Alt evs ∧
    (evs.count true + (if g' then 1 else 0) = evs.count false + (if g then 1 else 0)) ∧
    (evs ≠ [] → evs.head? = some g ∧ evs.getLast? = some (!g')) := by
  induction evs generalizing g with
  | nil => cases Option.some.inj h; exact ⟨trivial, rfl, fun h => absurd rfl h⟩
  | cons e es ih =>
    rw [altEnd] at h
    by_cases he : e = g
    · subst he; rw [if_pos rfl] at h
      obtain ⟨ha, hc, hl⟩ := ih (!e) h
      refine ⟨?_, ?_, fun _ => ⟨rfl, ?_⟩⟩
      · cases es with
        | nil => trivial
        | cons b l =>
          obtain rfl : b = !e := Option.some.inj (hl (List.cons_ne_nil _ _)).1
          exact ⟨by cases e <;> decide, ha⟩
      · cases e <;> cases g' <;> simp at hc ⊢ <;> omega
      · cases es with
        | nil => cases Option.some.inj h; cases e <;> rfl
        | cons b l => rw [List.getLast?_cons_cons]; exact (hl (List.cons_ne_nil _ _)).2
    · rw [if_neg he] at h; nomatch h

/-- the flag of one iteration advances the toggle as the iteration advances `going_up` -/
theorem altEnd_stepFlag (g : Bool) (prev c : Pt) (fl : List VFlags) :
    altEnd g (events (stepFlag g prev VFlags.empty c :: fl)) = altEnd (stepG g prev c) (events fl) := by
  rw [stepFlag_eq]; unfold stepG
  cases g <;> cases decide (c.y > prev.y) <;> cases decide (c.y < prev.y) <;> rfl

/-- the loop toggles: the extremum flags it leaves alternate, starting with a maximum iff `going_up` -/
theorem scan_alt (g : Bool) (prev : Pt) (i : Nat) (cs : List Pt) :
    altEnd g (events (scan g prev VFlags.empty i cs).flags) = some (scan g prev VFlags.empty i cs).goingUp := by
  induction cs generalizing g prev i with
  | nil => rfl
  | cons c cs ih => rw [scan_cons]; exact (altEnd_stepFlag g prev c _).trans (ih _ c (i + 1))

theorem events_empty_list (l : List VFlags) (h : ∀ f ∈ l, f = VFlags.empty) : events l = [] :=
  List.filterMap_eq_nil_iff.mpr (fun f hf => by rw [h f hf]; rfl)

theorem closedEnd_events (g0 : Bool) (s : ScanOut) (h : s.lastFlags = VFlags.empty) :
    altEnd s.goingUp (events [(closedEnd g0 s).1]) = some g0 := by
  obtain ⟨_, _, gu, _, _⟩ := s
  cases h; cases gu <;> cases g0 <;> rfl

theorem openEnd_events (s : ScanOut) (h : s.lastFlags = VFlags.empty) :
    altEnd s.goingUp (events [(openEnd s).1]) = some (!s.goingUp) := by
  obtain ⟨_, _, gu, _, _⟩ := s
  cases h; cases gu <;> rfl

/-- closed ring: maxima and minima alternate all the way round -/
theorem closed_flags_alt (r0 : Pt) (rtl : List Pt) :
    ∃ g, altEnd g (events (findMinima false r0 rtl).1) = some g := by
  unfold findMinima
  rw [if_neg Bool.false_ne_true]
  cases closedStart r0 rtl with
  | none =>
    exact ⟨true, by rw [events_empty_list _ (fun f hf => by obtain ⟨_, _, rfl⟩ := List.mem_map.mp hf; rfl)]; rfl⟩
  | some g0 =>
    refine ⟨g0, ?_⟩
    show altEnd g0 (events (_ ++ [_])) = _
    rw [events_append, altEnd_append, scan_alt]
    exact closedEnd_events g0 _ (scan_empty_lastFlags ..)

/-- open path: start, interior extrema and end alternate -/
theorem open_flags_alt (r0 : Pt) (rtl : List Pt) (hne : rtl ≠ []) :
    ∃ gEnd, altEnd (!(upFwd r0.y rtl)) (events (findMinima true r0 rtl).1) = some gEnd := by
  obtain ⟨c, cs, rfl⟩ := List.exists_cons_of_ne_nil hne
  rw [open_flags_unfold, openFlagsAt]
  generalize upFwd r0.y (c :: cs) = g
  refine ⟨!(scan g c VFlags.empty 1 cs).goingUp, ?_⟩
  have h1 : ∀ fl, altEnd (!g) (events (({ openStart := true, localMin := g, localMax := !g } : VFlags) :: fl)) =
      altEnd g (events fl) := by cases g <;> intro fl <;> rfl
  rw [h1, openAll, events_append, altEnd_append, scan_alt]
  exact openEnd_events _ (scan_empty_lastFlags ..)

theorem closedFlagsAt_excl (v : Pt) (others : List Pt) :
    ¬ ((closedFlagsAt v others).localMax = true ∧ (closedFlagsAt v others).localMin = true) := by
  unfold closedFlagsAt
  split
  · rename_i up _ _; cases up <;> simp
  · simp

theorem specW_excl (xs w : List Pt) : ∀ f ∈ specW xs w, ¬ (f.localMax = true ∧ f.localMin = true) := by
  induction xs generalizing w with
  | nil => simp [specW]
  | cons v cs ih =>
    intro f hf
    simp only [specW, List.mem_cons] at hf
    rcases hf with rfl | hf
    · exact closedFlagsAt_excl _ _
    · exact ih _ f hf

theorem openFlagsAt_excl (pre : List Pt) (v : Pt) (post : List Pt) :
    ¬ ((openFlagsAt pre v post).localMax = true ∧ (openFlagsAt pre v post).localMin = true) := by
  unfold openFlagsAt
  split
  · cases upFwd v.y post <;> simp
  · rename_i p0 pre'; cases dirAt (p0 :: pre') v [] <;> simp
  · rename_i p0 pre' nx post'; cases dirAt (p0 :: pre') v (nx :: post') <;> simp

theorem specOpen_excl (pre xs : List Pt) : ∀ f ∈ specOpen pre xs, ¬ (f.localMax = true ∧ f.localMin = true) := by
  induction xs generalizing pre with
  | nil => simp [specOpen]
  | cons v cs ih =>
    intro f hf
    simp only [specOpen, List.mem_cons] at hf
    rcases hf with rfl | hf
    · exact openFlagsAt_excl _ _ _
    · exact ih _ f hf

/-- counting events is counting flags when no vertex carries both -/
theorem events_count (fl : List VFlags) (h : ∀ f ∈ fl, ¬ (f.localMax = true ∧ f.localMin = true)) :
    (events fl).count true = (fl.filter (·.localMax)).length ∧ (events fl).count false = (fl.filter (·.localMin)).length := by
  induction fl with
  | nil => exact ⟨rfl, rfl⟩
  | cons f fs ih =>
    obtain ⟨ih1, ih2⟩ := ih (fun g hg => h g (List.mem_cons_of_mem _ hg))
    have hf := h f List.mem_cons_self
    obtain ⟨_, _, mx, mn⟩ := f
    cases mx <;> cases mn
    · exact ⟨ih1, ih2⟩
    · exact ⟨ih1, (List.count_cons_self ..).trans (congrArg (· + 1) ih2)⟩
    · exact ⟨(List.count_cons_self ..).trans (congrArg (· + 1) ih1), ih2⟩
    · exact absurd ⟨rfl, rfl⟩ hf

/-- the points of the local minima appended for a path, in order -/
def minimaPts (o : PathOut) : List Pt := o.minima.filterMap (fun i => o.pts[i]?)

theorem minIdx_filterMap_get (pre pts : List Pt) (flags : List VFlags) (hlen : pts.length = flags.length) :
    (minIdx pre.length flags).filterMap (fun i => (pre ++ pts)[i]?) =
      ((pts.zip flags).filter (fun pf => pf.2.localMin)).map (·.1) := by
  induction flags generalizing pre pts with
  | nil => simp [minIdx]
  | cons f fs ih =>
    match pts, hlen with
    | p :: ps, hlen =>
      simp only [minIdx, List.filterMap_append, List.zip_cons_cons, List.filter_cons]
      have hrest := ih (pre ++ [p]) ps (by simpa using hlen)
      simp only [List.length_append, List.length_singleton, List.append_assoc, List.singleton_append] at hrest
      rw [hrest]
      cases hf : f.localMin
      · simp
      · simp

end Clipper.Lemmas.AddPathsRings

/-
`ProcessHorzJoins` on a heap of rings.  The rings listed from the two join ops (`Rings.focus2`); the four pointer writes
(`splice`) split a ring in two, merge two rings into one, or change nothing (`splice_on_rings`); after them nothing in the loop body
touches a `next`, a `prev` or a point (`processJoin_frame`: `FixOutRecPts`, `NewOutRec`, `SetOwner`, `MoveSplits` and the
`splits`/`owner`/`pts` assignments only write `OutPt::outrec` and `OutRec` fields; which of them leave the `splits` lists alone is
`SameSplits`, which write `owner` fields only `OnlyOwners`); `FixOutRecPts` and the ring readers stay within the model's fuel; rings
and rectilinear edges (`RectEdges`) through `DuplicateOp`, one join (`JoinFlat`) and the whole list.
Helper file of `Props/C02Horz.lean`.  Core Lean only.
-/
import ClipperVerif.Lemmas.HorzJoins
namespace Clipper.Model.HorzJoins
open Clipper

theorem Rings.rot_head {H : Heap} {a b : List Nat} {rest : List (List Nat)} (R : Rings H ((a ++ b) :: rest)) :
    Rings H ((b ++ a) :: rest) :=
  ⟨fun c hc => (List.mem_cons.1 hc).elim (fun e => e ▸ isRingF_rot a b (R.ring _ List.mem_cons_self))
      (fun hc => R.ring c (List.mem_cons_of_mem _ hc)),
   (List.Perm.append_right rest.flatten (List.perm_append_comm (l₁ := b) (l₂ := a))).trans R.perm⟩

/-- every ring of the listing `rs'` is a ring of `rs`, possibly listed from another node -/
def Relist (rs rs' : List (List Nat)) : Prop := ∀ c' ∈ rs', ∃ c ∈ rs, c'.Perm c

theorem Relist.refl (rs : List (List Nat)) : Relist rs rs := fun c hc => ⟨c, hc, List.Perm.refl _⟩

theorem Relist.trans {a b c : List (List Nat)} (h1 : Relist a b) (h2 : Relist b c) : Relist a c := by
  intro x hx
  obtain ⟨y, hy, p1⟩ := h2 x hx
  obtain ⟨z, hz, p2⟩ := h1 y hy
  exact ⟨z, hz, p1.trans p2⟩

/-- bring the ring containing `y`, one of the rings `rs₁`, to the front, listed from `y` -/
theorem Rings.focus_in {H : Heap} {rs₁ rs₂ : List (List Nat)} (R : Rings H (rs₁ ++ rs₂)) {y : Nat} (hy : y ∈ rs₁.flatten) :
    ∃ s rest, Rings H ((y :: s) :: (rest ++ rs₂)) ∧ Relist rs₁ ((y :: s) :: rest) ∧ rs₁.length = rest.length + 1 := by
  obtain ⟨c, hc, hyc⟩ := List.mem_flatten.1 hy
  obtain ⟨A, B, rfl⟩ := List.append_of_mem hc
  obtain ⟨pre, post, rfl⟩ := List.append_of_mem hyc
  refine ⟨post ++ pre, A ++ B, ?_, ?_, by simp; omega⟩
  · have : (A ++ (pre ++ y :: post) :: B ++ rs₂).Perm ((pre ++ y :: post) :: (A ++ B ++ rs₂)) := by
      simp
    exact (R.perm' this).rot_head
  · intro c' hc'
    rcases List.mem_cons.1 hc' with rfl | hc'
    · exact ⟨_, hc, List.perm_append_comm (l₁ := y :: post)⟩
    · exact ⟨c', mem_mid.2 (Or.inr hc'), List.Perm.refl _⟩

/-- bring the ring containing `x` to the front, listed from `x` -/
theorem Rings.focus {H : Heap} {rs : List (List Nat)} (R : Rings H rs) {x : Nat} (hx : x < H.ops.size) :
    ∃ t rest, Rings H ((x :: t) :: rest) ∧ Relist rs ((x :: t) :: rest) ∧ rs.length = rest.length + 1 := by
  have hx' : x ∈ rs.flatten := R.perm.mem_iff.2 (List.mem_range.2 hx)
  have R' : Rings H (rs ++ []) := by rwa [List.append_nil]
  simpa using R'.focus_in hx'

/-- two listings of the rings of one heap for a pair of nodes: on one ring, or on two -/
theorem Rings.focus2 {H : Heap} {rs : List (List Nat)} (R : Rings H rs) {x y : Nat} (hx : x < H.ops.size) (hy : y < H.ops.size)
    (hxy : x ≠ y) :
    (∃ X Y rest, Rings H ((x :: X ++ y :: Y) :: rest) ∧ Relist rs ((x :: X ++ y :: Y) :: rest) ∧ rs.length = rest.length + 1) ∨
    (∃ X Y rest, Rings H ((x :: X) :: (y :: Y) :: rest) ∧ Relist rs ((x :: X) :: (y :: Y) :: rest) ∧
      rs.length = rest.length + 2) := by
  obtain ⟨t, rest, R1, L1, n1⟩ := R.focus hx
  by_cases hyt : y ∈ t
  · obtain ⟨X, Y, rfl⟩ := List.append_of_mem hyt
    exact Or.inl ⟨X, Y, rest, R1, L1, n1⟩
  · have hyr : y ∈ rest.flatten := by
      rcases List.mem_append.1 (R1.perm.mem_iff.2 (List.mem_range.2 hy)) with h | h
      · exact absurd h (fun h => (List.mem_cons.1 h).elim (fun e => hxy e.symm) hyt)
      · exact h
    obtain ⟨s, rest', R2, L2, n2⟩ := (R1.perm' (List.perm_append_singleton _ _).symm).focus_in hyr
    refine Or.inr ⟨t, s, rest', R2.perm' (List.perm_append_singleton (x :: t) ((y :: s) :: rest')), L1.trans ?_, by omega⟩
    intro c' hc'
    rcases List.mem_cons.1 hc' with rfl | hc'
    · exact ⟨_, List.mem_cons_self, List.Perm.refl _⟩
    · obtain ⟨c, hc, p⟩ := L2 c' hc'
      exact ⟨c, List.mem_cons_of_mem _ hc, p⟩

theorem splice_ok_eqs {H H' : Heap} {j : HorzJoin} {b1 b2 : Nat} (h : splice H j = .ok (H', b1, b2)) :
    nextOf H j.op1 = some b1 ∧ prevOf H j.op2 = some b2 ∧
    nextOf H' = upd (upd (nextOf H) j.op1 j.op2) b2 b1 ∧ prevOf H' = upd (upd (prevOf H) j.op2 j.op1) b1 b2 ∧
    orecOf H' = orecOf H ∧ ptOf H' = ptOf H ∧ H'.recs = H.recs ∧ H'.ops.size = H.ops.size := by
  unfold splice at h
  simp only [bind_ok] at h
  obtain ⟨n1, h1, n2, h2, H1, e1, H2, e2, H3, e3, H4, e4, h⟩ := h
  simp only [pure, Except.pure, Except.ok.injEq, Prod.mk.injEq] at h
  obtain ⟨rfl, rfl, rfl⟩ := h
  obtain ⟨a1, a2, a3, a4, a5, a6⟩ := upd_next_eqs e1
  obtain ⟨b1, b2, b3, b4, b5, b6⟩ := upd_prev_eqs e2
  obtain ⟨c1, c2, c3, c4, c5, c6⟩ := upd_prev_eqs e3
  obtain ⟨d1, d2, d3, d4, d5, d6⟩ := upd_next_eqs e4
  exact ⟨nextOf_some.2 ⟨n1, node_ok.1 h1, rfl⟩, prevOf_some.2 ⟨n2, node_ok.1 h2, rfl⟩, by rw [d1, c1, b1, a1],
    by rw [d2, c2, b2, a2], by rw [d3, c3, b3, a3], by rw [d4, c4, b4, a4], by rw [d5, c5, b5, a5], by rw [d6, c6, b6, a6]⟩

theorem splice_total {H : Heap} {j : HorzJoin} {n1 n2 : Node} (h1 : H.ops[j.op1]? = some n1) (h2 : H.ops[j.op2]? = some n2)
    (hb1 : n1.next < H.ops.size) (hb2 : n2.prev < H.ops.size) : ∃ H', splice H j = .ok (H', n1.next, n2.prev) := by
  obtain ⟨H1, e1⟩ := updNode_of_lt H (fun x => { x with next := j.op2 }) (lt_of_node h1)
  have z1 := (updNode_ok e1).2.2.1
  obtain ⟨H2, e2⟩ := updNode_of_lt H1 (fun x => { x with prev := j.op1 }) (i := j.op2) (z1 ▸ lt_of_node h2)
  have z2 := (updNode_ok e2).2.2.1
  obtain ⟨H3, e3⟩ := updNode_of_lt H2 (fun x => { x with prev := n2.prev }) (i := n1.next) (z2 ▸ z1 ▸ hb1)
  have z3 := (updNode_ok e3).2.2.1
  obtain ⟨H4, e4⟩ := updNode_of_lt H3 (fun x => { x with next := n1.next }) (i := n2.prev) (z3 ▸ z2 ▸ z1 ▸ hb2)
  exact ⟨H4, by simp only [splice, node_ok.2 h1, node_ok.2 h2, bind, Except.bind, e1, e2, e3, e4, pure, Except.pure]⟩

/-- the surgery on a heap of rings, given what it does to the rings `cs` on which the four nodes it writes lie -/
theorem splice_on_rings {H : Heap} {j : HorzJoin} {cs cs' rest : List (List Nat)} {b1 b2 : Nat} (R : Rings H (cs ++ rest))
    (m1 : j.op1 ∈ cs.flatten) (m2 : j.op2 ∈ cs.flatten) (mb1 : b1 ∈ cs.flatten) (mb2 : b2 ∈ cs.flatten)
    (l1 : nextOf H j.op1 = some b1) (l2 : prevOf H j.op2 = some b2) (hperm : cs'.flatten.Perm cs.flatten)
    (hnew : ∀ c ∈ cs', IsRingF (upd (upd (nextOf H) j.op1 j.op2) b2 b1) (upd (upd (prevOf H) j.op2 j.op1) b1 b2) c) :
    ∃ H', splice H j = .ok (H', b1, b2) ∧ Rings H' (cs' ++ rest) ∧
      orecOf H' = orecOf H ∧ ptOf H' = ptOf H ∧ H'.recs = H.recs ∧ H'.ops.size = H.ops.size := by
  have lt : ∀ a ∈ cs.flatten, a < H.ops.size := fun a ha =>
    List.mem_range.1 (R.perm.mem_iff.1 (by rw [List.flatten_append]; exact List.mem_append_left _ ha))
  obtain ⟨n1, hn1⟩ := node_of_lt (lt _ m1)
  obtain ⟨n2, hn2⟩ := node_of_lt (lt _ m2)
  obtain ⟨H', hs⟩ := splice_total hn1 hn2 (next_eq hn1 l1 ▸ lt _ mb1) (prev_eq hn2 l2 ▸ lt _ mb2)
  rw [next_eq hn1 l1, prev_eq hn2 l2] at hs
  obtain ⟨_, _, en, ep, eo, ept, er, es⟩ := splice_ok_eqs hs
  refine ⟨H', hs, Rings.replace (extra := []) R (fun c hc => by rw [en, ep]; exact hnew c hc) hperm
    (by rw [es]; exact List.Perm.refl _) ?_ ?_, eo, ept, er, es⟩
  · intro a _ ha; rw [en, upd_ne _ _ (fun (e : a = b2) => ha (e ▸ mb2)), upd_ne _ _ (fun (e : a = j.op1) => ha (e ▸ m1))]
  · intro a _ ha; rw [ep, upd_ne _ _ (fun (e : a = b1) => ha (e ▸ mb1)), upd_ne _ _ (fun (e : a = j.op2) => ha (e ▸ m2))]

/-- **split**: both join ops on the ring `op1 :: X ++ op2 :: Y`, `X ≠ []` (i.e. `op1->next != op2`).
The surgery succeeds, `op1b`/`op2b` are the first and last node of `X`, and the ring falls into `op1 :: op2 :: Y` and `X`;
all other rings, all points and all `outrec` fields are unchanged. -/
theorem splice_rings_same {H : Heap} {j : HorzJoin} {X Y : List Nat} {x0 xl : Nat} {rest : List (List Nat)}
    (R : Rings H ((j.op1 :: X ++ j.op2 :: Y) :: rest)) (hx0 : X.head? = some x0) (hxl : X.getLast? = some xl) :
    ∃ H', splice H j = .ok (H', x0, xl) ∧ Rings H' ((j.op1 :: j.op2 :: Y) :: X :: rest) ∧
      orecOf H' = orecOf H ∧ ptOf H' = ptOf H ∧ H'.recs = H.recs ∧ H'.ops.size = H.ops.size := by
  obtain ⟨rY, rX, l1, l2⟩ := splice_same (R.ring _ List.mem_cons_self) hx0 hxl
  refine splice_on_rings (cs := [j.op1 :: X ++ j.op2 :: Y]) (cs' := [j.op1 :: j.op2 :: Y, X]) R (by simp) (by simp)
    (by simp [List.mem_of_head? hx0]) (by simp [List.mem_of_getLast? hxl]) l1.1 l2.2 ?_
    fun c hc => (List.mem_cons.1 hc).elim (· ▸ rY) fun h => List.mem_singleton.1 h ▸ rX
  simp only [List.flatten_cons, List.flatten_nil, List.append_nil, List.cons_append]
  exact List.Perm.cons _ (List.perm_append_comm (l₁ := j.op2 :: Y))

/-- **merge**: the join ops on two different rings `op1 :: X` and `op2 :: Y`.  The surgery succeeds and the two rings become
the one ring `op1 :: op2 :: Y ++ X`. -/
theorem splice_rings_diff {H : Heap} {j : HorzJoin} {X Y : List Nat} {rest : List (List Nat)}
    (R : Rings H ((j.op1 :: X) :: (j.op2 :: Y) :: rest)) :
    ∃ H' op1b op2b, splice H j = .ok (H', op1b, op2b) ∧ (X ++ [j.op1]).head? = some op1b ∧ (j.op2 :: Y).getLast? = some op2b ∧
      Rings H' ((j.op1 :: j.op2 :: (Y ++ X)) :: rest) ∧
      orecOf H' = orecOf H ∧ ptOf H' = ptOf H ∧ H'.recs = H.recs ∧ H'.ops.size = H.ops.size := by
  obtain ⟨x0, hx0⟩ := exists_head?_snoc X j.op1
  obtain ⟨yl, hyl⟩ := exists_getLast?_cons j.op2 Y
  have m0 : x0 ∈ j.op1 :: X := (List.perm_append_comm (l₁ := X) (l₂ := [j.op1])).mem_iff.1 (List.mem_of_head? hx0)
  have hnd : ((j.op1 :: X) ++ ((j.op2 :: Y) ++ rest.flatten)).Nodup := R.nodup
  obtain ⟨rXY, l1, l2⟩ := splice_diff (R.ring _ List.mem_cons_self) (R.ring _ (List.mem_cons_of_mem _ List.mem_cons_self))
    (fun a ha b hb => (List.nodup_append.1 hnd).2.2 a ha b (List.mem_append_left _ hb)) hx0 hyl
  obtain ⟨H', hs, R', rest'⟩ := splice_on_rings (cs := [j.op1 :: X, j.op2 :: Y]) (cs' := [j.op1 :: j.op2 :: (Y ++ X)]) R
    (by simp) (by simp) (List.mem_flatten.2 ⟨_, List.mem_cons_self, m0⟩)
    (List.mem_flatten.2 ⟨_, List.mem_cons_of_mem _ List.mem_cons_self, List.mem_of_getLast? hyl⟩) l1.1 l2.2
    (by simp only [List.flatten_cons, List.flatten_nil, List.append_nil, List.cons_append]
        exact List.Perm.cons _ (List.perm_append_comm (l₁ := j.op2 :: Y)))
    fun c hc => List.mem_singleton.1 hc ▸ rXY
  exact ⟨H', x0, yl, hs, hx0, hyl, R', rest'⟩

/-- the surgery when `op1->next == op2` already: nothing changes -/
theorem splice_degenerate {H : Heap} {j : HorzJoin} {Y : List Nat} {rest : List (List Nat)}
    (R : Rings H ((j.op1 :: j.op2 :: Y) :: rest)) :
    ∃ H', splice H j = .ok (H', j.op2, j.op1) ∧ Rings H' ((j.op1 :: j.op2 :: Y) :: rest) ∧
      orecOf H' = orecOf H ∧ ptOf H' = ptOf H ∧ H'.recs = H.recs ∧ H'.ops.size = H.ops.size := by
  have hr := R.ring _ List.mem_cons_self
  have hl := hr.next_head
  exact splice_on_rings (cs := [j.op1 :: j.op2 :: Y]) (cs' := [j.op1 :: j.op2 :: Y]) R (by simp) (by simp) (by simp) (by simp)
    hl.1 hl.2 (List.Perm.refl _) fun c hc => by
      rw [upd_self hl.1, upd_self hl.1, upd_self hl.2, upd_self hl.2]; exact List.mem_singleton.1 hc ▸ hr

/-- same links and points (the `outrec` fields, `horz` marks and the record table may differ) -/
def SameLinks (H H' : Heap) : Prop :=
  nextOf H' = nextOf H ∧ prevOf H' = prevOf H ∧ ptOf H' = ptOf H ∧ H'.ops.size = H.ops.size

theorem SameLinks.refl (H : Heap) : SameLinks H H := ⟨rfl, rfl, rfl, rfl⟩

theorem SameLinks.trans {H1 H2 H3 : Heap} (a : SameLinks H1 H2) (b : SameLinks H2 H3) : SameLinks H1 H3 :=
  ⟨b.1.trans a.1, b.2.1.trans a.2.1, b.2.2.1.trans a.2.2.1, b.2.2.2.trans a.2.2.2⟩

theorem SameLinks.of_ops_eq {H H' : Heap} (h : H'.ops = H.ops) : SameLinks H H' := by
  unfold SameLinks nextOf prevOf ptOf; rw [h]; exact ⟨rfl, rfl, rfl, rfl⟩

theorem sameLinks_updRec {H H' : Heap} {i : Nat} {f : ORec → ORec} (h : H.updRec i f = .ok H') : SameLinks H H' :=
  SameLinks.of_ops_eq (updRec_ok h).2.1

theorem sameLinks_updOrec {H H' : Heap} {i v : Nat} (h : H.updNode i (fun x => { x with orec := v }) = .ok H') : SameLinks H H' := by
  obtain ⟨a, b, _, d, _, f⟩ := upd_orec_eqs h
  exact ⟨a, b, d, f⟩

theorem sameLinks_updHorz {H H' : Heap} {i : Nat} {v : Bool} (h : H.updNode i (fun x => { x with horz := v }) = .ok H') : SameLinks H H' := by
  obtain ⟨a, b, _, d, _, f⟩ := upd_horz_eqs h
  exact ⟨a, b, d, f⟩

/-- `outrec->splits` as a list (`[]` for a null pointer), as in `Model/Owner.lean` -/
def splitsOf (H : Heap) (i : Nat) : List Nat := ((H.recs[i]?).map (fun r => r.splits.getD [])).getD []

/-- nothing changed in any `splits` list -/
def SameSplits (H H' : Heap) : Prop := ∀ k, splitsOf H' k = splitsOf H k

theorem SameSplits.refl (H : Heap) : SameSplits H H := fun _ => rfl
theorem SameSplits.trans {A B C : Heap} (h1 : SameSplits A B) (h2 : SameSplits B C) : SameSplits A C :=
  fun k => (h2 k).trans (h1 k)

theorem sameSplits_of_recs {H H' : Heap} (h : H'.recs = H.recs) : SameSplits H H' := by
  intro k; unfold splitsOf; rw [h]

theorem sameSplits_updRec {H H' : Heap} {i : Nat} {g : ORec → ORec} (h : H.updRec i g = .ok H')
    (hg : ∀ r, (g r).splits = r.splits) : SameSplits H H' := fun k =>
  congrArg (·.getD []) (updRec_keep h (fun r => r.splits.getD []) (fun r => by rw [hg r]) k)

/-- `FixOutRecPts` writes `outrec` fields only -/
theorem fixLoop_frame (ri start : Nat) : ∀ (fuel : Nat) (H H' : Heap) (cur : Nat), fixLoop ri start fuel H cur = .ok H' →
    SameLinks H H' ∧ H'.recs = H.recs
  | 0, _, _, _, h => by simp [fixLoop] at h
  | f + 1, H, H', cur, h => by
    unfold fixLoop at h
    cases hn : H.node cur with
    | error e => simp [hn] at h
    | ok n =>
      simp only [hn] at h
      cases hu : H.updNode cur (fun x => { x with orec := ri }) with
      | error e => simp [hu] at h
      | ok H1 =>
        simp only [hu] at h
        have s1 := sameLinks_updOrec hu
        have r1 := (upd_orec_eqs hu).2.2.2.2.1
        split at h
        · cases h; exact ⟨s1, r1⟩
        · have ih := fixLoop_frame ri start f H1 H' n.next h
          exact ⟨s1.trans ih.1, ih.2.trans r1⟩

theorem fixOutRecPts_frame {H H' : Heap} {ri : Nat} (h : fixOutRecPts H ri = .ok H') : SameLinks H H' ∧ H'.recs = H.recs := by
  unfold fixOutRecPts at h
  cases hr : H.orec ri with
  | error e => simp [hr] at h
  | ok r =>
    simp only [hr] at h
    cases hp : r.pts with
    | none => simp [hp] at h
    | some p => simp only [hp] at h; exact fixLoop_frame _ _ _ _ _ _ h

/-- the two heaps differ at most in `owner` fields of records -/
def OnlyOwners (H H' : Heap) : Prop :=
  H'.ops = H.ops ∧ H'.recs.size = H.recs.size ∧
  ∀ k : Nat, (H'.recs[k]?).map (fun r => { r with owner := none }) = (H.recs[k]?).map (fun r => { r with owner := none })

theorem OnlyOwners.refl (H : Heap) : OnlyOwners H H := ⟨rfl, rfl, fun _ => rfl⟩
theorem OnlyOwners.trans {A B C : Heap} (h1 : OnlyOwners A B) (h2 : OnlyOwners B C) : OnlyOwners A C :=
  ⟨h2.1.trans h1.1, h2.2.1.trans h1.2.1, fun k => (h2.2.2 k).trans (h1.2.2 k)⟩

theorem onlyOwners_updRec {H H' : Heap} {i : Nat} {o : Option Nat} (h : H.updRec i (fun x => { x with owner := o }) = .ok H') :
    OnlyOwners H H' :=
  ⟨(updRec_ok h).2.1, (updRec_ok h).2.2.1, updRec_keep h _ fun _ => rfl⟩

theorem skipDeadOwners_onlyOwners (no : Nat) : ∀ (f : Nat) (H H' : Heap), skipDeadOwners no f H = .ok H' → OnlyOwners H H'
  | 0, _, _, h => by simp [skipDeadOwners] at h
  | f + 1, H, H', h => by
    unfold skipDeadOwners at h
    cases hr : H.orec no with
    | error e => simp [hr] at h
    | ok r =>
      simp only [hr] at h
      cases ho : r.owner with
      | none => simp only [ho] at h; cases h; exact OnlyOwners.refl _
      | some o =>
        simp only [ho] at h
        cases hoo : H.orec o with
        | error e => simp [hoo] at h
        | ok orc =>
          simp only [hoo] at h
          split at h
          · cases h; exact OnlyOwners.refl _
          · cases hu : H.updRec no (fun x => { x with owner := orc.owner }) with
            | error e => simp [hu] at h
            | ok H1 =>
              simp only [hu] at h
              exact (onlyOwners_updRec hu).trans (skipDeadOwners_onlyOwners no f H1 H' h)

theorem setOwner_onlyOwners {H H' : Heap} {i no : Nat} (h : setOwner H i no = .ok H') : OnlyOwners H H' := by
  unfold setOwner at h
  simp only [bind_ok] at h
  obtain ⟨H1, h1, valid, _, r, _, H2, h2, h3⟩ := h
  have b : OnlyOwners H1 H2 := by
    unfold breakCycle at h2
    split at h2
    · cases h2; exact OnlyOwners.refl _
    · exact onlyOwners_updRec h2
  exact ((skipDeadOwners_onlyOwners _ _ _ _ h1).trans b).trans (onlyOwners_updRec h3)

theorem moveSplits_ops {H H' : Heap} {a b : Nat} (h : moveSplits H a b = .ok H') : H'.ops = H.ops := by
  unfold moveSplits at h
  simp only [bind_ok] at h
  obtain ⟨fr, _, h⟩ := h
  split at h
  · cases h; rfl
  · simp only [bind_ok] at h
    obtain ⟨H1, h1, h2⟩ := h
    exact (updRec_ok h2).2.1.trans (updRec_ok h1).2.1

theorem keepPts_frame {H H' : Heap} {o1 o2 op1 : Nat} (h : keepPts H o1 o2 op1 = .ok H') :
    SameLinks H H' ∧ SameSplits H H' ∧ H'.recs.size = H.recs.size := by
  unfold keepPts at h
  cases hp : ptsOfRec H o1 with
  | error e => simp [hp] at h
  | ok p1 =>
    simp only [hp] at h
    cases hn : H.node p1 with
    | error e => simp [hn] at h
    | ok np1 =>
      simp only [hn] at h
      split at h
      · cases hu : H.updRec o1 (fun x => { x with pts := some op1 }) with
        | error e => simp [hu] at h
        | ok H1 =>
          simp only [hu] at h
          have er := (upd_orec_eqs h).2.2.2.2.1
          exact ⟨(sameLinks_updRec hu).trans (sameLinks_updOrec h),
            (sameSplits_updRec hu (fun _ => rfl)).trans (sameSplits_of_recs er), by rw [er]; exact (updRec_ok hu).2.2.1⟩
      · cases h; exact ⟨SameLinks.refl _, SameSplits.refl _, rfl⟩

theorem splitOwnerChoice_frame {H H' : Heap} {o1 o2 p1 p2 : Nat} {a b : Bool} (h : splitOwnerChoice H o1 o2 p1 p2 a b = .ok H') :
    SameLinks H H' ∧ SameSplits H H' ∧ H'.recs.size = H.recs.size := by
  -- every write to a record sets `pts` or `owner`
  have upd : ∀ {K K' : Heap} {i : Nat} {g : ORec → ORec}, K.updRec i g = .ok K' → (∀ r, (g r).splits = r.splits) →
      SameLinks K K' ∧ SameSplits K K' ∧ K'.recs.size = K.recs.size :=
    fun hu hg => ⟨sameLinks_updRec hu, sameSplits_updRec hu hg, (updRec_ok hu).2.2.1⟩
  have fix : ∀ {K K' : Heap} {i : Nat}, fixOutRecPts K i = .ok K' → SameLinks K K' ∧ SameSplits K K' ∧ K'.recs.size = K.recs.size :=
    fun hu => ⟨(fixOutRecPts_frame hu).1, sameSplits_of_recs (fixOutRecPts_frame hu).2, by rw [(fixOutRecPts_frame hu).2]⟩
  have tr : ∀ {A B C : Heap}, SameLinks A B ∧ SameSplits A B ∧ B.recs.size = A.recs.size →
      SameLinks B C ∧ SameSplits B C ∧ C.recs.size = B.recs.size → SameLinks A C ∧ SameSplits A C ∧ C.recs.size = A.recs.size :=
    fun x y => ⟨x.1.trans y.1, x.2.1.trans y.2.1, y.2.2.trans x.2.2⟩
  unfold splitOwnerChoice at h
  split at h
  · cases h1 : H.updRec o1 (fun x => { x with pts := some p2 }) with
    | error e => simp [h1] at h
    | ok H1 =>
      simp only [h1] at h
      cases h2 : H1.updRec o2 (fun x => { x with pts := some p1 }) with
      | error e => simp [h2] at h
      | ok H2 =>
        simp only [h2] at h
        cases h3 : fixOutRecPts H2 o1 with
        | error e => simp [h3] at h
        | ok H3 =>
          simp only [h3] at h
          cases h4 : fixOutRecPts H3 o2 with
          | error e => simp [h4] at h
          | ok H4 =>
            simp only [h4] at h
            exact tr (tr (tr (tr (upd h1 fun _ => rfl) (upd h2 fun _ => rfl)) (fix h3)) (fix h4)) (upd h fun _ => rfl)
  · split at h
    · exact upd h fun _ => rfl
    · cases hr : H.orec o1 with
      | error e => simp [hr] at h
      | ok r1 => simp only [hr] at h; exact upd h fun _ => rfl

theorem splitOwners_frame {inside : List Pt → List Pt → Bool} {H H' : Heap} {o1 o2 : Nat}
    (h : splitOwners inside H o1 o2 = .ok H') : SameLinks H H' := by
  unfold splitOwners at h
  simp only [bind_ok] at h
  obtain ⟨p1, _, p2, _, ring1, _, ring2, _, H1, h1, h2⟩ := h
  exact (splitOwnerChoice_frame h1).1.trans (sameLinks_updRec h2)

theorem splitBranch_frame {inside : List Pt → List Pt → Bool} {tree : Bool} {H H' : Heap} {j : HorzJoin} {or1 : Option Nat} {op1b : Nat}
    (h : splitBranch inside tree H j or1 op1b = .ok H') : SameLinks H H' := by
  unfold splitBranch at h
  simp only [bind_ok] at h
  obtain ⟨H1, h1, H2, h2, h⟩ := h
  have s0 : SameLinks H (newOutRec H).1 := SameLinks.of_ops_eq rfl
  have s1 := sameLinks_updRec h1
  have s2 := (fixOutRecPts_frame h2).1
  cases or1 with
  | none => simp at h
  | some o1 =>
    simp only [bind_ok] at h
    obtain ⟨H3, h3, h⟩ := h
    have s3 := (keepPts_frame h3).1
    cases tree with
    | true => simp only [if_true] at h; exact (((s0.trans s1).trans s2).trans s3).trans (splitOwners_frame h)
    | false => simp only [Bool.false_eq_true, if_false] at h; exact (((s0.trans s1).trans s2).trans s3).trans (sameLinks_updRec h)

theorem mergeBranch_frame {tree : Bool} {H H' : Heap} {or1 or2 : Option Nat} (h : mergeBranch tree H or1 or2 = .ok H') : SameLinks H H' := by
  unfold mergeBranch at h
  cases or2 with
  | none => simp at h
  | some o2 =>
    simp only [bind_ok] at h
    obtain ⟨H1, h1, h⟩ := h
    have s1 := sameLinks_updRec h1
    cases tree with
    | true =>
      simp only [if_true] at h
      cases or1 with
      | none => simp at h
      | some o1 =>
        simp only [bind_ok] at h
        obtain ⟨H2, h2, h3⟩ := h
        exact (s1.trans (SameLinks.of_ops_eq (setOwner_onlyOwners h2).1)).trans (SameLinks.of_ops_eq (moveSplits_ops h3))
    | false => simp only [Bool.false_eq_true, if_false] at h; exact s1.trans (sameLinks_updRec h)

/-- **frame of one join**: whatever branch is taken, the links and points after `processJoin` are those right after the surgery -/
theorem processJoin_frame {inside : List Pt → List Pt → Bool} {tree : Bool} {H H' : Heap} {j : HorzJoin}
    (h : processJoin inside tree H j = .ok H') :
    ∃ Hs b1 b2, splice H j = .ok (Hs, b1, b2) ∧ SameLinks Hs H' := by
  unfold processJoin at h
  simp only [bind_ok] at h
  obtain ⟨n1, _, or1, _, n2, _, or2, _, ⟨Hs, b1, b2⟩, hs, h⟩ := h
  refine ⟨Hs, b1, b2, hs, ?_⟩
  simp only at h
  split at h
  · exact splitBranch_frame h
  · exact mergeBranch_frame h

/-- the loop of `FixOutRecPts` from `cur`, with `todo` still ahead on the ring that started at `a` -/
theorem fixLoop_spec (ri a : Nat) : ∀ (todo : List Nat) (cur : Nat) (H : Heap) (fuel : Nat),
    ChainF (nextOf H) (prevOf H) (cur :: todo ++ [a]) → a ∉ todo → todo.length + 1 ≤ fuel →
    ∃ H', fixLoop ri a fuel H cur = .ok H' ∧ orecOf H' = (fun i => if i ∈ cur :: todo then some ri else orecOf H i)
  | [], cur, H, fuel, hch, _, hf => by
    obtain ⟨f, rfl⟩ : ∃ f, fuel = f + 1 := ⟨fuel - 1, by simp at hf; omega⟩
    have hl : LinkF (nextOf H) (prevOf H) cur a := by simpa using hch
    obtain ⟨n, hn, hnx⟩ := nextOf_some.1 hl.1
    obtain ⟨H1, h1⟩ := updNode_of_lt H (fun x => { x with orec := ri }) (lt_of_node hn)
    refine ⟨H1, ?_, ?_⟩
    · unfold fixLoop
      simp [node_ok.2 hn, h1, hnx]
    · rw [(upd_orec_eqs h1).2.2.1]; funext i; simp [upd]
  | t0 :: todo, cur, H, fuel, hch, hat, hf => by
    obtain ⟨f, rfl⟩ : ∃ f, fuel = f + 1 := ⟨fuel - 1, by simp at hf; omega⟩
    have hch' : LinkF (nextOf H) (prevOf H) cur t0 ∧ ChainF (nextOf H) (prevOf H) (t0 :: todo ++ [a]) := by
      simpa using hch
    obtain ⟨n, hn, hnx⟩ := nextOf_some.1 hch'.1.1
    obtain ⟨H1, h1⟩ := updNode_of_lt H (fun x => { x with orec := ri }) (lt_of_node hn)
    obtain ⟨en, ep, eo, _⟩ := upd_orec_eqs h1
    have hne : t0 ≠ a := fun e => hat (by simp [e])
    have hch1 : ChainF (nextOf H1) (prevOf H1) (t0 :: todo ++ [a]) := by rw [en, ep]; exact hch'.2
    obtain ⟨H', h', eo'⟩ := fixLoop_spec ri a todo t0 H1 f hch1 (fun h => hat (List.mem_cons_of_mem _ h)) (by simp at hf ⊢; omega)
    refine ⟨H', ?_, ?_⟩
    · unfold fixLoop
      simp [node_ok.2 hn, h1, hnx, hne, h']
    · rw [eo', eo]; funext i
      by_cases h1 : i = cur
      · subst h1; simp [upd]
      · by_cases h2 : i ∈ t0 :: todo
        · simp [h2]
        · simp [h2, h1, upd]

/-- **`FixOutRecPts(outrec)` on a heap of rings**: with `outrec->pts = a` on the ring `a :: t`, it terminates within the model's
fuel and sets the `outrec` field of exactly the `OutPt`s of that ring; links, points and the record table are unchanged. -/
theorem fixOutRecPts_spec {H : Heap} {rs : List (List Nat)} (R : Rings H rs) {ri a : Nat} {t : List Nat} (hc : (a :: t) ∈ rs)
    {rc : ORec} (hrc : H.recs[ri]? = some rc) (hp : rc.pts = some a) :
    ∃ H', fixOutRecPts H ri = .ok H' ∧ SameLinks H H' ∧ H'.recs = H.recs ∧
      orecOf H' = (fun i => if i ∈ a :: t then some ri else orecOf H i) := by
  have hring := R.ring _ hc
  have hlen := R.ring_length_le hc
  obtain ⟨H', h, eo⟩ := fixLoop_spec ri a t a H H.fuel hring.2 (List.nodup_cons.1 hring.1).1
    (by simp [Heap.fuel] at hlen ⊢; omega)
  have hf : fixOutRecPts H ri = .ok H' := by simp [fixOutRecPts, Heap.orec, hrc, hp, h]
  exact ⟨H', hf, (fixOutRecPts_frame hf).1, (fixOutRecPts_frame hf).2, eo⟩

theorem ringFrom_spec (a : Nat) : ∀ (todo : List Nat) (cur : Nat) (H : Heap) (fuel : Nat),
    ChainF (nextOf H) (prevOf H) (cur :: todo ++ [a]) → a ∉ todo → todo.length + 1 ≤ fuel →
    ringFrom H a fuel cur = .ok (cur :: todo)
  | [], cur, H, fuel, hch, _, hf => by
    obtain ⟨f, rfl⟩ : ∃ f, fuel = f + 1 := ⟨fuel - 1, by simp at hf; omega⟩
    have hl : LinkF (nextOf H) (prevOf H) cur a := by simpa using hch
    obtain ⟨n, hn, hnx⟩ := nextOf_some.1 hl.1
    unfold ringFrom
    simp [node_ok.2 hn, hnx]
  | t0 :: todo, cur, H, fuel, hch, hat, hf => by
    obtain ⟨f, rfl⟩ : ∃ f, fuel = f + 1 := ⟨fuel - 1, by simp at hf; omega⟩
    have hch' : LinkF (nextOf H) (prevOf H) cur t0 ∧ ChainF (nextOf H) (prevOf H) (t0 :: todo ++ [a]) := by
      simpa using hch
    obtain ⟨n, hn, hnx⟩ := nextOf_some.1 hch'.1.1
    have hne : t0 ≠ a := fun e => hat (by simp [e])
    have ih := ringFrom_spec a todo t0 H f hch'.2 (fun h => hat (List.mem_cons_of_mem _ h)) (by simp at hf ⊢; omega)
    unfold ringFrom
    simp [node_ok.2 hn, hnx, hne, ih]

theorem ring_spec {H : Heap} {rs : List (List Nat)} (R : Rings H rs) {a : Nat} {t : List Nat} (hc : (a :: t) ∈ rs) :
    ring H a = .ok (a :: t) := by
  have hring := R.ring _ hc
  have hlen := R.ring_length_le hc
  unfold ring
  exact ringFrom_spec a t a H H.fuel hring.2 (List.nodup_cons.1 hring.1).1 (by simp [Heap.fuel] at hlen ⊢; omega)

theorem ptsOf_total {H : Heap} : ∀ (l : List Nat), (∀ i ∈ l, i < H.ops.size) → ∃ ps, ptsOf H l = .ok ps
  | [], _ => ⟨[], rfl⟩
  | i :: is, h => by
    obtain ⟨n, hn⟩ := node_of_lt (h i (by simp))
    obtain ⟨ps, hps⟩ := ptsOf_total is (fun x hx => h x (List.mem_cons_of_mem _ hx))
    exact ⟨n.pt :: ps, by simp [ptsOf, node_ok.2 hn, hps]⟩

/-- `ringPts` (the argument handed to `Path1InsidePath2`) is defined for every `OutPt` of a heap of rings -/
theorem ringPts_total {H : Heap} {rs : List (List Nat)} (R : Rings H rs) {a : Nat} (ha : a < H.ops.size) : ∃ ps, ringPts H a = .ok ps := by
  obtain ⟨t, rest, R1, _, _⟩ := R.focus ha
  have hc : (a :: t) ∈ (a :: t) :: rest := by simp
  obtain ⟨ps, hps⟩ := ptsOf_total (H := H) (a :: t) (fun i hi => R1.mem_lt hc hi)
  exact ⟨ps, by unfold ringPts; rw [ring_spec R1 hc]; exact hps⟩

theorem Rings.of_sameLinks {H H' : Heap} {rs : List (List Nat)} (s : SameLinks H H') (R : Rings H rs) : Rings H' rs := by
  obtain ⟨a, b, _, d⟩ := s
  exact ⟨by rw [a, b]; exact R.ring, by rw [d]; exact R.perm⟩

/-- every edge `a → a->next` of the heap is horizontal or vertical (or degenerate) -/
def RectEdges (H : Heap) : Prop := ∀ a b, nextOf H a = some b → Aligned (ptOf H) a b

theorem RectEdges.of_sameLinks {H H' : Heap} (s : SameLinks H H') (r : RectEdges H) : RectEdges H' := by
  intro a b hab
  rw [s.1] at hab; rw [s.2.2.1]; exact r a b hab

/-- on a heap of rings, "every edge is rectilinear" says that every ring is a rectilinear closed path -/
theorem rectEdges_rings {H : Heap} {rs : List (List Nat)} (R : Rings H rs) (r : RectEdges H) : ∀ c ∈ rs, RectRing (ptOf H) c := by
  intro c hc
  have hring := R.ring c hc
  cases c with
  | nil => trivial
  | cons a t =>
    have := hring.2
    rw [chainF_eq_chainR] at this
    exact chainR_mono _ (fun x y _ _ hl => r x y hl.1) this

theorem rings_rectEdges {H : Heap} {rs : List (List Nat)} (R : Rings H rs) (r : ∀ c ∈ rs, RectRing (ptOf H) c) : RectEdges H := by
  intro a b hab
  obtain ⟨n, hn, _⟩ := nextOf_some.1 hab
  obtain ⟨c, hc, hac⟩ := R.exists_ring (lt_of_node hn)
  obtain ⟨pre, post, rfl⟩ := List.append_of_mem hac
  obtain ⟨s, hs⟩ := exists_head?_snoc (post ++ pre) a
  obtain rfl : s = b := Option.some.inj (((R.ring _ hc).link_succ hs).1.symm.trans hab)
  exact ((rectRing_iff hs List.getLast?_concat).1 (rectRing_rot [a] (post ++ pre) (rectRing_rot pre (a :: post) (r _ hc)))).2

/-- **`DuplicateOp` on any valid `OutPt` of a heap of rings**: it succeeds; the result is again a heap of rings (the ring of `op`
has one more node, next to `op`, all others are unchanged); the new node is the next free index and carries `op`'s point and
`outrec`; if every edge was rectilinear, every edge still is. -/
theorem duplicateOp_keeps {H : Heap} {rs : List (List Nat)} (R : Rings H rs) {op : Nat} (hop : op < H.ops.size) (after : Bool) :
    ∃ H' rs', duplicateOp H op after = .ok (H', H.ops.size) ∧ Rings H' rs' ∧ rs'.length = rs.length ∧
      ptOf H' = (fun j => if j = H.ops.size then ptOf H op else ptOf H j) ∧
      orecOf H' = (fun j => if j = H.ops.size then orecOf H op else orecOf H j) ∧
      H'.recs = H.recs ∧ H'.ops.size = H.ops.size + 1 ∧ (RectEdges H → RectEdges H') := by
  obtain ⟨c, hc, hopc⟩ := R.exists_ring hop
  obtain ⟨A, B, rfl⟩ := List.append_of_mem hc
  obtain ⟨pre, post, rfl⟩ := List.append_of_mem hopc
  -- what is left to do for either direction, `c'` being the ring of `op` after the call
  have key : ∀ {H' : Heap} {n : Node} {c' : List Nat}, H.ops[op]? = some n → Rings H' (A ++ c' :: B) →
      ptOf H' = (fun j => if j = H.ops.size then some n.pt else ptOf H j) → orecOf H' = upd (orecOf H) H.ops.size n.orec →
      ((∀ i ∈ pre ++ op :: post, ptOf H' i = ptOf H i) → ptOf H' H.ops.size = ptOf H op →
        RectRing (ptOf H) (pre ++ op :: post) → RectRing (ptOf H') c') →
      Rings H' (A ++ c' :: B) ∧ (A ++ c' :: B).length = (A ++ (pre ++ op :: post) :: B).length ∧
      ptOf H' = (fun j => if j = H.ops.size then ptOf H op else ptOf H j) ∧
      orecOf H' = (fun j => if j = H.ops.size then orecOf H op else orecOf H j) ∧ (RectEdges H → RectEdges H') := by
    intro H' n c' hn R' ept eo hrect
    have hpt : ptOf H op = some n.pt := ptOf_some.2 ⟨n, hn, rfl⟩
    have hor : orecOf H op = some n.orec := orecOf_some.2 ⟨n, hn, rfl⟩
    have hold : ∀ d ∈ A ++ (pre ++ op :: post) :: B, ∀ i ∈ d, ptOf H' i = ptOf H i := fun d hd i hi => by
      rw [ept]; exact if_neg (Nat.ne_of_lt (R.mem_lt hd hi))
    refine ⟨R', by simp, by rw [ept, hpt], by rw [eo, hor]; rfl, fun hr => rings_rectEdges R' fun d hd => ?_⟩
    rcases mem_mid.1 hd with rfl | hd
    · exact hrect (hold _ hc) (by rw [ept, hpt]; exact if_pos rfl) (rectEdges_rings R hr _ hc)
    · exact rectRing_congr (rectEdges_rings R hr d (mem_mid.2 (Or.inr hd))) (hold d (mem_mid.2 (Or.inr hd)))
  cases after with
  | true =>
    obtain ⟨H', n, hn, hd, R', ept, eo, er, es⟩ := duplicateOp_after_rings R
    obtain ⟨a, b, c, d, e⟩ := key hn R' ept eo fun h1 h2 h3 => rect_dup_after h3 h1 h2 ⟨n.pt, ptOf_some.2 ⟨n, hn, rfl⟩⟩
    exact ⟨H', _, hd, a, b, c, d, er, es, e⟩
  | false =>
    obtain ⟨H', n, hn, hd, R', ept, eo, er, es⟩ := duplicateOp_before_rings R
    obtain ⟨a, b, c, d, e⟩ := key hn R' ept eo fun h1 h2 h3 => rect_dup_before h3 h1 h2 ⟨n.pt, ptOf_some.2 ⟨n, hn, rfl⟩⟩
    exact ⟨H', _, hd, a, b, c, d, er, es, e⟩

/-- the join is *flat*: `op1`, `op2`, `op1->next` and `op2->prev` all carry points on one horizontal line -/
def JoinFlat (H : Heap) (j : HorzJoin) : Prop :=
  ∃ a b p1 p2 pa pb, nextOf H j.op1 = some a ∧ prevOf H j.op2 = some b ∧
    ptOf H j.op1 = some p1 ∧ ptOf H j.op2 = some p2 ∧ ptOf H a = some pa ∧ ptOf H b = some pb ∧
    p2.y = p1.y ∧ pa.y = p1.y ∧ pb.y = p1.y

/-- **a flat join creates no diagonal edge**: if every edge of the heap is horizontal or vertical and `op1`, `op2`, `op1->next`,
`op2->prev` lie on one horizontal line, then after the iteration of `ProcessHorzJoins` (whichever branch, whatever
`Path1InsidePath2` answers) every edge still is. -/
theorem processJoin_rect {inside : List Pt → List Pt → Bool} {tree : Bool} {H H' : Heap} {j : HorzJoin}
    (r : RectEdges H) (f : JoinFlat H j) (h : processJoin inside tree H j = .ok H') : RectEdges H' := by
  obtain ⟨Hs, b1, b2, hs, sl⟩ := processJoin_frame h
  apply RectEdges.of_sameLinks sl
  obtain ⟨ha, hb, en, _, _, ept, _, _⟩ := splice_ok_eqs hs
  obtain ⟨a', b', p1, p2, pa, pb, h1, h2, h3, h4, h5, h6, e1, e2, e3⟩ := f
  rw [ha] at h1; cases h1
  rw [hb] at h2; cases h2
  intro x y hxy
  rw [ept]; rw [en] at hxy
  by_cases hx : x = b2
  · subst hx
    simp only [upd_same, Option.some.injEq] at hxy; subst hxy
    exact ⟨pb, pa, h6, h5, Or.inr (by rw [e3, e2])⟩
  · rw [upd_ne _ _ hx] at hxy
    by_cases hx1 : x = j.op1
    · subst hx1
      simp only [upd_same, Option.some.injEq] at hxy; subst hxy
      exact ⟨p1, p2, h3, h4, Or.inr e1.symm⟩
    · rw [upd_ne _ _ hx1] at hxy
      exact r x y hxy

/-- after the surgery nothing touches the rings: what holds of links and points right after `splice` holds after the iteration -/
theorem processJoin_rings {inside : List Pt → List Pt → Bool} {tree : Bool} {H H' : Heap} {j : HorzJoin} {rs' : List (List Nat)}
    (h : processJoin inside tree H j = .ok H')
    (hs : ∃ Hs b1 b2, splice H j = .ok (Hs, b1, b2) ∧ Rings Hs rs' ∧ ptOf Hs = ptOf H ∧ Hs.ops.size = H.ops.size) :
    Rings H' rs' ∧ ptOf H' = ptOf H ∧ H'.ops.size = H.ops.size := by
  obtain ⟨Hs, b1, b2, hs1, sl⟩ := processJoin_frame h
  obtain ⟨Hs', c1, c2, hs', R', ept, es⟩ := hs
  rw [hs1] at hs'; cases hs'
  exact ⟨R'.of_sameLinks sl, by rw [sl.2.2.1, ept], by rw [sl.2.2.2, es]⟩

/-- **split**: both ops on the ring `op1 :: X ++ op2 :: Y`, `X ≠ []`: the ring falls into `op1 :: op2 :: Y` and `X` -/
theorem processJoin_split_rings {inside : List Pt → List Pt → Bool} {tree : Bool} {H H' : Heap} {j : HorzJoin}
    {X Y : List Nat} {rest : List (List Nat)} (R : Rings H ((j.op1 :: X ++ j.op2 :: Y) :: rest)) (hX : X ≠ [])
    (h : processJoin inside tree H j = .ok H') :
    Rings H' ((j.op1 :: j.op2 :: Y) :: X :: rest) ∧ ptOf H' = ptOf H ∧ H'.ops.size = H.ops.size := by
  obtain ⟨Hs, hs, R', _, ept, _, es⟩ := splice_rings_same R (List.head?_eq_some_head hX) (List.getLast?_eq_some_getLast hX)
  exact processJoin_rings h ⟨Hs, _, _, hs, R', ept, es⟩

/-- **merge**: the ops on the two rings `op1 :: X` and `op2 :: Y`: they become the one ring `op1 :: op2 :: Y ++ X` -/
theorem processJoin_merge_rings {inside : List Pt → List Pt → Bool} {tree : Bool} {H H' : Heap} {j : HorzJoin}
    {X Y : List Nat} {rest : List (List Nat)} (R : Rings H ((j.op1 :: X) :: (j.op2 :: Y) :: rest))
    (h : processJoin inside tree H j = .ok H') :
    Rings H' ((j.op1 :: j.op2 :: (Y ++ X)) :: rest) ∧ ptOf H' = ptOf H ∧ H'.ops.size = H.ops.size := by
  obtain ⟨Hs, c1, c2, hs, _, _, R', _, ept, _, es⟩ := splice_rings_diff R
  exact processJoin_rings h ⟨Hs, c1, c2, hs, R', ept, es⟩

/-- when `op1->next == op2` already, the links do not change at all -/
theorem processJoin_degenerate_rings {inside : List Pt → List Pt → Bool} {tree : Bool} {H H' : Heap} {j : HorzJoin}
    {Y : List Nat} {rest : List (List Nat)} (R : Rings H ((j.op1 :: j.op2 :: Y) :: rest))
    (h : processJoin inside tree H j = .ok H') :
    Rings H' ((j.op1 :: j.op2 :: Y) :: rest) ∧ ptOf H' = ptOf H ∧ H'.ops.size = H.ops.size := by
  obtain ⟨Hs, hs, R', _, ept, _, es⟩ := splice_degenerate R
  exact processJoin_rings h ⟨Hs, _, _, hs, R', ept, es⟩

/-- **one iteration of `ProcessHorzJoins` keeps a heap of rings a heap of rings**, with one ring more (split), one less (merge)
or the same rings (`op1->next == op2`); no point moves. -/
theorem processJoin_keeps {inside : List Pt → List Pt → Bool} {tree : Bool} {H H' : Heap} {j : HorzJoin} {rs : List (List Nat)}
    (R : Rings H rs) (h1 : j.op1 < H.ops.size) (h2 : j.op2 < H.ops.size) (hne : j.op1 ≠ j.op2)
    (h : processJoin inside tree H j = .ok H') :
    ∃ rs', Rings H' rs' ∧ ptOf H' = ptOf H ∧ H'.ops.size = H.ops.size ∧
      (rs'.length = rs.length + 1 ∨ rs'.length = rs.length ∨ rs'.length + 1 = rs.length) := by
  rcases R.focus2 h1 h2 hne with ⟨X, Y, rest, R1, _, hl⟩ | ⟨X, Y, rest, R1, _, hl⟩
  · by_cases hX : X = []
    · subst hX
      obtain ⟨a, b, c⟩ := processJoin_degenerate_rings (by simpa using R1) h
      exact ⟨_, a, b, c, Or.inr (Or.inl (by simp; omega))⟩
    · obtain ⟨a, b, c⟩ := processJoin_split_rings R1 hX h
      exact ⟨_, a, b, c, Or.inl (by simp; omega)⟩
  · obtain ⟨a, b, c⟩ := processJoin_merge_rings R1 h
    exact ⟨_, a, b, c, Or.inr (Or.inr (by simp; omega))⟩

/-- the flatness of another join `m` survives the processing of join `k` -/
theorem joinFlat_after {inside : List Pt → List Pt → Bool} {tree : Bool} {H H' : Heap} {k m : HorzJoin}
    (fk : JoinFlat H k) (fm : JoinFlat H m) (d1 : m.op1 ≠ k.op1) (d2 : m.op2 ≠ k.op2)
    (h : processJoin inside tree H k = .ok H') : JoinFlat H' m := by
  obtain ⟨Hs, b1, b2, hs, sl⟩ := processJoin_frame h
  obtain ⟨ha, hb, en, ep, _, ept, _, _⟩ := splice_ok_eqs hs
  obtain ⟨a', b', p1, p2, pa, pb, h1, h2, h3, h4, h5, h6, e1, e2, e3⟩ := fk
  rw [ha] at h1; cases h1
  rw [hb] at h2; cases h2
  obtain ⟨am, bm, q1, q2, qa, qb, g1, g2, g3, g4, g5, g6, f1, f2, f3⟩ := fm
  unfold JoinFlat
  rw [sl.1, sl.2.1, sl.2.2.1, en, ep, ept]
  -- the new op1->next of m
  have hA : ∃ a qa', upd (upd (nextOf H) k.op1 k.op2) b2 b1 m.op1 = some a ∧ ptOf H a = some qa' ∧ qa'.y = q1.y := by
    by_cases hx : m.op1 = b2
    · rw [hx]; simp only [upd_same]
      refine ⟨b1, pa, rfl, h5, ?_⟩
      rw [hx, h6] at g3; cases g3
      rw [e2, e3]
    · rw [upd_ne _ _ hx, upd_ne _ _ d1]
      exact ⟨am, qa, g1, g5, f2⟩
  have hB : ∃ b qb', upd (upd (prevOf H) k.op2 k.op1) b1 b2 m.op2 = some b ∧ ptOf H b = some qb' ∧ qb'.y = q1.y := by
    by_cases hx : m.op2 = b1
    · rw [hx]; simp only [upd_same]
      refine ⟨b2, pb, rfl, h6, ?_⟩
      rw [hx, h5] at g4; cases g4
      rw [e3, ← e2, f1]
    · rw [upd_ne _ _ hx, upd_ne _ _ d2]
      exact ⟨bm, qb, g2, g6, f3⟩
  obtain ⟨a, qa', ha1, ha2, ha3⟩ := hA
  obtain ⟨b, qb', hb1, hb2, hb3⟩ := hB
  exact ⟨a, b, q1, q2, qa', qb', ha1, hb1, g3, g4, ha2, hb2, f1, ha3, hb3⟩

/-- the ops of the joins of the list are valid `OutPt`s, the `op1`s distinct, the `op2`s distinct, `op1 ≠ op2` in each join -/
def JoinsOK (H : Heap) (js : List HorzJoin) : Prop :=
  (js.map (·.op1)).Nodup ∧ (js.map (·.op2)).Nodup ∧
  ∀ j ∈ js, j.op1 < H.ops.size ∧ j.op2 < H.ops.size ∧ j.op1 ≠ j.op2

theorem JoinsOK.tail {H H1 : Heap} {j : HorzJoin} {js : List HorzJoin} (ok : JoinsOK H (j :: js)) (hs : H1.ops.size = H.ops.size) :
    JoinsOK H1 js :=
  ⟨(List.nodup_cons.1 ok.1).2, (List.nodup_cons.1 ok.2.1).2, fun m hm => hs ▸ ok.2.2 m (List.mem_cons_of_mem _ hm)⟩

/-- **`ProcessHorzJoins` on a heap of rings**: if it returns, the result is a heap of rings with the same points at the same
`OutPt`s; if moreover every edge was horizontal or vertical and every join is flat, every edge still is: flat joins never create a
diagonal edge. -/
theorem processHorzJoins_keeps {inside : List Pt → List Pt → Bool} {tree : Bool} :
    ∀ (js : List HorzJoin) (H H' : Heap) (rs : List (List Nat)), Rings H rs → JoinsOK H js →
      processHorzJoins inside tree H js = .ok H' →
      ∃ rs', Rings H' rs' ∧ ptOf H' = ptOf H ∧ H'.ops.size = H.ops.size ∧
        (RectEdges H → (∀ j ∈ js, JoinFlat H j) → RectEdges H')
  | [], H, H', rs, R, _, h => by
    simp only [processHorzJoins, Except.ok.injEq] at h; subst h
    exact ⟨rs, R, rfl, rfl, fun r _ => r⟩
  | j :: js, H, H', rs, R, ok, h => by
    unfold processHorzJoins at h
    cases h1 : processJoin inside tree H j with
    | error e => simp [h1] at h
    | ok H1 =>
      simp only [h1] at h
      obtain ⟨hv1, hv2, hne⟩ := ok.2.2 j (by simp)
      obtain ⟨rs1, R1, ept1, es1, _⟩ := processJoin_keeps R hv1 hv2 hne h1
      obtain ⟨rs', R', ept', es', hrect⟩ := processHorzJoins_keeps js H1 H' rs1 R1 (ok.tail es1) h
      refine ⟨rs', R', by rw [ept', ept1], by rw [es', es1], ?_⟩
      intro r fl
      apply hrect (processJoin_rect r (fl j (by simp)) h1)
      intro m hm
      exact joinFlat_after (fl j List.mem_cons_self) (fl m (List.mem_cons_of_mem _ hm))
        (fun e => (List.nodup_cons.1 ok.1).1 (List.mem_map.2 ⟨m, hm, e⟩))
        (fun e => (List.nodup_cons.1 ok.2.1).1 (List.mem_map.2 ⟨m, hm, e⟩)) h1

end Clipper.Model.HorzJoins

/- TrimCollinear under the "forward only" hypothesis (no repeated point, no 180-degree reversal): helper lemmas for
Props/C20.lean.  The vector algebra behind the relation `SD` ("same direction") is in `Lemmas/PlaneVec.lean`. -/
import ClipperVerif.Lemmas.TrimArea
import ClipperVerif.Lemmas.PlaneVec
import ClipperVerif.Lemmas.Neighbours
namespace Clipper.Lemmas.PathUtil
open Clipper Clipper.Model.PathUtil

/-- cross and dot product of the vectors `a→b` and `c→d` -/
def crv (a b c d : Pt) : Int := (b.x - a.x) * (d.y - c.y) - (b.y - a.y) * (d.x - c.x)
def dtv (a b c d : Pt) : Int := (b.x - a.x) * (d.x - c.x) + (b.y - a.y) * (d.y - c.y)

/-- the vectors `a→b` and `c→d` are non-zero and point in the same direction -/
def SD (a b c d : Pt) : Prop := crv a b c d = 0 ∧ dtv a b c d > 0

theorem isCollinear_iff_crv (a b c : Pt) : isCollinear a b c = true ↔ crv a b b c = 0 := by
  rw [isCollinear_iff]; unfold crv; omega

theorem crv_swap_zero (a b c d : Pt) : crv a b c d = 0 ↔ crv c d a b = 0 := by
  unfold crv
  rw [Int.mul_comm (d.x - c.x), Int.mul_comm (d.y - c.y)]
  omega

/-- reversing both vectors changes neither product -/
theorem crv_neg (a b c d : Pt) : crv b a d c = crv a b c d := by
  unfold crv
  rw [show a.x - b.x = -(b.x - a.x) by omega, show a.y - b.y = -(b.y - a.y) by omega,
    show c.x - d.x = -(d.x - c.x) by omega, show c.y - d.y = -(d.y - c.y) by omega, Int.neg_mul_neg, Int.neg_mul_neg]

theorem dtv_neg (a b c d : Pt) : dtv b a d c = dtv a b c d := by
  unfold dtv
  rw [show a.x - b.x = -(b.x - a.x) by omega, show a.y - b.y = -(b.y - a.y) by omega,
    show c.x - d.x = -(d.x - c.x) by omega, show c.y - d.y = -(d.y - c.y) by omega, Int.neg_mul_neg, Int.neg_mul_neg]

theorem SD_symm {a b c d : Pt} (h : SD a b c d) : SD c d a b := PlaneVec.same_dir_symm h.1 h.2

theorem SD_refl {a b : Pt} (h : a ≠ b) : SD a b a b :=
  ⟨Int.sub_eq_zero.mpr (Int.mul_comm _ _), PlaneVec.sq_add_sq_pos (PlaneVec.sub_ne_zero_of_ne h)⟩

theorem SD_ne {a b c d : Pt} (h : SD a b c d) : a ≠ b := by
  intro e; subst e
  unfold SD dtv at h; simp at h

/-- parallel transport of a vanishing cross product: if `a→b ∥ c→d` (same direction) then
`w × (a→b) = 0 ↔ w × (c→d) = 0` -/
theorem crv_congr {a b c d : Pt} (h : SD a b c d) (e f : Pt) : crv e f a b = 0 ↔ crv e f c d = 0 :=
  ⟨PlaneVec.cross_transport h.1 h.2, PlaneVec.cross_transport (SD_symm h).1 (SD_symm h).2⟩

theorem SD_trans {a b c d e f : Pt} (h1 : SD a b c d) (h2 : SD c d e f) : SD a b e f :=
  ⟨(crv_congr h2 a b).mp h1.1, PlaneVec.dot_pos_trans h1.1 h1.2 h2.2⟩

/-- `a→b` and `b→c` in the same direction: then `a→c` is in that direction too -/
theorem SD_add_right {a b c : Pt} (h : SD a b b c) : SD a c a b := by
  unfold SD crv dtv
  rw [show c.x - a.x = (b.x - a.x) + (c.x - b.x) by omega, show c.y - a.y = (b.y - a.y) + (c.y - b.y) by omega]
  exact PlaneVec.same_dir_add h.1 h.2

theorem SD_add_left {a b c : Pt} (h : SD a b b c) : SD a c b c := by
  unfold SD crv dtv
  rw [show c.x - a.x = (c.x - b.x) + (b.x - a.x) by omega, show c.y - a.y = (c.y - b.y) + (b.y - a.y) by omega]
  exact PlaneVec.same_dir_add (SD_symm h).1 (SD_symm h).2

theorem SD_neg {a b c d : Pt} (h : SD a b c d) : SD b a d c := by
  unfold SD; rw [crv_neg, dtv_neg]; exact h

/-- `P` holds for every three consecutive vertices of the open chain -/
def AllTriples (P : Pt → Pt → Pt → Prop) : List Pt → Prop
  | a :: b :: c :: t => P a b c ∧ AllTriples P (b :: c :: t)
  | _ => True

/-- at vertex `b` the path neither stops (`a = b` or `b = c`) nor reverses by 180 degrees:
if `a, b, c` are collinear then `b` lies strictly between `a` and `c` -/
def Fwd (a b c : Pt) : Prop := isCollinear a b c = true → dtv a b b c > 0

def NotCol (a b c : Pt) : Prop := isCollinear a b c = false

open Clipper.Lemmas.CleanUp

/-- `AllTriples` is `LinTriples` of `Lemmas/Neighbours.lean`, whose lemmas are used from here on -/
theorem allTriples_iff (P : Pt → Pt → Pt → Prop) : ∀ l, AllTriples P l ↔ LinTriples P l
  | [] | [_] | [_, _] => Iff.rfl
  | _ :: b :: c :: t => and_congr Iff.rfl (allTriples_iff P (b :: c :: t))

theorem Fwd_symm (a b c : Pt) (h : Fwd a b c) : Fwd c b a := by
  intro hc
  rw [isCollinear_symm] at hc
  rw [dtv_neg, dtv, Int.mul_comm (c.x - b.x), Int.mul_comm (c.y - b.y)]
  exact h hc

theorem Fwd_SD {a b c : Pt} (h : Fwd a b c) (hc : isCollinear a b c = true) : SD a b b c :=
  ⟨(isCollinear_iff_crv a b c).mp hc, h hc⟩

theorem isCollinear_degenerate (a c : Pt) : isCollinear a a c = true ∧ isCollinear a c c = true := by
  constructor <;> rw [isCollinear_iff] <;> simp

theorem isCollinear_aba (a b : Pt) : isCollinear a b a = true := by
  rw [isCollinear_iff]; grind

theorem Fwd_ne {a b c : Pt} (h : Fwd a b c) : a ≠ b ∧ b ≠ c := by
  constructor
  · intro e; subst e
    have := h (isCollinear_degenerate a c).1
    unfold dtv at this; simp at this
  · intro e; subst e
    have := h (isCollinear_degenerate a b).2
    unfold dtv at this; simp at this

theorem isCollinear_congr_left {p q b : Pt} (h : SD p b q b) (c : Pt) :
    isCollinear p b c = isCollinear q b c := by
  rw [Bool.eq_iff_iff, isCollinear_iff_crv, isCollinear_iff_crv, crv_swap_zero p b b c, crv_swap_zero q b b c]
  exact crv_congr h b c

theorem isCollinear_congr_right {b c d : Pt} (h : SD b c b d) (a : Pt) :
    isCollinear a b c = isCollinear a b d := by
  rw [Bool.eq_iff_iff, isCollinear_iff_crv, isCollinear_iff_crv]
  exact crv_congr h a b

/-- The leading `while` loop of the closed case (`A = *stop`), and by `trimBackRev_eq_trimFront` also the second one
run on the reversed range.  `y` is the vertex before the range, `s` the vertex after `A`. -/
theorem trimFront_fwd (A s : Pt) (l : List Pt) : ∀ (y : Pt), LinTriples Fwd (y :: l) →
    (∀ x t, l = x :: t → SD A x y x ∧ SD A x A s) →
    LinTriples Fwd (trimFront A l) ∧ (∀ x t, trimFront A l = x :: t → SD A x A s) ∧
    (∀ x x' t, trimFront A l = x :: x' :: t → isCollinear A x x' = false) := by
  fun_induction trimFront A l with
  | case1 a b rest hcol ih =>
    intro y hall hJ
    obtain ⟨J1, J2⟩ := hJ a (b :: rest) rfl
    have hyab : isCollinear y a b = true := by rw [← isCollinear_congr_left J1 b]; exact hcol
    have sd1 : SD y a a b := Fwd_SD hall.1 hyab
    have sd2 : SD A a a b := SD_trans J1 sd1
    have J1' : SD A b a b := SD_add_left sd2
    have J2' : SD A b A s := SD_trans (SD_add_right sd2) J2
    exact ih a (linTriples_tail Fwd y _ hall) (fun x t e => by
      injection e with e1 e2; subst e1; exact ⟨J1', J2'⟩)
  | case2 a b rest hncol =>
    intro y hall hJ
    refine ⟨linTriples_tail Fwd y _ hall, ?_, ?_⟩
    · intro x t e; exact (hJ x t e).2
    · intro x x' t e
      injection e with e1 e2; injection e2 with e2 e3
      subst e1 e2
      cases hc : isCollinear A a b with
      | false => rfl
      | true => exact absurd hc hncol
  | case3 l hl =>
    intro y hall hJ
    refine ⟨linTriples_tail Fwd y _ hall, ?_, ?_⟩
    · intro x t e; exact (hJ x t e).2
    · intro x x' t e; exact absurd e (hl x x' t)

/-- the vertex before the last one of `pc :: cur :: l` -/
def pen (pc cur : Pt) : List Pt → Pt
  | [] => pc
  | n :: rest => pen cur n rest

/-- The main `for` loop on a forward-only chain: no three consecutive emitted vertices are collinear, the first
emitted vertex lies in direction `prev → s`, and on exit `prevIt → stop` is parallel to the last source edge. -/
theorem trimLoop_fwd (l : List Pt) : ∀ (s prev pc cur : Pt), LinTriples Fwd (pc :: cur :: l) →
    SD prev cur pc cur → SD prev cur prev s →
    LinTriples NotCol (prev :: ((trimLoop prev cur l).1 ++ [(trimLoop prev cur l).2.2])) ∧
    (∃ h t, (trimLoop prev cur l).1 ++ [(trimLoop prev cur l).2.2] = h :: t ∧ SD prev h prev s) ∧
    SD (trimLoop prev cur l).2.1 (trimLoop prev cur l).2.2 (pen pc cur l) (trimLoop prev cur l).2.2 := by
  induction l with
  | nil =>
    intro s prev pc cur _ J1 J2
    simp only [trimLoop, pen, List.nil_append]
    exact ⟨trivial, ⟨cur, [], rfl, J2⟩, J1⟩
  | cons n rest ih =>
    intro s prev pc cur hall J1 J2
    simp only [trimLoop, pen]
    split
    · rename_i hcol
      have hpc : isCollinear pc cur n = true := by rw [← isCollinear_congr_left J1 n]; exact hcol
      have sd1 : SD pc cur cur n := Fwd_SD hall.1 hpc
      have sd2 : SD prev cur cur n := SD_trans J1 sd1
      exact ih s prev cur n (linTriples_tail Fwd pc _ hall) (SD_add_left sd2)
        (SD_trans (SD_add_right sd2) J2)
    · rename_i hncol
      have hn : cur ≠ n := (Fwd_ne hall.1).2
      obtain ⟨hnc, ⟨h, t, hh, hsd⟩, hend⟩ := ih n cur cur n (linTriples_tail Fwd pc _ hall)
        (SD_refl hn) (SD_refl hn)
      simp only []
      refine ⟨?_, ⟨cur, _, rfl, J2⟩, hend⟩
      rw [List.cons_append, hh]
      rw [hh] at hnc
      refine ⟨?_, hnc⟩
      unfold NotCol
      rw [isCollinear_congr_right hsd prev]
      cases hc : isCollinear prev cur n with
      | false => rfl
      | true => exact absurd hc hncol

/-- a path of at least two vertices read backwards starts with its last vertex and the one before it -/
theorem reverse_pen (a c : Pt) (rest : List Pt) : ∃ z t, (a :: c :: rest).reverse = z :: pen a c rest :: t := by
  induction rest generalizing a c with
  | nil => exact ⟨c, [], rfl⟩
  | cons n r ih =>
    obtain ⟨z, t, e⟩ := ih c n
    exact ⟨z, t ++ [a], by rw [List.reverse_cons, e]; rfl⟩

theorem NotCol_symm (a b c : Pt) (h : NotCol a b c) : NotCol c b a := by
  unfold NotCol at *; rw [isCollinear_symm]; exact h

theorem trimLoop_fixed (l : List Pt) : ∀ (prev cur : Pt), LinTriples NotCol (prev :: cur :: l) →
    (trimLoop prev cur l).1 ++ [(trimLoop prev cur l).2.2] = cur :: l ∧
    (trimLoop prev cur l).2.1 = pen prev cur l := by
  induction l with
  | nil => intro prev cur _; simp [trimLoop, pen]
  | cons n rest ih =>
    intro prev cur h
    have hn : isCollinear prev cur n = false := h.1
    obtain ⟨h1, h2⟩ := ih cur n h.2
    simp only [trimLoop, hn, Bool.false_eq_true, if_false, pen]
    exact ⟨by rw [List.cons_append, h1], h2⟩

theorem trim_fixed_open (p : List Pt) (h3 : 3 ≤ p.length) (h : AllTriples NotCol p) :
    trimCollinear p true = p := by
  rw [allTriples_iff] at h
  match p, h3, h with
  | a :: c :: rest, h3, h =>
    unfold trimCollinear
    rw [if_neg (by omega)]
    simp only [if_true]
    rw [List.cons_append, (trimLoop_fixed rest a c h).1]

theorem trim_fixed_closed (p : List Pt) (h3 : 3 ≤ p.length) (h : AllTriples NotCol (cyclicChain p)) :
    trimCollinear p false = p := by
  rw [allTriples_iff] at h
  match p, h3, h with
  | a :: c :: rest, h3, h =>
    obtain ⟨z, t, hr⟩ := reverse_pen a c rest
    generalize hpen : pen a c rest = y at hr
    have hlast : (a :: c :: rest).getLast? = some z := by
      rw [← List.head?_reverse, hr]; rfl
    have hchain : cyclicChain (a :: c :: rest) = z :: (a :: c :: rest) ++ [a] := by
      unfold cyclicChain; rw [hlast]
    rw [hchain] at h
    have hzac : isCollinear z a c = false := h.1
    have hopen : LinTriples NotCol (a :: c :: rest) :=
      linTriples_append_left NotCol _ [a] (linTriples_tail NotCol z _ h)
    have hrev : LinTriples NotCol (a :: z :: y :: t) := by
      have := linTriples_reverse_of_symm NotCol NotCol_symm ((a :: c :: rest) ++ [a])
        (linTriples_tail NotCol z _ h)
      rw [List.reverse_append, hr] at this; exact this
    have hazy : isCollinear a z y = false := hrev.1
    have hends : trimEnds (a :: c :: rest) = a :: c :: rest := by
      unfold trimEnds
      rw [hlast]
      simp only [trimFront, hzac, Bool.false_eq_true, if_false]
      rw [hr]
      simp only [trimBackRev]
      rw [isCollinear_symm] at hazy
      simp only [hazy, Bool.false_eq_true, if_false]
      rw [← hr, List.reverse_reverse]
    unfold trimCollinear
    rw [if_neg (by omega)]
    simp only [Bool.false_eq_true, if_false]
    rw [hends]
    unfold trimClosedBody
    obtain ⟨h1, h2⟩ := trimLoop_fixed rest a c hopen
    have hstop := trimLoop_stop a c rest
    have hz : (trimLoop a c rest).2.2 = z := by
      rw [List.getLast?_cons_cons] at hlast
      rw [hlast] at hstop; injection hstop with hstop; exact hstop.symm
    simp only []
    rw [h2, hpen, hz]
    rw [isCollinear_symm] at hazy
    simp only [hazy, Bool.not_false, if_true]
    rw [← hz, List.cons_append, h1]

/-- open forward-only path: no three consecutive vertices of the result are collinear; the result has at least two
vertices and, if exactly two, they differ -/
theorem trim_open_fwd (p : List Pt) (h3 : 3 ≤ p.length) (hf : AllTriples Fwd p) :
    AllTriples NotCol (trimCollinear p true) ∧
    (3 ≤ (trimCollinear p true).length ∨ ∃ a b, trimCollinear p true = [a, b] ∧ a ≠ b) := by
  rw [allTriples_iff] at hf ⊢
  match p, h3, hf with
  | [], h3, _ => simp at h3
  | [_], h3, _ => simp at h3
  | [_, _], h3, _ => simp at h3
  | a :: c :: n :: rest, h3, hf =>
    have hac : a ≠ c := (Fwd_ne hf.1).1
    obtain ⟨hnc, ⟨h, t, hh, hsd⟩, _⟩ := trimLoop_fwd (n :: rest) c a a c hf (SD_refl hac) (SD_refl hac)
    have hres : trimCollinear (a :: c :: n :: rest) true
        = a :: ((trimLoop a c (n :: rest)).1 ++ [(trimLoop a c (n :: rest)).2.2]) := by
      unfold trimCollinear
      rw [if_neg (by simp)]
      simp only [if_true, List.cons_append]
    rw [hres]
    refine ⟨hnc, ?_⟩
    rw [hh]
    cases t with
    | nil => exact Or.inr ⟨a, h, rfl, SD_ne hsd⟩
    | cons _ _ => exact Or.inl (by simp)

/-- closed forward-only path: no three cyclically consecutive vertices of the result are collinear, and the result is
empty or has at least three vertices -/
theorem trim_closed_fwd (p : List Pt) (hf : AllTriples Fwd (cyclicChain p)) :
    AllTriples NotCol (cyclicChain (trimCollinear p false)) ∧
    (trimCollinear p false = [] ∨ 3 ≤ (trimCollinear p false).length) := by
  rw [allTriples_iff] at hf ⊢
  by_cases hlen : p.length < 3
  · have : trimCollinear p false = [] := by unfold trimCollinear; rw [if_pos hlen]; rfl
    rw [this]; exact ⟨trivial, Or.inl rfl⟩
  · match p, hlen, hf with
    | [], hlen, _ => simp at hlen
    | [_], hlen, _ => simp at hlen
    | [_, _], hlen, _ => simp at hlen
    | p0 :: p1 :: p2 :: t0, hlen, hf =>
      generalize hp : p0 :: p1 :: p2 :: t0 = p at *
      have hpne : p ≠ [] := by rw [← hp]; simp
      obtain ⟨z, hz⟩ : ∃ z, p.getLast? = some z := by
        cases h : p.getLast? with
        | none => rw [List.getLast?_eq_none_iff] at h; exact absurd h hpne
        | some z => exact ⟨z, rfl⟩
      have hchain : cyclicChain p = z :: p ++ [p0] := by
        unfold cyclicChain; rw [← hp] at hz ⊢; rw [hz]
      rw [hchain] at hf
      have hzp : LinTriples Fwd (z :: p) := linTriples_append_left Fwd (z :: p) [p0] hf
      have hzp0 : z ≠ p0 := by
        rw [← hp] at hzp; exact (Fwd_ne hzp.1).1
      -- the leading `while` loop
      obtain ⟨hF1, hJ2, hX1⟩ := trimFront_fwd z p0 p z hzp (fun x t e => by
        rw [← hp] at e; injection e with e1 e2; subst e1
        exact ⟨SD_refl hzp0, SD_refl hzp0⟩)
      have hs1suf := trimFront_suffix z p
      have hs1last : (trimFront z p).getLast? = some z := by rw [trimFront_getLast]; exact hz
      generalize hs1 : trimFront z p = s1 at *
      cases s1 with
      | nil => simp at hs1last
      | cons first t1 =>
        have hJ2' : SD z first z p0 := hJ2 first t1 rfl
        have hfz : first ≠ z := fun e => SD_ne hJ2' e.symm
        -- the second `while` loop, on the reversed range
        have hs1p0 : LinTriples Fwd ((first :: t1) ++ [p0]) := by
          obtain ⟨pre, hpre⟩ := hs1suf
          have : z :: p ++ [p0] = (z :: pre) ++ ((first :: t1) ++ [p0]) := by rw [← hpre]; simp
          rw [this] at hf
          exact linTriples_append_right Fwd _ _ hf
        have hrev : LinTriples Fwd (p0 :: (first :: t1).reverse) := by
          have := linTriples_reverse_of_symm Fwd Fwd_symm _ hs1p0
          rw [List.reverse_append] at this; exact this
        have hrevhead : (first :: t1).reverse.head? = some z := by
          rw [List.head?_reverse]; exact hs1last
        obtain ⟨hF2, hK2, hX2⟩ := trimFront_fwd first z (first :: t1).reverse p0 hrev (fun x t e => by
          rw [e] at hrevhead; injection hrevhead with e1; subst e1
          exact ⟨SD_neg hJ2', SD_refl hfz⟩)
        have hr2suf := trimFront_suffix first (first :: t1).reverse
        have hr2last : (trimFront first (first :: t1).reverse).getLast? = some first := by
          rw [trimFront_getLast, List.getLast?_reverse]; rfl
        have hends : trimEnds p = (trimFront first (first :: t1).reverse).reverse := by
          unfold trimEnds; rw [hz]; simp only []; rw [hs1]; simp only []
          rw [trimBackRev_eq_trimFront]
        generalize hr2 : trimFront first (first :: t1).reverse = r2 at *
        have hseg : LinTriples Fwd r2.reverse := linTriples_reverse_of_symm Fwd Fwd_symm _ hF2
        have hsegpre : r2.reverse <+: first :: t1 := by
          have := List.reverse_prefix.mpr hr2suf
          rw [List.reverse_reverse] at this; exact this
        have hres : trimCollinear p false = trimClosedBody r2.reverse := by
          unfold trimCollinear; rw [if_neg hlen]; simp only [Bool.false_eq_true, if_false]; rw [hends]
        rw [hres]
        cases hsg : r2.reverse with
        | nil => exact ⟨trivial, Or.inl rfl⟩
        | cons a t2 =>
          cases t2 with
          | nil => exact ⟨trivial, Or.inl rfl⟩
          | cons c rest =>
            rw [hsg] at hseg hsegpre
            have ha : a = first := by
              have : r2.reverse.head? = some first := by rw [List.head?_reverse]; exact hr2last
              rw [hsg] at this; injection this
            subst ha
            obtain ⟨tl, htl⟩ := hsegpre
            have hF1' : isCollinear z a c = false := hX1 a c (rest ++ tl) (by rw [← htl]; simp)
            have hac : a ≠ c := by
              intro e; subst e
              rw [(isCollinear_degenerate z a).2] at hF1'; exact absurd hF1' (by simp)
            obtain ⟨hnc, ⟨h, t, hh, hsd⟩, hend⟩ :=
              trimLoop_fwd rest c a a c hseg (SD_refl hac) (SD_refl hac)
            have hstop := trimLoop_stop a c rest
            have hprev := trimLoop_prev a c rest
            unfold trimClosedBody
            simp only []
            generalize trimLoop a c rest = r at *
            obtain ⟨d, pf, stop⟩ := r
            simp only [] at hnc hh hend hstop hprev ⊢
            -- the reversed segment starts `stop :: pen :: …`
            have hr2eq : r2 = (a :: c :: rest).reverse := by rw [← hsg, List.reverse_reverse]
            obtain ⟨z', t'', hrr⟩ := reverse_pen a c rest
            generalize hpen : pen a c rest = y at hrr hend
            have hz' : z' = stop := by
              have : (a :: c :: rest).getLast? = some z' := by rw [← List.head?_reverse, hrr]; rfl
              rw [List.getLast?_cons_cons, hstop] at this; injection this with this; exact this.symm
            subst hz'
            rw [hr2eq, hrr] at hX2 hK2
            have hX2' : isCollinear a z' y = false := hX2 z' y t'' rfl
            have hK2' : SD a z' a z := hK2 z' _ rfl
            have hclose : isCollinear pf z' a = false := by
              rw [isCollinear_congr_left hend a, isCollinear_symm]; exact hX2'
            have hwrap : isCollinear z' a h = false := by
              rw [isCollinear_congr_right hsd z', isCollinear_congr_left (SD_neg hK2') c]; exact hF1'
            simp only [hclose, Bool.not_false, if_true]
            have hdne : d ≠ [] := by
              intro e; subst e
              simp only [List.nil_append, List.cons.injEq] at hh
              rw [← hh.1, isCollinear_aba] at hwrap; exact absurd hwrap (by simp)
            have hR : a :: d ++ [z'] = a :: h :: t := by rw [List.cons_append, hh]
            rw [hR]
            refine ⟨?_, Or.inr ?_⟩
            · have hlastR : (a :: h :: t).getLast? = some z' := by rw [← hR, List.getLast?_concat]
              have hcc : cyclicChain (a :: h :: t) = z' :: a :: h :: (t ++ [a]) := by
                unfold cyclicChain; rw [hlastR]; rfl
              rw [hcc]
              refine ⟨hwrap, ?_⟩
              have hinit : (a :: d).dropLast ++ [pf] = a :: d := by
                have h1 := List.getLast?_eq_some_getLast (l := a :: d) (by simp)
                rw [hprev] at h1; injection h1 with h1
                rw [h1]; exact List.dropLast_concat_getLast _
              have hL : a :: h :: t = (a :: d).dropLast ++ [pf, z'] := by
                rw [← hR]
                conv => lhs; rw [← hinit]
                simp
              have hnc' : LinTriples NotCol (a :: h :: t) := by rw [← hh]; exact hnc
              have key : LinTriples NotCol ((a :: h :: t) ++ [a]) := by
                have e : (a :: h :: t) ++ [a] = (a :: d).dropLast ++ [pf, z', a] := by rw [hL]; simp
                rw [e, linTriples_snoc]
                exact ⟨by rw [← hL]; exact hnc', hclose⟩
              exact key
            · cases t with
              | nil =>
                exfalso
                cases d with
                | nil => exact hdne rfl
                | cons d0 d' =>
                  have := congrArg List.length hh
                  simp at this
              | cons _ _ => simp

end Clipper.Lemmas.PathUtil

/- PointInPolygon, refinement part: the index/fuel model `pointInPolygonX` (Model/Geom.lean) equals the cyclic fold
`pipCyc` over the rotation of the polygon that starts at `first`; in particular it never faults and the fuel
`2·n + 4` suffices.  Core Lean only. -/
import ClipperVerif.Lemmas.PipScan
namespace Clipper.Lemmas.Geom
open Clipper Clipper.Model

/-- the vertices with indices `i ≤ · < j` -/
def seg (poly : List Pt) (i j : Nat) : List Pt := (poly.take j).drop i

theorem seg_self (poly : List Pt) (i : Nat) : seg poly i i = [] := by
  simp [seg]

theorem seg_cons {poly : List Pt} {k j : Nat} {c : Pt} (hk : k < j) (hc : poly[k]? = some c) :
    seg poly k j = c :: seg poly (k + 1) j := by
  obtain ⟨hlt, hget⟩ := List.getElem?_eq_some_iff.mp hc
  have h1 : k < (poly.take j).length := by simp [List.length_take]; omega
  simp only [seg]
  rw [List.drop_eq_getElem_cons h1, List.getElem_take, hget]

theorem seg_split (poly : List Pt) {i k j : Nat} (h1 : i ≤ k) (h2 : k ≤ j) (h3 : j ≤ poly.length) :
    seg poly i j = seg poly i k ++ seg poly k j := by
  simp only [seg]
  have e : poly.take k = (poly.take j).take k := by rw [List.take_take]; congr 1; omega
  rw [e]
  generalize hl : poly.take j = l
  have hlen : l.length = j := by rw [← hl, List.length_take]; omega
  have : i ≤ (l.take k).length := by rw [List.length_take]; omega
  rw [← List.drop_append_of_le_length this, List.take_append_drop]

theorem seg_snoc {poly : List Pt} {i k : Nat} {c : Pt} (h1 : i ≤ k) (h3 : k < poly.length) (hc : poly[k]? = some c) :
    seg poly i (k + 1) = seg poly i k ++ [c] := by
  rw [seg_split poly h1 (Nat.le_succ k) h3, seg_cons (Nat.lt_succ_self k) hc, seg_self]

theorem mem_seg {poly : List Pt} {i j : Nat} {x : Pt} (h : x ∈ seg poly i j) :
    ∃ idx, i ≤ idx ∧ idx < j ∧ poly[idx]? = some x := by
  simp only [seg] at h
  obtain ⟨n, hn, rfl⟩ := List.mem_iff_getElem.mp h
  simp only [List.length_drop, List.length_take] at hn
  refine ⟨i + n, by omega, by omega, ?_⟩
  rw [List.getElem_drop, List.getElem_take]
  exact List.getElem?_eq_getElem _

theorem seg_full (poly : List Pt) : seg poly 0 poly.length = poly := by simp [seg]

theorem skipSide_step {poly : List Pt} {py : Int} {above : Bool} {cend curr : Nat} {v : Pt} (hne : curr ≠ cend)
    (hget : poly[curr]? = some v) :
    skipSide poly py above cend curr =
      if (if above then v.y < py else v.y > py) then skipSide poly py above cend (curr + 1) else some curr := by
  rw [skipSide, if_neg hne]
  split
  · rename_i h; rw [hget] at h; cases h
  · rename_i w h; rw [hget] at h; cases h; rfl

theorem skipSide_spec (poly : List Pt) (py : Int) (above : Bool) (cend : Nat) (hc : cend ≤ poly.length) :
    ∀ (m curr : Nat), cend - curr = m → curr ≤ cend →
    ∃ k, skipSide poly py above cend curr = some k ∧ curr ≤ k ∧ k ≤ cend ∧
      (∀ x ∈ seg poly curr k, (if above then x.y < py else x.y > py)) ∧
      (k < cend → ∃ c, poly[k]? = some c ∧ ¬ (if above then c.y < py else c.y > py)) := by
  intro m
  induction m with
  | zero =>
    intro curr hm hle
    have : curr = cend := by omega
    subst this
    refine ⟨curr, by rw [skipSide]; simp, Nat.le_refl _, Nat.le_refl _, ?_, fun h => absurd h (Nat.lt_irrefl _)⟩
    intro x hx; rw [seg_self] at hx; cases hx
  | succ m ih =>
    intro curr hm hle
    have hne : curr ≠ cend := by omega
    have hlt : curr < poly.length := by omega
    have hget : poly[curr]? = some poly[curr] := List.getElem?_eq_getElem hlt
    by_cases hside : (if above then poly[curr].y < py else poly[curr].y > py)
    · obtain ⟨k, hk, h1, h2, h3, h4⟩ := ih (curr + 1) (by omega) (by omega)
      refine ⟨k, ?_, by omega, h2, ?_, h4⟩
      · rw [skipSide_step hne hget, if_pos hside]; exact hk
      · intro x hx
        rw [seg_cons (by omega) hget] at hx
        rcases List.mem_cons.mp hx with rfl | hx
        · exact hside
        · exact h3 x hx
    · refine ⟨curr, ?_, Nat.le_refl _, hle, ?_, fun _ => ⟨_, hget, hside⟩⟩
      · rw [skipSide_step hne hget, if_neg hside]
      · intro x hx; rw [seg_self] at hx; cases hx

theorem pipScan_skip (cp : Pt → Pt → Pt → Int) (p : Pt) (ia : Bool) (val : Int) (rest : List Pt) :
    ∀ (xs : List Pt) (pr : Pt), (∀ x ∈ xs, if ia then x.y < p.y else x.y > p.y) →
      pipScan cp p pr ia val (xs ++ rest) = pipScan cp p (lastOf pr xs) ia val rest
  | [], pr, _ => rfl
  | x :: xs, pr, h => by
    have hx := h x (by simp)
    simp only [List.cons_append, pipScan, scanStep_same hx, lastOf_cons]
    exact pipScan_skip cp p ia val rest xs x (fun y hy => h y (by simp [hy]))

theorem lastOf_seg {poly : List Pt} {curr k : Nat} {pr pr' : Pt} (h1 : curr ≤ k) (h2 : k ≤ poly.length)
    (hpr : poly[prevIdx poly.length curr]? = some pr) (hpr' : poly[prevIdx poly.length k]? = some pr') :
    lastOf pr (seg poly curr k) = pr' := by
  by_cases hk : k = curr
  · subst hk; rw [seg_self, lastOf_nil]; rw [hpr] at hpr'; cases hpr'; rfl
  · have hk1 : prevIdx poly.length k = k - 1 := by simp [prevIdx]; omega
    rw [hk1] at hpr'
    have : seg poly curr (k - 1 + 1) = seg poly curr (k - 1) ++ [pr'] := seg_snoc (by omega) (by omega) hpr'
    have e : k - 1 + 1 = k := by omega
    rw [e] at this
    rw [this, lastOf_append]; rfl

theorem prevIdx_lt {n k : Nat} (h : k < n) : prevIdx n k < n := by
  unfold prevIdx; split <;> omega

/-- what the loop does from `curr` up to `cend`, given what it does once `curr = cend` (`C`) -/
theorem pipLoop_phase (cp : Pt → Pt → Pt → Int) (p : Pt) (poly : List Pt) (first cend K : Nat)
    (C : Bool → Int → LoopOut) (hn : cend ≤ poly.length)
    (hC : ∀ fuel, K ≤ fuel → ∀ ia val, pipLoop cp p poly first fuel cend cend ia val = C ia val)
    (hbreak : cend = first → ∀ ia val, C ia val = .exit first ia val) :
    ∀ (fuel curr : Nat) (ia : Bool) (val : Int) (pr : Pt), curr ≤ cend →
      (first < curr ∨ cend = first) → poly[prevIdx poly.length curr]? = some pr → cend - curr + K ≤ fuel →
      pipLoop cp p poly first fuel curr cend ia val =
        match pipScan cp p pr ia val (seg poly curr cend) with
        | none => .on
        | some (_, ia', val') => C ia' val' := by
  intro fuel
  induction fuel with
  | zero =>
    intro curr ia val pr hle _ _ hfuel
    obtain rfl : curr = cend := by omega
    rw [seg_self]; exact hC 0 (by omega) ia val
  | succ fuel ih =>
    intro curr ia val pr hle hfirst hpr hfuel
    by_cases hcc : curr = cend
    · subst hcc
      rw [seg_self]; exact hC _ (by omega) ia val
    · obtain ⟨k, hskip, hk1, hk2, hk3, hk4⟩ := skipSide_spec poly p.y ia cend hn (cend - curr) curr rfl hle
      rw [pipLoop, if_neg (fun h => hcc h.1)]
      simp only [if_neg hcc, hskip]
      rw [seg_split poly hk1 hk2 hn, pipScan_skip cp p ia val _ _ pr hk3]
      by_cases hkc : k = cend
      · subst hkc
        rw [if_pos rfl, seg_self]
        exact hC fuel (by omega) ia val
      · have hkl : k < cend := Nat.lt_of_le_of_ne hk2 hkc
        obtain ⟨c, hc, hcside⟩ := hk4 hkl
        have hpk : prevIdx poly.length k < poly.length := prevIdx_lt (Nat.lt_of_lt_of_le hkl hn)
        have hprk := List.getElem?_eq_getElem hpk
        rw [if_neg hkc, lastOf_seg hk1 (Nat.le_trans hk2 hn) hpr hprk, seg_cons hkl hc, hc, hprk]
        simp only [pipScan, scanStep, if_neg hcside]
        have hnext := fun ia' val' => ih (k + 1) ia' val' c hkl (by omega) hc (by omega)
        cases hvs : vertexStep cp p poly[prevIdx poly.length k] c ia val with
        | on => rfl
        | onLine =>
          simp only
          by_cases hkf : k + 1 = first
          · obtain rfl : cend = k + 1 := by omega
            rw [if_pos hkf, seg_self]; simp only [pipScan]
            rw [hbreak hkf, hkf]
          · rw [if_neg hkf]; exact hnext ia val
        | cross v => exact hnext (!ia) v

theorem findFirst_le (py : Int) (poly : List Pt) : findFirst py poly ≤ poly.length := by
  induction poly with
  | nil => simp [findFirst]
  | cons v r ih => simp only [findFirst]; split <;> simp <;> omega

theorem findFirst_before (py : Int) (poly : List Pt) :
    ∀ i x, i < findFirst py poly → poly[i]? = some x → x.y = py := by
  induction poly with
  | nil => intro i x h; simp [findFirst] at h
  | cons v r ih =>
    intro i x h hx
    simp only [findFirst] at h
    split at h
    · cases i with
      | zero => simp at hx; subst hx; assumption
      | succ j => simp at hx; exact ih j x (by omega) hx
    · omega

theorem findFirst_at (py : Int) (poly : List Pt) (x : Pt) :
    poly[findFirst py poly]? = some x → x.y ≠ py := by
  induction poly with
  | nil => intro h; simp at h
  | cons v r ih =>
    intro hx
    simp only [findFirst] at hx
    split at hx
    · simp at hx; exact ih hx
    · simp at hx; subst hx; assumption

theorem pipFinish_eq (cp : Pt → Pt → Pt → Int) (p : Pt) (poly : List Pt) (sa : Bool) (curr : Nat) (ia : Bool)
    (val : Int) (f pr : Pt)
    (h1 : poly[if curr = poly.length then 0 else curr]? = some f)
    (h2 : poly[prevIdx poly.length (if curr = poly.length then 0 else curr)]? = some pr) :
    pipFinish cp p poly sa curr ia val = some (pipClose cp p pr f sa ia val) := by
  simp only [pipFinish, pipClose, h1, h2]
  by_cases c : (ia != sa) = true
  · simp only [c, if_true]
    by_cases d : cp pr f p = 0
    · simp [d]
    · simp only [d, if_false]
  · simp only [c]
    rfl

theorem pipLoop_at_first (cp : Pt → Pt → Pt → Int) (p : Pt) (poly : List Pt) (first : Nat) :
    ∀ fuel, 1 ≤ fuel → ∀ ia val, pipLoop cp p poly first fuel first first ia val = .exit first ia val := by
  intro fuel hf ia val
  obtain ⟨f', rfl⟩ : ∃ f', fuel = f' + 1 := ⟨fuel - 1, by omega⟩
  rw [pipLoop, if_pos ⟨rfl, Or.inl rfl⟩]

theorem pipLoop_wrap (cp : Pt → Pt → Pt → Int) (p : Pt) (poly : List Pt) (first n : Nat)
    (h0 : first ≠ 0) (hn : first ≠ n) (fuel : Nat) (ia : Bool) (val : Int) :
    pipLoop cp p poly first (fuel + 1) n n ia val = pipLoop cp p poly first (fuel + 1) 0 first ia val := by
  have e1 : ¬ (n = n ∧ (n = first ∨ first = 0)) := by omega
  have e2 : ¬ (0 = first ∧ (first = first ∨ first = 0)) := by omega
  have e3 : ¬ (0 = first) := by omega
  rw [pipLoop, pipLoop, if_neg e1, if_neg e2]
  simp only [if_true, if_neg e3]

/-- the index/fuel model is the cyclic fold over the rotation starting at `first` -/
theorem pointInPolygonG_eq_cyc (cp : Pt → Pt → Pt → Int) (p : Pt) (poly : List Pt) (f : Pt)
    (hn : 3 ≤ poly.length) (hf : poly[findFirst p.y poly]? = some f) :
    pointInPolygonG cp p poly =
      some (pipCyc cp p f (seg poly (findFirst p.y poly + 1) poly.length ++ seg poly 0 (findFirst p.y poly))) := by
  generalize hfirst : findFirst p.y poly = first at *
  have hlt : first < poly.length := (List.getElem?_eq_some_iff.mp hf).1
  have hlast : poly[poly.length - 1]? = some poly[poly.length - 1] := List.getElem?_eq_getElem (by omega)
  generalize hlastv : poly[poly.length - 1] = last at hlast
  have hprevn : poly[prevIdx poly.length poly.length]? = some last := by
    rw [prevIdx, if_neg (by omega)]; exact hlast
  -- second phase: from `cbegin` up to `first`
  have ph2 := pipLoop_phase cp p poly first first 1 (fun ia val => .exit first ia val) (Nat.le_of_lt hlt)
    (pipLoop_at_first cp p poly first) (fun _ _ _ => rfl)
  -- first phase: from `first + 1` to the end, followed (unless `first = cbegin`) by the second
  let C : Bool → Int → LoopOut := fun ia val =>
    if first = 0 then .exit poly.length ia val
    else match pipScan cp p last ia val (seg poly 0 first) with
      | none => .on
      | some (_, ia', val') => .exit first ia' val'
  have hC : ∀ fuel, first + 2 ≤ fuel → ∀ ia val,
      pipLoop cp p poly first fuel poly.length poly.length ia val = C ia val := by
    intro fuel hfuel ia val
    obtain ⟨f', rfl⟩ : ∃ f', fuel = f' + 1 := ⟨fuel - 1, by omega⟩
    by_cases h0 : first = 0
    · simp only [C, if_pos h0]
      rw [pipLoop, if_pos ⟨rfl, Or.inr h0⟩]
    · simp only [C, if_neg h0]
      rw [pipLoop_wrap cp p poly first poly.length h0 (Nat.ne_of_lt hlt)]
      exact ph2 (f' + 1) 0 ia val last (Nat.zero_le _) (Or.inr rfl) hlast (by omega)
  have ph1 := pipLoop_phase cp p poly first poly.length (first + 2) C (Nat.le_refl _) hC
    (fun h => absurd h (Nat.ne_of_gt hlt))
  have hrun := ph1 (2 * poly.length + 4) (first + 1) (decide (f.y < p.y)) 0 f hlt (Or.inl (Nat.lt_succ_self _)) hf
    (by omega)
  rw [pointInPolygonG, if_neg (by omega), hfirst]
  simp only [if_neg (Nat.ne_of_lt hlt), hf, hrun]
  rw [pipCyc, pipScan_append, lastOf_seg hlt (Nat.le_refl _) hf hprevn]
  cases hs1 : pipScan cp p f (decide (f.y < p.y)) 0 (seg poly (first + 1) poly.length) with
  | none => rfl
  | some r1 =>
    obtain ⟨l1, ia1, val1⟩ := r1
    simp only [C]
    by_cases h0 : first = 0
    · subst h0
      simp only [if_true, seg_self, pipScan]
      exact pipFinish_eq cp p poly _ _ ia1 val1 f last (by rw [if_pos rfl]; exact hf) (by rw [if_pos rfl]; exact hlast)
    · simp only [if_neg h0]
      cases hs2 : pipScan cp p last ia1 val1 (seg poly 0 first) with
      | none => rfl
      | some r2 =>
        obtain ⟨l2, ia2, val2⟩ := r2
        have hprf := List.getElem?_eq_getElem (prevIdx_lt hlt)
        have hl2 : l2 = poly[prevIdx poly.length first]'(prevIdx_lt hlt) :=
          (scan_last cp p _ _ _ _ _ hs2).trans (lastOf_seg (Nat.zero_le _) (Nat.le_of_lt hlt) hlast hprf)
        rw [hl2]
        exact pipFinish_eq cp p poly _ _ ia2 val2 f _ (by rw [if_neg (Nat.ne_of_lt hlt)]; exact hf)
          (by rw [if_neg (Nat.ne_of_lt hlt)]; exact hprf)

theorem findFirst_eq_length {py : Int} {poly : List Pt} (h : findFirst py poly = poly.length) :
    ∀ v ∈ poly, v.y = py := by
  induction poly with
  | nil => intro v hv; cases hv
  | cons a r ih =>
    simp only [findFirst] at h
    split at h
    · intro v hv
      rcases List.mem_cons.mp hv with rfl | hv
      · assumption
      · exact ih (by simpa using h) v hv
    · simp at h

end Clipper.Lemmas.Geom

/- Area preservation of `TrimCollinear` (for Props/C20.lean): the shoelace sum is the sum over an open chain plus the closing
edge (`areaQ`); every loop of the closed case drops a middle one of three collinear points and leaves that sum alone, seen
from the front with the last vertex fixed (`Qf`) or, on the reversed range, from the back with the first vertex fixed (`Qb`). -/
import ClipperVerif.Lemmas.PathUtil
namespace Clipper.Lemmas.PathUtil
open Clipper Clipper.Model.PathUtil

def xprod (a b : Pt) : Int := a.x * b.y - b.x * a.y

/-- sum of `xprod` over the consecutive pairs of an open chain -/
def chain : List Pt → Int
  | a :: b :: rest => xprod a b + chain (b :: rest)
  | _ => 0

theorem xprod_self (a : Pt) : xprod a a = 0 := by unfold xprod; grind
theorem xprod_anti (a b : Pt) : xprod b a = - xprod a b := by unfold xprod; grind

/-- dropping the middle one of three collinear points does not change the sum -/
theorem xprod_drop (a b c : Pt) (h : isCollinear a b c = true) : xprod a b + xprod b c = xprod a c := by
  rw [isCollinear_iff] at h; unfold xprod; grind

/-- dropping `z` between `y` and `a` when the test was made with `y` as the shared point (the loop of `trimPopRev`) -/
theorem xprod_drop' (z y a : Pt) (h : isCollinear z y a = true) : xprod y z + xprod z a = xprod y a := by
  rw [isCollinear_iff] at h; unfold xprod; grind

theorem sum_edges_eq_chain (a z : Pt) (rest : List Pt) :
    (((a :: rest).zip (rest ++ [z])).map (fun e => e.1.x * e.2.y - e.2.x * e.1.y)).sum
      = chain (a :: rest ++ [z]) := by
  induction rest generalizing a with
  | nil => simp [chain, xprod]
  | cons b r ih =>
    have := ih b
    simp only [List.cons_append, List.zip_cons_cons, List.map_cons, List.sum_cons, chain, xprod] at this ⊢
    omega

theorem shoelace2_eq_chain (a : Pt) (rest : List Pt) : shoelace2 (a :: rest) = chain (a :: rest ++ [a]) := by
  unfold shoelace2 edgesOf; exact sum_edges_eq_chain a a rest

theorem chain_snoc (l : List Pt) (x : Pt) :
    chain (l ++ [x]) = chain l + (match l.getLast? with | some z => xprod z x | none => 0) := by
  induction l with
  | nil => simp [chain]
  | cons a t ih =>
    cases t with
    | nil => simp [chain]
    | cons b t' =>
      simp only [List.cons_append, chain, List.getLast?_cons_cons] at ih ⊢
      omega

/-- twice the area of the closed polygon `l` as open chain plus closing edge -/
def areaQ (l : List Pt) : Int :=
  match l, l.getLast? with
  | a :: _, some z => chain l + xprod z a
  | _, _ => 0

theorem shoelace2_eq_areaQ (l : List Pt) : shoelace2 l = areaQ l := by
  cases l with
  | nil => simp [shoelace2, edgesOf, areaQ]
  | cons a rest =>
    rw [shoelace2_eq_chain]
    have h := chain_snoc (a :: rest) a
    rw [h]
    unfold areaQ
    cases hl : (a :: rest).getLast? with
    | none => simp at hl
    | some z => rfl

theorem chain_reverse (l : List Pt) : chain l.reverse = - chain l := by
  induction l with
  | nil => simp [chain]
  | cons a t ih =>
    rw [List.reverse_cons, chain_snoc, ih]
    cases t with
    | nil => simp [chain]
    | cons b t' =>
      simp only [List.getLast?_reverse, List.head?_cons, chain]
      rw [xprod_anti a b]; omega

/-- `areaQ` seen from the front with the last vertex fixed -/
def Qf (z : Pt) : List Pt → Int
  | [] => 0
  | a :: t => chain (a :: t) + xprod z a

/-- `areaQ` of the reverse of `r` when the first vertex of the polygon (last of `r`) is `first` -/
def Qb (first : Pt) : List Pt → Int
  | [] => 0
  | z :: t => - chain (z :: t) + xprod z first

theorem areaQ_eq_Qf (l : List Pt) (z : Pt) (h : l.getLast? = some z) : areaQ l = Qf z l := by
  cases l with
  | nil => simp at h
  | cons a t => unfold areaQ Qf; rw [h]

theorem areaQ_reverse_eq_Qb (r : List Pt) (first : Pt) (h : r.getLast? = some first) :
    areaQ r.reverse = Qb first r := by
  cases r with
  | nil => simp at h
  | cons z t =>
    have hh : (z :: t).reverse.head? = some first := by rw [List.head?_reverse]; exact h
    have hl : (z :: t).reverse.getLast? = some z := by rw [List.getLast?_reverse]; rfl
    unfold areaQ Qb
    cases hr : (z :: t).reverse with
    | nil => simp at hr
    | cons a t' =>
      rw [hr] at hh hl
      simp only [List.head?_cons, Option.some.injEq] at hh
      subst hh
      rw [hl]
      simp only []
      rw [← hr, chain_reverse]

theorem trimFront_getLast (last : Pt) (l : List Pt) : (trimFront last l).getLast? = l.getLast? := by
  fun_induction trimFront last l with
  | case1 a b rest h ih => rw [ih, List.getLast?_cons_cons]
  | case2 a b rest h => rfl
  | case3 l h => rfl

theorem trimFront_Qf (last : Pt) (l : List Pt) : Qf last (trimFront last l) = Qf last l := by
  fun_induction trimFront last l with
  | case1 a b rest h ih =>
    rw [ih]; simp only [Qf, chain]
    have := xprod_drop last a b h
    omega
  | case2 a b rest h => rfl
  | case3 l h => rfl

theorem trimBackRev_getLast (first : Pt) (l : List Pt) : (trimBackRev first l).getLast? = l.getLast? :=
  trimBackRev_eq_trimFront first l ▸ trimFront_getLast first l

theorem trimBackRev_Qb (first : Pt) (l : List Pt) : Qb first (trimBackRev first l) = Qb first l := by
  fun_induction trimBackRev first l with
  | case1 z y rest h ih =>
    rw [ih]; simp only [Qb, chain]
    have := xprod_drop y z first h
    have := xprod_anti y z
    omega
  | case2 z y rest h => rfl
  | case3 l h => rfl

theorem trimPopRev_getLast (first : Pt) (l : List Pt) : (trimPopRev first l).getLast? = l.getLast? := by
  fun_induction trimPopRev first l with
  | case1 z y w rest h ih => rw [ih]; simp [List.getLast?_cons_cons]
  | case2 z y w rest h => rfl
  | case3 l h => rfl

theorem trimPopRev_Qb (first : Pt) (l : List Pt) : Qb first (trimPopRev first l) = Qb first l := by
  fun_induction trimPopRev first l with
  | case1 z y w rest h ih =>
    rw [ih]; simp only [Qb, chain]
    have := xprod_drop' z y first h
    have := xprod_anti y z
    omega
  | case2 z y w rest h => rfl
  | case3 l h => rfl

theorem trimLoop_chain (prev cur : Pt) (l : List Pt) :
    chain (prev :: ((trimLoop prev cur l).1 ++ [(trimLoop prev cur l).2.2])) = chain (prev :: cur :: l) := by
  induction l generalizing prev cur with
  | nil => simp [trimLoop]
  | cons n rest ih =>
    simp only [trimLoop]
    split
    · rename_i h
      rw [ih prev n]; simp only [chain]
      have := xprod_drop prev cur n h
      omega
    · have := ih cur n
      simp only [List.cons_append, chain] at this ⊢
      omega

theorem trimLoop_prev (prev cur : Pt) (l : List Pt) :
    (prev :: (trimLoop prev cur l).1).getLast? = some (trimLoop prev cur l).2.1 := by
  induction l generalizing prev cur with
  | nil => simp [trimLoop]
  | cons n rest ih =>
    simp only [trimLoop]
    split
    · exact ih prev n
    · rw [List.getLast?_cons_cons]; exact ih cur n

theorem areaQ_short (l : List Pt) (h : l.length < 3) : areaQ l = 0 := by
  match l, h with
  | [], _ => rfl
  | [a], _ =>
    show 0 + xprod a a = 0
    rw [xprod_self]; rfl
  | [a, b], _ =>
    show xprod a b + 0 + xprod b a = 0
    rw [xprod_anti a b]; omega

theorem trimClosedBody_area (seg : List Pt) : areaQ (trimClosedBody seg) = areaQ seg := by
  unfold trimClosedBody
  split
  · rename_i a c rest
    have hstop := trimLoop_stop a c rest
    have hprev := trimLoop_prev a c rest
    have hchain := trimLoop_chain a c rest
    generalize trimLoop a c rest = r at hstop hprev hchain
    obtain ⟨d, prev, stop⟩ := r
    simp only [] at hstop hprev hchain ⊢
    have hseg : areaQ (a :: c :: rest) = chain (a :: (d ++ [stop])) + xprod stop a := by
      rw [areaQ_eq_Qf _ stop (by rw [List.getLast?_cons_cons]; exact hstop), Qf, hchain]
    split
    · -- stop is kept
      rw [hseg, areaQ_eq_Qf (a :: d ++ [stop]) stop (by rw [List.getLast?_concat])]; rfl
    · rename_i hcol
      have hcol : isCollinear prev stop a = true := by
        cases hc : isCollinear prev stop a <;> simp_all
      have hdst : areaQ (a :: d) = areaQ (a :: c :: rest) := by
        rw [hseg, areaQ_eq_Qf (a :: d) prev hprev, Qf]
        have h1 := chain_snoc (a :: d) stop
        rw [hprev] at h1; simp only [] at h1
        rw [List.cons_append] at h1
        rw [h1]
        have := xprod_drop prev stop a hcol
        omega
      have hpop : areaQ (trimPopRev a (a :: d).reverse).reverse = areaQ (a :: d) := by
        have hl : (a :: d).reverse.getLast? = some a := by rw [List.getLast?_reverse]; rfl
        rw [areaQ_reverse_eq_Qb _ a (by rw [trimPopRev_getLast]; exact hl), trimPopRev_Qb,
          ← areaQ_reverse_eq_Qb _ a hl, List.reverse_reverse]
      split
      · rename_i hshort
        rw [← hdst, ← hpop, areaQ_short _ hshort]; rfl
      · rw [hpop, hdst]
  · rename_i hne
    match seg, hne with
    | [], _ => rfl
    | [a], _ => simp [areaQ, chain, xprod_self]
    | a :: c :: rest, hne => exact absurd rfl (hne a c rest)

theorem trimEnds_area (p : List Pt) : areaQ (trimEnds p) = areaQ p := by
  unfold trimEnds
  split
  · rename_i h
    have : p = [] := by simpa using h
    subst this; rfl
  · rename_i last hlast
    simp only []
    have h1 : areaQ (trimFront last p) = areaQ p := by
      rw [areaQ_eq_Qf _ last (by rw [trimFront_getLast]; exact hlast), trimFront_Qf,
        ← areaQ_eq_Qf _ last hlast]
    split
    · rename_i hnil
      rw [← h1, hnil]
    · rename_i first t heq
      have hl : (trimFront last p).reverse.getLast? = some first := by
        rw [List.getLast?_reverse, heq]; rfl
      rw [← h1]
      rw [areaQ_reverse_eq_Qb _ first (by rw [trimBackRev_getLast]; exact hl), trimBackRev_Qb,
        ← areaQ_reverse_eq_Qb _ first hl, List.reverse_reverse]

theorem trimCollinear_closed_area (p : List Pt) : shoelace2 (trimCollinear p false) = shoelace2 p := by
  rw [shoelace2_eq_areaQ, shoelace2_eq_areaQ]
  unfold trimCollinear
  split
  · rename_i h
    simp only [Bool.false_eq_true, if_false]
    rw [areaQ_short p h]; rfl
  · simp only [Bool.false_eq_true, if_false]
    rw [trimClosedBody_area, trimEnds_area]

end Clipper.Lemmas.PathUtil

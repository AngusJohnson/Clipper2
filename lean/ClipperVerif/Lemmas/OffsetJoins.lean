/-
Helper definitions and algebra for the join-geometry theorems (`Props/C06Joins.lean`): vocabulary for stating where a
raw vertex lies (`dist2`, `along`, `IsUnit`), order facts about squares over `Rat`, the unfolding of the exact instance
`ratOps`, the rotation step of `DoRound`, the chord lemma, `GetSegmentIntersectPt` by the sides of line 2 on which the ends
of segment 1 lie (`side`), and the square-off line of `DoSquare` as a parametrised point (`sqAt`).
-/
import ClipperVerif.Model.OffsetJoins
namespace Clipper.OffsetJoins
open Clipper

/-- `n` is a unit vector -/
def IsUnit (n : V Rat) : Prop := n.x * n.x + n.y * n.y = 1

instance (n : V Rat) : Decidable (IsUnit n) := inferInstanceAs (Decidable (n.x * n.x + n.y * n.y = 1))

/-- the raw (unrounded) position of an emitted vertex -/
def Out.vec : Out Rat → V Rat
  | .raw x y => ⟨x, y⟩
  | .pt p => ⟨(p.x : Rat), (p.y : Rat)⟩

/-- squared Euclidean distance of `q` from the path vertex `p` -/
def dist2 (q : V Rat) (p : Pt) : Rat := (q.x - p.x) * (q.x - p.x) + (q.y - p.y) * (q.y - p.y)

/-- `(q − p) · n`: for a unit `n` the signed distance of `q` from the line through `p` with normal `n`;
`along q p n = δ` says that `q` lies on the line obtained by moving that line by `δ` along `n` (the offset line of an
edge through `p` whose unit normal is `n`) -/
def along (q : V Rat) (p : Pt) (n : V Rat) : Rat := (q.x - p.x) * n.x + (q.y - p.y) * n.y

/-- `n_k · n_j` and the two-vector `CrossProduct`, as plain rational expressions -/
def dotR (a b : V Rat) : Rat := a.x * b.x + a.y * b.y
def crossR (a b : V Rat) : Rat := a.y * b.x - b.y * a.x

/-- the point `a + t (b − a)` of the segment `a b` -/
def lerp (a b : V Rat) (t : Rat) : V Rat := ⟨a.x + t * (b.x - a.x), a.y + t * (b.y - a.y)⟩

theorem sq_nonneg (d : Rat) : 0 ≤ d * d := by
  rcases Rat.le_total (a := 0) (b := d) with h | h
  · exact Rat.mul_nonneg h h
  · have h' : 0 ≤ -d := by grind
    have := Rat.mul_nonneg h' h'
    grind

theorem dist2_nonneg (q : V Rat) (p : Pt) : 0 ≤ dist2 q p := Rat.add_nonneg (sq_nonneg _) (sq_nonneg _)

theorem rabs_mul_self (d : Rat) : rabs d * rabs d = d * d := by
  unfold rabs; split <;> grind

theorem rabs_nonneg (d : Rat) : 0 ≤ rabs d := by
  unfold rabs; split <;> grind

theorem rabs_eq (d : Rat) : rabs d = d ∨ rabs d = -d := by
  unfold rabs; split <;> simp

theorem rabs_pos {d : Rat} (h : d ≠ 0) : 0 < rabs d := by
  unfold rabs; split <;> grind

/-- `|d| = σ d` with `σ = ±1` the sign of `d` -/
theorem rabs_eq_sign {d : Rat} (h : d ≠ 0) : ∃ σ : Rat, σ * σ = 1 ∧ rabs d = σ * d ∧ 0 < σ * d := by
  unfold rabs
  split
  · exact ⟨-1, by decide +kernel, by grind, by grind⟩
  · exact ⟨1, by decide +kernel, by grind, by grind⟩

theorem mul_self_lt_mul_self {a b : Rat} (ha : 0 ≤ a) (hab : a < b) : a * a < b * b :=
  Std.lt_of_le_of_lt (Rat.mul_le_mul_of_nonneg_left (Rat.le_of_lt hab) ha)
    (Rat.mul_lt_mul_of_pos_right hab (Std.lt_of_le_of_lt ha hab))

theorem abs_le_one_of_sq_add (a b : Rat) (h : a * a + b * b = 1) : -1 ≤ a ∧ a ≤ 1 := by
  have hb := sq_nonneg b
  -- `1 < x` would give `1 < x²`
  have key : ∀ x : Rat, x * x = a * a → x ≤ 1 := fun x hx => Rat.not_lt.mp fun h1 => by
    have := mul_self_lt_mul_self (by decide +kernel : (0 : Rat) ≤ 1) h1
    grind
  have := key (-a) (by grind)
  exact ⟨by grind, key a rfl⟩

theorem mul_ne_zero' {a b : Rat} (ha : a ≠ 0) (hb : b ≠ 0) : a * b ≠ 0 := by
  intro h; rcases Rat.mul_eq_zero.mp h with h | h <;> contradiction

theorem mul_self_pos {d : Rat} (h : d ≠ 0) : 0 < d * d :=
  Rat.lt_of_le_of_ne (sq_nonneg d) (mul_ne_zero' h h).symm

-- `lt`, `le`, `abs`: as a term `rfl` is slow to elaborate here
@[simp] theorem ratOps_ofInt (m : Libm Rat) (pi : Rat) (i : Int) : (ratOps m pi).ofInt i = (i : Rat) := rfl
@[simp] theorem ratOps_lt (m : Libm Rat) (pi a b : Rat) : (ratOps m pi).lt a b = decide (a < b) := by rfl
@[simp] theorem ratOps_le (m : Libm Rat) (pi a b : Rat) : (ratOps m pi).le a b = decide (a ≤ b) := by rfl
@[simp] theorem ratOps_isZero (m : Libm Rat) (pi a : Rat) : (ratOps m pi).isZero a = decide (a = 0) := rfl
@[simp] theorem ratOps_abs (m : Libm Rat) (pi a : Rat) : (ratOps m pi).abs a = rabs a := by rfl
@[simp] theorem ratOps_sqrt (m : Libm Rat) (pi a : Rat) : (ratOps m pi).sqrt a = m.sqrt a := rfl
@[simp] theorem ratOps_c0999 (m : Libm Rat) (pi : Rat) : (ratOps m pi).c0999 = 999 / 1000 := rfl
@[simp] theorem ratOps_c0001 (m : Libm Rat) (pi : Rat) : (ratOps m pi).c0001 = 1 / 1000 := rfl
@[simp] theorem ratOps_fpTol (m : Libm Rat) (pi : Rat) : (ratOps m pi).fpTol = 1 / 1000000000000 := rfl
@[simp] theorem ratOps_sin (m : Libm Rat) (pi a : Rat) : (ratOps m pi).sin a = m.sin a := rfl
@[simp] theorem ratOps_cos (m : Libm Rat) (pi a : Rat) : (ratOps m pi).cos a = m.cos a := rfl

theorem V.ext' {a b : V Rat} (hx : a.x = b.x) (hy : a.y = b.y) : a = b := by
  cases a; cases b; simp_all

theorem outV_inj {a b : V Rat} (h : outV a = outV b) : a = b := by
  simp only [outV, Out.raw.injEq] at h
  exact V.ext' h.1 h.2

theorem lerp_zero (a b : V Rat) : lerp a b 0 = a := by simp only [lerp, Rat.zero_mul, Rat.add_zero]

theorem lerp_one (a b : V Rat) : lerp a b 1 = b := by
  simp only [lerp, Rat.one_mul]; exact V.ext' (by grind) (by grind)

theorem reflectPoint_reflectPoint (r q : V Rat) : reflectPoint (reflectPoint r q) q = r := by
  simp only [reflectPoint]; exact V.ext' (by grind) (by grind)

theorem lerp_add (px py ux uy wx wy t : Rat) :
    lerp ⟨px + ux, py + uy⟩ ⟨px + wx, py + wy⟩ t = ⟨px + (ux + t * (wx - ux)), py + (uy + t * (wy - uy))⟩ := by
  simp only [lerp]; exact V.ext' (by grind) (by grind)

theorem dist2_add (p : Pt) (dx dy : Rat) : dist2 ⟨(p.x : Rat) + dx, (p.y : Rat) + dy⟩ p = dx * dx + dy * dy := by
  simp only [dist2]; grind

theorem along_add (p : Pt) (dx dy : Rat) (n : V Rat) :
    along ⟨(p.x : Rat) + dx, (p.y : Rat) + dy⟩ p n = dx * n.x + dy * n.y := by
  simp only [along]; grind

theorem rotStep_norm (s c : Rat) (v : V Rat) (h : c * c + s * s = 1) :
    (rotStep s c v).x * (rotStep s c v).x + (rotStep s c v).y * (rotStep s c v).y = v.x * v.x + v.y * v.y := by
  simp only [rotStep]; grind

/-- every point produced by `n` iterations of the loop of `DoRound` is as far from `p` as the vector it started
from is long -/
theorem roundLoop_on_circle (s c : Rat) (h : c * c + s * s = 1) (p : Pt) (r : Rat) :
    ∀ (n : Nat) (v : V Rat), v.x * v.x + v.y * v.y = r →
      ∀ q ∈ (roundLoop (p.x : Rat) (p.y : Rat) s c n v).map Out.vec, dist2 q p = r := by
  intro n
  induction n with
  | zero => intro v _ q hq; simp [roundLoop] at hq
  | succ n ih =>
    intro v hv q hq
    have hn := (rotStep_norm s c v h).trans hv
    simp only [roundLoop, List.map_cons, List.mem_cons] at hq
    rcases hq with rfl | hq
    · exact (dist2_add p _ _).trans hn
    · exact ih (rotStep s c v) hn q hq

theorem roundLoop_length (px py s c : Rat) : ∀ (n : Nat) (v : V Rat), (roundLoop px py s c n v).length = n := by
  intro n
  induction n with
  | zero => intro v; rfl
  | succ n ih => intro v; simp [roundLoop, ih]

/-- Two vectors `u`, `w` of squared length `r`, with `u · w = r c` and `c ≤ 1`: every point of the chord between them has
squared length between `r (1 + c) / 2` (the midpoint) and `r`. -/
theorem chord_bounds (ux uy wx wy r c t : Rat) (hu : ux * ux + uy * uy = r) (hw : wx * wx + wy * wy = r)
    (hd : ux * wx + uy * wy = r * c) (hc : c ≤ 1) (hr : 0 ≤ r) (h0 : 0 ≤ t) (h1 : t ≤ 1) :
    let qx := ux + t * (wx - ux)
    let qy := uy + t * (wy - uy)
    r * (1 + c) / 2 ≤ qx * qx + qy * qy ∧ qx * qx + qy * qy ≤ r := by
  intro qx qy
  -- `|q|² = r − 2 t (1 − t) · r (1 − c)`, and `0 ≤ t (1 − t) ≤ 1/4` because `0 ≤ (1 − 2 t)²`
  have key : qx * qx + qy * qy = r - 2 * (t * (1 - t)) * (r * (1 - c)) := by
    simp only [qx, qy]; grind
  rw [key]
  clear key hu hw hd qx qy
  have hk : 0 ≤ r * (1 - c) := Rat.mul_nonneg hr ((Rat.le_iff_sub_nonneg _ _).mp hc)
  have h4 := Rat.mul_nonneg (Rat.mul_nonneg h0 ((Rat.le_iff_sub_nonneg _ _).mp h1)) hk
  have h7 := Rat.mul_nonneg (sq_nonneg (1 - 2 * t)) hk
  constructor <;> grind

/-- `det` of `GetSegmentIntersectPt(a, b, c, d, ·)` -/
def segDet (a b c d : V Rat) : Rat := (b.y - a.y) * (d.x - c.x) - (d.y - c.y) * (b.x - a.x)
/-- `t` of `GetSegmentIntersectPt(a, b, c, d, ·)` -/
def segT (a b c d : V Rat) : Rat := ((a.x - c.x) * (d.y - c.y) - (a.y - c.y) * (d.x - c.x)) / segDet a b c d

theorem segint_unfold (m : Libm Rat) (pi : Rat) (a b c d ip : V Rat) :
    getSegmentIntersectPtD (ratOps m pi) a b c d ip =
      if segDet a b c d = 0 then ip
      else if segT a b c d ≤ 0 then a
      else if 1 ≤ segT a b c d then b
      else lerp a b (segT a b c d) := by
  simp only [getSegmentIntersectPtD, ratOps_isZero, ratOps_le, decide_eq_true_eq]
  rfl

/-- `(x − c) × (d − c)`: zero iff `x` lies on the line `c d`, and its sign tells on which side; affine in `x` -/
def side (c d x : V Rat) : Rat := (x.x - c.x) * (d.y - c.y) - (x.y - c.y) * (d.x - c.x)

theorem side_lerp (c d a b : V Rat) (t : Rat) :
    side c d (lerp a b t) = side c d a + t * (side c d b - side c d a) := by
  simp only [side, lerp]; grind

theorem segDet_eq_side (a b c d : V Rat) : segDet a b c d = side c d a - side c d b := by
  simp only [segDet, side]; grind

theorem segT_eq_side (a b c d : V Rat) : segT a b c d = side c d a / (side c d a - side c d b) := by
  rw [← segDet_eq_side]; rfl

/-- whatever branch is taken, the result is a point `a + t (b − a)`, `0 ≤ t ≤ 1`, of segment 1 - provided the
initial value of `ip` is one (in `DoSquare` it is the midpoint `ptQ`) -/
theorem segint_in_segment (m : Libm Rat) (pi : Rat) (a b c d ip : V Rat)
    (hip : ∃ t, 0 ≤ t ∧ t ≤ 1 ∧ ip = lerp a b t) :
    ∃ t, 0 ≤ t ∧ t ≤ 1 ∧ getSegmentIntersectPtD (ratOps m pi) a b c d ip = lerp a b t := by
  rw [segint_unfold]
  split
  · exact hip
  · split
    · exact ⟨0, by decide +kernel, by decide +kernel, (lerp_zero a b).symm⟩
    · split
      · exact ⟨1, by decide +kernel, by decide +kernel, (lerp_one a b).symm⟩
      · exact ⟨segT a b c d, by grind, by grind, rfl⟩

/-- `a` and `b` strictly on opposite sides of the line `c d`: neither the parallel test nor the clamp applies, the result
is the point where the segment crosses the line -/
theorem segint_cross (m : Libm Rat) (pi : Rat) (a b c d ip : V Rat) (h : side c d a * side c d b < 0) :
    ∃ t, getSegmentIntersectPtD (ratOps m pi) a b c d ip = lerp a b t ∧ side c d (lerp a b t) = 0 := by
  generalize hA : side c d a = A at h
  generalize hB : side c d b = B at h
  have hD : A - B ≠ 0 := by
    intro e
    rw [show A = B by grind] at h
    exact absurd (sq_nonneg B) (Rat.not_le.mpr h)
  have ht : A / (A - B) * (A - B) = A := Rat.div_mul_cancel hD
  have hDD := mul_self_pos hD
  -- `t D² = A D = A² − A B` and `(1 − t) D² = −B D = B² − A B` are positive
  have e0 : A / (A - B) * ((A - B) * (A - B)) = A * A - A * B := by rw [← Rat.mul_assoc, ht]; grind
  have e1 : (1 - A / (A - B)) * ((A - B) * (A - B)) = B * B - A * B := by grind
  have h0 : 0 < A / (A - B) := (Rat.mul_pos_iff_of_pos_right hDD).mp (by have := sq_nonneg A; grind)
  have h1 : 0 < 1 - A / (A - B) := (Rat.mul_pos_iff_of_pos_right hDD).mp (by have := sq_nonneg B; grind)
  refine ⟨A / (A - B), ?_, ?_⟩
  · rw [segint_unfold, segT_eq_side, segDet_eq_side, hA, hB, if_neg hD, if_neg (Rat.not_le.mpr h0), if_neg (Rat.not_le.mpr (by grind))]
  · rw [side_lerp, hA, hB]; grind

/-- `b` on the line `c d`, `a` not: the result is `b` (`t = 1`) -/
theorem segint_end (m : Libm Rat) (pi : Rat) (a b c d ip : V Rat) (hb : side c d b = 0) (ha : side c d a ≠ 0) :
    getSegmentIntersectPtD (ratOps m pi) a b c d ip = b := by
  rw [segint_unfold, segT_eq_side, segDet_eq_side, hb, show side c d a - 0 = side c d a by grind, if_neg ha,
    show side c d a / side c d a = 1 from Rat.mul_inv_cancel _ ha, if_neg (by decide +kernel), if_pos (by decide +kernel)]

/-- `ptQ` of `DoSquare`: the vertex moved `|δ|` along `vec` -/
def sqQ (vec : V Rat) (pj : Pt) (gd : Rat) : V Rat :=
  translatePoint ⟨(pj.x : Rat), (pj.y : Rat)⟩ (rabs gd * vec.x) (rabs gd * vec.y)

/-- the point `ptQ + σ δ (vec.y, −vec.x)` of the line through `ptQ` perpendicular to `vec` -/
def sqAt (vec : V Rat) (pj : Pt) (gd σ : Rat) : V Rat :=
  ⟨(sqQ vec pj gd).x + σ * (gd * vec.y), (sqQ vec pj gd).y + σ * (gd * -vec.x)⟩

/-- `pt1`, `pt2`, `pt3`, `pt4` and the intersection point `pt` of `DoSquare` -/
def sqP1 (vec : V Rat) (pj : Pt) (gd : Rat) : V Rat := translatePoint (sqQ vec pj gd) (gd * vec.y) (gd * -vec.x)
def sqP2 (vec : V Rat) (pj : Pt) (gd : Rat) : V Rat := translatePoint (sqQ vec pj gd) (gd * -vec.y) (gd * vec.x)
def sqP3 (pk : Pt) (nk : V Rat) (gd : Rat) : V Rat := ⟨(pk.x : Rat) + nk.x * gd, (pk.y : Rat) + nk.y * gd⟩
def sqP4 (vec : V Rat) (pj pk : Pt) (nk : V Rat) (cap : Bool) (gd : Rat) : V Rat :=
  if cap then ⟨(sqP3 pk nk gd).x + vec.x * gd, (sqP3 pk nk gd).y + vec.y * gd⟩ else sqP3 pj nk gd
def sqPt (m : Libm Rat) (pi : Rat) (vec : V Rat) (pj pk : Pt) (nk : V Rat) (cap : Bool) (gd : Rat) : V Rat :=
  getSegmentIntersectPtD (ratOps m pi) (sqP1 vec pj gd) (sqP2 vec pj gd) (sqP3 pk nk gd) (sqP4 vec pj pk nk cap gd) (sqQ vec pj gd)

theorem doSquareWith_eq (m : Libm Rat) (pi : Rat) (vec : V Rat) (pj pk : Pt) (nk : V Rat) (cap : Bool) (gd : Rat) :
    doSquareWith (ratOps m pi) vec pj pk nk cap gd =
      if cap then [outV (reflectPoint (sqPt m pi vec pj pk nk cap gd) (sqQ vec pj gd)), outV (sqPt m pi vec pj pk nk cap gd)]
      else [outV (sqPt m pi vec pj pk nk cap gd), outV (reflectPoint (sqPt m pi vec pj pk nk cap gd) (sqQ vec pj gd))] := by
  -- by `simp only`, not `rfl`: the definitional unfolding of `getSegmentIntersectPtD` is very slow to check
  cases cap <;>
    simp only [doSquareWith, sqPt, sqP1, sqP2, sqP3, sqP4, sqQ, getPerpendicD, ratOps_ofInt, ratOps_abs, if_true, if_false,
      Bool.false_eq_true]

theorem sqPt_join (m : Libm Rat) (pi : Rat) (vec : V Rat) (pj pk : Pt) (nk : V Rat) (gd : Rat) :
    sqPt m pi vec pj pk nk false gd = getSegmentIntersectPtD (ratOps m pi) (sqP1 vec pj gd) (sqP2 vec pj gd)
      (sqP3 pk nk gd) (sqP3 pj nk gd) (sqQ vec pj gd) := rfl

/-- the two points of a join (`j ≠ k`) read off the result -/
theorem doSquareWith_join {m : Libm Rat} {pi : Rat} {vec : V Rat} {pj pk : Pt} {nk : V Rat} {gd : Rat} {q1 q2 : V Rat}
    (h : doSquareWith (ratOps m pi) vec pj pk nk false gd = [outV q1, outV q2]) :
    q1 = sqPt m pi vec pj pk nk false gd ∧ q2 = reflectPoint (sqPt m pi vec pj pk nk false gd) (sqQ vec pj gd) := by
  rw [doSquareWith_eq] at h
  simp only [Bool.false_eq_true, if_false, List.cons.injEq, and_true] at h
  exact ⟨(outV_inj h.1).symm, (outV_inj h.2).symm⟩

theorem lerp_sqP (vec : V Rat) (pj : Pt) (gd t : Rat) :
    lerp (sqP1 vec pj gd) (sqP2 vec pj gd) t = sqAt vec pj gd (1 - 2 * t) := by
  simp only [lerp, sqP1, sqP2, sqAt, translatePoint]; exact V.ext' (by grind) (by grind)

theorem sqP1_eq (vec : V Rat) (pj : Pt) (gd : Rat) : sqP1 vec pj gd = sqAt vec pj gd 1 := by
  simp only [sqP1, sqAt, translatePoint]; exact V.ext' (by grind) (by grind)

theorem sqP2_eq (vec : V Rat) (pj : Pt) (gd : Rat) : sqP2 vec pj gd = sqAt vec pj gd (-1) := by
  simp only [sqP2, sqAt, translatePoint]; exact V.ext' (by grind) (by grind)

theorem reflect_sqAt (vec : V Rat) (pj : Pt) (gd σ : Rat) :
    reflectPoint (sqAt vec pj gd σ) (sqQ vec pj gd) = sqAt vec pj gd (-σ) := by
  simp only [reflectPoint, sqAt]; exact V.ext' (by grind) (by grind)

/-- the intersection point of `DoSquare` always lies on the segment `pt1 pt2` of the square-off line -/
theorem sqPt_eq_sqAt (m : Libm Rat) (pi : Rat) (vec : V Rat) (pj pk : Pt) (nk : V Rat) (cap : Bool) (gd : Rat) :
    ∃ σ, -1 ≤ σ ∧ σ ≤ 1 ∧ sqPt m pi vec pj pk nk cap gd = sqAt vec pj gd σ := by
  obtain ⟨t, h0, h1, h⟩ := segint_in_segment m pi (sqP1 vec pj gd) (sqP2 vec pj gd) (sqP3 pk nk gd)
    (sqP4 vec pj pk nk cap gd) (sqQ vec pj gd)
    ⟨1 / 2, by decide +kernel, by decide +kernel, by
      rw [lerp_sqP]; simp only [sqAt]; exact V.ext' (by grind) (by grind)⟩
  exact ⟨1 - 2 * t, by grind, by grind, h.trans (lerp_sqP vec pj gd t)⟩

/-- `(q − p) · n` for a point of the square-off line, in terms of `vec · n` and `(vec.y, −vec.x) · n` -/
theorem along_sqAt (vec : V Rat) (pj : Pt) (gd σ : Rat) (n : V Rat) :
    along (sqAt vec pj gd σ) pj n
      = rabs gd * (vec.x * n.x + vec.y * n.y) + σ * (gd * (vec.y * n.x - vec.x * n.y)) := by
  simp only [along, sqAt, sqQ, translatePoint]; grind

/-- the square-off line is `{x : (x − p) · vec = |δ|}` -/
theorem along_sqAt_self (vec : V Rat) (pj : Pt) (gd σ : Rat) (hv : IsUnit vec) :
    along (sqAt vec pj gd σ) pj vec = rabs gd := by
  simp only [IsUnit] at hv
  rw [along_sqAt]; grind

theorem dist2_sqAt (vec : V Rat) (pj : Pt) (gd σ : Rat) (hv : IsUnit vec) :
    dist2 (sqAt vec pj gd σ) pj = gd * gd * (1 + σ * σ) := by
  have ha := rabs_mul_self gd
  simp only [IsUnit] at hv
  simp only [dist2, sqAt, sqQ, translatePoint]; grind

/-- between the ends `pt1`, `pt2` the distance from the vertex is between `|δ|` and `sqrt 2 · |δ|` -/
theorem dist2_sqAt_bounds (vec : V Rat) (pj : Pt) (gd σ : Rat) (hv : IsUnit vec) (h0 : -1 ≤ σ) (h1 : σ ≤ 1) :
    gd * gd ≤ dist2 (sqAt vec pj gd σ) pj ∧ dist2 (sqAt vec pj gd σ) pj ≤ 2 * (gd * gd) := by
  have hg := sq_nonneg gd
  have h2 := Rat.mul_nonneg hg (sq_nonneg σ)
  have h3 := Rat.mul_nonneg hg (Rat.mul_nonneg (by grind : 0 ≤ 1 - σ) (by grind : 0 ≤ 1 + σ))
  rw [dist2_sqAt vec pj gd σ hv]
  constructor <;> grind

/-- for an edge `p_k → p_j` of direction `L (−n_k.y, n_k.x)` with unit normal `n_k`, the side of `x` with respect to the
line `pt3 pt4` of `DoSquare` (the offset line of edge `k`) is `L` times its signed distance from that line -/
theorem side_offsetLine (pj pk : Pt) (nk : V Rat) (gd L : Rat) (hk : IsUnit nk)
    (hex : (pj.x : Rat) - pk.x = L * -nk.y) (hey : (pj.y : Rat) - pk.y = L * nk.x) (x : V Rat) :
    side (sqP3 pk nk gd) (sqP3 pj nk gd) x = L * (along x pj nk - gd) := by
  simp only [IsUnit] at hk
  simp only [side, sqP3, along]; grind

/-- The ends `pt1`, `pt2` of the square-off segment at a strictly convex corner lie strictly on opposite sides of the
offset line of edge `k`.  `w = (vec.y, −vec.x) · n_k > 0`, `u0 = vec · n_k = λ sin_a`, a point of the unit circle: with
`|δ| = σ δ`, `σ = ±1`, and `U = σ u0` the two signed distances are `δ (U − 1 ± w)`, their product `2 δ² U (U − 1)`, and
`0 < U` by convexity, `U < 1` because `w ≠ 0`.  The statement has the shape `along_sqAt` gives for `σ = ±1`. -/
theorem convex_opposite (gd lam s w u0 : Rat) (hlam : 0 < lam) (hw : 0 < w) (hu : u0 = lam * s)
    (hlag : u0 * u0 + w * w = 1) (hconvex : 0 < s * gd) :
    (rabs gd * u0 + 1 * (gd * w) - gd) * (rabs gd * u0 + -1 * (gd * w) - gd) < 0 := by
  have hgd : gd ≠ 0 := by intro h; rw [h, Rat.mul_zero] at hconvex; exact Rat.lt_irrefl hconvex
  obtain ⟨σ, hσ, ha, hσgd⟩ := rabs_eq_sign hgd
  have hU : 0 < σ * u0 := by
    have h2 : 0 < σ * s := (Rat.mul_pos_iff_of_pos_right (mul_self_pos hgd)).mp (by
      have := Rat.mul_pos hσgd hconvex; grind)
    rw [hu, ← Rat.mul_assoc, Rat.mul_comm σ lam, Rat.mul_assoc]
    exact Rat.mul_pos hlam h2
  have hU1 : σ * u0 < 1 := Rat.lt_of_le_of_ne (abs_le_one_of_sq_add (σ * u0) w (by grind)).2 (by
    intro h1; have := Rat.mul_pos hw hw; grind)
  have e : (rabs gd * u0 + 1 * (gd * w) - gd) * (rabs gd * u0 + -1 * (gd * w) - gd)
      = -(2 * (gd * gd * (σ * u0) * (1 - σ * u0))) := by rw [ha]; grind
  have := Rat.mul_pos (Rat.mul_pos (mul_self_pos hgd) hU) (by grind : 0 < 1 - σ * u0)
  rw [e]; grind

end Clipper.OffsetJoins

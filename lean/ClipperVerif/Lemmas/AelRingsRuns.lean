/-
Runs of the ring assembly model: the ghost run id of a ring end follows one `Active` through the AEL (helper lemmas for
`Props/C01Rings.lean`, theorem `run_follows_active`).  Following a run through an event needs the invariant `OInv` at every stage of the
event, so this is also where every event is shown to keep `OInv` (`stage_step`).
-/
import ClipperVerif.Lemmas.AelRingsStep
namespace Clipper.Model

/-- the run id of end `k` -/
def runOf (rings : List Ring) (k : Rec) : Option Nat := (rings[k.id]?).map (fun g => g.run k.front)

/-- the run id held by the edge at position `p` of the AEL -/
def holderRun (l : List SEdge) (rings : List Ring) (p : Nat) : Option Nat :=
  match l[p]? with
  | some x => (match x.orec with | some k => runOf rings k | none => none)
  | none => none

theorem runOf_newRec_old (pt : Pt) (o : Out) (k : Rec) (hlt : k.id < o.rings.length) : runOf (newRec pt o).rings k = runOf o.rings k :=
  congrArg (Option.map _) (List.getElem?_append_left hlt)

theorem runOf_fresh_of_new (pt : Pt) (o : Out) (k : Rec) (ρ : Nat) (hk : k.id = o.rings.length) (h : runOf (newRec pt o).rings k = some ρ) : o.nrun ≤ ρ := by
  unfold runOf newRec at h
  rw [hk, List.getElem?_append_right (Nat.le_refl _), Nat.sub_self] at h
  cases h
  cases k.front
  · exact Nat.le_succ _
  · exact Nat.le_refl _

theorem addPt_run (f f' : Bool) (pt : Pt) (r : Ring) : (addPt f pt r).1.run f' = r.run f' := by
  rcases addPt_cases f pt r with ⟨_, e⟩ | ⟨_, _, _, e⟩ | ⟨_, e⟩ <;> rw [e] <;> cases f <;> rfl

theorem runOf_set (l : List Ring) (id : Nat) (g g' : Ring) (k : Rec) (hg : l[id]? = some g) (hr : k.id = id → g'.run k.front = g.run k.front) :
    runOf (l.set id g') k = runOf l k := by
  unfold runOf
  by_cases e : k.id = id
  · rw [e, List.getElem?_set_self (lt_of_get hg), hg]; exact congrArg some (hr e)
  · rw [List.getElem?_set_ne (fun h => e h.symm)]

theorem runOf_addOutPt (id : Nat) (f : Bool) (pt : Pt) (o : Out) (k : Rec) : runOf (addOutPt id f pt o).rings k = runOf o.rings k := by
  rcases addOutPt_cases id f pt o with ⟨r, hr, _, e⟩ | ⟨_, e⟩ <;> rw [e]
  exact runOf_set _ _ r _ _ hr (fun _ => addPt_run _ _ _ _)

theorem runOf_logSeg (kd : SegKind) (i1 : Nat) (f1 : Bool) (i2 : Nat) (f2 : Bool) (o : Out) (k : Rec) :
    runOf (logSeg kd i1 f1 i2 f2 o).rings k = runOf o.rings k := by rw [logSeg_rings]

theorem runOf_finish (id : Nat) (f : Bool) (o : Out) (k : Rec) : runOf (finish id f o).rings k = runOf o.rings k := by
  rcases finish_cases id f o with ⟨r, _, hr, _, _, _, e⟩ | e <;> rw [e]
  exact runOf_set _ _ r _ _ hr (fun _ => rfl)

theorem runOf_handOver_other (id : Nat) (f : Bool) (o : Out) (k : Rec) (hne : ¬ (k.id = id ∧ k.front = f)) :
    runOf (handOver id f o).rings k = runOf o.rings k := by
  rcases handOver_cases id f o with ⟨r, hr, e⟩ | ⟨_, e⟩ <;> rw [e]
  refine runOf_set _ _ r _ _ hr (fun e => ?_)
  have : k.front ≠ f := fun h => hne ⟨e, h⟩
  cases f <;> cases hk : k.front <;> first | rfl | exact absurd hk this

theorem runOf_handOver_self (id : Nat) (f : Bool) (o : Out) (ρ : Nat) (h : runOf (handOver id f o).rings ⟨id, f⟩ = some ρ) : ρ = o.nrun := by
  unfold runOf at h
  rcases handOver_cases id f o with ⟨r, hr, e⟩ | ⟨hr, e⟩ <;> rw [e] at h
  · rw [List.getElem?_set_self (lt_of_get hr)] at h
    cases f <;> cases h <;> rfl
  · rw [hr] at h; cases h

theorem nrun_handOver (id : Nat) (f : Bool) (o : Out) : o.nrun ≤ (handOver id f o).nrun := by
  rcases handOver_cases id f o with ⟨r, _, e⟩ | ⟨_, e⟩ <;> rw [e]
  · exact Nat.le_succ _
  · exact Nat.le_refl _

theorem joined_run (ra rb : Ring) (f f' : Bool) (h : f' ≠ f) : (ra.joined f rb).run f' = ra.run f' := by
  cases f <;> cases f' <;> first | rfl | exact absurd rfl h

theorem runOf_joinPaths_other (A B : Nat) (f : Bool) (o : Out) (k : Rec) (hne : ¬ (k.id = A ∧ k.front = f)) :
    runOf (joinPaths A B f o).rings k = runOf o.rings k := by
  rcases joinPaths_cases A B f o with ⟨ra, rb, hA, hB, hAB, _, _, e⟩ | e <;> rw [e]
  have hB' : (o.rings.set A (ra.joined f rb))[B]? = some rb := by rw [List.getElem?_set_ne hAB]; exact hB
  exact (runOf_set _ B rb { rb with pts := [], stat := .gone } k hB' (fun _ => rfl)).trans
    (runOf_set _ A ra _ k hA (fun e => joined_run ra rb f k.front (fun h => hne ⟨e, h⟩)))

theorem runOf_joinPaths_moved (A B : Nat) (f : Bool) (o : Out) (ra rb : Ring) (hA : o.rings[A]? = some ra) (hB : o.rings[B]? = some rb)
    (hne : A ≠ B) (hla : ra.stat = .live) (hlb : rb.stat = .live) : runOf (joinPaths A B f o).rings ⟨A, f⟩ = runOf o.rings ⟨B, f⟩ := by
  rw [joinPaths_of_live A B f o ra rb hA hB hne hla hlb]
  unfold runOf
  rw [List.getElem?_set_ne (Ne.symm hne), List.getElem?_set_self (lt_of_get hA), hB]
  cases f <;> rfl

/-- every run held after the stage is new (`≥ n0`) or was held before by the edge that `tr` moves to that position -/
def Follows (n0 : Nat) (tr : Nat → Option Nat) (l : List SEdge) (rings : List Ring) (l' : List SEdge) (rings' : List Ring) : Prop :=
  ∀ p' ρ, holderRun l' rings' p' = some ρ → n0 ≤ ρ ∨ ∃ p, tr p = some p' ∧ holderRun l rings p = some ρ

theorem follows_refl (n0 : Nat) (l : List SEdge) (rings : List Ring) : Follows n0 some l rings l rings :=
  fun p' _ h => Or.inr ⟨p', rfl, h⟩

theorem follows_trans (n0 n1 : Nat) (t1 t2 : Nat → Option Nat) (l l1 l2 : List SEdge) (r r1 r2 : List Ring)
    (h1 : Follows n0 t1 l r l1 r1) (h2 : Follows n1 t2 l1 r1 l2 r2) (hn : n0 ≤ n1) :
    Follows n0 (fun p => (t1 p).bind t2) l r l2 r2 := by
  intro p' ρ h
  rcases h2 p' ρ h with h | ⟨p1, hp1, hr1⟩
  · exact Or.inl (Nat.le_trans hn h)
  · rcases h1 p1 ρ hr1 with h | ⟨p, hp, hr⟩
    · left; exact h
    · right; exact ⟨p, by simp [hp, hp1], hr⟩

theorem follows_mono (n0 : Nat) (t t' : Nat → Option Nat) (l l' : List SEdge) (r r' : List Ring) (h : Follows n0 t l r l' r')
    (ht : ∀ p p', t p = some p' → t' p = some p') : Follows n0 t' l r l' r' := by
  intro p' ρ hh
  rcases h p' ρ hh with h | ⟨p, hp, hr⟩
  · left; exact h
  · right; exact ⟨p, ht p p' hp, hr⟩

theorem holderRun_of_get (l : List SEdge) (rings : List Ring) (p : Nat) (x : SEdge) (k : Rec) (hx : l[p]? = some x) (hk : x.orec = some k) :
    holderRun l rings p = runOf rings k := by
  unfold holderRun; simp only [hx, hk]

theorem holderRun_some (l : List SEdge) (rings : List Ring) (p ρ : Nat) (h : holderRun l rings p = some ρ) :
    ∃ x k, l[p]? = some x ∧ x.orec = some k ∧ runOf rings k = some ρ := by
  unfold holderRun at h
  cases hx : l[p]? with
  | none => simp [hx] at h
  | some x =>
    cases hk : x.orec with
    | none => simp [hx, hk] at h
    | some k => simp only [hx, hk] at h; exact ⟨x, k, rfl, hk, h⟩

theorem getElem?_three {α} (pre mid rest : List α) (p : Nat) (x : α) (h : (pre ++ (mid ++ rest))[p]? = some x) :
    (p < pre.length ∧ pre[p]? = some x) ∨ (∃ j, p = pre.length + j ∧ mid[j]? = some x) ∨
      (∃ j, p = pre.length + mid.length + j ∧ rest[j]? = some x) := by
  rw [List.getElem?_append] at h
  split at h
  · next h1 => exact Or.inl ⟨h1, h⟩
  · next h1 =>
    obtain ⟨m, rfl⟩ := Nat.exists_eq_add_of_le (Nat.le_of_not_lt h1)
    rw [Nat.add_sub_cancel_left, List.getElem?_append] at h
    split at h
    · exact Or.inr (Or.inl ⟨m, rfl, h⟩)
    · next h2 =>
      obtain ⟨j, rfl⟩ := Nat.exists_eq_add_of_le (Nat.le_of_not_lt h2)
      rw [Nat.add_sub_cancel_left] at h
      exact Or.inr (Or.inr ⟨j, (Nat.add_assoc _ _ _).symm, h⟩)

theorem getElem?_three_rest {α} (pre mid rest : List α) (j : Nat) : (pre ++ (mid ++ rest))[pre.length + mid.length + j]? = rest[j]? := by
  rw [Nat.add_assoc, List.getElem?_append_right (Nat.le_add_right _ _), Nat.add_sub_cancel_left,
    List.getElem?_append_right (Nat.le_add_right _ _), Nat.add_sub_cancel_left]

/-- a stage that replaces the stretch `mid` of the AEL by `mid'` and turns every other edge `x` into `g x`: positions left of the stretch
stay, positions right of it shift with its length; every edge of `mid'` has to be accounted for by the caller -/
theorem follows_splice (n0 : Nat) (tr : Nat → Option Nat) (pre mid mid' rest : List SEdge) (g : SEdge → SEdge) (rings rings' : List Ring)
    (hpre : ∀ p, p < pre.length → tr p = some p)
    (hrest : ∀ j, tr (pre.length + mid.length + j) = some (pre.length + mid'.length + j))
    (hctx : ∀ x ∈ pre ++ rest, ∀ k', (g x).orec = some k' → ∃ k, x.orec = some k ∧ runOf rings' k' = runOf rings k)
    (hmid : ∀ j x, mid'[j]? = some x → ∀ k' ρ, x.orec = some k' → runOf rings' k' = some ρ →
      n0 ≤ ρ ∨ ∃ p, tr p = some (pre.length + j) ∧ holderRun (pre ++ (mid ++ rest)) rings p = some ρ) :
    Follows n0 tr (pre ++ (mid ++ rest)) rings (pre.map g ++ (mid' ++ rest.map g)) rings' := by
  intro p' ρ h
  obtain ⟨x', k', hx', hk', hr'⟩ := holderRun_some _ _ _ _ h
  have ctx : ∀ x p, x ∈ pre ++ rest → (pre ++ (mid ++ rest))[p]? = some x → tr p = some p' → g x = x' →
      ∃ p, tr p = some p' ∧ holderRun (pre ++ (mid ++ rest)) rings p = some ρ := by
    intro x p hx hget htr e
    subst e
    obtain ⟨k, hk1, hk2⟩ := hctx x hx k' hk'
    exact ⟨p, htr, by rw [holderRun_of_get _ _ p x k hget hk1, ← hk2]; exact hr'⟩
  have := getElem?_three _ _ _ _ _ hx'
  simp only [List.length_map, List.getElem?_map, Option.map_eq_some_iff] at this
  rcases this with ⟨h1, x, hx, e⟩ | ⟨j, rfl, hx⟩ | ⟨j, rfl, x, hx, e⟩
  · exact Or.inr (ctx x p' (List.mem_append_left _ (List.mem_of_getElem? hx)) (by rw [List.getElem?_append_left h1]; exact hx) (hpre p' h1) e)
  · exact hmid j x' hx k' ρ hk' hr'
  · exact Or.inr (ctx x _ (List.mem_append_right _ (List.mem_of_getElem? hx)) (by rw [getElem?_three_rest]; exact hx) (hrest j) e)

theorem right_of_window (i c d j : Nat) (h : d < c) : i + c + j ≠ i + d :=
  Nat.ne_of_gt (Nat.lt_of_lt_of_le (Nat.add_lt_add_left h i) (Nat.le_add_right _ j))

/-- an in-place stage: the window `[a, b]` at position `pre.length` becomes `[a', b']`, every other edge `x` becomes `g x` -/
theorem follows_window (n0 : Nat) (tr : Nat → Option Nat) (pre rest : List SEdge) (a b a' b' : SEdge) (g : SEdge → SEdge) (rings rings' : List Ring)
    (htr : ∀ p, p ≠ pre.length → p ≠ pre.length + 1 → tr p = some p)
    (hctx : ∀ x ∈ pre ++ rest, ∀ k', (g x).orec = some k' → ∃ k, x.orec = some k ∧ runOf rings' k' = runOf rings k)
    (ha' : ∀ k' ρ, a'.orec = some k' → runOf rings' k' = some ρ →
      n0 ≤ ρ ∨ ∃ p, tr p = some pre.length ∧ holderRun (pre ++ a :: b :: rest) rings p = some ρ)
    (hb' : ∀ k' ρ, b'.orec = some k' → runOf rings' k' = some ρ →
      n0 ≤ ρ ∨ ∃ p, tr p = some (pre.length + 1) ∧ holderRun (pre ++ a :: b :: rest) rings p = some ρ) :
    Follows n0 tr (pre ++ a :: b :: rest) rings (pre.map g ++ a' :: b' :: rest.map g) rings' :=
  follows_splice n0 tr pre [a, b] [a', b'] rest g rings rings' (fun p h => htr p (Nat.ne_of_lt h) (Nat.ne_of_lt (Nat.lt_succ_of_lt h)))
    (fun j => htr _ (right_of_window _ 2 0 j (by decide)) (right_of_window _ 2 1 j (by decide))) hctx
    (fun j x hx k' ρ hk hρ => match j, hx with
      | 0, hx => by cases hx; exact ha' k' ρ hk hρ
      | 1, hx => by cases hx; exact hb' k' ρ hk hρ
      | j + 2, hx => by cases hx)

theorem holderRun_window_a (pre rest : List SEdge) (a b : SEdge) (rings : List Ring) (k : Rec) (hk : a.orec = some k) :
    holderRun (pre ++ a :: b :: rest) rings pre.length = runOf rings k :=
  holderRun_of_get _ _ _ a k (by rw [List.getElem?_append_right (Nat.le_refl _), Nat.sub_self]; rfl) hk

theorem holderRun_window_b (pre rest : List SEdge) (a b : SEdge) (rings : List Ring) (k : Rec) (hk : b.orec = some k) :
    holderRun (pre ++ a :: b :: rest) rings (pre.length + 1) = runOf rings k :=
  holderRun_of_get _ _ _ b k (by rw [List.getElem?_append_right (Nat.le_add_right _ _), Nat.add_sub_cancel_left]; rfl) hk

theorem liveAt_lt (rings : List Ring) (id : Nat) (h : LiveAt rings id) : id < rings.length := by
  obtain ⟨g, hg, _, _⟩ := h
  rcases Nat.lt_or_ge id rings.length with h | h
  · exact h
  · rw [List.getElem?_eq_none h] at hg; cases hg

/-- `JoinOutrecPaths(s, d)` with `relabelFn d f s` applied to an edge `x` that does not hold the end `(s, f)`: `x` keeps the run of its ring end, also when
it is moved from the end `f` of the dying record `d` to that of the survivor `s` -/
theorem runOf_relabel_joinPaths (s d : Nat) (f : Bool) (o : Out) (gs gd : Ring) (hs : o.rings[s]? = some gs) (hd : o.rings[d]? = some gd)
    (hsd : s ≠ d) (hls : gs.stat = .live) (hld : gd.stat = .live) (x : SEdge) (hx : ∀ r, x.orec = some r → ¬(r.id = s ∧ r.front = f))
    (k' : Rec) (hk : (relabelFn d f s x).orec = some k') : ∃ k, x.orec = some k ∧ runOf (joinPaths s d f o).rings k' = runOf o.rings k := by
  unfold relabelFn at hk
  cases hxo : x.orec with
  | none => simp [hxo] at hk
  | some r =>
    simp only [hxo] at hk
    split at hk
    · next hc =>
      cases hk
      refine ⟨r, rfl, ?_⟩
      rw [runOf_joinPaths_moved s d f o gs gd hs hd hsd hls hld, rec_eq r ⟨d, f⟩ hc.1 hc.2]
    · rw [hxo] at hk; cases hk
      exact ⟨k', rfl, runOf_joinPaths_other _ _ _ _ _ (hx k' hxo)⟩

/-- closing or joining: the edges outside the window keep the run of their ring end (the edge relabelled from the dying record to the surviving one included) -/
theorem closeOrJoin_run_edges (n : Nat) (pre rest : List SEdge) (a b : SEdge) (ra rb : Rec) (g : SEdge → SEdge) (o : Out)
    (h : RecsOK n (pre ++ a :: b :: rest)) (ha : a.orec = some ra) (hb : b.orec = some rb) (hg : addLocalMaxFn ra rb = .ok g)
    (hA : LiveAt o.rings ra.id) (hB : LiveAt o.rings rb.id) :
    ∀ x ∈ pre ++ rest, ∀ k', (g x).orec = some k' → ∃ k, x.orec = some k ∧
      runOf (if ra.id = rb.id then finish ra.id ra.front o
        else if ra.id < rb.id then joinPaths ra.id rb.id ra.front o else joinPaths rb.id ra.id rb.front o).rings k' = runOf o.rings k := by
  intro x hx k' hk
  have third : ∀ r, x.orec = some r → r ≠ ra ∧ r ≠ rb := fun r hr =>
    ⟨fun e => (recs_no_dup n pre rest a b h x hx r hr).1 (e ▸ ha), fun e => (recs_no_dup n pre rest a b h x hx r hr).2 (e ▸ hb)⟩
  by_cases e : ra.id = rb.id
  · have : g = id := by
      unfold addLocalMaxFn at hg; rw [if_neg (addLocalMaxFn_fronts ra rb g hg), if_pos e] at hg; cases hg; rfl
    subst this
    rw [if_pos e]
    exact ⟨k', hk, runOf_finish _ _ _ _⟩
  · obtain ⟨s, d, hp, hsd, _, hgs, hj⟩ := max_pair ra rb e
    rw [if_neg e, hj]
    rw [hgs g hg] at hk
    obtain ⟨⟨gs, hgs', hls, _⟩, ⟨gd, hgd, hld, _⟩⟩ : LiveAt o.rings s.id ∧ LiveAt o.rings d.id := by
      rcases hp with ⟨rfl, rfl⟩ | ⟨rfl, rfl⟩
      · exact ⟨hA, hB⟩
      · exact ⟨hB, hA⟩
    refine runOf_relabel_joinPaths s.id d.id s.front o gs gd hgs' hgd hsd hls hld x (fun r hr hh => ?_) k' hk
    have : r = s := rec_eq r s hh.1 hh.2
    rcases hp with ⟨rfl, _⟩ | ⟨rfl, _⟩
    · exact (third r hr).1 this
    · exact (third r hr).2 this

theorem nrun_addOutPt (id : Nat) (f : Bool) (pt : Pt) (o : Out) : (addOutPt id f pt o).nrun = o.nrun := by
  rcases addOutPt_cases id f pt o with ⟨r, _, _, e⟩ | ⟨_, e⟩ <;> rw [e]
theorem nrun_finish (id : Nat) (f : Bool) (o : Out) : (finish id f o).nrun = o.nrun := by
  rcases finish_cases id f o with ⟨r, _, _, _, _, _, e⟩ | e <;> rw [e]
theorem nrun_joinPaths (A B : Nat) (f : Bool) (o : Out) : (joinPaths A B f o).nrun = o.nrun := by
  rcases joinPaths_cases A B f o with ⟨ra, rb, _, _, _, _, _, e⟩ | e <;> rw [e]
theorem nrun_logSeg (k : SegKind) (i1 : Nat) (f1 : Bool) (i2 : Nat) (f2 : Bool) (o : Out) : (logSeg k i1 f1 i2 f2 o).nrun = o.nrun := by
  rcases logSeg_cases k i1 f1 i2 f2 o with ⟨_, _, _, _, _, _, _, _, e⟩ | e <;> rw [e]

/-- no primitive lowers the run counter: `newRec` takes two ids, `handOver` one, the others none -/
theorem nrun_prim (n0 : Nat) (pt : Pt) : PrimPres pt (fun o => n0 ≤ o.nrun) :=
  { newRec := fun _ h => Nat.le_trans h (Nat.le_add_right _ 2)
    addOutPt := fun id f o h => (nrun_addOutPt id f pt o).symm ▸ h
    handOver := fun id f o h => Nat.le_trans h (nrun_handOver id f o)
    finish := fun id f o h => (nrun_finish id f o).symm ▸ h
    joinPaths := fun A B f o h => (nrun_joinPaths A B f o).symm ▸ h
    logSeg := fun k i1 f1 i2 f2 o h => (nrun_logSeg k i1 f1 i2 f2 o).symm ▸ h }

/-- after `SwapOutrecs` both ring ends involved start a new run -/
theorem runOf_swapOut_fresh (r1 r2 : Option Rec) (pt : Pt) (o : Out) (k : Rec) (ρ : Nat) (hk : r1 = some k ∨ r2 = some k)
    (h : runOf (swapOut r1 r2 pt o).rings k = some ρ) : o.nrun ≤ ρ := by
  unfold swapOut at h
  have hn2 : o.nrun ≤ (addOn r2 pt (addOn r1 pt o)).nrun :=
    pres_addOn (nrun_prim o.nrun pt) _ _ (pres_addOn (nrun_prim o.nrun pt) _ _ (Nat.le_refl _))
  have hn3 : (addOn r2 pt (addOn r1 pt o)).nrun ≤ (handOn r1 (addOn r2 pt (addOn r1 pt o))).nrun := by
    cases r1 with
    | none => exact Nat.le_refl _
    | some x => exact nrun_handOver _ _ _
  by_cases h2 : r2 = some k
  · subst h2
    rw [runOf_handOver_self k.id k.front _ ρ h]
    exact Nat.le_trans hn2 hn3
  · have h1 : r1 = some k := hk.resolve_right h2
    subst h1
    cases r2 with
    | none => rw [runOf_handOver_self k.id k.front _ ρ h]; exact hn2
    | some k2 =>
      have e : ¬ (k.id = k2.id ∧ k.front = k2.front) := fun e => h2 (by rw [rec_eq k k2 e.1 e.2])
      rw [show handOn (some k2) _ = handOver k2.id k2.front _ from rfl, runOf_handOver_other _ _ _ _ e] at h
      rw [runOf_handOver_self k.id k.front _ ρ h]; exact hn2

theorem runOf_swapOut_other (r1 r2 : Option Rec) (pt : Pt) (o : Out) (k : Rec) (h1 : r1 ≠ some k) (h2 : r2 ≠ some k) :
    runOf (swapOut r1 r2 pt o).rings k = runOf o.rings k := by
  unfold swapOut
  have e1 : ∀ (r : Option Rec) (o' : Out), r ≠ some k → runOf (handOn r o').rings k = runOf o'.rings k := by
    intro r o' hr
    cases r with
    | none => rfl
    | some x =>
      refine runOf_handOver_other _ _ _ _ ?_
      intro hh; exact hr (by rw [rec_eq k x hh.1 hh.2])
  have e2 : ∀ (r : Option Rec) (o' : Out), runOf (addOn r pt o').rings k = runOf o'.rings k := by
    intro r o'
    cases r with
    | none => rfl
    | some x => exact runOf_addOutPt _ _ _ _ _
  rw [e1 _ _ h2, e1 _ _ h1, e2, e2]

/-- both edges hot on one record: the decision is `localMax` or `maxThenMin`, never `swap` -/
theorem act_swap_diff (i1 i2 q1 q2 dt nx go f1 sr : Bool) (h : decideActB true true i1 i2 q1 q2 dt nx go f1 sr = .swap) :
    sr = false := by
  cases sr with
  | false => rfl
  | true =>
    simp only [decideActB, Bool.not_true, Bool.false_and, Bool.or_self, Bool.false_eq_true, if_false, Bool.and_self, if_true,
      Bool.or_true] at h
    split at h <;> cases h

/-- under the `swap` continuation the two records (if there are two) are different, so `SwapOutrecs` just exchanges them -/
theorem swapOutrecs_keys (cfg : Cfg) (e1 e2 : Edge) (r1 r2 : Option Rec) (hact : decideAct cfg e1 e2 r1 r2 = .swap) :
    swapOutrecs r1 r2 = (r2, r1) := by
  unfold swapOutrecs
  split
  · next x y =>
    split
    · next e =>
      have := act_swap_diff _ _ _ _ _ _ _ _ _ hact
      simp [sameRec, e] at this
    · rfl
  · rfl

/-- `SwapPositionsInAEL` at position `i` -/
def swapAt (i p : Nat) : Option Nat := some (if p = i then i + 1 else if p = i + 1 then i else p)

def remove2At (i p : Nat) : Option Nat := if p < i then some p else if p < i + 2 then none else some (p - 2)
def remove1At (i p : Nat) : Option Nat := if p < i then some p else if p = i then none else some (p - 1)
def insert2At (i p : Nat) : Option Nat := some (if p < i then p else p + 2)
def insert1At (i p : Nat) : Option Nat := some (if p < i then p else p + 1)

theorem remove2At_right (i j : Nat) : remove2At i (i + 2 + j) = some (i + j) := by
  rw [Nat.add_right_comm, remove2At, if_neg (Nat.not_lt.mpr (Nat.le_trans (Nat.le_add_right i j) (Nat.le_add_right _ 2))),
    if_neg (Nat.not_lt.mpr (Nat.add_le_add_right (Nat.le_add_right i j) 2))]
  rfl
theorem remove1At_right (i j : Nat) : remove1At i (i + 1 + j) = some (i + j) := by
  rw [Nat.add_right_comm, remove1At, if_neg (Nat.not_lt.mpr (Nat.le_trans (Nat.le_add_right i j) (Nat.le_add_right _ 1))),
    if_neg (Nat.ne_of_gt (Nat.lt_succ_of_le (Nat.le_add_right i j)))]
  rfl
theorem insert2At_right (i j : Nat) : insert2At i (i + j) = some (i + 2 + j) := by
  rw [insert2At, if_neg (Nat.not_lt.mpr (Nat.le_add_right i j)), Nat.add_right_comm]
theorem insert1At_right (i j : Nat) : insert1At i (i + j) = some (i + 1 + j) := by
  rw [insert1At, if_neg (Nat.not_lt.mpr (Nat.le_add_right i j)), Nat.add_right_comm]

theorem follows_remove2 (n0 : Nat) (pre rest : List SEdge) (a b : SEdge) (g : SEdge → SEdge) (rings rings' : List Ring)
    (hctx : ∀ x ∈ pre ++ rest, ∀ k', (g x).orec = some k' → ∃ k, x.orec = some k ∧ runOf rings' k' = runOf rings k) :
    Follows n0 (remove2At pre.length) (pre ++ a :: b :: rest) rings (pre.map g ++ rest.map g) rings' :=
  follows_splice n0 (remove2At pre.length) pre [a, b] [] rest g rings rings' (fun _ h => if_pos h) (remove2At_right _) hctx (fun j x hx => by cases hx)

theorem follows_remove1 (n0 : Nat) (pre rest : List SEdge) (a : SEdge) (rings : List Ring) :
    Follows n0 (remove1At pre.length) (pre ++ a :: rest) rings (pre ++ rest) rings := by
  have := follows_splice n0 (remove1At pre.length) pre [a] [] rest id rings rings (fun _ h => if_pos h) (remove1At_right _)
    (fun x _ k' hk' => ⟨k', hk', rfl⟩) (fun j x hx => by cases hx)
  simp only [List.map_id] at this
  exact this

theorem follows_insert2 (n0 : Nat) (pre post : List SEdge) (x y : SEdge) (rings rings' : List Ring)
    (hctx : ∀ z ∈ pre ++ post, ∀ k, z.orec = some k → runOf rings' k = runOf rings k)
    (hx : ∀ k ρ, x.orec = some k → runOf rings' k = some ρ → n0 ≤ ρ) (hy : ∀ k ρ, y.orec = some k → runOf rings' k = some ρ → n0 ≤ ρ) :
    Follows n0 (insert2At pre.length) (pre ++ post) rings (pre ++ x :: y :: post) rings' := by
  have := follows_splice n0 (insert2At pre.length) pre [] [x, y] post id rings rings' (fun _ h => congrArg some (if_pos h)) (insert2At_right _)
    (fun z hz k' hk' => ⟨k', hk', hctx z hz k' hk'⟩)
    (fun j z hz k' ρ hk hρ => match j, hz with
      | 0, hz => by cases hz; exact Or.inl (hx k' ρ hk hρ)
      | 1, hz => by cases hz; exact Or.inl (hy k' ρ hk hρ)
      | j + 2, hz => by cases hz)
  simp only [List.map_id] at this
  exact this

theorem follows_insert1_run (n0 : Nat) (pre post : List SEdge) (x : SEdge) (rings rings' : List Ring)
    (hctx : ∀ z ∈ pre ++ post, ∀ k, z.orec = some k → runOf rings' k = runOf rings k)
    (hx : ∀ k ρ, x.orec = some k → runOf rings' k = some ρ → n0 ≤ ρ) :
    Follows n0 (insert1At pre.length) (pre ++ post) rings (pre ++ x :: post) rings' := by
  have := follows_splice n0 (insert1At pre.length) pre [] [x] post id rings rings' (fun _ h => congrArg some (if_pos h)) (insert1At_right _)
    (fun z hz k' hk' => ⟨k', hk', hctx z hz k' hk'⟩)
    (fun j z hz k' ρ hk hρ => match j, hz with
      | 0, hz => by cases hz; exact Or.inl (hx k' ρ hk hρ)
      | j + 1, hz => by cases hz)
  simp only [List.map_id] at this
  exact this

theorem follows_insert1 (n0 : Nat) (pre post : List SEdge) (x : SEdge) (rings : List Ring) (hx : x.orec = none) :
    Follows n0 (insert1At pre.length) (pre ++ post) rings (pre ++ x :: post) rings :=
  follows_insert1_run n0 pre post x rings rings (fun _ _ _ _ => rfl) (fun k _ hk => by rw [hx] at hk; cases hk)

theorem swapAt_other (i p : Nat) (h1 : p ≠ i) (h2 : p ≠ i + 1) : swapAt i p = some p := by
  rw [swapAt, if_neg h1, if_neg h2]

/- An event is a sequence of stages (a `Split`, the core of `IntersectEdges`, an insertion, …).  Each stage is one of three kinds, treated once
and for all below: no ring changes and the records just move with their edges (`stage_keys`); a record is started on a window of two edges
(`stage_min`); two records meet on a window and are closed or joined (`stage_max`). -/

/-- what a stage establishes: the invariant afterwards, where every run went, and that the run counter only grows -/
structure Stage (tr : Nat → Option Nat) (l : List SEdge) (o : Out) (l' : List SEdge) (n' : Nat) (o' : Out) : Prop where
  oinv : OInv n' l' o'
  follows : Follows o.nrun tr l o.rings l' o'.rings
  nrun : o.nrun ≤ o'.nrun

theorem stage_refl (l : List SEdge) (n : Nat) (o : Out) (h : OInv n l o) : Stage some l o l n o :=
  ⟨h, follows_refl _ _ _, Nat.le_refl _⟩

theorem stage_trans {t1 t2 : Nat → Option Nat} {l l1 l2 : List SEdge} {o o1 o2 : Out} {n1 n2 : Nat}
    (h1 : Stage t1 l o l1 n1 o1) (h2 : Stage t2 l1 o1 l2 n2 o2) : Stage (fun p => (t1 p).bind t2) l o l2 n2 o2 :=
  ⟨h2.oinv, follows_trans _ _ _ _ _ _ _ _ _ _ h1.follows h2.follows h1.nrun, Nat.le_trans h1.nrun h2.nrun⟩

theorem stage_mono {t t' : Nat → Option Nat} {l l' : List SEdge} {o o' : Out} {n' : Nat} (h : Stage t l o l' n' o')
    (ht : ∀ p p', t p = some p' → t' p = some p') : Stage t' l o l' n' o' :=
  ⟨h.oinv, follows_mono _ _ _ _ _ _ _ h.follows ht, h.nrun⟩

/-- no ring changes; the stretch `mid` of the AEL becomes `mid'`, and every record held in `mid'` was held before by the edge that `tr` moves there -/
theorem stage_keys (tr : Nat → Option Nat) (pre mid mid' rest : List SEdge) (n : Nat) (o : Out) (h : OInv n (pre ++ (mid ++ rest)) o)
    (hpre : ∀ p, p < pre.length → tr p = some p)
    (hrest : ∀ j, tr (pre.length + mid.length + j) = some (pre.length + mid'.length + j))
    (hmid : ∀ j x, mid'[j]? = some x → ∀ k, x.orec = some k →
      ∃ p y, tr p = some (pre.length + j) ∧ (pre ++ (mid ++ rest))[p]? = some y ∧ y.orec = some k) :
    Stage tr (pre ++ (mid ++ rest)) o (pre ++ (mid' ++ rest)) n o := by
  refine ⟨oinv_keys n _ _ o h ?_, ?_, Nat.le_refl _⟩
  · intro x hx k hk
    simp only [List.mem_append] at hx
    rcases hx with hx | hx | hx
    · exact ⟨x, List.mem_append_left _ hx, k, hk, rfl⟩
    · obtain ⟨j, hj⟩ := List.getElem?_of_mem hx
      obtain ⟨p, y, _, hy, hyk⟩ := hmid j x hj k hk
      exact ⟨y, List.mem_of_getElem? hy, k, hyk, rfl⟩
    · exact ⟨x, List.mem_append_right _ (List.mem_append_right _ hx), k, hk, rfl⟩
  · have := follows_splice o.nrun tr pre mid mid' rest id o.rings o.rings hpre hrest (fun x _ k' hk' => ⟨k', hk', rfl⟩)
      (fun j x hx k ρ hk hρ => by
        obtain ⟨p, y, hp, hy, hyk⟩ := hmid j x hx k hk
        exact Or.inr ⟨p, hp, by rw [holderRun_of_get _ _ p y k hy hyk]; exact hρ⟩)
    simp only [List.map_id] at this
    exact this

/-- `SwapPositionsInAEL` on a window whose edges keep their records -/
theorem stage_swapPos (pre rest : List SEdge) (a b a' b' : SEdge) (n : Nat) (o : Out) (h : OInv n (pre ++ a :: b :: rest) o)
    (ha : a'.orec = a.orec) (hb : b'.orec = b.orec) : Stage (swapAt pre.length) (pre ++ a :: b :: rest) o (pre ++ b' :: a' :: rest) n o :=
  stage_keys (swapAt pre.length) pre [a, b] [b', a'] rest n o h
    (fun p hp => swapAt_other _ _ (Nat.ne_of_lt hp) (Nat.ne_of_lt (Nat.lt_succ_of_lt hp)))
    (fun j => swapAt_other _ _ (right_of_window _ 2 0 j (by decide)) (right_of_window _ 2 1 j (by decide)))
    (fun j x hx k hk => match j, hx with
      | 0, hx => by
        cases hx
        exact ⟨pre.length + 1, b, by simp [swapAt], by rw [List.getElem?_append_right (Nat.le_add_right _ _), Nat.add_sub_cancel_left]; rfl, hb ▸ hk⟩
      | 1, hx => by
        cases hx
        exact ⟨pre.length, a, by simp [swapAt], by rw [List.getElem?_append_right (Nat.le_refl _), Nat.sub_self]; rfl, ha ▸ hk⟩
      | j + 2, hx => by cases hx)

/-- a record is started at `pt` and given to the two edges of a window (`AddLocalMinPoly`): every other run stays with its edge, the two new runs are fresh -/
theorem stage_min (tr : Nat → Option Nat) (pre rest : List SEdge) (x y x' y' : SEdge) (n : Nat) (pt : Pt) (o : Out)
    (h : OInv n (pre ++ x :: y :: rest) o) (htr : ∀ p, p ≠ pre.length → p ≠ pre.length + 1 → tr p = some p)
    (hx : ∀ k, x'.orec = some k → k.id = n) (hy : ∀ k, y'.orec = some k → k.id = n) :
    Stage tr (pre ++ x :: y :: rest) o (pre ++ x' :: y' :: rest) (n + 1) (newRec pt o) := by
  have fresh : ∀ k ρ, k.id = n → runOf (newRec pt o).rings k = some ρ → o.nrun ≤ ρ :=
    fun k ρ hk hρ => runOf_fresh_of_new pt o k ρ (by rw [hk, h.len]) hρ
  refine ⟨oinv_newRec n _ _ o pt h ?_, ?_, Nat.le_add_right _ 2⟩
  · intro z hz k hk
    rcases mem_window _ _ _ _ _ hz with hz | rfl | rfl
    · exact Or.inr ⟨z, mem_window_of _ _ _ _ _ hz, k, hk, rfl⟩
    · exact Or.inl (hx k hk)
    · exact Or.inl (hy k hk)
  · have := follows_window o.nrun tr pre rest x y x' y' id o.rings (newRec pt o).rings htr
      (fun z hz k' hk' => ⟨k', hk', runOf_newRec_old pt o k' (liveAt_lt _ _ (h.hot z (mem_window_of _ _ _ _ _ hz) k' hk'))⟩)
      (fun k' ρ hk' hρ => Or.inl (fresh k' ρ (hx k' hk') hρ)) (fun k' ρ hk' hρ => Or.inl (fresh k' ρ (hy k' hk') hρ))
    simp only [List.map_id] at this
    exact this

/-- two records meet on the window `[a, b]` (`AddLocalMaxPoly`, or the bare `JoinOutrecPaths` of a join): the window is replaced by edges
without record, the other edges are relabelled by `g` and keep the run of their ring end -/
theorem stage_max (tr : Nat → Option Nat) (pre rest mid' : List SEdge) (a b : SEdge) (ra rb : Rec) (g : SEdge → SEdge) (n : Nat) (o o' : Out)
    (h : OInv n (pre ++ a :: b :: rest) o) (hr : RecsOK n (pre ++ a :: b :: rest)) (ha : a.orec = some ra) (hb : b.orec = some rb)
    (hg : addLocalMaxFn ra rb = .ok g)
    (hpre : ∀ p, p < pre.length → tr p = some p) (hrest : ∀ j, tr (pre.length + 2 + j) = some (pre.length + mid'.length + j))
    (hmid : ∀ x ∈ mid', x.orec = none) (hm : MaxPost ra rb o o')
    (hrun : ∀ x ∈ pre ++ rest, ∀ k', (g x).orec = some k' → ∃ k, x.orec = some k ∧ runOf o'.rings k' = runOf o.rings k)
    (hn : o.nrun ≤ o'.nrun) :
    Stage tr (pre ++ a :: b :: rest) o (pre.map g ++ (mid' ++ rest.map g)) n o' := by
  have hk := localMax_keys n pre rest a b ra rb g hr ha hb hg
  refine ⟨oinv_maxPost n _ _ ra rb o o' h hm ?_, ?_, hn⟩
  · intro x hx k hkk
    simp only [List.mem_append] at hx
    rcases hx with hx | hx | hx
    · exact hk x (List.mem_append_left _ hx) k hkk
    · rw [hmid x hx] at hkk; cases hkk
    · exact hk x (List.mem_append_right _ hx) k hkk
  · exact follows_splice o.nrun tr pre [a, b] mid' rest g o.rings o'.rings hpre hrest hrun
      (fun j x hx k' ρ hk' _ => by rw [hmid x (List.mem_of_getElem? hx)] at hk'; cases hk')

theorem stage_localMax (kind : SegKind) (pt : Pt) (tr : Nat → Option Nat) (pre rest mid' : List SEdge) (a b : SEdge) (ra rb : Rec)
    (g : SEdge → SEdge) (n : Nat) (o : Out)
    (h : OInv n (pre ++ a :: b :: rest) o) (hr : RecsOK n (pre ++ a :: b :: rest)) (ha : a.orec = some ra) (hb : b.orec = some rb)
    (hg : addLocalMaxFn ra rb = .ok g)
    (hpre : ∀ p, p < pre.length → tr p = some p) (hrest : ∀ j, tr (pre.length + 2 + j) = some (pre.length + mid'.length + j))
    (hmid : ∀ x ∈ mid', x.orec = none) :
    Stage tr (pre ++ a :: b :: rest) o (pre.map g ++ (mid' ++ rest.map g)) n (localMaxOut kind ra rb pt o) := by
  have hal : a ∈ pre ++ a :: b :: rest := List.mem_append_right _ List.mem_cons_self
  have hbl : b ∈ pre ++ a :: b :: rest := List.mem_append_right _ (List.mem_cons_of_mem _ List.mem_cons_self)
  have hA := h.hot a hal ra ha
  have hB := h.hot b hbl rb hb
  have hr1 := logSeg_rings kind rb.id rb.front ra.id ra.front (addOutPt ra.id ra.front pt o)
  refine stage_max tr pre rest mid' a b ra rb g n o _ h hr ha hb hg hpre hrest hmid
    (localMaxOut_spec kind ra rb pt o hA (addLocalMaxFn_fronts ra rb g hg) h.nolost h.segs) (fun x hx k' hk => ?_)
    (pres_localMaxOut (nrun_prim o.nrun pt) _ _ _ _ (Nat.le_refl _))
  -- the point is added and the pair logged first; neither touches a run
  obtain ⟨k, hk1, hk2⟩ := closeOrJoin_run_edges n pre rest a b ra rb g (logSeg kind rb.id rb.front ra.id ra.front (addOutPt ra.id ra.front pt o))
    hr ha hb hg (by rw [hr1]; exact liveAt_addOutPt _ _ _ _ _ hA) (by rw [hr1]; exact liveAt_addOutPt _ _ _ _ _ hB) x hx k' hk
  exact ⟨k, hk1, hk2.trans (by rw [runOf_logSeg, runOf_addOutPt])⟩

theorem stage_splitPair (k : Nat) (pt : Pt) (s s1 : SState) (o : Out) (h : OInv s.next s.ael o) (hs : splitPair k s = .ok s1) :
    Stage some s.ael o s1.ael s1.next (newRec pt o) := by
  match hd : s.ael.drop k with
  | a :: b :: rest =>
    rw [splitPair_eq k s a b rest hd] at hs
    cases hs
    have hl := window_split _ _ _ _ _ hd
    have key := stage_min some (s.ael.take k) rest a b
      { a with join := .none, orec := some (minRecs (s.ael.take k) true s.next).1 }
      { b with join := .none, orec := some (minRecs (s.ael.take k) true s.next).2 } s.next pt o (by rw [← hl]; exact h)
      (fun _ _ _ => rfl) (fun _ hk => by cases hk; exact (minRecs_ids _ _ _).1) (fun _ hk => by cases hk; exact (minRecs_ids _ _ _).2)
    rw [← hl] at key
    exact key
  | [] => unfold splitPair at hs; rw [hd] at hs; cases hs
  | [_] => unfold splitPair at hs; rw [hd] at hs; cases hs

theorem stage_splitAt (i : Nat) (pt : Pt) (s s1 : SState) (o : Out) (h : OInv s.next s.ael o) (hs : splitAt i s = .ok s1) :
    Stage some s.ael o s1.ael s1.next (splitOut i pt s o) := by
  rcases splitAt_inv i pt s s1 o hs with ⟨rfl, e⟩ | ⟨k, hk, e⟩
  · rw [e]; exact stage_refl _ _ _ h
  · rw [e]; exact stage_splitPair k pt s s1 o h hk

theorem stage_core (cfg : Cfg) (pre : List SEdge) (a b : SEdge) (rest : List SEdge) (n : Nat) (pt : Pt) (o : Out) (s' : SState)
    (h : OInv n (pre ++ a :: b :: rest) o) (hr : RecsOK n (pre ++ a :: b :: rest))
    (hc : intersectCore cfg pre a b rest n = .ok s') :
    Stage (swapAt pre.length) (pre ++ a :: b :: rest) o s'.ael s'.next (coreOut cfg a b pt o) := by
  have hal : a ∈ pre ++ a :: b :: rest := List.mem_append_right _ List.mem_cons_self
  have hbl : b ∈ pre ++ a :: b :: rest := List.mem_append_right _ (List.mem_cons_of_mem _ List.mem_cons_self)
  have hpre : ∀ p, p < pre.length → swapAt pre.length p = some p :=
    fun p hp => swapAt_other _ _ (Nat.ne_of_lt hp) (Nat.ne_of_lt (Nat.lt_succ_of_lt hp))
  have hrest : ∀ j, swapAt pre.length (pre.length + 2 + j) = some (pre.length + 2 + j) :=
    fun j => swapAt_other _ _ (right_of_window _ 2 0 j (by decide)) (right_of_window _ 2 1 j (by decide))
  have hmid : ∀ x ∈ [{ b with e := (intersectPair cfg a.e b.e).2, orec := none }, { a with e := (intersectPair cfg a.e b.e).1, orec := none }],
      x.orec = none := fun x hx => by
    simp only [List.mem_cons, List.not_mem_nil, or_false] at hx
    rcases hx with rfl | rfl <;> rfl
  unfold intersectCore at hc
  unfold coreOut
  simp only at hc ⊢
  cases hact : decideAct cfg (updateWinds cfg.fr a.e b.e).1 (updateWinds cfg.fr a.e b.e).2 a.orec b.orec with
  | nothing =>
    rw [hact] at hc
    cases hc
    exact stage_swapPos pre rest a b _ _ n o h rfl rfl
  | swap =>
    rw [hact] at hc
    cases hc
    -- the two records are different, so the edges simply exchange them; both ring ends start a new run
    have hsw := swapOutrecs_keys cfg _ _ a.orec b.orec hact
    refine ⟨oinv_keep n _ _ o _ h (swapOut_keep _ _ _ _ (fun x hx => h.hot a hal x hx) (fun x hx => h.hot b hbl x hx)) ?_, ?_,
      pres_swapOut (nrun_prim o.nrun pt) _ _ _ (Nat.le_refl _)⟩
    · intro x hx k hk
      rcases mem_window _ _ _ _ _ hx with hx | rfl | rfl
      · exact ⟨x, mem_window_of _ _ _ _ _ hx, k, hk, rfl⟩
      · rw [hsw] at hk; exact ⟨a, hal, k, hk, rfl⟩
      · rw [hsw] at hk; exact ⟨b, hbl, k, hk, rfl⟩
    · have key := follows_window o.nrun (swapAt pre.length) pre rest a b
        { b with e := (intersectPair cfg a.e b.e).2, orec := (swapOutrecs a.orec b.orec).2 }
        { a with e := (intersectPair cfg a.e b.e).1, orec := (swapOutrecs a.orec b.orec).1 } id o.rings (swapOut a.orec b.orec pt o).rings
        (fun p => swapAt_other _ p)
        (fun x hx k' hk' => ⟨k', hk', runOf_swapOut_other _ _ _ _ _ (recs_no_dup n pre rest a b hr x hx k' hk').1 (recs_no_dup n pre rest a b hr x hx k' hk').2⟩)
        (fun k' ρ hk' hρ => by rw [hsw] at hk'; exact Or.inl (runOf_swapOut_fresh _ _ _ _ _ _ (Or.inl hk') hρ))
        (fun k' ρ hk' hρ => by rw [hsw] at hk'; exact Or.inl (runOf_swapOut_fresh _ _ _ _ _ _ (Or.inr hk') hρ))
      simp only [List.map_id] at key
      exact key
  | localMin =>
    rw [hact] at hc
    cases hc
    exact stage_min (swapAt pre.length) pre rest a b _ _ n pt o h (fun p => swapAt_other _ p)
      (fun _ hk => by cases hk; exact (minRecs_ids _ _ _).2) (fun _ hk => by cases hk; exact (minRecs_ids _ _ _).1)
  | localMax =>
    rw [hact] at hc
    cases ha : a.orec with
    | none => rw [ha] at hc; cases hc
    | some ra =>
      cases hb : b.orec with
      | none => rw [ha, hb] at hc; cases hc
      | some rb =>
        simp only [ha, hb] at hc
        cases hg : addLocalMaxFn ra rb with
        | error f => rw [hg] at hc; cases hc
        | ok g =>
          rw [hg] at hc
          cases hc
          exact stage_localMax .meet pt (swapAt pre.length) pre rest
            [{ b with e := (intersectPair cfg a.e b.e).2, orec := none }, { a with e := (intersectPair cfg a.e b.e).1, orec := none }]
            a b ra rb g n o h hr ha hb hg hpre hrest hmid
  | maxThenMin =>
    rw [hact] at hc
    cases ha : a.orec with
    | none => rw [ha] at hc; cases hc
    | some ra =>
      cases hb : b.orec with
      | none => rw [ha, hb] at hc; cases hc
      | some rb =>
        simp only [ha, hb] at hc
        cases hg : addLocalMaxFn ra rb with
        | error f => rw [hg] at hc; cases hc
        | ok g =>
          rw [hg] at hc
          cases hc
          -- `AddLocalMaxPoly`, then `AddLocalMinPoly` on the two edges it left without record
          have st1 := stage_localMax .meet pt (swapAt pre.length) pre rest
            [{ b with e := (intersectPair cfg a.e b.e).2, orec := none }, { a with e := (intersectPair cfg a.e b.e).1, orec := none }]
            a b ra rb g n o h hr ha hb hg hpre hrest hmid
          have st2 := stage_min some (pre.map g) (rest.map g) _ _
            { b with e := (intersectPair cfg a.e b.e).2, orec := some (minRecs (pre.map g) false n).2 }
            { a with e := (intersectPair cfg a.e b.e).1, orec := some (minRecs (pre.map g) false n).1 } n pt _ st1.oinv
            (fun _ _ _ => rfl) (fun _ hk => by cases hk; exact (minRecs_ids _ _ _).2) (fun _ hk => by cases hk; exact (minRecs_ids _ _ _).1)
          exact stage_mono (stage_trans st1 st2) (fun p p' hp => by simpa using hp)

/-- where the `Active` at position `p` of the AEL is after the event (`none`: it has left the AEL) -/
def trackPos : ROp → Nat → Option Nat
  | .base (.insertPair pos _ _ _) _, p => insert2At pos p
  | .base (.insertOne pos _ _) _, p => insert1At pos p
  | .base (.intersect i) _, p => swapAt i p
  | .base (.removePair i) _, p => remove2At i p
  | .base (.removeOne i) _, p => remove1At i p
  | .join _ _, p => some p
  | .split _ _, p => some p
  | .update _ _, p => some p

theorem stage_intersect (cfg : Cfg) (i : Nat) (pt : Pt) (s s' : SState) (o : Out) (hside : Side s.ael) (hr : RecsOK s.next s.ael)
    (h : OInv s.next s.ael o) (hs : intersectS cfg i s = .ok s') :
    Stage (swapAt i) s.ael o s'.ael s'.next (intersectOut cfg i pt s o) := by
  obtain ⟨a0, b0, rest0, _, hcase⟩ := intersectS_inv cfg i s s' hs
  rcases hcase with ⟨_, s1, a, b, rest, h1, hd1, rfl, e⟩ | ⟨_, s1, s2, a, b, rest, h1, h2, hd2, hcore, e⟩
  · rw [e]
    have st1 : Stage some s.ael o s1.ael s1.next
        (if (a0.e.isOpen && b0.e.isOpen) = true then o else if a0.e.isOpen = true then splitOut (i + 1) pt s o else splitOut i pt s o) := by
      by_cases hb : (a0.e.isOpen && b0.e.isOpen) = true
      · rw [if_pos hb] at h1 ⊢; cases h1; exact stage_refl _ _ _ h
      · rw [if_neg hb] at h1 ⊢
        by_cases ha : a0.e.isOpen = true
        · rw [if_pos ha] at h1 ⊢; exact stage_splitAt _ pt _ _ _ h h1
        · rw [if_neg ha] at h1 ⊢; exact stage_splitAt _ pt _ _ _ h h1
    have hl := window_split _ _ _ _ _ hd1
    have st2 := stage_swapPos (s1.ael.take i) rest a b { a with e := (intersectPair cfg a.e b.e).1 } { b with e := (intersectPair cfg a.e b.e).2 }
      s1.next _ (by rw [← hl]; exact st1.oinv) rfl rfl
    rw [← hl, take_length_of_drop _ _ _ _ hd1] at st2
    exact stage_mono (stage_trans st1 st2) (fun p p' hp => by simpa using hp)
  · rw [e]
    have p1 := splitPost_of _ _ _ hside h1
    have p2 := splitPost_of _ _ _ p1.side h2
    have st1 := stage_splitAt i pt s s1 o h h1
    have st2 := stage_splitAt (i + 1) pt s1 s2 _ st1.oinv h2
    have hl := window_split _ _ _ _ _ hd2
    have st3 := stage_core cfg (s2.ael.take i) a b rest s2.next pt _ s' (by rw [← hl]; exact st2.oinv) (by rw [← hl]; exact p2.recs (p1.recs hr)) hcore
    rw [← hl, take_length_of_drop _ _ _ _ hd2] at st3
    exact stage_mono (stage_trans (stage_trans st1 st2) st3) (fun p p' hp => by simpa using hp)

theorem stage_keys_at (tr : Nat → Option Nat) (i : Nat) (l mid mid' rest : List SEdge) (n : Nat) (o : Out) (h : OInv n l o)
    (hi : i ≤ l.length) (hd : l.drop i = mid ++ rest)
    (hpre : ∀ p, p < i → tr p = some p) (hrest : ∀ j, tr (i + mid.length + j) = some (i + mid'.length + j))
    (hmid : ∀ x ∈ mid', x.orec = none) : Stage tr l o (l.take i ++ (mid' ++ rest)) n o := by
  have hl : l = l.take i ++ (mid ++ rest) := by rw [← hd]; exact (List.take_append_drop i l).symm
  have hlen : (l.take i).length = i := List.length_take_of_le hi
  have key := stage_keys tr (l.take i) mid mid' rest n o (by rw [← hl]; exact h) (fun p hp => hpre p (hlen ▸ hp))
    (fun j => by rw [hlen]; exact hrest j) (fun j x hx k hk => by rw [hmid x (List.mem_of_getElem? hx)] at hk; cases hk)
  rw [← hl] at key
  exact key

theorem stage_remove2 (i : Nat) (l : List SEdge) (n : Nat) (o : Out) (a b : SEdge) (rest : List SEdge) (h : OInv n l o)
    (hd : l.drop i = a :: b :: rest) : Stage (remove2At i) l o (l.take i ++ rest) n o :=
  stage_keys_at (remove2At i) i l [a, b] [] rest n o h (Nat.le_of_lt (drop_lt_length l i a _ hd)) hd (fun _ hp => if_pos hp)
    (remove2At_right i) (fun _ hx => nomatch hx)

theorem stage_removePair (i : Nat) (pt : Pt) (s s' : SState) (o : Out) (hside : Side s.ael) (hr : RecsOK s.next s.ael)
    (h : OInv s.next s.ael o) (hs : removePairS i s = .ok s') :
    Stage (remove2At i) s.ael o s'.ael s'.next (removePairOut i pt s o) := by
  obtain ⟨a0, b0, rest0, hd, hcase⟩ := removePairS_inv i s s' hs
  rcases hcase with ⟨_, rfl, e⟩ | ⟨_, s1, s2, a, b, rest, h1, h2, hd2, hcase⟩
  · rw [e]
    exact stage_remove2 i s.ael s.next o a0 b0 rest0 h hd
  · have p1 := splitPost_of _ _ _ hside h1
    have p2 := splitPost_of _ _ _ p1.side h2
    have st1 := stage_splitAt i pt s s1 o h h1
    have st2 := stage_splitAt (i + 1) pt s1 s2 _ st1.oinv h2
    rcases hcase with ⟨_, _, rfl, e⟩ | ⟨ra, rb, g, ha, hb, hg, rfl, e⟩
    · rw [e]
      exact stage_mono (stage_trans (stage_trans st1 st2) (stage_remove2 i s2.ael s2.next _ a b rest st2.oinv hd2)) (fun p p' hp => by simpa using hp)
    · rw [e]
      have hl := window_split _ _ _ _ _ hd2
      have hlen := take_length_of_drop _ _ _ _ hd2
      have st3 := stage_localMax .meet pt (remove2At i) (s2.ael.take i) rest [] a b ra rb g s2.next _ (by rw [← hl]; exact st2.oinv)
        (by rw [← hl]; exact p2.recs (p1.recs hr)) ha hb hg (fun p hp => if_pos (by rw [hlen] at hp; exact hp))
        (fun j => by rw [hlen]; exact remove2At_right i j) (fun x hx => by cases hx)
      rw [← hl] at st3
      exact stage_mono (stage_trans (stage_trans st1 st2) st3) (fun p p' hp => by simpa using hp)

theorem stage_join (i : Nat) (pt : Pt) (s s' : SState) (o : Out) (hr : RecsOK s.next s.ael)
    (h : OInv s.next s.ael o) (hs : joinS i s = .ok s') : Stage some s.ael o s'.ael s'.next (joinOut i pt s o) := by
  obtain ⟨a, b, rest, ra, rb, g, hd, ha, hb, hg, rfl, e⟩ := joinS_inv i s s' hs
  rw [e]
  have hl := window_split _ _ _ _ _ hd
  have h2 : OInv s.next (s.ael.take i ++ a :: b :: rest) o := by rw [← hl]; exact h
  have r2 : RecsOK s.next (s.ael.take i ++ a :: b :: rest) := by rw [← hl]; exact hr
  have hmid : ∀ x ∈ [{ a with join := Join.right, orec := none }, { b with join := Join.left, orec := none }], x.orec = none := by
    intro x hx
    simp only [List.mem_cons, List.not_mem_nil, or_false] at hx
    rcases hx with rfl | rfl <;> rfl
  by_cases e : ra.id = rb.id
  · rw [if_pos e]
    have key := stage_localMax .joinMeet pt some (s.ael.take i) rest _ a b ra rb g s.next o h2 r2 ha hb hg (fun _ _ => rfl) (fun _ => rfl) hmid
    rw [← hl] at key
    exact key
  · rw [if_neg e]
    -- two records: the seam is logged, then `JoinOutrecPaths` alone
    have hal : a ∈ s.ael.take i ++ a :: b :: rest := List.mem_append_right _ List.mem_cons_self
    have hbl : b ∈ s.ael.take i ++ a :: b :: rest := List.mem_append_right _ (List.mem_cons_of_mem _ List.mem_cons_self)
    have hA := h2.hot a hal ra ha
    have hB := h2.hot b hbl rb hb
    have hr1 := logSeg_rings .joinSeam ra.id ra.front rb.id rb.front o
    have hrun := closeOrJoin_run_edges _ _ rest a b ra rb g (logSeg .joinSeam ra.id ra.front rb.id rb.front o) r2 ha hb hg
      (by rw [hr1]; exact hA) (by rw [hr1]; exact hB)
    rw [if_neg e] at hrun
    have key := stage_max some (s.ael.take i) rest _ a b ra rb g s.next o _ h2 r2 ha hb hg (fun _ _ => rfl) (fun _ => rfl) hmid
      (joinSeamOut_spec ra rb o e (addLocalMaxFn_fronts ra rb g hg) h2.nolost h2.segs)
      (fun x hx k' hk' => by
        obtain ⟨k, hk1, hk2⟩ := hrun x hx k' hk'
        exact ⟨k, hk1, by rw [hk2, runOf_logSeg]⟩)
      (by
        have := (nrun_prim o.nrun pt)
        split
        · exact this.joinPaths _ _ _ _ (this.logSeg _ _ _ _ _ _ (Nat.le_refl _))
        · exact this.joinPaths _ _ _ _ (this.logSeg _ _ _ _ _ _ (Nat.le_refl _)))
    rw [← hl] at key
    exact key

theorem stage_insertPair (cfg : Cfg) (pos : Nat) (t : PathType) (isOpen : Bool) (dx : Int) (pt : Pt) (s s' : SState) (o : Out)
    (h : OInv s.next s.ael o) (hs : insertPairS cfg pos t isOpen dx s = .ok s') :
    Stage (insert2At pos) s.ael o s'.ael s'.next (insertPairOut cfg pos t isOpen dx pt s o) := by
  obtain ⟨hpos, x, y, hx, hy, _, _, rfl⟩ := insertPairS_inv cfg pos t isOpen dx s s' hs
  have hlen : (s.ael.take pos).length = pos := List.length_take_of_le hpos
  -- the two bounds enter without record …
  have st1 := stage_keys_at (insert2At pos) pos s.ael [] [x, y] (s.ael.drop pos) s.next o h hpos rfl
    (fun _ hp => congrArg some (if_pos hp)) (insert2At_right pos) (fun z hz => by
      simp only [List.mem_cons, List.not_mem_nil, or_false] at hz
      rcases hz with rfl | rfl
      · exact hx
      · exact hy)
  unfold insertPairOut
  by_cases hcon : ((newLeft cfg (erase (s.ael.take pos)) t isOpen dx).2 && !isOpen) = true
  · -- … and, when contributing, are given a new record
    rw [if_pos hcon, if_pos hcon, addLocalMin_eq pos true (s.ael.take pos) _ _ (s.ael.drop pos) s.next hlen]
    have st2 := stage_min some (s.ael.take pos) (s.ael.drop pos) x y
      { x with orec := some (minRecs (s.ael.take pos) true s.next).1 } { y with orec := some (minRecs (s.ael.take pos) true s.next).2 }
      s.next pt o st1.oinv (fun _ _ _ => rfl) (fun _ hk => by cases hk; exact (minRecs_ids _ _ _).1) (fun _ hk => by cases hk; exact (minRecs_ids _ _ _).2)
    exact stage_mono (stage_trans st1 st2) (fun p p' hp => by simpa using hp)
  · rw [if_neg hcon, if_neg hcon]
    exact st1

theorem stage_insertOne (cfg : Cfg) (pos : Nat) (t : PathType) (dx : Int) (s s' : SState) (o : Out)
    (h : OInv s.next s.ael o) (hs : insertOneS cfg pos t dx s = .ok s') : Stage (insert1At pos) s.ael o s'.ael s'.next o := by
  obtain ⟨hpos, x, hx, _, rfl⟩ := insertOneS_inv cfg pos t dx s s' hs
  exact stage_keys_at (insert1At pos) pos s.ael [] [x] (s.ael.drop pos) s.next o h hpos rfl
    (fun _ hp => congrArg some (if_pos hp)) (insert1At_right pos) (fun z hz => by cases List.mem_singleton.mp hz; exact hx)

theorem stage_removeOne (i : Nat) (s s' : SState) (o : Out) (h : OInv s.next s.ael o) (hs : removeOneS i s = .ok s') :
    Stage (remove1At i) s.ael o s'.ael s'.next o := by
  obtain ⟨x, rest, hd, rfl⟩ := removeOneS_inv i s s' hs
  exact stage_keys_at (remove1At i) i s.ael [x] [] rest s.next o h (Nat.le_of_lt (drop_lt_length _ i x _ hd)) hd (fun _ hp => if_pos hp)
    (remove1At_right i) (fun _ hx => nomatch hx)

theorem stage_update (i : Nat) (pt : Pt) (s : SState) (o : Out) (h : OInv s.next s.ael o) : Stage some s.ael o s.ael s.next (updateOut i pt s o) := by
  have hn : o.nrun ≤ (updateOut i pt s o).nrun := pres_updateOut (nrun_prim o.nrun pt) _ _ _ (Nat.le_refl _)
  unfold updateOut at hn ⊢
  cases hx : s.ael[i]? with
  | none => exact stage_refl _ _ _ h
  | some x =>
    simp only [hx] at hn ⊢
    split
    · exact stage_refl _ _ _ h
    · next ho =>
      rw [if_neg ho] at hn
      refine ⟨oinv_keep _ _ _ _ _ h (addOn_keep _ _ _ (fun k hk => h.hot x (List.mem_of_getElem? hx) k hk)) (fun y hy k hk => ⟨y, hy, k, hk, rfl⟩), ?_, hn⟩
      intro p' ρ hρ
      obtain ⟨y, k, hy, hk, hr⟩ := holderRun_some _ _ _ _ hρ
      refine Or.inr ⟨p', rfl, ?_⟩
      rw [holderRun_of_get _ _ p' y k hy hk, ← hr]
      cases x.orec with
      | none => rfl
      | some kk => exact (runOf_addOutPt _ _ _ _ _).symm

/-- one event: the invariant is kept, every run held afterwards is new or was held before by the same `Active`, and the run counter only grows -/
theorem stage_step (cfg : Cfg) (r r' : RState) (op : ROp) (hS : SInv cfg r.s) (hR : RecsOK r.s.next r.s.ael)
    (h : OInv r.s.next r.s.ael r.o) (hs : stepR cfg r op = .ok r') : Stage (trackPos op) r.s.ael r.o r'.s.ael r'.s.next r'.o := by
  unfold stepR at hs
  cases op with
  | base b p =>
    simp only [ROp.erase] at hs
    cases hss : stepS cfg r.s (.base b) with
    | error e => rw [hss] at hs; cases hs
    | ok s' =>
      rw [hss] at hs
      cases hs
      cases b with
      | insertPair pos t isOpen dx => exact stage_insertPair cfg pos t isOpen dx p r.s s' r.o h hss
      | insertOne pos t dx => exact stage_insertOne cfg pos t dx r.s s' r.o h hss
      | intersect i => exact stage_intersect cfg i p r.s s' r.o hS.side hR h hss
      | removePair i => exact stage_removePair i p r.s s' r.o hS.side hR h hss
      | removeOne i => exact stage_removeOne i r.s s' r.o h hss
  | join i p =>
    simp only [ROp.erase] at hs
    cases hss : stepS cfg r.s (.join i) with
    | error e => rw [hss] at hs; cases hs
    | ok s' =>
      rw [hss] at hs
      cases hs
      exact stage_join i p r.s s' r.o hR h hss
  | split i p =>
    simp only [ROp.erase] at hs
    cases hss : stepS cfg r.s (.split i) with
    | error e => rw [hss] at hs; cases hs
    | ok s' =>
      rw [hss] at hs
      cases hs
      obtain ⟨k, hk, e⟩ := splitS_inv i p r.s s' r.o hss
      show Stage some r.s.ael r.o s'.ael s'.next (splitOut i p r.s r.o)
      rw [e]
      exact stage_splitPair k p r.s s' r.o h hk
  | update i p =>
    simp only [ROp.erase] at hs
    split at hs
    · cases hs; exact stage_update i p r.s r.o h
    · cases hs

def RunsBound (o : Out) : Prop := ∀ g ∈ o.rings, g.frun < o.nrun ∧ g.brun < o.nrun

theorem runsBound_prim (pt : Pt) : PrimPres pt RunsBound := by
  -- a primitive that keeps the counter and replaces ring `id` by one whose run ids are run ids of old rings
  have set1 : ∀ (o : Out) (id : Nat) (r' : Ring) (n : Nat), RunsBound o → o.nrun ≤ n → r'.frun < n → r'.brun < n →
      ∀ g ∈ o.rings.set id r', g.frun < n ∧ g.brun < n := by
    intro o id r' n h hn h1 h2 g hg
    rcases List.mem_or_eq_of_mem_set hg with hg | rfl
    · exact ⟨Nat.lt_of_lt_of_le (h g hg).1 hn, Nat.lt_of_lt_of_le (h g hg).2 hn⟩
    · exact ⟨h1, h2⟩
  refine ⟨?_, ?_, ?_, ?_, ?_, ?_⟩
  · intro o h g hg
    rcases List.mem_append.mp hg with hg | hg
    · exact ⟨Nat.lt_of_lt_of_le (h g hg).1 (Nat.le_add_right _ 2), Nat.lt_of_lt_of_le (h g hg).2 (Nat.le_add_right _ 2)⟩
    · cases List.mem_singleton.mp hg; exact ⟨Nat.lt_add_of_pos_right (by decide), Nat.lt_succ_self _⟩
  · intro id f o h
    rcases addOutPt_cases id f pt o with ⟨r, hr, _, e⟩ | ⟨_, e⟩ <;> rw [e]
    · have hr' := h r (mem_of_get _ _ _ hr)
      exact set1 o id _ _ h (Nat.le_refl _) (Nat.lt_of_le_of_lt (Nat.le_of_eq (addPt_run f true pt r)) hr'.1)
        (Nat.lt_of_le_of_lt (Nat.le_of_eq (addPt_run f false pt r)) hr'.2)
    · exact h
  · intro id f o h
    rcases handOver_cases id f o with ⟨r, hr, e⟩ | ⟨_, e⟩ <;> rw [e]
    · have hr' := h r (mem_of_get _ _ _ hr)
      cases f
      · exact set1 o id _ _ h (Nat.le_succ _) (Nat.lt_succ_of_lt hr'.1) (Nat.lt_succ_self _)
      · exact set1 o id _ _ h (Nat.le_succ _) (Nat.lt_succ_self _) (Nat.lt_succ_of_lt hr'.2)
    · exact h
  · intro id f o h
    rcases finish_cases id f o with ⟨r, _, hr, _, _, _, e⟩ | e <;> rw [e]
    · exact set1 o id _ _ h (Nat.le_refl _) (h r (mem_of_get _ _ _ hr)).1 (h r (mem_of_get _ _ _ hr)).2
    · exact h
  · intro A B f o h
    rcases joinPaths_cases A B f o with ⟨ra, rb, hA, hB, _, _, _, e⟩ | e <;> rw [e]
    · have ha := h ra (mem_of_get _ _ _ hA)
      have hb := h rb (mem_of_get _ _ _ hB)
      intro g hg
      rcases List.mem_or_eq_of_mem_set hg with hg | rfl
      · cases f
        · exact set1 o A (ra.joined false rb) _ h (Nat.le_refl _) ha.1 hb.2 g hg
        · exact set1 o A (ra.joined true rb) _ h (Nat.le_refl _) hb.1 ha.2 g hg
      · exact hb
    · exact h
  · intro k i1 f1 i2 f2 o h g hg
    rw [logSeg_rings] at hg
    rw [nrun_logSeg]
    exact h g hg

end Clipper.Model

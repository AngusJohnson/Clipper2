/-
Termination (fuel sufficiency) of `checkSplitOwner`, `ownerLoop`, `skipDeadOwners`, `setOwner`.

Measure of a call `CheckSplitOwner(outrec, L)`: the lexicographic triple
  ( U = number of outrecs that have points and are not marked `recursive_split == outrec`,
    ρ = 1 + the largest rank of an entry of `L` in the well-founded order on `splits` of point-less outrecs,
    ℓ = length of `L` ),
turned into the single number `U·(R+1)·(M+1) + ρ·(M+1) + ℓ + 1` (`R` bounds the ranks, `M` the lengths of `splits`).
Measure of the `while (outrec->owner)` loop: the rank of `outrec->owner` in the (acyclic) owner graph.
-/
import ClipperVerif.Lemmas.OwnerStep
namespace Clipper.Model.Owner
open Clipper

/-- every entry of every `splits` list is an index of the table -/
def SplitsInRange (T : Table) : Prop :=
  ∀ (j : Nat) (r : OutRec) (s : Nat), T[j]? = some r → s ∈ r.splits → s < T.size

/-- `rk` decreases from every outrec that is, or will be after `CheckBounds`, without points to each of its `splits` -/
def SplitsRank (clean : Nat → CleanRes) (T : Table) (rk : Nat → Nat) : Prop :=
  ∀ (j : Nat) (r : OutRec) (s : Nat), T[j]? = some r → (r.hasPts = false ∨ clean j = .disposed) →
    s ∈ r.splits → rk s < rk j

/-- the `splits` relation restricted to (potentially) point-less outrecs is well founded -/
def SplitsWF (clean : Nat → CleanRes) (T : Table) : Prop := ∃ rk : Nat → Nat, SplitsRank clean T rk

/-- no outrec lists itself, directly or transitively, in `splits` -/
def SplitsAcyclic (T : Table) : Prop :=
  ∃ rk : Nat → Nat, ∀ (j : Nat) (r : OutRec) (s : Nat), T[j]? = some r → s ∈ r.splits → rk s < rk j

theorem SplitsAcyclic.wf {clean : Nat → CleanRes} {T : Table} (h : SplitsAcyclic T) : SplitsWF clean T :=
  h.imp fun _ hr j r s hj _ hs => hr j r s hj hs

theorem SplitsWF.bounded {clean : Nat → CleanRes} {T : Table} (h : SplitsWF clean T) (hS : SplitsInRange T) :
    ∃ rk : Nat → Nat, SplitsRank clean T rk ∧ ∀ j, rk j < T.size + 1 := by
  obtain ⟨rk, hr⟩ := h
  exact ⟨normRank T.size rk, fun j r s hj hp hs => normRank_lt (hS j r s hj hs) (hr j r s hj hp hs),
    fun j => Nat.lt_succ_of_le (normRank_le T.size rk j)⟩

/-- the invariant under which the table-level loops terminate -/
structure TermInv (clean : Nat → CleanRes) (rk : Nat → Nat) (R M : Nat) (T : Table) : Prop where
  acyc : Acyclic T
  own : OwnersInRange T
  spl : SplitsInRange T
  len : ∀ (j : Nat) (r : OutRec), T[j]? = some r → r.splits.length ≤ M
  wf : SplitsRank clean T rk
  rkR : ∀ j, rk j < R

section
variable {clean : Nat → CleanRes} {inside : Nat → Nat → Bool} {rk : Nat → Nat} {R M n i : Nat}

/-- in-range owners and splits: the indices of the table are closed under `owner` and `splits` -/
theorem TermInv.ownC {T : Table} (h : TermInv clean rk R M T) (hn : T.size = n) : OwnC (· < n) T :=
  fun j r hj _ => ⟨fun o ho => hn ▸ h.own j r o hj ho, fun s hs => hn ▸ h.spl j r s hj hs⟩

theorem TermInv.good {io : Option Nat} {T T' : Table} (h : TermInv clean rk R M T) (hn : T.size = n)
    (hg : Good clean (· < n) i io T T') : TermInv clean rk R M T' := by
  have hn' : T'.size = n := hg.step.1.trans hn
  have hC := hg.ownC (h.ownC hn)
  refine ⟨hg.acyc h.acyc, fun j r' o hj ho => ?_, fun j r' s hj hm => ?_, fun j r' hj => ?_,
    fun j r' s hj hp hm => ?_, h.rkR⟩
  · exact hn' ▸ (hC j r' hj (hn' ▸ getElem?_lt hj)).1 o ho
  · exact hn' ▸ (hC j r' hj (hn' ▸ getElem?_lt hj)).2 s hm
  · obtain ⟨r, hr, rs, _⟩ := hg.step.back hj
    exact rs.splits ▸ h.len j r hr
  · obtain ⟨r, hr, rs, _⟩ := hg.step.back hj
    refine h.wf j r s hr ?_ (rs.splits ▸ hm)
    cases hh : r.hasPts with
    | false => exact Or.inl rfl
    | true => exact Or.inr (hp.elim (rs.disposed hh) id)

/-- outrec `j` has points and is not marked `recursive_split == i` -/
def unmarkedLive (T : Table) (i j : Nat) : Bool :=
  match T[j]? with
  | none => false
  | some r => r.hasPts && !(r.recursiveSplit == some i)

/-- the first component of the measure -/
def unmarked (T : Table) (i : Nat) : Nat := (List.range T.size).countP (unmarkedLive T i)

theorem unmarked_le_size (T : Table) (i : Nat) : unmarked T i ≤ T.size := by
  simpa [unmarked] using List.countP_le_length (p := unmarkedLive T i) (l := List.range T.size)

/-- nothing revives an outrec or takes a mark away -/
theorem unmarked_mono {C : Nat → Prop} {io : Option Nat} {T T' : Table} (hg : Good clean C i io T T') :
    unmarked T' i ≤ unmarked T i := by
  unfold unmarked
  rw [hg.step.1]
  refine List.countP_mono_left (fun j hj hu => ?_)
  obtain ⟨r, hTj⟩ := exists_getElem? (List.mem_range.mp hj)
  obtain ⟨r', hr', rs, _⟩ := hg.step.2 j r hTj
  obtain ⟨r'', hr'', mk⟩ := hg.mark j r hTj
  cases hr'.symm.trans hr''
  simp only [unmarkedLive, hr', hTj, Bool.and_eq_true, Bool.not_eq_true'] at hu ⊢
  refine ⟨rs.hasPts_mono hu.1, ?_⟩
  rcases mk with mk | mk
  · exact mk ▸ hu.2
  · simp [mk] at hu

theorem unmarked_mark {s' : Nat} {T : Table} {sr' : OutRec} (hs : T[s']? = some sr') (hp : sr'.hasPts = true)
    (hm : ¬ sr'.recursiveSplit = some i) :
    unmarked (T.modify s' (fun x => { x with recursiveSplit := some i })) i + 1 ≤ unmarked T i := by
  unfold unmarked
  rw [Array.size_modify]
  refine countP_lt_countP (w := s') (fun j _ hu => ?_) (List.mem_range.mpr (getElem?_lt hs)) ?_ ?_
  · unfold unmarkedLive at hu ⊢
    by_cases hsj : s' = j
    · subst hsj
      simp [modify_self _ hs] at hu
    · rwa [modify_ne _ hsj] at hu
  · simp [unmarkedLive, hs, hp, hm]
  · simp [unmarkedLive, modify_self _ hs]

/-- the second component of the measure: 1 + the largest rank in the list -/
def maxRk (rk : Nat → Nat) : List Nat → Nat
  | [] => 0
  | s :: l => max (rk s + 1) (maxRk rk l)

theorem maxRk_le {rk : Nat → Nat} {l : List Nat} {b : Nat} (h : ∀ s ∈ l, rk s < b) : maxRk rk l ≤ b := by
  induction l with
  | nil => exact Nat.zero_le _
  | cons a l ih =>
    have h1 := h a (List.mem_cons_self ..)
    have h2 := ih (fun s hs => h s (List.mem_cons_of_mem _ hs))
    simp only [maxRk]
    omega

/-- fuel that suffices for `CheckSplitOwner` with measure `(u, ρ, ℓ)` -/
def csoFuel (R M u ρ ℓ : Nat) : Nat := u * ((R + 1) * (M + 1)) + ρ * (M + 1) + ℓ + 1

/-- mixed radix: a smaller leading digit wins against any lower part that does not exceed the radix -/
theorem radix_le {W a a' b' : Nat} (ha : a' + 1 ≤ a) (hb : b' ≤ W) : a' * W + b' ≤ a * W :=
  calc a' * W + b' ≤ a' * W + W := Nat.add_le_add_left hb _
    _ = (a' + 1) * W := (Nat.succ_mul a' W).symm
    _ ≤ a * W := Nat.mul_le_mul_right W ha

theorem csoFuel_mono {R M u u' ρ ρ' ℓ ℓ' : Nat} (hu : u' ≤ u) (hρ : ρ' ≤ ρ) (hℓ : ℓ' ≤ ℓ) :
    csoFuel R M u' ρ' ℓ' ≤ csoFuel R M u ρ ℓ :=
  Nat.succ_le_succ (Nat.add_le_add (Nat.add_le_add (Nat.mul_le_mul_right _ hu) (Nat.mul_le_mul_right _ hρ)) hℓ)

/-- the rest of the list -/
theorem csoFuel_rest {R M u u' ρ ρ' ℓ : Nat} (hu : u' ≤ u) (hρ : ρ' ≤ ρ) :
    csoFuel R M u' ρ' ℓ ≤ csoFuel R M u ρ (ℓ + 1) - 1 :=
  csoFuel_mono hu hρ (Nat.le_refl ℓ)

/-- the `//#942` call: the rank component drops -/
theorem csoFuel_942 {R M u u' ρ ρ' ℓ ℓ' : Nat} (hu : u' ≤ u) (hρ : ρ' + 1 ≤ ρ) (hℓ : ℓ' ≤ M) :
    csoFuel R M u' ρ' ℓ' ≤ csoFuel R M u ρ ℓ - 1 :=
  calc u' * ((R + 1) * (M + 1)) + ρ' * (M + 1) + ℓ' + 1
      = u' * ((R + 1) * (M + 1)) + (ρ' * (M + 1) + (ℓ' + 1)) := by simp only [Nat.add_assoc]
    _ ≤ u * ((R + 1) * (M + 1)) + ρ * (M + 1) :=
      Nat.add_le_add (Nat.mul_le_mul_right _ hu) (radix_le hρ (Nat.succ_le_succ hℓ))
    _ ≤ _ := Nat.le_add_right ..

/-- the call guarded by `recursive_split`: the number of unmarked live outrecs drops -/
theorem csoFuel_mark {R M u u' ρ ρ' ℓ ℓ' : Nat} (hu : u' + 1 ≤ u) (hρ : ρ' ≤ R) (hℓ : ℓ' ≤ M) :
    csoFuel R M u' ρ' ℓ' ≤ csoFuel R M u ρ ℓ - 1 :=
  calc u' * ((R + 1) * (M + 1)) + ρ' * (M + 1) + ℓ' + 1
      = u' * ((R + 1) * (M + 1)) + (ρ' * (M + 1) + (ℓ' + 1)) := by simp only [Nat.add_assoc]
    _ ≤ u * ((R + 1) * (M + 1)) := radix_le hu (radix_le (Nat.succ_le_succ hρ) (Nat.succ_le_succ hℓ))
    _ ≤ _ := Nat.le_trans (Nat.le_add_right ..) (Nat.le_add_right ..)

/-! ### `checkSplitOwner`

The table has `n` records throughout; the later tables are those reached by updates on behalf of `i` that change no
owner (`Good clean (· < n) i none`). -/

/-- the statement proved about `checkSplitOwner` by induction on the fuel -/
def CsoTotal (clean : Nat → CleanRes) (inside : Nat → Nat → Bool) (rk : Nat → Nat) (R M n i f : Nat) : Prop :=
  ∀ (T : Table) (L : List Nat), TermInv clean rk R M T → T.size = n → (∀ s ∈ L, s < n) →
    csoFuel R M (unmarked T i) (maxRk rk L) L.length ≤ f → ∃ p, checkSplitOwner clean inside f T i L = some p

theorem csoFinal_total {f : Nat} {T3 : Table} {s' : Nat} {rest : List Nat}
    (hT : TermInv clean rk R M T3) (hn : T3.size = n) (hi : i < n) (hs' : s' < n)
    (hcont : ∀ T' : Table, Good clean (· < n) i none T3 T' → ∃ p, checkSplitOwner clean inside f T' i rest = some p) :
    ∃ p, csoFinal clean inside f T3 i s' rest = some p := by
  unfold csoFinal
  obtain ⟨⟨T4, b4⟩, hcb⟩ := checkBounds_total (clean := clean) (hn ▸ hs' : s' < T3.size)
  have hg : Good clean (· < n) i none T3 T4 := checkBounds_good hcb hs'
  have hT4 := hT.good hn hg
  have hn4 : T4.size = n := hg.step.1.trans hn
  rw [hcb]
  cases b4 with
  | false => exact hcont T4 hg
  | true =>
    obtain ⟨valid, hv⟩ := isValidOwner_fuel hT4.acyc hT4.own i s' (hn4 ▸ hs')
    obtain ⟨sr4, hs4⟩ := exists_getElem? (hn4 ▸ hs' : s' < T4.size)
    obtain ⟨ir4, hi4⟩ := exists_getElem? (hn4 ▸ hi : i < T4.size)
    simp only [hv, hs4, hi4]
    split
    · exact ⟨_, rfl⟩
    · exact hcont T4 hg

theorem csoRest_total {f : Nat} {T1 : Table} {s : Nat} {rest : List Nat}
    (hT : TermInv clean rk R M T1) (hn : T1.size = n) (hi : i < n) (hs : s < n)
    (hcont : ∀ T' : Table, Good clean (· < n) i none T1 T' → ∃ p, checkSplitOwner clean inside f T' i rest = some p)
    (hnest : ∀ (T2 : Table) (L : List Nat), Good clean (· < n) i none T1 T2 → unmarked T2 i + 1 ≤ unmarked T1 i →
      (∀ x ∈ L, x < n) → L.length ≤ M → ∃ p, checkSplitOwner clean inside f T2 i L = some p) :
    ∃ p, csoRest clean inside f T1 i s rest = some p := by
  unfold csoRest
  obtain ⟨os, hgr⟩ := getRealOutRec_fuel hT.acyc hT.own s (hn ▸ hs)
  rw [hgr]
  cases os with
  | none => exact hcont T1 .refl
  | some s' =>
    obtain ⟨⟨sr', hsr', hp'⟩, _⟩ := getRealOutRec_some hgr
    have hs' : s' < n := hn ▸ getElem?_lt hsr'
    simp only [hsr']
    split
    · exact hcont T1 .refl
    · rename_i hcond
      simp only [Bool.or_eq_true, decide_eq_true_eq, not_or] at hcond
      have hg2 : Good clean (· < n) i none T1 (T1.modify s' (fun x => { x with recursiveSplit := some i })) :=
        .modify_static hs' (fun _ _ => .of_eq rfl rfl rfl rfl rfl) (fun _ => ⟨rfl, rfl, Or.inr rfl⟩)
      have hsp : ∀ x ∈ sr'.splits, x < n := fun x hx => hn ▸ hT.spl s' sr' x hsr' hx
      refine orElse_total ?_ (fun T3 h3 => ?_)
      · unfold csoIf
        split
        · exact hnest _ _ hg2 (unmarked_mark hsr' hp' hcond.2) hsp (hT.len s' sr' hsr')
        · exact ⟨_, rfl⟩
      · have hg3 := hg2.trans
          ((csoIf_spec (checkSplitOwner_spec (C := (· < n)) hi f) h3 (hg2.ownC (hT.ownC hn)) hsp).1 rfl)
        exact csoFinal_total (hT.good hn hg3) (hg3.step.1.trans hn) hi hs' (fun T' hg' => hcont T' (hg3.trans hg'))

/-- **Fuel sufficiency for `CheckSplitOwner`.**  Under the termination invariant, `csoFuel` of the measure
`(unmarked, maxRk, length)` is enough fuel. -/
theorem checkSplitOwner_total (hi : i < n) : ∀ f : Nat, CsoTotal clean inside rk R M n i f := by
  intro f
  induction f with
  | zero => intro T L _ _ _ hf; unfold csoFuel at hf; omega
  | succ f IH =>
    intro T L hT hn hL hf
    cases L with
    | nil => exact ⟨_, rfl⟩
    | cons s rest =>
      rw [cso_unfold]
      have hs : s < n := hL s (List.mem_cons_self ..)
      obtain ⟨sr, hTs⟩ := exists_getElem? (hn ▸ hs : s < T.size)
      simp only [List.length_cons] at hf
      have hf' : csoFuel R M (unmarked T i) (maxRk rk (s :: rest)) (rest.length + 1) - 1 ≤ f := by omega
      have hρrest : maxRk rk rest ≤ maxRk rk (s :: rest) := Nat.le_max_right ..
      -- continuing with the rest of the list, and entering a freshly marked outrec, from any later table
      have hcont : ∀ T' : Table, Good clean (· < n) i none T T' →
          ∃ p, checkSplitOwner clean inside f T' i rest = some p :=
        fun T' hg => IH T' rest (hT.good hn hg) (hg.step.1.trans hn) (fun x hx => hL x (List.mem_cons_of_mem _ hx))
          (Nat.le_trans (csoFuel_rest (unmarked_mono hg) hρrest) hf')
      have hnest : ∀ (T1 T2 : Table) (L : List Nat), Good clean (· < n) i none T T1 → Good clean (· < n) i none T1 T2 →
          unmarked T2 i + 1 ≤ unmarked T1 i → (∀ x ∈ L, x < n) → L.length ≤ M →
          ∃ p, checkSplitOwner clean inside f T2 i L = some p :=
        fun T1 T2 L hg1 hg2 hlt hL2 hlen => IH T2 L (hT.good hn (hg1.trans hg2)) ((hg1.trans hg2).step.1.trans hn) hL2
          (Nat.le_trans (csoFuel_mark (by have := unmarked_mono hg1; omega) (maxRk_le (fun s _ => hT.rkR s)) hlen) hf')
      simp only [hTs]
      have hsp : ∀ x ∈ sr.splits, x < n := fun x hx => hn ▸ hT.spl s _ x hTs hx
      refine orElse_total ?_ (fun T1 h1 => ?_)
      · unfold csoIf
        split
        · rename_i hc
          -- the `//#942` call on a point-less outrec: its `splits` have smaller rank
          simp only [Bool.and_eq_true, Bool.not_eq_true'] at hc
          refine IH T _ hT hn hsp (Nat.le_trans (csoFuel_942 (Nat.le_refl _) ?_ (hT.len s _ hTs)) hf')
          have : maxRk rk sr.splits ≤ rk s := maxRk_le (fun x hx => hT.wf s _ x hTs (Or.inl hc.1) hx)
          exact Nat.le_trans (Nat.succ_le_succ this) (Nat.le_max_left ..)
        · exact ⟨_, rfl⟩
      · have hg1 := (csoIf_spec (checkSplitOwner_spec (C := (· < n)) hi f) h1 (hT.ownC hn) hsp).1 rfl
        exact csoRest_total (hT.good hn hg1) (hg1.step.1.trans hn) hi hs
          (fun T' hg' => hcont T' (hg1.trans hg')) (fun T2 L hg2 => hnest T1 T2 L hg1 hg2)

/-- the measure of the `while (outrec->owner)` loop: 1 + the rank of `outrec->owner`, 0 for a null owner -/
def ownerRank (rank : Nat → Nat) (T : Table) (i : Nat) : Nat :=
  match T[i]? with
  | none => 0
  | some r =>
    match r.owner with
    | none => 0
    | some o => rank o + 1

/-- fuel that suffices for every `CheckSplitOwner` call on a table of `n` outrecs -/
def csoMax (R M n : Nat) : Nat := csoFuel R M n R M

theorem ownerRank_le {rank : Nat → Nat} {b : Nat} (hb : ∀ j, rank j ≤ b) (T : Table) (i : Nat) :
    ownerRank rank T i ≤ b + 1 := by
  unfold ownerRank
  split
  · omega
  · split
    · omega
    · exact Nat.succ_le_succ (hb _)

theorem RankOK.step_none {T T' : Table} {rank : Nat → Nat} (hr : RankOK T rank) (hs : Step clean none T T') :
    RankOK T' rank :=
  hr.of_same_owner fun j r' hj => by
    obtain ⟨r, hr', _, _, ow⟩ := hs.back hj
    exact ⟨r, hr', (ow (by simp)).symm⟩

theorem OwnersInRange.modify_owner {T : Table} (h : OwnersInRange T) (k : Nat) (ow : Option Nat)
    (how : ∀ o, ow = some o → o < T.size) : OwnersInRange (T.modify k (fun x => { x with owner := ow })) := by
  intro j r' o hj ho
  rw [Array.size_modify]
  rcases modify_cases hj with ⟨rfl, _, _, rfl⟩ | ⟨_, hr⟩
  · exact how o ho
  · exact h j _ o hr ho

theorem ownerRank_skip {T : Table} {rank : Nat → Nat} (hr : RankOK T rank) {i o : Nat} {ri ro : OutRec}
    (hi : T[i]? = some ri) (ho : T[o]? = some ro) :
    ownerRank rank (T.modify i (fun x => { x with owner := ro.owner })) i ≤ rank o := by
  simp only [ownerRank, modify_self _ hi]
  cases hoo : ro.owner with
  | none => exact Nat.zero_le _
  | some o2 => exact hr o ro o2 ho hoo

/-- the statement proved about `ownerLoop` by induction on the fuel -/
def OlTotal (clean : Nat → CleanRes) (inside : Nat → Nat → Bool) (rk : Nat → Nat) (R M n i : Nat) (rank : Nat → Nat)
    (f : Nat) : Prop :=
  ∀ T : Table, TermInv clean rk R M T → T.size = n → RankOK T rank →
    csoMax R M n + ownerRank rank T i + 1 ≤ f → ∃ T', ownerLoop clean inside f T i = some T'

/-- one more turn of the loop, from a table in which `outrec->owner` is still `o` -/
theorem olNext_total {rank : Nat → Nat} {f : Nat} (hi : i < n) (IH : OlTotal clean inside rk R M n i rank f)
    {T' : Table} {o : Nat} {ri : OutRec} (hT' : TermInv clean rk R M T') (hn : T'.size = n) (hr' : RankOK T' rank)
    (hri : T'[i]? = some ri) (hio : ri.owner = some o) (hf : csoMax R M n + rank o + 1 ≤ f) :
    ∃ T'', olNext clean inside f T' i o = some T'' := by
  unfold olNext
  obtain ⟨ro, ho'⟩ := exists_getElem? (hT'.own i ri o hri hio)
  rw [ho']
  have hg := good_skip_owner (clean := clean) (C := (· < n)) hi hri hio ho'
  refine IH _ (hT'.good hn hg) (hg.step.1.trans hn) (hr'.skip_owner hri hio ho') ?_
  have := ownerRank_skip hr' hri ho'
  omega

theorem olRest_total {f : Nat} {T1 : Table} {o : Nat} (hn : T1.size = n) (hi : i < n) (ho : o < n)
    (hnext : ∀ T' : Table, Good clean (· < n) i none T1 T' → ∃ T'', olNext clean inside f T' i o = some T'') :
    ∃ T'', olRest clean inside f T1 i o = some T'' := by
  unfold olRest
  obtain ⟨ro, hTo⟩ := exists_getElem? (hn ▸ ho : o < T1.size)
  simp only [hTo]
  split
  · exact hnext T1 .refl
  · obtain ⟨⟨T2, b2⟩, hcb⟩ := checkBounds_total (clean := clean) (hn ▸ ho : o < T1.size)
    have hg : Good clean (· < n) i none T1 T2 := checkBounds_good hcb ho
    have hn2 : T2.size = n := hg.step.1.trans hn
    rw [hcb]
    cases b2 with
    | false => exact hnext T2 hg
    | true =>
      obtain ⟨ro2, hTo2⟩ := exists_getElem? (hn2 ▸ ho : o < T2.size)
      obtain ⟨ri2, hTi2⟩ := exists_getElem? (hn2 ▸ hi : i < T2.size)
      simp only [hTo2, hTi2]
      split
      · exact ⟨_, rfl⟩
      · exact hnext T2 hg

/-- **Fuel sufficiency for the `while (outrec->owner)` loop of `RecursiveCheckOwners`.**  The measure is the rank of
`outrec->owner` in the owner graph; every `CheckSplitOwner` call inside gets `csoMax`. -/
theorem ownerLoop_total {rank : Nat → Nat} (hi : i < n) : ∀ f : Nat, OlTotal clean inside rk R M n i rank f := by
  intro f
  induction f with
  | zero => intro T _ _ _ hf; omega
  | succ f IH =>
    intro T hT hn hr hf
    rw [ol_unfold]
    obtain ⟨ri, hTi⟩ := exists_getElem? (hn ▸ hi : i < T.size)
    simp only [hTi]
    cases hown : ri.owner with
    | none => exact ⟨_, rfl⟩
    | some o =>
      have ho : o < n := hn ▸ hT.own i _ o hTi hown
      obtain ⟨ro, hTo⟩ := exists_getElem? (hn ▸ ho : o < T.size)
      simp only [hTo]
      have hrk : ownerRank rank T i = rank o + 1 := by simp only [ownerRank, hTi, hown]
      have hnext : ∀ T' : Table, Good clean (· < n) i none T T' →
          ∃ T'', olNext clean inside f T' i o = some T'' := by
        intro T' hg
        obtain ⟨ri', hri', _, _, ow⟩ := hg.step.2 i _ hTi
        exact olNext_total hi IH (hT.good hn hg) (hg.step.1.trans hn) (hr.step_none hg.step) hri'
          ((ow (by simp)).trans hown) (by omega)
      have hsp : ∀ x ∈ ro.splits, x < n := fun x hx => hn ▸ hT.spl o _ x hTo hx
      refine orElse_total ?_ (fun T1 h1 => ?_)
      · unfold csoIf
        split
        · refine checkSplitOwner_total hi f T _ hT hn hsp ?_
          have : csoFuel R M (unmarked T i) (maxRk rk ro.splits) ro.splits.length ≤ csoMax R M n :=
            csoFuel_mono (hn ▸ unmarked_le_size T i) (maxRk_le (fun s _ => hT.rkR s)) (hT.len o _ hTo)
          omega
        · exact ⟨_, rfl⟩
      · have hg1 := (csoIf_spec (checkSplitOwner_spec (C := (· < n)) hi f) h1 (hT.ownC hn) hsp).1 rfl
        exact olRest_total (hg1.step.1.trans hn) hi ho (fun T' hg' => hnext T' (hg1.trans hg'))

/-- **Fuel sufficiency for the first loop of `SetOwner`**: the measure is the rank of `new_owner->owner`. -/
theorem skipDeadOwners_total {rank : Nat → Nat} :
    ∀ (f : Nat) (T : Table) (no : Nat), RankOK T rank → OwnersInRange T → no < T.size →
      ownerRank rank T no + 1 ≤ f →
      ∃ T1 : Table, skipDeadOwners T f no = some T1 ∧ RankOK T1 rank ∧ OwnersInRange T1 ∧ T1.size = T.size := by
  intro f
  induction f with
  | zero => intro T no _ _ _ hf; omega
  | succ f IH =>
    intro T no hr hO hno hf
    obtain ⟨rn, hTn⟩ := exists_getElem? hno
    simp only [skipDeadOwners, hTn]
    cases hown : rn.owner with
    | none => exact ⟨T, rfl, hr, hO, rfl⟩
    | some o =>
      obtain ⟨ro, hTo⟩ := exists_getElem? (hO no _ o hTn hown)
      simp only [hTo]
      split
      · exact ⟨T, rfl, hr, hO, rfl⟩
      · have hrk : ownerRank rank T no = rank o + 1 := by simp only [ownerRank, hTn, hown]
        have := ownerRank_skip hr hTn hTo
        obtain ⟨T1, h1, h2, h3, h4⟩ := IH _ no (hr.skip_owner hTn hown hTo)
          (hO.modify_owner no ro.owner (fun o2 ho2 => hO o _ o2 hTo ho2))
          (by rw [Array.size_modify]; exact hno) (by omega)
        exact ⟨T1, h1, h2, h3, by rw [h4, Array.size_modify]⟩

theorem setOwner_total {T : Table} {i no : Nat} (hA : Acyclic T) (hO : OwnersInRange T) (hi : i < T.size)
    (hno : no < T.size) : setOwner T (T.size + 2) i no ≠ none := by
  obtain ⟨rank, hr, hb, hlt⟩ := hA.small_rank hO
  obtain ⟨T1, h1, h2, h3, h4⟩ := skipDeadOwners_total (T.size + 2) T no hr hO hno
    (by have := ownerRank_le hb T no; omega)
  obtain ⟨valid, hv⟩ := isValidOwner_total h2 h3 i (T.size + 2) no (h4 ▸ hno) (by have := hlt no hno; omega)
  obtain ⟨ri, hri⟩ := exists_getElem? (h4 ▸ hi : i < T1.size)
  simp [setOwner, h1, hv, hri]

end

end Clipper.Model.Owner

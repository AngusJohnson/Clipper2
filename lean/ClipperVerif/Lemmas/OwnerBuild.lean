/-
`buildTreeStep` / `buildTree`: what one turn of the outer loop of `BuildTree64` does, the invariant that holds after
the loop, and its consequences for the levels of the tree (owner chains, depth parity).
-/
import ClipperVerif.Lemmas.OwnerInv
namespace Clipper.Model.Owner
open Clipper

/-- the state before `BuildTree64`: no outrec has a polypath, no bounds have been computed -/
def Fresh (T : Table) : Prop :=
  ∀ (j : Nat) (r : OutRec), T[j]? = some r → r.polypath = none ∧ r.bounds.isEmpty = true

/-- the open path outrec `i` contributes to `BuildPaths64` / `BuildTree64` -/
def openPathOf (openPath : Nat → Option Path) (T : Table) (i : Nat) : Option Path :=
  match T[i]? with
  | none => none
  | some r => if !r.hasPts then none else if r.isOpen then openPath i else none

section
variable {clean : Nat → CleanRes} {inside : Nat → Nat → Bool} {openPath : Nat → Option Path} {C : Nat → Prop}

theorem Fresh.ginv {T : Table} (hF : Fresh T) (hA : Acyclic T) : GInv clean inside { recs := T } := by
  refine ⟨hA, fun j r hj hne => ?_, fun c r a hc hpa => ?_⟩
  · rw [(hF j r hj).2] at hne; cases hne
  · rw [(hF c r hc).1] at hpa; cases hpa

/-- `CheckBounds` answers true, and leaves non-empty bounds, on a live outrec whose cleaned ring is a valid path
with non-empty bounds -/
theorem checkBounds_live {T T1 : Table} {i : Nat} {b : Bool} {r : OutRec} {p : Path}
    (h : checkBounds clean T i = some (T1, b)) (hr : T[i]? = some r) (hpts : r.hasPts = true)
    (hc : clean i = .path p) (hp : (getBounds p).isEmpty = false) :
    b = true ∧ ∃ r1 : OutRec, T1[i]? = some r1 ∧ r1.bounds.isEmpty = false := by
  obtain ⟨r0, hr0, h⟩ := checkBounds_cases h
  cases hr.symm.trans hr0
  rcases h with ⟨hd, _⟩ | ⟨_, hne, rfl, rfl⟩ | ⟨_, _, ⟨hd, _⟩ | ⟨hd, _⟩ | ⟨p', hc', rfl, rfl⟩⟩
  · cases hpts.symm.trans hd
  · exact ⟨rfl, r, hr, hne⟩
  · cases hc.symm.trans hd
  · cases hc.symm.trans hd
  · cases hc.symm.trans hc'
    exact ⟨rfl, _, modify_self _ hr, hp⟩

/-- what one turn of the `for` loop of `BuildTree64` does; `C` is a set of outrecs closed under `owner` and `splits`
that contains `i` if `i` is a closed outrec -/
structure TurnSpec (clean : Nat → CleanRes) (inside : Nat → Nat → Bool) (openPath : Nat → Option Path)
    (C : Nat → Prop) (S : St) (i : Nat) (S' : St) : Prop extends Frame clean inside C S S' where
  /-- completeness: a live closed outrec with a valid cleaned ring is placed -/
  placed : ∀ (r : OutRec) (p : Path), S.recs[i]? = some r → r.isOpen = false → r.hasPts = true → clean i = .path p →
    (getBounds p).isEmpty = false → ∃ r' : OutRec, S'.recs[i]? = some r' ∧ r'.polypath.isSome = true
  openPaths : S'.openPaths = S.openPaths ++ (openPathOf openPath S.recs i).toList

theorem buildTreeStep_spec {fuel : Nat} {S S' : St} {i : Nat}
    (h : buildTreeStep clean inside openPath fuel S i = some S') (hG : GInv clean inside S)
    (hCi : ∀ r : OutRec, S.recs[i]? = some r → r.isOpen = false → C i) (hC : OwnC C S.recs) :
    TurnSpec clean inside openPath C S i S' := by
  -- a turn that leaves the records and the tree alone, and appends `q` to the open paths
  have idle : ∀ (q : Option Path) (r : OutRec), S.recs[i]? = some r → (r.hasPts = true → r.isOpen = true) →
      openPathOf openPath S.recs i = q →
      TurnSpec clean inside openPath C S i { S with openPaths := S.openPaths ++ q.toList } := by
    intro q r hr hop hq
    refine ⟨⟨.refl S, hG, id, fun _ _ => rfl, id, id⟩, fun r' _ hr' hcl hpts _ _ => ?_, by rw [hq]⟩
    cases hr.symm.trans hr'
    rw [hop hpts] at hcl
    cases hcl
  unfold buildTreeStep at h
  split at h
  · cases h
  · rename_i r hr
    split at h
    · rename_i hpts
      cases h
      simpa using idle none r hr (fun hp => by simp [hp] at hpts) (by simp [openPathOf, hr, hpts])
    · rename_i hpts
      simp only [Bool.not_eq_true] at hpts
      split at h
      · rename_i hopen
        have hq : openPathOf openPath S.recs i = openPath i := by simp [openPathOf, hr, hpts, hopen]
        split at h
        · rename_i p hp
          cases h
          exact idle (some p) r hr (fun _ => hopen) (hq.trans hp)
        · rename_i hp
          cases h
          simpa using idle none r hr (fun _ => hopen) (hq.trans hp)
      · rename_i hopen
        simp only [Bool.not_eq_true] at hopen
        have hq : openPathOf openPath S.recs i = none := by simp [openPathOf, hr, hpts, hopen]
        cases hcb : checkBounds clean S.recs i with
        | none => rw [hcb] at h; cases h
        | some q =>
          obtain ⟨T1, b⟩ := q
          rw [hcb] at h
          have hf : Frame clean inside C S { S with recs := T1 } :=
            .of_good hG (checkBounds_good (i := i) hcb (hCi r hr hopen)) (fun _ _ e => by cases e)
          cases b with
          | false =>
            cases h
            refine ⟨hf, fun r' p hr' _ hp' hc hb => ?_, by simp [hq]⟩
            cases (checkBounds_live hcb hr' hp' hc hb).1
          | true =>
            have hs := rco_spec _ _ _ _ h hf.ginv (hCi r hr hopen) (hf.ownC hC)
            refine ⟨hf.trans hs.toFrame, fun r' p hr' _ hp' hc hb => ?_, by simp [hs.openPaths, hq]⟩
            obtain ⟨_, r1, hr1, hne1⟩ := checkBounds_live hcb hr' hp' hc hb
            exact hs.placed r1 hr1 hne1

theorem foldlM_inv_list {I : List Nat → St → Prop} {f : St → Nat → Option St}
    (hf : ∀ (done : List Nat) (S : St) (i : Nat) (S' : St), f S i = some S' → I done S → I (done ++ [i]) S') :
    ∀ (l done : List Nat) (S S' : St), l.foldlM f S = some S' → I done S → I (done ++ l) S' := by
  intro l
  induction l with
  | nil => intro done S S' h hP; cases h; simpa using hP
  | cons a l ih =>
    intro done S S' h hP
    simp only [List.foldlM_cons] at h
    cases hfa : f S a with
    | none => simp [hfa] at h
    | some S1 =>
      rw [hfa] at h
      simpa using ih (done ++ [a]) S1 S' h (hf done S a S1 hfa hP)

theorem Fresh.pinv {T : Table} (hF : Fresh T) : PInv { recs := T } := by
  have : placedPaths T = [] := List.filterMap_eq_nil_iff.mpr fun j hj => by
    have hj' := Array.getElem?_eq_getElem (List.mem_range.mp hj)
    simp [placedPath, hj', (hF j _ hj').1]
  show (polyTreeToPaths (Tree.node [] [])).Perm (placedPaths T)
  rw [this]; exact .refl _

theorem Fresh.placedC {T : Table} (hF : Fresh T) : PlacedC C T := fun c r hc hp => by
  rw [(hF c r hc).1] at hp
  cases hp

theorem StepS.back {S0 S : St} {i : Nat} {r : OutRec} (h : StepS clean S0 S) (hr : S.recs[i]? = some r) :
    ∃ r0 : OutRec, S0.recs[i]? = some r0 ∧ RecStep clean i r0 r := by
  obtain ⟨r0, h0⟩ := exists_getElem? (show i < S0.recs.size from h.1 ▸ getElem?_lt hr)
  obtain ⟨r1, hr1, rs, _⟩ := h.2.1 i r0 h0
  cases hr.symm.trans hr1
  exact ⟨r0, h0, rs⟩

/-- if no open outrec is in `C`, the open path of an outrec is read off the earlier table: outrecs outside `C` are
untouched, closed ones stay closed -/
theorem Frame.openPathOf_eq {S0 S : St} (hf : Frame clean inside C S0 S)
    (hop : ∀ (i : Nat) (r : OutRec), S0.recs[i]? = some r → r.isOpen = true → ¬ C i) (i : Nat) :
    openPathOf openPath S.recs i = openPathOf openPath S0.recs i := by
  cases hS : S.recs[i]? with
  | none =>
    have : S0.recs[i]? = none := by
      rw [Array.getElem?_eq_none_iff] at hS ⊢
      exact hf.stepS.1 ▸ hS
    simp only [openPathOf, hS, this]
  | some r =>
    obtain ⟨r0, hr0, rs⟩ := hf.stepS.back hS
    cases hcl : r.isOpen with
    | false => simp [openPathOf, hS, hr0, hcl, rs.isOpen.symm.trans hcl]
    | true => simp only [openPathOf, hf.nonC i (hop i r0 hr0 (rs.isOpen.symm.trans hcl))]

/-- the invariant of the outer loop of `BuildTree64` after the indices in `done`, relative to a set `C` of outrecs that
is closed under `owner` and `splits` and contains the closed outrecs -/
structure LoopInv (clean : Nat → CleanRes) (inside : Nat → Nat → Bool) (openPath : Nat → Option Path) (C : Nat → Prop)
    (T : Table) (done : List Nat) (S : St) : Prop extends Frame clean inside C { recs := T } S where
  placed : ∀ i ∈ done, ∀ (r : OutRec) (p : Path), T[i]? = some r → r.isOpen = false → r.hasPts = true →
    clean i = .path p → (getBounds p).isEmpty = false → ∃ r' : OutRec, S.recs[i]? = some r' ∧ r'.polypath.isSome = true
  openPaths : (∀ (i : Nat) (r : OutRec), T[i]? = some r → r.isOpen = true → ¬ C i) →
    S.openPaths = done.filterMap (openPathOf openPath T)

theorem LoopInv.step {T : Table} {done : List Nat} {S0 S1 : St} {i : Nat}
    (hI : LoopInv clean inside openPath C T done S0) (h1 : TurnSpec clean inside openPath C S0 i S1) :
    LoopInv clean inside openPath C T (done ++ [i]) S1 := by
  refine ⟨hI.toFrame.trans h1.toFrame, fun j hj r p hTj hop hpts hc hb => ?_, fun hop => ?_⟩
  · rcases List.mem_append.mp hj with hj | hj
    · obtain ⟨r', hr', hs⟩ := hI.placed j hj r p hTj hop hpts hc hb
      obtain ⟨r'', hr'', _, pp⟩ := h1.stepS.2.1 j r' hr'
      exact ⟨r'', hr'', by rw [(pp hs).1]; exact hs⟩
    · cases List.mem_singleton.mp hj
      obtain ⟨r0, hr0, rs, _⟩ := hI.stepS.2.1 i r hTj
      have hpts0 : r0.hasPts = true := by
        cases hh : r0.hasPts with
        | true => rfl
        | false => cases hc.symm.trans (rs.disposed hpts hh)
      exact h1.placed r0 p hr0 (rs.isOpen.trans hop) hpts0 hc hb
  · have e : openPathOf openPath S0.recs i = openPathOf openPath T i := hI.toFrame.openPathOf_eq hop i
    rw [h1.openPaths, hI.openPaths hop, e, List.filterMap_append]
    cases h : openPathOf openPath T i <;> simp [h]

theorem buildTree_loop {fuel : Nat} {T : Table} {S : St}
    (hCi : ∀ (i : Nat) (r : OutRec), T[i]? = some r → r.isOpen = false → C i) (hC : OwnC C T)
    (hF : Fresh T) (hA : Acyclic T) (h : buildTree clean inside openPath fuel T = some S) :
    LoopInv clean inside openPath C T (List.range T.size) S := by
  simpa using foldlM_inv_list (I := LoopInv clean inside openPath C T)
    (fun done S0 i S1 hstep hI => hI.step (buildTreeStep_spec hstep hI.ginv
      (fun r hr hcl => by
        obtain ⟨r0, hr0, rs⟩ := hI.stepS.back hr
        exact hCi i r0 hr0 (rs.isOpen.symm.trans hcl))
      (hI.ownC hC)))
    (List.range T.size) [] _ _ h ⟨.refl (hF.ginv hA), fun _ hi => (nomatch hi), fun _ => rfl⟩

theorem buildTree_loopInv {fuel : Nat} {T : Table} {S : St} (hF : Fresh T) (hA : Acyclic T)
    (h : buildTree clean inside openPath fuel T = some S) :
    LoopInv clean inside openPath (fun _ => True) T (List.range T.size) S :=
  buildTree_loop (fun _ _ _ _ => trivial) (ownC_true _) hF hA h

theorem buildTree_root {fuel : Nat} {T : Table} {S : St} (hF : Fresh T) (hA : Acyclic T)
    (h : buildTree clean inside openPath fuel T = some S) : S.tree.path = [] := by
  obtain ⟨n', hn', e⟩ := (buildTree_loopInv hF hA h).stepS.2.2 [] _ rfl
  cases (Tree.at?_nil _).symm.trans hn'
  exact e

end

/-- follow `owner` `k` times -/
def ownerSteps (T : Table) : Nat → Nat → Option Nat
  | 0, c => some c
  | k + 1, c =>
    match T[c]? with
    | none => none
    | some r =>
      match r.owner with
      | none => none
      | some o => ownerSteps T k o

theorem TInv.level_pos {inside : Nat → Nat → Bool} {S : St} (hT : TInv inside S) {c : Nat} {r : OutRec} {a : List Nat}
    (hc : S.recs[c]? = some r) (ha : r.polypath = some a) : 1 ≤ a.length := by
  rcases (hT c r a hc ha).2.2 with ⟨_, k, rfl⟩ | ⟨p, rp, pa, k, _, _, _, rfl, _⟩ <;> simp

theorem TInv.chain {inside : Nat → Nat → Bool} {S : St} (hT : TInv inside S) {a : List Nat} {c : Nat} {r : OutRec}
    (hc : S.recs[c]? = some r) (ha : r.polypath = some a) :
    ∃ (root : Nat) (rr : OutRec), ownerSteps S.recs (a.length - 1) c = some root ∧ S.recs[root]? = some rr ∧ rr.owner = none := by
  -- induction on the level
  suffices H : ∀ (n : Nat) (a : List Nat) (c : Nat) (r : OutRec), a.length = n → S.recs[c]? = some r → r.polypath = some a →
      ∃ (root : Nat) (rr : OutRec), ownerSteps S.recs (a.length - 1) c = some root ∧ S.recs[root]? = some rr ∧
        rr.owner = none from H a.length a c r rfl hc ha
  intro n
  induction n with
  | zero =>
    intro a c r hn hc ha
    have := hT.level_pos hc ha
    omega
  | succ n ih =>
    intro a c r hn hc ha
    rcases (hT c r a hc ha).2.2 with ⟨ho, k, rfl⟩ | ⟨p, rp, pa, k, ho, hp, hppa, rfl, _⟩
    · exact ⟨c, r, rfl, hc, ho⟩
    · have hpl := hT.level_pos hp hppa
      obtain ⟨root, rr, h1, h2, h3⟩ := ih pa p rp (by simpa using hn) hp hppa
      refine ⟨root, rr, ?_, h2, h3⟩
      have e : (pa ++ [k]).length - 1 = (pa.length - 1) + 1 := by simp; omega
      rw [e]
      simp only [ownerSteps, hc, ho]
      exact h1

/-- below the root, `IsHole()` is "the level is even" -/
theorem isHole_of_pos {a : List Nat} (h : 1 ≤ level a) : isHole a = decide (level a % 2 = 0) := by
  have : (level a != 0) = true := bne_iff_ne.mpr (by omega)
  rw [isHole, this, Bool.true_and, Bool.eq_iff_iff]
  simp

theorem isHole_top (k : Nat) : isHole [k] = false := by simp [isHole, level]

theorem isHole_child (pa : List Nat) (k : Nat) (h : pa ≠ []) : isHole (pa ++ [k]) = !isHole pa := by
  have hl : 1 ≤ level pa := List.length_pos_iff.mpr h
  have hc : level (pa ++ [k]) = level pa + 1 := by simp [level]
  rw [isHole_of_pos hl, isHole_of_pos (by omega), hc, Bool.eq_iff_iff]
  rcases Nat.mod_two_eq_zero_or_one (level pa) with h0 | h1
  · simp [Nat.add_mod, h0]
  · simp [Nat.add_mod, h1]

/-- the ancestor `k` owner links above a placed outrec owns the node `k` levels up and geometrically contains it -/
theorem TInv.ancestors {inside : Nat → Nat → Bool} {S : St} (hT : TInv inside S) {Geo : Nat → Nat → Prop}
    (G1 : ∀ c p, inside c p = true → Geo c p) (G2 : ∀ a b c, Geo a b → Geo b c → Geo a c) :
    ∀ (k : Nat) (c : Nat) (r : OutRec) (a : List Nat), S.recs[c]? = some r → r.polypath = some a → 1 ≤ k → k < level a →
      ∃ (anc : Nat) (ra : OutRec), ownerSteps S.recs k c = some anc ∧ S.recs[anc]? = some ra ∧
        ra.polypath = some (a.take (level a - k)) ∧ Geo c anc := by
  intro k
  induction k with
  | zero => intro c r a _ _ h1; omega
  | succ k ih =>
    intro c r a hc ha _ hk
    rcases (hT c r a hc ha).2.2 with ⟨_, k', rfl⟩ | ⟨p, rp, pa, k', ho, hp, hppa, rfl, _, hins⟩
    · simp [level] at hk
    · have hlen : level (pa ++ [k']) = level pa + 1 := by simp [level]
      have hstep : ownerSteps S.recs (k + 1) c = ownerSteps S.recs k p := by
        simp only [ownerSteps, hc, ho]
      by_cases hk0 : k = 0
      · subst hk0
        refine ⟨p, rp, hstep, hp, ?_, G1 c p hins⟩
        rw [hppa, hlen]
        simp [level]
      · obtain ⟨anc, ra, h1, h2, h3, h4⟩ := ih p rp pa hp hppa (by omega) (by omega)
        refine ⟨anc, ra, hstep.trans h1, h2, ?_, G2 _ _ _ (G1 c p hins) h4⟩
        rw [h3, hlen, Nat.add_sub_add_right,
          List.take_append_of_le_length (show level pa - k ≤ pa.length from Nat.sub_le ..)]

end Clipper.Model.Owner

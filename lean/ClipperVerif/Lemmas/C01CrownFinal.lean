/-
THE ASSEMBLY.  What is pending when the sweep passes the probe's scanline: at that moment every ring end ends below the scanline, so the
pending sum is, over the hot edges that pass RIGHT of the probe, `+1` for a front end and `−1` for a back end; the sides alternate front,
back, front, … from the left (`altFrom`, the side invariant), the hot edges are even in number, and in a list sorted on the scanline the
edges left of the probe form a prefix: the sum is `−1` if an odd number of hot edges is left of the probe and `0` otherwise (`rsum_alt`).
An event list split where the sweep passes the rational height `yn/yd` (`ScanSplit`): `A` = the events strictly below it, `B` = the rest
(crossings AT the height go to `B`: phase 2 only needs that no event of `B` lies below the level), the AEL between them in left-to-right
order on that scanline.  Phase 1 on `A`, phase 2 on `B` (`Lemmas/C01OutputChain`), the pending sum at the
split evaluated by alternation and the region on the scanline (`Props/C01Region.region_on_scanline`): `ScanSplit.ray`.  The decorated event
list of the exact sweep has such a split at every height strictly inside a scanbeam (`crown_main`): the
scanbeams before, the insertions of the scanbeam and its crossings strictly below the height (`Lemmas/C01CrownSorted.isect_split_sorted`) make `A`.
And the exact run ends with an empty AEL when no input edge tops out above the last scanline (`sweep_ends_empty`).  Core Lean only.
-/
import ClipperVerif.Lemmas.C01CrownGeom
import ClipperVerif.Lemmas.C01CrownSorted
import ClipperVerif.Lemmas.C01OutputBeam
namespace Clipper.Lemmas.C01Crown
open Clipper Clipper.Model Clipper.Model.AelOrder Clipper.Model.SweepOrder Clipper.Model.SweepEvents Clipper.Model.SweepPoints
open Clipper.Lemmas.SweepOrder Clipper.Lemmas.C01Region Clipper.Lemmas.C01Output Clipper.Props.C01Sweep Clipper.Props.C01Region

/-- `+1` for an edge holding a front end, `−1` for a back end, `0` for a cold edge -/
def sgn (x : Model.SEdge) : Int :=
  match x.orec with
  | some k => if k.front then 1 else -1
  | none => 0

/-- sum of `sgn` over the edges that do not pass strictly left of the probe -/
def rsum (xn yn yd : Int) : List Model.SEdge → List GEdge → Int
  | x :: xs, ge :: gs => (if leftOfPt ge xn yn yd then 0 else sgn x) + rsum xn yn yd xs gs
  | _, _ => 0

def par (n : Nat) : Bool := decide (n % 2 = 1)

/-- sum of an alternating sequence of `±1` that starts with `+1` iff `s`, of odd length iff `o` -/
def altS (s o : Bool) : Int := if o then (if s then 1 else -1) else 0

theorem par_succ (n : Nat) : par (1 + n) = !par n := by
  unfold par
  rw [Nat.add_mod]
  rcases Nat.mod_two_eq_zero_or_one n with h | h <;> rw [h] <;> rfl

theorem altS_not (s o : Bool) : altS s (!o) = (if s then 1 else -1) + altS (!s) o := by cases s <;> cases o <;> rfl

theorem tracked_plain {x : Model.SEdge} (h : x.e.isOpen = false) : tracked x = x.orec.map (·.front) := by simp [tracked, h]

/-- **the alternating sum right of the probe**: the alternating sum over all hot edges minus the one over the hot edges left of the probe,
which come first -/
theorem rsum_alt (xn yn yd : Int) (ael : List Model.SEdge) (es : List GEdge) (b : Bool) (hlen : ael.length = es.length)
    (hh : ∀ x ∈ ael, x.e.isOpen = false ∧ x.e.hot = x.orec.isSome) (halt : altFrom b ael = true)
    (hcl : es.Pairwise (fun u v => leftOfPt v xn yn yd → leftOfPt u xn yn yd)) :
    rsum xn yn yd ael es = altS b (par (hotCount (erase ael))) - altS b (par (hotLeftCount xn yn yd (erase ael) es)) := by
  induction ael generalizing es b with
  | nil => rfl
  | cons x xs ih =>
    cases es with
    | nil => simp at hlen
    | cons ge gs =>
      obtain ⟨ho, hhot⟩ := hh x (by simp)
      obtain ⟨hc1, hc2⟩ := List.pairwise_cons.1 hcl
      have ih' := fun b' hb' => ih gs b' (by simpa using hlen) (fun y hy => hh y (by simp [hy])) hb' hc2
      simp only [altFrom, tracked_plain ho] at halt
      rw [show erase (x :: xs) = x.e :: erase xs from rfl]
      simp only [rsum, hotCount, hotLeftCount, ho, true_and]
      cases hx : x.orec with
      | none =>
        rw [hx] at hhot halt
        simp only [hhot, Option.isSome_none, Bool.false_eq_true, false_and, if_false, Nat.zero_add, sgn, hx, ite_self, Int.zero_add]
        exact ih' b halt
      | some k =>
        rw [hx] at hhot halt
        simp only [Option.map_some, Bool.and_eq_true, beq_iff_eq] at halt
        simp only [hhot, Option.isSome_some, true_and, if_true, par_succ, sgn, hx, halt.1]
        by_cases hl : leftOfPt ge xn yn yd
        · simp only [hl, if_true, par_succ, altS_not, ih' (!b) halt.2]
          omega
        · -- no later edge is left of the probe either
          have h0 : hotLeftCount xn yn yd (erase xs) gs = 0 :=
            hotLeftCount_none xn yn yd _ gs (fun g' hg' h' => hl (hc1 g' hg' h'))
          have p0 : ∀ s, altS s (par 0) = 0 := fun _ => rfl
          simp only [hl, if_false, Nat.zero_add, altS_not, ih' (!b) halt.2, h0, p0]
          omega

/-- the pending sum when every ring end ends below the level and the crossing number of every edge is known -/
theorem pend_eq_rsum (xn yn yd lv : Int) (K : GEdge → Int) (o : Out) : ∀ (ael : List Model.SEdge) (es : List GEdge),
    (∀ x ∈ ael, ∀ k, x.orec = some k → ∃ e, endOf o k = some e ∧ lv ≤ e.y) →
    (∀ ge ∈ es, K ge = if leftOfPt ge xn yn yd then 0 else -1) →
    pend lv K o ael es = rsum xn yn yd ael es := by
  intro ael
  induction ael with
  | nil => intro es _ _; rfl
  | cons x xs ih =>
    intro es hE hK
    cases es with
    | nil => rfl
    | cons ge gs =>
      simp only [pend_cons, rsum]
      rw [ih gs (fun y hy => hE y (by simp [hy])) (fun g hg => hK g (by simp [hg]))]
      have hk := hK ge (by simp)
      congr 1
      unfold term sgn
      cases hx : x.orec with
      | none => simp [info, hx]
      | some k =>
        obtain ⟨e, he, hle⟩ := hE x (by simp) k hx
        simp only [info, hx, Option.bind_some, he, Option.map_some, wgt, hle, if_true, hk]
        by_cases hl : leftOfPt ge xn yn yd <;> cases k.front <;> simp [hl]

theorem tracks_isect_step (cfg : Cfg) (lab : Lab) (i : Nat) (pt : Pt) (r r' : RState) (hS : SInv cfg r.s)
    (hs : stepR cfg r (.base (.intersect i) pt) = .ok r') (pre post : List GEdge) (a b : GEdge) (hlen : pre.length = i)
    (ht : Tracks lab (erase r.s.ael) (pre ++ a :: b :: post)) : Tracks lab (erase r'.s.ael) (pre ++ b :: a :: post) := by
  have h1 := (Clipper.Props.C01Rings.erase_ring_step cfg r r' _ hs).1
  simp only [ROp.erase] at h1
  have h2 := Clipper.Props.C11Sides.erase_step cfg r.s r'.s _ hS h1
  simp only [step] at h2
  unfold Tracks at ht ⊢
  have hsw : swapAt i ((erase r.s.ael).map key) = some ((pre ++ b :: a :: post).map (labKey lab)) := by
    rw [ht, swapAt_map, swapAt_len pre a b post i hlen]; rfl
  obtain ⟨l', e1, e2⟩ := intersect_tracks cfg i (erase r.s.ael) _ hsw
  rw [h2] at e1
  cases e1
  exact e2

theorem tracks_isects {D : Int} {E : GEdge → Prop} (cfg : Cfg) (hct : cfg.ct ≠ .noClip) (lab : Lab) (ops : List ROp) (es es' : List GEdge)
    (r r' : RState) (hop : ∀ op ∈ ops, ∃ i pt, op = .base (.intersect i) pt) (hg : GRun D E es ops es') (hr : runR cfg r ops = .ok r')
    (hre : Reach cfg r) (ht : Tracks lab (erase r.s.ael) es) : Tracks lab (erase r'.s.ael) es' :=
  (gRun_fold cfg (I := fun r1 es1 => Reach cfg r1 ∧ Tracks lab (erase r1.s.ael) es1)
    (fun r1 es1 op r2 es2 ho ⟨hre, ht⟩ g1 hs => by
      obtain ⟨i, pt, rfl⟩ := hop op ho
      obtain ⟨pre, post, a, b, rfl, hlen, rfl, _, _⟩ := g1
      exact ⟨reach_step hre hs, tracks_isect_step cfg lab i pt r1 r2 (reach_facts hct hre).2.2 hs pre post a b hlen ht⟩)
    hg hr ⟨hre, ht⟩).2

theorem beamRunP_snap (D : Int) (valid : Int → GEdge → GEdge → Bool) (cx : GEdge → Int → Int) (next : GEdge → Option GEdge)
    (mins : Int → List (GEdge × GEdge)) (lab : Lab) (ael : List GEdge) (y0 y1 : Int) :
    (beamRunP D valid cx next mins lab ael y0 y1).snap.y0 = y0 ∧ (beamRunP D valid cx next mins lab ael y0 y1).snap.y1 = y1 := ⟨rfl, rfl⟩

/-- a height `p ≥ D·y` (coordinates scaled by `D`) with `y` below the scanline `yn/yd` is below it … -/
theorem scaled_below {D yd yn y p : Int} (hD : 0 < D) (hd : 0 < yd) (h : yn < y * yd) (hp : D * y ≤ p) : D * yn < p * yd :=
  Int.lt_of_lt_of_le (by rw [Int.mul_assoc]; exact Int.mul_lt_mul_of_pos_left h hD) (Int.mul_le_mul_of_nonneg_right hp (Int.le_of_lt hd))

/-- … and a height `p ≤ D·y` with `y` above the scanline is above it -/
theorem scaled_above {D yd yn y p : Int} (hD : 0 < D) (hd : 0 < yd) (h : y * yd < yn) (hp : p ≤ D * y) : p * yd < D * yn :=
  Int.lt_of_le_of_lt (Int.mul_le_mul_of_nonneg_right hp (Int.le_of_lt hd)) (by rw [Int.mul_assoc]; exact Int.mul_lt_mul_of_pos_left h hD)

/-- the event list `evs`, accepted from the empty state, split where the sweep passes the scanline `yn/yd`: `A` = the events below it, leading
to the state `ra` and the geometric AEL `es` — a permutation of `inserted`, in left-to-right order on the scanline, labelled as the edges of
`ra` are —, `B` = the events at it or above it, leading to `rs` and `aelEnd` -/
structure ScanSplit (cfg : Cfg) (D : Int) (edges : List GEdge) (lab : Lab) (evs : List ROp) (inserted : List GEdge) (yn yd : Int)
    (rs ra : RState) (A B : List ROp) (es aelEnd : List GEdge) : Prop where
  events : evs = A ++ B
  runA : runR cfg RState.empty A = .ok ra
  runB : runR cfg ra B = .ok rs
  below : ∀ op ∈ A, D * yn < op.pt.y * yd
  above : ∀ op ∈ B, op.pt.y * yd ≤ D * yn
  gA : GRun D (· ∈ edges) [] A es
  gB : GRun D (· ∈ edges) es B aelEnd
  perm : es.Perm inserted
  sorted : es.Pairwise (fun u v => leAt yn yd u v = true)
  tracks : Tracks lab (erase ra.s.ael) es

section
variable {cfg : Cfg} {D : Int} {edges : List GEdge} {lab : Lab} {evs : List ROp} {inserted : List GEdge} {yn yd : Int} {rs ra : RState}
  {A B : List ROp} {es aelEnd : List GEdge}

theorem ScanSplit.run (S : ScanSplit cfg D edges lab evs inserted yn yd rs ra A B es aelEnd) : runR cfg RState.empty evs = .ok rs := by
  rw [S.events, Clipper.Props.C01Rings.runR_append, S.runA]; exact S.runB

/-- the state at the split: in step with `es`, every ring end on the input edge of its `Active`, all ring points below the scanline -/
theorem ScanSplit.state (hct : cfg.ct ≠ .noClip) (hD : 0 < D) (hd : 0 < yd)
    (S : ScanSplit cfg D edges lab evs inserted yn yd rs ra A B es aelEnd) :
    Reach cfg ra ∧ Plain ra.s.ael ∧ GeoAll (Holds D (· ∈ edges) ra.o) ra.s.ael es ∧ SegGeo D (· ∈ edges) ra.o ∧
      PtsBelow (levelOf D yn yd) ra.o := by
  obtain ⟨h1, h2, h3, h4⟩ := geo_run cfg hct D hD (· ∈ edges) A es ra S.gA S.runA
  exact ⟨h1, h2, h3, h4, ptsBelow_run cfg hct A ra S.runA (fun op hop => (level_iff D yn yd hd _).2 (S.below op hop))⟩

/-- **the ray sum at the end of a split event list**, for every probe `(xn/yd, yn/yd)` on none of the edges that cross the scanline: what is
counted and pending at the end is what was pending at the split, the alternating sum over the hot edges right of the probe, which is `−1`
inside the region and `0` outside -/
theorem ScanSplit.ray (hct : cfg.ct ≠ .noClip) (hD : 0 < D) (hd : 0 < yd) (hnd : edges.Nodup) (hup : AllUp edges)
    (hal : ∀ e, e ∈ inserted ↔ e ∈ edges ∧ aliveAt e yn yd) (hndI : inserted.Nodup)
    (S : ScanSplit cfg D edges lab evs inserted yn yd rs ra A B es aelEnd) (xn : Int) (hoff : ∀ e ∈ inserted, ¬ onEdgeLine e xn yn yd) :
    phi (crQ D xn yn yd) rs.o + pend (levelOf D yn yd) (edgeK D xn yn yd) rs.o rs.s.ael aelEnd = rsum xn yn yd ra.s.ael es ∧
    rsum xn yn yd ra.s.ael es =
      -(if inR cfg.ct cfg.fr (labSum lab .subject (leftEdges edges xn yn yd)) (labSum lab .clip (leftEdges edges xn yn yd)) then 1 else 0) := by
  obtain ⟨hre, hP, hG, hSG, hbel⟩ := S.state hct hD hd
  obtain ⟨hO, _, _⟩ := reach_facts hct hre
  obtain ⟨hhot, halt⟩ := plain_hot hct hre hP
  have hp := probe_crQ D xn yn yd hd (· ∈ edges)
  -- phase 2, from the state at the split, where nothing has been counted yet
  have hacct := (acct_run hD hp cfg hct B es aelEnd ra rs S.gB S.runB hre hP hG hSG).2
    (fun op hop hl => Int.lt_irrefl _ (Int.lt_of_lt_of_le ((level_iff D yn yd hd _).1 hl) (S.above op hop)))
  rw [phi_ptsBelow hp hbel, Int.zero_add] at hacct
  -- what is pending at the split
  have hpend := pend_eq_rsum xn yn yd (levelOf D yn yd) (edgeK D xn yn yd) ra.o ra.s.ael es
    (fun x hx k hk => by
      obtain ⟨e, he⟩ := endAt_some_of_live (hO.hot x hx k hk) k.front
      exact ⟨e, he, ptsBelow_endOf hbel he⟩)
    (fun ge hge => edgeK_eq D xn yn yd hD hd ge ((hal ge).1 (S.perm.mem_iff.1 hge)).2 (hoff ge (S.perm.mem_iff.1 hge)))
  refine ⟨hacct.trans hpend, ?_⟩
  -- the alternating sum and the region
  have hEr := erased_run cfg hct _ ra S.runA
  have heven := Clipper.Props.C01.hot_even cfg hct _ _ hEr
  have hupes : ∀ e ∈ es, e.Up := fun e he => hup e ((hal e).1 (S.perm.mem_iff.1 he)).1
  rw [rsum_alt xn yn yd ra.s.ael es true (geoAll_length _ _ hG) hhot halt (closed_of_sorted hd es hupes S.sorted),
    region_on_scanline cfg lab edges hnd hup (erase ra.s.ael) es xn yn yd hd (Clipper.Props.C01.inv_reachable cfg hct _ _ hEr) S.tracks
      (S.perm.symm.nodup hndI) (fun e => by rw [S.perm.mem_iff]; exact hal e) S.sorted]
  unfold insideHot
  rw [← hotLeftCount_eq]
  have hpe : par (hotCount (erase ra.s.ael)) = false := by unfold par; simp; omega
  rw [hpe]
  unfold par
  by_cases hodd : hotLeftCount xn yn yd (erase ra.s.ael) es % 2 = 1 <;> simp [hodd, altS]

end

/-- **the decorated event list of the exact sweep splits at every height strictly inside a scanbeam**; the only events of `B` that can lie
at the height are crossings of that scanbeam -/
theorem crown_main (cfg : Cfg) (hct : cfg.ct ≠ .noClip) (D : Int) (edges : List GEdge) (valid : Int → GEdge → GEdge → Bool)
    (cx : GEdge → Int → Int) (next : GEdge → Option GEdge) (mins : Int → List (GEdge × GEdge)) (lab : Lab) (ys : List Int)
    (hup : AllUp edges) (hnx : NextOK edges next mins) (hn : Near cx) (hok : SweepOK edges valid next mins ys)
    (hR : HypR edges next mins lab ys) (hD : DenOK D (sweepDens valid cx next mins ys))
    (pre : List BeamRunP) (r : BeamRunP) (post : List BeamRunP)
    (hruns : beamRunsP D valid cx next mins lab [] ys = pre ++ r :: post)
    (yn yd : Int) (hd : 0 < yd) (hlo : r.snap.y1 * yd < yn) (hhi : yn < r.snap.y0 * yd) :
    ∃ (rs ra : RState) (A B : List ROp) (es aelEnd : List GEdge),
      ScanSplit cfg D edges lab (sweepEventsP D valid cx next mins lab ys) r.snap.inserted yn yd rs ra A B es aelEnd ∧
        ∀ op ∈ B, op ∈ r.evIsect ∨ op.pt.y * yd < D * yn := by
  have hS := sweepP_empty cfg hct D edges valid cx next mins lab ys hup hnx hn hok hR hD
  obtain ⟨rEnd, _, e1, _, _, _, _⟩ := hS.all
  obtain ⟨r1, aelr, y0, y1, rI, rX, rT, f1, f2, f3, f4, hf, hlow, hhigh, _, ⟨aelEnd, gPost⟩, hden, _⟩ := hS.beams pre r post hruns
  have hDp := hD.1
  -- the crossings of the scanbeam, split at the height
  have hIs : r.evIsect = isectEventsP D r.snap.afterIsect r.snap.inserted := by rw [f3]; rfl
  have hal : ∀ e ∈ r.snap.inserted, e.Up ∧ e.top.y ≤ r.snap.y1 ∧ r.snap.y0 ≤ e.bot.y := by
    intro e he
    obtain ⟨h1, h2, h3⟩ := hf.mem e he
    exact ⟨hup e h1, h3.1, h2.2⟩
  obtain ⟨a2, b2, es, hsplit, hA2, hB2, gA2, gB2, hperm, hsorted⟩ := isect_split_sorted D hDp (· ∈ edges) r.snap.y0 r.snap.y1 hf.hy
    r.snap.inserted r.snap.afterIsect hf.sorted hf.isect_sorted hf.isect_perm hal hden yn yd hd hlo hhi
  have hIs2 : r.evIsect = a2 ++ b2 := by rw [hIs, hsplit]
  have hrunX := f4.runIsect
  rw [hIs2, Clipper.Props.C01Rings.runR_append] at hrunX
  cases hra : runR cfg rI a2 with
  | error e => simp [hra] at hrunX
  | ok ra =>
    have hAB : sweepEventsP D valid cx next mins lab ys =
        (pre.flatMap BeamRunP.events ++ r.evIns ++ a2) ++ (b2 ++ r.evTop ++ post.flatMap BeamRunP.events) := by
      unfold sweepEventsP
      rw [hruns]
      simp only [List.flatMap_append, List.flatMap_cons, BeamRunP.events, hIs2, List.append_assoc]
    have hrunA : runR cfg RState.empty (pre.flatMap BeamRunP.events ++ r.evIns ++ a2) = .ok ra := by
      simp only [Clipper.Props.C01Rings.runR_append, f1, f4.runIns, hra]
    have hrunB : runR cfg ra (b2 ++ r.evTop ++ post.flatMap BeamRunP.events) = .ok rEnd := by
      have e1' : runR cfg RState.empty (sweepEventsP D valid cx next mins lab ys) = .ok rEnd := e1
      rw [hAB, Clipper.Props.C01Rings.runR_append, hrunA] at e1'
      exact e1'
    have hisA : ∀ op ∈ a2, ∃ i pt, op = ROp.base (.intersect i) pt := by
      intro op hop
      have : op ∈ isectEventsP D r.snap.afterIsect r.snap.inserted := by rw [hsplit]; exact List.mem_append_left _ hop
      simp only [isectEventsP, List.mem_map] at this
      obtain ⟨c, _, rfl⟩ := this
      exact ⟨_, _, rfl⟩
    refine ⟨rEnd, ra, _, _, es, aelEnd, ⟨hAB, hrunA, hrunB, ?_, ?_,
      gRun_append D _ _ _ _ _ _ (gRun_append D _ _ _ _ _ _ f2 f4.gIns) gA2,
      gRun_append D _ _ _ _ _ _ (gRun_append D _ _ _ _ _ _ gB2 f4.gTop) gPost, hperm, hsorted,
      tracks_isects cfg hct lab a2 _ es rI ra hisA gA2 hra f4.plI.2 f4.trIns⟩, ?_⟩
    · intro op hop
      simp only [List.mem_append] at hop
      rcases hop with (hop | hop) | hop
      · exact scaled_below hDp hd hhi (hlow op hop)
      · rw [f4.hIns op hop]; exact scaled_below hDp hd hhi (Int.le_refl _)
      · exact hA2 op hop
    · intro op hop
      simp only [List.mem_append] at hop
      rcases hop with (hop | hop) | hop
      · exact hB2 op hop
      · rw [f4.hTop op hop]; exact Int.le_of_lt (scaled_above hDp hd hlo (Int.le_refl _))
      · exact Int.le_of_lt (scaled_above hDp hd hlo (hhigh op hop))
    · intro op hop
      simp only [List.mem_append] at hop
      rcases hop with (hop | hop) | hop
      · exact Or.inl (by rw [hIs2]; exact List.mem_append_right _ hop)
      · rw [f4.hTop op hop]; exact Or.inr (scaled_above hDp hd hlo (Int.le_refl _))
      · exact Or.inr (scaled_above hDp hd hlo (hhigh op hop))

end Clipper.Lemmas.C01Crown

namespace Clipper.Lemmas.C01Build
open Clipper Clipper.Model Clipper.Model.AelOrder Clipper.Model.SweepOrder Clipper.Model.SweepEvents Clipper.Model.SweepPoints
open Clipper.Lemmas.SweepOrder Clipper.Lemmas.C01Region Clipper.Lemmas.C01Output
open Clipper.Props.C01Sweep

/-- nothing is left after the top of the last scanbeam, if no input edge tops out above it -/
theorem afterTop_nil (edges : List GEdge) (next : GEdge → Option GEdge) (mins : Int → List (GEdge × GEdge))
    (hup : AllUp edges) (hnx : NextOK edges next mins) (s : Snap) (hf : BeamFacts edges s)
    (hs : s.afterTop = topOfBeam next s.y1 s.afterIsect) (hend : ∀ e ∈ edges, s.y1 ≤ e.top.y) : s.afterTop = [] := by
  apply List.eq_nil_iff_forall_not_mem.2
  intro e' he'
  rw [hs] at he'
  unfold topOfBeam at he'
  obtain ⟨e, he, hst⟩ := List.mem_filterMap.1 he'
  obtain ⟨hE, _, hB⟩ := hf.mem e (hf.isect_perm.mem_iff.1 he)
  have h1 := hend e hE
  unfold topStep at hst
  unfold AliveBelow at hB
  split at hst
  · next heq =>
    obtain ⟨hE', hbot, _⟩ := hnx e hE e' hst
    have h2 := hend e' hE'
    have h3 := hup e' hE'
    unfold SEdge.Up at h3
    rw [hbot] at h3
    omega
  · next hne => omega

/-- the exact run ends with an empty AEL: if no input edge tops out above the last scanline -/
theorem sweep_ends_empty (cfg : Cfg) (hct : cfg.ct ≠ .noClip) (D : Int) (edges : List GEdge) (valid : Int → GEdge → GEdge → Bool)
    (cx : GEdge → Int → Int) (next : GEdge → Option GEdge) (mins : Int → List (GEdge × GEdge)) (lab : Lab) (ys : List Int)
    (hup : AllUp edges) (hnx : NextOK edges next mins) (hn : Near cx) (hok : SweepOK edges valid next mins ys)
    (hR : HypR edges next mins lab ys) (hD : DenOK D (sweepDens valid cx next mins ys))
    (hend : ∀ y, ys.getLast? = some y → ∀ e ∈ edges, y ≤ e.top.y)
    (rs : RState) (hrs : runR cfg RState.empty (sweepEventsP D valid cx next mins lab ys) = .ok rs) : rs.s.ael = [] := by
  have hP := sweepP_empty cfg hct D edges valid cx next mins lab ys hup hnx hn hok hR hD
  unfold sweepEventsP at hrs
  rcases List.eq_nil_or_concat (beamRunsP D valid cx next mins lab [] ys) with h | ⟨pre, r, h⟩
  · rw [h] at hrs
    simp only [List.flatMap_nil, runR, Except.ok.injEq] at hrs
    subst hrs
    rfl
  · rw [List.concat_eq_append] at h
    obtain ⟨r1, aelr, y0, y1, rI, rX, rT, hrun, _, hr, hbp, hf, _, _, _, _, _, hlast⟩ := hP.beams pre r [] h
    rw [h, List.flatMap_append, Clipper.Props.C01Rings.runR_append, hrun] at hrs
    simp only [List.flatMap_cons, List.flatMap_nil, List.append_nil] at hrs
    rw [runR_events cfg hbp] at hrs
    injection hrs with hrs
    subst hrs
    have hnil : r.snap.afterTop = [] :=
      afterTop_nil edges next mins hup hnx r.snap hf (by rw [hr]; rfl) (hend _ (hlast rfl))
    have ht := hbp.trTop
    rw [hnil] at ht
    unfold Tracks at ht
    simp only [List.map_nil, List.map_eq_nil_iff] at ht
    unfold erase at ht
    exact List.map_eq_nil_iff.1 ht

end Clipper.Lemmas.C01Build

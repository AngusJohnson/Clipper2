/-
Fuel sufficiency for `recursiveCheckOwners` and `buildTree`.

Measure of `RecursiveCheckOwners(outrec, …)`: the number of outrecs that are not on the stack of pending calls;
the outrecs on the stack are pairwise different because each of them reaches `outrec` through `owner` links and
the owner graph is acyclic.
-/
import ClipperVerif.Lemmas.OwnerTerm
import ClipperVerif.Lemmas.OwnerBuild
namespace Clipper.Model.Owner
open Clipper

theorem Rect.contains_nonempty {a b : Rect} (h : a.contains b = true) (hb : b.isEmpty = false) : a.isEmpty = false := by
  simp only [Rect.contains, Bool.and_eq_true, decide_eq_true_eq] at h
  simp only [Rect.isEmpty, Bool.or_eq_false_iff, decide_eq_false_iff_not] at hb ⊢
  omega

theorem nodup_bounded_length {S : List Nat} {n : Nat} (hnd : S.Nodup) (hb : ∀ x ∈ S, x < n) : S.length ≤ n := by
  simpa using hnd.length_le_of_subset (fun x hx => List.mem_range.mpr (hb x hx))

theorem addChild_total {t : Tree} {a : List Nat} {n : Tree} (q : Path) (h : t.at? a = some n) :
    ∃ p, addChild t a q = some p := by
  induction a generalizing t n with
  | nil => cases t; exact ⟨_, rfl⟩
  | cons k a ih =>
    cases t with
    | node p ks =>
      simp only [Tree.at?] at h
      simp only [addChild]
      split at h
      · cases h
      · rename_i c hc
        obtain ⟨v, hv⟩ := ih h
        exact ⟨_, by rw [hv]⟩

section
variable {clean : Nat → CleanRes} {inside : Nat → Nat → Bool} {rk : Nat → Nat} {R M n : Nat}

/-- the termination invariant does not read `polypath` -/
theorem TermInv.set_polypath {T : Table} (h : TermInv clean rk R M T) (i : Nat) (a : List Nat) :
    TermInv clean rk R M (T.modify i (fun x => { x with polypath := some a })) := by
  have key : ∀ (j : Nat) (r' : OutRec), (T.modify i (fun x => { x with polypath := some a }))[j]? = some r' →
      ∃ r : OutRec, T[j]? = some r ∧ (r.owner, r.splits, r.hasPts) = (r'.owner, r'.splits, r'.hasPts) :=
    fun j r' hj => modify_field (fun r => (r.owner, r.splits, r.hasPts)) hj fun _ => rfl
  refine ⟨h.acyc.of_same_owner (fun j r' hj => ?_), fun j r' o hj ho => ?_, fun j r' s hj hs => ?_,
    fun j r' hj => ?_, fun j r' s hj hp hs => ?_, h.rkR⟩
  all_goals
    obtain ⟨r, hr, e⟩ := key j r' hj
    simp only [Prod.mk.injEq] at e
    obtain ⟨e1, e2, e3⟩ := e
  · exact ⟨r, hr, e1⟩
  · rw [Array.size_modify]; exact h.own j r o hr (e1 ▸ ho)
  · rw [Array.size_modify]; exact h.spl j r s hr (e2 ▸ hs)
  · exact e2 ▸ h.len j r hr
  · exact h.wf j r s hr (e3 ▸ hp) (e2 ▸ hs)

/-- fuel that suffices for the owner loop on a table of `n` outrecs -/
def olMax (R M n : Nat) : Nat := csoMax R M n + n + 3

/-- fuel that suffices for `BuildTree64` on a table of `n` outrecs -/
def treeFuelOf (R M n : Nat) : Nat := olMax R M n + n + 1

theorem ownerLoop_total_olMax {f i : Nat} {T : Table} (hT : TermInv clean rk R M T) (hn : T.size = n) (hi : i < n)
    (hf : olMax R M n ≤ f) : ∃ T', ownerLoop clean inside f T i = some T' := by
  obtain ⟨rank, hr, hb⟩ := hT.acyc.bounded hT.own
  refine ownerLoop_total hi f T hT hn hr ?_
  have := ownerRank_le hb T i
  unfold olMax at hf
  omega

theorem rcoPlace_total {S2 : St} {i o : Nat} {ro : OutRec} {pa : List Nat} (hT : TInv inside S2)
    (ho : S2.recs[o]? = some ro) (hpa : ro.polypath = some pa) (hi : i < S2.recs.size)
    (hT2 : TermInv clean rk R M S2.recs) :
    ∃ S' : St, rcoPlace S2 i o = some S' ∧ TermInv clean rk R M S'.recs := by
  obtain ⟨ri, hri⟩ := exists_getElem? hi
  obtain ⟨⟨n, hn, _⟩, _⟩ := hT o ro pa ho hpa
  obtain ⟨⟨tr, a⟩, hadd⟩ := addChild_total ri.path hn
  simp only [rcoPlace, ho, hri, hpa, hadd]
  exact ⟨_, rfl, hT2.set_polypath i a⟩

/-- **Fuel sufficiency for `RecursiveCheckOwners`.**  `stack` = the outrecs whose calls are pending: every pending
call has used one unit of the `n + 1` units that `treeFuelOf` adds to `olMax`. -/
theorem rco_total :
    ∀ (f : Nat) (S : St) (i : Nat) (stack : List Nat), TermInv clean rk R M S.recs → GInv clean inside S →
      S.recs.size = n → i < n → stack.Nodup → (∀ x ∈ stack, x < n ∧ ReachP S.recs x i) →
      treeFuelOf R M n ≤ f + stack.length →
      ∃ S' : St, recursiveCheckOwners clean inside f S i = some S' ∧ TermInv clean rk R M S'.recs := by
  intro f
  induction f with
  | zero =>
    intro S i stack _ hG hn hi hnd hst hf
    have := nodup_bounded_length hnd (fun x hx => (hst x hx).1)
    unfold treeFuelOf at hf
    omega
  | succ f IH =>
    intro S i stack hTI hG hn hi hnd hst hf
    unfold treeFuelOf at hf
    -- the stack together with `i` is duplicate-free, hence short
    have hnd' : (i :: stack).Nodup :=
      List.nodup_cons.mpr ⟨fun hm => hG.1.not_reachP_self i (hst i hm).2, hnd⟩
    have hlen : (i :: stack).length ≤ n :=
      nodup_bounded_length hnd' (fun x hx => (List.mem_cons.mp hx).elim (· ▸ hi) (fun hx => (hst x hx).1))
    simp only [List.length_cons] at hlen
    rw [rco_unfold]
    obtain ⟨r, hr⟩ := exists_getElem? (hn ▸ hi : i < S.recs.size)
    simp only [hr]
    split
    · exact ⟨S, rfl, hTI⟩
    · rename_i hcond
      simp only [Bool.or_eq_true, not_or, Bool.not_eq_true] at hcond
      obtain ⟨T1, hol⟩ := ownerLoop_total_olMax (inside := inside) (f := f) hTI hn hi (by omega)
      simp only [hol]
      have h1 := afterLoop (C := (· < n)) hi hG (hTI.ownC hn) hr (isSome_false_eq_none hcond.1) hcond.2 hol
      have hTI1 : TermInv clean rk R M T1 := hTI.good hn h1.good
      have hn1 : T1.size = n := h1.good.step.1.trans hn
      obtain ⟨r1, hr1, hnp1, hb1, hown⟩ := h1.rec1
      unfold rcoAfter
      simp only [hr1]
      rcases hown with hown | ⟨o, orc, hown, horc, hio, hcont, hins⟩
      · obtain ⟨⟨tr, a⟩, hadd⟩ := addChild_total r1.path (Tree.at?_nil S.tree)
        simp only [hown, hadd]
        exact ⟨_, rfl, hTI1.set_polypath i a⟩
      · simp only [hown, horc]
        have ho : o < n := hn1 ▸ getElem?_lt horc
        cases hpa : orc.polypath with
        | none =>
          -- the recursive call on the owner
          simp only [Option.isNone_none, if_true]
          have hst' : ∀ x ∈ i :: stack, x < n ∧ ReachP T1 x o := by
            intro x hx
            rcases List.mem_cons.mp hx with rfl | hx
            · exact ⟨hi, _, o, hr1, hown, Reach.refl _⟩
            · obtain ⟨hxlt, rx, ox, hrx, hox, hre⟩ := hst x hx
              have hxi : x ≠ i := fun e => hG.1.not_reachP_self i (e ▸ (hst x hx).2)
              obtain ⟨rx1, hrx1, _, _, owx⟩ := h1.good.step.2 x rx hrx
              exact ⟨hxlt, rx1, ox, hrx1, (owx (by simpa using hxi)).trans hox,
                (hre.of_step h1.good.step).tail hr1 hown⟩
          obtain ⟨S2, hrec, hTI2⟩ := IH { S with recs := T1 } o (i :: stack) hTI1 h1.ginv hn1 ho hnd' hst'
            (by unfold treeFuelOf; simp only [List.length_cons]; omega)
          simp only [hrec]
          have hs := rco_spec (C := fun _ => True) _ _ _ _ hrec h1.ginv trivial (ownC_true _)
          -- the owner passed the containment test, so its bounds are not empty and it is placed now
          obtain ⟨ro2, hro2, hsome⟩ := hs.placed _ horc (Rect.contains_nonempty hcont (hb1 ▸ hcond.2))
          obtain ⟨pa, hpa⟩ := Option.isSome_iff_exists.mp hsome
          exact rcoPlace_total hs.ginv.2.2 hro2 hpa (by rw [hs.stepS.1]; exact hn1 ▸ hi) hTI2
        | some pa =>
          simp only [Option.isNone_some, Bool.false_eq_true, if_false]
          exact rcoPlace_total (S2 := { S with recs := T1 }) h1.ginv.2.2 horc hpa (hn1 ▸ hi) hTI1

theorem buildTreeStep_total {openPath : Nat → Option Path} {fuel : Nat} {S : St} {i : Nat}
    (hG : GInv clean inside S) (hTI : TermInv clean rk R M S.recs) (hn : S.recs.size = n) (hi : i < n)
    (hf : treeFuelOf R M n ≤ fuel) :
    ∃ S' : St, buildTreeStep clean inside openPath fuel S i = some S' ∧ TermInv clean rk R M S'.recs := by
  unfold buildTreeStep
  obtain ⟨r, hr⟩ := exists_getElem? (hn ▸ hi : i < S.recs.size)
  simp only [hr]
  split
  · exact ⟨S, rfl, hTI⟩
  · split
    · split
      · exact ⟨_, rfl, hTI⟩
      · exact ⟨S, rfl, hTI⟩
    · obtain ⟨⟨T1, b⟩, hcb⟩ := checkBounds_total (clean := clean) (hn ▸ hi : i < S.recs.size)
      have hg : Good clean (· < n) i none S.recs T1 := checkBounds_good hcb hi
      have hTI1 : TermInv clean rk R M T1 := hTI.good hn hg
      rw [hcb]
      cases b with
      | false => exact ⟨_, rfl, hTI1⟩
      | true =>
        exact rco_total fuel { S with recs := T1 } i [] hTI1 (Frame.of_good hG hg (fun _ _ e => by cases e)).ginv
          (hg.step.1.trans hn) hi List.nodup_nil (fun _ hx => by cases hx) hf

theorem foldlM_total {P : St → Prop} {f : St → Nat → Option St} {l : List Nat}
    (hf : ∀ (S : St) (i : Nat), i ∈ l → P S → ∃ S', f S i = some S' ∧ P S') :
    ∀ S : St, P S → ∃ S', l.foldlM f S = some S' ∧ P S' := by
  induction l with
  | nil => intro S hP; exact ⟨S, rfl, hP⟩
  | cons a l ih =>
    intro S hP
    obtain ⟨S1, h1, hP1⟩ := hf S a (List.mem_cons_self ..) hP
    obtain ⟨S', h2, hP'⟩ := ih (fun S i hi => hf S i (List.mem_cons_of_mem _ hi)) S1 hP1
    exact ⟨S', by simp only [List.foldlM_cons, h1]; exact h2, hP'⟩

/-- **Fuel sufficiency for `BuildTree64`** (and hence for every `RecursiveCheckOwners`, `CheckSplitOwner` and owner
loop it runs). -/
theorem buildTree_total {openPath : Nat → Option Path} {fuel : Nat} {T : Table} (hF : Fresh T)
    (hTI : TermInv clean rk R M T) (hf : treeFuelOf R M T.size ≤ fuel) :
    ∃ S : St, buildTree clean inside openPath fuel T = some S := by
  unfold buildTree
  obtain ⟨S, h, _⟩ := foldlM_total
    (P := fun S => GInv clean inside S ∧ TermInv clean rk R M S.recs ∧ S.recs.size = T.size)
    (f := fun S i => buildTreeStep clean inside openPath fuel S i) (l := List.range T.size)
    (fun S i hi ⟨hG, hTI', hsz⟩ => by
      obtain ⟨S', h1, h2⟩ := buildTreeStep_total (openPath := openPath) hG hTI' hsz (List.mem_range.mp hi) hf
      have hs := buildTreeStep_spec h1 hG (fun _ _ _ => trivial) (ownC_true _)
      exact ⟨S', h1, hs.ginv, h2, hs.stepS.1.trans hsz⟩)
    { recs := T } ⟨hF.ginv hTI.acyc, hTI, rfl⟩
  exact ⟨S, h⟩

end

/-- the length of the longest `splits` list -/
def maxSplits (T : Table) : Nat := T.toList.foldr (fun r m => max r.splits.length m) 0

theorem le_maxSplits {T : Table} {j : Nat} {r : OutRec} (h : T[j]? = some r) : r.splits.length ≤ maxSplits T := by
  have hm : r ∈ T.toList := Array.mem_toList_iff.mpr (Array.mem_of_getElem? h)
  unfold maxSplits
  generalize T.toList = l at hm
  induction l with
  | nil => cases hm
  | cons a l ih =>
    simp only [List.foldr_cons]
    rcases List.mem_cons.mp hm with rfl | hm
    · exact Nat.le_max_left ..
    · exact Nat.le_trans (ih hm) (Nat.le_max_right ..)

/-- the termination invariant follows from the four hypotheses on the initial table, with ranks `≤ size` and
`M` = the longest `splits` list -/
theorem TermInv.of_hyps {clean : Nat → CleanRes} {T : Table} (hA : Acyclic T) (hO : OwnersInRange T)
    (hS : SplitsInRange T) (hW : SplitsWF clean T) :
    ∃ rk : Nat → Nat, TermInv clean rk (T.size + 1) (maxSplits T) T := by
  obtain ⟨rk, h1, h2⟩ := hW.bounded hS
  exact ⟨rk, hA, hO, hS, fun j r hj => le_maxSplits hj, h1, h2⟩

/-- explicit fuel for `BuildTree64` as a function of the table -/
def treeFuel (T : Table) : Nat := treeFuelOf (T.size + 1) (maxSplits T) T.size

end Clipper.Model.Owner
